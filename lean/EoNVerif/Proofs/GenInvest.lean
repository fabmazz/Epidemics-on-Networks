import EoNVerif.Gen.InvestGen
import EoNVerif.Spec.Predicates
import EoNVerif.Model.History
import EoNVerif.Proofs.Investigation
import EoNVerif.Proofs.ExceptDict
import EoNVerif.Proofs.AssocList
import Mathlib.Tactic.Linarith
/-!
C10b — the Lean code GENERATED from `Simulation_Investigation.node_status / get_statuses / summary` and
`_transform_to_node_history_` (Gen/InvestGen.lean) equals the hand-written specifications (`Pred.nodeStatusImpl`,
`Pred.statusAt`, `Pred.summarySpec`, `History.sisLoop`; the SIR history and the statements: Props/C10b.lean).

A node history is the pair of parallel lists `(times, statuses)` in the generated code and the zipped list
`Pred.Hist` in the specifications; `unzipH` converts.

`summary`: the node loop is a fold of the requests `delta[status][time] += c` (`evs`, `estep`); it leaves in
`delta[s][t]` the net change `W s (· == t)` of the number of nodes of status `s` at time `t`.  On a time-ordered
history the net changes up to `t` telescope to "the status at `t` is `s`" (`W_evs`), so over all nodes they add up to
`Pred.countAt` (`W_all_le`).  The column loop appends to each column the running sums of `delta[s]` along the sorted
times, whatever `delta` holds (`colsFold`, `finish_eq`); for the `delta` of the node loop these are the counts
(`count_base`, `count_step`, `runSum_count`).
-/

namespace GenInvestProofs
open Pred PyRT GenInvest

/-- the pair of parallel lists Python stores for a node history -/
def unzipH (h : Hist) : List Rat × List String := (h.map (·.1), h.map (·.2))

@[simp] theorem unzipH_fst (h : Hist) : (unzipH h).1 = h.map (·.1) := rfl
@[simp] theorem unzipH_snd (h : Hist) : (unzipH h).2 = h.map (·.2) := rfl

theorem pyIndex_natCast {α : Type} (l : List α) (i : Nat) :
    pyIndex l (i : Int) = l[i]?.elim (.error "IndexError") .ok := by
  unfold pyIndex
  have h0 : ¬ ((i : Int) < 0) := by omega
  simp only [h0, if_false, Int.toNat_natCast, false_or]
  by_cases hi : i < l.length
  · rw [if_neg (by omega), List.getElem?_eq_getElem hi]; rfl
  · rw [if_pos (by omega), List.getElem?_eq_none (by omega)]; rfl

theorem pyIndex_neg_one {α : Type} (l : List α) :
    pyIndex l (-1 : Int) = l.getLast?.elim (.error "IndexError") .ok := by
  unfold pyIndex
  have e : ((-1 : Int) + (l.length : Int)).toNat = l.length - 1 := by omega
  simp only [show ((-1 : Int) < 0) by decide, if_true, e, List.getLast?_eq_getElem?]
  by_cases hl : l.length = 0
  · rw [if_pos (by omega), List.getElem?_eq_none (by omega)]; rfl
  · rw [if_neg (by omega)]; cases l[l.length - 1]? <;> rfl

theorem pyIndex_nat {α : Type} (l : List α) (i : Nat) (hi : i < l.length) : pyIndex l (i : Int) = .ok l[i] := by
  rw [pyIndex_natCast, List.getElem?_eq_getElem hi]; rfl

theorem pyIndex_nat_err {α : Type} (l : List α) (i : Nat) (hi : l.length ≤ i) :
    pyIndex l (i : Int) = .error "IndexError" := by
  rw [pyIndex_natCast, List.getElem?_eq_none hi]; rfl

theorem pyIndex_zero_cons {α : Type} (a : α) (l : List α) : pyIndex (a :: l) 0 = .ok a :=
  pyIndex_natCast (a :: l) 0

theorem pyIndex_zero_nil {α : Type} : pyIndex ([] : List α) 0 = .error "IndexError" := rfl

theorem pyIndex_neg_one_nil {α : Type} : pyIndex ([] : List α) (-1 : Int) = .error "IndexError" := rfl

theorem pyIndex_neg_one_append {α : Type} (l : List α) (a : α) : pyIndex (l ++ [a]) (-1) = .ok a := by
  rw [pyIndex_neg_one, List.getLast?_concat]; rfl

/-- `get_status_of` is the loop body of `get_statuses`, which repeats the text of `node_status` in the Python source; so
the two generated functions are one -/
theorem gen_get_status_of_eq_node_status (h : List Rat × List String) (t : Rat) :
    get_status_of h t = node_status h t := rfl

/-- the generated `node_status` is `Pred.nodeStatusImpl` (for EVERY history and time; on the empty history both
fail), including Python's wrap-around `statuses[-1]` when no change time is `≤ t` -/
theorem node_status_eq (h : Hist) (t : Rat) :
    node_status (unzipH h) t = (nodeStatusImpl h t).elim (.error "IndexError") .ok := by
  unfold node_status nodeStatusImpl
  simp only [unzipH_fst, unzipH_snd, List.filter_map, List.length_map]
  show pyIndex _ (((h.filter fun e => e.1 ≤ t).length : Int) + (-1 : Int)) = _
  cases (h.filter fun e => e.1 ≤ t).length with
  | zero =>
    rw [if_pos rfl, ← List.getLast?_map, show (((0 : Nat) : Int) + (-1 : Int)) = -1 from rfl, pyIndex_neg_one]
  | succ k =>
    rw [show (((k + 1 : Nat) : Int) + (-1 : Int)) = (k : Int) by omega, pyIndex_natCast, if_neg (by omega),
      Nat.add_sub_cancel, List.getElem?_map]

theorem nodeStatusImpl_isSome (h : Hist) (hne : h ≠ []) (t : Rat) : (nodeStatusImpl h t).isSome = true := by
  have hk : (h.filter fun e => e.1 ≤ t).length ≤ h.length := List.length_filter_le _ _
  have hpos : 0 < h.length := List.length_pos_iff.mpr hne
  unfold nodeStatusImpl
  simp only
  split
  · rw [List.getLast?_eq_some_getLast hne]; rfl
  · have hlt : (h.filter fun e => e.1 ≤ t).length - 1 < h.length := by omega
    rw [List.getElem?_eq_getElem hlt]; rfl

theorem nodeStatusImpl_eq_statusAt_of_ordered (h : Hist) (tmin t : Rat) (hord : histTimesOrdered h = true)
    (hhead : h.head?.map (·.1) = some tmin) (ht : tmin ≤ t) : nodeStatusImpl h t = statusAt h t := by
  cases h with
  | nil => cases hhead
  | cons e r =>
    exact Invest.nodeStatusImpl_eq_statusAt_of_sorted _ t ((Invest.nondecreasing_iff_pairwise _).mp hord) e
      List.mem_cons_self (le_of_eq_of_le (Option.some.inj hhead) ht)

theorem unzipH_append (h : Hist) (t : Rat) (s : String) :
    ((unzipH h).1 ++ [t], (unzipH h).2 ++ [s]) = unzipH (h ++ [(t, s)]) := by
  simp [unzipH]

/-- one step of both loops: an entry at `tmin` replaces the history, a later one is appended -/
theorem unzipH_reset_append (c : Prop) [Decidable c] (h : Hist) (t : Rat) (s : String) :
    ((if c then ([], []) else unzipH h).1 ++ [t], (if c then ([], []) else unzipH h).2 ++ [s]) =
      unzipH ((if c then [] else h) ++ [(t, s)]) := by
  split
  · rfl
  · exact unzipH_append h t s

theorem gen_transform_sis_loop_eq (tmin : Rat) : ∀ (is rs : List Rat) (h : Hist),
    transform_sis_loop tmin is rs (unzipH h) = unzipH (History.sisLoop tmin is rs h)
  | [], _, _ => by rw [transform_sis_loop, History.sisLoop]
  | ti :: is, [], h => by
    simp only [transform_sis_loop, History.sisLoop, unzipH_reset_append]
    exact gen_transform_sis_loop_eq tmin is [] _
  | ti :: is, tr :: rs, h => by
    simp only [transform_sis_loop, History.sisLoop]
    rw [← gen_transform_sis_loop_eq tmin is rs, ← unzipH_append, ← unzipH_reset_append]

abbrev Delta := List (String × List (Rat × Int))
/-- one `delta[status][time] += c` request -/
abbrev Ev := String × Rat × Int

/-- `if status in delta: delta[status][time] += c` -/
def estep (d : Delta) (ev : Ev) : Delta := if alHasS d ev.1 then deltaAdd d ev.1 ev.2.1 ev.2.2 else d

/-- the `delta` updates of the change entries `r` of a history whose previous status is `prev` -/
def evsFrom (prev : String) : Hist → List Ev
  | [] => []
  | e :: r => (e.2, e.1, 1) :: (prev, e.1, -1) :: evsFrom e.2 r

/-- all `delta` updates `summary` performs for one node history, in order -/
def evs : Hist → List Ev
  | [] => []
  | e :: r => (e.2, e.1, 1) :: evsFrom e.2 r

/-- verbatim copy of the inner loop body of the generated `summary` (this and the three copies below are tied to
Gen/InvestGen.lean by `summary_eq_def : … := rfl`) -/
def innerStep (acc : List Rat × Delta) (x : String × String × Rat) : List Rat × Delta :=
        let (times, delta) := acc
        let (new_status, old_status, time) := x
        let delta := (if PyRT.alHasS delta new_status then PyRT.deltaAdd delta new_status time (1 : Int) else delta)
        let delta := (if PyRT.alHasS delta old_status then PyRT.deltaAdd delta old_status time (-1 : Int) else delta)
        let times := PyRT.setAdd times time
        (times, delta)

/-- verbatim copy of the per-node loop body of the generated `summary` -/
def nodeStepM (hist : Node → List Rat × List String) (acc : List Rat × Delta) (node : Node) :
    Except String (List Rat × Delta) := do
    let (times, delta) := acc
    let node_times := (hist node).1
    let node_statuses := (hist node).2
    let tmin ← PyRT.pyIndex node_times 0
    let times := PyRT.setAdd times tmin
    let s0 ← PyRT.pyIndex node_statuses 0
    let delta := (if PyRT.alHasS delta s0 then PyRT.deltaAdd delta s0 tmin (1 : Int) else delta)
    let zipped := PyRT.zip3 (PyRT.pySlice node_statuses (some (1 : Int)) none) (PyRT.pySlice node_statuses none (some (-1 : Int))) (PyRT.pySlice node_times (some (1 : Int)) none)
    let (times, delta) := zipped.foldl innerStep (times, delta)
    pure (times, delta)

/-- verbatim copy of the column loop body -/
def colStep (statuses : List String) (delta : Delta) (cols : List (List Int)) (time : Rat) :
    Except String (List (List Int)) :=
      (List.zip statuses cols).mapM (fun (p : String × List Int) => do
        let last ← PyRT.pyIndex p.2 (-1)
        pure (p.2 ++ [last + PyRT.deltaGet delta p.1 time]))

/-- verbatim copy of the part of `summary` after the node loop -/
def finish (statuses : List String) (times : List Rat) (delta : Delta) :
    Except String (List Rat × List (List Int)) := do
  let t := PyRT.sortedRat times
  let tmin ← PyRT.pyIndex t 0
  let cols0 : List (List Int) := statuses.map (fun status => [PyRT.deltaGet delta status tmin])
  let cols ← (PyRT.pySlice t (some 1) none).foldlM (colStep statuses delta) cols0
  pure (t, cols)

def delta0 (statuses : List String) : Delta := statuses.foldl (fun d status => alSet d status []) []

theorem summary_eq_def (hist : Node → List Rat × List String) (statuses : List String) (nodelist : List Node) :
    summary hist statuses nodelist =
      (do let (times, delta) ← nodelist.foldlM (nodeStepM hist) ([], delta0 statuses)
          finish statuses times delta) := rfl

theorem pySlice_from_one {α : Type} (l : List α) : pySlice l (some (1 : Int)) none = l.drop 1 := by
  cases l with
  | nil => rfl
  | cons a t =>
    unfold pySlice pyBound
    have h1 : ¬ ((1 : Int) < 0) := by decide
    have h2 : (min (1 : Int) ((t.length + 1 : Nat) : Int)).toNat = 1 := by omega
    simp only [h1, if_false, List.length_cons, h2, List.drop_succ_cons, List.drop_zero, Nat.add_sub_cancel]
    exact List.take_length

theorem pySlice_to_neg_one {α : Type} (l : List α) : pySlice l none (some (-1 : Int)) = l.dropLast := by
  unfold pySlice pyBound
  have h1 : ((-1 : Int) < 0) := by decide
  have h2 : (max ((-1 : Int) + ((l.length : Nat) : Int)) 0).toNat = l.length - 1 := by omega
  simp only [h1, if_true, h2, List.drop_zero, Nat.sub_zero]
  exact (List.dropLast_eq_take).symm

theorem innerStep_eq (T : List Rat) (D : Delta) (n o : String) (t : Rat) :
    innerStep (T, D) (n, o, t) = (setAdd T t, estep (estep D (n, t, 1)) (o, t, -1)) := rfl

/-- the inner loop over `zip(statuses[1:], statuses[:-1], times[1:])` of the history `e :: r` -/
theorem foldl_innerStep (e : Rat × String) : ∀ (r : Hist) (T : List Rat) (D : Delta),
    (zip3 (r.map (·.2)) (((e :: r).map (·.2)).dropLast) (r.map (·.1))).foldl innerStep (T, D) =
      ((r.map (·.1)).foldl setAdd T, (evsFrom e.2 r).foldl estep D)
  | [], _, _ => rfl
  | e' :: r, T, D => by
    simp only [List.map_cons, List.dropLast_cons_cons, zip3, List.foldl_cons, innerStep_eq, evsFrom]
    exact foldl_innerStep e' r _ _

theorem nodeStepM_ok (H : Node → Hist) (v : Node) (hne : H v ≠ []) (T : List Rat) (D : Delta) :
    nodeStepM (fun v => unzipH (H v)) (T, D) v =
      .ok (((H v).map (·.1)).foldl setAdd T, (evs (H v)).foldl estep D) := by
  unfold nodeStepM
  cases hH : H v with
  | nil => exact absurd hH hne
  | cons e r =>
    simp only [unzipH_fst, unzipH_snd, hH, pySlice_from_one, pySlice_to_neg_one]
    simp only [List.map_cons, pyIndex_zero_cons, List.drop_succ_cons, List.drop_zero]
    have hz := foldl_innerStep e r
    simp only [List.map_cons] at hz
    show (pure _ : Except String _) = _
    rw [hz]
    rfl

theorem nodeStepM_empty (H : Node → Hist) (v : Node) (he : H v = []) (acc : List Rat × Delta) :
    nodeStepM (fun v => unzipH (H v)) acc v = .error "IndexError" := by
  unfold nodeStepM
  simp only [unzipH_fst, he, List.map_nil, pyIndex_zero_nil]
  rfl

theorem foldlM_nodeStepM (H : Node → Hist) : ∀ (nodes : List Node) (T : List Rat) (D : Delta),
    (∀ v ∈ nodes, H v ≠ []) →
    nodes.foldlM (nodeStepM (fun v => unzipH (H v))) (T, D) =
      .ok (((nodes.map H).flatMap (fun h => h.map (·.1))).foldl setAdd T,
           ((nodes.map H).flatMap evs).foldl estep D)
  | [], _, _, _ => rfl
  | v :: nodes, T, D, hne => by
    rw [List.foldlM_cons, nodeStepM_ok H v (hne v (by simp))]
    show List.foldlM _ _ nodes = _
    rw [foldlM_nodeStepM H nodes _ _ (fun w hw => hne w (List.mem_cons_of_mem _ hw))]
    simp only [List.map_cons, List.flatMap_cons, List.foldl_append]

theorem mem_setAdd (s : List Rat) (x y : Rat) : y ∈ setAdd s x ↔ y ∈ s ∨ y = x := by
  unfold setAdd
  by_cases h : s.contains x = true
  · rw [if_pos h]
    constructor
    · exact Or.inl
    · rintro (h1 | rfl)
      · exact h1
      · simpa using h
  · rw [if_neg h]; simp

theorem mem_foldl_setAdd (y : Rat) : ∀ (l acc : List Rat), y ∈ l.foldl setAdd acc ↔ y ∈ acc ∨ y ∈ l
  | [], _ => by simp
  | x :: l, acc => by
    rw [List.foldl_cons, mem_foldl_setAdd y l, mem_setAdd, List.mem_cons]
    exact or_assoc

theorem insSorted_eq (x : Rat) : ∀ l : List Rat, insSorted x l = insertSorted x l
  | [] => rfl
  | y :: t => by
    unfold insSorted insertSorted
    rw [insSorted_eq x t]

theorem sortedRat_eq (s : List Rat) : sortedRat s = s.foldl (fun acc x => insertSorted x acc) [] := by
  unfold sortedRat
  congr 1
  funext acc x
  exact insSorted_eq x acc

/-- `sorted(list(times))` after the node loop is `Pred.allTimes`: both are strictly ascending lists with the same
members (no hypothesis on the histories) -/
theorem sortedRat_times_eq (hs : List Hist) :
    sortedRat ((hs.flatMap (fun h => h.map (·.1))).foldl setAdd []) = allTimes hs := by
  rw [sortedRat_eq]
  apply Invest.strict_ext _ _ (Invest.foldl_insertSorted_strict _ [] List.Pairwise.nil) (Invest.allTimes_strict hs)
  intro x
  unfold allTimes
  rw [Invest.mem_foldl_insertSorted, Invest.mem_foldl_insertSorted, mem_foldl_setAdd]
  simp only [List.not_mem_nil, or_false, false_or]

theorem allTimes_ne_nil (hs : List Hist) (hne : hs ≠ []) (hall : ∀ h ∈ hs, h ≠ []) : allTimes hs ≠ [] := by
  obtain ⟨h, hh⟩ := List.exists_mem_of_ne_nil hs hne
  obtain ⟨e, he⟩ := List.exists_mem_of_ne_nil h (hall h hh)
  have : e.1 ∈ allTimes hs := (Invest.mem_allTimes hs e.1).mpr ⟨h, hh, e, he, rfl⟩
  exact List.ne_nil_of_mem this

/-- `alHasS` is `PyRT`'s test `status in delta` on a String-keyed dict, spelt with `List.any`: it is `alHas` -/
theorem alHasS_eq_alHas {ν : Type} (d : List (String × ν)) (k : String) : alHasS d k = alHas d k := by
  induction d with
  | nil => rfl
  | cons p t ih =>
    obtain ⟨k0, w⟩ := p
    unfold alHasS at ih ⊢
    by_cases h : k0 = k <;> simp [alHas, h, ih]

theorem alHasS_alSet {ν : Type} (d : List (String × ν)) (k k' : String) (v : ν) :
    alHasS (alSet d k v) k' = (alHasS d k' || k == k') := by
  rw [alHasS_eq_alHas, alHasS_eq_alHas, alHas_alSet_bool]
  congr 1
  rw [Bool.eq_iff_iff, decide_eq_true_iff, beq_iff_eq, eq_comm]

theorem alHasS_foldl_init (k : String) : ∀ (sts : List String) (acc : Delta),
    alHasS (sts.foldl (fun d status => alSet d status []) acc) k = true ↔ alHasS acc k = true ∨ k ∈ sts
  | [], _ => by simp
  | s :: sts, acc => by
    rw [List.foldl_cons, alHasS_foldl_init k sts, alHasS_alSet, List.mem_cons]
    simp only [Bool.or_eq_true, beq_iff_eq]
    rw [or_assoc, @eq_comm _ s k]

theorem alHasS_delta0 (sts : List String) (k : String) : alHasS (delta0 sts) k = true ↔ k ∈ sts := by
  unfold delta0
  rw [alHasS_foldl_init]
  simp [alHasS]

theorem alGet_foldl_init (k : String) : ∀ (sts : List String) (acc : Delta),
    alGet acc [] k = [] → alGet (sts.foldl (fun d status => alSet d status []) acc) [] k = []
  | [], _, h => h
  | s :: sts, acc, h => by
    rw [List.foldl_cons]
    apply alGet_foldl_init k sts
    rw [alGet_alSet]
    split
    · rfl
    · exact h

theorem deltaGet_delta0 (sts : List String) (s : String) (t : Rat) : deltaGet (delta0 sts) s t = 0 := by
  unfold deltaGet delta0
  rw [alGet_foldl_init s sts [] rfl]
  rfl

theorem alHasS_estep (d : Delta) (ev : Ev) (k : String) : alHasS (estep d ev) k = alHasS d k := by
  unfold estep
  by_cases h : alHasS d ev.1 = true
  · rw [if_pos h]
    unfold deltaAdd
    rw [alHasS_alSet]
    by_cases hk : ev.1 = k
    · rw [← hk, h]; rfl
    · have : (ev.1 == k) = false := by simpa using hk
      rw [this, Bool.or_false]
  · rw [if_neg h]

theorem deltaGet_estep (d : Delta) (ev : Ev) (s : String) (t : Rat) :
    deltaGet (estep d ev) s t =
      deltaGet d s t + (if ev.1 = s ∧ ev.2.1 = t ∧ alHasS d ev.1 = true then ev.2.2 else 0) := by
  unfold estep
  by_cases h : alHasS d ev.1 = true
  · rw [if_pos h]
    unfold deltaGet deltaAdd
    rw [alGet_alSet]
    by_cases hs : ev.1 = s
    · rw [if_pos hs.symm, alGet_alSet]
      subst hs
      by_cases ht : ev.2.1 = t
      · subst ht; simp [h]
      · simp [ht, Ne.symm ht]
    · simp [hs, Ne.symm hs]
  · rw [if_neg h]; simp [h]

/-- weighted count: the sum of the increments of the updates for status `s` whose time satisfies `p` -/
def W (s : String) (p : Rat → Bool) : List Ev → Int
  | [] => 0
  | ev :: l => (if ev.1 = s ∧ p ev.2.1 = true then ev.2.2 else 0) + W s p l

theorem W_append (s : String) (p : Rat → Bool) : ∀ (l1 l2 : List Ev), W s p (l1 ++ l2) = W s p l1 + W s p l2
  | [], l2 => by simp [W]
  | ev :: l1, l2 => by
    simp only [List.cons_append, W, W_append s p l1 l2]; omega

theorem W_congr (s : String) (p q : Rat → Bool) : ∀ (l : List Ev), (∀ ev ∈ l, p ev.2.1 = q ev.2.1) →
    W s p l = W s q l
  | [], _ => rfl
  | ev :: l, h => by
    simp only [W]
    rw [W_congr s p q l (fun e he => h e (List.mem_cons_of_mem _ he)), h ev (by simp)]

theorem ite_or_split (P : Prop) [Decidable P] (a b : Bool) (c : Int) (h : ¬ (a = true ∧ b = true)) :
    (if P ∧ (a || b) = true then c else 0) = (if P ∧ a = true then c else 0) + (if P ∧ b = true then c else 0) := by
  cases a <;> cases b <;> simp at h ⊢

theorem W_split (s : String) (p q r : Rat → Bool) : ∀ (l : List Ev),
    (∀ ev ∈ l, p ev.2.1 = (q ev.2.1 || r ev.2.1) ∧ ¬ (q ev.2.1 = true ∧ r ev.2.1 = true)) →
    W s p l = W s q l + W s r l
  | [], _ => rfl
  | ev :: l, h => by
    obtain ⟨h1, h2⟩ := h ev (by simp)
    simp only [W]
    rw [W_split s p q r l (fun e he => h e (List.mem_cons_of_mem _ he)), h1, ite_or_split _ _ _ _ h2]
    omega

theorem W_flatMap (s : String) (p : Rat → Bool) (f : Hist → List Ev) : ∀ (hs : List Hist),
    W s p (hs.flatMap f) = (hs.map fun h => W s p (f h)).sum
  | [] => rfl
  | h :: hs => by
    rw [List.flatMap_cons, W_append, W_flatMap s p f hs]; simp

/-- the value the node loop leaves in `delta[s][t]` (for a listed status): the net change of the number of nodes of
status `s` at time `t` -/
theorem deltaGet_foldl_estep (sts : List String) (s : String) (hs : s ∈ sts) (t : Rat) :
    ∀ (evl : List Ev) (d : Delta), (∀ k, alHasS d k = true ↔ k ∈ sts) →
      deltaGet (evl.foldl estep d) s t = deltaGet d s t + W s (fun x => x == t) evl
  | [], d, _ => by simp [W]
  | ev :: evl, d, hk => by
    -- a listed status is a key of `delta`, so the update is never skipped
    have hc : (ev.1 = s ∧ ev.2.1 = t ∧ alHasS d ev.1 = true) ↔ (ev.1 = s ∧ (ev.2.1 == t) = true) :=
      ⟨fun ⟨a, b, _⟩ => ⟨a, beq_iff_eq.mpr b⟩, fun ⟨a, b⟩ => ⟨a, beq_iff_eq.mp b, a ▸ (hk s).mpr hs⟩⟩
    rw [List.foldl_cons, deltaGet_foldl_estep sts s hs t evl (estep d ev)
      (fun k => by rw [alHasS_estep]; exact hk k), deltaGet_estep, W, if_congr hc rfl rfl, Int.add_assoc]

/-- last status of `l`, or `prev` when `l` is empty -/
def lastSt (prev : String) (l : Hist) : String :=
  match l.getLast? with
  | some e => e.2
  | none => prev

theorem lastSt_nil (prev : String) : lastSt prev [] = prev := rfl

theorem lastSt_cons (prev : String) (e : Rat × String) (l : Hist) : lastSt prev (e :: l) = lastSt e.2 l := by
  cases l with
  | nil => rfl
  | cons e' l' =>
    simp only [lastSt, List.getLast?_cons_cons]
    rw [List.getLast?_eq_some_getLast (List.cons_ne_nil e' l')]

theorem ite_neg_one (P : Prop) [Decidable P] : (if P then (-1 : Int) else 0) = -(if P then 1 else 0) := by
  split <;> rfl

theorem W_evsFrom (s : String) (t : Rat) : ∀ (r : Hist) (prev : String), (r.map (·.1)).Pairwise (· ≤ ·) →
    W s (fun x => decide (x ≤ t)) (evsFrom prev r) =
      (if lastSt prev (r.filter fun e => e.1 ≤ t) = s then 1 else 0) - (if prev = s then 1 else 0)
  | [], prev, _ => by
    simp only [evsFrom, W, List.filter_nil, lastSt_nil]
    by_cases hp : prev = s <;> simp [hp]
  | e :: r, prev, h => by
    have h' := h
    rw [List.map_cons, List.pairwise_cons] at h'
    have ih := W_evsFrom s t r e.2 h'.2
    simp only [evsFrom, W, ih]
    by_cases he : e.1 ≤ t
    · simp only [List.filter_cons, he, decide_true, if_true, lastSt_cons, and_true, ite_neg_one]
      omega
    · have hnil := Invest.filter_le_nil_of_gt (fun x : Rat × String => x.1) t e r h he
      simp only [List.filter_cons, he, decide_false, hnil, lastSt_nil, Bool.false_eq_true, and_false, if_false]
      omega

theorem W_evs (s : String) (t : Rat) (h : Hist) (hord : (h.map (·.1)).Pairwise (· ≤ ·)) :
    W s (fun x => decide (x ≤ t)) (evs h) = if statusAt h t = some s then 1 else 0 := by
  cases h with
  | nil => simp [evs, W, statusAt]
  | cons e r =>
    have h' := hord
    rw [List.map_cons, List.pairwise_cons] at h'
    simp only [evs, W, W_evsFrom s t r e.2 h'.2]
    by_cases he : e.1 ≤ t
    · have hst : statusAt (e :: r) t = some (lastSt e.2 (r.filter fun x => x.1 ≤ t)) := by
        unfold statusAt
        simp only [List.filter_cons, he, decide_true, if_true]
        rw [← lastSt_cons e.2 e]
        unfold lastSt
        simp [List.getLast?_cons]
      rw [hst]
      simp only [he, decide_true, and_true, Option.some.injEq]
      omega
    · have hnil := Invest.filter_le_nil_of_gt (fun x : Rat × String => x.1) t e r hord he
      have hst : statusAt (e :: r) t = none := by
        unfold statusAt
        simp [he, hnil]
      rw [hst, hnil, lastSt_nil]
      simp [he]

theorem countAt_cons (h : Hist) (hs : List Hist) (t : Rat) (s : String) :
    countAt (h :: hs) t s = (if statusAt h t = some s then 1 else 0) + countAt hs t s := by
  unfold countAt
  rw [List.filter_cons]
  by_cases hc : statusAt h t = some s
  · rw [if_pos (beq_iff_eq.mpr hc), if_pos hc, List.length_cons]; omega
  · rw [if_neg (fun hb => hc (beq_iff_eq.mp hb)), if_neg hc, Int.zero_add]

/-- the net changes at all times `≤ t` add up to the number of nodes whose latest change at or before `t` gave `s` -/
theorem W_all_le (s : String) (t : Rat) : ∀ (hs : List Hist), (∀ h ∈ hs, histTimesOrdered h = true) →
    W s (fun x => decide (x ≤ t)) (hs.flatMap evs) = countAt hs t s
  | [], _ => rfl
  | h :: hs, hord => by
    rw [List.flatMap_cons, W_append, countAt_cons,
      W_all_le s t hs (fun h' hh' => hord h' (List.mem_cons_of_mem _ hh')),
      W_evs s t h ((Invest.nondecreasing_iff_pairwise _).mp (hord h (by simp)))]

theorem evsFrom_time_mem : ∀ (r : Hist) (prev : String) (ev : Ev), ev ∈ evsFrom prev r → ∃ e ∈ r, e.1 = ev.2.1
  | [], _, _, h => by simp [evsFrom] at h
  | e :: r, prev, ev, h => by
    simp only [evsFrom, List.mem_cons] at h
    rcases h with rfl | rfl | h
    · exact ⟨e, by simp, rfl⟩
    · exact ⟨e, by simp, rfl⟩
    · obtain ⟨e', he', h2⟩ := evsFrom_time_mem r e.2 ev h
      exact ⟨e', List.mem_cons_of_mem _ he', h2⟩

theorem evs_time_mem (h : Hist) (ev : Ev) (hev : ev ∈ evs h) : ∃ e ∈ h, e.1 = ev.2.1 := by
  cases h with
  | nil => simp [evs] at hev
  | cons e r =>
    simp only [evs, List.mem_cons] at hev
    rcases hev with rfl | hev
    · exact ⟨e, by simp, rfl⟩
    · obtain ⟨e', he', h2⟩ := evsFrom_time_mem r e.2 ev hev
      exact ⟨e', List.mem_cons_of_mem _ he', h2⟩

theorem allEvs_time_mem (hs : List Hist) (ev : Ev) (hev : ev ∈ hs.flatMap evs) : ev.2.1 ∈ allTimes hs := by
  obtain ⟨h, hh, hev'⟩ := List.mem_flatMap.mp hev
  obtain ⟨e, he, h2⟩ := evs_time_mem h ev hev'
  exact (Invest.mem_allTimes hs _).mpr ⟨h, hh, e, he, h2⟩

theorem count_step (hs : List Hist) (hord : ∀ h ∈ hs, histTimesOrdered h = true) (a b : Rat) (hlt : a < b)
    (hbetween : ∀ x ∈ allTimes hs, x ≤ a ∨ b ≤ x) (s : String) :
    countAt hs b s = countAt hs a s + W s (fun x => x == b) (hs.flatMap evs) := by
  rw [← W_all_le s b hs hord, ← W_all_le s a hs hord]
  apply W_split
  intro ev hev
  rcases hbetween _ (allEvs_time_mem hs ev hev) with hx | hx
  · have h1 : ev.2.1 ≤ b := le_trans hx (le_of_lt hlt)
    have h2 : ev.2.1 ≠ b := ne_of_lt (lt_of_le_of_lt hx hlt)
    simp [h1, hx, h2]
  · have h1 : ¬ ev.2.1 ≤ a := not_le.mpr (lt_of_lt_of_le hlt hx)
    by_cases h2 : ev.2.1 = b
    · simp [h2, hlt]
    · have h3 : ¬ ev.2.1 ≤ b := fun hle => h2 (le_antisymm hle hx)
      simp [h1, h2, h3]

theorem count_base (hs : List Hist) (hord : ∀ h ∈ hs, histTimesOrdered h = true) (t0 : Rat) (rest : List Rat)
    (hts : allTimes hs = t0 :: rest) (s : String) :
    W s (fun x => x == t0) (hs.flatMap evs) = countAt hs t0 s := by
  rw [← W_all_le s t0 hs hord]
  apply W_congr
  intro ev hev
  have hm := allEvs_time_mem hs ev hev
  have hp := Invest.allTimes_strict hs
  rw [hts] at hm hp
  rw [List.pairwise_cons] at hp
  rcases List.mem_cons.mp hm with h | h
  · simp [h]
  · have hlt := hp.1 _ h
    have h1 : ¬ ev.2.1 ≤ t0 := not_le.mpr hlt
    have h2 : ev.2.1 ≠ t0 := ne_of_gt hlt
    simp [h1, h2]

/-! #### the column loop: running sums of `delta` along the sorted times -/

/-- what the loop over the times `ts` appends to a column whose last entry is `x`: the running sums of `g = delta[s]` -/
def runSum (g : Rat → Int) (x : Int) : List Rat → List Int
  | [] => []
  | t :: ts => (x + g t) :: runSum g (x + g t) ts

theorem colStep_eq (sts : List String) (delta : Delta) (pre : String → List Int) (x : String → Int) (time : Rat) :
    colStep sts delta (sts.map fun s => pre s ++ [x s]) time =
      .ok (sts.map fun s => pre s ++ [x s] ++ [x s + deltaGet delta s time]) := by
  unfold colStep
  rw [← List.map_prod_left_eq_zip, GenHelpProofs.mapM_ok_mem _ (fun p => p.2 ++ [x p.1 + deltaGet delta p.1 time]), List.map_map]
  · rfl
  · intro p hp
    obtain ⟨s, _, rfl⟩ := List.mem_map.mp hp
    simp only [pyIndex_neg_one_append]
    rfl

theorem colsFold (sts : List String) (delta : Delta) : ∀ (rest : List Rat) (pre : String → List Int) (x : String → Int),
    rest.foldlM (colStep sts delta) (sts.map fun s => pre s ++ [x s]) =
      .ok (sts.map fun s => pre s ++ x s :: runSum (deltaGet delta s) (x s) rest)
  | [], _, _ => rfl
  | t :: rest, pre, x => by
    rw [List.foldlM_cons, colStep_eq]
    show List.foldlM _ _ rest = _
    rw [colsFold sts delta rest (fun s => pre s ++ [x s]) (fun s => x s + deltaGet delta s t)]
    simp only [runSum, List.append_assoc, List.singleton_append]

theorem finish_eq (sts : List String) (T : List Rat) (D : Delta) (t0 : Rat) (rest : List Rat)
    (hT : sortedRat T = t0 :: rest) :
    finish sts T D =
      .ok (t0 :: rest, sts.map fun s => deltaGet D s t0 :: runSum (deltaGet D s) (deltaGet D s t0) rest) := by
  have h := colsFold sts D rest (fun _ => []) (fun s => deltaGet D s t0)
  simp only [List.nil_append] at h
  unfold finish
  simp only [hT, pyIndex_zero_cons, pySlice_from_one, List.drop_succ_cons, List.drop_zero]
  show (do let cols ← List.foldlM (colStep sts D) _ rest; pure (t0 :: rest, cols)) = _
  rw [h]
  rfl

theorem finish_times (sts : List String) (T : List Rat) (D : Delta) (hT : sortedRat T ≠ []) :
    ∃ cols, finish sts T D = .ok (sortedRat T, cols) := by
  cases hts : sortedRat T with
  | nil => exact absurd hts hT
  | cons t0 rest => exact ⟨_, finish_eq sts T D t0 rest hts⟩

/-- along the sorted times after `a`, the running sums of the net changes are the counts (`a :: rest` is a final
segment of the change times: every change time is `≤ a` or occurs in `rest`) -/
theorem runSum_count (hs : List Hist) (hord : ∀ h ∈ hs, histTimesOrdered h = true) (s : String) :
    ∀ (rest : List Rat) (a : Rat), (a :: rest).Pairwise (· < ·) → (∀ x ∈ allTimes hs, x ≤ a ∨ x ∈ rest) →
      runSum (fun t => W s (fun x => x == t) (hs.flatMap evs)) (countAt hs a s) rest =
        rest.map fun t => countAt hs t s
  | [], _, _, _ => rfl
  | b :: rest, a, hp, hcov => by
    rw [List.pairwise_cons] at hp
    have hab : a < b := hp.1 b (by simp)
    have hge : ∀ x ∈ b :: rest, b ≤ x := fun x hx => by
      rcases List.mem_cons.mp hx with rfl | hx
      · exact le_refl _
      · exact le_of_lt ((List.pairwise_cons.mp hp.2).1 x hx)
    rw [runSum, ← count_step hs hord a b hab (fun x hx => (hcov x hx).imp_right (hge x)) s, List.map_cons,
      runSum_count hs hord s rest b hp.2 (fun x hx => (hcov x hx).elim (fun h => Or.inl (le_trans h (le_of_lt hab)))
        (fun h => (List.mem_cons.mp h).imp (fun e => le_of_eq e) id))]

theorem finish_ok (sts : List String) (hs : List Hist) (hne : hs ≠ []) (hall : ∀ h ∈ hs, h ≠ [])
    (hord : ∀ h ∈ hs, histTimesOrdered h = true) (T : List Rat) (D : Delta)
    (hT : sortedRat T = allTimes hs)
    (hD : ∀ s ∈ sts, ∀ t, deltaGet D s t = W s (fun x => x == t) (hs.flatMap evs)) :
    finish sts T D = .ok (allTimes hs, sts.map fun s => (allTimes hs).map fun t => countAt hs t s) := by
  have hp := Invest.allTimes_strict hs
  cases hts : allTimes hs with
  | nil => exact absurd hts (allTimes_ne_nil hs hne hall)
  | cons t0 rest =>
    rw [hts] at hp
    rw [finish_eq sts T D t0 rest (hT.trans hts)]
    congr 2
    apply List.map_congr_left
    intro s hs'
    rw [hD s hs' t0, count_base hs hord t0 rest hts s,
      show deltaGet D s = fun t => W s (fun x => x == t) (hs.flatMap evs) from funext (hD s hs'), List.map_cons,
      runSum_count hs hord s rest t0 hp (fun x hx => (List.mem_cons.mp (hts ▸ hx)).imp (fun e => le_of_eq e) id)]

/-! the histories `hs` seen as the node-indexed family `v ↦ hs.getD v []` on the nodes `0, …, hs.length - 1` -/

theorem forall_range_getD (hs : List Hist) {P : Hist → Prop} (h : ∀ x ∈ hs, P x) :
    ∀ v ∈ List.range hs.length, P (hs.getD v []) := by
  intro v hv
  have hv' : v < hs.length := List.mem_range.mp hv
  rw [Invest.getD_eq' _ _ hv']
  exact h _ (List.getElem_mem hv')

/-- **times of summary == spec**, with NO ordering hypothesis on the histories: the call succeeds and the returned
time vector is `Pred.allTimes` -/
theorem summary_times_eq_nodes (H : Node → Hist) (sts : List String) (nodes : List Node) (hne : nodes ≠ [])
    (hall : ∀ v ∈ nodes, H v ≠ []) :
    ∃ cols, summary (fun v => unzipH (H v)) sts nodes = .ok ((summarySpec (nodes.map H) sts).times, cols) := by
  rw [summary_eq_def, foldlM_nodeStepM H nodes [] (delta0 sts) hall]
  have h := finish_times sts _ (((nodes.map H).flatMap evs).foldl estep (delta0 sts))
    (by rw [sortedRat_times_eq]
        exact allTimes_ne_nil _ (by simpa using hne) (List.forall_mem_map.mpr hall))
  rwa [sortedRat_times_eq] at h

end GenInvestProofs
