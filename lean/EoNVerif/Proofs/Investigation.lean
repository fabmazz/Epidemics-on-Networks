import EoNVerif.Model.Investigation
import Mathlib.Algebra.Order.Ring.Rat
/-!
Event log versus arrays (`Simulation_Investigation`: node histories, `summary()`, `node_status`).  Two facts about
sorted lists carry everything: filtering a sorted list by `≤ T` takes a prefix, and two strictly increasing lists with
the same members are equal.
-/

namespace Invest
open Pred

/-- number of log events with time ≤ T (a prefix, because times are nondecreasing) -/
def upTo (log : Log) (T : Rat) : Nat := (log.filter fun e => e.1 ≤ T).length

/-! ### sorted lists: filtering by `≤ T` is taking a prefix -/

theorem filter_le_nil_of_gt {α : Type} (f : α → Rat) (T : Rat) (a : α) (l : List α)
    (h : ((a :: l).map f).Pairwise (· ≤ ·)) (ha : ¬ f a ≤ T) : l.filter (fun e => f e ≤ T) = [] := by
  rw [List.map_cons, List.pairwise_cons] at h
  rw [List.filter_eq_nil_iff]
  intro b hb
  have := h.1 (f b) (List.mem_map_of_mem hb)
  simp only [decide_eq_true_eq, not_le]
  exact lt_of_lt_of_le (not_le.mp ha) this

theorem filter_le_eq_take {α : Type} (f : α → Rat) (T : Rat) :
    ∀ (l : List α), (l.map f).Pairwise (· ≤ ·) →
      l.filter (fun e => f e ≤ T) = l.take (l.filter (fun e => f e ≤ T)).length
  | [], _ => by simp
  | a :: l, h => by
    by_cases ha : f a ≤ T
    · have ih := filter_le_eq_take f T l (List.pairwise_cons.mp h).2
      simp only [List.filter_cons, ha, decide_true, if_true, List.length_cons, List.take_succ_cons]
      rw [← ih]
    · simp [ha, filter_le_nil_of_gt f T a l h ha]

theorem filter_length_eq {α : Type} (p : α → Bool) (l : List α) (j : Nat) (hj : j ≤ l.length)
    (h1 : ∀ i (hi : i < l.length), i < j → p l[i] = true)
    (h2 : ∀ i (hi : i < l.length), j ≤ i → p l[i] = false) :
    (l.filter p).length = j := by
  conv_lhs => rw [← List.take_append_drop j l]
  rw [List.filter_append]
  have e1 : (l.take j).filter p = l.take j := by
    rw [List.filter_eq_self]
    intro a ha
    obtain ⟨i, hi, rfl⟩ := List.mem_take_iff_getElem.mp ha
    exact h1 i (by omega) (by omega)
  have e2 : (l.drop j).filter p = [] := by
    rw [List.filter_eq_nil_iff]
    intro a ha
    obtain ⟨i, hi, rfl⟩ := List.mem_drop_iff_getElem.mp ha
    simp [h2 (j + i) (by omega) (by omega)]
  rw [e1, e2]
  simp [hj]

theorem nondecreasing_iff_pairwise : ∀ (l : List Rat), nondecreasing l = true ↔ l.Pairwise (· ≤ ·)
  | [] => by simp [nondecreasing]
  | [_] => by simp [nondecreasing]
  | a :: b :: t => by
    rw [nondecreasing, Bool.and_eq_true, decide_eq_true_eq, nondecreasing_iff_pairwise (b :: t),
      List.pairwise_cons (a := a)]
    refine and_congr_left fun ht => ⟨fun hab c hc => ?_, fun h => h b (by simp)⟩
    rcases List.mem_cons.mp hc with rfl | hc
    · exact hab
    · exact le_trans hab ((List.pairwise_cons.mp ht).1 c hc)

/-- the count-based lookup of `node_status` agrees with "latest change at or before `t`" on a time-ordered history
as soon as some change time is `≤ t` (a list fact: no event log is involved) -/
theorem nodeStatusImpl_eq_statusAt_of_sorted (h : Hist) (t : Rat) (hs : (h.map (·.1)).Pairwise (· ≤ ·))
    (e : Rat × String) (he : e ∈ h) (het : e.1 ≤ t) : nodeStatusImpl h t = statusAt h t := by
  have hpos : 0 < (h.filter fun e => e.1 ≤ t).length :=
    List.length_pos_of_mem (List.mem_filter.mpr ⟨he, decide_eq_true het⟩)
  have hft := filter_le_eq_take (fun e : Rat × String => e.1) t h hs
  have hle : (h.filter fun e => e.1 ≤ t).length ≤ h.length := List.length_filter_le _ _
  unfold nodeStatusImpl statusAt
  generalize (h.filter fun e => e.1 ≤ t).length = k at *
  simp only [Nat.ne_of_gt hpos, if_false]
  rw [hft, List.getLast?_eq_getElem?, List.length_take, Nat.min_eq_left hle, List.getElem?_take,
    if_pos (Nat.sub_lt hpos Nat.one_pos)]

theorem histOf_times_pairwise {tmin : Rat} {nodes : List Node} {log : Log} (h : ValidLog tmin nodes log)
    (init : Node → String) (v : Node) : ((histOf tmin init log v).map (·.1)).Pairwise (· ≤ ·) := by
  have h1 := h.1
  rw [List.pairwise_cons] at h1
  simp only [histOf, List.map_cons, List.map_map, List.pairwise_cons]
  constructor
  · intro a ha
    obtain ⟨e, he, rfl⟩ := List.mem_map.mp ha
    exact h1.1 _ (List.mem_map_of_mem (List.mem_filter.mp he).1)
  · have hs : (List.map (·.1) (List.filter (fun e : Rat × Node × String => e.2.1 == v) log)).Sublist
        (log.map (·.1)) := List.Sublist.map _ List.filter_sublist
    exact List.Pairwise.sublist hs h1.2

theorem take_upTo {tmin : Rat} {nodes : List Node} {log : Log} (h : ValidLog tmin nodes log) (T : Rat) :
    log.take (upTo log T) = log.filter fun e => e.1 ≤ T :=
  (filter_le_eq_take (fun e : Rat × Node × String => e.1) T log (List.pairwise_cons.mp h.1).2).symm

theorem statusAt_histOf' (tmin : Rat) (init : Node → String) (nodes : List Node) (log : Log)
    (h : ValidLog tmin nodes log) (v : Node) (T : Rat) (hT : tmin ≤ T) :
    statusAt (histOf tmin init log v) T = some (statusAfter init log (upTo log T) v) := by
  unfold statusAt statusAfter
  rw [take_upTo h]
  simp only [histOf, List.filter_cons, hT, decide_true, if_true, List.getLast?_cons, Option.map_some,
    List.filter_map, List.filter_filter]
  congr 1
  rw [List.getLast?_map]
  have e : (List.filter (fun a : Rat × Node × String =>
      ((fun e : Rat × String => decide (e.1 ≤ T)) ∘ fun e : Rat × Node × String => (e.1, e.2.2)) a && a.2.1 == v) log)
      = List.filter (fun a => a.2.1 == v && decide (a.1 ≤ T)) log := by
    apply List.filter_congr
    intro a _
    simp [Bool.and_comm]
  rw [e]
  cases (List.filter (fun a : Rat × Node × String => a.2.1 == v && decide (a.1 ≤ T)) log).getLast? <;> rfl

/-! ### legal moves along a history -/

theorem statusAfter_zero (init : Node → String) (log : Log) (v : Node) : statusAfter init log 0 v = init v := by
  simp [statusAfter]

theorem statusAfter_cons_succ (init : Node → String) (e : Rat × Node × String) (l : Log) (k : Nat) (v : Node) :
    statusAfter init (e :: l) (k + 1) v =
      statusAfter (fun w => if e.2.1 == w then e.2.2 else init w) l k v := by
  unfold statusAfter
  by_cases hv : e.2.1 = v
  · simp only [List.take_succ_cons, List.filter_cons, hv, beq_self_eq_true, if_true, List.getLast?_cons]
    cases (List.filter (fun e => e.2.1 == v) (List.take k l)).getLast? <;> rfl
  · have : (e.2.1 == v) = false := by simpa using hv
    simp only [List.take_succ_cons, List.filter_cons, this, Bool.false_eq_true, if_false]

theorem pairwise_histOf (legal : String → String → Bool) (v : Node) :
    ∀ (log : Log) (init : Node → String),
      (∀ k e, log[k]? = some e → e.2.1 = v → legal (statusAfter init log k v) e.2.2 = true) →
      pairwise legal (init v :: (log.filter fun e => e.2.1 == v).map (·.2.2)) = true
  | [], _, _ => rfl
  | e :: l, init, hl => by
    have ih := pairwise_histOf legal v l (fun w => if e.2.1 == w then e.2.2 else init w)
      (fun k e' hk hv => statusAfter_cons_succ init e l k v ▸ hl (k + 1) e' hk hv)
    by_cases hv : e.2.1 = v
    · have hb : (e.2.1 == v) = true := beq_iff_eq.mpr hv
      simp only [hb, if_true] at ih
      simp only [List.filter_cons, hb, if_true, List.map_cons, pairwise, Bool.and_eq_true]
      exact ⟨statusAfter_zero init (e :: l) v ▸ hl 0 e rfl hv, ih⟩
    · have hb : (e.2.1 == v) = false := beq_eq_false_iff_ne.mpr hv
      simp only [hb, Bool.false_eq_true, if_false] at ih
      simp only [List.filter_cons, hb, Bool.false_eq_true, if_false]
      exact ih

/-! ### `allTimes`: the strictly increasing list of the distinct times -/

theorem mem_insertSorted (x y : Rat) : ∀ l : List Rat, y ∈ insertSorted x l ↔ y = x ∨ y ∈ l
  | [] => by simp [insertSorted]
  | z :: t => by
    unfold insertSorted
    split
    · exact List.mem_cons
    · split
      · next hxz => rw [hxz, List.mem_cons, ← or_assoc, or_self]
      · rw [List.mem_cons, mem_insertSorted x y t, List.mem_cons]
        exact or_left_comm

theorem insertSorted_strict (x : Rat) : ∀ l : List Rat, l.Pairwise (· < ·) → (insertSorted x l).Pairwise (· < ·)
  | [], _ => by simp [insertSorted]
  | z :: t, h => by
    unfold insertSorted
    rw [List.pairwise_cons] at h
    split
    · rename_i hxz
      rw [List.pairwise_cons]
      refine ⟨?_, List.pairwise_cons.mpr h⟩
      intro a ha
      rcases List.mem_cons.mp ha with rfl | ha
      · exact hxz
      · exact lt_trans hxz (h.1 a ha)
    · split
      · exact List.pairwise_cons.mpr h
      · rename_i h1 h2
        rw [List.pairwise_cons]
        refine ⟨?_, insertSorted_strict x t h.2⟩
        intro a ha
        rcases (mem_insertSorted x a t).mp ha with rfl | ha
        · exact lt_of_le_of_ne (not_lt.mp h1) (Ne.symm h2)
        · exact h.1 a ha

theorem foldl_insertSorted_strict : ∀ (l acc : List Rat), acc.Pairwise (· < ·) →
    (l.foldl (fun acc x => insertSorted x acc) acc).Pairwise (· < ·)
  | [], _, h => h
  | x :: l, acc, h => foldl_insertSorted_strict l _ (insertSorted_strict x acc h)

theorem mem_foldl_insertSorted (y : Rat) : ∀ (l acc : List Rat),
    y ∈ l.foldl (fun acc x => insertSorted x acc) acc ↔ y ∈ l ∨ y ∈ acc
  | [], _ => by simp
  | x :: l, acc => by
    rw [List.foldl_cons, mem_foldl_insertSorted y l, mem_insertSorted, List.mem_cons]
    exact or_left_comm.trans or_assoc.symm

/-- two strictly increasing lists with the same elements are equal: they are permutations of each other, and a
permutation of a list sorted by an asymmetric relation is the list itself -/
theorem strict_ext (l1 l2 : List Rat) (h1 : l1.Pairwise (· < ·)) (h2 : l2.Pairwise (· < ·))
    (h : ∀ x, x ∈ l1 ↔ x ∈ l2) : l1 = l2 :=
  List.Perm.eq_of_pairwise (fun _ _ _ _ hab hba => absurd (lt_trans hab hba) (lt_irrefl _)) h1 h2
    ((List.perm_ext_iff_of_nodup (h1.imp ne_of_lt) (h2.imp ne_of_lt)).mpr h)

theorem allTimes_strict (hs : List Hist) : (allTimes hs).Pairwise (· < ·) :=
  foldl_insertSorted_strict _ [] List.Pairwise.nil

theorem mem_allTimes (hs : List Hist) (t : Rat) : t ∈ allTimes hs ↔ ∃ h ∈ hs, ∃ e ∈ h, e.1 = t := by
  unfold allTimes
  rw [mem_foldl_insertSorted]
  simp only [List.mem_flatMap, List.mem_map, List.not_mem_nil, or_false]

theorem mem_allTimes_histories (tmin : Rat) (init : Node → String) (nodes : List Node) (log : Log)
    (h : ValidLog tmin nodes log) (hne : nodes ≠ []) (t : Rat) :
    t ∈ allTimes (histories tmin init log nodes) ↔ t ∈ tmin :: log.map (·.1) := by
  rw [mem_allTimes]
  constructor
  · rintro ⟨H, hH, e, he, rfl⟩
    obtain ⟨v, _, rfl⟩ := List.mem_map.mp hH
    rcases List.mem_cons.mp he with rfl | he
    · exact List.mem_cons_self
    · obtain ⟨e', he', rfl⟩ := List.mem_map.mp he
      exact List.mem_cons_of_mem _ (List.mem_map_of_mem (List.mem_filter.mp he').1)
  · intro ht
    rcases List.mem_cons.mp ht with rfl | ht
    · obtain ⟨v, hv⟩ := List.exists_mem_of_ne_nil nodes hne
      exact ⟨_, List.mem_map_of_mem hv, (t, init v), List.mem_cons_self, rfl⟩
    · obtain ⟨e, he, rfl⟩ := List.mem_map.mp ht
      refine ⟨_, List.mem_map_of_mem (h.2 e he), (e.1, e.2.2), ?_, rfl⟩
      simp only [histOf]
      exact List.mem_cons_of_mem _ (List.mem_map.mpr ⟨e, List.mem_filter.mpr ⟨he, by simp⟩, rfl⟩)

theorem getD_eq' {β : Type} (l : List β) (d : β) {i : Nat} (h : i < l.length) : l.getD i d = l[i] :=
  (List.getElem_eq_getD d).symm

/-- the indices kept by `collapse`: the last one of each run of equal times -/
def keepIdx (ts : List Rat) : List Nat := (List.range ts.length).filter fun i => ts[i + 1]? != ts[i]?

theorem mem_keepIdx (ts : List Rat) (i : Nat) : i ∈ keepIdx ts ↔ i < ts.length ∧ ts[i + 1]? ≠ ts[i]? := by
  simp [keepIdx]

theorem sorted_getElem {ts : List Rat} (h : ts.Pairwise (· ≤ ·)) {i j : Nat} (hij : i ≤ j) (hj : j < ts.length) :
    ts[i]'(Nat.lt_of_le_of_lt hij hj) ≤ ts[j] := by
  rcases Nat.lt_or_eq_of_le hij with hlt | rfl
  · exact List.pairwise_iff_getElem.mp h i j _ hj hlt
  · exact le_refl _

theorem keep_lt {ts : List Rat} (h : ts.Pairwise (· ≤ ·)) {i j : Nat} (hi : i ∈ keepIdx ts) (hij : i < j)
    (hj : j < ts.length) : ts[i]'(Nat.lt_trans hij hj) < ts[j] := by
  obtain ⟨hil, hne⟩ := (mem_keepIdx ts i).mp hi
  have h1 : i + 1 < ts.length := Nat.lt_of_le_of_lt hij hj
  rw [List.getElem?_eq_getElem h1, List.getElem?_eq_getElem hil] at hne
  have hne' : ts[i] ≠ ts[i + 1] := fun e => hne (by rw [e])
  exact lt_of_lt_of_le (lt_of_le_of_ne (sorted_getElem h (Nat.le_succ i) h1) hne')
    (sorted_getElem h hij hj)

theorem keep_times_strict {ts : List Rat} (h : ts.Pairwise (· ≤ ·)) :
    ((keepIdx ts).map fun i => ts.getD i 0).Pairwise (· < ·) := by
  rw [List.pairwise_map]
  have hp : (keepIdx ts).Pairwise (· < ·) := List.Pairwise.sublist List.filter_sublist List.pairwise_lt_range
  refine List.Pairwise.imp_of_mem ?_ hp
  intro i j hi hj hij
  have hjl := ((mem_keepIdx ts j).mp hj).1
  have hil := ((mem_keepIdx ts i).mp hi).1
  rw [getD_eq' _ _ hil, getD_eq' _ _ hjl]
  exact keep_lt h hi hij hjl

theorem exists_keep_ge (ts : List Rat) : ∀ (d j : Nat) (hj : j < ts.length), ts.length - j ≤ d →
    ∃ i, i ∈ keepIdx ts ∧ ∃ hi : i < ts.length, ts[i] = ts[j]
  | 0, j, hj, hd => by omega
  | d + 1, j, hj, hd => by
    by_cases hk : j ∈ keepIdx ts
    · exact ⟨j, hk, hj, rfl⟩
    · rw [mem_keepIdx] at hk
      have hk' : ts[j + 1]? = ts[j]? := by
        by_contra hc; exact hk ⟨hj, hc⟩
      rw [List.getElem?_eq_getElem hj] at hk'
      have hj1 : j + 1 < ts.length := by
        by_contra hc
        rw [List.getElem?_eq_none (by omega)] at hk'
        cases hk'
      rw [List.getElem?_eq_getElem hj1] at hk'
      obtain ⟨i, hi, hil, e⟩ := exists_keep_ge ts d (j + 1) hj1 (by omega)
      exact ⟨i, hi, hil, e.trans (Option.some.inj hk')⟩

theorem keep_times_mem (ts : List Rat) (t : Rat) :
    t ∈ ((keepIdx ts).map fun i => ts.getD i 0) ↔ t ∈ ts := by
  constructor
  · intro h
    obtain ⟨i, hi, rfl⟩ := List.mem_map.mp h
    have hil := ((mem_keepIdx ts i).mp hi).1
    rw [getD_eq' _ _ hil]
    exact List.getElem_mem hil
  · intro h
    obtain ⟨j, hj, rfl⟩ := List.getElem_of_mem h
    obtain ⟨i, hi, hil, e⟩ := exists_keep_ge ts _ j hj (le_refl _)
    exact List.mem_map.mpr ⟨i, hi, by rw [getD_eq' _ _ hil, e]⟩

theorem keep_times_eq_allTimes (tmin : Rat) (init : Node → String) (nodes : List Node) (log : Log)
    (h : ValidLog tmin nodes log) (hne : nodes ≠ []) :
    ((keepIdx (tmin :: log.map (·.1))).map fun i => (tmin :: log.map (·.1)).getD i 0) =
      allTimes (histories tmin init log nodes) := by
  apply strict_ext _ _ (keep_times_strict h.1) (allTimes_strict _)
  intro x
  rw [keep_times_mem, mem_allTimes_histories tmin init nodes log h hne]

theorem upTo_keep (tmin : Rat) (nodes : List Node) (log : Log) (h : ValidLog tmin nodes log) (j : Nat)
    (hj : j ∈ keepIdx (tmin :: log.map (·.1))) :
    upTo log ((tmin :: log.map (·.1)).getD j 0) = j ∧ tmin ≤ (tmin :: log.map (·.1)).getD j 0 := by
  have hjl := ((mem_keepIdx _ j).mp hj).1
  rw [getD_eq' _ _ hjl]
  have hlen : (tmin :: log.map (·.1)).length = log.length + 1 := by simp
  constructor
  · unfold upTo
    apply filter_length_eq _ _ _ (by omega)
    · intro i hi hij
      have := sorted_getElem h.1 (show i + 1 ≤ j from hij) hjl
      simpa using this
    · intro i hi hji
      have := keep_lt h.1 hj (Nat.lt_succ_of_le hji) (by omega)
      simpa using this
  · have := sorted_getElem h.1 (Nat.zero_le j) hjl
    simpa using this

theorem countAt_histories (tmin : Rat) (init : Node → String) (log : Log) (sub : List Node) (s : String) (T : Rat) :
    countAt (histories tmin init log sub) T s =
      ((sub.filter fun v => statusAt (histOf tmin init log v) T == some s).length : Int) := by
  unfold countAt histories
  rw [List.filter_map, List.length_map]
  rfl

theorem collapse_arrays_cols (tmin : Rat) (init : Node → String) (nodes : List Node) (log : Log)
    (h : ValidLog tmin nodes log) (statuses : List String) :
    (collapse (arraysOf tmin init log nodes statuses)).cols =
      statuses.map fun s => (keepIdx (tmin :: log.map (·.1))).map fun j =>
        countAt (histories tmin init log nodes) ((tmin :: log.map (·.1)).getD j 0) s := by
  show List.map _ (List.map _ statuses) = _
  rw [List.map_map]
  apply List.map_congr_left
  intro s _
  show List.map _ (keepIdx (tmin :: log.map (·.1))) = _
  apply List.map_congr_left
  intro j hj
  have hjl := ((mem_keepIdx _ j).mp hj).1
  have hjl' : j < (List.range (log.length + 1)).length := by simpa using hjl
  obtain ⟨hu, hT⟩ := upTo_keep tmin nodes log h j hj
  rw [getD_eq' _ _ (by simpa using hjl'), List.getElem_map, List.getElem_range, countAt_histories]
  congr 2
  apply List.filter_congr
  intro v _
  rw [statusAt_histOf' tmin init nodes log h v _ hT, hu]
  by_cases e : statusAfter init log j v = s <;> simp [e]

/-- `summary()` of the histories is the arrays with equal-time rows collapsed to the last -/
theorem collapse_arraysOf (tmin : Rat) (init : Node → String) (nodes : List Node) (log : Log)
    (h : ValidLog tmin nodes log) (hne : nodes ≠ []) (statuses : List String) :
    collapse (arraysOf tmin init log nodes statuses) = summarySpec (histories tmin init log nodes) statuses := by
  have ht := keep_times_eq_allTimes tmin init nodes log h hne
  have hc := collapse_arrays_cols tmin init nodes log h statuses
  show (⟨_, _⟩ : Traj) = ⟨_, _⟩
  congr 1
  refine hc.trans ?_
  rw [← ht]
  simp only [List.map_map]
  rfl

end Invest
