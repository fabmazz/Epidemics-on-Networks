import EoNVerif.Gen.PrefMixGen
import EoNVerif.Proofs.GenHelp
import EoNVerif.Proofs.GenGlue2
import Mathlib.Data.List.Perm.Basic
/-!
C07d — lemmas: the Lean code GENERATED from `_dEBCM_pref_mix_` of `EoN/analytic.py` (Gen/PrefMixGen.lean, `GenPM`)
against the hand-written model `ODE.ebcmPrefMix` (Model/ODE2.lean).  Statements: Props/C07d.lean.

`loop1 … loop4` are the four loops of the generated function (`gen_unfold : … := rfl`); `thetaAL / phiRAL X ks` the dicts
built by loop 1; `pmStatus` the first error of loop 3 in iteration order; `pmResult` the returned array; the closed
form for all inputs is `gen_prefmix_closed_form` (Props/C07d.lean).
-/

namespace GenPMProofs
open PyGlue2 GenHelpProofs

/-- loop 1 of the generated code: reading θ_k, φR_k off the flat state -/
def loop1 (X : Gen.V) (ks : List Nat) : Except String (List (Nat × Rat) × List (Nat × Rat)) :=
  (PyGlue2.enum ks).foldlM (fun (st_ : List (Nat × Rat) × List (Nat × Rat)) (ik_ : Nat × Nat) => do
      let (theta, phiR) := st_
      let index := ik_.1
      let k := ik_.2
      let x_202 ← PyPM.vidx X ((1 : Int) + ((2 : Int) * ((index : Nat) : Int)))
      let theta := alSet theta k x_202
      let x_203 ← PyPM.vidx X ((2 : Int) + ((2 : Int) * ((index : Nat) : Int)))
      let phiR := alSet phiR k x_203
      pure (theta, phiR)) ([], [])

/-! `loop2`, `inner`, `loop3`, `loop4`: copies of the generated text like `loop1`, kept in step with Gen/PrefMixGen.lean by
`gen_unfold : … := rfl` below (it breaks when the translator's output changes). -/

def loop2 (Pk theta : List (Nat × Rat)) : Except String Rat :=
  (Pk.map (·.1)).foldlM (fun (acc : Rat) (k : Nat) => do
      let d_304 ← PyRT.dictGet Pk k
      let d_305 ← PyRT.dictGet theta k
      let pw_306 ← PyGlue2.zpowE d_305 ((k : Nat) : Int)
      pure (acc + (d_304 * pw_306))) (0 : Rat)

def inner (Pnk : List (Nat × List (Nat × Rat))) (theta : List (Nat × Rat)) (k1 : Nat) (row : List (Nat × Rat)) :
    Except String Rat :=
  (row.map (·.1)).foldlM (fun (acc : Rat) (k2 : Nat) => do
          let row_506 ← PyRT.dictGet Pnk k1
          let d_507 ← PyRT.dictGet row_506 k2
          let d_508 ← PyRT.dictGet theta k2
          let pw_509 ← PyGlue2.zpowE d_508 (((k2 : Nat) : Int) - (1 : Int))
          pure (acc + (d_507 * pw_509))) (0 : Rat)

def loop3 (rho : Rat) (Pk : List (Nat × Rat)) (Pnk : List (Nat × List (Nat × Rat))) (theta phiR : List (Nat × Rat)) :
    Except String (List (Nat × Rat) × List (Nat × Rat)) :=
  (Pk.map (·.1)).foldlM (fun (st_ : List (Nat × Rat) × List (Nat × Rat)) (k1 : Nat) => do
      let (phiS, phiI) := st_
      let row_405 ← PyRT.dictGet Pnk k1
      let s_406 ← inner Pnk theta k1 row_405
      let phiS := alSet phiS k1 (((1 : Rat) - rho) * s_406)
      let d_407 ← PyRT.dictGet theta k1
      let d_408 ← PyRT.dictGet phiS k1
      let d_409 ← PyRT.dictGet phiR k1
      let phiI := alSet phiI k1 ((d_407 - d_408) - d_409)
      pure (phiS, phiI)) ([], [])

def loop4 (tau gamma : Rat) (ks : List Nat) (phiI : List (Nat × Rat)) (init : List Rat) : Except String (List Rat) :=
  ks.foldlM (fun (st_ : List Rat) (k : Nat) => do
      let returnval := st_
      let d_610 ← PyRT.dictGet phiI k
      let dthetak_dt : Rat := ((-tau) * d_610)
      let d_611 ← PyRT.dictGet phiI k
      let dphiRk_dt : Rat := (gamma * d_611)
      let returnval := returnval ++ [dthetak_dt, dphiRk_dt]
      pure returnval) init

theorem gen_unfold (X : Gen.V) (rho tau gamma : Rat) (Pk : List (Nat × Rat)) (Pnk : List (Nat × List (Nat × Rat))) :
    GenPM.dEBCM_pref_mix X rho tau gamma Pk Pnk = (do
      let R ← PyPM.vidx X (0 : Int)
      let (theta, phiR) ← loop1 X (sortNat (Pk.map (·.1)))
      let s ← loop2 Pk theta
      let (_, phiI) ← loop3 rho Pk Pnk theta phiR
      let rv ← loop4 tau gamma (sortNat (Pk.map (·.1))) phiI [gamma * (((1 : Rat) - ((1 : Rat) - rho) * s) - R)]
      pure (Gen.V.ofList rv)) := rfl
/-! ### `X[i]` for the indices that occur -/
theorem vidx_nat (X : Gen.V) (n : Nat) :
    PyPM.vidx X ((n : Nat) : Int) = if n < X.n then .ok (X.f n) else .error "IndexError" := by
  unfold PyPM.vidx
  have h1 : ¬ ((n : Int) < 0) := by omega
  by_cases h : n < X.n <;> simp [h, h1]

theorem vidx_zero (X : Gen.V) : PyPM.vidx X (0 : Int) = if 0 < X.n then .ok (X.f 0) else .error "IndexError" :=
  vidx_nat X 0

theorem vidx_odd (X : Gen.V) (i : Nat) :
    PyPM.vidx X ((1 : Int) + ((2 : Int) * ((i : Nat) : Int))) = if 1 + 2 * i < X.n then .ok (X.f (1 + 2 * i)) else .error "IndexError" := by
  have : (1 : Int) + 2 * (i : Int) = ((1 + 2 * i : Nat) : Int) := by push_cast; ring
  rw [this, vidx_nat]

theorem vidx_even (X : Gen.V) (i : Nat) :
    PyPM.vidx X ((2 : Int) + ((2 : Int) * ((i : Nat) : Int))) = if 2 + 2 * i < X.n then .ok (X.f (2 + 2 * i)) else .error "IndexError" := by
  have : (2 : Int) + 2 * (i : Int) = ((2 + 2 * i : Nat) : Int) := by push_cast; ring
  rw [this, vidx_nat]

/-! ### loop 1 -/
/-- the dicts `theta`, `phiR` built by loop 1 -/
def thetaAL (X : Gen.V) (ks : List Nat) : List (Nat × Rat) :=
  (PyGlue2.enum ks).foldl (fun acc ik => alSet acc ik.2 (X.f (1 + 2 * ik.1))) []
def phiRAL (X : Gen.V) (ks : List Nat) : List (Nat × Rat) :=
  (PyGlue2.enum ks).foldl (fun acc ik => alSet acc ik.2 (X.f (2 + 2 * ik.1))) []

theorem loop1_eq (X : Gen.V) (ks : List Nat) :
    loop1 X ks = if 2 * ks.length < X.n ∨ ks = [] then .ok (thetaAL X ks, phiRAL X ks) else .error "IndexError" := by
  unfold loop1
  rw [foldlM_guard _ (fun st ik => (alSet st.1 ik.2 (X.f (1 + 2 * ik.1)), alSet st.2 ik.2 (X.f (2 + 2 * ik.1))))
    (fun ik => 2 + 2 * ik.1 < X.n) "IndexError",
    foldl_pair (fun acc (ik : Nat × Nat) => alSet acc ik.2 (X.f (1 + 2 * ik.1)))
      (fun acc (ik : Nat × Nat) => alSet acc ik.2 (X.f (2 + 2 * ik.1)))]
  · refine if_congr ⟨fun h => ?_, fun h ik hik => ?_⟩ rfl rfl
    · -- the last index is the binding one
      rcases List.eq_nil_or_concat ks with rfl | ⟨t, a, rfl⟩
      · exact Or.inr rfl
      · have := h (t.length, a) ((mem_enum _ _).2 (by simp))
        rw [List.length_concat]
        omega
    · have := enum_lt ks ik hik
      rcases h with h | rfl
      · omega
      · simp at this
  · rintro ⟨i, k⟩ _ ⟨th, ph⟩
    simp only [vidx_odd, vidx_even]
    by_cases h2 : 2 + 2 * i < X.n
    · have h1 : 1 + 2 * i < X.n := by omega
      simp [h1, h2]
    · by_cases h1 : 1 + 2 * i < X.n <;> simp [h1, h2]

/-! ### `sorted(keys)` -/
/-- an invariant of the insertion fold of `PyGlue2.sortNat` (`filter (· ≤ x) ++ [x] ++ filter (· > x)`) -/
theorem sortNat_fold_head (l acc : List Nat) (h : 0 ∈ acc → acc.head? = some 0) :
    let r := l.foldl (fun acc x => (acc.filter (· ≤ x)) ++ [x] ++ (acc.filter (fun y => ¬ (y ≤ x)))) acc
    0 ∈ r → r.head? = some 0 := by
  induction l generalizing acc with
  | nil => exact h
  | cons x t ih =>
    rw [List.foldl_cons]
    apply ih
    intro h0
    by_cases ha : 0 ∈ acc
    · have := h ha
      cases acc with
      | nil => simp at ha
      | cons a s =>
        simp only [List.head?_cons, Option.some.injEq] at this
        subst this
        simp
    · rcases x with _ | x
      · have : acc.filter (fun y => decide (y ≤ 0)) = [] := by
          rw [List.filter_eq_nil_iff]
          intro y hy
          have : y ≠ 0 := fun e => ha (e ▸ hy)
          simp [this]
        rw [this]; simp
      · exfalso
        simp only [List.mem_append, List.mem_filter, List.mem_singleton] at h0
        rcases h0 with (h0 | h0) | h0
        · exact ha h0.1
        · cases h0
        · exact ha h0.1

theorem sortNat_idxOf_zero (l : List Nat) (h : 0 ∈ l) : (sortNat l).idxOf 0 = 0 := by
  have := sortNat_fold_head l [] (by simp) ((mem_sortNat l 0).2 h)
  change (sortNat l).head? = some 0 at this
  cases hs : sortNat l with
  | nil => rw [hs] at this; cases this
  | cons a t =>
    rw [hs] at this
    simp only [List.head?_cons, Option.some.injEq] at this
    subst this
    simp

/-! ### dicts built by `d[k] = v` in a loop -/
theorem fold_alSet_has {ι : Type} (key : ι → Nat) (val : ι → Rat) (l : List ι) (init : List (Nat × Rat)) (k : Nat) :
    alHas (l.foldl (fun acc x => alSet acc (key x) (val x)) init) k = true ↔ (alHas init k = true ∨ k ∈ l.map key) := by
  induction l generalizing init with
  | nil => simp
  | cons x t ih =>
    rw [List.foldl_cons, ih, alHas_alSet, List.map_cons, List.mem_cons, or_assoc]

theorem fold_alSet_get_notin {ι : Type} (key : ι → Nat) (val : ι → Rat) (l : List ι) (init : List (Nat × Rat)) (d : Rat)
    (k : Nat) (h : k ∉ l.map key) :
    alGet (l.foldl (fun acc x => alSet acc (key x) (val x)) init) d k = alGet init d k := by
  induction l generalizing init with
  | nil => rfl
  | cons x t ih =>
    simp only [List.map_cons, List.mem_cons, not_or] at h
    rw [List.foldl_cons, ih _ h.2, alGet_alSet_ne _ _ _ _ _ h.1]

theorem fold_alSet_get {ι : Type} (key : ι → Nat) (val : ι → Rat) (l : List ι) (init : List (Nat × Rat)) (d : Rat)
    (hn : (l.map key).Nodup) (x : ι) (hx : x ∈ l) :
    alGet (l.foldl (fun acc x => alSet acc (key x) (val x)) init) d (key x) = val x := by
  induction l generalizing init with
  | nil => simp at hx
  | cons y t ih =>
    rw [List.map_cons, List.nodup_cons] at hn
    rw [List.foldl_cons]
    rcases List.mem_cons.1 hx with rfl | hx
    · rw [fold_alSet_get_notin _ _ _ _ _ _ hn.1, alGet_alSet_self]
    · exact ih _ hn.2 hx

theorem fold_alSet_get_key (val : Nat → Rat) (l : List Nat) (init : List (Nat × Rat)) (d : Rat) (k : Nat) (hk : k ∈ l) :
    alGet (l.foldl (fun acc x => alSet acc x (val x)) init) d k = val k := by
  induction l generalizing init with
  | nil => simp at hk
  | cons y t ih =>
    rw [List.foldl_cons]
    by_cases hkt : k ∈ t
    · exact ih _ hkt
    · rcases List.mem_cons.1 hk with rfl | hk
      · have := fold_alSet_get_notin id val t (alSet init k (val k)) d k (by simpa using hkt)
        simp only [id_eq] at this
        rw [this, alGet_alSet_self]
      · exact absurd hk hkt

/-- the dict `{k_i : X[o + 2i]}` built by loop 1 (`o = 1`: `theta`, `o = 2`: `phiR`) -/
theorem readAL_has (X : Gen.V) (o : Nat) (ks : List Nat) (k : Nat) :
    alHas ((PyGlue2.enum ks).foldl (fun acc ik => alSet acc ik.2 (X.f (o + 2 * ik.1))) []) k = true ↔ k ∈ ks := by
  rw [fold_alSet_has (fun ik : Nat × Nat => ik.2) (fun ik => X.f (o + 2 * ik.1)), enum_snd]
  simp [alHas]

theorem readAL_get (X : Gen.V) (o : Nat) (ks : List Nat) (hn : ks.Nodup) (d : Rat) (k : Nat) (h : k ∈ ks) :
    alGet ((PyGlue2.enum ks).foldl (fun acc ik => alSet acc ik.2 (X.f (o + 2 * ik.1))) []) d k
      = X.f (o + 2 * ks.idxOf k) := by
  have hi := List.idxOf_lt_length_iff.2 h
  have := fold_alSet_get (fun ik : Nat × Nat => ik.2) (fun ik => X.f (o + 2 * ik.1)) _ [] d
    (by rw [enum_snd]; exact hn) (ks.idxOf k, ks[ks.idxOf k]) ((mem_enum ks (_, _)).2 (List.getElem?_eq_getElem hi))
  rwa [List.getElem_idxOf] at this

theorem thetaAL_has (X : Gen.V) (ks : List Nat) (k : Nat) : alHas (thetaAL X ks) k = true ↔ k ∈ ks :=
  readAL_has X 1 ks k
theorem phiRAL_has (X : Gen.V) (ks : List Nat) (k : Nat) : alHas (phiRAL X ks) k = true ↔ k ∈ ks :=
  readAL_has X 2 ks k
theorem thetaAL_get_idx (X : Gen.V) (ks : List Nat) (hn : ks.Nodup) (d : Rat) (k : Nat) (h : k ∈ ks) :
    alGet (thetaAL X ks) d k = X.f (1 + 2 * ks.idxOf k) := readAL_get X 1 ks hn d k h
theorem phiRAL_get_idx (X : Gen.V) (ks : List Nat) (hn : ks.Nodup) (d : Rat) (k : Nat) (h : k ∈ ks) :
    alGet (phiRAL X ks) d k = X.f (2 + 2 * ks.idxOf k) := readAL_get X 2 ks hn d k h

/-! ### powers -/
/-- `x ** (k − 1)` as Python computes it when it does not raise (the same function as `ODE.powPred` of
Model/PrefMixDiscrete.lean, which this file does not import) -/
def powm1 (x : Rat) (k : Nat) : Rat := if k = 0 then 1 / x else x ^ (k - 1)

theorem zpowE_nat (x : Rat) (k : Nat) : PyGlue2.zpowE x ((k : Nat) : Int) = .ok (x ^ k) := by
  simp [PyGlue2.zpowE]

theorem zpowE_pred (x : Rat) (k : Nat) :
    PyGlue2.zpowE x (((k : Nat) : Int) - (1 : Int)) =
      if k = 0 ∧ x = 0 then .error "ZeroDivisionError" else .ok (powm1 x k) :=
  GenHelpProofs.zpowE_pred x k

theorem powm1_pos (x : Rat) (k : Nat) (h : k ≠ 0) : powm1 x k = x ^ (k - 1) := by simp [powm1, h]

/-! ### loop 2: `S = (1-rho) * sum(Pk[k] * theta[k]**k for k in Pk.keys())` never raises -/
def sSum (Pk theta : List (Nat × Rat)) : Rat :=
  sumRat ((Pk.map (·.1)).map fun k => alGet Pk 0 k * alGet theta 0 k ^ k)

theorem loop2_eq (Pk theta : List (Nat × Rat)) (hth : ∀ k ∈ Pk.map (·.1), alHas theta k = true) :
    loop2 Pk theta = .ok (sSum Pk theta) := by
  unfold loop2 sSum
  rw [fold_keys_ok _ (fun k => alGet Pk 0 k * alGet theta 0 k ^ k)]
  · simp
  · intro k hk acc
    rw [dictGet_of_has Pk k 0 (alHas_of_mem_keys Pk k hk), dictGet_of_has theta k 0 (hth k hk)]
    simp only [ok_bind, zpowE_nat, pure_eq_ok]

/-! ### loop 3 -/
/-- what reading the entry `k2` of a row raises -/
def rowErr (theta : List (Nat × Rat)) (k2 : Nat) : Option String :=
  if alHas theta k2 = true then (if k2 = 0 ∧ alGet theta 0 k2 = 0 then some "ZeroDivisionError" else none)
  else some "KeyError"

/-- `sum(Pnk[k1][k2] * theta[k2]**(k2-1) for k2 in Pnk[k1].keys())` -/
def rowSum (theta row : List (Nat × Rat)) : Rat :=
  sumRat ((row.map (·.1)).map fun k2 => alGet row 0 k2 * powm1 (alGet theta 0 k2) k2)

theorem inner_eq (Pnk : List (Nat × List (Nat × Rat))) (theta : List (Nat × Rat)) (k1 : Nat)
    (h : alHas Pnk k1 = true) :
    inner Pnk theta k1 (alGet Pnk [] k1) =
      match ((alGet Pnk [] k1).map (·.1)).findSome? (rowErr theta) with
      | some e => .error e
      | none => .ok (rowSum theta (alGet Pnk [] k1)) := by
  unfold inner rowSum
  rw [foldlM_first _ (fun acc k2 => acc + alGet (alGet Pnk [] k1) 0 k2 * powm1 (alGet theta 0 k2) k2) (rowErr theta)]
  · rw [foldl_add_sum, zero_add]; rfl
  · intro k2 hk2 acc
    rw [dictGet_of_has Pnk k1 [] h]
    simp only [ok_bind]
    rw [dictGet_of_has _ k2 0 (alHas_of_mem_keys _ k2 hk2)]
    simp only [ok_bind]
    unfold rowErr
    by_cases hth : alHas theta k2 = true
    · rw [dictGet_of_has theta k2 0 hth, if_pos hth]
      simp only [ok_bind, zpowE_pred]
      by_cases hz : k2 = 0 ∧ alGet theta 0 k2 = 0
      · rw [if_pos hz, if_pos hz]; rfl
      · rw [if_neg hz, if_neg hz]; rfl
    · have hth' : alHas theta k2 = false := by simpa using hth
      rw [dictGet_of_not_has theta k2 hth', if_neg hth]; rfl

/-- what pass `k1` of loop 3 raises -/
def keyErr (Pnk : List (Nat × List (Nat × Rat))) (theta : List (Nat × Rat)) (k1 : Nat) : Option String :=
  if alHas Pnk k1 = true then ((alGet Pnk [] k1).map (·.1)).findSome? (rowErr theta) else some "KeyError"

def phiSval (rho : Rat) (Pnk : List (Nat × List (Nat × Rat))) (theta : List (Nat × Rat)) (k1 : Nat) : Rat :=
  (1 - rho) * rowSum theta (alGet Pnk [] k1)
def phiIval (rho : Rat) (Pnk : List (Nat × List (Nat × Rat))) (theta phiR : List (Nat × Rat)) (k1 : Nat) : Rat :=
  alGet theta 0 k1 - phiSval rho Pnk theta k1 - alGet phiR 0 k1

theorem loop3_eq (rho : Rat) (Pk : List (Nat × Rat)) (Pnk : List (Nat × List (Nat × Rat))) (theta phiR : List (Nat × Rat))
    (hth : ∀ k ∈ Pk.map (·.1), alHas theta k = true) (hph : ∀ k ∈ Pk.map (·.1), alHas phiR k = true) :
    loop3 rho Pk Pnk theta phiR =
      match (Pk.map (·.1)).findSome? (keyErr Pnk theta) with
      | some e => .error e
      | none => .ok ((Pk.map (·.1)).foldl (fun acc k => alSet acc k (phiSval rho Pnk theta k)) [],
                     (Pk.map (·.1)).foldl (fun acc k => alSet acc k (phiIval rho Pnk theta phiR k)) []) := by
  unfold loop3
  rw [foldlM_first _ (fun st k => (alSet st.1 k (phiSval rho Pnk theta k), alSet st.2 k (phiIval rho Pnk theta phiR k)))
    (keyErr Pnk theta)]
  · rw [foldl_pair (fun acc k => alSet acc k (phiSval rho Pnk theta k))
      (fun acc k => alSet acc k (phiIval rho Pnk theta phiR k))]
    rfl
  · rintro k1 hk1 ⟨pS, pI⟩
    unfold keyErr
    by_cases hP : alHas Pnk k1 = true
    · rw [dictGet_of_has Pnk k1 [] hP, if_pos hP]
      simp only [ok_bind]
      rw [inner_eq Pnk theta k1 hP]
      cases hfs : ((alGet Pnk [] k1).map (·.1)).findSome? (rowErr theta) with
      | some e => rfl
      | none =>
        simp only [ok_bind]
        rw [dictGet_of_has theta k1 0 (hth k1 hk1), dictGet_of_has phiR k1 0 (hph k1 hk1)]
        simp only [ok_bind]
        rw [dictGet_of_has _ k1 0 ((alHas_alSet _ _ _ _).2 (Or.inr rfl))]
        simp only [ok_bind, alGet_alSet_self, pure_eq_ok]
        rfl
    · have hP' : alHas Pnk k1 = false := by simpa using hP
      rw [dictGet_of_not_has Pnk k1 hP', if_neg hP]; rfl

/-! ### loop 4 -/
theorem loop4_eq (tau gamma : Rat) (ks : List Nat) (phiI : List (Nat × Rat)) (init : List Rat)
    (h : ∀ k ∈ ks, alHas phiI k = true) :
    loop4 tau gamma ks phiI init = .ok (init ++ ks.flatMap fun k => [-tau * alGet phiI 0 k, gamma * alGet phiI 0 k]) := by
  unfold loop4
  rw [foldlM_ok_mem _ (fun st k => st ++ [-tau * alGet phiI 0 k, gamma * alGet phiI 0 k]), foldl_append_flatMap]
  intro k hk st
  rw [dictGet_of_has phiI k 0 (h k hk)]
  rfl

/-! ### the whole function -/

/-- the error raised after the state has been unpacked: the FIRST failing read in the order of the loops
(`k1` in `Pk.keys()` order, `k2` in `Pnk[k1].keys()` order) -/
def pmStatus (X : Gen.V) (Pk : List (Nat × Rat)) (Pnk : List (Nat × List (Nat × Rat))) : Option String :=
  (Pk.map (·.1)).findSome? (keyErr Pnk (thetaAL X (sortNat (Pk.map (·.1)))))

/-- the returned array when nothing raises -/
def pmResult (X : Gen.V) (rho tau gamma : Rat) (Pk : List (Nat × Rat)) (Pnk : List (Nat × List (Nat × Rat))) : Gen.V :=
  let ks := sortNat (Pk.map (·.1))
  let theta := thetaAL X ks
  let phiR := phiRAL X ks
  Gen.V.ofList ([gamma * ((1 - (1 - rho) * sSum Pk theta) - X.f 0)] ++
    ks.flatMap fun k => [-tau * phiIval rho Pnk theta phiR k, gamma * phiIval rho Pnk theta phiR k])

/-! ### when nothing raises / what is raised -/
section Status
variable (X : Gen.V) (Pk : List (Nat × Rat)) (Pnk : List (Nat × List (Nat × Rat)))

/-- every key of `Pk` has a row in `Pnk` -/
def RowsOK : Prop := ∀ k1 ∈ Pk.map (·.1), k1 ∈ Pnk.map (·.1)
/-- every key of a row `Pnk[k1]` (`k1` a key of `Pk`) is a key of `Pk` -/
def RowKeysOK : Prop := ∀ k1 ∈ Pk.map (·.1), ∀ k2 ∈ (alGet Pnk [] k1).map (·.1), k2 ∈ Pk.map (·.1)
/-- `theta[0]` as the generated code reads it -/
def theta0 : Rat := alGet (thetaAL X (sortNat (Pk.map (·.1)))) 0 0
/-- no `0.0 ** (-1)`: no row has the key 0, or θ_0 ≠ 0 -/
def NoZeroPow : Prop := ∀ k1 ∈ Pk.map (·.1), 0 ∈ (alGet Pnk [] k1).map (·.1) → theta0 X Pk ≠ 0

theorem rowErr_none_iff (theta : List (Nat × Rat)) (k2 : Nat) :
    rowErr theta k2 = none ↔ (alHas theta k2 = true ∧ ¬ (k2 = 0 ∧ alGet theta 0 k2 = 0)) := by
  unfold rowErr
  by_cases h : alHas theta k2 = true
  · by_cases h2 : k2 = 0 ∧ alGet theta 0 k2 = 0
    · rw [if_pos h, if_pos h2]
      constructor
      · intro hh; cases hh
      · intro hh; exact absurd h2 hh.2
    · rw [if_pos h, if_neg h2]; simp [h, h2]
  · simp [h]

theorem pmStatus_none_iff : pmStatus X Pk Pnk = none ↔ (RowsOK Pk Pnk ∧ RowKeysOK Pk Pnk ∧ NoZeroPow X Pk Pnk) := by
  unfold pmStatus RowsOK RowKeysOK NoZeroPow theta0
  rw [List.findSome?_eq_none_iff]
  constructor
  · intro h
    have h' : ∀ k1 ∈ Pk.map (·.1), alHas Pnk k1 = true ∧ ∀ k2 ∈ (alGet Pnk [] k1).map (·.1),
        rowErr (thetaAL X (sortNat (Pk.map (·.1)))) k2 = none := by
      intro k1 hk1
      have := h k1 hk1
      unfold keyErr at this
      by_cases hP : alHas Pnk k1 = true
      · rw [if_pos hP, List.findSome?_eq_none_iff] at this
        exact ⟨hP, this⟩
      · rw [if_neg hP] at this; cases this
    refine ⟨fun k1 hk1 => (mem_alKeys_iff Pnk k1).2 (h' k1 hk1).1, ?_, ?_⟩
    · intro k1 hk1 k2 hk2
      have := ((rowErr_none_iff _ _).1 ((h' k1 hk1).2 k2 hk2)).1
      exact (mem_sortNat _ _).1 ((thetaAL_has _ _ _).1 this)
    · intro k1 hk1 h0 hz
      exact ((rowErr_none_iff _ _).1 ((h' k1 hk1).2 0 h0)).2 ⟨rfl, hz⟩
  · rintro ⟨hr, hk, hz⟩ k1 hk1
    unfold keyErr
    rw [if_pos ((mem_alKeys_iff Pnk k1).1 (hr k1 hk1)), List.findSome?_eq_none_iff]
    intro k2 hk2
    rw [rowErr_none_iff]
    refine ⟨(thetaAL_has _ _ _).2 ((mem_sortNat _ _).2 (hk k1 hk1 k2 hk2)), ?_⟩
    rintro ⟨rfl, h0⟩
    exact hz k1 hk1 hk2 h0

/-- what an error of the `phiS` loop means: a KeyError comes from a missing row or a foreign row key, a
ZeroDivisionError from a row with the key 0 while θ_0 = 0 -/
theorem pmStatus_some (e : String) (h : pmStatus X Pk Pnk = some e) :
    (e = "KeyError" ∧ ¬ (RowsOK Pk Pnk ∧ RowKeysOK Pk Pnk)) ∨ (e = "ZeroDivisionError" ∧ ¬ NoZeroPow X Pk Pnk) := by
  obtain ⟨k1, hk1, h1⟩ := List.exists_of_findSome?_eq_some h
  unfold keyErr at h1
  by_cases hP : alHas Pnk k1 = true
  · rw [if_pos hP] at h1
    obtain ⟨k2, hk2, h2⟩ := List.exists_of_findSome?_eq_some h1
    unfold rowErr at h2
    by_cases hth : alHas (thetaAL X (sortNat (Pk.map (·.1)))) k2 = true
    · rw [if_pos hth] at h2
      split at h2
      · next hz =>
        obtain ⟨rfl, h0⟩ := hz
        cases h2
        exact Or.inr ⟨rfl, fun hn => hn k1 hk1 hk2 h0⟩
      · cases h2
    · rw [if_neg hth] at h2
      cases h2
      exact Or.inl ⟨rfl, fun hh => hth ((thetaAL_has _ _ _).2 ((mem_sortNat _ _).2 (hh.2 k1 hk1 k2 hk2)))⟩
  · rw [if_neg hP] at h1
    cases h1
    exact Or.inl ⟨rfl, fun hh => hP ((mem_alKeys_iff Pnk k1).1 (hh.1 k1 hk1))⟩

end Status

/-! ### the value against `ODE.ebcmPrefMix` -/

theorem sumRat_subset (G : Nat → Rat) (l2 : List Nat) :
    ∀ l1 : List Nat, l1.Nodup → (∀ k ∈ l1, k ∈ l2) → l2.Nodup → (∀ k ∈ l2, k ∉ l1 → G k = 0) →
      sumRat (l1.map G) = sumRat (l2.map G) := by
  intro l1 hn1 hs hn2 h0
  -- both are `sumTo K` of `G` cut off outside `l2`, for any `K` above `l2`
  have hK : ∀ k ∈ l2, k < l2.foldl max 0 + 1 := fun k hk => Nat.lt_succ_of_le ((Helpers.le_foldl_max l2 0).2 k hk)
  have e1 : ∀ c ∈ l1, G c = if c ∈ l2 then G c else 0 := fun c hc => (if_pos (hs c hc)).symm
  have e2 : ∀ c ∈ l2, G c = if c ∈ l2 then G c else 0 := fun c hc => (if_pos hc).symm
  rw [sumRat_map_congr l1 _ _ e1, sumRat_map_congr l2 _ _ e2,
    ← ODE.sumTo_eq_sumRat_of_support _ l1 hn1 (fun d hd => hK d (hs d hd)) _ (fun d hd => ?_),
    ← ODE.sumTo_eq_sumRat_of_support _ l2 hn2 hK _ (fun d hd => if_neg hd)]
  by_cases h : d ∈ l2
  · rw [if_pos h, h0 d h hd]
  · exact if_neg h

theorem getD_flatMap_pair (a b : Nat → Rat) (l : List Nat) (i : Nat) (h : i < l.length) :
    (l.flatMap fun k => [a k, b k]).getD (2 * i) 0 = a l[i] ∧
    (l.flatMap fun k => [a k, b k]).getD (2 * i + 1) 0 = b l[i] := by
  induction l generalizing i with
  | nil => simp at h
  | cons x t ih =>
    rcases i with _ | i
    · simp
    · have hi : i < t.length := Nat.lt_of_succ_lt_succ h
      have := ih i hi
      have e1 : 2 * (i + 1) = (2 * i) + 1 + 1 := by ring
      have e2 : 2 * (i + 1) + 1 = (2 * i + 1) + 1 + 1 := by ring
      simp only [List.flatMap_cons, List.cons_append, List.nil_append, e1, List.getD_cons_succ,
        List.getElem_cons_succ]
      exact this

theorem length_flatMap_pair (a b : Nat → Rat) (l : List Nat) :
    (l.flatMap fun k => [a k, b k]).length = 2 * l.length := by
  induction l with
  | nil => rfl
  | cons x t ih => simp only [List.flatMap_cons, List.length_append, ih, List.length_cons, List.length_nil]; ring

section Value
variable (X : Gen.V) (rho tau gamma : Rat) (Pk : List (Nat × Rat)) (Pnk : List (Nat × List (Nat × Rat)))

theorem pmResult_n : (pmResult X rho tau gamma Pk Pnk).n = 1 + 2 * (sortNat (Pk.map (·.1))).length := by
  simp only [pmResult, Gen.V.ofList_n, List.length_append, length_flatMap_pair, List.length_cons, List.length_nil]

theorem pmResult_f0 : (pmResult X rho tau gamma Pk Pnk).f 0 =
    gamma * ((1 - (1 - rho) * sSum Pk (thetaAL X (sortNat (Pk.map (·.1))))) - X.f 0) := rfl

theorem pmResult_f (i : Nat) (h : i < (sortNat (Pk.map (·.1))).length) :
    let ks := sortNat (Pk.map (·.1))
    (pmResult X rho tau gamma Pk Pnk).f (1 + 2 * i) = -tau * phiIval rho Pnk (thetaAL X ks) (phiRAL X ks) ks[i] ∧
    (pmResult X rho tau gamma Pk Pnk).f (2 + 2 * i) = gamma * phiIval rho Pnk (thetaAL X ks) (phiRAL X ks) ks[i] := by
  intro ks
  have := getD_flatMap_pair (fun k => -tau * phiIval rho Pnk (thetaAL X ks) (phiRAL X ks) k)
    (fun k => gamma * phiIval rho Pnk (thetaAL X ks) (phiRAL X ks) k) ks i h
  have e1 : 1 + 2 * i = (2 * i) + 1 := by ring
  have e2 : 2 + 2 * i = (2 * i + 1) + 1 := by ring
  simp only [pmResult, Gen.V.ofList, List.singleton_append, e1, e2, List.getD_cons_succ]
  exact this

/-- θ_d, φR_d read off the flat state by the position of `d` among the sorted keys -/
def thetaF (ks : List Nat) (d : Nat) : Rat := X.f (1 + 2 * ks.idxOf d)
def phiRF (ks : List Nat) (d : Nat) : Rat := X.f (2 + 2 * ks.idxOf d)
/-- `Pk.get(d, 0)`, `Pnk.get(d, {}).get(d', 0)` -/
def PkF (d : Nat) : Rat := alGet Pk 0 d
def PnkF (d d' : Nat) : Rat := alGet (alGet Pnk [] d) 0 d'

theorem sSum_eq (hn : (Pk.map (·.1)).Nodup) :
    sSum Pk (thetaAL X (sortNat (Pk.map (·.1)))) =
      sumRat ((sortNat (Pk.map (·.1))).map fun d => PkF Pk d * thetaF X (sortNat (Pk.map (·.1))) d ^ d) := by
  unfold sSum
  rw [← sumRat_perm ((sortNat_perm (Pk.map (·.1))).map _)]
  apply sumRat_map_congr
  intro d hd
  rw [thetaAL_get_idx X _ ((sortNat_nodup _).2 hn) 0 d hd]
  rfl

/-- `hz`: for `d' = 0` Python computes `θ_0 ** (−1)` (`powm1`), the model `θ_0 ^ (0 − 1) = θ_0 ^ 0 = 1` with exponents in ℕ;
they agree only if the coefficient is 0 or `θ_0 = 1` (counter-example: Props/C07d.lean, "without `hz`") -/
theorem phiIval_eq (hn : (Pk.map (·.1)).Nodup) (k1 : Nat) (hk1 : k1 ∈ Pk.map (·.1))
    (hrn : ((alGet Pnk [] k1).map (·.1)).Nodup)
    (hsub : ∀ k2 ∈ (alGet Pnk [] k1).map (·.1), k2 ∈ Pk.map (·.1))
    (hz : PnkF Pnk k1 0 = 0 ∨ thetaF X (sortNat (Pk.map (·.1))) 0 = 1) :
    let ks := sortNat (Pk.map (·.1))
    phiIval rho Pnk (thetaAL X ks) (phiRAL X ks) k1 =
      thetaF X ks k1 - (1 - rho) * sumRat (ks.map fun d' => PnkF Pnk k1 d' * thetaF X ks d' ^ (d' - 1)) - phiRF X ks k1 := by
  intro ks
  have hnk : ks.Nodup := (sortNat_nodup _).2 hn
  have hk1' : k1 ∈ ks := (mem_sortNat _ _).2 hk1
  unfold phiIval phiSval rowSum
  rw [thetaAL_get_idx X ks hnk 0 k1 hk1', phiRAL_get_idx X ks hnk 0 k1 hk1']
  have hs : sumRat (((alGet Pnk [] k1).map (·.1)).map fun k2 => alGet (alGet Pnk [] k1) 0 k2 * powm1 (alGet (thetaAL X ks) 0 k2) k2)
      = sumRat (((alGet Pnk [] k1).map (·.1)).map fun d' => PnkF Pnk k1 d' * thetaF X ks d' ^ (d' - 1)) := by
    apply sumRat_map_congr
    intro k2 hk2
    rw [thetaAL_get_idx X ks hnk 0 k2 ((mem_sortNat _ _).2 (hsub k2 hk2))]
    change PnkF Pnk k1 k2 * powm1 (thetaF X ks k2) k2 = _
    by_cases h0 : k2 = 0
    · subst h0
      rcases hz with hz | hz
      · rw [hz]; simp
      · rw [hz]; simp [powm1]
    · rw [powm1_pos _ _ h0]
  rw [hs, sumRat_subset (fun d' => PnkF Pnk k1 d' * thetaF X ks d' ^ (d' - 1)) ks _ hrn
    (fun k hk => (mem_sortNat _ _).2 (hsub k hk)) hnk]
  · rfl
  · intro k _ hk
    have : PnkF Pnk k1 k = 0 := alGet_of_not_key _ 0 k hk
    simp [this]
end Value

end GenPMProofs

/-! ### a hand copy of the initial condition built by the first loop of `EBCM_pref_mix` (the generated entry point and its
`x0`: Props/C06iEffDeg.lean) -/
namespace GenPMGlue
open GenHelpProofs

/-- `[0, 1, 0, 1, 0, …]`: one `R`, then `θ_k = 1`, `φR_k = 0` per key -/
def pmIC (ks : List Nat) : List Rat := ks.foldl (fun s _ => s ++ [1, 0]) [0]

theorem pmIC_length (ks : List Nat) : (pmIC ks).length = 1 + 2 * ks.length := by
  rw [pmIC, foldl_append_flatMap, List.length_append, GenPMProofs.length_flatMap_pair]; rfl

end GenPMGlue
