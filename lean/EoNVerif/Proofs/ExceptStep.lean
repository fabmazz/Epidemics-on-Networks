/-!
One statement of a program in `Except`: a generated function is a chain `a >>= fun x => …`, and a proof walks down the
chain one Python statement at a time (`TM.bind_ok` of `Proofs/TapeStep.lean` is the same step in the tape monad).  Imports
nothing.  The names are also reachable as `GenStep.…`, `GenHelpProofs.…` and through the `export` lines of GenGlue2 and GenWrap.
-/
namespace ExceptStep

@[simp] theorem ok_bind {ε α β : Type} (a : α) (f : α → Except ε β) : (Except.ok a >>= f) = f a := rfl
@[simp] theorem err_bind {ε α β : Type} (e : ε) (f : α → Except ε β) :
    ((Except.error e : Except ε α) >>= f) = .error e := rfl
@[simp] theorem pure_eq_ok {ε α : Type} (a : α) : (pure a : Except ε α) = .ok a := rfl

/-- one statement of a generated `do` block whose result is known: the continuation is found by unification and never
inspected (`refine (bind_ok h _).trans ?_`) -/
theorem bind_ok {ε α β : Type} {a : Except ε α} {x : α} (h : a = .ok x) (f : α → Except ε β) : a >>= f = f x := by
  rw [h]; rfl

theorem bind_err {ε α β : Type} {a : Except ε α} {e : ε} (h : a = .error e) (f : α → Except ε β) :
    a >>= f = .error e := by rw [h]; rfl

theorem bind_ok_inv {ε α β : Type} (m : Except ε α) (k : α → Except ε β) (l : β) (h : (m >>= k) = .ok l) :
    ∃ r, m = .ok r ∧ k r = .ok l := by
  cases m with
  | error e => cases h
  | ok r => exact ⟨r, rfl, h⟩

end ExceptStep
