import EoNVerif.Proofs.EventSIRLoop
import Mathlib.Data.List.Nodup
/-!
A state satisfying the invariant with an empty queue passes `isFPP`.
-/
namespace EventSIR

theorem nodup_filter_le_one {α : Type} {l : List α} (hn : l.Nodup) (p : α → Bool)
    (heq : ∀ x ∈ l, ∀ y ∈ l, p x = true → p y = true → x = y) : (l.filter p).length ≤ 1 := by
  have hn' : (l.filter p).Nodup := hn.filter _
  match hf : l.filter p with
  | [] => simp
  | [a] => simp
  | a :: b :: t =>
    exfalso
    rw [hf] at hn'
    have ha : a ∈ l.filter p := by rw [hf]; simp
    have hb : b ∈ l.filter p := by rw [hf]; simp
    rw [List.mem_filter] at ha hb
    have := heq a ha.1 b hb.1 ha.2 hb.2
    subst this
    simp at hn'

section Final
variable {nodes : List Node} {nbrs : Node → List Node} {delay : Node → Node → ERat} {dur : Node → ERat}
  {tmin : Rat} {tmax : ERat} {infs recs : List Node}

theorem mem_recoveriesOf {s : ESState} {t : Rat} {v : Node} :
    (t, v) ∈ recoveriesOf nodes recs s ↔ v ∈ nodes ∧ s.status v = St.R ∧ v ∉ recs ∧ s.recTime v = some t := by
  unfold recoveriesOf
  simp only [List.mem_filterMap]
  constructor
  · rintro ⟨a, ha, hf⟩
    split at hf
    · rename_i hc
      split at hf
      · rename_i t' ht'
        simp only [Option.some.injEq, Prod.mk.injEq] at hf
        obtain ⟨rfl, rfl⟩ := hf
        exact ⟨ha, hc.1, hc.2, ht'⟩
      · cases hf
    · cases hf
  · rintro ⟨h1, h2, h3, h4⟩
    exact ⟨v, h1, by rw [if_pos ⟨h2, h3⟩, h4]⟩

theorem recoveriesOf_snd {s : ESState} {e : Rat × Node} (he : e ∈ recoveriesOf nodes recs s) :
    e.2 ∈ nodes ∧ s.status e.2 = St.R ∧ e.2 ∉ recs ∧ s.recTime e.2 = some e.1 :=
  mem_recoveriesOf.1 he

theorem recoveriesOf_nodup (hn : nodes.Nodup) (s : ESState) : (recoveriesOf nodes recs s).Nodup := by
  unfold recoveriesOf
  apply List.Nodup.filterMap _ hn
  intro a a' b hb hb'
  have key : ∀ a : Node, b ∈ (if s.status a = St.R ∧ a ∉ recs then
      (match s.recTime a with | some t => some (t, a) | none => none) else none) → b.2 = a := by
    intro a hb
    split at hb
    · split at hb
      · simp only [Option.mem_def, Option.some.injEq] at hb; rw [← hb]
      · cases hb
    · cases hb
  rw [← key a hb, ← key a' hb']

variable {s : ESState}

theorem Inv.find_some (hI : Inv nodes nbrs delay dur tmin tmax infs recs s) {e : TEv} (he : e ∈ s.trans) :
    (s.trans.find? fun e' => e'.2.2 == e.2.2) = some e := by
  cases hf : s.trans.find? fun e' => e'.2.2 == e.2.2 with
  | none =>
    rw [List.find?_eq_none] at hf
    have := hf e he
    simp at this
  | some e' =>
    have h1 := List.find?_some hf
    have h2 := List.mem_of_find?_eq_some hf
    simp only [beq_iff_eq] at h1
    rw [List.inj_on_of_nodup_map hI.tr_nodup h2 he h1]

theorem trans_find_none (v : Node) (hv : ∀ e ∈ s.trans, e.2.2 ≠ v) :
    (s.trans.find? fun e' => e'.2.2 == v) = none := by
  rw [List.find?_eq_none]
  intro e he
  simpa using hv e he

theorem Inv.trans_once (hI : Inv nodes nbrs delay dur tmin tmax infs recs s) (v : Node) :
    (s.trans.filter fun e => e.2.2 == v).length ≤ 1 := by
  apply nodup_filter_le_one (List.Nodup.of_map _ hI.tr_nodup)
  intro x hx y hy hxv hyv
  simp only [beq_iff_eq] at hxv hyv
  exact List.inj_on_of_nodup_map hI.tr_nodup hx hy (by rw [hxv, hyv])

theorem Inv.trans_ge (h : WF nodes nbrs delay dur infs recs) (hI : Inv nodes nbrs delay dur tmin tmax infs recs s)
    {e : TEv} (he : e ∈ s.trans) : ERat.le (fppTime nodes nbrs delay dur tmin infs recs e.2.2) (some e.1) = true := by
  obtain ⟨p, hp⟩ := hI.tr_walk e he
  exact fppTime_le_walk h hp

theorem Inv.isFPP (h : WF nodes nbrs delay dur infs recs) (hI : Inv nodes nbrs delay dur tmin tmax infs recs s)
    (hq : s.queue = []) :
    isFPP nodes nbrs delay dur tmin tmax infs recs s.trans (recoveriesOf nodes recs s) = true := by
  have hIq : InvC nodes nbrs delay dur tmin tmax infs recs s.status s.recTime s.predInf [] s.trans := by
    have := hI; unfold Inv at this; rwa [hq] at this
  -- every node with a first-passage time before tmax is reported, at that time
  have hrep : ∀ v t, fppTime nodes nbrs delay dur tmin infs recs v = some t → ERat.lt (some t) tmax = true →
      ∃ e ∈ s.trans, e.2.2 = v ∧ e.1 = t := by
    intro v t hv hlt
    obtain ⟨p, hp⟩ := fppTime_walk hv
    obtain ⟨e, he, hev, hle⟩ := hIq.claim h (t + 1) (by simp) hp (by linarith) hlt
    refine ⟨e, he, hev, le_antisymm hle ?_⟩
    have := hI.trans_ge h he
    rw [hev, hv] at this
    simpa using this
  have hnotS : ∀ e ∈ s.trans, s.status e.2.2 ≠ St.S := by
    intro e he hs
    exact ((hI.st_S e.2.2).1 hs).2 e he rfl
  have hnr : ∀ e ∈ s.trans, e.2.2 ∉ recs := by
    intro e he
    obtain ⟨p, hp⟩ := hI.tr_walk e he
    exact TW.not_recs hp
  have hnorec : ∀ v, (s.status v = St.R → v ∉ recs → False) →
      (!(recoveriesOf nodes recs s).any fun e => e.2 == v) = true := by
    intro v hv
    rw [Bool.not_eq_true', List.any_eq_false]
    intro e he heq
    simp only [beq_iff_eq] at heq
    obtain ⟨_, g1, g2, _⟩ := recoveriesOf_snd he
    rw [heq] at g1 g2
    exact hv g1 g2
  unfold EventSIR.isFPP
  simp only [Bool.and_eq_true, List.all_eq_true]
  refine ⟨?_, ?_⟩
  · intro v hvn
    refine ⟨⟨⟨?_, ?_⟩, ?_⟩, ?_⟩
    · -- reported iff fppTime < tmax, at that time
      cases hT : fppTime nodes nbrs delay dur tmin infs recs v with
      | none =>
        simp only
        rw [trans_find_none v]; · rfl
        intro e he hev
        have := hI.trans_ge h he
        rw [hev, hT] at this; simp at this
      | some t =>
        simp only
        split
        · rename_i hlt
          obtain ⟨e, he, hev, het⟩ := hrep v t hT hlt
          have := hI.find_some he
          rw [hev] at this
          rw [this, ← het]; simp
        · rename_i hlt
          rw [trans_find_none v]; · rfl
          intro e he hev
          have h1 := hI.trans_ge h he
          rw [hev, hT] at h1
          exact hlt (ERat.lt_of_le_of_lt h1 (hI.tr_lt e he))
    · -- at most one report
      exact decide_eq_true (hI.trans_once v)
    · -- at most one recovery
      rw [decide_eq_true_eq]
      apply nodup_filter_le_one (recoveriesOf_nodup h.nodup s)
      intro x hx y hy hxv hyv
      simp only [beq_iff_eq] at hxv hyv
      obtain ⟨_, _, _, g1⟩ := recoveriesOf_snd hx
      obtain ⟨_, _, _, g2⟩ := recoveriesOf_snd hy
      rw [hxv] at g1; rw [hyv, g1] at g2
      injection g2 with g2
      exact Prod.ext g2 (by rw [hxv, hyv])
    · -- recovery
      cases hf : s.trans.find? fun e => e.2.2 == v with
      | none =>
        simp only [Option.map_none, Bool.or_eq_true]
        by_cases hvr : v ∈ recs
        · right; simpa using hvr
        · left
          apply hnorec
          intro hR _
          rw [List.find?_eq_none] at hf
          have : s.status v = St.S := by
            rw [hI.st_S]
            exact ⟨hvr, fun e he hev => by simpa [hev] using hf e he⟩
          rw [this] at hR; cases hR
      | some e =>
        have he := List.mem_of_find?_eq_some hf
        have hev : e.2.2 = v := by simpa using List.find?_some hf
        have hrt := hI.rec_time e he
        rw [hev] at hrt
        simp only [Option.map_some]
        cases hr : ERat.add (some e.1) (dur v) with
        | none =>
          simp only
          apply hnorec
          intro hR hvr
          obtain ⟨r, g, _⟩ := hI.rec_R v hR hvr
          rw [hrt, hr] at g; cases g
        | some r =>
          simp only
          split
          · rename_i hlt
            rw [List.contains_iff_mem, mem_recoveriesOf]
            refine ⟨hvn, ?_, hev ▸ hnr e he, by rw [hrt, hr]⟩
            have hns := hnotS e he
            rw [hev] at hns
            cases hst : s.status v with
            | S => exact absurd hst hns
            | I =>
              have := hIq.rec_I v r hst (by rw [hrt, hr]) hlt
              simp at this
            | R => rfl
          · rename_i hlt
            apply hnorec
            intro hR hvr
            obtain ⟨r', g, g'⟩ := hI.rec_R v hR hvr
            rw [hrt, hr] at g
            injection g with g; subst g
            exact hlt g'
  · -- every reported transmission is along a kept edge from a reported node
    intro e he
    have hsrc := hI.tr_src e he
    obtain ⟨t, src, v⟩ := e
    cases src with
    | none =>
      obtain ⟨h1, h2⟩ := hsrc
      simp only at h1 h2 ⊢
      simp [h1, h2]
    | some u =>
      obtain ⟨h1, eu, heu, hu, hadd⟩ := hsrc
      simp only at h1 hadd ⊢
      have hfu := hI.find_some heu
      rw [hu] at hfu
      rw [hfu]
      have hur : u ∉ recs := hu ▸ hnr eu heu
      simp [h1, hur, hadd]

end Final

end EventSIR
