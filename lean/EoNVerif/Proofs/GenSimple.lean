import EoNVerif.Gen.SimpleGen
import EoNVerif.Proofs.GenComplex
import EoNVerif.Proofs.Simple2
/-!
Refinement (C03b): the Lean code GENERATED statement by statement from `Gillespie_simple_contagion`
(`EoNVerif/Gen/SimpleGen.lean`, namespace `GenSC`) and the hand-written model (`EoNVerif/Model/Simple.lean`) compute
related results on EVERY tape state: both fail, or both return, with the same final tape state and related states
(`GenSC.Rel`).

The generated code keeps one `_ListDict_` per transition in the dict `potential_transitions`, the model one per
position of `ptS`/`ptI`.  A statement on `potential_transitions[k]` is matched with the model's operation on the
structure of that key (`St`, `Evo`: nothing but that entry and `get_weight` changes); a loop over neighbours with the
model's batch for one transition (`nbrFold`); a loop over the transitions with the model's `mapPT` (`keyFold`).  The
body of the `while` loop is cut into stages (`iter`, `stage2` … `stage5`, equal to the generated body by `rfl`), each
matched with its part of `Simple.loop`.
-/

set_option linter.unusedSectionVars false

/-! ### association lists, `get_weight` tables -/
section AL2
variable {κ ν : Type} [DecidableEq κ]

theorem find_alSet_self (d : List (κ × ν)) (k : κ) (v : ν) : PyRT.alFind? (alSet d k v) k = some v := by
  rw [alFind?_alSet, if_pos rfl]

theorem find_alSet_ne (d : List (κ × ν)) (k k' : κ) (v : ν) (h : k' ≠ k) :
    PyRT.alFind? (alSet d k v) k' = PyRT.alFind? d k' := by
  rw [alFind?_alSet, if_neg h]

theorem find_alSet_same (d : List (κ × ν)) (k k' : κ) (v : ν)
    (h : PyRT.alFind? d k = some v) : PyRT.alFind? (alSet d k v) k' = PyRT.alFind? d k' := by
  rw [alFind?_alSet]
  split
  · rename_i hk; rw [hk, h]
  · rfl

end AL2

namespace GenSC
variable {τ : Type} [DecidableEq τ]

abbrev GW (τ : Type) := List (PyTM.Tr τ × List (Actor × Option Rat))
abbrev PT (τ : Type) := List (PyTM.Tr τ × GenLD.PyLD Actor)

/-- the value `get_weight[t][k]` would return (a missing entry reads as `None`) -/
def gwVal (g : GW τ) (t : PyTM.Tr τ) (k : Actor) : Option Rat := alGet (alGet g [] t) none k

theorem gwHas_def (g : GW τ) (t : PyTM.Tr τ) (k : Actor) : PyTM.gwHas g t k = alHas (alGet g [] t) k := rfl

theorem gwRead_fst (g : GW τ) (t : PyTM.Tr τ) (k : Actor) : (PyTM.gwRead g t k).1 = gwVal g t k := by
  unfold PyTM.gwRead gwVal
  dsimp only
  split
  · rfl
  · rename_i h
    exact (alGet_of_not_alHas _ _ _ (alHas_eq_false_of_not _ _ h)).symm

theorem gwVal_gwRead (g : GW τ) (t t' : PyTM.Tr τ) (k k' : Actor) :
    gwVal (PyTM.gwRead g t k).2 t' k' = gwVal g t' k' := by
  unfold PyTM.gwRead gwVal
  dsimp only
  split
  · rfl
  · rename_i h
    dsimp only
    rw [alGet_alSet]
    by_cases ht : t' = t
    · subst ht
      rw [if_pos rfl, alGet_alSet]
      by_cases hk : k' = k
      · subst hk
        rw [if_pos rfl, alGet_of_not_alHas _ _ _ (alHas_eq_false_of_not _ _ h)]
      · rw [if_neg hk]
    · rw [if_neg ht]

theorem gwHas_gwRead (g : GW τ) (t t' : PyTM.Tr τ) (k k' : Actor) (h : PyTM.gwHas g t' k' = true) :
    PyTM.gwHas (PyTM.gwRead g t k).2 t' k' = true := by
  unfold PyTM.gwRead
  dsimp only
  split
  · exact h
  · dsimp only
    rw [gwHas_def, alGet_alSet]
    by_cases ht : t' = t
    · subst ht
      rw [if_pos rfl, alHas_alSet_bool, ← gwHas_def, h]; rfl
    · rw [if_neg ht]; exact h

theorem gwVal_gwSet (g : GW τ) (t t' : PyTM.Tr τ) (k k' : Actor) (v : Option Rat) :
    gwVal (PyTM.gwSet g t k v) t' k' = if t' = t ∧ k' = k then v else gwVal g t' k' := by
  unfold PyTM.gwSet gwVal
  rw [alGet_alSet]
  by_cases ht : t' = t
  · subst ht
    rw [if_pos rfl, alGet_alSet]
    by_cases hk : k' = k
    · rw [if_pos hk, if_pos ⟨rfl, hk⟩]
    · rw [if_neg hk, if_neg (fun hc => hk hc.2)]
  · rw [if_neg ht, if_neg (fun hc => ht hc.1)]

theorem gwHas_gwSet (g : GW τ) (t t' : PyTM.Tr τ) (k k' : Actor) (v : Option Rat)
    (h : PyTM.gwHas g t' k' = true) : PyTM.gwHas (PyTM.gwSet g t k v) t' k' = true := by
  unfold PyTM.gwSet
  rw [gwHas_def, alGet_alSet]
  by_cases ht : t' = t
  · subst ht
    rw [if_pos rfl, alHas_alSet_bool, ← gwHas_def, h]; rfl
  · rw [if_neg ht]; exact h

/-! ### keys of the transitions -/

def keyS (tr : SpontTr τ) : τ × τ := (tr.src, tr.dst)
def keyI (tr : IndTr τ) : (τ × τ) × (τ × τ) := ((tr.a, tr.b), (tr.a, tr.c))
def kS (tr : SpontTr τ) : PyTM.Tr τ := Sum.inl (keyS tr)
def kI (tr : IndTr τ) : PyTM.Tr τ := Sum.inr (keyI tr)

/-- **invariant of `get_weight`**: for a weighted transition every node (ordered neighbour pair) is stored with the
tabulated weight; for an unweighted one every read returns `None` -/
structure GWInv (P : SCParams τ) (g : GW τ) : Prop where
  spontW : ∀ tr ∈ P.spont, ∀ f, tr.w = some f → ∀ u ∈ P.nodes,
    PyTM.gwHas g (kS tr) [u] = true ∧ gwVal g (kS tr) [u] = some (f u)
  spontU : ∀ tr ∈ P.spont, tr.w = none → ∀ a, gwVal g (kS tr) a = none
  indW : ∀ tr ∈ P.ind, ∀ f, tr.w = some f → ∀ u ∈ P.nodes, ∀ v ∈ P.succ u,
    PyTM.gwHas g (kI tr) [u, v] = true ∧ gwVal g (kI tr) [u, v] = some (f u v)
  indU : ∀ tr ∈ P.ind, tr.w = none → ∀ a, gwVal g (kI tr) a = none

theorem GWInv.mono {P : SCParams τ} {g g' : GW τ} (h : GWInv P g)
    (hkeep : ∀ t k, PyTM.gwHas g t k = true → PyTM.gwHas g' t k = true ∧ gwVal g' t k = gwVal g t k)
    (hnone : ∀ t, (∀ a, gwVal g t a = none) → ∀ a, gwVal g' t a = none) : GWInv P g' where
  spontW tr htr f hf u hu := by
    obtain ⟨h1, h2⟩ := h.spontW tr htr f hf u hu
    exact ⟨(hkeep _ _ h1).1, (hkeep _ _ h1).2.trans h2⟩
  spontU tr htr hf := hnone _ (h.spontU tr htr hf)
  indW tr htr f hf u hu v hv := by
    obtain ⟨h1, h2⟩ := h.indW tr htr f hf u hu v hv
    exact ⟨(hkeep _ _ h1).1, (hkeep _ _ h1).2.trans h2⟩
  indU tr htr hf := hnone _ (h.indU tr htr hf)

theorem GWInv.read {P : SCParams τ} {g : GW τ} (h : GWInv P g) (t : PyTM.Tr τ) (k : Actor) :
    GWInv P (PyTM.gwRead g t k).2 :=
  h.mono (fun _ _ h1 => ⟨gwHas_gwRead _ _ _ _ _ h1, gwVal_gwRead _ _ _ _ _⟩)
    (fun _ h1 a => by rw [gwVal_gwRead]; exact h1 a)

theorem GWInv.readS {P : SCParams τ} {g : GW τ} (h : GWInv P g) (tr : SpontTr τ) (htr : tr ∈ P.spont) (u : Node)
    (hu : u ∈ P.nodes) : (PyTM.gwRead g (kS tr) [u]).1 = Simple.wS tr u := by
  rw [gwRead_fst]
  cases hf : tr.w with
  | none => rw [h.spontU tr htr hf]; simp [Simple.wS, hf]
  | some f => rw [(h.spontW tr htr f hf u hu).2, Simple.wS_some tr f hf]

theorem GWInv.readI {P : SCParams τ} {g : GW τ} (h : GWInv P g) (tr : IndTr τ) (htr : tr ∈ P.ind) (u v : Node)
    (hu : u ∈ P.nodes) (hv : v ∈ P.succ u) : (PyTM.gwRead g (kI tr) [u, v]).1 = Simple.wI tr u v := by
  rw [gwRead_fst]
  cases hf : tr.w with
  | none => rw [h.indU tr htr hf]; simp [Simple.wI, hf]
  | some f => rw [(h.indW tr htr f hf u hu v hv).2, Simple.wI_some tr f hf]

/-- the fill-in statement `if k not in get_weight[t]: get_weight[t][k] = get_weight[t][k2]` -/
theorem GWInv.fill {P : SCParams τ} {g : GW τ} (h : GWInv P g) (t : PyTM.Tr τ) (k k2 : Actor)
    (hk : PyTM.gwHas g t k = false) :
    GWInv P (PyTM.gwSet (PyTM.gwRead g t k2).2 t k (PyTM.gwRead g t k2).1) := by
  refine h.mono (fun t' k' h1 => ⟨gwHas_gwSet _ _ _ _ _ _ (gwHas_gwRead _ _ _ _ _ h1), ?_⟩) (fun t' h1 a => ?_)
  · rw [gwVal_gwSet, gwVal_gwRead, if_neg]
    rintro ⟨rfl, rfl⟩
    rw [hk] at h1; cases h1
  · rw [gwVal_gwSet, gwVal_gwRead, gwRead_fst]
    split
    · rename_i hc
      rw [← hc.1]; exact h1 k2
    · exact h1 a

/-! ### frames: statements that only touch `potential_transitions` and `get_weight` -/

def setPG (σ : Loc τ) (pt : PT τ) (gw : GW τ) : Loc τ :=
  { σ with potential_transitions := pt, get_weight := gw }

/-- `σ'` differs from `σ` only in `potential_transitions` and `get_weight` -/
def Frame (σ σ' : Loc τ) : Prop := σ' = setPG σ σ'.potential_transitions σ'.get_weight

theorem Frame.refl (σ : Loc τ) : Frame σ σ := rfl

theorem Frame.trans {σ σ1 σ2 : Loc τ} (h1 : Frame σ σ1) (h2 : Frame σ1 σ2) : Frame σ σ2 := by
  unfold Frame at *
  rw [h2, h1]; rfl

theorem Frame.setPG (σ : Loc τ) (pt : PT τ) (gw : GW τ) : Frame σ (setPG σ pt gw) := rfl

theorem Frame.status {σ σ' : Loc τ} (h : Frame σ σ') : σ'.status = σ.status := by rw [h]; rfl

def Other (k : PyTM.Tr τ) (σ σ' : Loc τ) : Prop :=
  ∀ k', k' ≠ k → PyRT.alFind? σ'.potential_transitions k' = PyRT.alFind? σ.potential_transitions k'

theorem Other.refl (k : PyTM.Tr τ) (σ : Loc τ) : Other k σ σ := fun _ _ => rfl

theorem Other.trans {k : PyTM.Tr τ} {σ σ1 σ2 : Loc τ} (h1 : Other k σ σ1) (h2 : Other k σ1 σ2) : Other k σ σ2 :=
  fun k' hk' => (h2 k' hk').trans (h1 k' hk')

/-- inside `GenSC` this name hides the status type `St` of `Basic.lean`: write `_root_.St` -/
structure St (P : SCParams τ) (k : PyTM.Tr τ) (σ : Loc τ) (ld : LD Actor) : Prop where
  find : ∃ p, PyRT.alFind? σ.potential_transitions k = some p ∧ GenLD.R p ld
  gw : GWInv P σ.get_weight
  inv : LD.Inv ld

structure Evo (P : SCParams τ) (k : PyTM.Tr τ) (σ σ' : Loc τ) (ld' : LD Actor) : Prop where
  frame : Frame σ σ'
  other : Other k σ σ'
  st : St P k σ' ld'

theorem Evo.refl {P : SCParams τ} {k : PyTM.Tr τ} {σ : Loc τ} {ld : LD Actor} (h : St P k σ ld) : Evo P k σ σ ld :=
  ⟨Frame.refl σ, Other.refl k σ, h⟩

theorem Evo.trans {P : SCParams τ} {k : PyTM.Tr τ} {σ σ1 σ2 : Loc τ} {ld1 ld2 : LD Actor}
    (h1 : Evo P k σ σ1 ld1) (h2 : Evo P k σ1 σ2 ld2) : Evo P k σ σ2 ld2 :=
  ⟨h1.frame.trans h2.frame, h1.other.trans h2.other, h2.st⟩

/-! ### the statements on `potential_transitions[k]` -/

/-- `potential_transitions[k].remove(x)` -/
def stRemove (σ : Loc τ) (k : PyTM.Tr τ) (x : Actor) : TM (Loc τ) := do
  let ld ← PyTM.liftE (PyRT.dictGet σ.potential_transitions k)
  let l ← PyTM.liftE (GenLD.remove ld x)
  let σ := { σ with potential_transitions := alSet σ.potential_transitions k l }
  pure σ

/-- `potential_transitions[k].update(x, weight_increment = get_weight[k][x])` -/
def stUpdate (σ : Loc τ) (k : PyTM.Tr τ) (x : Actor) : TM (Loc τ) := do
  let ld ← PyTM.liftE (PyRT.dictGet σ.potential_transitions k)
  let (gw, g') := PyTM.gwRead σ.get_weight k x
  let σ := { σ with get_weight := g' }
  let l ← PyTM.liftE (GenLD.update ld x gw)
  let σ := { σ with potential_transitions := alSet σ.potential_transitions k l }
  pure σ

/-- `if x not in get_weight[k]: get_weight[k][x] = get_weight[k][x2]` -/
def stFill (σ : Loc τ) (k : PyTM.Tr τ) (x x2 : Actor) : TM (Loc τ) :=
  if (!(PyTM.gwHas σ.get_weight k x)) then do
    let (gw, g') := PyTM.gwRead σ.get_weight k x2
    let σ := { σ with get_weight := PyTM.gwSet g' k x gw }
    pure σ
  else do
    pure σ

theorem stRemove_eval (P : SCParams τ) (σ : Loc τ) (k : PyTM.Tr τ) (x : Actor) (ld ld' : LD Actor)
    (h : St P k σ ld) (hrem : ld.remove x = some ld') :
    ∃ σ', stRemove σ k x = pure σ' ∧ Evo P k σ σ' ld' := by
  obtain ⟨⟨p, hf, hR⟩, hg, hI⟩ := h
  obtain ⟨p', hp', hR'⟩ := GenLD.remove_sim p ld ld' x hR hI hrem
  refine ⟨setPG σ (alSet σ.potential_transitions k p') σ.get_weight, ?_, Frame.setPG _ _ _, ?_, ?_, hg, ?_⟩
  · unfold stRemove
    rw [dictGet_of_find _ _ _ hf, TM.liftE_ok, pure_bind, hp', TM.liftE_ok, pure_bind]
    rfl
  · intro k' hk'
    exact find_alSet_ne _ _ _ _ hk'
  · exact ⟨p', find_alSet_self _ _ _, hR'⟩
  · exact LD.inv_remove ld ld' x hI (GenLD.mem_of_remove_some ld ld' x hrem) hrem

theorem stUpdate_eval (P : SCParams τ) (σ : Loc τ) (k : PyTM.Tr τ) (x : Actor) (ld ld' : LD Actor) (w : Option Rat)
    (h : St P k σ ld) (hw : (PyTM.gwRead σ.get_weight k x).1 = w) (hnn : ∀ v, w = some v → 0 ≤ v)
    (hupd : ld.update x w = some ld') :
    ∃ σ', stUpdate σ k x = pure σ' ∧ Evo P k σ σ' ld' := by
  obtain ⟨⟨p, hf, hR⟩, hg, hI⟩ := h
  obtain ⟨p', hp', hR'⟩ := GenLD.update_sim p ld ld' x w hR hupd
  refine ⟨setPG σ (alSet σ.potential_transitions k p') (PyTM.gwRead σ.get_weight k x).2, ?_, Frame.setPG _ _ _,
    ?_, ?_, hg.read k x, ?_⟩
  · unfold stUpdate
    rw [dictGet_of_find _ _ _ hf, TM.liftE_ok, pure_bind]
    dsimp only
    rw [hw, hp', TM.liftE_ok, pure_bind]
    rfl
  · intro k' hk'
    exact find_alSet_ne _ _ _ _ hk'
  · exact ⟨p', find_alSet_self _ _ _, hR'⟩
  · exact LD.inv_update ld ld' x w hI hnn hupd

theorem stFill_eval (P : SCParams τ) (σ : Loc τ) (k : PyTM.Tr τ) (x x2 : Actor) (ld : LD Actor)
    (h : St P k σ ld) : ∃ σ', stFill σ k x x2 = pure σ' ∧ Evo P k σ σ' ld := by
  obtain ⟨⟨p, hf, hR⟩, hg, hI⟩ := h
  unfold stFill
  cases hh : PyTM.gwHas σ.get_weight k x with
  | true =>
    exact ⟨σ, by simp, Evo.refl ⟨⟨p, hf, hR⟩, hg, hI⟩⟩
  | false =>
    refine ⟨setPG σ σ.potential_transitions
      (PyTM.gwSet (PyTM.gwRead σ.get_weight k x2).2 k x (PyTM.gwRead σ.get_weight k x2).1), ?_, Frame.setPG _ _ _,
      fun _ _ => rfl, ⟨p, hf, hR⟩, hg.fill k x x2 hh, hI⟩
    simp only [Bool.not_false, if_true]
    rfl

theorem stRemove_if (P : SCParams τ) (σ : Loc τ) (k : PyTM.Tr τ) (x : Actor) (ld ld' : LD Actor) (c : Prop)
    [Decidable c] (b : Bool) (hb : b = true ↔ c) (h : St P k σ ld)
    (hrem : (if c then ld.remove x else some ld) = some ld') :
    ∃ σ', (if b = true then stRemove σ k x else pure σ) = pure σ' ∧ Evo P k σ σ' ld' := by
  by_cases hc : c
  · rw [if_pos hc] at hrem
    rw [if_pos (hb.2 hc)]
    exact stRemove_eval P σ k x ld ld' h hrem
  · rw [if_neg hc] at hrem
    obtain rfl := Option.some.inj hrem
    rw [if_neg (fun hh => hc (hb.1 hh))]
    exact ⟨σ, rfl, Evo.refl h⟩

theorem stUpdate_if (P : SCParams τ) (σ : Loc τ) (k : PyTM.Tr τ) (x : Actor) (ld ld' : LD Actor) (w : Option Rat)
    (c : Prop) [Decidable c] (b : Bool) (hb : b = true ↔ c) (h : St P k σ ld)
    (hw : c → (PyTM.gwRead σ.get_weight k x).1 = w)
    (hnn : ∀ v, w = some v → 0 ≤ v)
    (hupd : (if c then ld.update x w else some ld) = some ld') :
    ∃ σ', (if b = true then stUpdate σ k x else pure σ) = pure σ' ∧ Evo P k σ σ' ld' := by
  by_cases hc : c
  · rw [if_pos hc] at hupd
    rw [if_pos (hb.2 hc)]
    exact stUpdate_eval P σ k x ld ld' w h (hw hc) hnn hupd
  · rw [if_neg hc] at hupd
    obtain rfl := Option.some.inj hupd
    rw [if_neg (fun hh => hc (hb.1 hh))]
    exact ⟨σ, rfl, Evo.refl h⟩


/-! ### the small-total repair is the identity -/

theorem foldl_ddTouch_id (l : List Actor) (p : GenLD.PyLD Actor) (h : ∀ x ∈ l, alHas p.weight x = true) :
    l.foldl (fun (s : GenLD.PyLD Actor) item => { s with weight := PyRT.ddTouch s.weight item }) p = p := by
  induction l with
  | nil => rfl
  | cons a t ih =>
    rw [List.foldl_cons, ddTouch_of_alHas _ _ (h a (by simp))]
    exact ih (fun x hx => h x (by simp [hx]))

/-- `update_total_weight()` recomputes the running total from the weight table: under the `_ListDict_` invariant the
recomputed value IS the running total, and no key is inserted by the reads -/
theorem update_total_weight_id (p : GenLD.PyLD Actor) (ld : LD Actor) (hR : GenLD.R p ld) (hI : LD.Inv ld)
    (hw : ld.weighted = true) : GenLD.update_total_weight p = .ok p := by
  have hk : ∀ x ∈ p.items, alHas p.weight x = true := by
    intro x hx
    rw [hR.weight]; exact (hI.keys hw x).2 (hR.items ▸ hx)
  unfold GenLD.update_total_weight
  rw [foldl_ddTouch_id p.items p hk]
  have ht : sumRat (p.items.map fun item => alGet p.weight (0 : Rat) item) = p.total_weight_ := by
    rw [hR.total, hI.total hw, hR.items, hR.weight]; rfl
  simp only [ht, ExceptStep.pure_eq_ok]

/-- the statements `if total_weight() < 10**-7 and total_weight() != 0: update_total_weight()` -/
def stRepair (σ : Loc τ) (k : PyTM.Tr τ) : TM (Loc τ) := do
  let ld_26 ← PyTM.liftE (PyRT.dictGet σ.potential_transitions k)
  let (l_28, w_27) ← PyTM.liftE (GenLD.total_weight ld_26)
  let σ := { σ with potential_transitions := alSet σ.potential_transitions k l_28 }
  let (σ, c_32) ← (if (decide (w_27 < ((1 : Rat) / 10000000))) then do
    let ld_29 ← PyTM.liftE (PyRT.dictGet σ.potential_transitions k)
    let (l_31, w_30) ← PyTM.liftE (GenLD.total_weight ld_29)
    let σ := { σ with potential_transitions := alSet σ.potential_transitions k l_31 }
    pure (σ, (decide (w_30 ≠ (0 : Rat))))
  else pure (σ, false))
  let σ ← (if c_32 then do
    let ld_33 ← PyTM.liftE (PyRT.dictGet σ.potential_transitions k)
    let l_34 ← PyTM.liftE (GenLD.update_total_weight ld_33)
    let σ := { σ with potential_transitions := alSet σ.potential_transitions k l_34 }
    pure σ
  else do
    pure σ)
  pure σ

theorem natCast_small (n : Nat) (h : (n : Rat) < 1 / 10000000) : n = 0 := by
  by_contra hn
  have h1 : (1 : Rat) ≤ (n : Rat) := by exact_mod_cast Nat.one_le_iff_ne_zero.2 hn
  have h2 : (1 : Rat) / 10000000 < 1 := by norm_num
  exact absurd (lt_of_le_of_lt h1 (lt_trans h h2)) (lt_irrefl _)

theorem stRepair_eval (P : SCParams τ) (σ : Loc τ) (k : PyTM.Tr τ) (ld : LD Actor) (h : St P k σ ld) :
    ∃ σ', stRepair σ k = pure σ' ∧ Evo P k σ σ' ld := by
  obtain ⟨⟨p, hf, hR⟩, hg, hI⟩ := h
  refine ⟨setPG σ (alSet σ.potential_transitions k p) σ.get_weight, ?_, Frame.setPG _ _ _, ?_,
    ⟨p, find_alSet_self _ _ _, hR⟩, hg, hI⟩
  swap
  · intro k' hk'; exact find_alSet_ne _ _ _ _ hk'
  unfold stRepair
  rw [dictGet_of_find _ _ _ hf, TM.liftE_ok, pure_bind, GenLD.total_weight_sim p ld hR, TM.liftE_ok, pure_bind]
  dsimp only
  by_cases hsm : ld.totalWeight < 1 / 10000000
  · rw [if_pos (decide_eq_true hsm)]
    rw [dictGet_of_find _ _ _ (find_alSet_self _ _ _), TM.liftE_ok, pure_bind, GenLD.total_weight_sim p ld hR,
      TM.liftE_ok, pure_bind]
    dsimp only
    rw [pure_bind]
    dsimp only
    by_cases h0 : ld.totalWeight = 0
    · rw [if_neg (by simp [h0])]
      simp only [alSet_alSet]
      rfl
    · have hw : ld.weighted = true := by
        cases hwd : ld.weighted with
        | true => rfl
        | false =>
          exfalso
          unfold LD.totalWeight at hsm h0
          simp only [hwd, Bool.false_eq_true, if_false] at hsm h0
          exact h0 (by rw [natCast_small _ hsm]; rfl)
      rw [if_pos (by simp [h0])]
      rw [dictGet_of_find _ _ _ (find_alSet_self _ _ _), TM.liftE_ok, pure_bind,
        update_total_weight_id p ld hR hI hw, TM.liftE_ok, pure_bind]
      simp only [alSet_alSet]
      rfl
  · rw [if_neg (by simpa using hsm)]
    simp only [pure_bind, Bool.false_eq_true, if_false]
    rfl

/-! ### one structure per key: the generated dict against the model's list -/

def PTRel {κ : Type} (pt : PT τ) (key : κ → PyTM.Tr τ) (trs : List κ) (lds : List (LD Actor)) : Prop :=
  lds.length = trs.length ∧ ∀ (i : Nat) tr ld, trs[i]? = some tr → lds[i]? = some ld →
    (∃ p, PyRT.alFind? pt (key tr) = some p ∧ GenLD.R p ld) ∧ LD.Inv ld

theorem PTRel.congr {κ : Type} {pt pt' : PT τ} {key : κ → PyTM.Tr τ} {trs : List κ} {lds : List (LD Actor)}
    (h : PTRel pt key trs lds) (hk : ∀ tr ∈ trs, PyRT.alFind? pt' (key tr) = PyRT.alFind? pt (key tr)) :
    PTRel pt' key trs lds := by
  refine ⟨h.1, ?_⟩
  intro i tr ld h1 h2
  rw [hk tr (List.mem_of_getElem? h1)]
  exact h.2 i tr ld h1 h2

theorem PTRel.tail {κ : Type} {pt : PT τ} {key : κ → PyTM.Tr τ} {tr : κ} {trs : List κ} {ld : LD Actor}
    {lds : List (LD Actor)} (h : PTRel pt key (tr :: trs) (ld :: lds)) : PTRel pt key trs lds :=
  ⟨by simpa using h.1, fun i tr' ld' h1 h2 => h.2 (i + 1) tr' ld' (by simpa using h1) (by simpa using h2)⟩

theorem PTRel.cons {κ : Type} {pt : PT τ} {key : κ → PyTM.Tr τ} {tr : κ} {trs : List κ} {ld : LD Actor}
    {lds : List (LD Actor)} (h0 : (∃ p, PyRT.alFind? pt (key tr) = some p ∧ GenLD.R p ld) ∧ LD.Inv ld)
    (h : PTRel pt key trs lds) : PTRel pt key (tr :: trs) (ld :: lds) := by
  refine ⟨by simp [h.1], ?_⟩
  intro i tr' ld' h1 h2
  cases i with
  | zero =>
    simp only [List.getElem?_cons_zero, Option.some.injEq] at h1 h2
    subst h1; subst h2; exact h0
  | succ i => exact h.2 i tr' ld' (by simpa using h1) (by simpa using h2)

structure FoldRes {κ : Type} (P : SCParams τ) (key : κ → PyTM.Tr τ) (trs : List κ) (σ σ' : Loc τ)
    (lds' : List (LD Actor)) : Prop where
  frame : Frame σ σ'
  gw : GWInv P σ'.get_weight
  other : ∀ k', k' ∉ trs.map key →
    PyRT.alFind? σ'.potential_transitions k' = PyRT.alFind? σ.potential_transitions k'
  rel : PTRel σ'.potential_transitions key trs lds'

theorem FoldRes.trans {κ : Type} {P : SCParams τ} {key : κ → PyTM.Tr τ} {trs : List κ} {σ σ1 σ2 : Loc τ}
    {l1 l2 : List (LD Actor)} (h1 : FoldRes P key trs σ σ1 l1) (h2 : FoldRes P key trs σ1 σ2 l2) :
    FoldRes P key trs σ σ2 l2 :=
  ⟨h1.frame.trans h2.frame, h2.gw, fun k' hk' => (h2.other k' hk').trans (h1.other k' hk'), h2.rel⟩

/-- **a loop over the transitions**: every iteration works on the structure of its own key (`hstep`), so the loop
computes, key by key, what the model's `mapPT` computes position by position -/
theorem keyFold {κ : Type} (P : SCParams τ) (key : κ → PyTM.Tr τ) (body : Loc τ → κ → TM (Loc τ))
    (f : κ → LD Actor → Option (LD Actor)) (st : Node → τ) (trs : List κ) (hnd : (trs.map key).Nodup)
    (hstep : ∀ σ tr ld ld', tr ∈ trs → σ.status = st → St P (key tr) σ ld → f tr ld = some ld' →
      ∃ σ', body σ tr = pure σ' ∧ Evo P (key tr) σ σ' ld')
    (σ : Loc τ) (lds lds' : List (LD Actor)) (hst : σ.status = st) (hgw : GWInv P σ.get_weight)
    (hall : PTRel σ.potential_transitions key trs lds) (hm : Simple.mapPT trs lds f = some lds') :
    ∃ σ', trs.foldlM body σ = pure σ' ∧ FoldRes P key trs σ σ' lds' := by
  induction trs generalizing σ lds lds' with
  | nil =>
    have : lds' = [] := by
      cases lds <;> simp [Simple.mapPT] at hm <;> exact hm
    subst this
    exact ⟨σ, rfl, Frame.refl σ, hgw, fun _ _ => rfl, rfl, fun i tr ld h1 _ => by simp at h1⟩
  | cons tr trs ih =>
    cases lds with
    | nil => have := hall.1; simp at this
    | cons ld lds =>
      rw [Simple.mapPT_cons] at hm
      obtain ⟨ld', hf, hm⟩ := Option.bind_eq_some_iff.1 hm
      obtain ⟨rest, hrest, rfl⟩ := Option.map_eq_some_iff.1 hm
      rw [List.map_cons, List.nodup_cons] at hnd
      obtain ⟨hfind, hinv⟩ := hall.2 0 tr ld rfl rfl
      obtain ⟨σ1, hb, hfr, hoth, hst1⟩ := hstep σ tr ld ld' (by simp) hst ⟨hfind, hgw, hinv⟩ hf
      have hall1 : PTRel σ1.potential_transitions key trs lds := by
        apply hall.tail.congr
        intro tr' htr'
        apply hoth
        intro hc
        exact hnd.1 (hc ▸ List.mem_map_of_mem htr')
      obtain ⟨σ', h1, h2, h3, h4, h5⟩ := ih hnd.2
        (fun σ tr ld ld' h => hstep σ tr ld ld' (by simp [h])) σ1 lds rest
        (by rw [hfr.status, hst]) hst1.gw hall1 hrest
      refine ⟨σ', ?_, hfr.trans h2, h3, ?_, ?_⟩
      · rw [List.foldlM_cons, hb, pure_bind, h1]
      · intro k' hk'
        rw [List.map_cons, List.mem_cons, not_or] at hk'
        rw [h4 k' hk'.2, hoth k' hk'.1]
      · refine PTRel.cons ⟨?_, hst1.inv⟩ h5
        rw [h4 _ hnd.1]; exact hst1.find

theorem decide_pair_iff {α β : Type} [DecidableEq α] [DecidableEq β] (a a' : α) (b b' : β) :
    decide ((a, b) = (a', b')) = true ↔ (a = a' ∧ b = b') := by
  simp

/-- the body of `for transition in spontaneous_transitions:` after an event -/
def spontBody (m : Node) (old : τ) (σ : Loc τ) (transition : τ × τ) : TM (Loc τ) := do
  let σ ← (if (decide (transition.1 = old)) then stRemove σ (Sum.inl transition) [m] else pure σ)
  let σ ← (if (decide (transition.1 = (σ.status m))) then stUpdate σ (Sum.inl transition) [m] else pure σ)
  stRepair σ (Sum.inl transition)

theorem spontBody_eval (P : SCParams τ) (hwf : Simple.WF P) (m : Node) (hm : m ∈ P.nodes) (old new : τ)
    (st : Node → τ) (hnew : st m = new) (σ : Loc τ) (tr : SpontTr τ) (ld ld' : LD Actor) (htr : tr ∈ P.spont)
    (hst : σ.status = st) (h : St P (kS tr) σ ld) (hm' : Simple.updSpontOne old new m tr ld = some ld') :
    ∃ σ', spontBody m old σ (keyS tr) = pure σ' ∧ Evo P (kS tr) σ σ' ld' := by
  rw [Simple.updSpontOne_eq, Simple.applyOps_B1] at hm'
  obtain ⟨ld1, h1, h2⟩ := Option.bind_eq_some_iff.1 hm'
  obtain ⟨σ1, e1, v1⟩ := stRemove_if P σ (Sum.inl (keyS tr)) [m] ld ld1 (tr.src = old)
    (decide ((keyS tr).1 = old)) (decide_eq_true_iff) h h1
  have hs1 : σ1.status m = new := by rw [v1.frame.status, hst, hnew]
  obtain ⟨σ2, e2, v2⟩ := stUpdate_if P σ1 (Sum.inl (keyS tr)) [m] ld1 ld' (Simple.wS tr m) (tr.src = new)
    (decide ((keyS tr).1 = σ1.status m)) (by rw [hs1]; exact decide_eq_true_iff) v1.st
    (fun _ => v1.st.gw.readS tr htr m hm) (Simple.wS_nonneg P hwf tr htr m) h2
  obtain ⟨σ3, e3, v3⟩ := stRepair_eval P σ2 (kS tr) ld' v2.st
  refine ⟨σ3, ?_, (v1.trans v2).trans v3⟩
  unfold spontBody
  rw [e1, pure_bind, e2, pure_bind]
  exact e3

/-- the loop over the successors (directed graphs) -/
def succBody (m : Node) (old : τ) (transition : (τ × τ) × (τ × τ)) (σ : Loc τ) (nbr : Node) : TM (Loc τ) := do
  let nbr_status := (σ.status nbr)
  let σ ← stFill σ (Sum.inr transition) [m, nbr] [nbr, m]
  let σ ← (if (decide (transition.1 = (old, nbr_status))) then stRemove σ (Sum.inr transition) [m, nbr] else pure σ)
  let σ ← (if (decide (transition.1 = ((σ.status m), nbr_status))) then stUpdate σ (Sum.inr transition) [m, nbr]
    else pure σ)
  pure σ

/-- the loop over the predecessors (directed graphs) -/
def predBody (m : Node) (old : τ) (transition : (τ × τ) × (τ × τ)) (σ : Loc τ) (pred : Node) : TM (Loc τ) := do
  let pred_status := (σ.status pred)
  let σ ← stFill σ (Sum.inr transition) [pred, m] [pred, m]
  let σ ← (if (decide (transition.1 = (pred_status, old))) then stRemove σ (Sum.inr transition) [pred, m] else pure σ)
  let σ ← (if (decide (transition.1 = (pred_status, (σ.status m)))) then stUpdate σ (Sum.inr transition) [pred, m]
    else pure σ)
  pure σ

/-- the two nested fill-in statements of the undirected loop -/
def stFill2 (σ : Loc τ) (k : PyTM.Tr τ) (x y : Actor) : TM (Loc τ) :=
  if (!(PyTM.gwHas σ.get_weight k x)) then do
    let (gw, g') := PyTM.gwRead σ.get_weight k y
    let σ := { σ with get_weight := PyTM.gwSet g' k x gw }
    pure σ
  else do
    let σ ← stFill σ k y x
    pure σ

theorem stFill2_eval (P : SCParams τ) (σ : Loc τ) (k : PyTM.Tr τ) (x y : Actor) (ld : LD Actor)
    (h : St P k σ ld) : ∃ σ', stFill2 σ k x y = pure σ' ∧ Evo P k σ σ' ld := by
  unfold stFill2
  cases hh : PyTM.gwHas σ.get_weight k x with
  | true =>
    obtain ⟨σ', e, v⟩ := stFill_eval P σ k y x ld h
    refine ⟨σ', ?_, v⟩
    simp only [Bool.not_true, Bool.false_eq_true, if_false, e]
  | false =>
    obtain ⟨σ', e, v⟩ := stFill_eval P σ k x y ld h
    refine ⟨σ', ?_, v⟩
    unfold stFill at e
    rw [hh] at e
    exact e

/-- the loop over the neighbours (undirected graphs) -/
def undirBody (m : Node) (old : τ) (transition : (τ × τ) × (τ × τ)) (σ : Loc τ) (nbr : Node) : TM (Loc τ) := do
  let nbr_status := (σ.status nbr)
  let σ ← stFill2 σ (Sum.inr transition) [m, nbr] [nbr, m]
  let σ ← (if (decide (transition.1 = (nbr_status, old))) then stRemove σ (Sum.inr transition) [nbr, m] else pure σ)
  let σ ← (if (decide (transition.1 = (old, nbr_status))) then stRemove σ (Sum.inr transition) [m, nbr] else pure σ)
  let σ ← (if (decide (transition.1 = (nbr_status, (σ.status m)))) then stUpdate σ (Sum.inr transition) [nbr, m]
    else pure σ)
  let σ ← (if (decide (transition.1 = ((σ.status m), nbr_status))) then stUpdate σ (Sum.inr transition) [m, nbr]
    else pure σ)
  pure σ

theorem nbrFold (P : SCParams τ) (k : PyTM.Tr τ) (body : Loc τ → Node → TM (Loc τ)) (ops : Node → List Simple.AOp)
    (st : Node → τ) (l : List Node)
    (hstep : ∀ σ v ld ld', v ∈ l → σ.status = st → St P k σ ld → ld.applyOps (ops v) = some ld' →
      ∃ σ', body σ v = pure σ' ∧ Evo P k σ σ' ld')
    (σ : Loc τ) (ld ld' : LD Actor) (hst : σ.status = st) (h : St P k σ ld)
    (hm : ld.applyOps (l.flatMap ops) = some ld') :
    ∃ σ', l.foldlM body σ = pure σ' ∧ Evo P k σ σ' ld' := by
  induction l generalizing σ ld with
  | nil =>
    obtain rfl := Option.some.inj hm
    exact ⟨σ, rfl, Evo.refl h⟩
  | cons v rest ih =>
    rw [List.flatMap_cons, LD.applyOps_append] at hm
    obtain ⟨ld1, h1, h2⟩ := Option.bind_eq_some_iff.1 hm
    obtain ⟨σ1, e1, v1⟩ := hstep σ v ld ld1 (by simp) hst h h1
    obtain ⟨σ2, e2, v2⟩ := ih (fun σ v ld ld' hv => hstep σ v ld ld' (by simp [hv])) σ1 ld1
      (by rw [v1.frame.status, hst]) v1.st h2
    exact ⟨σ2, by rw [List.foldlM_cons, e1, pure_bind, e2], v1.trans v2⟩

theorem applyOps_ite_upd_last (c : Prop) [Decidable c] (k : Actor) (w : Option Rat) (ld : LD Actor) :
    ld.applyOps (if c then [LD.Op.upd k w] else []) = if c then ld.update k w else some ld := by
  by_cases hc : c <;> simp only [hc, if_true, if_false, LD.applyOps, LD.applyOp]
  cases ld.update k w <;> rfl

theorem applyOps_B2 (st : Node → τ) (old new : τ) (m : Node) (tr : IndTr τ) (v : Node) (ld : LD Actor) :
    ld.applyOps (Simple.B2 st old new m tr v) =
      (if tr.a = st v ∧ tr.b = old then ld.remove [v, m] else some ld).bind fun ld1 =>
      (if tr.a = old ∧ tr.b = st v then ld1.remove [m, v] else some ld1).bind fun ld2 =>
      (if tr.a = st v ∧ tr.b = new then ld2.update [v, m] (Simple.wI tr v m) else some ld2).bind fun ld3 =>
      (if tr.a = new ∧ tr.b = st v then ld3.update [m, v] (Simple.wI tr m v) else some ld3) := by
  unfold Simple.B2
  simp only [Simple.applyOps_ite_rem, Simple.applyOps_ite_upd, applyOps_ite_upd_last]

/-- `stFill; if bR: remove x; if bU: update x` on the structure of one key, against the model's one-key batch; the
second test is evaluated in the state the first two statements leave -/
theorem dirStep (P : SCParams τ) (σ : Loc τ) (k : PyTM.Tr τ) (x x2 : Actor) (ld ld' : LD Actor) (r u : Prop)
    [Decidable r] [Decidable u] (w : Option Rat) (bR : Bool) (bU : Loc τ → Bool) (hR : bR = true ↔ r)
    (hU : ∀ σ', Frame σ σ' → (bU σ' = true ↔ u)) (hw : ∀ g, GWInv P g → (PyTM.gwRead g k x).1 = w)
    (hnn : ∀ v, w = some v → 0 ≤ v) (h : St P k σ ld) (hg : ld.applyOps (Simple.B1 x r u w) = some ld') :
    ∃ σ', (do
        let σ ← stFill σ k x x2
        let σ ← (if bR then stRemove σ k x else pure σ)
        let σ ← (if bU σ then stUpdate σ k x else pure σ)
        pure σ) = pure σ' ∧ Evo P k σ σ' ld' := by
  rw [Simple.applyOps_B1] at hg
  obtain ⟨ld1, h1, h2⟩ := Option.bind_eq_some_iff.1 hg
  obtain ⟨σ0, e0, v0⟩ := stFill_eval P σ k x x2 ld h
  obtain ⟨σ1, e1, v1⟩ := stRemove_if P σ0 k x ld ld1 r bR hR v0.st h1
  obtain ⟨σ2, e2, v2⟩ := stUpdate_if P σ1 k x ld1 ld' w u (bU σ1) (hU σ1 (v0.frame.trans v1.frame)) v1.st
    (fun _ => hw _ v1.st.gw) hnn h2
  exact ⟨σ2, by rw [e0, pure_bind, e1, pure_bind, e2], (v0.trans v1).trans v2⟩

section Steps
variable (P : SCParams τ) (hwf : Simple.WF P) (m : Node) (hm : m ∈ P.nodes) (old new : τ) (st : Node → τ)
  (hnew : st m = new) (tr : IndTr τ) (htr : tr ∈ P.ind)
include hwf hm hnew htr

theorem succStep (σ : Loc τ) (v : Node) (ld ld' : LD Actor) (hv : v ∈ P.succ m) (hst : σ.status = st)
    (h : St P (kI tr) σ ld)
    (hg : ld.applyOps (Simple.B1 [m, v] (tr.a = old ∧ tr.b = st v) (tr.a = new ∧ tr.b = st v)
      (Simple.wI tr m v)) = some ld') :
    ∃ σ', succBody m old (keyI tr) σ v = pure σ' ∧ Evo P (kI tr) σ σ' ld' :=
  dirStep P σ (kI tr) [m, v] [v, m] ld ld' _ _ _ (decide ((keyI tr).1 = (old, σ.status v)))
    (fun σ' => decide ((keyI tr).1 = (σ'.status m, σ.status v))) (by rw [hst]; exact decide_pair_iff _ _ _ _)
    (fun σ' hf => by rw [hf.status, hst, hnew]; exact decide_pair_iff _ _ _ _)
    (fun g hgw => hgw.readI tr htr m v hm hv) (Simple.wI_nonneg P hwf tr htr m v) h hg

theorem predStep (σ : Loc τ) (v : Node) (ld ld' : LD Actor) (hv : m ∈ P.succ v) (hst : σ.status = st)
    (h : St P (kI tr) σ ld)
    (hg : ld.applyOps (Simple.B1 [v, m] (tr.a = st v ∧ tr.b = old) (tr.a = st v ∧ tr.b = new)
      (Simple.wI tr v m)) = some ld') :
    ∃ σ', predBody m old (keyI tr) σ v = pure σ' ∧ Evo P (kI tr) σ σ' ld' :=
  dirStep P σ (kI tr) [v, m] [v, m] ld ld' _ _ _ (decide ((keyI tr).1 = (σ.status v, old)))
    (fun σ' => decide ((keyI tr).1 = (σ.status v, σ'.status m))) (by rw [hst]; exact decide_pair_iff _ _ _ _)
    (fun σ' hf => by rw [hf.status, hst, hnew]; exact decide_pair_iff _ _ _ _)
    (fun g hgw => hgw.readI tr htr v m (Simple.mem_nodes_of_succ P hwf v m hv) hv)
    (Simple.wI_nonneg P hwf tr htr v m) h hg

theorem undirStep (σ : Loc τ) (v : Node) (ld ld' : LD Actor) (hv : v ∈ P.succ m) (hv' : m ∈ P.succ v)
    (hst : σ.status = st) (h : St P (kI tr) σ ld)
    (hg : ld.applyOps (Simple.B2 st old new m tr v) = some ld') :
    ∃ σ', undirBody m old (keyI tr) σ v = pure σ' ∧ Evo P (kI tr) σ σ' ld' := by
  have hvn : v ∈ P.nodes := Simple.mem_nodes_of_succ P hwf v m hv'
  rw [applyOps_B2] at hg
  obtain ⟨ld1, h1, hg⟩ := Option.bind_eq_some_iff.1 hg
  obtain ⟨ld2, h2, hg⟩ := Option.bind_eq_some_iff.1 hg
  obtain ⟨ld3, h3, h4⟩ := Option.bind_eq_some_iff.1 hg
  obtain ⟨σ0, e0, v0⟩ := stFill2_eval P σ (Sum.inr (keyI tr)) [m, v] [v, m] ld h
  obtain ⟨σ1, e1, v1⟩ := stRemove_if P σ0 (Sum.inr (keyI tr)) [v, m] ld ld1 (tr.a = st v ∧ tr.b = old)
    (decide ((keyI tr).1 = (σ.status v, old))) (by rw [hst]; exact decide_pair_iff _ _ _ _) v0.st h1
  obtain ⟨σ2, e2, v2⟩ := stRemove_if P σ1 (Sum.inr (keyI tr)) [m, v] ld1 ld2 (tr.a = old ∧ tr.b = st v)
    (decide ((keyI tr).1 = (old, σ.status v))) (by rw [hst]; exact decide_pair_iff _ _ _ _) v1.st h2
  have hs2 : σ2.status m = new := by rw [v2.frame.status, v1.frame.status, v0.frame.status, hst, hnew]
  obtain ⟨σ3, e3, v3⟩ := stUpdate_if P σ2 (Sum.inr (keyI tr)) [v, m] ld2 ld3 (Simple.wI tr v m)
    (tr.a = st v ∧ tr.b = new) (decide ((keyI tr).1 = (σ.status v, σ2.status m)))
    (by rw [hs2, hst]; exact decide_pair_iff _ _ _ _) v2.st (fun _ => v2.st.gw.readI tr htr v m hvn hv')
    (Simple.wI_nonneg P hwf tr htr v m) h3
  have hs3 : σ3.status m = new := by rw [v3.frame.status, hs2]
  obtain ⟨σ4, e4, v4⟩ := stUpdate_if P σ3 (Sum.inr (keyI tr)) [m, v] ld3 ld' (Simple.wI tr m v)
    (tr.a = new ∧ tr.b = st v) (decide ((keyI tr).1 = (σ3.status m, σ.status v)))
    (by rw [hs3, hst]; exact decide_pair_iff _ _ _ _) v3.st (fun _ => v3.st.gw.readI tr htr m v hm hv)
    (Simple.wI_nonneg P hwf tr htr m v) h4
  refine ⟨σ4, ?_, (((v0.trans v1).trans v2).trans v3).trans v4⟩
  unfold undirBody
  dsimp only
  rw [e0, pure_bind, e1, pure_bind, e2, pure_bind, e3, pure_bind, e4]

end Steps

/-! ### the body of `for transition in induced_transitions:` after an event -/

def indBody (directed : Bool) (nbrs pred : Node → List Node) (m : Node) (old : τ) (σ : Loc τ)
    (transition : (τ × τ) × (τ × τ)) : TM (Loc τ) := do
  let σ ← (if directed then do
    let σ ← (nbrs m).foldlM (succBody m old transition) σ
    let σ ← (pred m).foldlM (predBody m old transition) σ
    pure σ
  else do
    let σ ← (nbrs m).foldlM (undirBody m old transition) σ
    pure σ)
  stRepair σ (Sum.inr transition)

theorem indBody_eval (P : SCParams τ) (hwf : Simple.WF P) (m : Node) (hm : m ∈ P.nodes) (old new : τ)
    (st : Node → τ) (hnew : st m = new) (σ : Loc τ) (tr : IndTr τ) (ld ld' : LD Actor) (htr : tr ∈ P.ind)
    (hst : σ.status = st) (h : St P (kI tr) σ ld) (hm' : Simple.updIndOne P st old new m tr ld = some ld') :
    ∃ σ', indBody P.directed P.succ P.pred m old σ (keyI tr) = pure σ' ∧ Evo P (kI tr) σ σ' ld' := by
  unfold Simple.updIndOne at hm'
  unfold indBody
  cases hd : P.directed with
  | true =>
    rw [hd] at hm'
    simp only [if_true] at hm'
    obtain ⟨ld1, h1, h2⟩ := Option.bind_eq_some_iff.1 hm'
    rw [Simple.updIndSucc_eq] at h1
    rw [Simple.updIndPred_eq] at h2
    obtain ⟨σ1, e1, v1⟩ := nbrFold P (kI tr) (succBody m old (keyI tr)) _ st (P.succ m)
      (fun σ v ld ld' hv hs hh hg => succStep P hwf m hm old new st hnew tr htr σ v ld ld' hv hs hh hg)
      σ ld ld1 hst h h1
    obtain ⟨σ2, e2, v2⟩ := nbrFold P (kI tr) (predBody m old (keyI tr)) _ st (P.pred m)
      (fun σ v ld ld' hv hs hh hg =>
        predStep P hwf m hm old new st hnew tr htr σ v ld ld' ((hwf.pred_iff v m).1 hv) hs hh hg)
      σ1 ld1 ld' (by rw [v1.frame.status, hst]) v1.st h2
    obtain ⟨σ3, e3, v3⟩ := stRepair_eval P σ2 (kI tr) ld' v2.st
    refine ⟨σ3, ?_, (v1.trans v2).trans v3⟩
    simp only [if_true, e1, e2, pure_bind]
    exact e3
  | false =>
    rw [hd] at hm'
    simp only [Bool.false_eq_true, if_false] at hm'
    rw [Simple.updIndUndir_eq] at hm'
    obtain ⟨σ1, e1, v1⟩ := nbrFold P (kI tr) (undirBody m old (keyI tr)) _ st (P.succ m)
      (fun σ v ld ld' hv hs hh hg =>
        undirStep P hwf m hm old new st hnew tr htr σ v ld ld' hv (hwf.undirected_symm hd m v hv) hs hh hg)
      σ ld ld' hst h hm'
    obtain ⟨σ3, e3, v3⟩ := stRepair_eval P σ1 (kI tr) ld' v1.st
    refine ⟨σ3, ?_, v1.trans v3⟩
    simp only [Bool.false_eq_true, if_false, e1, pure_bind]
    exact e3

/-! ### the initial population -/

theorem foldlM_filter {α β : Type} (p : α → Bool) (body : β → α → TM β) (l : List α) (b : β) :
    (l.filter p).foldlM body b = l.foldlM (fun b x => if p x = true then body b x else pure b) b := by
  induction l generalizing b with
  | nil => rfl
  | cons a t ih =>
    rw [List.filter_cons]
    cases hp : p a with
    | true =>
      simp only [if_true, List.foldlM_cons, hp]
      congr 1; funext b'; exact ih b'
    | false =>
      simp only [Bool.false_eq_true, if_false, List.foldlM_cons, pure_bind, hp]
      exact ih b

/-- `if has_node(x): for tr in out_edges(x): body` visits, in order, the transitions of the sorted list that
start at `x` -/
theorem outFold {κ : Type} (has : Bool) (out all : List κ) (p : κ → Bool) (hout : out = all.filter p)
    (hhas : has = false → out = []) (body : Loc τ → κ → TM (Loc τ)) (σ : Loc τ) :
    (if has = true then out.foldlM body σ else pure σ) =
      all.foldlM (fun σ x => if p x = true then body σ x else pure σ) σ := by
  rw [← foldlM_filter, ← hout]
  cases has with
  | true => rfl
  | false => rw [hhas rfl]; rfl

theorem mapPT_id {κ : Type} (trs : List κ) (lds : List (LD Actor)) (h : lds.length = trs.length) :
    Simple.mapPT trs lds (fun _ ld => some ld) = some lds := by
  induction trs generalizing lds with
  | nil =>
    cases lds with
    | nil => rfl
    | cons _ _ => simp at h
  | cons tr trs ih =>
    cases lds with
    | nil => simp at h
    | cons ld lds =>
      simp only [Simple.mapPT, ih lds (by simpa using h)]

theorem mapPT_fuse {κ : Type} (trs : List κ) (lds : List (LD Actor)) (g h : κ → LD Actor → Option (LD Actor)) :
    Simple.mapPT trs lds (fun tr ld => (g tr ld).bind (h tr)) =
      (Simple.mapPT trs lds g).bind fun lds1 => Simple.mapPT trs lds1 h := by
  induction trs generalizing lds with
  | nil => cases lds <;> rfl
  | cons tr trs ih =>
    cases lds with
    | nil => rfl
    | cons ld lds =>
      simp only [Simple.mapPT_cons, ih lds]
      cases g tr ld with
      | none => rfl
      | some ld1 =>
        cases Simple.mapPT trs lds g with
        | none =>
          simp only [Option.bind_some, Option.bind_none, Option.map_none]
          cases h tr ld1 <;> rfl
        | some r1 => simp only [Option.bind_some, Option.map_some, Simple.mapPT_cons]

theorem initIndNbrs_cons (st : Node → τ) (u : Node) (tr : IndTr τ) (v : Node) (rest : List Node) (ld : LD Actor) :
    Simple.initIndNbrs st u tr (v :: rest) ld =
      (if st u = tr.a ∧ st v = tr.b then ld.update [u, v] (Simple.wI tr u v) else some ld).bind
        (Simple.initIndNbrs st u tr rest) := by
  rw [Simple.initIndNbrs]
  by_cases hc : st u = tr.a ∧ st v = tr.b
  · rw [if_pos hc, if_pos hc]
    cases ld.update [u, v] (Simple.wI tr u v) <;> rfl
  · rw [if_neg hc, if_neg hc]; rfl

/-- the generated function and the model are run on the same arguments.  `spont`/`induced` are the sorted edge lists
of the two specification graphs (an induced transition `(a, b, c)` of the model is the key `((a, b), (a, c))`),
`spOut`/`inOut` list the out-edges of a specification-graph node in the order of the sorted lists, `pt0` holds one
empty `_ListDict_` per key, and `gw0` satisfies `GWInv`: for every WEIGHTED transition the table holds every node
`[u]` (resp. every ordered neighbour pair `[u, v]`) with the tabulated weight, and for an unweighted transition every
read returns `None` (e.g. no entry at all) -/
structure Agree (A : SArgs τ) (P : SCParams τ) (ic : Node → τ) (tmin : Rat) (tmax : ERat) (cfuel : Nat) : Prop where
  nodes : A.nodes = P.nodes
  nbrs : A.nbrs = P.succ
  pred : A.pred = P.pred
  directed : A.directed = P.directed
  ic : A.ic = ic
  ret : A.ret = P.ret
  spont : A.spont = P.spont.map keyS
  induced : A.induced = P.ind.map keyI
  rateS : ∀ tr ∈ P.spont, A.rate (kS tr) = tr.rate
  rateI : ∀ tr ∈ P.ind, A.rate (kI tr) = tr.rate
  spOut : ∀ x, A.spOut x = A.spont.filter fun k => decide (k.1 = x)
  spHas : ∀ x, A.spHas x = false → A.spOut x = []
  inOut : ∀ x, A.inOut x = A.induced.filter fun k => decide (k.1 = x)
  inHas : ∀ x, A.inHas x = false → A.inOut x = []
  pt0S : ∀ tr ∈ P.spont, PyRT.alFind? A.pt0 (kS tr) = some (GenLD.init tr.w.isSome)
  pt0I : ∀ tr ∈ P.ind, PyRT.alFind? A.pt0 (kI tr) = some (GenLD.init tr.w.isSome)
  gw0 : GWInv P A.gw0
  tmin : A.tmin = tmin
  tmax : A.tmax = tmax
  cfuel : A.cfuel = cfuel

variable {A : SArgs τ} {P : SCParams τ} {ic : Node → τ} {tmin : Rat} {tmax : ERat} {cfuel : Nat}

section Init
variable (hAg : Agree A P ic tmin tmax cfuel) (hwf : Simple.WF P)
include hAg hwf

theorem initSpontPart (hndS : (P.spont.map (kS (τ := τ))).Nodup) (st : Node → τ) (u : Node) (hu : u ∈ P.nodes)
    (σ : Loc τ) (hst : σ.status = st) (hgw : GWInv P σ.get_weight) (ps ps' : List (LD Actor))
    (hrel : PTRel σ.potential_transitions kS P.spont ps)
    (hm : Simple.mapPT P.spont ps (Simple.initSpontOne st u) = some ps') :
    ∃ σ', (if A.spHas (σ.status u) = true then
        (A.spOut (σ.status u)).foldlM (fun (σ : Loc τ) (transition : τ × τ) => stUpdate σ (Sum.inl transition) [u]) σ
      else pure σ) = pure σ' ∧ FoldRes P kS P.spont σ σ' ps' := by
  rw [outFold _ _ _ _ (hAg.spOut _) (hAg.spHas _), hAg.spont, List.foldlM_map, hst]
  refine keyFold P kS _ (Simple.initSpontOne st u) st P.spont hndS ?_ σ ps ps' hst hgw hrel hm
  intro σ tr ld ld' htr hs hh hf
  exact stUpdate_if P σ (kS tr) [u] ld ld' (Simple.wS tr u) (st u = tr.src) (decide ((keyS tr).1 = st u))
    (by rw [decide_eq_true_eq]; exact eq_comm) hh (fun _ => hh.gw.readS tr htr u hu)
    (Simple.wS_nonneg P hwf tr htr u) hf

variable (hndI : (P.ind.map (kI (τ := τ))).Nodup)
include hndI

theorem initIndOne (st : Node → τ) (u v : Node) (hu : u ∈ P.nodes) (hv : v ∈ P.succ u) (σ : Loc τ)
    (hst : σ.status = st) (hgw : GWInv P σ.get_weight) (pi pi' : List (LD Actor))
    (hrel : PTRel σ.potential_transitions kI P.ind pi)
    (hm : Simple.mapPT P.ind pi (fun tr ld =>
      if st u = tr.a ∧ st v = tr.b then ld.update [u, v] (Simple.wI tr u v) else some ld) = some pi') :
    ∃ σ', (if A.inHas (σ.status u, σ.status v) = true then
        (A.inOut (σ.status u, σ.status v)).foldlM
          (fun (σ : Loc τ) (transition : (τ × τ) × (τ × τ)) => stUpdate σ (Sum.inr transition) [u, v]) σ
      else pure σ) = pure σ' ∧ FoldRes P kI P.ind σ σ' pi' := by
  rw [outFold _ _ _ _ (hAg.inOut _) (hAg.inHas _), hAg.induced, List.foldlM_map, hst]
  refine keyFold P kI _ _ st P.ind hndI ?_ σ pi pi' hst hgw hrel hm
  intro σ tr ld ld' htr hs hh hf
  exact stUpdate_if P σ (kI tr) [u, v] ld ld' (Simple.wI tr u v) (st u = tr.a ∧ st v = tr.b)
    (decide ((keyI tr).1 = (st u, st v)))
    (by rw [keyI, decide_pair_iff]; exact ⟨fun h => ⟨h.1.symm, h.2.symm⟩, fun h => ⟨h.1.symm, h.2.symm⟩⟩) hh
    (fun _ => hh.gw.readI tr htr u v hu hv) (Simple.wI_nonneg P hwf tr htr u v) hf

theorem initIndPart (st : Node → τ) (u : Node) (hu : u ∈ P.nodes) (l : List Node) (hl : ∀ v ∈ l, v ∈ P.succ u)
    (σ : Loc τ) (hst : σ.status = st) (hgw : GWInv P σ.get_weight) (pi pi' : List (LD Actor))
    (hrel : PTRel σ.potential_transitions kI P.ind pi)
    (hm : Simple.mapPT P.ind pi (fun tr ld => Simple.initIndNbrs st u tr l ld) = some pi') :
    ∃ σ', l.foldlM (fun (σ : Loc τ) (nbr : Node) =>
        (if A.inHas (σ.status u, σ.status nbr) = true then
          (A.inOut (σ.status u, σ.status nbr)).foldlM
            (fun (σ : Loc τ) (transition : (τ × τ) × (τ × τ)) => stUpdate σ (Sum.inr transition) [u, nbr]) σ
        else pure σ)) σ = pure σ' ∧ FoldRes P kI P.ind σ σ' pi' := by
  induction l generalizing σ pi with
  | nil =>
    rw [show (fun (tr : IndTr τ) ld => Simple.initIndNbrs st u tr [] ld) = fun _ ld => some ld from rfl,
      mapPT_id P.ind pi hrel.1] at hm
    obtain rfl := Option.some.inj hm
    exact ⟨σ, rfl, Frame.refl σ, hgw, fun _ _ => rfl, hrel⟩
  | cons v rest ih =>
    have hfun : (fun (tr : IndTr τ) ld => Simple.initIndNbrs st u tr (v :: rest) ld) =
        fun tr ld => ((fun (tr : IndTr τ) (ld : LD Actor) =>
          if st u = tr.a ∧ st v = tr.b then ld.update [u, v] (Simple.wI tr u v) else some ld) tr ld).bind
          ((fun (tr : IndTr τ) (ld : LD Actor) => Simple.initIndNbrs st u tr rest ld) tr) := by
      funext tr ld; exact initIndNbrs_cons st u tr v rest ld
    rw [hfun, mapPT_fuse] at hm
    obtain ⟨pi1, hm1, hm2⟩ := Option.bind_eq_some_iff.1 hm
    obtain ⟨σ1, e1, r1⟩ := initIndOne hAg hwf hndI st u v hu (hl v (by simp)) σ hst hgw pi pi1 hrel hm1
    obtain ⟨σ2, e2, r2⟩ := ih (fun x hx => hl x (by simp [hx])) σ1 (by rw [r1.frame.status, hst]) r1.gw pi1 r1.rel hm2
    exact ⟨σ2, by rw [List.foldlM_cons, e1, pure_bind, e2], r1.trans r2⟩

end Init

/-! ### total rate and transition choice -/

/-- `total_weight()` as a function of the structure -/
def twP (p : GenLD.PyLD Actor) : Rat := if p.weighted then p.total_weight_ else ((p.items.length : Nat) : Rat)

/-- `potential_transitions[k].total_weight()` -/
def twK (pt : PT τ) (k : PyTM.Tr τ) : Rat :=
  match PyRT.alFind? pt k with
  | some p => twP p
  | none => 0

theorem total_weight_eq (p : GenLD.PyLD Actor) : GenLD.total_weight p = .ok (p, twP p) := by
  unfold GenLD.total_weight twP GenLD.len__
  split <;> rfl

theorem twP_of_R {p : GenLD.PyLD Actor} {ld : LD Actor} (h : GenLD.R p ld) : twP p = ld.totalWeight := by
  unfold twP LD.totalWeight
  rw [h.weighted, h.total, h.items]

theorem twK_of_find {pt : PT τ} {k : PyTM.Tr τ} {p : GenLD.PyLD Actor} (h : PyRT.alFind? pt k = some p) :
    twK pt k = twP p := by
  unfold twK; rw [h]

/-- the rate-summing loop `sum(rate[tr] * potential_transitions[tr].total_weight() for tr in …)` -/
theorem sumFold (pt : PT τ) (rate : PyTM.Tr τ → Rat) (K : List (PyTM.Tr τ))
    (hK : ∀ k ∈ K, ∃ p, PyRT.alFind? pt k = some p) (acc : Rat) :
    K.foldlM (fun (acc : Rat) (transition : PyTM.Tr τ) => do
        let ld ← PyRT.dictGet pt transition
        let (_, w) ← GenLD.total_weight ld
        pure (acc + rate transition * w)) acc =
      (.ok (acc + sumRat (K.map fun k => rate k * twK pt k)) : Except String Rat) := by
  induction K generalizing acc with
  | nil => simp [pure, Except.pure]
  | cons k K ih =>
    obtain ⟨p, hp⟩ := hK k (by simp)
    rw [List.foldlM_cons, dictGet_of_find _ _ _ hp, ExceptStep.ok_bind, total_weight_eq, ExceptStep.ok_bind]
    dsimp only
    rw [ExceptStep.pure_eq_ok, ExceptStep.ok_bind, ih (fun k' hk' => hK k' (by simp [hk']))]
    rw [List.map_cons, sumRat_cons, twK_of_find hp, add_assoc]

/-- the body of the transition-choice loop -/
def cbody (pt : PT τ) (rate : PyTM.Tr τ → Rat) (tot : Rat) (acc : Rat × Option (PyTM.Tr τ) × Bool)
    (transition : PyTM.Tr τ) : Except String (Rat × Option (PyTM.Tr τ) × Bool) := do
  if acc.2.2 then pure acc else
  let ld ← PyRT.dictGet pt transition
  let (_, w) ← GenLD.total_weight ld
  let share ← PyTM.fdiv (rate transition * w) tot
  let r := acc.1 - share
  pure (r, some transition, decide (r < 0))

theorem cbody_eval (pt : PT τ) (rate : PyTM.Tr τ → Rat) (tot : Rat) (htot : tot ≠ 0)
    (acc : Rat × Option (PyTM.Tr τ) × Bool) (k : PyTM.Tr τ) (p : GenLD.PyLD Actor)
    (hp : PyRT.alFind? pt k = some p) :
    cbody pt rate tot acc k = if acc.2.2 = true then .ok acc else
      .ok (acc.1 - rate k * twK pt k / tot, some k, decide (acc.1 - rate k * twK pt k / tot < 0)) := by
  unfold cbody
  split
  · rfl
  · rw [dictGet_of_find _ _ _ hp, ExceptStep.ok_bind, total_weight_eq, ExceptStep.ok_bind]
    dsimp only
    unfold PyTM.fdiv
    rw [if_neg htot, ExceptStep.pure_eq_ok, ExceptStep.ok_bind, twK_of_find hp]
    rfl

theorem cfold_done (pt : PT τ) (rate : PyTM.Tr τ → Rat) (tot : Rat) (K : List (PyTM.Tr τ)) (r : Rat)
    (o : Option (PyTM.Tr τ)) : K.foldlM (cbody pt rate tot) (r, o, true) = .ok (r, o, true) := by
  induction K with
  | nil => rfl
  | cons k K ih =>
    rw [List.foldlM_cons]
    have : cbody pt rate tot (r, o, true) k = .ok (r, o, true) := by
      unfold cbody; simp only [if_true]; rfl
    rw [this, ExceptStep.ok_bind, ih]

/-- The Python loop variable `transition` after the `break` is the last key visited: the accumulator's `Option` component is
`pre.getLast?` for the keys `pre` already passed, and the final value is the key at the model's `pickIdx`.  (An empty key
list leaves it unbound: `none`, the `NameError` of `iter`.) -/
theorem cfold_go (pt : PT τ) (rate : PyTM.Tr τ → Rat) (tot : Rat) (htot : tot ≠ 0) (K pre : List (PyTM.Tr τ))
    (hK : ∀ k ∈ K, ∃ p, PyRT.alFind? pt k = some p) (r : Rat) :
    ∃ r' d, K.foldlM (cbody pt rate tot) (r, pre.getLast?, false) =
      .ok (r', (pre ++ K)[Simple.pickIdx.go (K.map fun k => rate k * twK pt k / tot) r pre.length]?, d) := by
  induction K generalizing pre r with
  | nil =>
    refine ⟨r, false, ?_⟩
    simp only [List.foldlM_nil, List.map_nil, Simple.pickIdx.go, List.append_nil]
    rw [List.getLast?_eq_getElem?]; rfl
  | cons k K ih =>
    obtain ⟨p, hp⟩ := hK k (by simp)
    rw [List.foldlM_cons, cbody_eval pt rate tot htot _ k p hp]
    simp only [Bool.false_eq_true, if_false, ExceptStep.ok_bind, List.map_cons, Simple.pickIdx.go]
    by_cases hlt : r - rate k * twK pt k / tot < 0
    · rw [if_pos hlt, decide_eq_true hlt, cfold_done]
      exact ⟨r - rate k * twK pt k / tot, true, by simp⟩
    · rw [if_neg hlt, decide_eq_false hlt]
      obtain ⟨r', d, h⟩ := ih (pre ++ [k]) (fun k' hk' => hK k' (by simp [hk'])) (r - rate k * twK pt k / tot)
      refine ⟨r', d, ?_⟩
      rw [List.getLast?_concat, List.length_append, List.length_singleton, List.append_assoc] at h
      exact h

theorem chooseFold (pt : PT τ) (rate : PyTM.Tr τ → Rat) (tot : Rat) (htot : tot ≠ 0) (K : List (PyTM.Tr τ))
    (hK : ∀ k ∈ K, ∃ p, PyRT.alFind? pt k = some p) (r : Rat) :
    ∃ r' d, K.foldlM (cbody pt rate tot) (r, none, false) =
      .ok (r', K[Simple.pickIdx (K.map fun k => rate k * twK pt k / tot) r]?, d) := by
  obtain ⟨r', d, h⟩ := cfold_go pt rate tot htot K [] hK r
  exact ⟨r', d, h⟩

def allKeys (P : SCParams τ) : List (PyTM.Tr τ) := P.spont.map kS ++ P.ind.map kI

theorem rates_eq {κ : Type} (pt : PT τ) (key : κ → PyTM.Tr τ) (rate : PyTM.Tr τ → Rat) (r : κ → Rat)
    (trs : List κ) (lds : List (LD Actor)) (h : PTRel pt key trs lds) (hr : ∀ tr ∈ trs, rate (key tr) = r tr) :
    (trs.map key).map (fun k => rate k * twK pt k) = List.zipWith (fun tr ld => r tr * ld.totalWeight) trs lds := by
  induction trs generalizing lds with
  | nil => cases lds <;> rfl
  | cons tr trs ih =>
    cases lds with
    | nil => have := h.1; simp at this
    | cons ld lds =>
      obtain ⟨⟨p, hp, hR⟩, -⟩ := h.2 0 tr ld rfl rfl
      simp only [List.map_cons, List.zipWith_cons_cons]
      rw [twK_of_find hp, twP_of_R hR, hr tr (by simp)]
      congr 1
      exact ih lds h.tail (fun tr' htr' => hr tr' (by simp [htr']))

theorem PTRel.get_of_mem {κ : Type} {pt : PT τ} {key : κ → PyTM.Tr τ} {trs : List κ} {lds : List (LD Actor)}
    (h : PTRel pt key trs lds) (tr : κ) (htr : tr ∈ trs) :
    ∃ (i : Nat) (ld : LD Actor) (p : GenLD.PyLD Actor), trs[i]? = some tr ∧ lds[i]? = some ld ∧
      PyRT.alFind? pt (key tr) = some p ∧ GenLD.R p ld := by
  obtain ⟨i, hi, rfl⟩ := List.getElem_of_mem htr
  have hi' : i < lds.length := by rw [h.1]; exact hi
  obtain ⟨⟨p, hp, hR⟩, -⟩ := h.2 i trs[i] lds[i] (List.getElem?_eq_getElem hi) (List.getElem?_eq_getElem hi')
  exact ⟨i, lds[i], p, List.getElem?_eq_getElem hi, List.getElem?_eq_getElem hi', hp, hR⟩

/-! ### the generated loop body, cut into stages (`loop_succ` is proved by `rfl`) -/

def stage5 (P : SArgs τ) (fuel : Nat) (σ : Loc τ) : TM (Loc τ) := do
      let tot_68 ← PyTM.liftE ((P.spont.map Sum.inl ++ P.induced.map Sum.inr).foldlM (fun (acc : Rat) (transition : PyTM.Tr τ) => do
          let ld ← PyRT.dictGet σ.potential_transitions transition
          let (_, w) ← GenLD.total_weight ld
          pure (acc + P.rate transition * w)) 0)
      let σ := { σ with total_rate := tot_68 }
      let σ ← (if (decide (σ.total_rate > (0 : Rat))) then do
        let d_69 ← TM.popExpo σ.total_rate
        let σ := { σ with delay := (some d_69) }
        pure σ
      else do
        let σ := { σ with delay := none }
        pure σ)
      let σ := { σ with t := (ERat.add σ.t σ.delay) }
      loop P fuel σ

def stage4 (P : SArgs τ) (fuel : Nat) (σ : Loc τ) (modified_node : Node) (old_status : τ) : TM (Loc τ) := do
      let σ ← P.spont.foldlM (spontBody modified_node old_status) σ
      let σ ← P.induced.foldlM (indBody P.directed P.nbrs P.pred modified_node old_status) σ
      stage5 P fuel σ

def dataBody (σ : Loc τ) (x : τ) : TM (Loc τ) := do
        let col_14 ← PyTM.liftE (PyRT.dictGet σ.data x)
        let v_15 ← PyTM.liftE (PyTM.listLast col_14)
        let col_16 ← PyTM.liftE (PyRT.dictGet σ.data x)
        let σ := { σ with data := alSet σ.data x (col_16 ++ [v_15]) }
        pure σ

def stage3 (P : SArgs τ) (fuel : Nat) (σ : Loc τ) (modified_node : Node) (old_status new_status : τ) : TM (Loc τ) := do
      let σ := { σ with status := fset σ.status modified_node new_status }
      let σ ← (if P.full then do
        let h_12 ← PyTM.liftE (PyRT.dictGet σ.node_history modified_node)
        let σ := { σ with node_history := alSet σ.node_history modified_node (h_12.1 ++ [σ.t], h_12.2) }
        let h_13 ← PyTM.liftE (PyRT.dictGet σ.node_history modified_node)
        let σ := { σ with node_history := alSet σ.node_history modified_node (h_13.1, h_13.2 ++ [new_status]) }
        pure σ
      else do
        pure σ)
      let σ ← (σ.data.map (·.1)).foldlM dataBody σ
      let σ ← (if (decide (old_status ∈ P.ret)) then do
        let col_17 ← PyTM.liftE (PyRT.dictGet σ.data old_status)
        let x_18 ← PyTM.liftE (PyTM.listLast col_17)
        let σ := { σ with data := alSet σ.data old_status (col_17.dropLast ++ [(x_18 - 1)]) }
        pure σ
      else do
        pure σ)
      let σ ← (if (decide ((σ.status modified_node) ∈ P.ret)) then do
        let col_19 ← PyTM.liftE (PyRT.dictGet σ.data (σ.status modified_node))
        let x_20 ← PyTM.liftE (PyTM.listLast col_19)
        let σ := { σ with data := alSet σ.data (σ.status modified_node) (col_19.dropLast ++ [(x_20 + 1)]) }
        pure σ
      else do
        pure σ)
      stage4 P fuel σ modified_node old_status

def stage2 (P : SArgs τ) (fuel : Nat) (σ : Loc τ) (transition : PyTM.Tr τ) (actor : _root_.Actor) : TM (Loc τ) := do
      let (σ, modified_node, old_status, new_status) ← (match transition with
        | Sum.inl transition => do
          let modified_node ← PyTM.liftE (PyTM.actorNode actor)
          let old_status := transition.1
          let new_status := transition.2
          pure (σ, modified_node, old_status, new_status)
        | Sum.inr transition => do
          let (source, target) ← PyTM.liftE (PyTM.actorPair actor)
          let modified_node := target
          let old_status := transition.1.2
          let new_status := transition.2.2
          let σ ← (if P.full then do
            let σ := { σ with transmissions := σ.transmissions ++ [(σ.t, some source, modified_node)] }
            pure σ
          else do
            pure σ)
          pure (σ, modified_node, old_status, new_status))
      stage3 P fuel σ modified_node old_status new_status

def iter (P : SArgs τ) (fuel : Nat) (σ : Loc τ) : TM (Loc τ) := do
      let σ := { σ with times := σ.times ++ [σ.t] }
      let r ← TM.popUnif
      let (_, tr?, _) ← PyTM.liftE ((P.spont.map Sum.inl ++ P.induced.map Sum.inr).foldlM
          (cbody σ.potential_transitions P.rate σ.total_rate) (r, none, false))
      let transition ← PyTM.liftE (match tr? with | some x => pure x | none => throw "NameError")
      let ld_9 ← PyTM.liftE (PyRT.dictGet σ.potential_transitions transition)
      let (l_11, c_10) ← GenLD.choose_random_tm (fun a => a) ld_9 P.cfuel
      let σ := { σ with potential_transitions := alSet σ.potential_transitions transition l_11 }
      stage2 P fuel σ transition c_10

theorem loop_succ (P : SArgs τ) (fuel : Nat) (σ : Loc τ) :
    loop P (fuel + 1) σ =
      if ((decide (σ.total_rate > (0 : Rat))) && (ERat.lt σ.t P.tmax)) then iter P fuel σ else pure σ := by
  rfl

/-! ### the simulation relation -/

structure Rel (P : SCParams τ) (σ : Loc τ) (s : SCState τ) : Prop where
  status : σ.status = s.status
  ptS : PTRel σ.potential_transitions kS P.spont s.ptS
  ptI : PTRel σ.potential_transitions kI P.ind s.ptI
  times : σ.times = s.times.reverse.map some
  data : GenCC.DRel P.ret σ.data s.data
  gw : GWInv P σ.get_weight

def ResRel (P : SCParams τ) : Except String (Loc τ × TapeSt) → Except String (SCState τ × TapeSt) → Prop
  | .ok (σ, t1), .ok (s, t2) => t1 = t2 ∧ Rel P σ s
  | .error e1, .error e2 => e1 ≠ "KeyError" ∧ e2 ≠ "KeyError"
  | _, _ => False

theorem resRel_eq (P : SCParams τ) : ResRel P = TM.RR TM.NoKE2 (Rel P) := by
  funext x y
  rcases x with _ | ⟨_, _⟩ <;> rcases y with _ | ⟨_, _⟩ <;> rfl

structure LInv (A : SArgs τ) (P : SCParams τ) (σ : Loc τ) (s : SCState τ) : Prop where
  rel : Rel P σ s
  inv : Simple.Inv P s
  tot : σ.total_rate = Simple.totalRate P s
  hist : A.full = true → ∀ u ∈ P.nodes, alHas σ.node_history u = true

theorem Agree.keys {A : SArgs τ} {P : SCParams τ} {ic : Node → τ} {tmin : Rat} {tmax : ERat} {cfuel : Nat}
    (h : Agree A P ic tmin tmax cfuel) : A.spont.map Sum.inl ++ A.induced.map Sum.inr = allKeys P := by
  rw [h.spont, h.induced, List.map_map, List.map_map]; rfl

theorem rateList_eq {A : SArgs τ} {P : SCParams τ} {ic : Node → τ} {tmin : Rat} {tmax : ERat} {cfuel : Nat}
    (h : Agree A P ic tmin tmax cfuel) (pt : PT τ) (s : SCState τ) (hS : PTRel pt kS P.spont s.ptS)
    (hI : PTRel pt kI P.ind s.ptI) :
    (allKeys P).map (fun k => A.rate k * twK pt k) = Simple.rateList P s := by
  unfold allKeys Simple.rateList
  rw [List.map_append, rates_eq pt kS A.rate (fun tr => tr.rate) P.spont s.ptS hS h.rateS,
    rates_eq pt kI A.rate (fun tr => tr.rate) P.ind s.ptI hI h.rateI]

theorem allKeys_find {P : SCParams τ} {pt : PT τ} {lS lI : List (LD Actor)} (hS : PTRel pt kS P.spont lS)
    (hI : PTRel pt kI P.ind lI) : ∀ k ∈ allKeys P, ∃ p, PyRT.alFind? pt k = some p := by
  intro k hk
  unfold allKeys at hk
  rcases List.mem_append.1 hk with h | h
  · obtain ⟨tr, htr, rfl⟩ := List.mem_map.1 h
    obtain ⟨_, _, p, -, -, hp, -⟩ := hS.get_of_mem tr htr
    exact ⟨p, hp⟩
  · obtain ⟨tr, htr, rfl⟩ := List.mem_map.1 h
    obtain ⟨_, _, p, -, -, hp, -⟩ := hI.get_of_mem tr htr
    exact ⟨p, hp⟩

/-! ### the clock statements (end of `run` and of every iteration) -/

/-- the model's counterpart of `stage5` -/
def mcont (P : SCParams τ) (tmax : ERat) (cfuel fuel : Nat) (s' : SCState τ) (tv : Rat) : TM (SCState τ) :=
  if Simple.totalRate P s' > 0 then do
    let d ← TM.popExpo (Simple.totalRate P s')
    Simple.loop P tmax cfuel fuel s' (some (tv + d))
  else Simple.loop P tmax cfuel fuel s' none

theorem stage5_bisim (hAg : Agree A P ic tmin tmax cfuel) (fuel : Nat)
    (ih : ∀ (σ : Loc τ) (s : SCState τ), LInv A P σ s →
      TM.Bisim (loop A fuel σ) (Simple.loop P tmax cfuel fuel s σ.t) (Rel P))
    (σ : Loc τ) (s : SCState τ) (tv : Rat) (hR : Rel P σ s) (hI : Simple.Inv P s) (ht : σ.t = some tv)
    (hh : A.full = true → ∀ u ∈ P.nodes, alHas σ.node_history u = true) :
    TM.Bisim (stage5 A fuel σ) (mcont P tmax cfuel fuel s tv) (Rel P) := by
  have key : ∀ (σ' : Loc τ) (t' : ERat), σ'.t = t' → LInv A P σ' s →
      TM.Bisim (loop A fuel σ') (Simple.loop P tmax cfuel fuel s t') (Rel P) := by
    intro σ' t' h1 h2; subst h1; exact ih σ' s h2
  unfold stage5 mcont
  rw [hAg.keys, sumFold σ.potential_transitions A.rate (allKeys P) (allKeys_find hR.ptS hR.ptI) 0,
    rateList_eq hAg σ.potential_transitions s hR.ptS hR.ptI, zero_add, TM.liftE_ok, pure_bind]
  have hsum : sumRat (Simple.rateList P s) = Simple.totalRate P s := rfl
  rw [hsum]
  dsimp only
  by_cases hpos : Simple.totalRate P s > 0
  · rw [if_pos (decide_eq_true hpos), if_pos hpos]
    simp only [bind_assoc, pure_bind]
    refine (TM.Bisim.same (.popExpo _)).bind ?_
    rintro d _ rfl
    exact key { σ with total_rate := Simple.totalRate P s, delay := some d,
                       t := ERat.add σ.t (some d) } (some (tv + d))
      (by show ERat.add σ.t (some d) = some (tv + d); rw [ht]; rfl)
      ⟨⟨hR.status, hR.ptS, hR.ptI, hR.times, hR.data, hR.gw⟩, hI, rfl, hh⟩
  · rw [if_neg (by simpa using hpos), if_neg hpos, pure_bind]
    exact key { σ with total_rate := Simple.totalRate P s, delay := none,
                       t := ERat.add σ.t none } none
      (by show ERat.add σ.t none = none; rw [ht]; rfl)
      ⟨⟨hR.status, hR.ptS, hR.ptI, hR.times, hR.data, hR.gw⟩, hI, rfl, hh⟩

theorem kI_not_mem_kS (l : List (SpontTr τ)) (tr : IndTr τ) : kI tr ∉ l.map kS := by
  intro h
  obtain ⟨x, -, hx⟩ := List.mem_map.1 h
  simp [kS, kI] at hx

theorem kS_not_mem_kI (l : List (IndTr τ)) (tr : SpontTr τ) : kS tr ∉ l.map kI := by
  intro h
  obtain ⟨x, -, hx⟩ := List.mem_map.1 h
  simp [kS, kI] at hx

theorem stage4_eval (hAg : Agree A P ic tmin tmax cfuel) (hwf : Simple.WF P)
    (hndS : (P.spont.map (kS (τ := τ))).Nodup) (hndI : (P.ind.map (kI (τ := τ))).Nodup) (fuel : Nat) (σ : Loc τ)
    (m : Node) (hm : m ∈ P.nodes) (old new : τ) (st : Node → τ) (hst : σ.status = st) (hnew : st m = new)
    (hgw : GWInv P σ.get_weight) (lS lI ps pi : List (LD Actor))
    (hS : PTRel σ.potential_transitions kS P.spont lS) (hI : PTRel σ.potential_transitions kI P.ind lI)
    (hmS : Simple.mapPT P.spont lS (Simple.updSpontOne old new m) = some ps)
    (hmI : Simple.mapPT P.ind lI (Simple.updIndOne P st old new m) = some pi) :
    ∃ σ', stage4 A fuel σ m old = stage5 A fuel σ' ∧ Frame σ σ' ∧ GWInv P σ'.get_weight ∧
      PTRel σ'.potential_transitions kS P.spont ps ∧ PTRel σ'.potential_transitions kI P.ind pi := by
  obtain ⟨σ1, e1, r1⟩ := keyFold P kS (fun (σ : Loc τ) (tr : SpontTr τ) => spontBody m old σ (keyS tr))
    (Simple.updSpontOne old new m) st P.spont hndS
    (fun σ tr ld ld' htr hs hh hf => spontBody_eval P hwf m hm old new st hnew σ tr ld ld' htr hs hh hf)
    σ lS ps hst hgw hS hmS
  obtain ⟨σ2, e2, r2⟩ := keyFold P kI
    (fun (σ : Loc τ) (tr : IndTr τ) => indBody P.directed P.succ P.pred m old σ (keyI tr))
    (Simple.updIndOne P st old new m) st P.ind hndI
    (fun σ tr ld ld' htr hs hh hf => indBody_eval P hwf m hm old new st hnew σ tr ld ld' htr hs hh hf)
    σ1 lI pi (by rw [r1.frame.status, hst]) r1.gw (hI.congr fun tr _ => r1.other _ (kI_not_mem_kS P.spont tr)) hmI
  refine ⟨σ2, ?_, r1.frame.trans r2.frame, r2.gw, r1.rel.congr (fun tr _ => r2.other _ (kS_not_mem_kI P.ind tr)),
    r2.rel⟩
  unfold stage4
  rw [hAg.spont, hAg.induced, hAg.directed, hAg.nbrs, hAg.pred]
  simp only [List.foldlM_map]
  rw [e1, pure_bind, e2, pure_bind]

/-! ### the bookkeeping statements of an event -/

abbrev dataF : GenCC.Field (Loc τ) (List (τ × List Int)) :=
  ⟨(·.data), fun σ d => { σ with data := d }, fun _ _ => rfl, fun _ _ _ => rfl, fun _ => rfl⟩

/-- `if x in return_statuses: data[x][-1] = f(data[x][-1])` -/
theorem editIf (σ : Loc τ) (c : Bool) (x : τ) (f : Int → Int)
    (hx : c = true → x ∈ alKeys σ.data ∧ alGet σ.data [] x ≠ []) :
    (if c = true then
        PyTM.liftE (PyRT.dictGet σ.data x) >>= fun col => PyTM.liftE (PyTM.listLast col) >>= fun v =>
          (pure { σ with data := alSet σ.data x (col.dropLast ++ [f v]) } : TM (Loc τ))
      else pure σ) =
    pure { σ with data := if c = true then GenCC.colEdit σ.data x f else σ.data } := by
  cases c with
  | true =>
    obtain ⟨h1, h2⟩ := hx rfl
    simp only [if_true, dictGet_of_has σ.data x [] ((mem_alKeys_iff _ _).1 h1), GenCC.listLast_of_ne _ h2,
      TM.liftE_ok, pure_bind, GenCC.colEdit]
  | false => simp only [Bool.false_eq_true, if_false]

/-- the two full-data statements `node_history[node][0].append(t)` / `node_history[node][1].append(new_status)` -/
theorem fullIf (σ : Loc τ) (c : Bool) (m : Node) (tt : ERat) (new : τ)
    (hx : c = true → alHas σ.node_history m = true) :
    ∃ nh', (if c = true then do
        let h_12 ← PyTM.liftE (PyRT.dictGet σ.node_history m)
        let σ := { σ with node_history := alSet σ.node_history m (h_12.1 ++ [tt], h_12.2) }
        let h_13 ← PyTM.liftE (PyRT.dictGet σ.node_history m)
        let σ := { σ with node_history := alSet σ.node_history m (h_13.1, h_13.2 ++ [new]) }
        pure σ
      else do
        pure σ) = (pure { σ with node_history := nh' } : TM (Loc τ)) ∧
      ∀ u, alHas σ.node_history u = true → alHas nh' u = true := by
  cases c with
  | false => exact ⟨σ.node_history, by simp, fun _ h => h⟩
  | true =>
    refine ⟨alSet (alSet σ.node_history m ((alGet σ.node_history ([], []) m).1 ++ [tt],
        (alGet σ.node_history ([], []) m).2)) m ((alGet σ.node_history ([], []) m).1 ++ [tt],
        (alGet σ.node_history ([], []) m).2 ++ [new]), ?_, ?_⟩
    · simp only [if_true, dictGet_of_has σ.node_history m ([], []) (hx rfl), TM.liftE_ok, pure_bind,
        dictGet_alSet_self]
    · intro u hu
      rw [alHas_alSet, alHas_alSet]
      exact Or.inl (Or.inl hu)

/-! ### one event

At the point where the generated code looks at the chosen candidate it has already appended the event time `tv` to
`times`; the model does so in `applyEvent`.  Hence the relation assumed of the two states below is
`Rel P σ { s with times := tv :: s.times }`. -/

section Event
variable (hAg : Agree A P ic tmin tmax cfuel) (hwf : Simple.WF P) (hndS : (P.spont.map (kS (τ := τ))).Nodup)
  (hndI : (P.ind.map (kI (τ := τ))).Nodup) (hret : P.ret.Nodup) (fuel : Nat)
include hAg hwf hndS hndI hret

theorem stage3_eval (σ : Loc τ) (s s' : SCState τ) (tv : Rat) (hR : Rel P σ { s with times := tv :: s.times })
    (hh : A.full = true → ∀ u ∈ P.nodes, alHas σ.node_history u = true)
    (e : SCEvent) (src : Option Node) (m : Node) (hm : m ∈ P.nodes) (old new : τ)
    (hdec : Simple.decode P e = some (src, m, old, new)) (hAE : Simple.applyEvent P s e tv = some s') :
    ∃ σ', stage3 A fuel σ m old new = stage5 A fuel σ' ∧ Rel P σ' s' ∧ σ'.t = σ.t ∧
      (A.full = true → ∀ u ∈ P.nodes, alHas σ'.node_history u = true) := by
  unfold Simple.applyEvent at hAE
  simp only [hdec, Option.bind_eq_bind, Option.bind_some] at hAE
  obtain ⟨ps, hmS, hAE⟩ := Option.bind_eq_some_iff.1 hAE
  obtain ⟨pi, hmI, hAE⟩ := Option.bind_eq_some_iff.1 hAE
  obtain rfl := Option.some.inj hAE
  have hst : σ.status = s.status := hR.status
  have hd : GenCC.DRel P.ret σ.data s.data := hR.data
  obtain ⟨nh', enh, hnh⟩ := fullIf { σ with status := fset σ.status m new } A.full m σ.t new
    (fun hf => hh hf m hm)
  obtain ⟨σ', e4, f4, g4, r4S, r4I⟩ := stage4_eval hAg hwf hndS hndI fuel
    { σ with status := fset σ.status m new, node_history := nh', data := GenCC.evData P.ret σ.data old new }
    m hm old new (fset s.status m new) (by rw [← hst]) (fset_self _ _ _) hR.gw s.ptS s.ptI ps pi hR.ptS
    hR.ptI hmS hmI
  refine ⟨σ', ?_, ⟨by rw [f4.status]; show fset σ.status m new = _; rw [hst], r4S, r4I,
    by rw [f4]; exact hR.times, ?_, g4⟩, by rw [f4]; rfl, ?_⟩
  · rw [← e4]
    unfold stage3
    dsimp only at enh ⊢
    rw [enh, pure_bind]
    dsimp only
    have hkeys : List.map (fun x : τ × List Int => x.1) σ.data = P.ret := hd.keys
    rw [hkeys, GenCC.dataFold_eq dataF dataBody (fun _ _ => rfl) P.ret _ (fun k hk => by rw [hd.keys]; exact hk)
      (fun k hk => by rw [hd.keys] at hk; exact hd.get_ne k hk), pure_bind]
    dsimp only
    rw [hAg.ret]
    have ed1 := editIf
      ({ σ with status := fset σ.status m new, node_history := nh', data := List.foldl GenCC.colDup σ.data P.ret })
      (decide (old ∈ P.ret)) old (· - 1)
      (fun hc => GenCC.evData_side1 hd hret old (of_decide_eq_true hc))
    dsimp only at ed1
    rw [ed1, pure_bind]
    simp only [fset_self]
    have ed2 := editIf
      ({ σ with status := fset σ.status m new, node_history := nh', data := (if decide (old ∈ P.ret) = true then
          GenCC.colEdit (List.foldl GenCC.colDup σ.data P.ret) old (· - 1) else List.foldl GenCC.colDup σ.data P.ret) })
      (decide (new ∈ P.ret)) new (· + 1)
      (fun hc => by
        have := GenCC.evData_side2 hd hret old (· - 1) new (of_decide_eq_true hc)
        simpa using this)
    dsimp only at ed2
    rw [ed2, pure_bind]
    simp only [decide_eq_true_eq]
    rfl
  · rw [f4]
    exact GenCC.evData_rel P.ret hret σ.data s.data hd old new
  · intro hf u hu
    rw [f4]
    exact hnh u (hh hf u hu)

variable (ih : ∀ (σ : Loc τ) (s : SCState τ), LInv A P σ s →
      TM.Bisim (loop A fuel σ) (Simple.loop P tmax cfuel fuel s σ.t) (Rel P))
include ih

theorem stage3_bisim (σ : Loc τ) (s s' : SCState τ) (tv : Rat)
    (hR : Rel P σ { s with times := tv :: s.times })
    (hh : A.full = true → ∀ u ∈ P.nodes, alHas σ.node_history u = true) (ht : σ.t = some tv)
    (hInv' : Simple.Inv P s') (e : SCEvent) (src : Option Node) (m : Node) (hm : m ∈ P.nodes) (old new : τ)
    (hdec : Simple.decode P e = some (src, m, old, new)) (hAE : Simple.applyEvent P s e tv = some s') :
    TM.Bisim (stage3 A fuel σ m old new) (mcont P tmax cfuel fuel s' tv) (Rel P) := by
  obtain ⟨σ', e3, hR', ht', hh'⟩ := stage3_eval hAg hwf hndS hndI hret fuel σ s s' tv hR hh e src m hm old new
    hdec hAE
  rw [e3]
  exact stage5_bisim hAg fuel ih σ' s' tv hR' hInv' (ht'.trans ht) hh'

/-- decoding of the chosen candidate: a spontaneous actor is a node, an induced one a pair whose second node changes
(and, with full data, is recorded as a transmission) -/
theorem stage2_bisim (σ : Loc τ) (s : SCState τ) (tv : Rat)
    (hR : Rel P σ { s with times := tv :: s.times })
    (hh : A.full = true → ∀ u ∈ P.nodes, alHas σ.node_history u = true) (ht : σ.t = some tv)
    (hInv : Simple.Inv P s) (i : Nat) (c : Actor) (ld : LD Actor) (hc : c ∈ ld.items) (k : PyTM.Tr τ)
    (hk : (∃ tr, P.spont[i]? = some tr ∧ s.ptS[i]? = some ld ∧ k = kS tr) ∨
       (∃ tr, P.spont.length ≤ i ∧ P.ind[i - P.spont.length]? = some tr ∧ s.ptI[i - P.spont.length]? = some ld ∧
          k = kI tr)) :
    ∃ s', Simple.applyEvent P s { idx := i, actor := c } tv = some s' ∧
      TM.Bisim (stage2 A fuel σ k c) (mcont P tmax cfuel fuel s' tv) (Rel P) := by
  rcases hk with ⟨tr, htr, hld, rfl⟩ | ⟨tr, hge, htr, hld, rfl⟩
  · obtain ⟨-, -, hmem, -⟩ := hInv.spont i tr ld htr hld
    obtain ⟨u, rfl, hun, hsu⟩ := (hmem c).1 hc
    have hdec := Simple.decode_spont P i tr htr u
    obtain ⟨s', hAE, hInv', -⟩ := Simple.applyEvent_core P hwf s hInv _ tv none u _ tr.dst hdec hun hsu
    exact ⟨s', hAE, stage3_bisim hAg hwf hndS hndI hret fuel ih σ s s' tv hR hh ht hInv' _ none u hun tr.src
      tr.dst hdec hAE⟩
  · obtain ⟨-, -, hmem, -⟩ := hInv.ind _ tr ld htr hld
    obtain ⟨u, v, rfl, hun, hvu, hsu, hsv⟩ := (hmem c).1 hc
    have hvn : v ∈ P.nodes := hwf.succ_mem u hun v hvu
    have hdec := Simple.decode_ind P i hge tr htr u v
    obtain ⟨s', hAE, hInv', -⟩ := Simple.applyEvent_core P hwf s hInv _ tv (some u) v _ tr.c hdec hvn hsv
    have key : ∀ σ' : Loc τ, Rel P σ' { s with times := tv :: s.times } →
        (A.full = true → ∀ u ∈ P.nodes, alHas σ'.node_history u = true) → σ'.t = some tv →
        TM.Bisim (stage3 A fuel σ' v tr.b tr.c) (mcont P tmax cfuel fuel s' tv) (Rel P) :=
      fun σ' hR' hh' ht' => stage3_bisim hAg hwf hndS hndI hret fuel ih σ' s s' tv hR' hh' ht' hInv' _ (some u) v
        hvn tr.b tr.c hdec hAE
    refine ⟨s', hAE, ?_⟩
    cases hf : A.full with
    | true =>
      have e2 : stage2 A fuel σ (kI tr) [u, v] =
          stage3 A fuel { σ with transmissions := σ.transmissions ++ [(σ.t, some u, v)] } v tr.b tr.c := by
        unfold stage2
        simp only [hf, if_true]
        rfl
      rw [e2]
      exact key _ ⟨hR.status, hR.ptS, hR.ptI, hR.times, hR.data, hR.gw⟩ hh ht
    | false =>
      have e2 : stage2 A fuel σ (kI tr) [u, v] = stage3 A fuel σ v tr.b tr.c := by
        unfold stage2
        simp only [hf, Bool.false_eq_true, if_false]
        rfl
      rw [e2]
      exact key σ hR hh ht

end Event

/-! ### the chosen transition -/

theorem allKeys_get {P : SCParams τ} {pt : PT τ} {s : SCState τ} (hInv : Simple.Inv P s)
    (hS : PTRel pt kS P.spont s.ptS) (hI : PTRel pt kI P.ind s.ptI) (i : Nat) (ld : LD Actor)
    (hl : (s.ptS ++ s.ptI)[i]? = some ld) :
    ∃ k p, (allKeys P)[i]? = some k ∧ PyRT.alFind? pt k = some p ∧ GenLD.R p ld ∧ LD.Inv ld ∧
      ((∃ tr, P.spont[i]? = some tr ∧ s.ptS[i]? = some ld ∧ k = kS tr) ∨
       (∃ tr, P.spont.length ≤ i ∧ P.ind[i - P.spont.length]? = some tr ∧ s.ptI[i - P.spont.length]? = some ld ∧
          k = kI tr)) := by
  unfold allKeys
  rcases hInv.cases hl with ⟨tr, htr, hld⟩ | ⟨tr, hge, htr, hld⟩
  · obtain ⟨⟨p, hp, hR⟩, hinv⟩ := hS.2 i tr ld htr hld
    refine ⟨kS tr, p, ?_, hp, hR, hinv, Or.inl ⟨tr, htr, hld, rfl⟩⟩
    rw [List.getElem?_append_left (by simpa using (List.getElem?_eq_some_iff.1 htr).1), List.getElem?_map, htr]
    rfl
  · obtain ⟨⟨p, hp, hR⟩, hinv⟩ := hI.2 _ tr ld htr hld
    refine ⟨kI tr, p, ?_, hp, hR, hinv, Or.inr ⟨tr, hge, htr, hld, rfl⟩⟩
    rw [List.getElem?_append_right (by simpa using hge), List.length_map, List.getElem?_map, htr]
    rfl

theorem allKeys_get_none {P : SCParams τ} {pt : PT τ} {lS lI : List (LD Actor)} (hS : PTRel pt kS P.spont lS)
    (hI : PTRel pt kI P.ind lI) (i : Nat) (hl : (lS ++ lI)[i]? = none) : (allKeys P)[i]? = none := by
  rw [List.getElem?_eq_none_iff] at hl ⊢
  unfold allKeys
  simp only [List.length_append, List.length_map] at hl ⊢
  rw [← hS.1, ← hI.1]; exact hl

/-! ### the loop -/

theorem loop_bisim (hAg : Agree A P ic tmin tmax cfuel) (hwf : Simple.WF P)
    (hndS : (P.spont.map (kS (τ := τ))).Nodup) (hndI : (P.ind.map (kI (τ := τ))).Nodup) (hret : P.ret.Nodup)
    (fuel : Nat) (σ : Loc τ) (s : SCState τ) (hL : LInv A P σ s) :
    TM.Bisim (loop A fuel σ) (Simple.loop P tmax cfuel fuel s σ.t) (Rel P) := by
  induction fuel generalizing σ s with
  | zero => exact .of_fails (.fail _ (by decide)) (.fail _ (by decide))
  | succ fuel ih =>
    rw [loop_succ, Simple.loop.eq_def]
    cases ht : σ.t with
    | none =>
      simp only [ERat.lt, Bool.and_false, Bool.false_eq_true, if_false]
      exact .pure hL.rel
    | some tv =>
      simp only []
      rw [hAg.tmax, hL.tot]
      -- the model tests the negation of the generated loop condition
      have hcond : ((!decide (Simple.totalRate P s > 0)) = true ∨ (!ERat.lt (some tv) tmax) = true) ↔
          ¬ (decide (Simple.totalRate P s > 0) && ERat.lt (some tv) tmax) = true := by
        cases decide (Simple.totalRate P s > 0) <;> cases ERat.lt (some tv) tmax <;> decide
      by_cases hc : (decide (Simple.totalRate P s > 0) && ERat.lt (some tv) tmax) = true
      · rw [if_pos hc, if_neg (fun h => hcond.1 h hc)]
        have hS := hL.rel.ptS
        have hI := hL.rel.ptI
        have htot : σ.total_rate ≠ 0 := by
          rw [hL.tot]; exact ne_of_gt (of_decide_eq_true (Bool.and_eq_true_iff.1 hc).1)
        unfold iter Simple.pick
        dsimp only
        rw [bind_assoc]
        refine (TM.Bisim.same .popUnif).bind ?_
        rintro r _ rfl
        obtain ⟨r', d, hfold⟩ := chooseFold σ.potential_transitions A.rate σ.total_rate htot (allKeys P)
          (allKeys_find hS hI) r
        have hsh : (allKeys P).map (fun k => A.rate k * twK σ.potential_transitions k / σ.total_rate) =
            (Simple.rateList P s).map (fun x => x / Simple.totalRate P s) := by
          rw [← rateList_eq hAg σ.potential_transitions s hS hI, List.map_map, hL.tot]; rfl
        rw [hsh] at hfold
        generalize Simple.pickIdx ((Simple.rateList P s).map fun x => x / Simple.totalRate P s) r = i at hfold ⊢
        rw [hAg.keys, hfold, TM.liftE_ok, pure_bind]
        dsimp only
        cases hld : (s.ptS ++ s.ptI)[i]? with
        | none =>
          rw [allKeys_get_none hS hI _ hld]
          exact .of_fails (.liftE_error _ (by decide) _) (.fail _ (by decide))
        | some ld =>
          obtain ⟨k, p, hk1, hk2, hR, hinv, hk3⟩ := allKeys_get hL.inv hS hI _ ld hld
          rw [hk1]
          have hlp : PyTM.liftE (pure k : Except String (PyTM.Tr τ)) = (pure k : TM (PyTM.Tr τ)) := rfl
          simp only [hlp, TM.liftE_ok, pure_bind, dictGet_of_find _ _ _ hk2]
          rw [hAg.cfuel, bind_assoc]
          refine (GenLD.choose_bisim Simple.encActor p ld hR hinv cfuel).bind ?_
          rintro _ c ⟨rfl, hcm⟩
          rw [pure_bind]
          dsimp only
          obtain ⟨s', hAE, hres⟩ := stage2_bisim hAg hwf hndS hndI hret fuel
            (fun σ s h => ih σ s h)
            ({ σ with times := σ.times ++ [σ.t],
                      potential_transitions := alSet σ.potential_transitions k p }) s tv
            ⟨hL.rel.status, hS.congr fun tr _ => find_alSet_same _ _ _ _ hk2,
              hI.congr fun tr _ => find_alSet_same _ _ _ _ hk2,
              by show σ.times ++ [σ.t] = _; rw [hL.rel.times, ht]; simp, hL.rel.data, hL.rel.gw⟩
            hL.hist ht hL.inv _ c ld hcm k hk3
          rw [hAE]
          exact hres
      · rw [if_neg hc, if_pos (hcond.2 hc)]
        exact .pure hL.rel

/-! ### set-up and `run` -/

/-- the body of `for node in G.nodes():` (initial population of the candidate structures) -/
def initNodeBody (P : SArgs τ) (σ : Loc τ) (node : Node) : TM (Loc τ) := do
    let σ ← (if (P.spHas (σ.status node)) then do
      let σ ← (P.spOut (σ.status node)).foldlM (fun (σ : Loc τ) (transition : τ × τ) =>
        stUpdate σ (Sum.inl transition) [node]) σ
      pure σ
    else do
      pure σ)
    let σ ← (P.nbrs node).foldlM (fun (σ : Loc τ) (nbr : Node) => do
      let σ ← (if (P.inHas (σ.status node, σ.status nbr)) then do
        let σ ← (P.inOut (σ.status node, σ.status nbr)).foldlM (fun (σ : Loc τ) (transition : (τ × τ) × (τ × τ)) =>
          stUpdate σ (Sum.inr transition) [node, nbr]) σ
        pure σ
      else do
        pure σ)
      pure σ) σ
    pure σ

/-- the generated `run` with its node-loop body and closing statements named (`initNodeBody`, `stage5`); `run_bisim` passes
to it by `show`, i.e. by `rfl` -/
def run' (P : SArgs τ) (fuel : Nat) : TM (Loc τ) := do
  let σ : Loc τ := Loc.init P
  let σ := { σ with status := P.ic }
  let σ ← (if P.full then do
    let σ := { σ with transmissions := [] }
    let σ := { σ with node_history := P.nodes.map (fun node => (node, ([some P.tmin], [σ.status node]))) }
    pure σ
  else do
    pure σ)
  let σ := { σ with times := [some P.tmin] }
  let σ := { σ with data := [] }
  let C := σ.status
  let σ ← P.ret.foldlM (fun (σ : Loc τ) (return_status : τ) => do
    let σ := { σ with data := alSet σ.data return_status [(PyTM.countSt P.nodes C return_status)] }
    pure σ) σ
  let σ ← P.nodes.foldlM (initNodeBody P) σ
  let σ := { σ with t := (some P.tmin) }
  stage5 P fuel σ

theorem initNodes_fold (hAg : Agree A P ic tmin tmax cfuel) (hwf : Simple.WF P)
    (hndS : (P.spont.map (kS (τ := τ))).Nodup) (hndI : (P.ind.map (kI (τ := τ))).Nodup) (st : Node → τ)
    (l : List Node) (hl : ∀ u ∈ l, u ∈ P.nodes) (σ : Loc τ) (hst : σ.status = st) (hgw : GWInv P σ.get_weight)
    (ps pi ps' pi' : List (LD Actor)) (hS : PTRel σ.potential_transitions kS P.spont ps)
    (hI : PTRel σ.potential_transitions kI P.ind pi) (hm : Simple.initNodes P st l ps pi = some (ps', pi')) :
    ∃ σ', l.foldlM (initNodeBody A) σ = pure σ' ∧ Frame σ σ' ∧ GWInv P σ'.get_weight ∧
      PTRel σ'.potential_transitions kS P.spont ps' ∧ PTRel σ'.potential_transitions kI P.ind pi' := by
  induction l generalizing σ ps pi with
  | nil =>
    rw [Simple.initNodes] at hm
    obtain ⟨rfl, rfl⟩ := Prod.mk.inj (Option.some.inj hm)
    exact ⟨σ, rfl, Frame.refl σ, hgw, hS, hI⟩
  | cons u rest ih =>
    rw [Simple.initNodes] at hm
    split at hm
    · rename_i ps1 pi1 hm1 hm2
      have hu : u ∈ P.nodes := hl u (by simp)
      obtain ⟨σ1, e1, r1⟩ := initSpontPart hAg hwf hndS st u hu σ hst hgw ps ps1 hS hm1
      have hst1 : σ1.status = st := by rw [r1.frame.status, hst]
      obtain ⟨σ2, e2, r2⟩ := initIndPart hAg hwf hndI st u hu (P.succ u) (fun v hv => hv) σ1 hst1 r1.gw pi pi1
        (hI.congr fun tr _ => r1.other _ (kI_not_mem_kS P.spont tr)) hm2
      obtain ⟨σ3, e3, f3, g3, hS3, hI3⟩ := ih (fun x hx => hl x (by simp [hx])) σ2
        (by rw [r2.frame.status, hst1]) r2.gw ps1 pi1 (r1.rel.congr fun tr _ => r2.other _ (kS_not_mem_kI P.ind tr))
        r2.rel hm
      refine ⟨σ3, ?_, (r1.frame.trans r2.frame).trans f3, g3, hS3, hI3⟩
      have eb : initNodeBody A σ u = pure σ2 := by
        unfold initNodeBody
        rw [e1, pure_bind, hAg.nbrs]
        exact e2
      rw [List.foldlM_cons, eb, pure_bind, e3]
    · cases hm

theorem ite_pure_tm {α : Type} (c : Prop) [Decidable c] (a b : α) :
    (if c then (pure a : TM α) else pure b) = pure (if c then a else b) := by
  split <;> rfl

theorem PTRel_init {κ : Type} (pt : PT τ) (key : κ → PyTM.Tr τ) (w : κ → Bool) (trs : List κ)
    (h : ∀ tr ∈ trs, PyRT.alFind? pt (key tr) = some (GenLD.init (w tr))) :
    PTRel pt key trs (trs.map fun tr => LD.empty (w tr)) := by
  refine ⟨by simp, ?_⟩
  intro i tr ld h1 h2
  rw [List.getElem?_map, h1] at h2
  obtain rfl := Option.some.inj h2
  exact ⟨⟨_, h tr (List.mem_of_getElem? h1), GenLD.init_R _⟩, LD.inv_empty _⟩

section Run
variable (hAg : Agree A P ic tmin tmax cfuel) (hwf : Simple.WF P) (hndS : (P.spont.map (kS (τ := τ))).Nodup)
  (hndI : (P.ind.map (kI (τ := τ))).Nodup) (hret : P.ret.Nodup) (fuel : Nat)
include hAg hwf hndS hndI hret

/-- `run` from the statement `for node in G.nodes():` on, whatever the full-data branch has stored -/
theorem run_tail (nh : List (Node × (List ERat × List τ))) (trm : List (ERat × Option Node × Node))
    (hnh : A.full = true → ∀ u ∈ P.nodes, alHas nh u = true) (s0 : SCState τ)
    (h0 : Simple.init P ic tmin = some s0) (hinv0 : Simple.Inv P s0) :
    TM.Bisim
      (P.nodes.foldlM (initNodeBody A)
          ({ status := ic, times := [some tmin], t := none, delay := none, total_rate := 0,
             data := List.foldl (fun d x => alSet d x [PyTM.countSt P.nodes ic x]) [] P.ret,
             potential_transitions := A.pt0, get_weight := A.gw0, node_history := nh, transmissions := trm } : Loc τ)
        >>= fun σ => stage5 A fuel { σ with t := some tmin })
      (mcont P tmax cfuel fuel s0 tmin) (Rel P) := by
  unfold Simple.init at h0
  split at h0
  · cases h0
  · rename_i ps pi hin
    obtain rfl := Option.some.inj h0
    obtain ⟨σ', e1, f1, g1, hS1, hI1⟩ := initNodes_fold hAg hwf hndS hndI ic P.nodes (fun u hu => hu)
      ({ status := ic, times := [some tmin], t := none, delay := none, total_rate := 0,
         data := List.foldl (fun d x => alSet d x [PyTM.countSt P.nodes ic x]) [] P.ret,
         potential_transitions := A.pt0, get_weight := A.gw0, node_history := nh, transmissions := trm })
      rfl hAg.gw0 _ _ ps pi
      (PTRel_init A.pt0 kS (fun tr => tr.w.isSome) P.spont hAg.pt0S)
      (PTRel_init A.pt0 kI (fun tr => tr.w.isSome) P.ind hAg.pt0I) hin
    rw [e1, pure_bind]
    refine stage5_bisim hAg fuel (fun σ s h => loop_bisim hAg hwf hndS hndI hret fuel σ s h)
      { σ' with t := some tmin } _ tmin ⟨?_, hS1, hI1, ?_, ?_, g1⟩ hinv0 rfl ?_
    · show σ'.status = ic
      rw [f1.status]
    · show σ'.times = _
      rw [f1]; rfl
    · show GenCC.DRel P.ret σ'.data _
      rw [f1]
      exact GenCC.init_data_rel P.nodes ic P.ret hret
    · intro hf u hu
      show alHas σ'.node_history u = true
      rw [f1]
      exact hnh hf u hu

theorem run_bisim : TM.Bisim (run A fuel) (Simple.run P ic tmin tmax fuel cfuel) (Rel P) := by
  obtain ⟨s0, h0, hinv0, -⟩ := Simple.init_inv' P hwf ic tmin
  show TM.Bisim (run' A fuel) _ _
  unfold run' Simple.run
  rw [h0]
  cases hf : A.full with
  | true =>
    simp only [Loc.init, if_true, pure_bind]
    rw [GenCC.retFold_eq dataF _ (fun x => PyTM.countSt A.nodes A.ic x) (fun _ _ => rfl)]
    simp only [pure_bind]
    rw [hAg.nodes, hAg.ic, hAg.ret, hAg.tmin]
    exact run_tail hAg hwf hndS hndI hret fuel _ _ (fun _ u hu => alHas_map_mk _ _ _ hu) s0 h0 hinv0
  | false =>
    simp only [Loc.init, Bool.false_eq_true, if_false, pure_bind]
    rw [GenCC.retFold_eq dataF _ (fun x => PyTM.countSt A.nodes A.ic x) (fun _ _ => rfl)]
    simp only [pure_bind]
    rw [hAg.nodes, hAg.ic, hAg.ret, hAg.tmin]
    exact run_tail hAg hwf hndS hndI hret fuel _ _ (fun h => by rw [hf] at h; cases h) s0 h0 hinv0

end Run

/-! ### consequences: the C03 invariant on the generated state -/

/-- the C03 invariant restated on the locals of the generated function: the generated state is related to a model
state satisfying `Simple.Inv` -/
def GInv (P : SCParams τ) (σ : Loc τ) : Prop := ∃ s, Rel P σ s ∧ Simple.Inv P s

/-- what `GInv` says in terms of the generated state only: the structure stored under a spontaneous key -/
theorem GInv.spont {P : SCParams τ} {σ : Loc τ} (hG : GInv P σ) (tr : SpontTr τ) (htr : tr ∈ P.spont) :
    ∃ p, PyRT.dictGet σ.potential_transitions (kS tr) = .ok p ∧ p.weighted = tr.w.isSome ∧ p.items.Nodup ∧
      (∀ a, a ∈ p.items ↔ ∃ u, a = [u] ∧ u ∈ P.nodes ∧ σ.status u = tr.src) ∧
      (∀ f, tr.w = some f → ∀ u, [u] ∈ p.items → alGet p.weight 0 [u] = f u) := by
  obtain ⟨s, hR, hI⟩ := hG
  obtain ⟨i, ld, p, h1, h2, h3, h4⟩ := hR.ptS.get_of_mem tr htr
  obtain ⟨hinv, hwd, hmem, hgw⟩ := hI.spont i tr ld h1 h2
  refine ⟨p, dictGet_of_find _ _ _ h3, by rw [h4.weighted, hwd], by rw [h4.items]; exact hinv.nodup, ?_, ?_⟩
  · intro a; rw [h4.items, hR.status]; exact hmem a
  · intro f hf u hu
    rw [h4.weight]; rw [h4.items] at hu
    exact hgw f hf u hu

theorem GInv.ind {P : SCParams τ} {σ : Loc τ} (hG : GInv P σ) (tr : IndTr τ) (htr : tr ∈ P.ind) :
    ∃ p, PyRT.dictGet σ.potential_transitions (kI tr) = .ok p ∧ p.weighted = tr.w.isSome ∧ p.items.Nodup ∧
      (∀ a, a ∈ p.items ↔ ∃ u v, a = [u, v] ∧ u ∈ P.nodes ∧ v ∈ P.succ u ∧ σ.status u = tr.a ∧ σ.status v = tr.b) ∧
      (∀ f, tr.w = some f → ∀ u v, [u, v] ∈ p.items → alGet p.weight 0 [u, v] = f u v) := by
  obtain ⟨s, hR, hI⟩ := hG
  obtain ⟨i, ld, p, h1, h2, h3, h4⟩ := hR.ptI.get_of_mem tr htr
  obtain ⟨hinv, hwd, hmem, hgw⟩ := hI.ind i tr ld h1 h2
  refine ⟨p, dictGet_of_find _ _ _ h3, by rw [h4.weighted, hwd], by rw [h4.items]; exact hinv.nodup, ?_, ?_⟩
  · intro a; rw [h4.items, hR.status]; exact hmem a
  · intro f hf u v hu
    rw [h4.weight]; rw [h4.items] at hu
    exact hgw f hf u v hu

/-- **clock**: the rate-summing loop of the generated code, run on a state satisfying the invariant, returns the total
rate of the specified chain -/
theorem GInv.clock (hAg : Agree A P ic tmin tmax cfuel) (hwf : Simple.WF P) {σ : Loc τ} (hG : GInv P σ) :
    (A.spont.map Sum.inl ++ A.induced.map Sum.inr).foldlM (fun (acc : Rat) (transition : PyTM.Tr τ) => do
        let ld ← PyRT.dictGet σ.potential_transitions transition
        let (_, w) ← GenLD.total_weight ld
        pure (acc + A.rate transition * w)) 0 =
      (.ok (Simple.specTotal P σ.status) : Except String Rat) := by
  obtain ⟨s, hR, hI⟩ := hG
  rw [hAg.keys, sumFold σ.potential_transitions A.rate (allKeys P) (allKeys_find hR.ptS hR.ptI) 0,
    rateList_eq hAg σ.potential_transitions s hR.ptS hR.ptI, zero_add, hR.status, ← Simple.clock_eq' P hwf s hI]
  rfl

/-- **counts**: the last entry of every reported column is the number of nodes in that status -/
theorem GInv.counts {P : SCParams τ} {σ : Loc τ} (hG : GInv P σ) (x : τ) (hx : x ∈ P.ret) :
    GenCC.lastI (alGet σ.data [] x) = PyTM.countSt P.nodes σ.status x := by
  obtain ⟨s, hR, hI⟩ := hG
  obtain ⟨i, hi, rfl⟩ := List.getElem_of_mem hx
  have hc := hI.counts.2 i hi
  have hret : ∀ d, P.ret.getD i d = P.ret[i] := by
    intro d; simp [List.getD_eq_getElem?_getD, hi]
  rw [hret] at hc
  rw [hR.data.cols i hi, GenCC.lastI_reverse, hc, hR.status]
  rfl

theorem run_ginv (hAg : Agree A P ic tmin tmax cfuel) (hwf : Simple.WF P) (hndS : (P.spont.map (kS (τ := τ))).Nodup)
    (hndI : (P.ind.map (kI (τ := τ))).Nodup) (hret : P.ret.Nodup) (fuel : Nat) (ts ts' : TapeSt) (σ : Loc τ)
    (h : run A fuel ts = .ok (σ, ts')) : GInv P σ := by
  obtain ⟨s, hs, hR⟩ := (run_bisim hAg hwf hndS hndI hret fuel ts).bwd h
  exact ⟨s, hR, (Simple.run_safe P hwf ic tmin tmax fuel cfuel).ok hs⟩

end GenSC
