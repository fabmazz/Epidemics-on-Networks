import EoNVerif.Model.Simple
import EoNVerif.Model.ListDictLaw
import EoNVerif.Proofs.ListDict
import EoNVerif.Proofs.Rows
import Mathlib.Tactic.Ring
import Mathlib.Tactic.Linarith
import Mathlib.Algebra.Order.Field.Rat
import Mathlib.Data.List.Nodup
/-!
`Gillespie_simple_contagion` (model `Model/Simple.lean`): the invariant `Simple.Inv` — every candidate structure lists
exactly the actors the statuses imply — and its preservation by the update loops that follow a status change.

Every update loop of the model is a batch of `_ListDict_` operations (`updIndSucc_eq` etc.), so one specification of
batches does the work: `LD.Tracks.applyOps_local` (`Proofs/ListDict.lean`), which allows a key to be removed and later
re-inserted (the interpreter removes and re-adds the same actor when a transition has equal from- and to-status).  `spont_batch_spec` and `ind_batch_spec` say what such a batch does to the candidates
of one transition; `mapPT_spec` lifts this to all transitions; `pickIdx_interval'` is the cumulative-share interval
of the transition choice.
-/



namespace Simple
variable {σ : Type} [DecidableEq σ]

/-! ### `mapPT` position-wise -/

theorem mapPT_cons {τ : Type} (tr : τ) (trs : List τ) (ld : LD Actor) (lds : List (LD Actor))
    (f : τ → LD Actor → Option (LD Actor)) :
    mapPT (tr :: trs) (ld :: lds) f = (f tr ld).bind fun ld' => (mapPT trs lds f).map (ld' :: ·) := by
  rw [mapPT]
  cases f tr ld <;> cases mapPT trs lds f <;> rfl

theorem mapPT_spec {τ : Type} (trs : List τ) (pts : List (LD Actor)) (f : τ → LD Actor → Option (LD Actor))
    (Q Q' : τ → LD Actor → Prop) (hlen : pts.length = trs.length)
    (hpre : ∀ (i : Nat) tr ld, trs[i]? = some tr → pts[i]? = some ld → Q tr ld)
    (hstep : ∀ tr ld, tr ∈ trs → Q tr ld → ∃ ld', f tr ld = some ld' ∧ Q' tr ld') :
    ∃ pts', mapPT trs pts f = some pts' ∧ pts'.length = trs.length ∧
      ∀ (i : Nat) tr ld', trs[i]? = some tr → pts'[i]? = some ld' → Q' tr ld' := by
  induction trs generalizing pts with
  | nil =>
    cases pts with
    | nil => exact ⟨[], rfl, rfl, by simp⟩
    | cons _ _ => simp at hlen
  | cons tr trs ih =>
    cases pts with
    | nil => simp at hlen
    | cons ld pts =>
      have hlen' : pts.length = trs.length := by simpa using hlen
      obtain ⟨ld', hld', hq'⟩ := hstep tr ld (by simp) (hpre 0 tr ld rfl rfl)
      obtain ⟨rest, hrest, hrl, hrq⟩ := ih pts hlen'
        (fun i tr' ld' h1 h2 => hpre (i + 1) tr' ld' h1 h2)
        (fun tr' ld' h1 h2 => hstep tr' ld' (List.mem_cons_of_mem _ h1) h2)
      refine ⟨ld' :: rest, ?_, by rw [List.length_cons, List.length_cons, hrl], ?_⟩
      · rw [mapPT_cons, hld', hrest]; rfl
      · intro i tr' ld'' h1 h2
        cases i with
        | zero =>
          obtain rfl := Option.some.inj h1
          obtain rfl := Option.some.inj h2
          exact hq'
        | succ i => exact hrq i tr' ld'' h1 h2

/-! ### `pickIdx` -/

theorem pickIdx_go_spec (l : List Rat) (hn : ∀ x ∈ l, 0 ≤ x) (r : Rat) (h0 : 0 ≤ r) (hr : r < sumRat l) (i : Nat) :
    ∃ j, pickIdx.go l r i = i + j ∧ j < l.length ∧ sumRat (l.take j) ≤ r ∧ r < sumRat (l.take (j + 1)) := by
  induction l generalizing r i with
  | nil => exact absurd hr (not_lt.2 h0)
  | cons x xs ih =>
    rw [sumRat_cons] at hr
    unfold pickIdx.go
    by_cases hx : r - x < 0
    · rw [if_pos hx]
      refine ⟨0, rfl, Nat.succ_pos _, h0, ?_⟩
      rw [List.take_succ_cons, List.take_zero, sumRat_cons, sumRat_nil]
      linarith
    · rw [if_neg hx]
      obtain ⟨j, hj1, hj2, hj3, hj4⟩ := ih (fun y hy => hn y (List.mem_cons_of_mem _ hy)) (r - x) (not_lt.1 hx)
        (by linarith) (i + 1)
      refine ⟨j + 1, by rw [hj1]; omega, Nat.succ_lt_succ hj2, ?_, ?_⟩
      · rw [List.take_succ_cons, sumRat_cons]; linarith
      · rw [List.take_succ_cons, sumRat_cons]; linarith

theorem pickIdx_interval' (shares : List Rat) (hn : ∀ x ∈ shares, 0 ≤ x) (r : Rat) (h0 : 0 ≤ r)
    (hr : r < sumRat shares) :
    pickIdx shares r < shares.length ∧ sumRat (shares.take (pickIdx shares r)) ≤ r ∧
      r < sumRat (shares.take (pickIdx shares r + 1)) := by
  obtain ⟨j, hj1, hj2, hj3, hj4⟩ := pickIdx_go_spec shares hn r h0 hr 0
  have : pickIdx shares r = j := by unfold pickIdx; rw [hj1]; omega
  rw [this]; exact ⟨hj2, hj3, hj4⟩

/-! ### well-formed parameters, the invariant, enabled events -/

/-- `succ_out`: nothing hangs off a non-node; `noloop` is what makes a neighbour of `m` keep its status when `m` changes
(`ind_batch_spec`); non-negative weights because `_ListDict_` needs them -/
structure WF (P : SCParams σ) : Prop where
  nodup : P.nodes.Nodup
  succ_nodup : ∀ u ∈ P.nodes, (P.succ u).Nodup
  succ_mem : ∀ u ∈ P.nodes, ∀ v ∈ P.succ u, v ∈ P.nodes
  succ_out : ∀ u, u ∉ P.nodes → P.succ u = []
  pred_nodup : ∀ u ∈ P.nodes, (P.pred u).Nodup
  pred_iff : ∀ u v, u ∈ P.pred v ↔ v ∈ P.succ u
  undirected_symm : P.directed = false → ∀ u v, v ∈ P.succ u → u ∈ P.succ v
  noloop : ∀ u, u ∉ P.succ u
  wS_nonneg : ∀ tr ∈ P.spont, ∀ f, tr.w = some f → ∀ u, 0 ≤ f u
  wI_nonneg : ∀ tr ∈ P.ind, ∀ f, tr.w = some f → ∀ u v, 0 ≤ f u v
  rate_nonneg : (∀ tr ∈ P.spont, 0 ≤ tr.rate) ∧ (∀ tr ∈ P.ind, 0 ≤ tr.rate)

/-- `potential_transitions[tr]` equals the set implied by the statuses, for every spec edge (in `counts` the default
`s.status 0` of `getD` is never used: `i < P.ret.length`) -/
structure Inv (P : SCParams σ) (s : SCState σ) : Prop where
  lenS : s.ptS.length = P.spont.length
  lenI : s.ptI.length = P.ind.length
  spont : ∀ (i : Nat) (tr : SpontTr σ) (ld : LD Actor), P.spont[i]? = some tr → s.ptS[i]? = some ld →
    LD.Inv ld ∧ ld.weighted = tr.w.isSome ∧
    (∀ a, a ∈ ld.items ↔ ∃ u, a = [u] ∧ u ∈ P.nodes ∧ s.status u = tr.src) ∧
    (∀ f, tr.w = some f → ∀ u, [u] ∈ ld.items → ld.getW [u] = f u)
  ind : ∀ (i : Nat) (tr : IndTr σ) (ld : LD Actor), P.ind[i]? = some tr → s.ptI[i]? = some ld →
    LD.Inv ld ∧ ld.weighted = tr.w.isSome ∧
    (∀ a, a ∈ ld.items ↔ ∃ u v, a = [u, v] ∧ u ∈ P.nodes ∧ v ∈ P.succ u ∧ s.status u = tr.a ∧ s.status v = tr.b) ∧
    (∀ f, tr.w = some f → ∀ u v, [u, v] ∈ ld.items → ld.getW [u, v] = f u v)
  counts : s.data.length = P.ret.length ∧
    ∀ (i : Nat), i < P.ret.length → (s.data.getD i []).headD 0 = countSt P s.status (P.ret.getD i (s.status 0))

/-- an event is *enabled*: its actor is a current candidate of its transition -/
def Enabled (s : SCState σ) (e : SCEvent) : Prop :=
  ∃ ld, (s.ptS ++ s.ptI)[e.idx]? = some ld ∧ e.actor ∈ ld.items

/-- position `i` of `ptS ++ ptI` holds the structure of the `i`-th spontaneous transition or, past those, of an
induced one -/
theorem Inv.cases {P : SCParams σ} {s : SCState σ} (hs : Inv P s) {i : Nat} {ld : LD Actor}
    (hld : (s.ptS ++ s.ptI)[i]? = some ld) :
    (∃ tr, P.spont[i]? = some tr ∧ s.ptS[i]? = some ld) ∨
    (∃ tr, P.spont.length ≤ i ∧ P.ind[i - P.spont.length]? = some tr ∧ s.ptI[i - P.spont.length]? = some ld) := by
  by_cases hlt : i < P.spont.length
  · rw [List.getElem?_append_left (by rw [hs.lenS]; exact hlt)] at hld
    exact Or.inl ⟨_, List.getElem?_eq_getElem hlt, hld⟩
  · have hge : P.spont.length ≤ i := Nat.le_of_not_lt hlt
    rw [List.getElem?_append_right (by rw [hs.lenS]; exact hge), hs.lenS] at hld
    have hlt2 : i - P.spont.length < P.ind.length := by
      rw [← hs.lenI]; exact (List.getElem?_eq_some_iff.1 hld).1
    exact Or.inr ⟨_, hge, List.getElem?_eq_getElem hlt2, hld⟩

/-! ### per-transition invariants, relative to a set `D` of already processed nodes -/

def SpontT (D : Node → Prop) (st : Node → σ) (tr : SpontTr σ) (a : Actor) : Prop :=
  ∃ u, a = [u] ∧ D u ∧ st u = tr.src
def IndT (P : SCParams σ) (D : Node → Prop) (st : Node → σ) (tr : IndTr σ) (a : Actor) : Prop :=
  ∃ u v, a = [u, v] ∧ D u ∧ v ∈ P.succ u ∧ st u = tr.a ∧ st v = tr.b
def spontW (tr : SpontTr σ) (a : Actor) : Option Rat := wS tr (a.headD 0)
def indW (tr : IndTr σ) (a : Actor) : Option Rat := wI tr (a.headD 0) (a.getD 1 0)

def SpontOK (D : Node → Prop) (st : Node → σ) (tr : SpontTr σ) (ld : LD Actor) : Prop :=
  ld.Tracks (spontW tr) (SpontT D st tr)

def IndOK (P : SCParams σ) (D : Node → Prop) (st : Node → σ) (tr : IndTr σ) (ld : LD Actor) : Prop :=
  ld.Tracks (indW tr) (IndT P D st tr)

omit [DecidableEq σ] in
theorem wS_isSome (tr : SpontTr σ) (u : Node) : (wS tr u).isSome = tr.w.isSome := by
  unfold wS; cases tr.w <;> rfl

omit [DecidableEq σ] in
theorem wI_isSome (tr : IndTr σ) (u v : Node) : (wI tr u v).isSome = tr.w.isSome := by
  unfold wI; cases tr.w <;> rfl

omit [DecidableEq σ] in
theorem wS_some (tr : SpontTr σ) (f : Node → Rat) (hf : tr.w = some f) (u : Node) : wS tr u = some (f u) := by
  unfold wS; rw [hf]; rfl

omit [DecidableEq σ] in
theorem wI_some (tr : IndTr σ) (f : Node → Node → Rat) (hf : tr.w = some f) (u v : Node) :
    wI tr u v = some (f u v) := by
  unfold wI; rw [hf]; rfl

omit [DecidableEq σ] in
theorem wS_nonneg (P : SCParams σ) (h : WF P) (tr : SpontTr σ) (htr : tr ∈ P.spont) (u : Node) (x : Rat)
    (hx : wS tr u = some x) : 0 ≤ x := by
  cases hf : tr.w with
  | none => simp [wS, hf] at hx
  | some f =>
    rw [wS_some tr f hf] at hx
    obtain rfl := Option.some.inj hx
    exact h.wS_nonneg tr htr f hf u

omit [DecidableEq σ] in
theorem wI_nonneg (P : SCParams σ) (h : WF P) (tr : IndTr σ) (htr : tr ∈ P.ind) (u v : Node) (x : Rat)
    (hx : wI tr u v = some x) : 0 ≤ x := by
  cases hf : tr.w with
  | none => simp [wI, hf] at hx
  | some f =>
    rw [wI_some tr f hf] at hx
    obtain rfl := Option.some.inj hx
    exact h.wI_nonneg tr htr f hf u v

omit [DecidableEq σ] in
theorem spontOK_iff {D : Node → Prop} {st : Node → σ} {tr : SpontTr σ} {ld : LD Actor} :
    SpontOK D st tr ld ↔ LD.Inv ld ∧ ld.weighted = tr.w.isSome ∧
      (∀ a, a ∈ ld.items ↔ ∃ u, a = [u] ∧ D u ∧ st u = tr.src) ∧
      (∀ f, tr.w = some f → ∀ u, [u] ∈ ld.items → ld.getW [u] = f u) := by
  constructor
  · intro h
    exact ⟨h.inv, (h.flag []).symm.trans (wS_isSome tr _), h.mem,
      fun f hf u hu => h.getW [u] (f u) ((h.mem _).1 hu) (wS_some tr f hf u)⟩
  · rintro ⟨hinv, hwd, hmem, hgw⟩
    refine ⟨hinv, fun a => (wS_isSome tr _).trans hwd.symm, hmem, ?_⟩
    rintro a v ⟨u, rfl, hu⟩ hv
    cases hf : tr.w with
    | none => simp [spontW, wS, hf] at hv
    | some f =>
      rw [spontW, List.headD_cons, wS_some tr f hf] at hv
      exact (hgw f hf u ((hmem _).2 ⟨u, rfl, hu⟩)).trans (Option.some.inj hv)

omit [DecidableEq σ] in
theorem indOK_iff {P : SCParams σ} {D : Node → Prop} {st : Node → σ} {tr : IndTr σ} {ld : LD Actor} :
    IndOK P D st tr ld ↔ LD.Inv ld ∧ ld.weighted = tr.w.isSome ∧
      (∀ a, a ∈ ld.items ↔ ∃ u v, a = [u, v] ∧ D u ∧ v ∈ P.succ u ∧ st u = tr.a ∧ st v = tr.b) ∧
      (∀ f, tr.w = some f → ∀ u v, [u, v] ∈ ld.items → ld.getW [u, v] = f u v) := by
  constructor
  · intro h
    exact ⟨h.inv, (h.flag []).symm.trans (wI_isSome tr _ _), h.mem,
      fun f hf u v hu => h.getW [u, v] (f u v) ((h.mem _).1 hu) (wI_some tr f hf u v)⟩
  · rintro ⟨hinv, hwd, hmem, hgw⟩
    refine ⟨hinv, fun a => (wI_isSome tr _ _).trans hwd.symm, hmem, ?_⟩
    rintro a w ⟨u, v, rfl, hu⟩ hw
    cases hf : tr.w with
    | none => simp [indW, wI, hf] at hw
    | some f =>
      rw [show indW tr [u, v] = wI tr u v from rfl, wI_some tr f hf] at hw
      exact (hgw f hf u v ((hmem _).2 ⟨u, v, rfl, hu⟩)).trans (Option.some.inj hw)

theorem Inv.spontOK {P : SCParams σ} {s : SCState σ} (hs : Inv P s) {i : Nat} {tr : SpontTr σ} {ld : LD Actor}
    (h1 : P.spont[i]? = some tr) (h2 : s.ptS[i]? = some ld) : SpontOK (· ∈ P.nodes) s.status tr ld :=
  spontOK_iff.2 (hs.spont i tr ld h1 h2)

theorem Inv.indOK {P : SCParams σ} {s : SCState σ} (hs : Inv P s) {i : Nat} {tr : IndTr σ} {ld : LD Actor}
    (h1 : P.ind[i]? = some tr) (h2 : s.ptI[i]? = some ld) : IndOK P (· ∈ P.nodes) s.status tr ld :=
  indOK_iff.2 (hs.ind i tr ld h1 h2)

omit [DecidableEq σ] in
theorem SpontT_single {D : Node → Prop} {st : Node → σ} {tr : SpontTr σ} {u : Node} :
    SpontT D st tr [u] ↔ D u ∧ st u = tr.src := by
  constructor
  · rintro ⟨x, hx, h1⟩
    obtain rfl : u = x := by simpa using hx
    exact h1
  · exact fun h1 => ⟨u, rfl, h1⟩

omit [DecidableEq σ] in
theorem IndT_pair {P : SCParams σ} {D : Node → Prop} {st : Node → σ} {tr : IndTr σ} {u v : Node} :
    IndT P D st tr [u, v] ↔ D u ∧ v ∈ P.succ u ∧ st u = tr.a ∧ st v = tr.b := by
  constructor
  · rintro ⟨u', v', he, h1⟩
    obtain ⟨rfl, rfl⟩ : u = u' ∧ v = v' := by simpa using he
    exact h1
  · exact fun h1 => ⟨u, v, rfl, h1⟩

/-! ### one-key batches -/

abbrev AOp := LD.Op Actor

/-- "remove `k` if `r`, then add `k` with weight `w` if `u`" -/
def B1 (k : Actor) (r u : Prop) [Decidable r] [Decidable u] (w : Option Rat) : List AOp :=
  (if r then [LD.Op.rem k] else []) ++ (if u then [LD.Op.upd k w] else [])

section B1
variable (k : Actor) (r u : Prop) [Decidable r] [Decidable u] (w : Option Rat)

theorem mem_B1_rem (y : Actor) : LD.Op.rem y ∈ B1 k r u w ↔ (y = k ∧ r) := by
  unfold B1; by_cases hr : r <;> by_cases hu : u <;> simp [hr, hu]

theorem mem_B1_upd (y : Actor) (w' : Option Rat) : LD.Op.upd y w' ∈ B1 k r u w ↔ (y = k ∧ u ∧ w' = w) := by
  unfold B1; by_cases hr : r <;> by_cases hu : u <;> simp [hr, hu]

theorem mem_B1_ins (y : Actor) (w' : Option Rat) : LD.Op.ins y w' ∉ B1 k r u w := by
  unfold B1; by_cases hr : r <;> by_cases hu : u <;> simp [hr, hu]

theorem key_of_mem_B1 (o : AOp) (ho : o ∈ B1 k r u w) : o.key = k := by
  cases o with
  | ins y w' => exact absurd ho (mem_B1_ins k r u w y w')
  | upd y w' => exact ((mem_B1_upd k r u w y w').1 ho).1
  | rem y => exact ((mem_B1_rem k r u w y).1 ho).1

theorem ite_sublist {β : Type} (c : Prop) [Decidable c] (x : β) : (if c then [x] else []).Sublist [x] := by
  split
  · exact List.Sublist.refl _
  · exact List.nil_sublist _

/-- a conditional batch is a sublist of the unconditional one, in which `k` is removed before it is added -/
theorem B1_pairwise : (B1 k r u w).Pairwise LD.Compat :=
  List.Pairwise.sublist ((ite_sublist r _).append (ite_sublist u _))
    (List.pairwise_pair.2 (Or.inr ⟨trivial, trivial⟩))

theorem applyOps_B1 (ld : LD Actor) :
    ld.applyOps (B1 k r u w) =
      (if r then ld.remove k else some ld).bind fun ld1 => if u then ld1.update k w else some ld1 := by
  unfold B1
  by_cases hr : r <;> by_cases hu : u <;> simp only [hr, hu, if_true, if_false, List.append_nil, List.nil_append,
    List.cons_append, LD.applyOps, LD.applyOp, Option.bind_some]
  · cases ld.remove k with
    | none => rfl
    | some ld1 => simp only [Option.bind_some]; cases ld1.update k w <;> rfl
  · cases ld.remove k <;> rfl
  · cases ld.update k w <;> rfl

end B1

/-! ### the update loops as batches -/

theorem ite_bind_jp {α β : Type} (c : Prop) [Decidable c] (x : Option α) (y : α) (f : α → Option β) :
    (if c then x >>= f else some y >>= f) = (if c then x else some y).bind f := by
  split <;> rfl

theorem updSpontOne_eq (old new : σ) (m : Node) (tr : SpontTr σ) (ld : LD Actor) :
    updSpontOne old new m tr ld = ld.applyOps (B1 [m] (tr.src = old) (tr.src = new) (wS tr m)) := by
  rw [applyOps_B1]; unfold updSpontOne
  simp only [ite_bind_jp]

def succOps (st : Node → σ) (old new : σ) (m : Node) (tr : IndTr σ) (l : List Node) : List AOp :=
  l.flatMap fun v => B1 [m, v] (tr.a = old ∧ tr.b = st v) (tr.a = new ∧ tr.b = st v) (wI tr m v)

def predOps (st : Node → σ) (old new : σ) (m : Node) (tr : IndTr σ) (l : List Node) : List AOp :=
  l.flatMap fun p => B1 [p, m] (tr.a = st p ∧ tr.b = old) (tr.a = st p ∧ tr.b = new) (wI tr p m)

/-- the four operations of one iteration of the undirected loop, in the code's order -/
def B2 (st : Node → σ) (old new : σ) (m : Node) (tr : IndTr σ) (v : Node) : List AOp :=
  (if tr.a = st v ∧ tr.b = old then [LD.Op.rem [v, m]] else []) ++
  ((if tr.a = old ∧ tr.b = st v then [LD.Op.rem [m, v]] else []) ++
  ((if tr.a = st v ∧ tr.b = new then [LD.Op.upd [v, m] (wI tr v m)] else []) ++
  (if tr.a = new ∧ tr.b = st v then [LD.Op.upd [m, v] (wI tr m v)] else [])))

def undirOps (st : Node → σ) (old new : σ) (m : Node) (tr : IndTr σ) (l : List Node) : List AOp :=
  l.flatMap (B2 st old new m tr)

theorem applyOps_ite_rem (c : Prop) [Decidable c] (k : Actor) (ld : LD Actor) (rest : List AOp) :
    ld.applyOps ((if c then [LD.Op.rem k] else []) ++ rest) =
      (if c then ld.remove k else some ld).bind fun ld1 => ld1.applyOps rest := by
  by_cases hc : c <;> simp only [hc, if_true, if_false, List.cons_append, List.nil_append, LD.applyOps, LD.applyOp,
    Option.bind_some]
  cases ld.remove k <;> rfl

theorem applyOps_ite_upd (c : Prop) [Decidable c] (k : Actor) (w : Option Rat) (ld : LD Actor) (rest : List AOp) :
    ld.applyOps ((if c then [LD.Op.upd k w] else []) ++ rest) =
      (if c then ld.update k w else some ld).bind fun ld1 => ld1.applyOps rest := by
  by_cases hc : c <;> simp only [hc, if_true, if_false, List.cons_append, List.nil_append, LD.applyOps, LD.applyOp,
    Option.bind_some]
  cases ld.update k w <;> rfl

theorem updIndSucc_eq (st : Node → σ) (old new : σ) (m : Node) (tr : IndTr σ) (l : List Node) (ld : LD Actor) :
    updIndSucc st old new m tr l ld = ld.applyOps (succOps st old new m tr l) := by
  induction l generalizing ld with
  | nil => rfl
  | cons v rest ih =>
    unfold succOps at ih ⊢
    rw [List.flatMap_cons, updIndSucc]
    simp only [ih]
    unfold B1
    simp only [List.append_assoc, applyOps_ite_rem, applyOps_ite_upd, ite_bind_jp]

theorem updIndPred_eq (st : Node → σ) (old new : σ) (m : Node) (tr : IndTr σ) (l : List Node) (ld : LD Actor) :
    updIndPred st old new m tr l ld = ld.applyOps (predOps st old new m tr l) := by
  induction l generalizing ld with
  | nil => rfl
  | cons v rest ih =>
    unfold predOps at ih ⊢
    rw [List.flatMap_cons, updIndPred]
    simp only [ih]
    unfold B1
    simp only [List.append_assoc, applyOps_ite_rem, applyOps_ite_upd, ite_bind_jp]

theorem updIndUndir_eq (st : Node → σ) (old new : σ) (m : Node) (tr : IndTr σ) (l : List Node) (ld : LD Actor) :
    updIndUndir st old new m tr l ld = ld.applyOps (undirOps st old new m tr l) := by
  induction l generalizing ld with
  | nil => rfl
  | cons v rest ih =>
    unfold undirOps at ih ⊢
    rw [List.flatMap_cons, updIndUndir]
    simp only [ih]
    unfold B2
    simp only [List.append_assoc, applyOps_ite_rem, applyOps_ite_upd, ite_bind_jp]

/-! ### the candidates of a spontaneous transition when one node is classified anew -/

omit [DecidableEq σ] in
/-- a one-key batch on the candidates of a spontaneous transition: node `m` is classified anew.  `D'` adds `m` to the
processed nodes `D`, `st'` differs from `st` at most at `m`; `m` is removed iff it was listed and added iff it has the
source status now.  Covers the initial population (`D m` false, `st' = st`) and a status change (`D = D'`). -/
theorem spont_batch_spec (P : SCParams σ) (h : WF P) (D D' : Node → Prop) (st st' : Node → σ) (m : Node)
    (hD' : ∀ x, D' x ↔ D x ∨ x = m) (hst' : ∀ x, x ≠ m → st' x = st x) (tr : SpontTr σ) (htr : tr ∈ P.spont)
    (ld : LD Actor) (hok : SpontOK D st tr ld) (r u : Prop) [Decidable r] [Decidable u]
    (hr : r ↔ D m ∧ st m = tr.src) (hu : u ↔ st' m = tr.src) :
    ∃ ld', ld.applyOps (B1 [m] r u (wS tr m)) = some ld' ∧ SpontOK D' st' tr ld' := by
  refine LD.Tracks.applyOps_local hok _ (fun a v hv => wS_nonneg P h tr htr _ v hv) _ (B1_pairwise _ _ _ _)
    (· = [m]) (fun y w => mem_B1_ins _ _ _ _ y w) (fun y => ?_) (fun y w => ?_) fun y hy => ?_
  · rw [mem_B1_rem, hr]
    exact and_congr_right fun e => by rw [e, SpontT_single]
  · rw [mem_B1_upd, hu]
    refine and_congr_right fun e => ?_
    subst e
    rw [SpontT_single, hD']
    exact and_congr (by simp) Iff.rfl
  · refine exists_congr fun x => and_congr_right fun e => ?_
    subst e
    have hx : x ≠ m := fun e => hy (by rw [e])
    rw [hD', hst' x hx, or_iff_left hx]

theorem updSpontOne_spec (P : SCParams σ) (h : WF P) (st : Node → σ) (m : Node) (hm : m ∈ P.nodes) (new : σ)
    (tr : SpontTr σ) (htr : tr ∈ P.spont) (ld : LD Actor) (hok : SpontOK (· ∈ P.nodes) st tr ld) :
    ∃ ld', updSpontOne (st m) new m tr ld = some ld' ∧ SpontOK (· ∈ P.nodes) (fset st m new) tr ld' := by
  rw [updSpontOne_eq]
  refine spont_batch_spec P h (· ∈ P.nodes) (· ∈ P.nodes) st (fset st m new) m ?_
    (fun x hx => fset_ne _ _ _ _ hx) tr htr ld hok _ _ ⟨fun e => ⟨hm, e.symm⟩, fun e => e.2.symm⟩ ?_
  · intro x
    constructor
    · exact Or.inl
    · rintro (hx | rfl)
      · exact hx
      · exact hm
  · rw [fset_self]; exact eq_comm

/-! ### the induced candidate sets after a status change: one semantic lemma for all loop shapes -/

omit [DecidableEq σ] in
theorem succ_ne (P : SCParams σ) (h : WF P) (u v : Node) (hv : v ∈ P.succ u) : v ≠ u := by
  rintro rfl; exact h.noloop _ hv

omit [DecidableEq σ] in
theorem mem_nodes_of_succ (P : SCParams σ) (h : WF P) (u v : Node) (hv : v ∈ P.succ u) : u ∈ P.nodes := by
  by_contra hu
  rw [h.succ_out u hu] at hv
  cases hv

/-- a batch consisting, membership-wise, of the "out-pairs" `[m, v]` (`v` successor of `m`) and the "in-pairs"
`[p, m]` (`p` predecessor of `m`) turns the candidate set for status map `st` into that for `fset st m new` -/
theorem ind_batch_spec (P : SCParams σ) (h : WF P) (st : Node → σ) (m : Node) (hm : m ∈ P.nodes) (new : σ)
    (tr : IndTr σ) (htr : tr ∈ P.ind) (ld : LD Actor) (hok : IndOK P (· ∈ P.nodes) st tr ld) (ops : List AOp)
    (hk : ops.Pairwise LD.Compat)
    (hops' : ∀ o, o ∈ ops ↔
      (∃ v, v ∈ P.succ m ∧ o ∈ B1 [m, v] (tr.a = st m ∧ tr.b = fset st m new v)
        (tr.a = new ∧ tr.b = fset st m new v) (wI tr m v)) ∨
      (∃ p, m ∈ P.succ p ∧ o ∈ B1 [p, m] (tr.a = fset st m new p ∧ tr.b = st m)
        (tr.a = fset st m new p ∧ tr.b = new) (wI tr p m))) :
    ∃ ld', ld.applyOps ops = some ld' ∧ IndOK P (· ∈ P.nodes) (fset st m new) tr ld' := by
  -- a neighbour of `m` is another node (no self-loops), so it keeps its status
  have hv : ∀ v, v ∈ P.succ m → fset st m new v = st v := fun v hv => fset_ne _ _ _ _ (succ_ne P h m v hv)
  have hp : ∀ p, m ∈ P.succ p → fset st m new p = st p := fun p hp =>
    fset_ne _ _ _ _ fun hc => succ_ne P h p m hp hc.symm
  have hmm : fset st m new m = new := fset_self _ _ _
  refine LD.Tracks.applyOps_local hok _ (fun a v hv => wI_nonneg P h tr htr _ _ v hv) ops hk
    (fun a => (∃ v, v ∈ P.succ m ∧ a = [m, v]) ∨ ∃ p, m ∈ P.succ p ∧ a = [p, m]) (fun y w => ?_) (fun y => ?_)
    (fun y w => ?_) fun y hK => ?_
  · rw [hops']; simp only [mem_B1_ins, and_false, exists_false, or_self, not_false_eq_true]
  · rw [hops']; simp only [mem_B1_rem]
    constructor
    · rintro (⟨v, hv', rfl, h1, h2⟩ | ⟨p, hp', rfl, h1, h2⟩)
      · exact ⟨Or.inl ⟨v, hv', rfl⟩, IndT_pair.2 ⟨hm, hv', h1.symm, (hv v hv' ▸ h2).symm⟩⟩
      · exact ⟨Or.inr ⟨p, hp', rfl⟩, IndT_pair.2 ⟨mem_nodes_of_succ P h p m hp', hp', (hp p hp' ▸ h1).symm, h2.symm⟩⟩
    · rintro ⟨⟨v, hv', rfl⟩ | ⟨p, hp', rfl⟩, hT⟩ <;> obtain ⟨-, -, h1, h2⟩ := IndT_pair.1 hT
      · exact Or.inl ⟨v, hv', rfl, h1.symm, by rw [hv v hv']; exact h2.symm⟩
      · exact Or.inr ⟨p, hp', rfl, by rw [hp p hp']; exact h1.symm, h2.symm⟩
  · rw [hops']; simp only [mem_B1_upd]
    constructor
    · rintro (⟨v, hv', rfl, ⟨h1, h2⟩, rfl⟩ | ⟨p, hp', rfl, ⟨h1, h2⟩, rfl⟩)
      · exact ⟨Or.inl ⟨v, hv', rfl⟩, IndT_pair.2 ⟨hm, hv', hmm.trans h1.symm, h2.symm⟩, rfl⟩
      · exact ⟨Or.inr ⟨p, hp', rfl⟩, IndT_pair.2 ⟨mem_nodes_of_succ P h p m hp', hp', h1.symm, hmm.trans h2.symm⟩, rfl⟩
    · rintro ⟨⟨v, hv', rfl⟩ | ⟨p, hp', rfl⟩, hT, rfl⟩ <;> obtain ⟨-, -, h1, h2⟩ := IndT_pair.1 hT
      · exact Or.inl ⟨v, hv', rfl, ⟨h1.symm.trans hmm, h2.symm⟩, rfl⟩
      · exact Or.inr ⟨p, hp', rfl, ⟨h1.symm, h2.symm.trans hmm⟩, rfl⟩
  · -- an untouched pair does not contain `m`
    refine exists_congr fun u => exists_congr fun v => and_congr_right fun e => and_congr_right fun _ =>
      and_congr_right fun hvu => ?_
    subst e
    have hum : u ≠ m := fun e => hK (Or.inl ⟨v, e ▸ hvu, by rw [e]⟩)
    have hvm : v ≠ m := fun e => hK (Or.inr ⟨u, e ▸ hvu, by rw [e]⟩)
    rw [fset_ne _ _ _ _ hum, fset_ne _ _ _ _ hvm]

/-! ### instantiation for the directed (successor + predecessor loops) and the undirected loop -/

theorem mem_ite_single {β : Type} (c : Prop) [Decidable c] (x o : β) : (o ∈ if c then [x] else []) ↔ (c ∧ o = x) := by
  by_cases hc : c <;> simp [hc]

theorem flatMap_pairwise (l : List Node) (hl : l.Nodup) (F : Node → List AOp)
    (hF : ∀ v ∈ l, (F v).Pairwise LD.Compat)
    (hkeys : ∀ v ∈ l, ∀ v' ∈ l, v ≠ v' → ∀ x ∈ F v, ∀ y ∈ F v', x.key ≠ y.key) :
    (l.flatMap F).Pairwise LD.Compat := by
  rw [List.pairwise_flatMap]
  refine ⟨hF, hl.pairwise_of_forall_ne ?_⟩
  intro v hv v' hv' hne x hx y hy
  exact Or.inl (hkeys v hv v' hv' hne x hx y hy)

theorem mem_B2 (st : Node → σ) (old new : σ) (m : Node) (tr : IndTr σ) (v : Node) (o : AOp) :
    o ∈ B2 st old new m tr v ↔
      (o ∈ B1 [v, m] (tr.a = st v ∧ tr.b = old) (tr.a = st v ∧ tr.b = new) (wI tr v m) ∨
       o ∈ B1 [m, v] (tr.a = old ∧ tr.b = st v) (tr.a = new ∧ tr.b = st v) (wI tr m v)) := by
  simp only [B2, B1, List.mem_append, mem_ite_single]
  constructor
  · rintro (h1 | h1 | h1 | h1)
    · exact Or.inl (Or.inl h1)
    · exact Or.inr (Or.inl h1)
    · exact Or.inl (Or.inr h1)
    · exact Or.inr (Or.inr h1)
  · rintro ((h1 | h1) | (h1 | h1))
    · exact Or.inl h1
    · exact Or.inr (Or.inr (Or.inl h1))
    · exact Or.inr (Or.inl h1)
    · exact Or.inr (Or.inr (Or.inr h1))

theorem four_pairwise (c1 c2 c3 c4 : Prop) [Decidable c1] [Decidable c2] [Decidable c3] [Decidable c4]
    (k1 k2 : Actor) (w1 w2 : Option Rat) (hk : k1 ≠ k2) :
    ((if c1 then [LD.Op.rem k1] else []) ++ ((if c2 then [LD.Op.rem k2] else []) ++
      ((if c3 then [LD.Op.upd k1 w1] else []) ++ (if c4 then [LD.Op.upd k2 w2] else [])))).Pairwise
      (LD.Compat (α := Actor)) := by
  have hk' : k2 ≠ k1 := fun hc => hk hc.symm
  refine List.Pairwise.sublist ((ite_sublist c1 _).append ((ite_sublist c2 _).append
    ((ite_sublist c3 _).append (ite_sublist c4 _)))) ?_
  -- different keys, or a removal before the update of the same key
  show List.Pairwise LD.Compat [LD.Op.rem k1, LD.Op.rem k2, LD.Op.upd k1 w1, LD.Op.upd k2 w2]
  refine List.Pairwise.cons ?_ (List.Pairwise.cons ?_ (List.pairwise_pair.2 (Or.inl hk)))
  · intro o ho
    rcases List.mem_cons.1 ho with rfl | ho
    · exact Or.inl hk
    rcases List.mem_cons.1 ho with rfl | ho
    · exact Or.inr ⟨trivial, trivial⟩
    · obtain rfl := List.mem_singleton.1 ho
      exact Or.inl hk
  · intro o ho
    rcases List.mem_cons.1 ho with rfl | ho
    · exact Or.inl hk'
    · obtain rfl := List.mem_singleton.1 ho
      exact Or.inr ⟨trivial, trivial⟩

theorem B2_pairwise (st : Node → σ) (old new : σ) (m : Node) (tr : IndTr σ) (v : Node) (hvm : v ≠ m) :
    (B2 st old new m tr v).Pairwise LD.Compat := by
  unfold B2
  apply four_pairwise
  intro hc
  have hc' : v = m ∧ m = v := by simpa using hc
  exact hvm hc'.1

theorem updIndOne_spec (P : SCParams σ) (h : WF P) (st : Node → σ) (m : Node) (hm : m ∈ P.nodes) (new : σ)
    (tr : IndTr σ) (htr : tr ∈ P.ind) (ld : LD Actor) (hok : IndOK P (· ∈ P.nodes) st tr ld) :
    ∃ ld', updIndOne P (fset st m new) (st m) new m tr ld = some ld' ∧
      IndOK P (· ∈ P.nodes) (fset st m new) tr ld' := by
  cases hd : P.directed with
  | true =>
    have e : updIndOne P (fset st m new) (st m) new m tr ld =
        ld.applyOps (succOps (fset st m new) (st m) new m tr (P.succ m) ++
          predOps (fset st m new) (st m) new m tr (P.pred m)) := by
      unfold updIndOne
      rw [if_pos hd, LD.applyOps_append, ← updIndSucc_eq]
      cases updIndSucc (fset st m new) (st m) new m tr (P.succ m) ld with
      | none => rfl
      | some ld1 => exact updIndPred_eq _ _ _ _ _ _ _
    rw [e]
    apply ind_batch_spec P h st m hm new tr htr ld hok
    · rw [List.pairwise_append]
      refine ⟨?_, ?_, ?_⟩
      · apply flatMap_pairwise _ (h.succ_nodup m hm)
        · intro v _; exact B1_pairwise _ _ _ _
        · intro v _ v' _ hne x hx y hy
          rw [key_of_mem_B1 _ _ _ _ x hx, key_of_mem_B1 _ _ _ _ y hy]
          simpa using hne
      · apply flatMap_pairwise _ (h.pred_nodup m hm)
        · intro v _; exact B1_pairwise _ _ _ _
        · intro v _ v' _ hne x hx y hy
          rw [key_of_mem_B1 _ _ _ _ x hx, key_of_mem_B1 _ _ _ _ y hy]
          simpa using hne
      · intro x hx y hy
        obtain ⟨v, hv, hx⟩ := List.mem_flatMap.1 hx
        obtain ⟨p, hp, hy⟩ := List.mem_flatMap.1 hy
        left
        rw [key_of_mem_B1 _ _ _ _ x hx, key_of_mem_B1 _ _ _ _ y hy]
        have : v ≠ m := succ_ne P h m v hv
        intro hc
        have hc' : m = p ∧ v = m := by simpa using hc
        exact this hc'.2
    · intro o
      rw [List.mem_append]
      unfold succOps predOps
      simp only [List.mem_flatMap]
      exact or_congr Iff.rfl ⟨fun ⟨p, hp, ho⟩ => ⟨p, (h.pred_iff p m).1 hp, ho⟩,
        fun ⟨p, hp, ho⟩ => ⟨p, (h.pred_iff p m).2 hp, ho⟩⟩
  | false =>
    have e : updIndOne P (fset st m new) (st m) new m tr ld =
        ld.applyOps (undirOps (fset st m new) (st m) new m tr (P.succ m)) := by
      unfold updIndOne
      rw [if_neg (by simp [hd]), updIndUndir_eq]
    rw [e]
    apply ind_batch_spec P h st m hm new tr htr ld hok
    · apply flatMap_pairwise _ (h.succ_nodup m hm)
      · intro v hv; exact B2_pairwise _ _ _ _ _ _ (succ_ne P h m v hv)
      · -- a key of the batch of `v` contains `v`; those of `v'` contain only `v'` and `m`
        intro v hv v' hv' hne x hx y hy hc
        have hx' : v ∈ x.key := by
          rcases (mem_B2 _ _ _ _ _ _ _).1 hx with h1 | h1 <;> rw [key_of_mem_B1 _ _ _ _ x h1] <;> simp
        have hy' : ∀ z ∈ y.key, z = v' ∨ z = m := by
          rcases (mem_B2 _ _ _ _ _ _ _).1 hy with h1 | h1 <;> rw [key_of_mem_B1 _ _ _ _ y h1] <;>
            simp [or_comm]
        rcases hy' v (hc ▸ hx') with h1 | h1
        · exact hne h1
        · exact succ_ne P h m v hv h1
    · intro o
      unfold undirOps
      simp only [List.mem_flatMap, mem_B2]
      constructor
      · rintro ⟨v, hv, ho | ho⟩
        · exact Or.inr ⟨v, h.undirected_symm hd m v hv, ho⟩
        · exact Or.inl ⟨v, hv, ho⟩
      · rintro (⟨v, hv, ho⟩ | ⟨p, hp, ho⟩)
        · exact ⟨v, hv, Or.inr ho⟩
        · exact ⟨p, h.undirected_symm hd p m hp, Or.inl ho⟩

end Simple
