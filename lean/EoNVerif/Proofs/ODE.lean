import EoNVerif.Model.ODE
import EoNVerif.Proofs.SumRat
import Mathlib.Tactic.Ring
import Mathlib.Tactic.FieldSimp
import Mathlib.Tactic.Linarith
import Mathlib.Tactic.Positivity
import Mathlib.Algebra.Order.Field.Rat
import Mathlib.Algebra.Order.Ring.Rat
/-!
The `sumTo` / `kf` lemmas that every file about the right-hand-side models of `Model/ODE.lean` uses: linearity, sign and
index shift of `sumTo`, its value as a sum over a duplicate-free list that holds the support, facts on `kf`, the interchange of `sumTo` with weighted `zipWith` sums used for the
linear-invariant theorem, and the total of the compact effective-degree right-hand side.
-/

namespace ODE

theorem sumTo_congr (K : Nat) (f g : Nat → Rat) (h : ∀ k, k < K → f k = g k) : sumTo K f = sumTo K g :=
  sumRat_map_congr _ _ _ (fun c hc => h c (List.mem_range.1 hc))

theorem sumTo_add (K : Nat) (f g : Nat → Rat) : sumTo K (fun k => f k + g k) = sumTo K f + sumTo K g :=
  sumRat_map_add _ _ _

theorem sumTo_mul_left (K : Nat) (f : Nat → Rat) (c : Rat) : sumTo K (fun k => c * f k) = c * sumTo K f :=
  sumRat_map_mul_left _ _ _

theorem sumTo_mul_right (K : Nat) (f : Nat → Rat) (c : Rat) : sumTo K (fun k => f k * c) = sumTo K f * c :=
  sumRat_map_mul_right _ _ _

theorem sumTo_const_zero (K : Nat) : sumTo K (fun _ => 0) = 0 :=
  sumRat_map_zero _ _ (fun _ _ => rfl)

theorem sumTo_nonneg (K : Nat) (f : Nat → Rat) (h : ∀ k, k < K → 0 ≤ f k) : 0 ≤ sumTo K f :=
  sumRat_map_nonneg _ _ (fun c hc => h c (List.mem_range.1 hc))

theorem sumTo_zero_left (f : Nat → Rat) : sumTo 0 f = 0 := by simp [sumTo]

theorem sumTo_succ (K : Nat) (f : Nat → Rat) : sumTo (K + 1) f = sumTo K f + f K := by
  simp [sumTo, List.range_succ, sumRat_append]

theorem sumTo_eq_sum (K : Nat) (f : Nat → Rat) : sumTo K f = ∑ k ∈ Finset.range K, f k :=
  sumRat_range_eq_sum K f

theorem sumTo_eq_sumRat_of_support (K : Nat) (ks : List Nat) (hks : ks.Nodup) (hK : ∀ d ∈ ks, d < K)
    (g : Nat → Rat) (h0 : ∀ d, d ∉ ks → g d = 0) : sumTo K g = sumRat (ks.map g) := by
  rw [sumTo_eq_sum, sumRat_eq_sum, ← List.sum_toFinset g hks]
  refine (Finset.sum_subset (fun d hd => ?_) (fun d _ hd => ?_)).symm
  · exact Finset.mem_range.2 (hK d (List.mem_toFinset.1 hd))
  · exact h0 d (fun h => hd (List.mem_toFinset.2 h))

theorem sumTo_shift (K : Nat) (f : Nat → Rat) : sumTo K (fun k => f (k + 1)) = sumTo (K + 1) f - f 0 := by
  rw [sumTo_eq_sum, sumTo_eq_sum, Finset.sum_range_succ', add_sub_cancel_right]

theorem sumTo_shift_trunc (K : Nat) (f : Nat → Rat) (hK : 0 < K) :
    sumTo K (fun k => if k + 1 < K then f (k + 1) else 0) = sumTo K f - f 0 := by
  obtain ⟨K', rfl⟩ : ∃ K', K = K' + 1 := ⟨K - 1, by omega⟩
  rw [sumTo_succ, ← sumTo_shift]
  have : ¬ (K' + 1 < K' + 1) := by omega
  rw [if_neg this, add_zero]
  apply sumTo_congr
  intro k hk
  have : k + 1 < K' + 1 := by omega
  rw [if_pos this]

theorem sumTo_zipWith (n : Nat) (c : Nat → Rat) (as : List Rat) (xs : List (Nat → Rat)) :
    sumTo n (fun i => c i * sumRat (List.zipWith (fun a (x : Nat → Rat) => a * x i) as xs))
      = sumRat (List.zipWith (fun a (x : Nat → Rat) => a * sumTo n (fun i => c i * x i)) as xs) := by
  induction as generalizing xs with
  | nil => simp [sumTo_const_zero]
  | cons a as ih =>
    cases xs with
    | nil => simp [sumTo_const_zero]
    | cons x xs =>
      simp only [List.zipWith_cons_cons, sumRat_cons]
      rw [← ih xs, ← sumTo_mul_left, ← sumTo_add]
      apply sumTo_congr; intro i _; ring

theorem sumRat_zipWith_const (g : (Nat → Rat) → Rat) (C : Rat) (as : List Rat) (xs : List (Nat → Rat))
    (hlen : xs.length = as.length) (h : ∀ x ∈ xs, g x = C) :
    sumRat (List.zipWith (fun a (x : Nat → Rat) => a * g x) as xs) = sumRat as * C := by
  induction as generalizing xs with
  | nil => simp
  | cons a as ih =>
    cases xs with
    | nil => simp at hlen
    | cons x xs =>
      simp only [List.zipWith_cons_cons, sumRat_cons]
      rw [ih xs (by simpa using hlen) (fun y hy => h y (List.mem_cons_of_mem _ hy)), h x List.mem_cons_self]
      ring

theorem sumRat_zipWith_zero (g : (Nat → Rat) → Rat) (bs : List Rat) (fs : List (Nat → Rat))
    (h : ∀ f ∈ fs, g f = 0) :
    sumRat (List.zipWith (fun b (f : Nat → Rat) => b * g f) bs fs) = 0 := by
  induction bs generalizing fs with
  | nil => simp
  | cons b bs ih =>
    cases fs with
    | nil => simp
    | cons f fs =>
      simp only [List.zipWith_cons_cons, sumRat_cons]
      rw [ih fs (fun y hy => h y (List.mem_cons_of_mem _ hy)), h f List.mem_cons_self]
      ring

theorem kf_zero : kf 0 = 0 := by simp [kf]

theorem kf_nonneg (k : Nat) : 0 ≤ kf k := by simp [kf]

theorem kf_pow_pred (k : Nat) (theta : Rat) : kf k * theta ^ (k - 1) * theta = kf k * theta ^ k := by
  cases k with
  | zero => simp [kf]
  | succ k => simp [pow_succ, mul_assoc]

/-- compact effective degree: the classes lose susceptibles only through infection, `Σ_κ dS_κ = -τ ⟨I⟩ Σ κ S_κ`
(the recovery shift `κ+1 → κ` telescopes); no hypothesis on `Σ κ S_κ` -/
theorem sirCompactED_total (K : Nat) (tau gamma N : Rat) (Sk : Nat → Rat) (R SI : Rat) :
    sumTo K (sirCompactED K tau gamma N Sk R SI).1
      = -tau * (SI / sumTo K (fun k => Sk k * kf k) * sumTo K (fun k => Sk k * kf k)) := by
  have e2 : sumTo K (fun k => if k + 1 < K then kf (k + 1) * Sk (k + 1) else 0) = sumTo K (fun k => Sk k * kf k) := by
    rcases Nat.eq_zero_or_pos K with rfl | h
    · rw [sumTo_zero_left, sumTo_zero_left]
    · rw [sumTo_shift_trunc K (fun k => kf k * Sk k) h, kf_zero, zero_mul, sub_zero]
      exact sumTo_congr _ _ _ (fun k _ => mul_comm _ _)
  have e1 : sumTo K (fun k => -(tau + gamma) * kf k * Sk k + gamma * (if k + 1 < K then kf (k + 1) * Sk (k + 1) else 0))
      = -(tau + gamma) * sumTo K (fun k => Sk k * kf k)
        + gamma * sumTo K (fun k => if k + 1 < K then kf (k + 1) * Sk (k + 1) else 0) := by
    rw [← sumTo_mul_left, ← sumTo_mul_left, ← sumTo_add]
    exact sumTo_congr _ _ _ (fun k _ => by ring)
  dsimp only [sirCompactED]
  rw [sumTo_mul_left, e1, e2]
  ring

end ODE
