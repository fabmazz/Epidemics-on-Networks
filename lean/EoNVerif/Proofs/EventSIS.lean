import EoNVerif.Model.EventSIS
import EoNVerif.Proofs.EventQueue
import Mathlib.Tactic.Linarith
import Mathlib.Algebra.Order.Field.Rat
/-!
The lazy queue of `fast_nonMarkov_SIS` on its own (its `pop` and the agenda's are `EvQ.gpop`).  One step of the simulator is
put in closed form (`step_cases`: a recovery, an attempt on an infectious node, an infection, each with the queue it leaves
behind), and three invariants of `step` are read off it: nothing at or after `tmax` (`InvA`), the per-node log alternates with recoveries exactly `dur` after
the infections (`InvB`), every transmission is a listed attempt (`InvC`).
-/
namespace EventSIS

/-- Of these, the theorems use `noloop`, `dur_pos`, `delay_pos`, `delay_sorted`; no proof uses the five graph and
initial-set fields. -/
structure WF (P : SSParams) (infs : List Node) : Prop where
  nodup : P.nodes.Nodup
  nbr_nodup : ∀ u ∈ P.nodes, (P.nbrs u).Nodup
  nbr_mem : ∀ u ∈ P.nodes, ∀ v ∈ P.nbrs u, v ∈ P.nodes
  noloop : ∀ u, u ∉ P.nbrs u
  infs_nodup : infs.Nodup
  infs_mem : ∀ u ∈ infs, u ∈ P.nodes
  dur_pos : ∀ u k, 0 < P.dur u k
  delay_pos : ∀ u v k, ∀ d ∈ P.delays u v k, 0 < d
  delay_sorted : ∀ u v k, (P.delays u v k).Pairwise (· < ·)

theorem minTime_eq (q : List SItem) : minTime q = EvQ.gminTime SItem.time q :=
  EvQ.gminTime_of_rec _ rfl (fun _ _ => rfl) q

theorem pop_eq (q : List SItem) : pop q = EvQ.gpop SItem.time q := by
  unfold pop EvQ.gpop; rw [minTime_eq]
  cases EvQ.gminTime SItem.time q with
  | none => rfl
  | some m =>
    simp only
    cases List.findIdx? (fun x => x.time == m) q with
    | none => rfl
    | some i => simp only; cases q[i]? <;> rfl

theorem aminTime_eq (q : List AItem) : aminTime q = EvQ.gminTime AItem.time q :=
  EvQ.gminTime_of_rec _ rfl (fun _ _ => rfl) q

theorem apop_eq (q : List AItem) : apop q = EvQ.gpop AItem.time q := by
  unfold apop EvQ.gpop; rw [aminTime_eq]
  cases EvQ.gminTime AItem.time q with
  | none => rfl
  | some m =>
    simp only
    cases List.findIdx? (fun x => x.time == m) q with
    | none => rfl
    | some i => simp only; cases q[i]? <;> rfl

theorem qadd_eq (tmax : Rat) (q : List SItem) (t : Rat) (e : SEv) :
    qadd tmax q t e = q ++ (if t < tmax then [⟨t, e⟩] else []) := by
  unfold qadd; split <;> simp

theorem aadd_eq (tmax : Rat) (q : List AItem) (t : Rat) (e : AEv) :
    aadd tmax q t e = q ++ (if t < tmax then [⟨t, e⟩] else []) := by
  unfold aadd; split <;> simp

/-- a first time at or after `tmax` drops the later ones with it: right only for ascending lists (where `chainOf_expand`
needs `Pairwise`) -/
def chainOf (tmax : Rat) (src tgt : Node) : List Rat → List SItem
  | [] => []
  | t0 :: fol => if t0 < tmax then [⟨t0, SEv.trans (some src) tgt fol⟩] else []

/-- the attempt times that survive the filter against the target's current infectious period -/
def liveTimes (inf : Node → Bool) (recTime : Node → Rat) (v : Node) (tt : List Rat) : List Rat :=
  if inf v then tt.filter (fun t => t > recTime v) else tt

theorem liveTimes_subset {inf : Node → Bool} {recTime : Node → Rat} {v : Node} {tt : List Rat} {t : Rat}
    (h : t ∈ liveTimes inf recTime v tt) : t ∈ tt := by
  unfold liveTimes at h
  split at h
  · exact (List.mem_filter.1 h).1
  · exact h

theorem mem_chainOf {tmax : Rat} {src tgt : Node} {tt : List Rat} {x : SItem} (h : x ∈ chainOf tmax src tgt tt) :
    ∃ t0 fol, tt = t0 :: fol ∧ t0 < tmax ∧ x = ⟨t0, SEv.trans (some src) tgt fol⟩ := by
  cases tt with
  | nil => simp [chainOf] at h
  | cons t0 fol =>
    simp only [chainOf] at h
    split at h
    · simp at h; exact ⟨t0, fol, rfl, ‹_›, h⟩
    · simp at h

theorem scheduleNbrs_eq (P : SSParams) (s : SSState) (time : Rat) (tgt : Node) (k : Nat) (l : List Node)
    (q : List SItem) :
    scheduleNbrs P s time tgt k l q =
      q ++ l.flatMap (fun v => chainOf P.tmax tgt v
        (liveTimes s.inf s.recTime v ((P.delays tgt v k).map fun d => time + d))) := by
  induction l generalizing q with
  | nil => simp [scheduleNbrs]
  | cons v rest ih =>
    have key : scheduleNbrs P s time tgt k (v :: rest) q = scheduleNbrs P s time tgt k rest
        (q ++ chainOf P.tmax tgt v (liveTimes s.inf s.recTime v ((P.delays tgt v k).map fun d => time + d))) := by
      simp only [scheduleNbrs]
      split
      · rename_i h0
        have : P.delays tgt v k = [] := by simpa using h0
        simp [this, liveTimes, chainOf]
      · unfold liveTimes
        split
        · rename_i h1
          rw [h1]; simp [chainOf]
        · rename_i t0 fol h1
          rw [h1, qadd_eq]; simp only [chainOf]
    rw [key, ih]; simp [List.append_assoc]

/-- the re-queued rest of a chain -/
def reQ (tmax : Rat) (src : Option Node) (tgt : Node) (tt : List Rat) : List SItem :=
  match src with
  | none => []
  | some u => chainOf tmax u tgt tt

/-- the state after infecting `tgt` (before the chain is re-queued) -/
def infectS (P : SSParams) (s : SSState) (time : Rat) (src : Option Node) (tgt : Node) : SSState :=
  let k := s.count tgt
  let recT := time + P.dur tgt k
  { inf := fset s.inf tgt true, recTime := fset s.recTime tgt recT, count := fset s.count tgt (k + 1),
    queue := s.queue ++ (if recT < P.tmax then [⟨recT, SEv.recov tgt⟩] else []) ++
      (P.nbrs tgt).flatMap (fun v => chainOf P.tmax tgt v
        (liveTimes (fset s.inf tgt true) (fset s.recTime tgt recT) v ((P.delays tgt v k).map fun d => time + d))),
    log := (time, tgt, true) :: s.log, trans := (time, src, tgt) :: s.trans }

theorem processTrans_eq (P : SSParams) (s : SSState) (time : Rat) (src : Option Node) (tgt : Node) (fut : List Rat) :
    processTrans P s time src tgt fut =
      let s1 := if s.inf tgt then s else infectS P s time src tgt
      { s1 with queue := s1.queue ++ reQ P.tmax src tgt (fut.filter (fun t => t > s1.recTime tgt)) } := by
  unfold processTrans
  cases hi : s.inf tgt
  · simp only [Bool.not_false, if_true, Bool.false_eq_true, if_false, scheduleNbrs_eq, qadd_eq, infectS]
    cases src with
    | none => simp [reQ]
    | some u =>
      simp only [reQ]
      split
      · rename_i h; rw [h]; simp [chainOf]
      · rename_i t0 fol h; rw [h]; simp only [chainOf]
  · simp only [Bool.not_true, Bool.false_eq_true, if_false, if_true]
    cases src with
    | none => simp [reQ]
    | some u =>
      simp only [reQ]
      split
      · rename_i h; rw [h]; simp [chainOf]
      · rename_i t0 fol h; rw [h, qadd_eq]; simp only [chainOf]

def exec (P : SSParams) (s : SSState) (x : SItem) : SSState :=
  match x.ev with
  | .trans src tgt fut => processTrans P s x.time src tgt fut
  | .recov u => processRec s x.time u

theorem step_some {P : SSParams} {s s' : SSState} (h : step P s = some s') :
    ∃ x l1 l2, s.queue = l1 ++ x :: l2 ∧ (∀ y ∈ l1, x.time < y.time) ∧ (∀ y ∈ l2, x.time ≤ y.time) ∧
      s' = exec P { s with queue := l1 ++ l2 } x := by
  unfold step at h
  split at h
  · simp at h
  · rename_i x q hp
    rw [pop_eq] at hp
    obtain ⟨l1, l2, h1, h2, h3, h4⟩ := EvQ.gpop_some _ hp
    refine ⟨x, l1, l2, h1, h3, h4, ?_⟩
    subst h2
    unfold exec
    split at h <;> simp_all

theorem step_none {P : SSParams} {s : SSState} (h : step P s = none) : s.queue = [] := by
  unfold step at h
  split at h
  · rename_i hp; rw [pop_eq] at hp; exact EvQ.gpop_none _ hp
  · split at h <;> simp at h

/-- what `infectS` appends to the queue -/
def newItems (P : SSParams) (s : SSState) (t : Rat) (v : Node) : List SItem :=
  (if t + P.dur v (s.count v) < P.tmax then [⟨t + P.dur v (s.count v), SEv.recov v⟩] else []) ++
    (P.nbrs v).flatMap (fun w => chainOf P.tmax v w
      (liveTimes (fset s.inf v true) (fset s.recTime v (t + P.dur v (s.count v))) w
        ((P.delays v w (s.count v)).map fun d => t + d)))

theorem step_cases {P : SSParams} {s s' : SSState} (h : step P s = some s') :
    ∃ x l1 l2, s.queue = l1 ++ x :: l2 ∧ (∀ y ∈ l1, x.time < y.time) ∧ (∀ y ∈ l2, x.time ≤ y.time) ∧
      ((∃ u, x.ev = SEv.recov u ∧
          s' = { inf := fset s.inf u false, recTime := s.recTime, count := s.count, queue := l1 ++ l2,
                 log := (x.time, u, false) :: s.log, trans := s.trans }) ∨
       (∃ src v fut, x.ev = SEv.trans src v fut ∧ s.inf v = true ∧
          s' = { inf := s.inf, recTime := s.recTime, count := s.count,
                 queue := l1 ++ l2 ++ reQ P.tmax src v (fut.filter (fun t => t > s.recTime v)),
                 log := s.log, trans := s.trans }) ∨
       (∃ src v fut, x.ev = SEv.trans src v fut ∧ s.inf v = false ∧
          s' = { inf := fset s.inf v true, recTime := fset s.recTime v (x.time + P.dur v (s.count v)),
                 count := fset s.count v (s.count v + 1),
                 queue := l1 ++ l2 ++ newItems P s x.time v ++
                   reQ P.tmax src v (fut.filter (fun t => t > x.time + P.dur v (s.count v))),
                 log := (x.time, v, true) :: s.log, trans := (x.time, src, v) :: s.trans })) := by
  obtain ⟨x, l1, l2, h1, h2, h3, h4⟩ := step_some h
  refine ⟨x, l1, l2, h1, h2, h3, ?_⟩
  unfold exec at h4
  split at h4
  · rename_i src v fut hev
    right
    rw [processTrans_eq] at h4
    cases hi : s.inf v
    · right
      refine ⟨src, v, fut, hev, hi, ?_⟩
      rw [h4]
      simp [hi, infectS, newItems, fset, List.append_assoc]
    · left
      refine ⟨src, v, fut, hev, hi, ?_⟩
      rw [h4]
      simp [hi]
  · rename_i u hev
    left
    exact ⟨u, hev, by rw [h4]; rfl⟩

theorem loop_inv {P : SSParams} (I : SSState → Prop) (hstep : ∀ s s', I s → step P s = some s' → I s')
    (n : Nat) (s : SSState) (h : I s) : I (loop P n s) := by
  induction n generalizing s with
  | zero => exact h
  | succ n ih =>
    simp only [loop]
    split
    · exact h
    · rename_i s' hs; exact ih s' (hstep s s' h hs)

theorem step_of_empty {P : SSParams} {s : SSState} (h : s.queue = []) : step P s = none := by
  unfold step; rw [h]; rfl

theorem loop_eq_optLoop (P : SSParams) (n : Nat) (s : SSState) : loop P n s = TM.optLoop (step P) n s := by
  induction n generalizing s with
  | zero => rfl
  | succ n ih =>
    rw [loop, TM.optLoop]
    cases step P s with
    | none => rfl
    | some s' => exact ih s'

theorem loop_stable {P : SSParams} (m k : Nat) (s : SSState) (h : (loop P m s).queue = []) :
    loop P (m + k) s = loop P m s := by
  rw [loop_eq_optLoop, loop_eq_optLoop]
  exact TM.optLoop_stable m k s (by rw [← loop_eq_optLoop]; exact step_of_empty h)

theorem init_queue (P : SSParams) (infs : List Node) :
    (init P infs).queue = if P.tmin < P.tmax then infs.map (fun u => ⟨P.tmin, SEv.trans none u []⟩) else [] := by
  show infs.foldl (fun q u => qadd P.tmax q P.tmin (SEv.trans none u [])) [] = _
  simp only [qadd_eq]
  rw [EvQ.foldl_add, List.nil_append]

theorem mem_init_queue {P : SSParams} {infs : List Node} {x : SItem} (h : x ∈ (init P infs).queue) :
    ∃ u ∈ infs, x = ⟨P.tmin, SEv.trans none u []⟩ ∧ P.tmin < P.tmax := by
  rw [init_queue] at h
  split at h
  · obtain ⟨u, hu, rfl⟩ := List.mem_map.1 h
    exact ⟨u, hu, rfl, ‹_›⟩
  · cases h

theorem mem_reQ {tmax : Rat} {src : Option Node} {v : Node} {tt : List Rat} {x : SItem} (h : x ∈ reQ tmax src v tt) :
    ∃ u, src = some u ∧ x ∈ chainOf tmax u v tt := by
  cases src with
  | none => simp [reQ] at h
  | some u => exact ⟨u, rfl, h⟩

theorem mem_newItems {P : SSParams} {s : SSState} {t : Rat} {v : Node} {x : SItem} (h : x ∈ newItems P s t v) :
    (x = ⟨t + P.dur v (s.count v), SEv.recov v⟩ ∧ t + P.dur v (s.count v) < P.tmax) ∨
    ∃ w ∈ P.nbrs v, x ∈ chainOf P.tmax v w
      (liveTimes (fset s.inf v true) (fset s.recTime v (t + P.dur v (s.count v))) w
        ((P.delays v w (s.count v)).map fun d => t + d)) := by
  unfold newItems at h
  rcases List.mem_append.1 h with h | h
  · left
    split at h
    · simp at h; exact ⟨h, ‹_›⟩
    · simp at h
  · right
    obtain ⟨w, hw, hx⟩ := List.mem_flatMap.1 h
    exact ⟨w, hw, hx⟩

theorem step_queue {P : SSParams} {s s' : SSState} (h : step P s = some s') {φ : SItem → Prop}
    (hold : ∀ y ∈ s.queue, φ y) (hnew : ∀ x ∈ s.queue, ∀ v, ∀ y ∈ newItems P s x.time v, φ y)
    (hre : ∀ x ∈ s.queue, ∀ src v fut, x.ev = SEv.trans src v fut → ∀ p : Rat → Bool,
      ∀ y ∈ reQ P.tmax src v (fut.filter p), φ y) : ∀ y ∈ s'.queue, φ y := by
  obtain ⟨x, l1, l2, hq, -, -, hc⟩ := step_cases h
  have hx : x ∈ s.queue := by simp [hq]
  have hrest : ∀ y ∈ l1 ++ l2, φ y := fun y hy => hold y (by rw [hq]; exact EvQ.mem_mid hy)
  rcases hc with ⟨u, -, rfl⟩ | ⟨src, v, fut, hev, -, rfl⟩ | ⟨src, v, fut, hev, -, rfl⟩
  · exact hrest
  · exact List.forall_mem_append.2 ⟨hrest, hre x hx src v fut hev _⟩
  · exact List.forall_mem_append.2 ⟨List.forall_mem_append.2 ⟨hrest, hnew x hx v⟩, hre x hx src v fut hev _⟩

structure InvA (P : SSParams) (s : SSState) : Prop where
  q_lt : ∀ x ∈ s.queue, x.time < P.tmax
  log_lt : ∀ c ∈ s.log, c.1 < P.tmax

theorem chainOf_lt {tmax : Rat} {src tgt : Node} {tt : List Rat} {x : SItem} (h : x ∈ chainOf tmax src tgt tt) :
    x.time < tmax := by
  obtain ⟨t0, fol, _, h2, rfl⟩ := mem_chainOf h; exact h2

theorem newItems_lt {P : SSParams} {s : SSState} {t : Rat} {v : Node} {x : SItem} (h : x ∈ newItems P s t v) :
    x.time < P.tmax := by
  rcases mem_newItems h with ⟨rfl, h'⟩ | ⟨w, _, h'⟩
  · exact h'
  · exact chainOf_lt h'

theorem reQ_lt {tmax : Rat} {src : Option Node} {v : Node} {tt : List Rat} {x : SItem} (h : x ∈ reQ tmax src v tt) :
    x.time < tmax := by
  obtain ⟨u, _, h⟩ := mem_reQ h; exact chainOf_lt h

theorem InvA_step {P : SSParams} {s s' : SSState} (hI : InvA P s) (h : step P s = some s') : InvA P s' := by
  refine ⟨step_queue h hI.q_lt (fun _ _ _ _ => newItems_lt) (fun _ _ _ _ _ _ _ _ => reQ_lt), ?_⟩
  obtain ⟨x, l1, l2, hq, _, _, hc⟩ := step_cases h
  have hx : x.time < P.tmax := hI.q_lt x (by simp [hq])
  rcases hc with ⟨u, _, rfl⟩ | ⟨src, v, fut, _, _, rfl⟩ | ⟨src, v, fut, _, _, rfl⟩
  · exact List.forall_mem_cons.2 ⟨hx, hI.log_lt⟩
  · exact hI.log_lt
  · exact List.forall_mem_cons.2 ⟨hx, hI.log_lt⟩

theorem InvA_init (P : SSParams) (infs : List Node) : InvA P (init P infs) := by
  refine ⟨fun x hx => ?_, by simp [init]⟩
  obtain ⟨u, _, rfl, h⟩ := mem_init_queue hx
  exact h

/-- the status changes of node `v`, oldest first -/
def nlog (log : List Change) (v : Node) : List Change := log.reverse.filter (fun c => c.2.1 == v)

theorem nlog_cons_self (t : Rat) (v : Node) (b : Bool) (log : List Change) :
    nlog ((t, v, b) :: log) v = nlog log v ++ [(t, v, b)] := by
  simp [nlog, List.filter_append]

theorem nlog_cons_ne (t : Rat) {u v : Node} (b : Bool) (log : List Change) (h : u ≠ v) :
    nlog ((t, u, b) :: log) v = nlog log v := by
  simp [nlog, List.filter_append, h]

/-- `rt`: a queued recovery of `v` is at `recTime v`; `rT` (capital `T`): while `v` is infectious, `recTime v` is its last
infection time + `dur v i` -/
structure InvB (P : SSParams) (s : SSState) (v : Node) : Prop where
  alt : ∀ i c, (nlog s.log v)[i]? = some c → c.2.2 = (i % 2 == 0)
  infl : s.inf v = ((nlog s.log v).length % 2 == 1)
  cnt : s.count v = ((nlog s.log v).length + 1) / 2
  rc : s.queue.countP (fun x => x.ev == SEv.recov v) ≤ if s.inf v then 1 else 0
  rt : ∀ x ∈ s.queue, x.ev = SEv.recov v → x.time = s.recTime v
  rT : ∀ i c, (nlog s.log v).length = 2 * i + 1 → (nlog s.log v)[2 * i]? = some c → s.recTime v = c.1 + P.dur v i
  pair : ∀ i ci cr, (nlog s.log v)[2 * i]? = some ci → (nlog s.log v)[2 * i + 1]? = some cr →
    cr.1 = ci.1 + P.dur v i

theorem InvB_frame {P : SSParams} {s s' : SSState} {v : Node} (hI : InvB P s v)
    (h1 : s'.inf v = s.inf v) (h2 : s'.recTime v = s.recTime v) (h3 : s'.count v = s.count v)
    (h4 : nlog s'.log v = nlog s.log v)
    (h5 : s'.queue.countP (fun x => x.ev == SEv.recov v) ≤ s.queue.countP (fun x => x.ev == SEv.recov v))
    (h6 : ∀ x ∈ s'.queue, x.ev = SEv.recov v → x ∈ s.queue) : InvB P s' v := by
  refine ⟨?_, ?_, ?_, ?_, ?_, ?_, ?_⟩
  · rw [h4]; exact hI.alt
  · rw [h4, h1]; exact hI.infl
  · rw [h4, h3]; exact hI.cnt
  · rw [h1]; exact le_trans h5 hI.rc
  · intro x hx he; rw [h2]; exact hI.rt x (h6 x hx he) he
  · rw [h4, h2]; exact hI.rT
  · rw [h4]; exact hI.pair

theorem InvB_snoc {P : SSParams} {s s' : SSState} {v : Node} {t : Rat} {b : Bool} (hI : InvB P s v)
    (hlog : nlog s'.log v = nlog s.log v ++ [(t, v, b)]) (hflip : s.inf v = !b) (hinf : s'.inf v = b)
    (hcnt : s'.count v = if b then s.count v + 1 else s.count v)
    (hrec : s'.recTime v = if b then t + P.dur v (s.count v) else s.recTime v)
    (ht : b = false → t = s.recTime v)
    (hrc : s'.queue.countP (fun x => x.ev == SEv.recov v) ≤ if b then 1 else 0)
    (hrt : ∀ x ∈ s'.queue, x.ev = SEv.recov v → x.time = s'.recTime v) : InvB P s' v := by
  have hpar : (b = false → (nlog s.log v).length % 2 = 1) ∧ (b = true → (nlog s.log v).length % 2 = 0) := by
    have := hI.infl
    rw [hflip] at this
    cases b <;> simp at this ⊢ <;> omega
  refine ⟨?_, ?_, ?_, by rw [hinf]; exact hrc, hrt, ?_, ?_⟩ <;> rw [hlog]
  · intro i c hic
    rcases EvQ.getElem?_snoc_cases hic with ⟨_, h1⟩ | ⟨rfl, rfl⟩
    · exact hI.alt i c h1
    · cases b
      · rw [hpar.1 rfl]; rfl
      · rw [hpar.2 rfl]; rfl
  · rw [hinf, List.length_append, List.length_singleton]
    cases b
    · rw [show ((nlog s.log v).length + 1) % 2 = 0 by have := hpar.1 rfl; omega]; rfl
    · rw [show ((nlog s.log v).length + 1) % 2 = 1 by have := hpar.2 rfl; omega]; rfl
  · rw [hcnt, hI.cnt, List.length_append, List.length_singleton]
    cases b
    · have := hpar.1 rfl
      rw [if_neg Bool.false_ne_true]; omega
    · have := hpar.2 rfl
      rw [if_pos rfl]; omega
  · intro i c hlen hic
    rw [List.length_append, List.length_singleton] at hlen
    rcases EvQ.getElem?_snoc_cases hic with ⟨h1, _⟩ | ⟨_, rfl⟩
    · omega
    · cases b
      · have := hpar.1 rfl; omega
      · rw [hrec, if_pos rfl, hI.cnt, show ((nlog s.log v).length + 1) / 2 = i by omega]
  · intro i ci cr h1 h2
    rcases EvQ.getElem?_snoc_cases h2 with ⟨h2l, h2⟩ | ⟨h2l, rfl⟩
    · rcases EvQ.getElem?_snoc_cases h1 with ⟨_, h1⟩ | ⟨h1l, _⟩
      · exact hI.pair i ci cr h1 h2
      · omega
    · rcases EvQ.getElem?_snoc_cases h1 with ⟨_, h1'⟩ | ⟨h1l, _⟩
      · cases b
        · show t = _
          rw [ht rfl]; exact hI.rT i ci h2l.symm h1'
        · have := hpar.2 rfl; omega
      · omega

def noRecov (v : Node) (l : List SItem) : Prop := ∀ x ∈ l, x.ev ≠ SEv.recov v

theorem noRecov_countP {v : Node} {l : List SItem} (h : noRecov v l) :
    l.countP (fun x => x.ev == SEv.recov v) = 0 := by
  rw [List.countP_eq_zero]
  intro x hx; simpa using h x hx

theorem noRecov_chainOf (v : Node) (tmax : Rat) (src tgt : Node) (tt : List Rat) :
    noRecov v (chainOf tmax src tgt tt) := by
  intro x hx
  obtain ⟨t0, fol, _, _, rfl⟩ := mem_chainOf hx
  simp

theorem noRecov_reQ (v : Node) (tmax : Rat) (src : Option Node) (tgt : Node) (tt : List Rat) :
    noRecov v (reQ tmax src tgt tt) := by
  intro x hx
  obtain ⟨u, _, hx⟩ := mem_reQ hx
  exact noRecov_chainOf v _ _ _ _ x hx

theorem noRecov_newItems {v w : Node} (P : SSParams) (s : SSState) (t : Rat) (h : w ≠ v) :
    noRecov v (newItems P s t w) := by
  intro x hx
  rcases mem_newItems hx with ⟨rfl, _⟩ | ⟨z, _, hx⟩
  · simp [h]
  · exact noRecov_chainOf v _ _ _ _ x hx

theorem InvB_step {P : SSParams} {s s' : SSState} (hI : ∀ v, InvB P s v) (h : step P s = some s') :
    ∀ v, InvB P s' v := by
  obtain ⟨x, l1, l2, hq, _, _, hc⟩ := step_cases h
  intro v
  have hIv := hI v
  rcases hc with ⟨u, hev, rfl⟩ | ⟨src, w, fut, hev, hinf, rfl⟩ | ⟨src, w, fut, hev, hinf, rfl⟩
  · -- recovery of u
    by_cases huv : u = v
    · subst huv
      have hxq : x ∈ s.queue := by simp [hq]
      have hcnt : 1 ≤ s.queue.countP (fun y => y.ev == SEv.recov u) := by
        apply List.countP_pos_iff.2; exact ⟨x, hxq, by simp [hev]⟩
      have hinf : s.inf u = true := by
        have := hIv.rc
        split at this
        · assumption
        · omega
      refine InvB_snoc hIv (nlog_cons_self _ _ _ _) hinf (by simp [fset]) rfl rfl (fun _ => hIv.rt x hxq hev) ?_
        (fun y hy he => hIv.rt y (by rw [hq]; exact EvQ.mem_mid hy) he)
      have := hIv.rc
      rw [hinf, hq, List.countP_append, List.countP_cons] at this
      simp only [hev, beq_self_eq_true, if_true] at this
      show (l1 ++ l2).countP _ ≤ 0
      rw [List.countP_append]; omega
    · apply InvB_frame hIv
      · simp [fset, Ne.symm huv]
      · rfl
      · rfl
      · exact nlog_cons_ne _ _ _ huv
      · rw [hq]; exact EvQ.countP_mid_le _ _ _ _
      · intro y hy _; rw [hq]; exact EvQ.mem_mid hy
  · -- attempt on an infectious node
    apply InvB_frame hIv
    · rfl
    · rfl
    · rfl
    · rfl
    · rw [hq]
      simp only [List.countP_append (l₁ := l1 ++ l2), noRecov_countP (noRecov_reQ v _ _ _ _)]
      exact EvQ.countP_mid_le _ _ _ _
    · intro y hy he
      rcases List.mem_append.1 hy with hy | hy
      · rw [hq]; exact EvQ.mem_mid hy
      · exact absurd he (noRecov_reQ v _ _ _ _ y hy)
  · -- infection of w
    by_cases hwv : w = v
    · subst hwv
      have hno : s.queue.countP (fun y => y.ev == SEv.recov w) = 0 := by
        have := hIv.rc; rw [hinf] at this; simpa using this
      have hno' : ∀ y ∈ l1 ++ l2, y.ev ≠ SEv.recov w := by
        intro y hy
        rw [List.countP_eq_zero] at hno
        simpa using hno y (by rw [hq]; exact EvQ.mem_mid hy)
      refine InvB_snoc hIv (nlog_cons_self _ _ _ _) hinf (by simp [fset]) (by simp [fset]) (by simp [fset])
        (fun h => Bool.noConfusion h) ?_ ?_
      · simp only [if_true]
        rw [List.countP_append, noRecov_countP (noRecov_reQ w _ _ _ _), List.countP_append]
        have h0 : (l1 ++ l2).countP (fun y => y.ev == SEv.recov w) = 0 := by
          rw [List.countP_eq_zero]; intro y hy; simpa using hno' y hy
        rw [h0]
        unfold newItems
        rw [List.countP_append]
        have h1 : ((P.nbrs w).flatMap (fun z => chainOf P.tmax w z
            (liveTimes (fset s.inf w true) (fset s.recTime w (x.time + P.dur w (s.count w))) z
              ((P.delays w z (s.count w)).map fun d => x.time + d)))).countP
              (fun y => y.ev == SEv.recov w) = 0 := by
          apply noRecov_countP
          intro y hy
          obtain ⟨z, _, hy⟩ := List.mem_flatMap.1 hy
          exact noRecov_chainOf w _ _ _ _ y hy
        rw [h1]
        split <;> simp
      · intro y hy he
        simp only [fset]; simp
        rcases List.mem_append.1 hy with hy | hy
        · rcases List.mem_append.1 hy with hy | hy
          · exact absurd he (hno' y hy)
          · rcases mem_newItems hy with ⟨rfl, _⟩ | ⟨z, _, hy⟩
            · rfl
            · exact absurd he (noRecov_chainOf w _ _ _ _ y hy)
        · exact absurd he (noRecov_reQ w _ _ _ _ y hy)
    · apply InvB_frame hIv
      · simp [fset, Ne.symm hwv]
      · simp [fset, Ne.symm hwv]
      · simp [fset, Ne.symm hwv]
      · exact nlog_cons_ne _ _ _ hwv
      · rw [hq]
        simp only [List.countP_append (l₁ := l1 ++ l2 ++ newItems P s x.time w),
          List.countP_append (l₁ := l1 ++ l2) (l₂ := newItems P s x.time w),
          noRecov_countP (noRecov_reQ v _ _ _ _), noRecov_countP (noRecov_newItems P s x.time hwv)]
        exact EvQ.countP_mid_le _ _ _ _
      · intro y hy he
        rcases List.mem_append.1 hy with hy | hy
        · rcases List.mem_append.1 hy with hy | hy
          · rw [hq]; exact EvQ.mem_mid hy
          · exact absurd he (noRecov_newItems P s x.time hwv y hy)
        · exact absurd he (noRecov_reQ v _ _ _ _ y hy)

theorem InvB_init (P : SSParams) (infs : List Node) (v : Node) : InvB P (init P infs) v := by
  have hl : nlog (init P infs).log v = [] := by simp [init, nlog]
  have hnr : noRecov v (init P infs).queue := by
    intro x hx he
    obtain ⟨u, _, rfl, _⟩ := mem_init_queue hx
    cases he
  refine ⟨?_, ?_, ?_, ?_, ?_, ?_, ?_⟩
  · rw [hl]; simp
  · rw [hl]; simp [init]
  · rw [hl]; simp [init]
  · rw [noRecov_countP hnr]; simp
  · intro x hx he; exact absurd he (hnr x hx)
  · rw [hl]; simp
  · rw [hl]; simp

theorem InvB_run (P : SSParams) (infs : List Node) (fuel : Nat) : ∀ v, InvB P (run P infs fuel) v :=
  loop_inv (fun s => ∀ v, InvB P s v) (fun _ _ => InvB_step) fuel _ (InvB_init P infs)

def TransOK (P : SSParams) (infs : List Node) (tr : List (Rat × Option Node × Node)) (e : Rat × Option Node × Node) :
    Prop :=
  match e.2.1 with
  | none => e.2.2 ∈ infs ∧ e.1 = P.tmin
  | some u => e.2.2 ∈ P.nbrs u ∧ ∃ eu ∈ tr, eu.2.2 = u ∧ ∃ k d, d ∈ P.delays u e.2.2 k ∧ eu.1 + d = e.1

def ChainOK (P : SSParams) (infs : List Node) (tr : List (Rat × Option Node × Node)) (t : Rat) (src : Option Node)
    (v : Node) (fut : List Rat) : Prop :=
  match src with
  | none => v ∈ infs ∧ t = P.tmin
  | some u => v ∈ P.nbrs u ∧ ∃ eu ∈ tr, eu.2.2 = u ∧ ∃ k, ∀ t' ∈ t :: fut, ∃ d ∈ P.delays u v k, eu.1 + d = t'

theorem TransOK.mono {P : SSParams} {infs : List Node} {tr tr' : List (Rat × Option Node × Node)}
    {e : Rat × Option Node × Node} (h : TransOK P infs tr e) (hs : ∀ x ∈ tr, x ∈ tr') : TransOK P infs tr' e := by
  unfold TransOK at h ⊢
  split
  · rename_i h0; simp only [h0] at h; exact h
  · rename_i u h0; simp only [h0] at h
    obtain ⟨h1, eu, h2, h3⟩ := h
    exact ⟨h1, eu, hs eu h2, h3⟩

theorem ChainOK.mono {P : SSParams} {infs : List Node} {tr tr' : List (Rat × Option Node × Node)}
    {t : Rat} {src : Option Node} {v : Node} {fut : List Rat}
    (h : ChainOK P infs tr t src v fut) (hs : ∀ x ∈ tr, x ∈ tr') : ChainOK P infs tr' t src v fut := by
  cases src with
  | none => exact h
  | some u =>
    obtain ⟨h1, eu, h2, h3⟩ := h
    exact ⟨h1, eu, hs eu h2, h3⟩

structure InvC (P : SSParams) (infs : List Node) (s : SSState) : Prop where
  tr : ∀ e ∈ s.trans, TransOK P infs s.trans e
  qc : ∀ x ∈ s.queue, ∀ src v fut, x.ev = SEv.trans src v fut → ChainOK P infs s.trans x.time src v fut

theorem reQ_ChainOK {P : SSParams} {infs : List Node} {tr : List (Rat × Option Node × Node)}
    {t : Rat} {src : Option Node} {v : Node} {fut : List Rat} (h : ChainOK P infs tr t src v fut)
    (p : Rat → Bool) {y : SItem} (hy : y ∈ reQ P.tmax src v (fut.filter p)) :
    ∀ src' v' fut', y.ev = SEv.trans src' v' fut' → ChainOK P infs tr y.time src' v' fut' := by
  obtain ⟨u, rfl, hy⟩ := mem_reQ hy
  obtain ⟨t0, fol, h1, _, rfl⟩ := mem_chainOf hy
  intro src' v' fut' he
  simp at he
  obtain ⟨rfl, rfl, rfl⟩ := he
  obtain ⟨h2, eu, h3, h4, k, h5⟩ := h
  refine ⟨h2, eu, h3, h4, k, ?_⟩
  intro t' ht'
  apply h5
  have : t' ∈ fut.filter p := by rw [h1]; exact ht'
  exact List.mem_cons_of_mem _ (List.mem_filter.1 this).1

theorem InvC_step {P : SSParams} {infs : List Node} {s s' : SSState} (hI : InvC P infs s) (h : step P s = some s') :
    InvC P infs s' := by
  obtain ⟨x, l1, l2, hq, _, _, hc⟩ := step_cases h
  have hxq : x ∈ s.queue := by simp [hq]
  have hold : ∀ y ∈ l1 ++ l2, y ∈ s.queue := by intro y hy; rw [hq]; exact EvQ.mem_mid hy
  rcases hc with ⟨u, hev, rfl⟩ | ⟨src, w, fut, hev, hinf, rfl⟩ | ⟨src, w, fut, hev, hinf, rfl⟩
  · exact ⟨hI.tr, fun y hy => hI.qc y (hold y hy)⟩
  · refine ⟨hI.tr, ?_⟩
    intro y hy
    rcases List.mem_append.1 hy with hy | hy
    · exact hI.qc y (hold y hy)
    · exact reQ_ChainOK (hI.qc x hxq src w fut hev) _ hy
  · have hsub : ∀ e ∈ s.trans, e ∈ (x.time, src, w) :: s.trans := fun e he => List.mem_cons_of_mem _ he
    have hx := hI.qc x hxq src w fut hev
    refine ⟨?_, ?_⟩
    · intro e he
      rcases List.mem_cons.1 he with rfl | he
      · unfold TransOK
        cases src with
        | none => exact hx
        | some u =>
          obtain ⟨h1, eu, h2, h3, k, h4⟩ := hx
          obtain ⟨d, hd, hd'⟩ := h4 x.time (by simp)
          exact ⟨h1, eu, hsub eu h2, h3, k, d, hd, hd'⟩
      · exact (hI.tr e he).mono hsub
    · intro y hy
      rcases List.mem_append.1 hy with hy | hy
      · rcases List.mem_append.1 hy with hy | hy
        · intro src' v' fut' he
          exact (hI.qc y (hold y hy) src' v' fut' he).mono hsub
        · rcases mem_newItems hy with ⟨rfl, _⟩ | ⟨z, hz, hy⟩
          · intro src' v' fut' he; simp at he
          · obtain ⟨t0, fol, h1, _, rfl⟩ := mem_chainOf hy
            intro src' v' fut' he
            simp at he
            obtain ⟨rfl, rfl, rfl⟩ := he
            refine ⟨hz, (x.time, src, w), by simp, rfl, s.count w, ?_⟩
            intro t' ht'
            have : t' ∈ (P.delays w z (s.count w)).map fun d => x.time + d := by
              apply liveTimes_subset; rw [h1]; exact ht'
            obtain ⟨d, hd, rfl⟩ := List.mem_map.1 this
            exact ⟨d, hd, rfl⟩
      · intro src' v' fut' he
        exact (reQ_ChainOK hx _ hy src' v' fut' he).mono hsub

theorem InvC_init (P : SSParams) (infs : List Node) : InvC P infs (init P infs) := by
  refine ⟨by simp [init], fun x hx src v fut he => ?_⟩
  obtain ⟨u, hu, rfl, _⟩ := mem_init_queue hx
  cases he
  exact ⟨hu, rfl⟩

end EventSIS
