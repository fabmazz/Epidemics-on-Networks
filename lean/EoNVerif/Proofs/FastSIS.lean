import EoNVerif.Model.FastSIS
import EoNVerif.Proofs.TapeStep
import EoNVerif.Proofs.EventQueue
import Mathlib.Tactic.Linarith
import Mathlib.Algebra.Order.Field.Rat
import Mathlib.Data.List.Basic
/-!
The event loop of `fast_SIS`.  The sub-programs `findNext` / `nbrLoop` / `processTrans` only append transmission events
that lie strictly before the source's recovery time (`draw_spec`, `findNext_spec`, `Inv_nbrLoop`, `Inv_processTrans`, on
tapes of non-negative draws, `TapeNonneg`); with that the state invariant `Inv` (a legal log, a queue that matches statuses and recovery times, transmissions explained by
the log) is kept by every event, so it holds when the queue is empty (`run_inv`).  `loop_inv` is that statement for `loop`, not
an induction rule taking a predicate (unlike `EventSIS.loop_inv`, `EventSIR.loop_ind`).
-/
namespace FastSIS

/-- infection status of `u` after the first `k` entries of a (chronological) change log -/
def statusAfter (log : List (Rat × Node × Bool)) (k : Nat) (u : Node) : Bool :=
  ((log.take k).filter fun e => e.2.1 == u).getLast?.map (·.2.2) |>.getD false

/-- Of these, the theorems use `horizon`, `nbr_mem`, `infs_mem` (and `nodup` in Props/C02d); no proof uses `symm`, `noloop`, `rates`
(a negative rate makes the run fail, and the theorems assume a successful run). -/
structure WF (P : FSParams) (infs : List Node) : Prop where
  nodup : P.nodes.Nodup
  nbr_mem : ∀ u ∈ P.nodes, ∀ v ∈ P.nbrs u, v ∈ P.nodes
  symm : ∀ u v, v ∈ P.nbrs u → u ∈ P.nbrs v
  noloop : ∀ u, u ∉ P.nbrs u
  rates : (∀ u v, 0 ≤ P.transRate u v) ∧ (∀ u, 0 ≤ P.recRate u)
  infs_mem : ∀ u ∈ infs, u ∈ P.nodes
  horizon : P.tmin < P.tmax

/-- every `expovariate` value on the tape is non-negative (word for word `Gillespie.TapeNonneg` of Proofs/TapeStep: `tapeNonneg_iff`) -/
def TapeNonneg (ts : TapeSt) : Prop := ∀ d ∈ ts.tape, ∀ x, d = Draw.expo x → 0 ≤ x

theorem tapeNonneg_iff (ts : TapeSt) : TapeNonneg ts ↔ Gillespie.TapeNonneg ts := Iff.rfl

theorem popExpo_nonneg (rate : Rat) (ts ts' : TapeSt) (x : Rat) (hts : TapeNonneg ts)
    (h : TM.popExpo rate ts = .ok (x, ts')) : 0 ≤ x ∧ TapeNonneg ts' := by
  obtain ⟨h1, h2⟩ := TM.popExpo_tape rate ts ts' x h
  exact ⟨hts _ h1 _ rfl, Gillespie.TapeNonneg.mono hts h2⟩

theorem minTime_eq (q : List FItem) : minTime q = EvQ.gminTime FItem.time q :=
  EvQ.gminTime_of_rec _ rfl (fun _ _ => rfl) q

theorem pop_eq (q : List FItem) : pop q = EvQ.gpop FItem.time q := by
  unfold pop EvQ.gpop; rw [minTime_eq]
  cases EvQ.gminTime FItem.time q with
  | none => rfl
  | some m =>
    simp only
    cases List.findIdx? (fun x => x.time == m) q with
    | none => rfl
    | some i => simp only; cases q[i]? <;> rfl

theorem pop_none {q : List FItem} (h : pop q = none) : q = [] := by
  rw [pop_eq] at h; exact EvQ.gpop_none _ h

theorem pop_some {q : List FItem} {x : FItem} {q' : List FItem} (h : pop q = some (x, q')) :
    ∃ l1 l2, q = l1 ++ x :: l2 ∧ q' = l1 ++ l2 ∧ (∀ y ∈ l1, x.time < y.time) ∧ (∀ y ∈ l2, x.time ≤ y.time) := by
  rw [pop_eq] at h; exact EvQ.gpop_some _ h

theorem qadd_eq (tmax : Rat) (q : List FItem) (t : Rat) (e : FEv) :
    qadd tmax q t e = q ++ (if t < tmax then [⟨t, e⟩] else []) := by
  unfold qadd; split <;> simp

/-- status of `u` according to a *reversed* change log (newest entry first) -/
def cur : List (Rat × Node × Bool) → Node → Bool
  | [], _ => false
  | e :: rest, u => if e.2.1 = u then e.2.2 else cur rest u

theorem cur_mem {l : List (Rat × Node × Bool)} {u : Node} (h : cur l u = true) : ∃ e ∈ l, e.2.1 = u := by
  induction l with
  | nil => cases h
  | cons e rest ih =>
    by_cases he : e.2.1 = u
    · exact ⟨e, List.mem_cons_self, he⟩
    · simp only [cur, if_neg he] at h
      obtain ⟨e', h1, h2⟩ := ih h
      exact ⟨e', List.mem_cons_of_mem _ h1, h2⟩

theorem status_cons {inf : Node → Bool} {log : List (Rat × Node × Bool)} (h : ∀ u, inf u = cur log u) (t : Rat)
    (v : Node) (b : Bool) (u : Node) : fset inf v b u = cur ((t, v, b) :: log) u := by
  unfold fset cur
  by_cases hu : u = v
  · rw [if_pos hu, if_pos hu.symm]
  · rw [if_neg hu, if_neg (Ne.symm hu)]
    exact h u

theorem statusAfter_eq_cur (pre rest : List (Rat × Node × Bool)) (u : Node) :
    statusAfter (pre.reverse ++ rest) pre.length u = cur pre u := by
  unfold statusAfter
  rw [List.take_append_of_le_length (by simp), List.take_of_length_le (by simp), List.filter_reverse,
    List.getLast?_reverse]
  induction pre with
  | nil => rfl
  | cons e pre ih =>
    simp only [List.filter_cons, cur]
    by_cases he : e.2.1 = u
    · simp [he]
    · rw [if_neg (by simpa using he), if_neg he]
      exact ih

theorem statusAfter_append (l rest : List (Rat × Node × Bool)) (k : Nat) (hk : k ≤ l.length) (u : Node) :
    statusAfter (l ++ rest) k u = statusAfter l k u := by
  unfold statusAfter
  rw [List.take_append_of_le_length hk]

/-- the log is reversed: newest entry first -/
def Legal (P : FSParams) : List (Rat × Node × Bool) → Prop
  | [] => True
  | e :: rest => Legal P rest ∧ cur rest e.2.1 = (!e.2.2) ∧ P.tmin ≤ e.1 ∧ e.1 < P.tmax ∧ ∀ e' ∈ rest, e'.1 ≤ e.1

theorem Legal.suffix {P : FSParams} (post pre : List (Rat × Node × Bool)) (h : Legal P (post ++ pre)) :
    Legal P pre := by
  induction post with
  | nil => exact h
  | cons e post ih => exact ih h.1

theorem Legal.entries {P : FSParams} {l : List (Rat × Node × Bool)} (h : Legal P l) (k : Nat)
    (e : Rat × Node × Bool) (he : l.reverse[k]? = some e) :
    statusAfter l.reverse k e.2.1 = (!e.2.2) ∧ P.tmin ≤ e.1 ∧ e.1 < P.tmax := by
  induction l with
  | nil => simp at he
  | cons e0 rest ih =>
    obtain ⟨h1, h2, h3, h4, _⟩ := h
    rw [List.reverse_cons] at he ⊢
    rcases EvQ.getElem?_snoc_cases he with ⟨hk, he⟩ | ⟨hk, rfl⟩
    · rw [statusAfter_append _ _ _ (le_of_lt hk)]
      exact ih h1 he
    · rw [hk, List.length_reverse]
      exact ⟨(statusAfter_eq_cur rest [e] _).trans h2, h3, h4⟩

theorem Legal.sorted {P : FSParams} {l : List (Rat × Node × Bool)} (h : Legal P l) :
    (l.reverse.map (·.1)).Pairwise (· ≤ ·) := by
  rw [List.map_reverse, List.pairwise_reverse]
  induction l with
  | nil => simp
  | cons e rest ih =>
    obtain ⟨h1, _, _, _, h5⟩ := h
    rw [List.map_cons, List.pairwise_cons]
    refine ⟨?_, ih h1⟩
    intro a ha
    obtain ⟨e', he', rfl⟩ := List.mem_map.1 ha
    exact h5 e' he'

def addQ (s : FSState) (l : List FItem) : FSState := { s with queue := s.queue ++ l }

theorem draw_spec (rate base : Rat) (ts ts1 : TapeSt) (t1 : ERat) (hts : TapeNonneg ts)
    (h1 : (if rate > 0 then do let d ← TM.popExpo rate; pure (some (base + d)) else pure none : TM ERat) ts = .ok (t1, ts1)) :
    TapeNonneg ts1 ∧ ∀ v, t1 = some v → base ≤ v := by
  split at h1
  · obtain ⟨d, ts0, h0, h1⟩ := TM.bind_inv h1
    obtain ⟨hd, hts0⟩ := popExpo_nonneg _ _ _ _ hts h0
    obtain ⟨rfl, rfl⟩ := TM.pure_inv h1
    refine ⟨hts0, ?_⟩
    intro v hv
    cases hv
    linarith
  · obtain ⟨rfl, rfl⟩ := TM.pure_inv h1
    exact ⟨hts, fun v hv => by cases hv⟩

theorem findNext_spec (P : FSParams) (s : FSState) (time rate : Rat) (src tgt : Node) (ts ts' : TapeSt) (s' : FSState)
    (hts : TapeNonneg ts) (h : findNext P s time rate src tgt ts = .ok (s', ts')) :
    TapeNonneg ts' ∧ ∃ l, s' = addQ s l ∧ ∀ x ∈ l, x.ev = FEv.trans (some src) tgt ∧ time ≤ x.time ∧ x.time < P.tmax ∧
      ERat.lt (some x.time) (s.recTime src) = true := by
  have hnil : s = addQ s [] := by simp [addQ]
  unfold findNext at h
  split at h
  · split at h
    · exact absurd h (TM.fail_ne_ok _ _ _)
    · obtain ⟨t1, ts1, h1, h⟩ := TM.bind_inv h
      obtain ⟨t2, ts2, h2, h⟩ := TM.bind_inv h
      obtain ⟨hts1, ht1⟩ := draw_spec _ _ _ _ _ hts h1
      have h2' : TapeNonneg ts2 ∧ ∀ v, t2 = some v → time ≤ v := by
        split at h2
        · rename_i hlt
          obtain ⟨d, ts0, h0, h2⟩ := TM.bind_inv h2
          obtain ⟨hd, hts0⟩ := popExpo_nonneg _ _ _ _ hts1 h0
          obtain ⟨rfl, rfl⟩ := TM.pure_inv h2
          refine ⟨hts0, ?_⟩
          intro v hv
          cases t1 with
          | none => cases hlt
          | some a =>
            have := ht1 a rfl
            cases hr : s.recTime tgt with
            | none => rw [hr] at hv; cases hv
            | some r =>
              rw [hr] at hv hlt
              cases hv
              have := of_decide_eq_true hlt
              linarith
        · obtain ⟨rfl, rfl⟩ := TM.pure_inv h2
          exact ⟨hts1, ht1⟩
      obtain ⟨hts2, ht2⟩ := h2'
      split at h
      · rename_i tt
        split at h
        · rename_i hc
          obtain ⟨rfl, rfl⟩ := TM.pure_inv h
          refine ⟨hts2, [⟨tt, FEv.trans (some src) tgt⟩], ?_, ?_⟩
          · simp [addQ, qadd, hc.2]
          · intro x hx
            simp at hx
            subst hx
            exact ⟨rfl, ht2 _ rfl, hc.2, hc.1⟩
        · obtain ⟨rfl, rfl⟩ := TM.pure_inv h
          exact ⟨hts2, [], hnil, by simp⟩
      · obtain ⟨rfl, rfl⟩ := TM.pure_inv h
        exact ⟨hts2, [], hnil, by simp⟩
  · obtain ⟨rfl, rfl⟩ := TM.pure_inv h
    exact ⟨hts, [], hnil, by simp⟩

def recItems (P : FSParams) (tgt : Node) : ERat → List FItem
  | some rt => if rt < P.tmax then [⟨rt, FEv.recov tgt⟩] else []
  | none => []

theorem mem_recItems {P : FSParams} {tgt : Node} {recT : ERat} {x : FItem} (hx : x ∈ recItems P tgt recT) :
    ∃ rt, recT = some rt ∧ rt < P.tmax ∧ x = ⟨rt, FEv.recov tgt⟩ := by
  cases recT with
  | none => simp [recItems] at hx
  | some rt =>
    by_cases hlt : rt < P.tmax
    · simp [recItems, hlt] at hx; exact ⟨rt, rfl, hlt, hx⟩
    · simp [recItems, hlt] at hx

theorem countP_recItems (P : FSParams) (tgt u : Node) (recT : ERat) :
    List.countP (fun x => x.ev == FEv.recov u) (recItems P tgt recT) ≤ 1 ∧
      (u ≠ tgt → List.countP (fun x => x.ev == FEv.recov u) (recItems P tgt recT) = 0) := by
  cases recT with
  | none => simp [recItems]
  | some rt =>
    by_cases hlt : rt < P.tmax
    · simp only [recItems, if_pos hlt]
      refine ⟨by simp [List.countP_cons]; split <;> omega, ?_⟩
      intro hne
      have : ¬ tgt = u := fun h => hne h.symm
      simp [this]
    · simp [recItems, hlt]

/-- the state after `tgt` has been infected at `time` with recovery time `recT` (before the neighbour loop) -/
def infect (P : FSParams) (s : FSState) (time : Rat) (src : Option Node) (tgt : Node) (recT : ERat) : FSState :=
  { inf := fset s.inf tgt true, recTime := fset s.recTime tgt recT,
    queue := s.queue ++ recItems P tgt recT,
    log := (time, tgt, true) :: s.log, trans := (time, src, tgt) :: s.trans }

/-- the condition under which a popped transmission event is a legal move -/
def SrcOK (P : FSParams) (infs : List Node) (s : FSState) (time : Rat) (src : Option Node) (tgt : Node) : Prop :=
  match src with
  | none => tgt ∈ infs ∧ time = P.tmin
  | some u => tgt ∈ P.nbrs u ∧ s.inf u = true ∧ ERat.lt (some time) (s.recTime u) = true

/-- `now` = the time of the last popped event: an upper bound of the log (`logle`) and a lower bound of the queue (`qtime`). -/
structure Inv (P : FSParams) (infs : List Node) (now : Rat) (s : FSState) : Prop where
  legal : Legal P s.log
  logle : ∀ e ∈ s.log, e.1 ≤ now
  tmin_le : P.tmin ≤ now
  status : ∀ u, s.inf u = cur s.log u
  qtime : ∀ x ∈ s.queue, now ≤ x.time ∧ x.time < P.tmax
  rec_q : ∀ x ∈ s.queue, ∀ u, x.ev = FEv.recov u → s.inf u = true ∧ s.recTime u = some x.time
  rec_pending : ∀ u rt, s.inf u = true → s.recTime u = some rt → rt < P.tmax → (⟨rt, FEv.recov u⟩ : FItem) ∈ s.queue
  rec_uniq : ∀ u, s.queue.countP (fun x => x.ev == FEv.recov u) ≤ 1
  tr_q : ∀ x ∈ s.queue, ∀ u v, x.ev = FEv.trans (some u) v →
    v ∈ P.nbrs u ∧ s.inf u = true ∧ ERat.lt (some x.time) (s.recTime u) = true
  tr0_q : ∀ x ∈ s.queue, ∀ v, x.ev = FEv.trans none v → v ∈ infs ∧ x.time = P.tmin
  tr_len : s.trans.length = (s.log.filter (·.2.2)).length
  tr_log : ∀ e ∈ s.trans, ∃ pre post, s.log = post ++ (e.1, e.2.2, true) :: pre ∧
    (match e.2.1 with
     | none => e.2.2 ∈ infs ∧ e.1 = P.tmin
     | some u => e.2.2 ∈ P.nbrs u ∧ cur pre u = true)

theorem Inv_addQ {P : FSParams} {infs : List Node} {now : Rat} {s : FSState} (hI : Inv P infs now s) (a : List FItem)
    (ha : ∀ x ∈ a, ∃ u v, x.ev = FEv.trans (some u) v ∧ v ∈ P.nbrs u ∧ s.inf u = true ∧ now ≤ x.time ∧ x.time < P.tmax ∧
      ERat.lt (some x.time) (s.recTime u) = true) : Inv P infs now (addQ s a) := by
  have hmem : ∀ x, x ∈ (addQ s a).queue → x ∈ s.queue ∨ x ∈ a := fun x hx => List.mem_append.1 hx
  refine ⟨hI.legal, hI.logle, hI.tmin_le, hI.status, ?_, ?_, ?_, ?_, ?_, ?_, hI.tr_len, hI.tr_log⟩
  · intro x hx
    rcases hmem x hx with hx | hx
    · exact hI.qtime x hx
    · obtain ⟨u, v, _, _, _, h1, h2, _⟩ := ha x hx
      exact ⟨h1, h2⟩
  · intro x hx u hu
    rcases hmem x hx with hx | hx
    · exact hI.rec_q x hx u hu
    · obtain ⟨u', v, h0, _⟩ := ha x hx
      rw [h0] at hu; cases hu
  · intro u rt h1 h2 h3
    exact List.mem_append_left _ (hI.rec_pending u rt h1 h2 h3)
  · intro u
    show List.countP _ (s.queue ++ a) ≤ 1
    rw [List.countP_append]
    have : List.countP (fun x => x.ev == FEv.recov u) a = 0 := by
      rw [List.countP_eq_zero]
      intro x hx
      obtain ⟨u', v, h0, _⟩ := ha x hx
      simp [h0]
    have := hI.rec_uniq u
    omega
  · intro x hx u v hu
    rcases hmem x hx with hx | hx
    · exact hI.tr_q x hx u v hu
    · obtain ⟨u', v', h0, h1, h2, _, _, h3⟩ := ha x hx
      rw [h0] at hu; cases hu
      exact ⟨h1, h2, h3⟩
  · intro x hx v hv
    rcases hmem x hx with hx | hx
    · exact hI.tr0_q x hx v hv
    · obtain ⟨u', v', h0, _⟩ := ha x hx
      rw [h0] at hv; cases hv

theorem Inv_infect {P : FSParams} {infs : List Node} {now : Rat} {s : FSState} (hI : Inv P infs now s)
    (src : Option Node) (tgt : Node) (recT : ERat) (hsus : s.inf tgt = false) (hnow : now < P.tmax)
    (hrec : ∀ v, recT = some v → now ≤ v) (hsrc : SrcOK P infs s now src tgt) :
    Inv P infs now (infect P s now src tgt recT) := by
  have hnorec : ∀ x ∈ s.queue, x.ev ≠ FEv.recov tgt := by
    intro x hx he
    have := (hI.rec_q x hx tgt he).1
    rw [hsus] at this; cases this
  have hmem : ∀ x, x ∈ (infect P s now src tgt recT).queue →
      x ∈ s.queue ∨ ∃ rt, recT = some rt ∧ rt < P.tmax ∧ x = ⟨rt, FEv.recov tgt⟩ := by
    intro x hx
    rcases List.mem_append.1 hx with hx | hx
    · exact Or.inl hx
    · exact Or.inr (mem_recItems hx)
  refine ⟨?_, ?_, hI.tmin_le, ?_, ?_, ?_, ?_, ?_, ?_, ?_, ?_, ?_⟩
  · -- legal
    refine ⟨hI.legal, ?_, hI.tmin_le, hnow, hI.logle⟩
    show cur s.log tgt = !true
    rw [← hI.status, hsus]; rfl
  · exact List.forall_mem_cons.2 ⟨le_refl _, hI.logle⟩
  · exact status_cons hI.status now tgt true
  · intro x hx
    rcases hmem x hx with hx | ⟨rt, h1, h2, rfl⟩
    · exact hI.qtime x hx
    · exact ⟨hrec rt h1, h2⟩
  · intro x hx u hu
    show fset s.inf tgt true u = true ∧ fset s.recTime tgt recT u = some x.time
    rcases hmem x hx with hx' | ⟨rt, h1, h2, rfl⟩
    · have hne : u ≠ tgt := by
        intro h; rw [h] at hu; exact hnorec x hx' hu
      simp only [fset, if_neg hne]
      exact hI.rec_q x hx' u hu
    · cases hu
      simp [fset, h1]
  · intro u rt h1 h2 h3
    by_cases hu : u = tgt
    · subst hu
      have h2' : recT = some rt := by simpa [infect, fset] using h2
      subst h2'
      show _ ∈ s.queue ++ _
      simp [recItems, h3]
    · have h1' : s.inf u = true := by simpa [infect, fset, hu] using h1
      have h2' : s.recTime u = some rt := by simpa [infect, fset, hu] using h2
      exact List.mem_append_left _ (hI.rec_pending u rt h1' h2' h3)
  · intro u
    show List.countP _ (s.queue ++ _) ≤ 1
    rw [List.countP_append]
    by_cases hu : u = tgt
    · subst hu
      have : List.countP (fun x => x.ev == FEv.recov u) s.queue = 0 := by
        rw [List.countP_eq_zero]
        intro x hx
        simpa using hnorec x hx
      rw [this]
      have := (countP_recItems P u u recT).1
      omega
    · rw [(countP_recItems P tgt u recT).2 hu]
      exact hI.rec_uniq u
  · intro x hx u v hu
    show v ∈ P.nbrs u ∧ fset s.inf tgt true u = true ∧ ERat.lt (some x.time) (fset s.recTime tgt recT u) = true
    rcases hmem x hx with hx | ⟨rt, h1, h2, rfl⟩
    · obtain ⟨h1, h2, h3⟩ := hI.tr_q x hx u v hu
      have hne : u ≠ tgt := by
        rintro rfl; rw [hsus] at h2; cases h2
      simp only [fset, if_neg hne]
      exact ⟨h1, h2, h3⟩
    · cases hu
  · intro x hx v hv
    rcases hmem x hx with hx | ⟨rt, h1, h2, rfl⟩
    · exact hI.tr0_q x hx v hv
    · cases hv
  · show ((now, src, tgt) :: s.trans).length = (((now, tgt, true) :: s.log).filter (·.2.2)).length
    simp [hI.tr_len]
  · intro e he
    rcases List.mem_cons.1 he with rfl | he
    · refine ⟨s.log, [], rfl, ?_⟩
      cases src with
      | none => exact hsrc
      | some u =>
        obtain ⟨h1, h2, _⟩ := hsrc
        exact ⟨h1, by rw [← hI.status]; exact h2⟩
    · obtain ⟨pre, post, h1, h2⟩ := hI.tr_log e he
      exact ⟨pre, (now, tgt, true) :: post, by show _ :: s.log = _; rw [h1]; rfl, h2⟩

theorem Inv_pop_trans {P : FSParams} {infs : List Node} {now : Rat} {s : FSState} (hI : Inv P infs now s)
    {x : FItem} {l1 l2 : List FItem} (hq : s.queue = l1 ++ x :: l2) (hmin : ∀ y ∈ l1 ++ l2, x.time ≤ y.time)
    (src : Option Node) (tgt : Node) (hx : x.ev = FEv.trans src tgt) :
    Inv P infs x.time { s with queue := l1 ++ l2 } ∧ x.time < P.tmax ∧
      SrcOK P infs { s with queue := l1 ++ l2 } x.time src tgt := by
  have hsub : ∀ y ∈ l1 ++ l2, y ∈ s.queue := by
    intro y hy; rw [hq]; exact EvQ.mem_mid hy
  have hxq : x ∈ s.queue := by rw [hq]; simp
  have hxt := hI.qtime x hxq
  refine ⟨⟨hI.legal, fun e he => le_trans (hI.logle e he) hxt.1, le_trans hI.tmin_le hxt.1, hI.status, ?_, ?_, ?_, ?_,
    ?_, ?_, hI.tr_len, hI.tr_log⟩, hxt.2, ?_⟩
  · intro y hy
    exact ⟨hmin y hy, (hI.qtime y (hsub y hy)).2⟩
  · intro y hy u hu
    exact hI.rec_q y (hsub y hy) u hu
  · intro u rt h1 h2 h3
    have := hI.rec_pending u rt h1 h2 h3
    rw [hq] at this
    rcases List.mem_append.1 this with h | h
    · exact List.mem_append_left _ h
    · rcases List.mem_cons.1 h with h | h
      · rw [← h] at hx; cases hx
      · exact List.mem_append_right _ h
  · intro u
    have := hI.rec_uniq u
    rw [hq] at this
    exact le_trans (EvQ.countP_mid_le _ _ _ _) this
  · intro y hy u v hu
    exact hI.tr_q y (hsub y hy) u v hu
  · intro y hy v hv
    exact hI.tr0_q y (hsub y hy) v hv
  · cases src with
    | none => exact hI.tr0_q x hxq tgt hx
    | some u => exact hI.tr_q x hxq u tgt hx

theorem Inv_pop_rec {P : FSParams} {infs : List Node} {now : Rat} {s : FSState} (hI : Inv P infs now s)
    {x : FItem} {l1 l2 : List FItem} (hq : s.queue = l1 ++ x :: l2) (hmin : ∀ y ∈ l1 ++ l2, x.time ≤ y.time)
    (u : Node) (hx : x.ev = FEv.recov u) :
    Inv P infs x.time (processRec { s with queue := l1 ++ l2 } x.time u) := by
  have hsub : ∀ y ∈ l1 ++ l2, y ∈ s.queue := by
    intro y hy; rw [hq]; exact EvQ.mem_mid hy
  have hxq : x ∈ s.queue := by rw [hq]; simp
  have hxt := hI.qtime x hxq
  obtain ⟨hinf, hrt⟩ := hI.rec_q x hxq u hx
  have hnone : ∀ y ∈ l1 ++ l2, y.ev ≠ FEv.recov u := by
    have h1 := hI.rec_uniq u
    rw [hq, List.countP_append, List.countP_cons] at h1
    have hx' : (x.ev == FEv.recov u) = true := by simp [hx]
    rw [if_pos hx'] at h1
    have h0 : List.countP (fun x => x.ev == FEv.recov u) (l1 ++ l2) = 0 := by
      rw [List.countP_append]; omega
    rw [List.countP_eq_zero] at h0
    intro y hy
    simpa using h0 y hy
  refine ⟨?_, ?_, le_trans hI.tmin_le hxt.1, ?_, ?_, ?_, ?_, ?_, ?_, ?_, ?_, ?_⟩
  · refine ⟨hI.legal, ?_, le_trans hI.tmin_le hxt.1, hxt.2, fun e he => le_trans (hI.logle e he) hxt.1⟩
    show cur s.log u = !false
    rw [← hI.status, hinf]; rfl
  · exact List.forall_mem_cons.2 ⟨le_refl _, fun e he => le_trans (hI.logle e he) hxt.1⟩
  · exact status_cons hI.status x.time u false
  · intro y hy
    exact ⟨hmin y hy, (hI.qtime y (hsub y hy)).2⟩
  · intro y hy w hw
    show fset s.inf u false w = true ∧ s.recTime w = some y.time
    have hne : w ≠ u := by
      intro h; rw [h] at hw; exact hnone y hy hw
    simp only [fset, if_neg hne]
    exact hI.rec_q y (hsub y hy) w hw
  · intro w rt h1 h2 h3
    have hne : w ≠ u := by
      intro h; rw [h] at h1; simp [processRec, fset] at h1
    have h1' : s.inf w = true := by simpa [processRec, fset, hne] using h1
    have := hI.rec_pending w rt h1' h2 h3
    rw [hq] at this
    rcases List.mem_append.1 this with h | h
    · exact List.mem_append_left _ h
    · rcases List.mem_cons.1 h with h | h
      · rw [← h] at hx; cases hx; exact absurd rfl hne
      · exact List.mem_append_right _ h
  · intro w
    have := hI.rec_uniq w
    rw [hq] at this
    exact le_trans (EvQ.countP_mid_le _ _ _ _) this
  · intro y hy w v hw
    show v ∈ P.nbrs w ∧ fset s.inf u false w = true ∧ ERat.lt (some y.time) (s.recTime w) = true
    obtain ⟨h1, h2, h3⟩ := hI.tr_q y (hsub y hy) w v hw
    have hne : w ≠ u := by
      intro h
      rw [h, hrt] at h3
      have := hmin y hy
      simp [ERat.lt] at h3
      linarith
    simp only [fset, if_neg hne]
    exact ⟨h1, h2, h3⟩
  · intro y hy v hv
    exact hI.tr0_q y (hsub y hy) v hv
  · show s.trans.length = (((x.time, u, false) :: s.log).filter (·.2.2)).length
    simp [hI.tr_len]
  · intro e he
    obtain ⟨pre, post, h1, h2⟩ := hI.tr_log e he
    exact ⟨pre, (x.time, u, false) :: post, by show _ :: s.log = _; rw [h1]; rfl, h2⟩

theorem Inv_findNext {P : FSParams} {infs : List Node} {now : Rat} {s : FSState} (hI : Inv P infs now s) (rate : Rat)
    {src tgt : Node} (hnb : tgt ∈ P.nbrs src) (hinf : s.inf src = true) {ts ts' : TapeSt} {s' : FSState}
    (hts : TapeNonneg ts) (h : findNext P s now rate src tgt ts = .ok (s', ts')) :
    TapeNonneg ts' ∧ ∃ a, s' = addQ s a ∧ Inv P infs now s' := by
  obtain ⟨hts', a, rfl, ha⟩ := findNext_spec _ _ _ _ _ _ _ _ _ hts h
  exact ⟨hts', a, rfl, Inv_addQ hI a fun x hx => ⟨src, tgt, (ha x hx).1, hnb, hinf, (ha x hx).2⟩⟩

theorem Inv_nbrLoop {P : FSParams} {infs : List Node} {now : Rat} {s : FSState} (hI : Inv P infs now s) (tgt : Node)
    (hinf : s.inf tgt = true) (l : List Node) (hl : ∀ v ∈ l, v ∈ P.nbrs tgt) {ts ts' : TapeSt} {s' : FSState}
    (hts : TapeNonneg ts) (h : nbrLoop P now tgt l s ts = .ok (s', ts')) :
    TapeNonneg ts' ∧ ∃ a, s' = addQ s a ∧ Inv P infs now s' := by
  induction l generalizing s ts with
  | nil =>
    obtain ⟨rfl, rfl⟩ := TM.pure_inv h
    exact ⟨hts, [], by simp [addQ], hI⟩
  | cons v rest ih =>
    rw [nbrLoop] at h
    obtain ⟨s1, ts1, h1, h⟩ := TM.bind_inv h
    obtain ⟨hts1, a1, rfl, hI1⟩ := Inv_findNext hI _ (hl v (by simp)) hinf hts h1
    obtain ⟨hts2, a2, rfl, hI2⟩ := ih hI1 hinf (fun w hw => hl w (by simp [hw])) hts1 h
    exact ⟨hts2, a1 ++ a2, by simp [addQ], hI2⟩

theorem Inv_processTrans {P : FSParams} {infs : List Node} {now : Rat} {s : FSState} (hI : Inv P infs now s)
    (src : Option Node) (tgt : Node) (hnow : now < P.tmax) (hsrc : SrcOK P infs s now src tgt)
    (ts ts' : TapeSt) (s' : FSState) (hts : TapeNonneg ts) (h : processTrans P s now src tgt ts = .ok (s', ts')) :
    Inv P infs now s' ∧ TapeNonneg ts' ∧ (s'.log = s.log ∨ s'.log = (now, tgt, true) :: s.log) := by
  unfold processTrans at h
  obtain ⟨s1, ts1, h1, h⟩ := TM.bind_inv h
  -- the first block: a susceptible target is infected, draws its recovery time and its neighbours' attempts
  have key : Inv P infs now s1 ∧ TapeNonneg ts1 ∧ (s1.log = s.log ∨ s1.log = (now, tgt, true) :: s.log) ∧
      ∀ u, s.inf u = true → s1.inf u = true := by
    split at h1
    · rename_i hinf
      have hsus : s.inf tgt = false := by simpa using hinf
      dsimp only at h1
      split at h1
      · exact absurd h1 (TM.fail_ne_ok _ _ _)
      · obtain ⟨recT, ts0, h0, h1⟩ := TM.bind_inv h1
        obtain ⟨hts0, hrec⟩ := draw_spec _ _ _ _ _ hts h0
        have hIi := Inv_infect hI src tgt recT hsus hnow hrec hsrc
        obtain ⟨hts1, a, rfl, hI1⟩ := Inv_nbrLoop
          (by cases recT <;> simpa [infect, qadd_eq, recItems] using hIi) tgt
          (by cases recT <;> simp [fset]) (P.nbrs tgt) (fun _ hv => hv) hts0 h1
        refine ⟨hI1, hts1, Or.inr (by cases recT <;> rfl), fun u hu => ?_⟩
        have : fset s.inf tgt true u = true := by unfold fset; split <;> [rfl; exact hu]
        cases recT <;> exact this
    · obtain ⟨rfl, rfl⟩ := TM.pure_inv h1
      exact ⟨hI, hts, Or.inl rfl, fun _ hu => hu⟩
  obtain ⟨hI1, hts1, hlog, hmono⟩ := key
  cases src with
  | none =>
    obtain ⟨rfl, rfl⟩ := TM.pure_inv h
    exact ⟨hI1, hts1, hlog⟩
  | some u =>
    obtain ⟨hts2, b, rfl, hI2⟩ := Inv_findNext hI1 _ hsrc.1 (hmono u hsrc.2.1) hts1 h
    exact ⟨hI2, hts2, hlog⟩

theorem init_queue (P : FSParams) (infs : List Node) (h : P.tmin < P.tmax) (q0 : List FItem) :
    infs.foldl (fun q u => qadd P.tmax q P.tmin (FEv.trans none u)) q0 =
      q0 ++ infs.map (fun u => (⟨P.tmin, FEv.trans none u⟩ : FItem)) := by
  simp only [qadd_eq]
  rw [EvQ.foldl_add, if_pos h]

theorem Inv_init (P : FSParams) (infs : List Node) (h : P.tmin < P.tmax) : Inv P infs P.tmin (init P infs) := by
  have hq : (init P infs).queue = infs.map (fun u => (⟨P.tmin, FEv.trans none u⟩ : FItem)) := by
    have := init_queue P infs h []
    simpa [init] using this
  have hmem : ∀ x ∈ (init P infs).queue, ∃ u ∈ infs, x = ⟨P.tmin, FEv.trans none u⟩ := by
    intro x hx
    rw [hq] at hx
    obtain ⟨u, hu, rfl⟩ := List.mem_map.1 hx
    exact ⟨u, hu, rfl⟩
  refine ⟨trivial, by simp [init], le_refl _, fun u => rfl, ?_, ?_, ?_, ?_, ?_, ?_, rfl, by simp [init]⟩
  · intro x hx
    obtain ⟨u, _, rfl⟩ := hmem x hx
    exact ⟨le_refl _, h⟩
  · intro x hx u hu
    obtain ⟨w, _, rfl⟩ := hmem x hx
    cases hu
  · intro u rt h1
    simp [init] at h1
  · intro u
    have : List.countP (fun x => x.ev == FEv.recov u) (init P infs).queue = 0 := by
      rw [List.countP_eq_zero]
      intro x hx
      obtain ⟨w, _, rfl⟩ := hmem x hx
      simp
    omega
  · intro x hx u v hu
    obtain ⟨w, _, rfl⟩ := hmem x hx
    cases hu
  · intro x hx v hv
    obtain ⟨w, hw, rfl⟩ := hmem x hx
    cases hv
    exact ⟨hw, rfl⟩

theorem loop_inv_nodes (P : FSParams) (infs : List Node) (fuel : Nat) (s : FSState) (now : Rat) (ts ts' : TapeSt)
    (s' : FSState) (hI : Inv P infs now s) (hts : TapeNonneg ts) (h : loop P fuel s ts = .ok (s', ts')) :
    ∃ now', Inv P infs now' s' ∧ s'.queue = [] ∧
      (WF P infs → (∀ e ∈ s.log, e.2.1 ∈ P.nodes) → ∀ e ∈ s'.log, e.2.1 ∈ P.nodes) := by
  induction fuel generalizing s now ts with
  | zero => exact absurd h (TM.fail_ne_ok _ _ _)
  | succ fuel ih =>
    rw [loop] at h
    cases hp : pop s.queue with
    | none =>
      rw [hp] at h
      obtain ⟨rfl, rfl⟩ := TM.pure_inv h
      exact ⟨now, hI, pop_none hp, fun _ hJ => hJ⟩
    | some xq =>
      obtain ⟨x, q⟩ := xq
      rw [hp] at h
      dsimp only at h
      obtain ⟨l1, l2, hq, rfl, hlt, hle⟩ := pop_some hp
      have hmin : ∀ y ∈ l1 ++ l2, x.time ≤ y.time := by
        intro y hy
        rcases List.mem_append.1 hy with hy | hy
        · exact le_of_lt (hlt y hy)
        · exact hle y hy
      -- an infectious node has an entry in the log
      have hinf : (∀ e ∈ s.log, e.2.1 ∈ P.nodes) → ∀ u, s.inf u = true → u ∈ P.nodes := by
        intro hJ u hu
        rw [hI.status u] at hu
        obtain ⟨e, he, rfl⟩ := cur_mem hu
        exact hJ e he
      obtain ⟨s1, ts1, h1, h2⟩ := TM.bind_inv h
      cases hx : x.ev with
      | trans src tgt =>
        rw [hx] at h1
        obtain ⟨hI0, hnow, hsrc⟩ := Inv_pop_trans hI hq hmin src tgt hx
        obtain ⟨hI1, hts1, hlog⟩ := Inv_processTrans hI0 src tgt hnow hsrc _ _ _ hts h1
        obtain ⟨now', hI', hq', hK⟩ := ih _ _ _ hI1 hts1 h2
        refine ⟨now', hI', hq', fun hWF hJ => hK hWF ?_⟩
        have htgt : tgt ∈ P.nodes := by
          cases src with
          | none => exact hWF.infs_mem tgt hsrc.1
          | some u => exact hWF.nbr_mem u (hinf hJ u hsrc.2.1) tgt hsrc.1
        rcases hlog with hlog | hlog <;> rw [hlog]
        · exact hJ
        · exact List.forall_mem_cons.2 ⟨htgt, hJ⟩
      | recov u =>
        rw [hx] at h1
        obtain ⟨rfl, rfl⟩ := TM.pure_inv h1
        obtain ⟨now', hI', hq', hK⟩ := ih _ _ _ (Inv_pop_rec hI hq hmin u hx) hts h2
        refine ⟨now', hI', hq', fun hWF hJ => hK hWF ?_⟩
        have hxq : x ∈ s.queue := by rw [hq]; simp
        exact List.forall_mem_cons.2 ⟨hinf hJ u (hI.rec_q x hxq u hx).1, hJ⟩

theorem loop_inv (P : FSParams) (infs : List Node) (fuel : Nat) (s : FSState) (now : Rat) (ts ts' : TapeSt) (s' : FSState)
    (hI : Inv P infs now s) (hts : TapeNonneg ts) (h : loop P fuel s ts = .ok (s', ts')) :
    ∃ now', Inv P infs now' s' ∧ s'.queue = [] :=
  (loop_inv_nodes P infs fuel s now ts ts' s' hI hts h).imp fun _ h => ⟨h.1, h.2.1⟩

theorem run_inv (P : FSParams) (infs : List Node) (hz : P.tmin < P.tmax) (fuel : Nat) (ts ts' : TapeSt)
    (hts : TapeNonneg ts) (s : FSState) (hr : run P infs fuel ts = .ok (s, ts')) :
    ∃ now, Inv P infs now s ∧ s.queue = [] :=
  loop_inv P infs fuel _ _ ts ts' s (Inv_init P infs hz) hts hr

end FastSIS
