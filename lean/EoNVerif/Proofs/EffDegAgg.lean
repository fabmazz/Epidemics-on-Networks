import EoNVerif.Model.EffDegAgg
import EoNVerif.Model.PrefMixDiscrete
import EoNVerif.Proofs.ODE3
/-!
Helper lemmas for `Props/C07c.lean`: aggregation of the SIR effective-degree model onto the compact effective-degree
model (sums along the diagonals `s + i = κ`, the binomial closure, tangency of the vector field to the closed states),
and one pass of the loop of `EBCM_pref_mix_discrete` on degree-independent states.
-/
namespace ODE
open Finset

theorem binom_eq_choose (n k : Nat) : binom n k = Nat.choose n k := by
  induction n generalizing k with
  | zero => cases k <;> simp [binom]
  | succ n ih => cases k with
    | zero => simp [binom]
    | succ k => simp [binom, ih, Nat.choose_succ_succ]

/-! ## binomial expectation (moments: `Proofs/ODE3.lean`) -/

theorem bw_quad (e : Rat) (n : Nat) (α β δ : Rat) :
    ∑ i ∈ range (n + 1), (α + β * i + δ * ((i : Rat) * ((i : Rat) - 1))) * bw e (1 - e) n i
      = α + β * (n * e) + δ * (n * ((n : Rat) - 1) * e ^ 2) := by
  have h0 := bw_M0 e (1 - e) n
  have h1 := bw_M1 e (1 - e) n
  have h2 := bw_M2 e (1 - e) n
  have e1 : e + (1 - e) = 1 := by ring
  rw [e1, one_pow] at h0 h1 h2
  rw [mul_one] at h1 h2
  have split : ∑ i ∈ range (n + 1), (α + β * i + δ * ((i : Rat) * ((i : Rat) - 1))) * bw e (1 - e) n i
      = α * ∑ i ∈ range (n + 1), bw e (1 - e) n i + β * ∑ i ∈ range (n + 1), (i : Rat) * bw e (1 - e) n i
        + δ * ∑ i ∈ range (n + 1), ((i : Rat) * ((i : Rat) - 1)) * bw e (1 - e) n i := by
    rw [mul_sum, mul_sum, mul_sum, ← sum_add_distrib, ← sum_add_distrib]
    apply sum_congr rfl; intro i _; ring
  rw [split, h0, h1, h2, mul_one]

/-! ## diagonal sums -/

def diag (κ : Nat) (F : Nat → Nat → Rat) : Rat := ∑ i ∈ range (κ + 1), F (κ - i) i

theorem aggSk_eq_diag (X : Nat → Nat → Rat) (κ : Nat) : aggSk X κ = diag κ X := by
  unfold aggSk diag; rw [sumTo_eq_sum]

theorem diag_congr (κ : Nat) (F G : Nat → Nat → Rat) (h : ∀ s i, s + i = κ → F s i = G s i) : diag κ F = diag κ G := by
  unfold diag
  apply sum_congr rfl; intro i hi
  exact h _ _ (by have := mem_range.1 hi; omega)

theorem diag_zero_of_support (A κ : Nat) (F : Nat → Nat → Rat) (hF : ∀ s i, A ≤ s + i → F s i = 0) (hκ : A ≤ κ) :
    diag κ F = 0 := by
  unfold diag
  apply sum_eq_zero; intro i hi
  exact hF _ _ (by have := mem_range.1 hi; omega)

theorem sum_eq_sum_diag (A : Nat) (F : Nat → Nat → Rat) (hF : ∀ s i, A ≤ s + i → F s i = 0) :
    ∑ s ∈ range A, ∑ i ∈ range A, F s i = ∑ κ ∈ range A, diag κ F := by
  unfold diag
  have h := sum_range_diag_flip A (fun i s => F s i)
  beta_reduce at h
  rw [h, sum_comm]
  apply sum_congr rfl; intro i hi
  symm
  apply sum_subset
  · intro x hx; rw [mem_range] at *; omega
  · intro x hx hx'
    rw [mem_range] at *
    exact hF _ _ (by omega)

theorem sum2_eq_sumTo_aggSk (A : Nat) (X : Nat → Nat → Rat) (hX : ∀ s i, A ≤ s + i → X s i = 0) :
    sum2 A A X = sumTo A (aggSk X) := by
  rw [sum2_eq_sum, sumTo_eq_sum, sum_eq_sum_diag A X hX]
  apply sum_congr rfl; intro κ _; rw [aggSk_eq_diag]

theorem diag_succ (κ : Nat) (F : Nat → Nat → Rat) :
    diag (κ + 1) F = ∑ i ∈ range (κ + 1), F (κ - i) (i + 1) + F (κ + 1) 0 := by
  unfold diag
  rw [sum_range_succ']
  simp only [Nat.add_sub_add_right, Nat.sub_zero]

theorem diag_dn (κ : Nat) (F : Nat → Nat → Rat) :
    ∑ i ∈ range (κ + 1), (if i = 0 then 0 else F (κ - i + 1) (i - 1)) = diag κ F - F 0 κ := by
  unfold diag
  rw [sum_range_succ', sum_range_succ]
  simp only [if_true, Nat.add_one_ne_zero, if_false, Nat.add_sub_cancel, Nat.sub_self, add_zero, add_sub_cancel_right]
  apply sum_congr rfl; intro j hj
  have : κ - (j + 1) + 1 = κ - j := by have := mem_range.1 hj; omega
  rw [this]

/-! ## the effective-degree right-hand side on the feasible support -/

/-- `ISS_over_SS` of `_dSIR_effective_degree_` -/
def effR1 (A : Nat) (X : Nat → Nat → Rat) : Rat :=
  if sum2 A A (fun s i => kf s * X s i) = 0 then 0
  else sum2 A A (fun s i => kf i * kf s * X s i) / sum2 A A (fun s i => kf s * X s i)

/-- on the feasible support the array-boundary tests of the loop body are redundant -/
theorem sirEffDeg_fst (A : Nat) (tau gamma N : Rat) (S : Nat → Nat → Rat) (R : Rat)
    (hS : ∀ s i, A ≤ s + i → S s i = 0) (s i : Nat) :
    (sirEffDeg A A tau gamma N S R).1 s i
      = -tau * kf i * S s i + gamma * ((kf i + 1) * S s (i + 1) - kf i * S s i)
        + tau * effR1 A S * ((kf s + 1) * (if i = 0 then 0 else S (s + 1) (i - 1)) - kf s * S s i) := by
  dsimp only [sirEffDeg, effR1]
  have ip1 : (if i + 1 = A then 0 else S s (i + 1)) = S s (i + 1) := by
    split
    · rw [hS _ _ (by omega)]
    · rfl
  have dn : (if s + 1 = A ∨ i = 0 then 0 else S (s + 1) (i - 1)) = if i = 0 then 0 else S (s + 1) (i - 1) := by
    by_cases h : i = 0
    · simp [h]
    · by_cases h' : s + 1 = A
      · simp only [h, h', true_or, if_true, if_false]
        rw [hS _ _ (by omega)]
      · simp [h, h']
  rw [ip1, dn]

theorem sirEffDeg_support (A : Nat) (tau gamma N : Rat) (S : Nat → Nat → Rat) (R : Rat)
    (hS : ∀ s i, A ≤ s + i → S s i = 0) (s i : Nat) (h : A ≤ s + i) :
    (sirEffDeg A A tau gamma N S R).1 s i = 0 := by
  rw [sirEffDeg_fst A tau gamma N S R hS, hS s i h, hS s (i + 1) (by omega)]
  by_cases h0 : i = 0
  · simp [h0]
  · rw [if_neg h0, hS (s + 1) (i - 1) (by omega)]; ring

/-- the `w(i)`-weighted sum of `dS[s,i]` over the antidiagonal `s+i = κ`: infection of the node itself removes `τ·i·S`;
recovery of an infected neighbour brings `(s,i+1)` down from antidiagonal `κ+1` (hence `diag (κ+1)` with weight `w (i-1)`);
infection of a susceptible neighbour moves `(s+1,i-1) → (s,i)` inside the antidiagonal (hence the weight difference
`w (i+1) − w i`).  `w = 1` gives `effDeg_agg_dSk`, `w = kf` gives `effDeg_agg_dSI`. -/
theorem diag_w_deriv (A : Nat) (tau gamma N : Rat) (S : Nat → Nat → Rat) (R : Rat)
    (hS : ∀ s i, A ≤ s + i → S s i = 0) (w : Nat → Rat) (κ : Nat) :
    diag κ (fun s i => w i * (sirEffDeg A A tau gamma N S R).1 s i)
      = -tau * diag κ (fun s i => w i * kf i * S s i)
        + gamma * (diag (κ + 1) (fun s i => w (i - 1) * kf i * S s i) - diag κ (fun s i => w i * kf i * S s i))
        + tau * effR1 A S * (diag κ (fun s i => w (i + 1) * kf s * S s i) - diag κ (fun s i => w i * kf s * S s i)) := by
  have h2 := diag_succ κ (fun s i => w (i - 1) * kf i * S s i)
  have h3 := diag_dn κ (fun s i => w (i + 1) * kf s * S s i)
  simp only [kf_zero, mul_zero, zero_mul, add_zero, sub_zero, Nat.add_sub_cancel] at h2 h3
  rw [h2, ← h3]
  unfold diag
  rw [mul_sum, ← sum_sub_distrib, ← sum_sub_distrib, mul_sum, mul_sum, ← sum_add_distrib, ← sum_add_distrib]
  apply sum_congr rfl; intro i _
  beta_reduce
  rw [sirEffDeg_fst A tau gamma N S R hS]
  by_cases h0 : i = 0
  · simp only [h0, if_true, kf_zero, kf_succ]; ring
  · have e : i - 1 + 1 = i := by omega
    simp only [h0, if_false, e, kf_succ]; ring

/-! ## components of the aggregated right-hand side without any closure assumption -/

theorem sum_diag_shift (A : Nat) (F : Nat → Nat → Rat) (hF : ∀ s i, A ≤ s + i → F s i = 0) (h0 : F 0 0 = 0) :
    ∑ κ ∈ range A, diag (κ + 1) F = ∑ κ ∈ range A, diag κ F := by
  have h1 := sum_range_succ' (fun κ => diag κ F) A
  have h2 := sum_range_succ (fun κ => diag κ F) A
  have z1 : diag A F = 0 := diag_zero_of_support A A F hF (le_refl _)
  have z2 : diag 0 F = 0 := by simp [diag, h0]
  rw [z1] at h2; rw [z2] at h1
  linarith

/-- the exact (unclosed) equation for `S_κ`: with `m1 κ = Σ_{s+i=κ} i S[s,i]` (S–I edges at effective-degree-κ
nodes), `d S_κ/dt = -(τ+γ) m1 κ + γ m1 (κ+1)` -/
theorem effDeg_agg_dSk (A : Nat) (tau gamma N : Rat) (S : Nat → Nat → Rat) (R : Rat)
    (hS : ∀ s i, A ≤ s + i → S s i = 0) (κ : Nat) :
    aggSk (sirEffDeg A A tau gamma N S R).1 κ
      = -(tau + gamma) * aggSk (fun s i => kf i * S s i) κ + gamma * aggSk (fun s i => kf i * S s i) (κ + 1) := by
  have h := diag_w_deriv A tau gamma N S R hS (fun _ => 1) κ
  simp only [one_mul] at h
  rw [aggSk_eq_diag, aggSk_eq_diag, aggSk_eq_diag, h]
  ring

/-- total number of susceptible nodes: `d/dt Σ S[s,i] = -τ [SI]`, no closure needed -/
theorem effDeg_total_dS (A : Nat) (tau gamma N : Rat) (S : Nat → Nat → Rat) (R : Rat)
    (hS : ∀ s i, A ≤ s + i → S s i = 0) :
    sum2 A A (sirEffDeg A A tau gamma N S R).1 = -tau * aggSI A S := by
  have hF : ∀ s i, A ≤ s + i → (fun s i => kf i * S s i) s i = 0 := fun s i h => by
    show kf i * S s i = 0
    rw [hS s i h, mul_zero]
  rw [sum2_eq_sumTo_aggSk A _ (sirEffDeg_support A tau gamma N S R hS), sumTo_eq_sum]
  rw [sum_congr rfl (fun κ _ => effDeg_agg_dSk A tau gamma N S R hS κ)]
  simp only [aggSk_eq_diag]
  rw [sum_add_distrib, ← mul_sum, ← mul_sum, sum_diag_shift A _ hF (by simp [kf_zero])]
  unfold aggSI
  rw [sum2_eq_sum, sum_eq_sum_diag A _ hF]
  ring

/-- the exact (unclosed) equation for `[SI]`: `d[SI]/dt = -τ Σ i² S[s,i] - γ [SI] + τ (ISS/SS) [SS]` -/
theorem effDeg_agg_dSI (A : Nat) (tau gamma N : Rat) (S : Nat → Nat → Rat) (R : Rat)
    (hS : ∀ s i, A ≤ s + i → S s i = 0) :
    aggSI A (sirEffDeg A A tau gamma N S R).1
      = -tau * sum2 A A (fun s i => kf i * kf i * S s i) - gamma * aggSI A S
        + tau * effR1 A S * sum2 A A (fun s i => kf s * S s i) := by
  have supp : ∀ (c : Nat → Nat → Rat), ∀ s i, A ≤ s + i → (fun s i => c s i * S s i) s i = 0 := fun c s i h => by
    show c s i * S s i = 0
    rw [hS s i h, mul_zero]
  have hd : ∀ s i, A ≤ s + i → (fun s i => kf i * (sirEffDeg A A tau gamma N S R).1 s i) s i = 0 := fun s i h => by
    show kf i * _ = 0
    rw [sirEffDeg_support A tau gamma N S R hS s i h, mul_zero]
  unfold aggSI
  simp only [sum2_eq_sum]
  rw [sum_eq_sum_diag A _ hd, sum_congr rfl (fun κ _ => diag_w_deriv A tau gamma N S R hS kf κ)]
  rw [sum_add_distrib, sum_add_distrib, ← mul_sum, ← mul_sum, ← mul_sum, sum_sub_distrib, sum_sub_distrib,
    sum_diag_shift A _ (supp (fun _ i => kf (i - 1) * kf i)) (by simp [kf_zero]),
    ← sum_eq_sum_diag A _ (supp (fun _ i => kf (i - 1) * kf i)),
    ← sum_eq_sum_diag A _ (supp (fun _ i => kf i * kf i)),
    ← sum_eq_sum_diag A _ (supp (fun s i => kf (i + 1) * kf s)),
    ← sum_eq_sum_diag A _ (supp (fun s i => kf i * kf s))]
  have e1 : ∑ s ∈ range A, ∑ i ∈ range A, kf (i - 1) * kf i * S s i - ∑ s ∈ range A, ∑ i ∈ range A, kf i * kf i * S s i
      = -∑ s ∈ range A, ∑ i ∈ range A, kf i * S s i := by
    rw [← sum_sub_distrib, ← sum_neg_distrib]
    apply sum_congr rfl; intro s _
    rw [← sum_sub_distrib, ← sum_neg_distrib]
    apply sum_congr rfl; intro i _
    cases i with
    | zero => simp [kf_zero]
    | succ i => rw [Nat.add_sub_cancel, kf_succ]; ring
  have e2 : ∑ s ∈ range A, ∑ i ∈ range A, kf (i + 1) * kf s * S s i - ∑ s ∈ range A, ∑ i ∈ range A, kf i * kf s * S s i
      = ∑ s ∈ range A, ∑ i ∈ range A, kf s * S s i := by
    rw [← sum_sub_distrib]
    apply sum_congr rfl; intro s _
    rw [← sum_sub_distrib]
    apply sum_congr rfl; intro i _
    rw [kf_succ]; ring
  rw [e1, e2]
  ring

/-! ## the binomial closure -/

/-- the closure assumption of the compact model, with class sizes `a κ` and infected-stub probability `e`:
`S[s,i] = a_{s+i} C(s+i,i) e^i (1-e)^s` on the feasible support -/
def Closed (A : Nat) (S : Nat → Nat → Rat) (a : Nat → Rat) (e : Rat) : Prop :=
  ∀ s i, s + i < A → S s i = a (s + i) * (Nat.choose (s + i) i : Rat) * e ^ i * (1 - e) ^ s

theorem diag_closed (A : Nat) (S : Nat → Nat → Rat) (a : Nat → Rat) (e : Rat) (hcl : Closed A S a e)
    (κ : Nat) (hκ : κ < A) (α β δ : Rat) (F : Nat → Nat → Rat)
    (hF : ∀ s i, s + i = κ → F s i = (α + β * i + δ * ((i : Rat) * ((i : Rat) - 1))) * S s i) :
    diag κ F = a κ * (α + β * (κ * e) + δ * (κ * ((κ : Rat) - 1) * e ^ 2)) := by
  unfold diag
  rw [← bw_quad e κ α β δ, mul_sum]
  apply sum_congr rfl; intro i hi
  have hi' : i ≤ κ := by have := mem_range.1 hi; omega
  have hs : κ - i + i = κ := Nat.sub_add_cancel hi'
  rw [hF _ _ hs, hcl _ _ (by omega), hs]
  unfold bw; ring

theorem sum_closed (A : Nat) (S : Nat → Nat → Rat) (a : Nat → Rat) (e : Rat)
    (hS : ∀ s i, A ≤ s + i → S s i = 0) (hcl : Closed A S a e)
    (α β δ : Nat → Rat) (F : Nat → Nat → Rat)
    (hF : ∀ s i, F s i = (α (s + i) + β (s + i) * i + δ (s + i) * ((i : Rat) * ((i : Rat) - 1))) * S s i) :
    sum2 A A F = ∑ κ ∈ range A, a κ * (α κ + β κ * (κ * e) + δ κ * (κ * ((κ : Rat) - 1) * e ^ 2)) := by
  rw [sum2_eq_sum, sum_eq_sum_diag A F (fun s i h => by rw [hF, hS s i h, mul_zero])]
  apply sum_congr rfl; intro κ hκ
  exact diag_closed A S a e hcl κ (mem_range.1 hκ) _ _ _ F (fun s i h => by rw [hF, h])

section Core
variable (A : Nat) (S : Nat → Nat → Rat) (a : Nat → Rat) (e : Rat)
  (hS : ∀ s i, A ≤ s + i → S s i = 0) (hcl : Closed A S a e)
include hS hcl

omit hS in
theorem closed_aggSk (κ : Nat) (hκ : κ < A) : aggSk S κ = a κ := by
  rw [aggSk_eq_diag, diag_closed A S a e hcl κ hκ 1 0 0 S (fun s i _ => by ring)]
  ring

theorem closed_SI : aggSI A S = e * sumTo A (fun k => a k * kf k) := by
  unfold aggSI
  rw [sum_closed A S a e hS hcl (fun _ => 0) (fun _ => 1) (fun _ => 0) _ (fun s i => by simp only [kf]; ring),
    sumTo_eq_sum, mul_sum]
  apply sum_congr rfl; intro κ _; simp only [kf]; ring

theorem closed_T2 : sum2 A A (fun s i => kf i * kf i * S s i)
    = e * sumTo A (fun k => a k * kf k) + e ^ 2 * sumTo A (fun k => kf k * (kf k - 1) * a k) := by
  rw [sum_closed A S a e hS hcl (fun _ => 0) (fun _ => 1) (fun _ => 1) _ (fun s i => by simp only [kf]; ring),
    sumTo_eq_sum, sumTo_eq_sum, mul_sum, mul_sum, ← sum_add_distrib]
  apply sum_congr rfl; intro κ _; simp only [kf]; ring

theorem closed_SS : sum2 A A (fun s i => kf s * S s i) = (1 - e) * sumTo A (fun k => a k * kf k) := by
  rw [sum_closed A S a e hS hcl (fun κ => (κ : Rat)) (fun _ => -1) (fun _ => 0) _
      (fun s i => by simp only [kf]; push_cast; ring),
    sumTo_eq_sum, mul_sum]
  apply sum_congr rfl; intro κ _; simp only [kf]; ring

theorem closed_ISS : sum2 A A (fun s i => kf i * kf s * S s i)
    = e * (1 - e) * sumTo A (fun k => kf k * (kf k - 1) * a k) := by
  rw [sum_closed A S a e hS hcl (fun _ => 0) (fun κ => (κ : Rat) - 1) (fun _ => -1) _
      (fun s i => by simp only [kf]; push_cast; ring),
    sumTo_eq_sum, mul_sum]
  apply sum_congr rfl; intro κ _; simp only [kf]; ring

/-- `(ISS/SS)·[SS] = [ISS]` in a closed state, including the `SS = 0` branch -/
theorem closed_r1 (hX : sumTo A (fun k => a k * kf k) ≠ 0) :
    effR1 A S * ((1 - e) * sumTo A (fun k => a k * kf k))
      = e * (1 - e) * sumTo A (fun k => kf k * (kf k - 1) * a k) := by
  unfold effR1
  rw [closed_SS A S a e hS hcl, closed_ISS A S a e hS hcl]
  split
  · next h =>
    have h1 : 1 - e = 0 := by
      rcases mul_eq_zero.1 h with h | h
      · exact h
      · exact absurd h hX
    rw [h1]; ring
  · next h => rw [div_mul_cancel₀ _ h]

theorem effDeg_to_compactED_core (tau gamma N R : Rat) (hX : sumTo A (fun k => a k * kf k) ≠ 0) :
    (∀ κ, κ < A → aggSk (sirEffDeg A A tau gamma N S R).1 κ
        = (sirCompactED A tau gamma N a R (e * sumTo A (fun k => a k * kf k))).1 κ) ∧
    (sirEffDeg A A tau gamma N S R).2 = (sirCompactED A tau gamma N a R (e * sumTo A (fun k => a k * kf k))).2.1 ∧
    aggSI A (sirEffDeg A A tau gamma N S R).1
        = (sirCompactED A tau gamma N a R (e * sumTo A (fun k => a k * kf k))).2.2 := by
  have heff : e * sumTo A (fun k => a k * kf k) / sumTo A (fun k => a k * kf k) = e := mul_div_cancel_right₀ e hX
  refine ⟨?_, ?_, ?_⟩
  · intro κ hκ
    rw [effDeg_agg_dSk A tau gamma N S R hS κ, aggSk_eq_diag, aggSk_eq_diag,
      diag_closed A S a e hcl κ hκ 0 1 0 _ (fun s i _ => by simp only [kf]; ring)]
    dsimp only [sirCompactED]
    rw [heff]
    by_cases h : κ + 1 < A
    · rw [diag_closed A S a e hcl (κ + 1) h 0 1 0 _ (fun s i _ => by simp only [kf]; ring), if_pos h]
      simp only [kf]; push_cast; ring
    · rw [diag_zero_of_support A (κ + 1) _ (fun s i h => by rw [hS s i h, mul_zero]) (by omega), if_neg h]
      simp only [kf]; ring
  · dsimp only [sirEffDeg, sirCompactED]
    rw [sum2_eq_sumTo_aggSk A S hS, sumTo_congr A (aggSk S) a (fun κ hκ => closed_aggSk A S a e hcl κ hκ)]
    ring
  · rw [effDeg_agg_dSI A tau gamma N S R hS, closed_T2 A S a e hS hcl, closed_SI A S a e hS hcl,
      closed_SS A S a e hS hcl]
    dsimp only [sirCompactED]
    rw [heff]
    linear_combination tau * closed_r1 A S a e hS hcl hX

end Core

/-! ## the binomial states satisfy every hypothesis -/

theorem binomState_support (A : Nat) (Sk : Nat → Rat) (e : Rat) (s i : Nat) (h : A ≤ s + i) :
    binomState A Sk e s i = 0 := by
  unfold binomState; rw [if_neg (by omega)]

theorem binomState_closed (A : Nat) (Sk : Nat → Rat) (e : Rat) : Closed A (binomState A Sk e) Sk e := by
  intro s i h
  unfold binomState; rw [if_pos h, binom_eq_choose]

theorem binomState_aggSk (A : Nat) (Sk : Nat → Rat) (e : Rat) (κ : Nat) (hκ : κ < A) :
    aggSk (binomState A Sk e) κ = Sk κ :=
  closed_aggSk A _ Sk e (binomState_closed A Sk e) κ hκ

theorem binomState_Xs (A : Nat) (Sk : Nat → Rat) (e : Rat) :
    sumTo A (fun k => aggSk (binomState A Sk e) k * kf k) = sumTo A (fun k => Sk k * kf k) :=
  sumTo_congr A _ _ (fun k hk => by rw [binomState_aggSk A Sk e k hk])

theorem binomState_aggSI (A : Nat) (Sk : Nat → Rat) (e : Rat) :
    aggSI A (binomState A Sk e) = e * sumTo A (fun k => Sk k * kf k) :=
  closed_SI A _ Sk e (binomState_support A Sk e) (binomState_closed A Sk e)

theorem binomState_aggEff (A : Nat) (Sk : Nat → Rat) (e : Rat) (hX : sumTo A (fun k => Sk k * kf k) ≠ 0) :
    aggEff A (binomState A Sk e) = e := by
  unfold aggEff
  rw [binomState_Xs, binomState_aggSI]
  exact mul_div_cancel_right₀ e hX

theorem binomState_hcl (A : Nat) (Sk : Nat → Rat) (e : Rat) (hX : sumTo A (fun k => Sk k * kf k) ≠ 0)
    (s i : Nat) (h : s + i < A) :
    binomState A Sk e s i = aggSk (binomState A Sk e) (s + i) * (Nat.choose (s + i) i : Rat)
      * aggEff A (binomState A Sk e) ^ i * (1 - aggEff A (binomState A Sk e)) ^ s := by
  rw [binomState_aggEff A Sk e hX, binomState_aggSk A Sk e _ h]
  exact binomState_closed A Sk e s i h

/-! ## invariance of the closed states: the effective-degree vector field is tangent to them -/

/-- formal time derivative of `binomState A a e` when the class sizes `a` move with velocity `da` and the probability
`e` with velocity `de` (product and chain rule applied to `a_{s+i} · C(s+i,i) · e^i · (1-e)^s`) -/
def binomStateVel (A : Nat) (a da : Nat → Rat) (e de : Rat) : Nat → Nat → Rat :=
  fun s i => if s + i < A then
    da (s + i) * (Nat.choose (s + i) i : Rat) * e ^ i * (1 - e) ^ s
      + a (s + i) * (Nat.choose (s + i) i : Rat)
        * (kf i * e ^ (i - 1) * (1 - e) ^ s - kf s * e ^ i * (1 - e) ^ (s - 1)) * de
  else 0

theorem binomState_ip1 (A : Nat) (a : Nat → Rat) (e : Rat) (s i : Nat) :
    (kf i + 1) * binomState A a e s (i + 1)
      = (if s + i + 1 < A then kf (s + i + 1) * a (s + i + 1) else 0) * e
        * ((Nat.choose (s + i) i : Rat) * e ^ i * (1 - e) ^ s) := by
  by_cases h : s + i + 1 < A
  · have hc : ((s : Rat) + i + 1) * (Nat.choose (s + i) i : Rat)
        = (Nat.choose (s + i + 1) (i + 1) : Rat) * ((i : Rat) + 1) := by
      exact_mod_cast Nat.add_one_mul_choose_eq (s + i) i
    rw [if_pos h, binomState_closed A a e s (i + 1) h, show s + (i + 1) = s + i + 1 from rfl, pow_succ]
    simp only [kf, Nat.cast_add, Nat.cast_one]
    linear_combination (-(a (s + i + 1) * e ^ i * e * (1 - e) ^ s)) * hc
  · rw [if_neg h, binomState_support A a e s (i + 1) (by omega)]; ring

theorem binomState_dn (A : Nat) (a : Nat → Rat) (e : Rat) (s i : Nat) (h : s + i < A) :
    (kf s + 1) * (if i = 0 then 0 else binomState A a e (s + 1) (i - 1))
      = a (s + i) * (Nat.choose (s + i) i : Rat) * (kf i * e ^ (i - 1)) * ((1 - e) ^ s * (1 - e)) := by
  cases i with
  | zero => simp only [if_true, mul_zero, kf_zero, zero_mul]
  | succ j =>
    have hc : (Nat.choose (s + (j + 1)) (j + 1) : Rat) * ((j : Rat) + 1)
        = (Nat.choose (s + (j + 1)) j : Rat) * ((s : Rat) + 1) := by
      have := Nat.choose_succ_right_eq (s + (j + 1)) j
      rw [show s + (j + 1) - j = s + 1 by omega] at this
      exact_mod_cast this
    rw [if_neg (Nat.succ_ne_zero j), Nat.add_sub_cancel, binomState_closed A a e (s + 1) j (by omega),
      show s + 1 + j = s + (j + 1) by omega, pow_succ]
    simp only [kf, Nat.cast_add, Nat.cast_one]
    linear_combination (-(a (s + (j + 1)) * e ^ j * ((1 - e) ^ s * (1 - e)))) * hc

theorem kdS_sum (K : Nat) (eff tau gamma : Rat) (a : Nat → Rat) :
    sumTo K (fun k => kf k * (eff * (-(tau + gamma) * kf k * a k
        + gamma * (if k + 1 < K then kf (k + 1) * a (k + 1) else 0))))
      = eff * (-(tau + gamma) * (sumTo K (fun k => kf k * (kf k - 1) * a k) + sumTo K (fun k => a k * kf k))
          + gamma * sumTo K (fun k => kf k * (kf k - 1) * a k)) := by
  have e3 : sumTo K (fun k => if k + 1 < K then kf k * (kf (k + 1) * a (k + 1)) else 0)
      = sumTo K (fun k => kf k * (kf k - 1) * a k) := by
    rcases Nat.eq_zero_or_pos K with h | h
    · subst h; simp [sumTo_zero_left]
    · have := sumTo_shift_trunc K (fun k => kf (k - 1) * (kf k * a k)) h
      simp only [Nat.add_sub_cancel, kf_zero, zero_mul, mul_zero, sub_zero] at this
      rw [this]
      apply sumTo_congr; intro k _
      cases k with
      | zero => simp [kf_zero]
      | succ k => rw [Nat.add_sub_cancel, kf_succ]; ring
  have e1 : sumTo K (fun k => kf k * (eff * (-(tau + gamma) * kf k * a k
        + gamma * (if k + 1 < K then kf (k + 1) * a (k + 1) else 0))))
      = eff * (-(tau + gamma) * sumTo K (fun k => kf k * kf k * a k)
          + gamma * sumTo K (fun k => if k + 1 < K then kf k * (kf (k + 1) * a (k + 1)) else 0)) := by
    rw [← sumTo_mul_left, ← sumTo_mul_left, ← sumTo_add, ← sumTo_mul_left]
    apply sumTo_congr; intro k _
    split <;> ring
  have e2 : sumTo K (fun k => kf k * kf k * a k)
      = sumTo K (fun k => kf k * (kf k - 1) * a k) + sumTo K (fun k => a k * kf k) := by
    rw [← sumTo_add]
    apply sumTo_congr; intro k _; ring
  rw [e1, e2, e3]

/-! ### `binomStateVel` really is the derivative of `binomState` along a line of parameters -/
section Poly
open Polynomial

/-- the entry `(s,i)` of `binomState A (a + h·da) (e + h·de)` as a polynomial in `h` -/
noncomputable def binomStatePoly (A : Nat) (a da : Nat → Rat) (e de : Rat) (s i : Nat) : ℚ[X] :=
  if s + i < A then
    (C (a (s + i)) + C (da (s + i)) * X) * C (Nat.choose (s + i) i : Rat) * (C e + C de * X) ^ i
      * (C (1 - e) - C de * X) ^ s
  else 0

theorem binomStatePoly_eval (A : Nat) (a da : Nat → Rat) (e de h : Rat) (s i : Nat) :
    (binomStatePoly A a da e de s i).eval h = binomState A (fun k => a k + h * da k) (e + h * de) s i := by
  unfold binomStatePoly binomState
  split
  · simp only [eval_mul, eval_add, eval_sub, eval_pow, eval_C, eval_X, binom_eq_choose]
    ring
  · exact eval_zero

theorem binomStatePoly_derivative (A : Nat) (a da : Nat → Rat) (e de : Rat) (s i : Nat) :
    (derivative (binomStatePoly A a da e de s i)).eval 0 = binomStateVel A a da e de s i := by
  unfold binomStatePoly binomStateVel
  split
  · simp only [derivative_mul, derivative_pow, derivative_add, derivative_sub, derivative_C, derivative_X,
      eval_mul, eval_add, eval_sub, eval_neg, eval_pow, eval_C, eval_X, mul_zero, add_zero,
      zero_mul, sub_zero, zero_add, mul_one, zero_sub, kf]
    ring
  · simp only [derivative_zero, eval_zero]

end Poly

/-! ## discrete preferential mixing with uncorrelated mixing (`EBCM_pref_mix_discrete` vs `EBCM_discrete`) -/

/-- `Σ_{d' ∈ l} (d' P_{d'}/⟨k⟩) · x ** (d'-1) = ψ'(x)/⟨k⟩` for a key list `l` containing every degree that carries
edges (the `d' = 0` key, where Python computes `x ** -1`, has coefficient 0) -/
theorem sumRat_nks_psiHP (K : Nat) (l : List Nat) (hl : l.Nodup) (hK : ∀ d ∈ l, d < K) (Pk : Nat → Rat)
    (h0 : ∀ d, d ∉ l → (d : Rat) * Pk d = 0) (kave : Rat) (th : Nat → Rat) (x : Rat) (hth : ∀ d ∈ l, th d = x) :
    sumRat (l.map fun d' : Nat => (d' : Rat) * Pk d' / kave * powPred (th d') d') = psiHP K Pk x / kave := by
  rw [← sumRat_ks_psiHP K l hl hK Pk h0 kave x]
  apply sumRat_map_congr; intro d hd
  rw [hth d hd]; unfold powPred
  by_cases h : d = 0
  · subst h; simp
  · rw [if_neg h]

/-- φ_S as a function of the common θ (uncorrelated mixing; at time 0, where θ = 1, it is 1-ρ) -/
def pmPhiS (K : Nat) (Pk : Nat → Rat) (rho x : Rat) : Rat := (1 - rho) * psiHP K Pk x / psiHP K Pk 1
/-- φ_R as a function of the common θ (0 at time 0) -/
def pmPhiR (p x : Rat) : Rat := (1 - p) * (1 - x) / p

/-- the degree-independent states: `θ_d = x`, `φR_d = (1-p)(1-x)/p`, `φI_d = x - φ_S(x) - φR_d` for every key `d` -/
def PMInv (ks : List Nat) (K : Nat) (Pk : Nat → Rat) (rho p : Rat) (st : PrefMixDiscState) (x : Rat) : Prop :=
  ∀ d ∈ ks, st.theta d = x ∧ st.phiR d = pmPhiR p x ∧ st.phiI d = x - pmPhiS K Pk rho x - pmPhiR p x

theorem ebcmDiscreteStep_theta (K : Nat) (Pk : Nat → Rat) (N rho p x I R : Rat)
    (hp : p ≠ 0) (hmean : psiHP K Pk 1 ≠ 0) :
    (ebcmDiscreteStep K (fun k => (1 - rho) * Pk k) N p (1 - rho) 0 x I R).1
      = x - p * (x - pmPhiS K Pk rho x - pmPhiR p x) := by
  dsimp only [ebcmDiscreteStep, pmPhiS, pmPhiR]
  rw [psiHP_smul, psiHP_smul]
  field_simp
  ring

section PrefMixStep
variable (ks : List Nat) (hks : ks.Nodup) (K : Nat) (hK : ∀ d ∈ ks, d < K)
  (nks : Nat → List Nat) (hnd : ∀ d ∈ ks, (nks d).Nodup) (hsub : ∀ d ∈ ks, ∀ d' ∈ nks d, d' ∈ ks)
  (N rho p : Rat) (Pk : Nat → Rat) (hP0 : ∀ d, d ∉ ks → Pk d = 0)
  (hfull : ∀ d ∈ ks, ∀ d', d' ∉ nks d → (d' : Rat) * Pk d' = 0)
  (st : PrefMixDiscState) (x : Rat) (hinv : PMInv ks K Pk rho p st x)
include hks hK hnd hsub hP0 hfull hinv

theorem prefMixDiscStep_on_inv (hp : p ≠ 0) :
    let th' := x - p * (x - pmPhiS K Pk rho x - pmPhiR p x)
    let st' := prefMixDiscStep ks nks N rho p Pk (fun _ d' => (d' : Rat) * Pk d' / psiHP K Pk 1) st
    PMInv ks K Pk rho p st' th' ∧ st'.S = N * (1 - rho) * psiH K Pk th' ∧ st'.R = st.R + st.I ∧
    st'.I = N - (st.R + st.I) - N * (1 - rho) * psiH K Pk th' ∧ ∀ d ∈ ks, st'.phiS d = pmPhiS K Pk rho th' := by
  intro th' st'
  have hnt : ∀ d ∈ ks, st.theta d - p * st.phiI d = th' := fun d hd => by
    rw [(hinv d hd).1, (hinv d hd).2.2]
  have hS : st'.S = N * (1 - rho) * psiH K Pk th' := by
    show N * (1 - rho) * sumRat (ks.map fun k => Pk k * (st.theta k - p * st.phiI k) ^ k) = _
    rw [sumRat_map_congr ks _ (fun d => Pk d * th' ^ d) (fun d hd => by rw [hnt d hd]),
      sumRat_ks_psiH K ks hks hK Pk hP0]
  have hphiS : ∀ d ∈ ks, st'.phiS d = pmPhiS K Pk rho th' := fun d hd => by
    show (1 - rho) * sumRat ((nks d).map fun k2 : Nat => (k2 : Rat) * Pk k2 / psiHP K Pk 1
      * powPred (st.theta k2 - p * st.phiI k2) k2) = _
    rw [sumRat_nks_psiHP K (nks d) (hnd d hd) (fun d' hd' => hK d' (hsub d hd d' hd')) Pk (hfull d hd)
      (psiHP K Pk 1) (fun k2 => st.theta k2 - p * st.phiI k2) th' (fun d' hd' => hnt d' (hsub d hd d' hd'))]
    unfold pmPhiS; ring
  have hphiR : ∀ d ∈ ks, st'.phiR d = pmPhiR p th' := fun d hd => by
    show st.phiR d + (1 - p) * st.phiI d = _
    rw [(hinv d hd).2.1, (hinv d hd).2.2]
    simp only [th']
    unfold pmPhiR
    linear_combination (-((1 - p) * (x - pmPhiS K Pk rho x - (1 - p) * (1 - x) / p))) * mul_inv_cancel₀ hp
  refine ⟨fun d hd => ⟨hnt d hd, hphiR d hd, ?_⟩, hS, rfl, ?_, hphiS⟩
  · show st.theta d - p * st.phiI d - st'.phiS d - st'.phiR d = _
    rw [hnt d hd, hphiS d hd, hphiR d hd]
  · show N - (st.R + st.I) - st'.S = _
    rw [hS]

end PrefMixStep

theorem prefMixDiscInit_inv (ks : List Nat) (K : Nat) (Pk : Nat → Rat) (N rho p : Rat) (hmean : psiHP K Pk 1 ≠ 0) :
    PMInv ks K Pk rho p (prefMixDiscInit N rho) 1 := by
  intro d _
  refine ⟨rfl, ?_, ?_⟩
  · show (0 : Rat) = pmPhiR p 1
    unfold pmPhiR; simp
  · show rho = 1 - pmPhiS K Pk rho 1 - pmPhiR p 1
    unfold pmPhiR pmPhiS
    rw [mul_div_assoc, div_self hmean]; simp

end ODE
