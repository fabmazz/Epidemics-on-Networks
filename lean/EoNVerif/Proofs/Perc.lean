import EoNVerif.Model.Perc
import Mathlib.Algebra.Order.Field.Rat
import Mathlib.Algebra.Order.Field.Basic
import EoNVerif.Proofs.ListChain
/-!
Helper lemmas for C17 (percolation estimators): the fixed-point iteration `Perc.reach` computes the
reflexive–transitive closure `Perc.Path` on well-formed graphs.
-/
namespace Perc

structure WF (nodes : List Node) (succ : Node → List Node) : Prop where
  nodup : nodes.Nodup
  succ_mem : ∀ u ∈ nodes, ∀ v ∈ succ u, v ∈ nodes

/-- reachability along edges (reflexive–transitive closure) -/
inductive Path (succ : Node → List Node) : Node → Node → Prop
  | refl (u : Node) : Path succ u u
  | step (u v w : Node) : Path succ u v → w ∈ succ v → Path succ u w

section
variable {nodes : List Node} {succ : Node → List Node}

/-! ### `Path` -/

theorem Path.trans {u v w : Node} (h1 : Path succ u v) (h2 : Path succ v w) : Path succ u w := by
  induction h2 with
  | refl => exact h1
  | step x y _ hy ih => exact Path.step _ x y ih hy

theorem Path.single {u v : Node} (h : v ∈ succ u) : Path succ u v := Path.step u u v (Path.refl u) h

theorem Path.rev {succ' : Node → List Node} (h : ∀ a b, b ∈ succ a → a ∈ succ' b) {u v : Node}
    (hp : Path succ u v) : Path succ' v u := by
  induction hp with
  | refl => exact Path.refl _
  | step x y _ hy ih => exact (Path.single (h x y hy)).trans ih

theorem Path.symm (hs : ∀ u v, v ∈ succ u → u ∈ succ v) {u v : Node} (hp : Path succ u v) : Path succ v u :=
  hp.rev hs

theorem Path.transfer {succ' : Node → List Node} {S : Node → Prop}
    (hstep : ∀ x, S x → ∀ y, y ∈ succ x → S y ∧ y ∈ succ' x) {u v : Node} (hu : S u) (hp : Path succ u v) :
    S v ∧ Path succ' u v := by
  induction hp with
  | refl => exact ⟨hu, Path.refl _⟩
  | step x y _ hy ih => exact ⟨(hstep x ih.1 y hy).1, Path.step _ x y ih.2 (hstep x ih.1 y hy).2⟩

/-- two successor functions that agree on a set closed under one of them have the same paths from inside it -/
theorem Path.congr {succ' : Node → List Node} {S : Node → Prop} (hcl : ∀ x, S x → ∀ y ∈ succ' x, S y)
    (hag : ∀ x, S x → ∀ y, y ∈ succ x ↔ y ∈ succ' x) {u : Node} (hu : S u) (v : Node) :
    Path succ u v ↔ Path succ' u v :=
  ⟨fun p => (p.transfer (fun x hx y hy => ⟨hcl x hx y ((hag x hx y).1 hy), (hag x hx y).1 hy⟩) hu).2,
    fun p => (p.transfer (fun x hx y hy => ⟨hcl x hx y hy, (hag x hx y).2 hy⟩) hu).2⟩

/-! ### the expansion chain -/

theorem iter_succ' {α : Type} (f : α → α) (n : Nat) (x : α) : iter f (n + 1) x = f (iter f n x) := by
  induction n generalizing x with
  | zero => rfl
  | succ n ih => rw [iter, ih (f x), iter]

def expandF (nodes : List Node) (succ : Node → List Node) (cur : List Node) : List Node :=
  nodes.filter fun v => cur.contains v || cur.any fun u => (succ u).contains v

/-- the set after `k` rounds of expansion started from `{u}` -/
def Ck (nodes : List Node) (succ : Node → List Node) (u : Node) (k : Nat) : List Node :=
  iter (expandF nodes succ) k (nodes.filter fun v => [u].contains v)

theorem reachFrom_eq (u : Node) : reachFrom nodes succ [u] = Ck nodes succ u nodes.length := rfl

theorem mem_Ck_zero (u v : Node) : v ∈ Ck nodes succ u 0 ↔ v ∈ nodes ∧ v = u := by
  simp [Ck, iter]

theorem mem_Ck_succ (u : Node) (k : Nat) (v : Node) : v ∈ Ck nodes succ u (k + 1) ↔
    v ∈ nodes ∧ (v ∈ Ck nodes succ u k ∨ ∃ x ∈ Ck nodes succ u k, v ∈ succ x) := by
  unfold Ck; rw [iter_succ']; unfold expandF; simp

theorem Ck_sub_nodes (u : Node) (k : Nat) {v : Node} (hv : v ∈ Ck nodes succ u k) : v ∈ nodes := by
  cases k with
  | zero => exact ((mem_Ck_zero u v).1 hv).1
  | succ k => exact ((mem_Ck_succ u k v).1 hv).1

theorem Ck_sublist (u : Node) (k : Nat) : (Ck nodes succ u k).Sublist nodes := by
  cases k with
  | zero => exact List.filter_sublist
  | succ k => unfold Ck; rw [iter_succ']; exact List.filter_sublist

theorem Ck_path (u : Node) (k : Nat) : ∀ v, v ∈ Ck nodes succ u k → Path succ u v := by
  induction k with
  | zero => intro v hv; rw [mem_Ck_zero] at hv; rw [hv.2]; exact Path.refl u
  | succ k ih =>
    intro v hv; rw [mem_Ck_succ] at hv
    rcases hv.2 with h | ⟨x, hx, hk⟩
    · exact ih v h
    · exact Path.step u x v (ih x hx) hk

theorem Ck_mono (u : Node) (k : Nat) {v : Node} (hv : v ∈ Ck nodes succ u k) : v ∈ Ck nodes succ u (k + 1) := by
  rw [mem_Ck_succ]; exact ⟨Ck_sub_nodes u k hv, Or.inl hv⟩

theorem Ck_mono_le (u : Node) {k j : Nat} (hkj : k ≤ j) {v : Node} (hv : v ∈ Ck nodes succ u k) :
    v ∈ Ck nodes succ u j := by
  induction hkj with
  | refl => exact hv
  | step _ ih => exact Ck_mono u _ ih

/-- a stationary stage is closed under `succ`, hence contains everything reachable -/
theorem Ck_closed (h : WF nodes succ) (u : Node) (hu : u ∈ nodes) (k : Nat)
    (hst : ∀ v, v ∈ Ck nodes succ u (k + 1) → v ∈ Ck nodes succ u k) {v : Node} (hp : Path succ u v) :
    v ∈ Ck nodes succ u k := by
  induction hp with
  | refl => exact Ck_mono_le u (Nat.zero_le k) ((mem_Ck_zero u u).2 ⟨hu, rfl⟩)
  | step x y _ hy ih =>
    apply hst
    rw [mem_Ck_succ]
    exact ⟨h.succ_mem x (Ck_sub_nodes u k ih) y hy, Or.inr ⟨x, ih, hy⟩⟩

/-- pigeonhole: some stage `k ≤ nodes.length` is stationary -/
theorem exists_stationary (u : Node) :
    ∃ k, k ≤ nodes.length ∧ ∀ v, v ∈ Ck nodes succ u (k + 1) → v ∈ Ck nodes succ u k := by
  obtain ⟨k, hk, h⟩ := List.exists_stationary_filter nodes (fun k v => decide (v ∈ Ck nodes succ u k))
    (fun k v _ hv => by simpa using Ck_mono u k (by simpa using hv))
  exact ⟨k, hk, fun v hv => by simpa using h v (Ck_sub_nodes u _ hv) (by simpa using hv)⟩

theorem Ck_src_mem (u : Node) (k : Nat) : ∀ v, v ∈ Ck nodes succ u k → u ∈ nodes := by
  induction k with
  | zero => intro v hv; rw [mem_Ck_zero] at hv; exact hv.2 ▸ hv.1
  | succ k ih =>
    intro v hv
    rcases ((mem_Ck_succ u k v).1 hv).2 with h | ⟨x, hx, _⟩
    · exact ih v h
    · exact ih x hx

theorem reach_iff_mem_Ck (u v : Node) : reach nodes succ u v = true ↔ v ∈ Ck nodes succ u nodes.length := by
  unfold reach; rw [reachFrom_eq, List.contains_iff_mem]

theorem reach_self {u : Node} (hu : u ∈ nodes) : reach nodes succ u u = true :=
  (reach_iff_mem_Ck u u).2 (Ck_mono_le u (Nat.zero_le _) ((mem_Ck_zero u u).2 ⟨hu, rfl⟩))

theorem reach_mem {u v : Node} (h : reach nodes succ u v = true) : v ∈ nodes :=
  Ck_sub_nodes u _ ((reach_iff_mem_Ck u v).1 h)

/-- the start set is empty when `u` is not listed -/
theorem reach_src_mem {u v : Node} (h : reach nodes succ u v = true) : u ∈ nodes :=
  Ck_src_mem u _ v ((reach_iff_mem_Ck u v).1 h)

theorem reach_iff_path (h : WF nodes succ) {u : Node} (hu : u ∈ nodes) (v : Node) :
    reach nodes succ u v = true ↔ Path succ u v := by
  rw [reach_iff_mem_Ck]
  constructor
  · exact Ck_path u _ v
  · intro hp
    obtain ⟨k, hk, hst⟩ := exists_stationary (nodes := nodes) (succ := succ) u
    exact Ck_mono_le u hk (Ck_closed h u hu k hst hp)

theorem reach_trans (h : WF nodes succ) {a b c : Node} (h1 : reach nodes succ a b = true)
    (h2 : reach nodes succ b c = true) : reach nodes succ a c = true :=
  (reach_iff_path h (reach_src_mem h1) c).2
    (((reach_iff_path h (reach_src_mem h1) b).1 h1).trans ((reach_iff_path h (reach_mem h1) c).1 h2))

theorem mem_scc {u v : Node} : v ∈ scc nodes succ u ↔
    v ∈ nodes ∧ reach nodes succ u v = true ∧ reach nodes succ v u = true := by
  unfold scc; simp

theorem mem_inC {u v : Node} : v ∈ inC nodes succ u ↔ v ∈ nodes ∧ reach nodes succ v u = true := by
  unfold inC; simp

theorem mem_outC {u v : Node} : v ∈ outC nodes succ u ↔ v ∈ nodes ∧ reach nodes succ u v = true := by
  unfold outC; simp

theorem frac_bounds {a n : Nat} (ha : 0 < a) (han : a ≤ n) : (0 : Rat) < (a : Rat) / (n : Rat) ∧ (a : Rat) / (n : Rat) ≤ 1 := by
  have hn : (0 : Rat) < (n : Rat) := Nat.cast_pos.2 (Nat.lt_of_lt_of_le ha han)
  exact ⟨div_pos (Nat.cast_pos.2 ha) hn, (div_le_one hn).2 (Nat.cast_le.2 han)⟩

/-- both coordinates of an admissible answer are fractions in `(0, 1]`: each component contains its representative -/
theorem allowed_bounds (nodes : List Node) (succ : Node → List Node) :
    ∀ p ∈ allowed nodes succ, 0 < p.1 ∧ p.1 ≤ 1 ∧ 0 < p.2 ∧ p.2 ≤ 1 := by
  intro p hp
  unfold allowed at hp
  obtain ⟨u, hu, rfl⟩ := List.mem_map.1 hp
  have hu' : u ∈ nodes := (List.mem_filter.1 hu).1
  obtain ⟨c1, c2⟩ := frac_bounds (List.length_pos_of_mem (mem_inC.2 ⟨hu', reach_self hu'⟩)) (List.length_filter_le _ _)
  obtain ⟨d1, d2⟩ := frac_bounds (List.length_pos_of_mem (mem_outC.2 ⟨hu', reach_self hu'⟩)) (List.length_filter_le _ _)
  exact ⟨c1, c2, d1, d2⟩

end

end Perc
