import EoNVerif.Proofs.FastSIRLaw2
import Mathlib.MeasureTheory.Measure.Prod
import Mathlib.MeasureTheory.Constructions.Pi
import Mathlib.MeasureTheory.Measure.Lebesgue.Basic
import Mathlib.Analysis.SpecialFunctions.Integrals.Basic
import Mathlib.Analysis.SpecialFunctions.Pow.Real
/-!
Competing exponential clocks in the uniform-draw model of `Proofs/FastSIRLaw2.lean`
(`random.expovariate(r)` = `expovariate r u = -log(1-u)/r`, `u` uniform on `[0,1)`; independent draws = product
Lebesgue measure on the unit square / unit cube).

The core is `competing_general`: Tonelli + the one-dimensional integral `∫ (1-u)^(B/a) du`, for one clock of rate
`a` against any family of clocks whose joint survival function is `exp(-B x)`.

Like `Proofs/FastSIRLaw2.lean` this file must not be imported together with anything that depends on
`EoNVerif/Rand/Dist.lean` (Mathlib's class `Dist` clashes with it), in particular not with `Proofs/FastSIRLaw.lean`.
-/
namespace FastSIRLaw
open MeasureTheory Set

theorem Ioo_one_sub_exp_subset {r t : ℝ} (hr : 0 < r) (ht : 0 ≤ t) :
    Ioo (1 - Real.exp (-r * t)) 1 ⊆ Ico (0 : ℝ) 1 :=
  fun _ hu => ⟨(one_sub_exp_nonneg hr ht).trans hu.1.le, hu.2⟩

theorem survival_event_eq {r : ℝ} (hr : 0 < r) {t : ℝ} (ht : 0 ≤ t) :
    {u : ℝ | u ∈ Ico (0 : ℝ) 1 ∧ t < expovariate r u} = Ioo (1 - Real.exp (-r * t)) 1 := by
  ext u
  simp only [Set.mem_ofPred_eq, mem_Ico, mem_Ioo]
  constructor
  · rintro ⟨⟨_, h1⟩, h⟩
    exact ⟨(lt_expovariate_iff hr h1 t).mp h, h1⟩
  · rintro ⟨h, h1⟩
    exact ⟨Ioo_one_sub_exp_subset hr ht ⟨h, h1⟩, (lt_expovariate_iff hr h1 t).mpr h⟩

theorem measurable_expovariate (r : ℝ) : Measurable (expovariate r) :=
  ((Real.measurable_log.comp (measurable_const.sub measurable_id)).neg).div_const r

theorem measurableSet_unit : MeasurableSet {u : ℝ | u ∈ Ico (0 : ℝ) 1} := measurableSet_Ico

theorem lintegral_one_sub_rpow {p c : ℝ} (hp : -1 < p) (hc : c ≤ 1) :
    ∫⁻ u in Ioc c 1, ENNReal.ofReal ((1 - u) ^ p) = ENNReal.ofReal ((1 - c) ^ (p + 1) / (p + 1)) := by
  have hint : IntervalIntegrable (fun u : ℝ => (1 - u) ^ p) volume c 1 := by
    have := (intervalIntegral.intervalIntegrable_rpow' (a := 1 - c) (b := 0) hp).comp_sub_left 1
    rwa [sub_sub_cancel, sub_zero] at this
  rw [← ofReal_integral_eq_lintegral_ofReal]
  · rw [← intervalIntegral.integral_of_le hc, intervalIntegral.integral_comp_sub_left (fun x => x ^ p) 1,
      integral_rpow (Or.inl hp), sub_self, Real.zero_rpow (neg_lt_iff_pos_add.1 hp).ne', sub_zero]
  · exact (intervalIntegrable_iff_integrableOn_Ioc_of_le hc).mp hint
  · filter_upwards [ae_restrict_mem measurableSet_Ioc] with u hu
    exact Real.rpow_nonneg (sub_nonneg.2 hu.2) p

theorem exp_neg_mul_expovariate (a B : ℝ) {u : ℝ} (h1 : u < 1) :
    Real.exp (-B * expovariate a u) = (1 - u) ^ (B / a) := by
  rw [Real.rpow_def_of_pos (sub_pos.2 h1), expovariate]
  congr 1
  ring

/-- the value of the integral at `c = 1 - exp(-a t)`: rate share × Exp(total rate) survival -/
theorem competing_arith {a : ℝ} (ha : 0 < a) (B t : ℝ) :
    (1 - (1 - Real.exp (-a * t))) ^ (B / a + 1) / (B / a + 1) = a / (a + B) * Real.exp (-(a + B) * t) := by
  have hq : B / a + 1 = (a + B) / a := by rw [add_div, div_self ha.ne', add_comm]
  have he : -a * t * ((a + B) / a) = -(a + B) * t := by
    rw [mul_div_assoc', div_eq_iff ha.ne']
    ring
  rw [sub_sub_cancel, hq, ← Real.exp_mul, he, div_div_eq_mul_div]
  ring

/-- Clock `a` (draw `q.1`) fires before every clock of a family (draw `q.2 : β`) that survives `x` with
probability `exp(-B x)`, and its own draw lies in `J`, which up to a null set is the draws giving `X > t`. -/
theorem competing_general {β : Type*} [MeasurableSpace β] (ν : Measure β) [SFinite ν]
    {a B t : ℝ} (ha : 0 < a) (hB : 0 ≤ B)
    {J : Set ℝ} (hJ : J ⊆ Ico 0 1) (hJt : J =ᵐ[volume] Ioc (1 - Real.exp (-a * t)) 1) (hJm : MeasurableSet J)
    {T : ℝ → Set β} (hT : ∀ x, 0 ≤ x → ν (T x) = ENNReal.ofReal (Real.exp (-B * x)))
    {S : Set (ℝ × β)} (hS : MeasurableSet S)
    (hSdef : S = {q | q.1 ∈ J ∧ q.2 ∈ T (expovariate a q.1)}) :
    ((volume : Measure ℝ).prod ν) S = ENNReal.ofReal (a / (a + B) * Real.exp (-(a + B) * t)) := by
  have hp : -1 < B / a := lt_of_lt_of_le (by norm_num) (div_nonneg hB ha.le)
  have hfun : (fun u => ν (Prod.mk u ⁻¹' S)) = J.indicator (fun u => ENNReal.ofReal ((1 - u) ^ (B / a))) := by
    funext u
    by_cases hu : u ∈ J
    · have hpre : Prod.mk u ⁻¹' S = T (expovariate a u) := by
        rw [hSdef]
        exact Set.ext fun w => and_iff_right hu
      rw [hpre, indicator_of_mem hu, hT _ (expovariate_nonneg ha (hJ hu).1 (hJ hu).2),
        exp_neg_mul_expovariate a B (hJ hu).2]
    · have hpre : Prod.mk u ⁻¹' S = ∅ := by
        rw [hSdef]
        exact Set.eq_empty_of_forall_notMem fun w hw => hu hw.1
      rw [hpre, indicator_of_notMem hu, measure_empty]
  rw [Measure.prod_apply hS, hfun, lintegral_indicator hJm, Measure.restrict_congr_set hJt,
    lintegral_one_sub_rpow hp (sub_le_self 1 (Real.exp_pos _).le), competing_arith ha]

theorem measurableSet_first_pair (a b : ℝ) {J : Set ℝ} (hJm : MeasurableSet J) :
    MeasurableSet {q : ℝ × ℝ | q.1 ∈ J ∧ q.2 ∈ {v : ℝ | v ∈ Ico (0 : ℝ) 1 ∧ expovariate a q.1 < expovariate b v}} :=
  (measurable_fst hJm).inter ((measurable_snd measurableSet_Ico).inter
    (measurableSet_lt ((measurable_expovariate a).comp measurable_fst)
      ((measurable_expovariate b).comp measurable_snd)))

theorem measurableSet_first_pi {n : ℕ} (a : ℝ) (ρ : Fin n → ℝ) {J : Set ℝ} (hJm : MeasurableSet J) :
    MeasurableSet {q : ℝ × (Fin n → ℝ) | q.1 ∈ J ∧
      q.2 ∈ {z : Fin n → ℝ | ∀ k, z k ∈ Ico (0 : ℝ) 1 ∧ expovariate a q.1 < expovariate (ρ k) (z k)}} := by
  refine (measurable_fst hJm).inter (measurableSet_setOfPred.2 (Measurable.forall fun k => measurableSet_setOfPred.1 ?_))
  have hk : Measurable fun q : ℝ × (Fin n → ℝ) => q.2 k := (measurable_pi_apply k).comp measurable_snd
  exact (hk measurableSet_Ico).inter
    (measurableSet_lt ((measurable_expovariate a).comp measurable_fst) ((measurable_expovariate (ρ k)).comp hk))

/-- the event "clock `i` fires first (and its draw lies in `J`)" after separating coordinate `i` -/
theorem pi_first_event_eq {n : ℕ} (r : Fin (n + 1) → ℝ) (i : Fin (n + 1)) (J : Set ℝ) (hJ : J ⊆ Ico 0 1) :
    {w : Fin (n + 1) → ℝ | (∀ j, w j ∈ Ico (0 : ℝ) 1) ∧
        (∀ j, j ≠ i → expovariate (r i) (w i) < expovariate (r j) (w j)) ∧ w i ∈ J}
      = (MeasurableEquiv.piFinSuccAbove (fun _ => ℝ) i) ⁻¹'
        {q : ℝ × (Fin n → ℝ) | q.1 ∈ J ∧ q.2 ∈ {z : Fin n → ℝ | ∀ k, z k ∈ Ico (0 : ℝ) 1 ∧
          expovariate (r i) q.1 < expovariate (r (i.succAbove k)) (z k)}} := by
  ext w
  simp only [Set.mem_ofPred_eq, mem_preimage, MeasurableEquiv.piFinSuccAbove_apply,
    Fin.insertNthEquiv_symm_apply, Fin.removeNth]
  rw [Fin.forall_iff_succAbove (P := fun j => w j ∈ Ico (0 : ℝ) 1) i,
    Fin.forall_iff_succAbove (P := fun j => j ≠ i → expovariate (r i) (w i) < expovariate (r j) (w j)) i]
  constructor
  · rintro ⟨⟨_, h1⟩, ⟨_, h2⟩, h3⟩
    exact ⟨h3, fun k => ⟨h1 k, h2 k (Fin.succAbove_ne i k)⟩⟩
  · rintro ⟨h3, h⟩
    exact ⟨⟨hJ h3, fun k => (h k).1⟩, ⟨fun hne => absurd rfl hne, fun k _ => (h k).2⟩, h3⟩

end FastSIRLaw
