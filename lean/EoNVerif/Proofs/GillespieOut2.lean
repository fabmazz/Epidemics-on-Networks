import EoNVerif.Proofs.GillespieOut
/-!
Helper lemmas for C09 (`Gillespie_SIR` / `Gillespie_SIS` transmissions): the event log of the model as a valid log
over the contact network, and the causal validity of the transmission list read off a valid log.
-/
namespace Gillespie
open Pred Invest

/-! ### Prop-level forms of the history predicates -/

/-- `hasStatusClosed` as a proposition -/
def HSC (h : Hist) (st : String) (t : Rat) : Prop :=
  ∃ i ti, h[i]? = some (ti, st) ∧ ti ≤ t ∧ ∀ tj sj, h[i + 1]? = some (tj, sj) → t ≤ tj

/-- `changesAt` as a proposition -/
def CHG (h : Hist) (a b : String) (t : Rat) : Prop :=
  ∃ i ta, h[i]? = some (ta, a) ∧ h[i + 1]? = some (t, b)

theorem hasStatusClosed_of (h : Hist) (st : String) (t : Rat) (hh : HSC h st t) :
    hasStatusClosed h st t = true := by
  obtain ⟨i, ti, h1, h2, h3⟩ := hh
  have hi : i < h.length := (List.getElem?_eq_some_iff.1 h1).1
  unfold hasStatusClosed
  rw [List.any_eq_true]
  refine ⟨i, List.mem_range.2 hi, ?_⟩
  rw [h1]
  simp only [Bool.and_eq_true, beq_self_eq_true, decide_eq_true_eq, true_and]
  refine ⟨h2, ?_⟩
  cases h4 : h[i + 1]? with
  | none => rfl
  | some p =>
    obtain ⟨tj, sj⟩ := p
    simp only [decide_eq_true_eq]
    exact h3 tj sj h4

theorem changesAt_of (h : Hist) (a b : String) (t : Rat) (hh : CHG h a b t) :
    changesAt h a b t = true := by
  obtain ⟨i, ta, h1, h2⟩ := hh
  have hi : i < h.length := (List.getElem?_eq_some_iff.1 h1).1
  unfold changesAt
  rw [List.any_eq_true]
  refine ⟨i, List.mem_range.2 hi, ?_⟩
  rw [h1, h2]
  simp

theorem HSC_append (h : Hist) (st : String) (t : Rat) (x : Rat × String) (hh : HSC h st t) (hx : t ≤ x.1) :
    HSC (h ++ [x]) st t := by
  obtain ⟨i, ti, h1, h2, h3⟩ := hh
  have hi : i < h.length := (List.getElem?_eq_some_iff.1 h1).1
  refine ⟨i, ti, ?_, h2, ?_⟩
  · rw [List.getElem?_append_left hi]; exact h1
  · intro tj sj h4
    by_cases hi1 : i + 1 < h.length
    · rw [List.getElem?_append_left hi1] at h4; exact h3 tj sj h4
    · have : i + 1 = h.length := by omega
      rw [this, List.getElem?_append_right (le_refl _)] at h4
      simp at h4
      subst h4; exact hx

theorem HSC_last (h : Hist) (st : String) (t ti : Rat) (hl : h.getLast? = some (ti, st)) (hle : ti ≤ t) :
    HSC h st t := by
  rw [List.getLast?_eq_getElem?] at hl
  have hne : h ≠ [] := by rintro rfl; simp at hl
  have hpos : 0 < h.length := List.length_pos_iff.2 hne
  refine ⟨h.length - 1, ti, hl, hle, ?_⟩
  intro tj sj h4
  rw [List.getElem?_eq_none (by omega)] at h4; cases h4

theorem CHG_append (h : Hist) (a b : String) (t : Rat) (x : Rat × String) (hh : CHG h a b t) :
    CHG (h ++ [x]) a b t := by
  obtain ⟨i, ta, h1, h2⟩ := hh
  have hi : i + 1 < h.length := (List.getElem?_eq_some_iff.1 h2).1
  exact ⟨i, ta, by rw [List.getElem?_append_left (by omega)]; exact h1,
    by rw [List.getElem?_append_left hi]; exact h2⟩

theorem CHG_new (h : Hist) (a b : String) (t ta : Rat) (hl : h.getLast? = some (ta, a)) :
    CHG (h ++ [(t, b)]) a b t := by
  rw [List.getLast?_eq_getElem?] at hl
  have hne : h ≠ [] := by rintro rfl; simp at hl
  have hpos : 0 < h.length := List.length_pos_iff.2 hne
  refine ⟨h.length - 1, ta, ?_, ?_⟩
  · rw [List.getElem?_append_left (by omega)]; exact hl
  · have : h.length - 1 + 1 = h.length := by omega
    rw [this, List.getElem?_append_right (le_refl _)]; simp

/-- the test inside `changeCount` -/
def ccPred (h : Hist) (ok : String → String → Bool) (i : Nat) : Bool :=
  match h[i]?, h[i + 1]? with
  | some (_, a), some (_, b) => ok a b
  | _, _ => false

theorem changeCount_eq (h : Hist) (ok : String → String → Bool) :
    changeCount h ok = ((List.range h.length).filter (ccPred h ok)).length := rfl

theorem changeCount_append (h : Hist) (ok : String → String → Bool) (x : Rat × String) (tl : Rat) (sl : String)
    (hl : h.getLast? = some (tl, sl)) :
    changeCount (h ++ [x]) ok = changeCount h ok + (if ok sl x.2 then 1 else 0) := by
  rw [List.getLast?_eq_getElem?] at hl
  have hne : h ≠ [] := by rintro rfl; simp at hl
  have hpos : 0 < h.length := List.length_pos_iff.2 hne
  obtain ⟨m, hm⟩ : ∃ m, h.length = m + 1 := ⟨h.length - 1, by omega⟩
  rw [changeCount_eq, changeCount_eq]
  rw [List.length_append, List.length_singleton, hm, List.range_succ, List.range_succ, List.filter_append,
    List.filter_append, List.length_append, List.length_append]
  have e1 : (List.range m).filter (ccPred (h ++ [x]) ok) = (List.range m).filter (ccPred h ok) := by
    apply List.filter_congr
    intro i hi
    rw [List.mem_range] at hi
    unfold ccPred
    rw [List.getElem?_append_left (by omega), List.getElem?_append_left (by omega)]
  rw [e1]
  have hmm : h.length - 1 = m := by omega
  rw [hmm] at hl
  have e2 : (h ++ [x])[m]? = some (tl, sl) := by rw [List.getElem?_append_left (by omega)]; exact hl
  have e3 : (h ++ [x])[m + 1]? = some x := by
    rw [← hm, List.getElem?_append_right (le_refl _)]; simp
  have e4 : (h ++ [x])[m + 1 + 1]? = none := by
    rw [List.getElem?_eq_none]; simp; omega
  have e5 : h[m + 1]? = none := by rw [List.getElem?_eq_none]; omega
  have p1 : ccPred (h ++ [x]) ok m = ok sl x.2 := by unfold ccPred; rw [e2, e3]
  have p2 : ccPred (h ++ [x]) ok (m + 1) = false := by unfold ccPred; rw [e3, e4]
  have p3 : ccPred h ok m = false := by unfold ccPred; rw [hl, e5]
  simp only [List.filter_cons, List.filter_nil, p1, p2]
  cases ok sl x.2 <;> simp [p3]

/-! ### `reachesRoot`, `nondecreasing` -/

theorem reachesRoot_fuel_mono (trs : List Trans) (f f' : Nat) (v : Node) (h : reachesRoot trs f v = true)
    (hf : f ≤ f') : reachesRoot trs f' v = true := by
  induction f generalizing f' v with
  | zero => simp [reachesRoot] at h
  | succ f ih =>
    obtain ⟨g, rfl⟩ : ∃ g, f' = g + 1 := ⟨f' - 1, by omega⟩
    unfold reachesRoot at h ⊢
    cases hfind : trs.find? (fun e => e.tgt == v) with
    | none => rw [hfind] at h; cases h
    | some e =>
      rw [hfind] at h
      dsimp only at h ⊢
      cases hsrc : e.src with
      | none => rfl
      | some u =>
        rw [hsrc] at h
        dsimp only at h ⊢
        exact ih g u h (by omega)

theorem reachesRoot_append (trs l : List Trans) (f : Nat) (v : Node) (h : reachesRoot trs f v = true) :
    reachesRoot (trs ++ l) f v = true := by
  induction f generalizing v with
  | zero => simp [reachesRoot] at h
  | succ f ih =>
    unfold reachesRoot at h ⊢
    cases hfind : trs.find? (fun e => e.tgt == v) with
    | none => rw [hfind] at h; cases h
    | some e =>
      rw [hfind] at h
      rw [List.find?_append, hfind, Option.some_or]
      dsimp only at h ⊢
      cases hsrc : e.src with
      | none => rfl
      | some u =>
        rw [hsrc] at h
        dsimp only at h ⊢
        exact ih u h

theorem nondecreasing_of_pairwise (l : List Rat) (h : l.Pairwise (· ≤ ·)) : nondecreasing l = true := by
  induction l with
  | nil => rfl
  | cons a t ih =>
    cases t with
    | nil => rfl
    | cons b t' =>
      rw [List.pairwise_cons] at h
      simp only [nondecreasing, Bool.and_eq_true, decide_eq_true_eq]
      exact ⟨h.1 b List.mem_cons_self, ih h.2⟩

/-! ### the event log as a valid log over the contact network -/

def evNode : GEvent → Node
  | .recover u => u
  | .transmit _ v => v

def evSt (sis : Bool) : GEvent → St
  | .recover _ => if sis then St.S else St.R
  | .transmit _ _ => St.I

/-- status after a (reversed: latest first) event log -/
def statusOf (sis : Bool) (init : Node → St) : List (Rat × GEvent) → Node → St
  | [] => init
  | e :: lg => fset (statusOf sis init lg) (evNode e.2) (evSt sis e.2)

/-- the event is enabled in status `st` -/
def EvOK (P : GParams) (st : Node → St) : GEvent → Prop
  | .recover u => u ∈ P.nodes ∧ st u = St.I
  | .transmit u v => u ∈ P.nodes ∧ v ∈ P.nodes ∧ st u = St.I ∧ v ∈ P.nbrs u ∧ st v = St.S

/-- a (reversed) event log all of whose events were enabled when they happened, with ordered times -/
def ValidLg (P : GParams) (init : Node → St) (tmin : Rat) : List (Rat × GEvent) → Prop
  | [] => True
  | e :: lg => ValidLg P init tmin lg ∧ EvOK P (statusOf P.sis init lg) e.2 ∧ tmin ≤ e.1 ∧ ∀ e' ∈ lg, e'.1 ≤ e.1

/-- invariant of the model state: the log explains the statuses -/
structure LogInv (P : GParams) (infs recs : List Node) (tmin : Rat) (s : GState) : Prop where
  status : s.status = statusOf P.sis (initStatus infs recs) s.log
  valid : ValidLg P (initStatus infs recs) tmin s.log
  bound : ∀ e ∈ s.log, e.1 ≤ lastT s
  lower : tmin ≤ lastT s

theorem logInv_step (P : GParams) (h : WF P) (infs recs : List Node) (tmin : Rat) (s s' : GState) (e : GEvent)
    (t : Rat) (hs : Inv P s) (hL : LogInv P infs recs tmin s) (hen : Enabled s e) (hle : lastT s ≤ t)
    (ha : applyEvent P s e t = some s') : LogInv P infs recs tmin s' := by
  have hlast := applyEvent_lastT P s s' e t ha
  obtain ⟨hst, -, hlog⟩ := applyEvent_shape P s s' e t ha
  replace hst : s'.status = fset s.status (evNode e) (evSt P.sis e) := by rw [hst]; cases e <;> rfl
  have hok : EvOK P s.status e := by
    cases e with
    | recover u => exact (hs.inf_items u).1 hen
    | transmit u v =>
      obtain ⟨h1, h2, h3, h4⟩ := (hs.link_items u v).1 hen
      exact ⟨h1, h.nbr_mem u h1 v h3, h2, h3, h4⟩
  refine ⟨?_, ?_, ?_, ?_⟩
  · rw [hst, hlog, hL.status]; rfl
  · rw [hlog]
    refine ⟨hL.valid, ?_, le_trans hL.lower hle, fun e' he' => le_trans (hL.bound e' he') hle⟩
    rw [← hL.status]; exact hok
  · intro e' he'
    rw [hlog] at he'
    rw [hlast]
    rcases List.mem_cons.1 he' with rfl | he'
    · exact le_refl _
    · exact le_trans (hL.bound e' he') hle
  · rw [hlast]; exact le_trans hL.lower hle

theorem logInv_run (P : GParams) (h : WF P) (infs recs : List Node) (tmin : Rat) (tmax : ERat) (fuel cfuel : Nat)
    (hi : infs.Nodup) (him : ∀ u ∈ infs, u ∈ P.nodes)
    (hdis : ∀ u ∈ infs, u ∉ recs) (hsis : P.sis = true → recs = [])
    (ts ts' : TapeSt) (hts : TapeNonneg ts) (s' : GState)
    (hrun : run P infs recs tmin tmax fuel cfuel ts = .ok (s', ts')) : LogInv P infs recs tmin s' := by
  refine (run_ind P h infs recs tmin tmax True (LogInv P infs recs tmin) hi him hdis hsis
    ?_ ?_ fuel cfuel ts ts' (fun _ => hts) s' hrun).2
  · intro s0 h0 _ _
    obtain ⟨hst, hT, -, -, -, hlog⟩ := init_shape P infs recs tmin s0 h0
    exact ⟨by rw [hlog, hst]; rfl, by rw [hlog]; trivial, by rw [hlog]; simp, by simp [lastT, hT]⟩
  · intro s e tv s1 hs hQ hen hle _ ha
    exact logInv_step P h infs recs tmin s s1 e tv hs hQ hen (hle trivial) ha

/-! ### the outputs read off a (reversed) event log -/

def entry (sis : Bool) (e : Rat × GEvent) : Rat × Node × String := (e.1, evNode e.2, stName (evSt sis e.2))

def logOf (sis : Bool) (lg : List (Rat × GEvent)) : Log := lg.reverse.map (entry sis)

theorem gLog_eq (P : GParams) (s : GState) : gLog P s = logOf P.sis s.log := by
  unfold gLog logOf
  apply List.map_congr_left
  rintro ⟨t, ev⟩ _
  cases ev with
  | recover u => cases hs : P.sis <;> rfl
  | transmit u v => rfl

def trOf (e : Rat × GEvent) : Option Trans :=
  match e.2 with
  | .recover _ => none
  | .transmit u v => some { t := e.1, src := some u, tgt := v }

def transB (lg : List (Rat × GEvent)) : List Trans := lg.reverse.filterMap trOf

/-- the transmission list the simulator returns: one source-less row at `tmin` per initial infection, then `transB` -/
def transOf (tmin : Rat) (infs : List Node) (lg : List (Rat × GEvent)) : List Trans :=
  (infs.map fun u => ({ t := tmin, src := none, tgt := u } : Trans)) ++ transB lg

theorem transB_cons (e : Rat × GEvent) (lg : List (Rat × GEvent)) :
    transB (e :: lg) = transB lg ++ (trOf e).toList := by
  unfold transB
  rw [List.reverse_cons, List.filterMap_append]
  congr 1

def HH (tmin : Rat) (init : Node → St) (sis : Bool) (lg : List (Rat × GEvent)) (v : Node) : Hist :=
  histOf tmin (fun v => stName (init v)) (logOf sis lg) v

theorem HH_nil (tmin : Rat) (init : Node → St) (sis : Bool) (v : Node) :
    HH tmin init sis [] v = [(tmin, stName (init v))] := rfl

theorem HH_cons (tmin : Rat) (init : Node → St) (sis : Bool) (e : Rat × GEvent) (lg : List (Rat × GEvent))
    (v : Node) :
    HH tmin init sis (e :: lg) v =
      HH tmin init sis lg v ++ (if evNode e.2 = v then [(e.1, stName (evSt sis e.2))] else []) := by
  unfold HH histOf logOf
  rw [List.reverse_cons, List.map_append, List.filter_append, List.map_append]
  simp only [List.map_cons, List.map_nil, List.cons_append, List.filter_cons, List.filter_nil, entry]
  by_cases hv : evNode e.2 = v <;> simp [hv]

theorem HH_last (tmin : Rat) (init : Node → St) (sis : Bool) (lg : List (Rat × GEvent)) (v : Node) :
    ∃ t, (HH tmin init sis lg v).getLast? = some (t, stName (statusOf sis init lg v)) ∧
      ∀ B, tmin ≤ B → (∀ e ∈ lg, e.1 ≤ B) → t ≤ B := by
  induction lg with
  | nil => exact ⟨tmin, rfl, fun B hB _ => hB⟩
  | cons e lg ih =>
    obtain ⟨t, h1, h2⟩ := ih
    rw [HH_cons]
    by_cases hv : evNode e.2 = v
    · refine ⟨e.1, ?_, fun B _ hB => hB e List.mem_cons_self⟩
      simp only [hv, if_true, List.getLast?_append, List.getLast?_singleton, Option.some_or]
      simp [statusOf, fset, hv]
    · refine ⟨t, ?_, fun B hB hB' => h2 B hB fun e' he' => hB' e' (List.mem_cons_of_mem _ he')⟩
      simp only [hv, if_false, List.append_nil]
      rw [h1]
      simp [statusOf, fset, Ne.symm hv]

theorem validLg_lower (P : GParams) (init : Node → St) (tmin : Rat) (lg : List (Rat × GEvent))
    (hv : ValidLg P init tmin lg) : ∀ e ∈ lg, tmin ≤ e.1 := by
  induction lg with
  | nil => intro e he; cases he
  | cons e lg ih =>
    obtain ⟨h1, -, h3, -⟩ := hv
    intro e' he'
    rcases List.mem_cons.1 he' with rfl | he'
    · exact h3
    · exact ih h1 e' he'

theorem transB_mem (lg : List (Rat × GEvent)) (x : Trans) (hx : x ∈ transB lg) :
    ∃ e ∈ lg, ∃ u v, e.2 = GEvent.transmit u v ∧ x = { t := e.1, src := some u, tgt := v } := by
  unfold transB at hx
  rw [List.mem_filterMap] at hx
  obtain ⟨e, he, hx⟩ := hx
  refine ⟨e, List.mem_reverse.1 he, ?_⟩
  obtain ⟨t, ev⟩ := e
  cases ev with
  | recover u => simp [trOf] at hx
  | transmit u v =>
    simp only [trOf, Option.some.injEq] at hx
    exact ⟨u, v, rfl, hx.symm⟩

theorem transB_sorted (P : GParams) (init : Node → St) (tmin : Rat) (lg : List (Rat × GEvent))
    (hv : ValidLg P init tmin lg) : ((transB lg).map (·.t)).Pairwise (· ≤ ·) := by
  induction lg with
  | nil => simp [transB]
  | cons e lg ih =>
    obtain ⟨h1, -, -, h4⟩ := hv
    rw [transB_cons, List.map_append, List.pairwise_append]
    refine ⟨ih h1, ?_, ?_⟩
    · cases trOf e <;> simp
    · intro a ha b hb
      obtain ⟨x, hx, rfl⟩ := List.mem_map.1 ha
      obtain ⟨e', he', u, v, -, rfl⟩ := transB_mem lg x hx
      obtain ⟨t, ev⟩ := e
      cases ev with
      | recover u' => simp [trOf] at hb
      | transmit u' v' =>
        simp [trOf] at hb
        subst hb
        exact h4 e' he'

/-- every recorded transmission went along an edge from a node that was infectious to a node that was
susceptible just before and infected at that time -/
theorem trans_causal (P : GParams) (init : Node → St) (tmin : Rat) (lg : List (Rat × GEvent))
    (hv : ValidLg P init tmin lg) :
    ∀ e ∈ lg, ∀ u v, e.2 = GEvent.transmit u v →
      u ∈ P.nodes ∧ v ∈ P.nodes ∧ v ∈ P.nbrs u ∧ HSC (HH tmin init P.sis lg u) "I" e.1 ∧
        CHG (HH tmin init P.sis lg v) "S" "I" e.1 := by
  induction lg with
  | nil => intro e he; cases he
  | cons e0 lg ih =>
    obtain ⟨h1, h2, h3, h4⟩ := hv
    intro e he u v hev
    rcases List.mem_cons.1 he with rfl | he
    · rw [hev] at h2
      obtain ⟨a1, a2, a3, a4, a5⟩ := h2
      have huv : v ≠ u := by
        rintro rfl; rw [a3] at a5; cases a5
      refine ⟨a1, a2, a4, ?_, ?_⟩
      · rw [HH_cons]
        simp only [hev, evNode, huv, if_false, List.append_nil]
        obtain ⟨t, l1, l2⟩ := HH_last tmin init P.sis lg u
        rw [a3] at l1
        exact HSC_last _ _ _ t l1 (l2 e.1 h3 h4)
      · rw [HH_cons]
        simp only [hev, evNode, evSt, if_true]
        obtain ⟨t, l1, -⟩ := HH_last tmin init P.sis lg v
        rw [a5] at l1
        exact CHG_new _ _ _ _ t l1
    · obtain ⟨a1, a2, a3, a4, a5⟩ := ih h1 e he u v hev
      refine ⟨a1, a2, a3, ?_, ?_⟩
      · rw [HH_cons]
        split
        · exact HSC_append _ _ _ _ a4 (h4 e he)
        · rw [List.append_nil]; exact a4
      · rw [HH_cons]
        split
        · exact CHG_append _ _ _ _ _ a5
        · rw [List.append_nil]; exact a5

/-- the number of `S → I` changes in the history of `v` is the number of transmissions to `v` -/
theorem trans_count (P : GParams) (init : Node → St) (tmin : Rat) (lg : List (Rat × GEvent))
    (hv : ValidLg P init tmin lg) (ok : String → String → Bool) (ok1 : ok "S" "I" = true)
    (ok2 : ∀ a, ok a "S" = false) (ok3 : ∀ a, ok a "R" = false) (v : Node) :
    changeCount (HH tmin init P.sis lg v) ok = ((transB lg).filter fun x => x.tgt == v).length := by
  induction lg with
  | nil => rfl
  | cons e lg ih =>
    obtain ⟨h1, h2, -, -⟩ := hv
    rw [HH_cons, transB_cons, List.filter_append, List.length_append, ← ih h1]
    obtain ⟨t, ev⟩ := e
    obtain ⟨tl, l1, -⟩ := HH_last tmin init P.sis lg v
    cases ev with
    | recover u =>
      simp only [trOf, Option.toList_none, List.filter_nil, List.length_nil, Nat.add_zero]
      by_cases huv : u = v
      · rw [if_pos (show evNode ((t, GEvent.recover u) : Rat × GEvent).2 = v from huv),
          changeCount_append _ _ _ tl _ l1]
        cases P.sis <;> simp [evSt, stName, ok2, ok3]
      · rw [if_neg (show ¬ evNode ((t, GEvent.recover u) : Rat × GEvent).2 = v from huv), List.append_nil]
    | transmit u w =>
      simp only [trOf, Option.toList_some, List.filter_cons, List.filter_nil]
      by_cases hw : w = v
      · subst hw
        obtain ⟨-, -, -, -, a5⟩ := h2
        rw [a5] at l1
        rw [if_pos (show evNode ((t, GEvent.transmit u w) : Rat × GEvent).2 = w from rfl),
          changeCount_append _ _ _ tl _ l1]
        simp [evSt, stName, ok1]
      · rw [if_neg (show ¬ evNode ((t, GEvent.transmit u w) : Rat × GEvent).2 = v from hw), List.append_nil]
        simp [hw]

/-! ### SIR: the transmission list is a forest rooted at the initial nodes -/

/-- targets of the transmission list -/
def TG (infs : List Node) (lg : List (Rat × GEvent)) : List Node := infs ++ (transB lg).map (·.tgt)

theorem transOf_tgt (tmin : Rat) (infs : List Node) (lg : List (Rat × GEvent)) :
    (transOf tmin infs lg).map (·.tgt) = TG infs lg := by
  unfold transOf TG
  rw [List.map_append, List.map_map]
  congr 1
  exact List.map_id' _

theorem reachesRoot_init (tmin : Rat) (infs : List Node) (l : List Trans) (f : Nat) (v : Node) (hv : v ∈ infs) :
    reachesRoot ((infs.map fun u => ({ t := tmin, src := none, tgt := u } : Trans)) ++ l) (f + 1) v = true := by
  unfold reachesRoot
  rw [List.find?_append]
  cases hfind : (infs.map fun u => ({ t := tmin, src := none, tgt := u } : Trans)).find? (fun e => e.tgt == v) with
  | none =>
    rw [List.find?_eq_none] at hfind
    have := hfind { t := tmin, src := none, tgt := v } (List.mem_map.2 ⟨v, hv, rfl⟩)
    simp at this
  | some e =>
    rw [Option.some_or]
    have hmem := List.mem_of_find?_eq_some hfind
    obtain ⟨u, -, rfl⟩ := List.mem_map.1 hmem
    rfl

/-- By induction on the log.  A recovery changes none of the three clauses (SIR: `I → R`, and `R` is in neither status
clause); a transmission `u → w` has `w` susceptible, hence new in `TG`, and `u` infectious, hence in `TG` and
already reaching a root, so `w` reaches it through the appended row (found by `find?` because no earlier row targets `w`). -/
theorem forest_inv (P : GParams) (infs recs : List Node) (tmin : Rat) (hi : infs.Nodup) (hsis : P.sis = false)
    (lg : List (Rat × GEvent)) (hv : ValidLg P (initStatus infs recs) tmin lg) :
    (TG infs lg).Nodup ∧
    (∀ v, (statusOf P.sis (initStatus infs recs) lg v = St.S → v ∉ TG infs lg) ∧
          (statusOf P.sis (initStatus infs recs) lg v = St.I → v ∈ TG infs lg)) ∧
    ∀ v ∈ TG infs lg, reachesRoot (transOf tmin infs lg) (transOf tmin infs lg).length v = true := by
  induction lg with
  | nil =>
    have e : TG infs [] = infs := by simp [TG, transB]
    rw [e]
    refine ⟨hi, ?_, ?_⟩
    · intro v
      simp only [statusOf, initStatus]
      by_cases h1 : v ∈ recs <;> by_cases h2 : v ∈ infs <;> simp [h1, h2]
    · intro v hv'
      obtain ⟨n, hn⟩ : ∃ n, (transOf tmin infs []).length = n + 1 := by
        refine ⟨(transOf tmin infs []).length - 1, ?_⟩
        have : 0 < infs.length := List.length_pos_of_mem hv'
        simp only [transOf, List.length_append, List.length_map]
        omega
      rw [hn]
      exact reachesRoot_init tmin infs _ n v hv'
  | cons e lg ih =>
    obtain ⟨h1, h2, -, -⟩ := hv
    obtain ⟨i1, i2, i3⟩ := ih h1
    obtain ⟨t, ev⟩ := e
    cases ev with
    | recover u =>
      have e1 : TG infs ((t, GEvent.recover u) :: lg) = TG infs lg := by
        simp [TG, transB_cons, trOf]
      have e2 : transOf tmin infs ((t, GEvent.recover u) :: lg) = transOf tmin infs lg := by
        simp [transOf, transB_cons, trOf]
      rw [e1, e2]
      refine ⟨i1, ?_, i3⟩
      intro v
      simp only [statusOf, evNode, evSt, hsis, Bool.false_eq_true, if_false]
      by_cases hvu : v = u
      · subst hvu; simp [fset]
      · rw [fset_ne _ _ _ _ hvu]
        have := i2 v
        rw [hsis] at this
        exact this
    | transmit u w =>
      obtain ⟨-, -, a3, -, a5⟩ := h2
      have e1 : TG infs ((t, GEvent.transmit u w) :: lg) = TG infs lg ++ [w] := by
        simp [TG, transB_cons, trOf]
      have e2 : transOf tmin infs ((t, GEvent.transmit u w) :: lg) =
          transOf tmin infs lg ++ [{ t := t, src := some u, tgt := w }] := by
        simp [transOf, transB_cons, trOf]
      have hw : w ∉ TG infs lg := (i2 w).1 a5
      have hu : u ∈ TG infs lg := (i2 u).2 a3
      rw [e1, e2]
      refine ⟨?_, ?_, ?_⟩
      · rw [List.nodup_append]
        refine ⟨i1, List.nodup_singleton _, ?_⟩
        intro a ha b hb
        rw [List.mem_singleton] at hb
        subst hb
        rintro rfl
        exact hw ha
      · intro v
        simp only [statusOf, evNode, evSt]
        by_cases hvw : v = w
        · subst hvw; simp [fset]
        · rw [fset_ne _ _ _ _ hvw]
          have := i2 v
          simp only [List.mem_append, List.mem_singleton, hvw, or_false]
          exact this
      · intro v hv'
        rw [List.length_append, List.length_singleton]
        rcases List.mem_append.1 hv' with hv' | hv'
        · exact reachesRoot_fuel_mono _ _ _ _ (reachesRoot_append _ _ _ _ (i3 v hv')) (by omega)
        · rw [List.mem_singleton] at hv'
          subst hv'
          unfold reachesRoot
          have hnone : (transOf tmin infs lg).find? (fun e => e.tgt == v) = none := by
            rw [List.find?_eq_none]
            intro x hx hc
            apply hw
            rw [← transOf_tgt tmin]
            exact List.mem_map.2 ⟨x, hx, by simpa using hc⟩
          rw [List.find?_append, hnone]
          simp only [Option.none_or, List.find?_cons, beq_self_eq_true]
          exact reachesRoot_append _ _ _ _ (i3 u hu)

/-! ### assembling `transmissionsValid` -/

/-- `histories` is a list in the order of `P.nodes` and `transmissionsValid` reads the history of node `v` at position `v`;
hence `hrange`, here and below: the nodes are `0..N-1` in order -/
theorem hist_getD (P : GParams) (infs recs : List Node) (tmin : Rat) (lg : List (Rat × GEvent))
    (hrange : P.nodes = List.range P.nodes.length) (v : Node) (hv : v < P.nodes.length) :
    (histories tmin (initName infs recs) (logOf P.sis lg) P.nodes).getD v [] =
      HH tmin (initStatus infs recs) P.sis lg v := by
  have hget : P.nodes[v]? = some v := by
    have : P.nodes[v]? = (List.range P.nodes.length)[v]? := congrArg (fun l => l[v]?) hrange
    rw [this, List.getElem?_range hv]
  unfold histories
  rw [List.getD_eq_getElem?_getD, List.getElem?_map, hget]
  rfl

theorem mem_nodes_lt (P : GParams) (hrange : P.nodes = List.range P.nodes.length) (v : Node) (hv : v ∈ P.nodes) :
    v < P.nodes.length := by
  rw [hrange] at hv
  exact List.mem_range.1 hv

theorem tv_sorted (P : GParams) (init : Node → St) (infs : List Node) (tmin : Rat) (lg : List (Rat × GEvent))
    (hv : ValidLg P init tmin lg) :
    nondecreasing ((transOf tmin infs lg).map (·.t)) = true := by
  apply nondecreasing_of_pairwise
  unfold transOf
  rw [List.map_append, List.pairwise_append]
  refine ⟨?_, transB_sorted P init tmin lg hv, ?_⟩
  · rw [List.map_map]
    induction infs with
    | nil => simp
    | cons a t ih =>
      rw [List.map_cons, List.pairwise_cons]
      refine ⟨?_, ih⟩
      intro b hb
      obtain ⟨u, -, rfl⟩ := List.mem_map.1 hb
      exact le_refl _
  · intro a ha b hb
    rw [List.map_map] at ha
    obtain ⟨u, -, rfl⟩ := List.mem_map.1 ha
    obtain ⟨x, hx, rfl⟩ := List.mem_map.1 hb
    obtain ⟨e, he, u', v', -, rfl⟩ := transB_mem lg x hx
    exact validLg_lower P init tmin lg hv e he

/- The next two statements are the second and third conjunct of `Pred.transmissionsValid … 0 …` exactly as
`simp only [transmissionsValid]` leaves them in `tv_of_valid` (hence `x.t + 0`: the delay argument is 0); they are not
meant to be read on their own. -/
theorem tv_causal (P : GParams) (infs recs : List Node) (tmin : Rat) (lg : List (Rat × GEvent))
    (hrange : P.nodes = List.range P.nodes.length)
    (hv : ValidLg P (initStatus infs recs) tmin lg) (spec : TVSpec) (hind : spec.induced = [("I", "S", "I")]) :
    ∀ x ∈ transOf tmin infs lg,
      (match x.src with
        | some u =>
          (P.nbrs u).contains x.tgt &&
            spec.induced.any fun x_1 =>
              hasStatusClosed ((histories tmin (initName infs recs) (logOf P.sis lg) P.nodes).getD u []) x_1.1 x.t &&
                changesAt ((histories tmin (initName infs recs) (logOf P.sis lg) P.nodes).getD x.tgt [])
                  x_1.2.1 x_1.2.2 (x.t + 0)
        | none => infs.contains x.tgt && x.t + 0 == tmin) = true := by
  intro x hx
  unfold transOf at hx
  rcases List.mem_append.1 hx with hx | hx
  · obtain ⟨u, hu, rfl⟩ := List.mem_map.1 hx
    simp [hu]
  · obtain ⟨e, he, u, v, hev, rfl⟩ := transB_mem lg x hx
    obtain ⟨a1, a2, a3, a4, a5⟩ := trans_causal P (initStatus infs recs) tmin lg hv e he u v hev
    rw [hind]
    simp only [List.any_cons, List.any_nil, Bool.or_false, Bool.and_eq_true, add_zero]
    rw [hist_getD P infs recs tmin lg hrange u (mem_nodes_lt P hrange u a1),
      hist_getD P infs recs tmin lg hrange v (mem_nodes_lt P hrange v a2)]
    exact ⟨by simpa using a3, hasStatusClosed_of _ _ _ a4, changesAt_of _ _ _ _ a5⟩

theorem tv_counts (P : GParams) (infs recs : List Node) (tmin : Rat) (lg : List (Rat × GEvent))
    (hrange : P.nodes = List.range P.nodes.length) (hi : infs.Nodup)
    (hv : ValidLg P (initStatus infs recs) tmin lg) (spec : TVSpec) (hind : spec.induced = [("I", "S", "I")])
    (hsp : ∃ r, spec.spont = [("I", r)]) :
    ∀ i < P.nodes.length,
      (changeCount ((histories tmin (initName infs recs) (logOf P.sis lg) P.nodes).getD i []) fun b c =>
            (spec.induced.any fun x => b == x.2.1 && c == x.2.2) && !spec.spont.contains (b, c)) ≤
          (List.filter (fun e => e.tgt == i && e.src.isSome) (transOf tmin infs lg)).length ∧
        ((List.filter (fun e => e.tgt == i && e.src.isSome) (transOf tmin infs lg)).length ≤
            changeCount ((histories tmin (initName infs recs) (logOf P.sis lg) P.nodes).getD i []) fun b c =>
              spec.induced.any fun x => b == x.2.1 && c == x.2.2) ∧
          ((List.filter (fun e => e.tgt == i && e.src.isNone) (transOf tmin infs lg)).length ==
              if infs.contains i = true then 1 else 0) = true := by
  intro i hiN
  obtain ⟨r, hr⟩ := hsp
  rw [hist_getD P infs recs tmin lg hrange i hiN, hind, hr]
  have hB : ∀ x ∈ transB lg, x.src.isSome = true := by
    intro x hx
    obtain ⟨e, -, u, v, -, rfl⟩ := transB_mem lg x hx
    rfl
  have k1 : (List.filter (fun e => e.tgt == i && e.src.isSome) (transOf tmin infs lg)).length =
      ((transB lg).filter fun x => x.tgt == i).length := by
    rw [← List.countP_eq_length_filter, ← List.countP_eq_length_filter, transOf, List.countP_append,
      List.countP_map, List.countP_eq_zero.2 (by simp), Nat.zero_add]
    exact List.countP_congr fun x hx => by rw [hB x hx, Bool.and_true]
  have k2 : (List.filter (fun e => e.tgt == i && e.src.isNone) (transOf tmin infs lg)).length =
      if i ∈ infs then 1 else 0 := by
    have hz : List.countP (fun e => e.tgt == i && e.src.isNone) (transB lg) = 0 :=
      List.countP_eq_zero.2 fun x hx => by simp [Option.isSome_iff_ne_none.1 (hB x hx)]
    rw [← List.countP_eq_length_filter, transOf, List.countP_append, List.countP_map, hz, Nat.add_zero, ← hi.count]
    exact List.countP_congr fun u _ => by simp
  rw [k1, k2]
  have c1 := trans_count P (initStatus infs recs) tmin lg hv
    (fun b c => ([("I", "S", "I")].any fun x => b == x.2.1 && c == x.2.2) && ![("I", r)].contains (b, c))
    (by simp) (by intro a; simp) (by intro a; simp) i
  have c2 := trans_count P (initStatus infs recs) tmin lg hv
    (fun b c => ([("I", "S", "I")].any fun x => b == x.2.1 && c == x.2.2))
    (by simp) (by intro a; simp) (by intro a; simp) i
  rw [c1, c2]
  refine ⟨le_refl _, le_refl _, ?_⟩
  by_cases hm : i ∈ infs <;> simp [hm]

theorem tv_forest (P : GParams) (infs recs : List Node) (tmin : Rat) (lg : List (Rat × GEvent))
    (hi : infs.Nodup) (him : ∀ u ∈ infs, u ∈ P.nodes) (hsis : P.sis = false)
    (hv : ValidLg P (initStatus infs recs) tmin lg) :
    (∀ i < P.nodes.length, (List.filter (fun e => e.tgt == i) (transOf tmin infs lg)).length ≤ 1) ∧
    ∀ x ∈ transOf tmin infs lg, reachesRoot (transOf tmin infs lg) (P.nodes.length + 1) x.tgt = true := by
  obtain ⟨f1, -, f3⟩ := forest_inv P infs recs tmin hi hsis lg hv
  constructor
  · intro i _
    rw [← List.countP_eq_length_filter]
    exact (List.countP_map (p := (· == i))).symm.trans_le
      (List.nodup_iff_count_le_one.1 ((transOf_tgt tmin infs lg).symm ▸ f1) i)
  · intro x hx
    have hmem : x.tgt ∈ TG infs lg := by
      rw [← transOf_tgt tmin]; exact List.mem_map.2 ⟨x, hx, rfl⟩
    refine reachesRoot_fuel_mono _ _ _ _ (f3 x.tgt hmem) ?_
    have hlen : (transOf tmin infs lg).length = (TG infs lg).length := by
      rw [← transOf_tgt tmin, List.length_map]
    have hsub : TG infs lg ⊆ P.nodes := by
      intro v hvm
      unfold TG at hvm
      rcases List.mem_append.1 hvm with hvm | hvm
      · exact him v hvm
      · obtain ⟨y, hy, rfl⟩ := List.mem_map.1 hvm
        obtain ⟨e, he, u, w, hev, rfl⟩ := transB_mem lg y hy
        exact (trans_causal P (initStatus infs recs) tmin lg hv e he u w hev).2.1
    have := (List.subperm_of_subset f1 hsub).length_le
    omega

/-- **C09 for valid logs** -/
theorem tv_of_valid (P : GParams) (infs recs : List Node) (tmin : Rat) (lg : List (Rat × GEvent))
    (hi : infs.Nodup) (him : ∀ u ∈ infs, u ∈ P.nodes) (hrange : P.nodes = List.range P.nodes.length)
    (hv : ValidLg P (initStatus infs recs) tmin lg) :
    transmissionsValid (if P.sis then sisSpec else sirSpec) (!P.sis) 0 P.nodes.length P.nbrs tmin infs
      (histories tmin (initName infs recs) (logOf P.sis lg) P.nodes) (transOf tmin infs lg) = true := by
  rcases Bool.eq_false_or_eq_true P.sis with hsis | hsis
  · have e1 : (if P.sis then sisSpec else sirSpec) = sisSpec := by rw [hsis]; rfl
    have e2 : (!P.sis) = false := by rw [hsis]; rfl
    rw [e1, e2]
    simp only [transmissionsValid, Bool.and_eq_true, and_assoc, Rows.allIdx_iff, Bool.not_false, Bool.true_or,
      List.all_eq_true, decide_eq_true_eq, and_true]
    exact ⟨tv_sorted P _ infs tmin lg hv, tv_causal P infs recs tmin lg hrange hv sisSpec rfl,
      tv_counts P infs recs tmin lg hrange hi hv sisSpec rfl ⟨"S", rfl⟩⟩
  · have e1 : (if P.sis then sisSpec else sirSpec) = sirSpec := by rw [hsis]; rfl
    have e2 : (!P.sis) = true := by rw [hsis]; rfl
    rw [e1, e2]
    simp only [transmissionsValid, Bool.and_eq_true, and_assoc, Rows.allIdx_iff, Bool.not_true, Bool.false_or,
      List.all_eq_true, decide_eq_true_eq]
    obtain ⟨g1, g2⟩ := tv_forest P infs recs tmin lg hi him hsis hv
    exact ⟨tv_sorted P _ infs tmin lg hv, tv_causal P infs recs tmin lg hrange hv sirSpec rfl,
      tv_counts P infs recs tmin lg hrange hi hv sirSpec rfl ⟨"R", rfl⟩, g1, g2⟩

end Gillespie
