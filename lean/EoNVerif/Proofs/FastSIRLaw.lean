import EoNVerif.Model.FastSIRLaw
import EoNVerif.Proofs.SumRat
import EoNVerif.Proofs.Discrete
import Mathlib.Tactic.Ring
import Mathlib.Tactic.Linarith
import Mathlib.Algebra.Order.Field.Rat
import Mathlib.Data.Nat.Choose.Sum
import Mathlib.Data.List.Sublists
/-!
Helper lemmas for C01b: "binomial number, then uniform sample" = "independent Bernoulli per neighbour".
-/
namespace FastSIRLaw
open Dist (mass_eq_zero mass_congr mass_push)

theorem rpow_eq (x : Rat) (n : Nat) : rpow x n = x ^ n := by
  induction n with
  | zero => simp [rpow]
  | succ n ih => rw [rpow, ih, pow_succ]

theorem choose_eq (n k : Nat) : choose n k = Nat.choose n k := by
  induction n generalizing k with
  | zero => cases k <;> simp [choose]
  | succ n ih => cases k with
    | zero => simp [choose]
    | succ k => rw [choose, ih, ih, Nat.choose_succ_succ]

theorem choose_pos {n k : Nat} (h : k ≤ n) : 0 < choose n k := by
  rw [choose_eq]; exact Nat.choose_pos h

section Sub
variable {α : Type}

theorem mem_sublistsLen (l : List α) (k : Nat) (s : List α) (hs : s ∈ sublistsLen l k) :
    s.Sublist l ∧ s.length = k := by
  induction l generalizing k s with
  | nil =>
    cases k with
    | zero => simp [sublistsLen] at hs; simp [hs]
    | succ k => simp [sublistsLen] at hs
  | cons a l ih =>
    cases k with
    | zero => simp [sublistsLen] at hs; simp [hs]
    | succ k =>
      simp only [sublistsLen, List.mem_append, List.mem_map] at hs
      rcases hs with ⟨s', hs', rfl⟩ | hs
      · obtain ⟨h1, h2⟩ := ih k s' hs'
        exact ⟨h1.cons_cons a, by simp [h2]⟩
      · obtain ⟨h1, h2⟩ := ih (k + 1) s hs
        exact ⟨h1.cons a, h2⟩

theorem length_sublistsLen (l : List α) (k : Nat) : (sublistsLen l k).length = choose l.length k := by
  induction l generalizing k with
  | nil => cases k <;> simp [sublistsLen, choose]
  | cons a l ih =>
    cases k with
    | zero => simp [sublistsLen, choose]
    | succ k => simp [sublistsLen, choose, ih]

/-- among the `j`-element sublists of a duplicate-free list, the one selected by `keep` occurs exactly once if
`j` is its length, and not at all otherwise (stated for a constant weight `c`) -/
theorem mass_sublistsLen [DecidableEq α] (l : List α) (hn : l.Nodup) (keep : α → Bool) (j : Nat) (c : Rat) :
    Dist.mass ((sublistsLen l j).map fun s => (s, c)) (fun s => s == l.filter keep)
      = if j = (l.filter keep).length then c else 0 := by
  induction l generalizing j with
  | nil =>
    cases j with
    | zero => simp [sublistsLen, Dist.mass]
    | succ j => simp [sublistsLen, Dist.mass]
  | cons a l ih =>
    have hnd := List.nodup_cons.mp hn
    cases j with
    | zero =>
      cases hk : keep a
      · simp only [sublistsLen, List.map_cons, List.map_nil, Dist.mass_cons, Dist.mass_nil, List.filter_cons, hk,
          Bool.false_eq_true, if_false]
        cases h : l.filter keep <;> simp
      · simp [sublistsLen, Dist.mass_cons, Dist.mass_nil, hk]
    | succ j =>
      have hsup : ∀ k, ∀ x ∈ (sublistsLen l k).map (fun s => (s, c)), x.1.Sublist l := fun k x hx => by
        obtain ⟨s, hs, rfl⟩ := List.mem_map.1 hx; exact (mem_sublistsLen l k s hs).1
      have hp : (sublistsLen l j).map ((fun s => (s, c)) ∘ fun x => a :: x)
          = Dist.push (fun x => a :: x) ((sublistsLen l j).map fun s => (s, c)) := by
        simp [Dist.push, List.map_map, Function.comp_def]
      simp only [sublistsLen, List.map_append, List.map_map, Dist.mass_append]
      rw [hp, mass_push, (Discrete.mass_beq_filter_cons _ hnd.1 (hsup j) keep).1,
        (Discrete.mass_beq_filter_cons _ hnd.1 (hsup (j + 1)) keep).2, ih hnd.2, ih hnd.2]
      cases hk : keep a <;> simp [hk]

theorem mass_sampleDist [DecidableEq α] (l : List α) (hn : l.Nodup) (keep : α → Bool) (j : Nat) :
    Dist.mass (sampleDist l j) (fun s => s == l.filter keep)
      = if j = (l.filter keep).length then 1 / (choose l.length j : Rat) else 0 :=
  mass_sublistsLen l hn keep j _

theorem mass_sampleDist_total (l : List α) (j : Nat) (hj : j ≤ l.length) :
    Dist.mass (sampleDist l j) (fun _ => true) = 1 := by
  have hc : (0 : Rat) < (choose l.length j : Rat) := by exact_mod_cast choose_pos hj
  simp only [sampleDist, Dist.mass, List.map_map, Function.comp_def, if_true]
  rw [sumRat_map_const, length_sublistsLen]
  exact mul_one_div_cancel hc.ne'

end Sub

/-- binomial theorem: the point masses of `binomialDist` add up to one -/
theorem binomialPmf_sum (n : Nat) (q : Rat) : sumRat ((List.range (n + 1)).map (binomialPmf n q)) = 1 := by
  rw [sumRat_range_eq_sum]
  have h := add_pow q (1 - q) n
  rw [show q + (1 - q) = 1 by ring, one_pow] at h
  rw [h]
  apply Finset.sum_congr rfl
  intro m _
  simp only [binomialPmf, rpow_eq, choose_eq]
  ring

theorem mass_binomialDist (n : Nat) (q : Rat) (k : Nat) :
    Dist.mass (binomialDist n q) (fun j => j == k) = if k ≤ n then binomialPmf n q k else 0 := by
  simp only [binomialDist, Dist.mass, List.map_map, Function.comp_def, beq_iff_eq]
  by_cases hk : k ≤ n
  · rw [if_pos hk]
    rw [sumRat_map_congr _ _ (fun j => binomialPmf n q j * (if j = k then 1 else 0))]
    · exact sumRat_indicator _ _ _ List.nodup_range (List.mem_range.mpr (Nat.lt_succ_of_le hk))
    · intro j _; split <;> simp
  · rw [if_neg hk]
    apply sumRat_map_zero
    intro j hj
    have : j ≠ k := by
      have := List.mem_range.mp hj
      omega
    simp [this]

theorem binomialPmf_nonneg (n : Nat) (q : Rat) (h0 : 0 ≤ q) (h1 : q ≤ 1) (k : Nat) : 0 ≤ binomialPmf n q k := by
  simp only [binomialPmf, rpow_eq]
  have : (0 : Rat) ≤ 1 - q := by linarith
  positivity

theorem binomialPmf_of_lt (n : Nat) (q : Rat) (k : Nat) (h : n < k) : binomialPmf n q k = 0 := by
  simp [binomialPmf, choose_eq, Nat.choose_eq_zero_of_lt h]

/-- `binomialDist` really is the binomial law: the number of successes among `n` independent
Bernoulli(`q`) draws has the point masses `binomialPmf n q` -/
theorem successCount_law (q : Rat) (n k : Nat) :
    Dist.mass (successCount q n) (fun c => c == k) = binomialPmf n q k := by
  induction n generalizing k with
  | zero =>
    cases k with
    | zero => simp [successCount, Dist.mass_pure, binomialPmf, choose, rpow]
    | succ k => simp [successCount, Dist.mass_pure, binomialPmf, choose]
  | succ n ih =>
    simp only [successCount]
    rw [Dist.mass_bern_bind, mass_push, mass_push]
    simp only [if_true, Bool.false_eq_true, if_false]
    cases k with
    | zero =>
      have h1 : Dist.mass (successCount q n) (fun a => a + 1 == 0) = 0 := by
        apply mass_eq_zero; intro x _; simp
      rw [h1, ih]
      simp only [binomialPmf, rpow_eq, choose_eq]
      simp only [Nat.choose_zero_right, Nat.cast_one, pow_zero, Nat.sub_zero]
      ring
    | succ k =>
      have h1 : Dist.mass (successCount q n) (fun a => a + 1 == k + 1)
          = Dist.mass (successCount q n) (fun a => a == k) := by
        apply mass_congr; intro x _; simp
      rw [h1, ih, ih]
      by_cases hk : k + 1 ≤ n
      · simp only [binomialPmf, rpow_eq, choose]
        have e1 : n + 1 - (k + 1) = n - k := by omega
        have e2 : n - k = (n - (k + 1)) + 1 := by omega
        rw [e1, e2]
        push_cast
        ring
      · rw [binomialPmf_of_lt n q (k + 1) (by omega)]
        simp only [binomialPmf, rpow_eq, choose_eq, Nat.choose_succ_succ]
        have : n.choose (k + 1) = 0 := Nat.choose_eq_zero_of_lt (by omega)
        rw [this]
        have e1 : n + 1 - (k + 1) = n - k := by omega
        rw [e1]
        push_cast
        ring

/-! ### the ordered sample, with the order forgotten, is the uniform subset -/
section Ordered
variable {α : Type} [DecidableEq α]

/-- `s` selects from `l` exactly the elements marked by `keep` -/
def agree (l : List α) (keep : α → Bool) (s : List α) : Bool := l.all fun x => s.contains x == keep x

theorem asSublist_beq_iff (l : List α) (keep : α → Bool) (s : List α) :
    (asSublist l s == l.filter keep) = agree l keep s := by
  rw [Bool.eq_iff_iff]
  simp only [asSublist, agree, beq_iff_eq, List.all_eq_true]
  constructor
  · intro h x hx
    have hm : x ∈ l.filter (fun x => s.contains x) ↔ x ∈ l.filter keep := by rw [h]
    simp only [List.mem_filter, hx, true_and] at hm
    exact Bool.eq_iff_iff.mpr hm
  · intro h
    apply List.filter_congr
    intro x hx
    exact h x hx

omit [DecidableEq α] in
theorem sumRat_filter_const (l : List α) (keep : α → Bool) (c : Rat) :
    sumRat (l.map fun x => if keep x then c else 0) = (l.filter keep).length * c := by
  induction l with
  | nil => simp
  | cons a l ih =>
    simp only [List.map_cons, sumRat_cons, ih, List.filter_cons]
    cases keep a <;> simp; ring

theorem length_filter_erase (l : List α) (hn : l.Nodup) (keep : α → Bool) (x : α) (hx : x ∈ l)
    (hk : keep x = true) : ((l.erase x).filter keep).length + 1 = (l.filter keep).length := by
  have h1 : (l.erase x).filter keep = (l.filter keep).erase x := by
    rw [hn.erase_eq_filter, (hn.filter keep).erase_eq_filter, List.filter_filter, List.filter_filter]
    apply List.filter_congr
    intro y _
    exact Bool.and_comm _ _
  have hm : x ∈ l.filter keep := List.mem_filter.mpr ⟨hx, hk⟩
  rw [h1, List.length_erase_of_mem hm]
  have : 0 < (l.filter keep).length := List.length_pos_of_mem hm
  omega

theorem ordered_law (k : Nat) : ∀ (l : List α), l.Nodup → ∀ keep : α → Bool,
    Dist.mass (orderedSampleDist l k) (agree l keep)
      = if k = (l.filter keep).length then 1 / (choose l.length k : Rat) else 0 := by
  induction k with
  | zero =>
    intro l _ keep
    simp only [orderedSampleDist, Dist.mass_pure, choose, Nat.cast_one, div_one]
    have : (agree l keep [] = true) ↔ 0 = (l.filter keep).length := by
      rw [eq_comm (a := 0), List.length_eq_zero_iff, List.filter_eq_nil_iff]; simp [agree]
    simp only [this]
  | succ k ih =>
    intro l hn keep
    simp only [orderedSampleDist]
    rw [Dist.mass_uniformIdx_bind]
    let F : Option α → Rat := fun o => match o with
      | none => 0
      | some x => 1 / (l.length : Rat) *
          Dist.mass (Dist.push (x :: ·) (orderedSampleDist (l.erase x) k)) (agree l keep)
    rw [sumRat_map_congr _ _ (fun i => F l[i]?)]
    · rw [sumRat_range_getElem? l F]
      have hterm : ∀ x ∈ l, F (some x) = if keep x then
          1 / (l.length : Rat) * (if k + 1 = (l.filter keep).length
            then 1 / (choose (l.length - 1) k : Rat) else 0) else 0 := by
        intro x hx
        simp only [F]
        rw [mass_push]
        cases hkx : keep x with
        | false =>
          rw [mass_eq_zero, mul_zero]; · simp
          intro y _
          rw [Bool.eq_false_iff]
          intro h
          simp only [agree, List.all_eq_true, beq_iff_eq] at h
          have := h x hx
          simp [hkx] at this
        | true =>
          have hc : Dist.mass (orderedSampleDist (l.erase x) k) (fun a => agree l keep (x :: a))
              = Dist.mass (orderedSampleDist (l.erase x) k) (agree (l.erase x) keep) := by
            apply mass_congr
            intro y _
            rw [Bool.eq_iff_iff]
            simp only [agree, List.all_eq_true, beq_iff_eq, hn.mem_erase_iff]
            constructor
            · intro h z hz
              have := h z hz.2
              simpa [hz.1] using this
            · intro h z hz
              by_cases hzx : z = x
              · subst hzx; simp [hkx]
              · have := h z ⟨hzx, hz⟩
                simpa [hzx] using this
          rw [hc, ih (l.erase x) (hn.erase x) keep, List.length_erase_of_mem hx]
          have hl := length_filter_erase l hn keep x hx hkx
          simp only [if_true]
          congr 1
          apply if_congr _ rfl rfl
          omega
      rw [sumRat_map_congr _ _ _ hterm, sumRat_filter_const]
      have hle : (l.filter keep).length ≤ l.length := List.length_filter_le _ _
      by_cases hm : k + 1 = (l.filter keep).length
      · rw [if_pos hm, if_pos hm, ← hm]
        obtain ⟨n, hn'⟩ : ∃ n, l.length = n + 1 := ⟨l.length - 1, by omega⟩
        rw [hn', Nat.add_sub_cancel]
        have h3 : ((n + 1 : Nat) : Rat) * (choose n k : Rat) = (choose (n + 1) (k + 1) : Rat) * ((k + 1 : Nat) : Rat) := by
          rw [choose_eq, choose_eq]
          exact_mod_cast Nat.add_one_mul_choose_eq n k
        rw [div_mul_div_comm, one_mul, h3, mul_one_div, mul_comm (choose (n + 1) (k + 1) : Rat),
          div_mul_cancel_left₀ (Nat.cast_ne_zero.2 k.succ_ne_zero), one_div]
      · rw [if_neg hm, if_neg hm]; simp
    · intro i hi
      have hi' := List.mem_range.mp hi
      simp only [F, List.getElem?_eq_getElem hi', hn.erase_getElem]

/-- forgetting the order of `random.sample(l,k)` gives the uniform `k`-subset, pointwise -/
theorem ordered_eq_sample (l : List α) (hn : l.Nodup) (keep : α → Bool) (k : Nat) :
    Dist.mass (Dist.push (asSublist l) (orderedSampleDist l k)) (fun s => s == l.filter keep)
      = Dist.mass (sampleDist l k) (fun s => s == l.filter keep) := by
  rw [mass_push, mass_sampleDist l hn keep k, ← ordered_law k l hn keep]
  apply mass_congr
  intro x _
  exact asSublist_beq_iff l keep x.1

omit [DecidableEq α] in
theorem ordered_total (k : Nat) : ∀ (l : List α), k ≤ l.length →
    Dist.mass (orderedSampleDist l k) (fun _ => true) = 1 := by
  induction k with
  | zero => intro l _; simp [orderedSampleDist, Dist.mass_pure]
  | succ k ih =>
    intro l hk
    simp only [orderedSampleDist]
    rw [Dist.mass_uniformIdx_bind, sumRat_map_congr _ _ (fun _ => 1 / (l.length : Rat))]
    · rw [sumRat_map_const, List.length_range]
      have : (0 : Rat) < (l.length : Rat) := by exact_mod_cast (by omega : 0 < l.length)
      exact mul_one_div_cancel this.ne'
    · intro i hi
      have hi' := List.mem_range.mp hi
      simp only [List.getElem?_eq_getElem hi']
      rw [mass_push, ih _ (by rw [List.length_eraseIdx_of_lt hi']; omega), mul_one]

end Ordered

/-! ### equality in law on every event -/
section Event

/-- a finite distribution supported on a duplicate-free list `S` is determined by its point masses on `S` -/
theorem mass_decomp {β : Type} [DecidableEq β] [BEq β] [LawfulBEq β] (d : Dist β) (S : List β) (hS : S.Nodup)
    (hsupp : ∀ x ∈ d, x.1 ∈ S) (P : β → Bool) :
    Dist.mass d P = sumRat (S.map fun s => if P s then Dist.mass d (fun b => b == s) else 0) := by
  induction d with
  | nil => rw [Dist.mass_nil, sumRat_map_zero]; intro c _; simp [Dist.mass_nil]
  | cons x xs ih =>
    obtain ⟨a, p⟩ := x
    have ha : a ∈ S := hsupp (a, p) List.mem_cons_self
    rw [Dist.mass_cons, ih (fun y hy => hsupp y (List.mem_cons_of_mem _ hy))]
    rw [sumRat_map_congr S (fun s => if P s then Dist.mass ((a, p) :: xs) (fun b => b == s) else 0)
        (fun s => (if P s then p else 0) * (if s = a then 1 else 0)
        + (if P s then Dist.mass xs (fun b => b == s) else 0)), sumRat_map_add,
      sumRat_indicator S a (fun s => if P s then p else 0) hS ha]
    intro s _
    rw [Dist.mass_cons]
    by_cases hs : s = a
    · subst hs; cases P s <;> simp
    · have : (a == s) = false := beq_eq_false_iff_ne.mpr (Ne.symm hs)
      cases P s <;> simp [this, hs]

variable {α : Type} [DecidableEq α]

theorem filter_contains_of_sublist {s l : List α} (h : s.Sublist l) (hn : l.Nodup) :
    l.filter (fun x => s.contains x) = s := by
  induction h with
  | slnil => rfl
  | @cons s l a h ih =>
    have hnd := List.nodup_cons.mp hn
    have : s.contains a = false := by
      rw [Bool.eq_false_iff]; intro hc
      exact hnd.1 (h.subset (by simpa using hc))
    rw [List.filter_cons, this]
    exact ih hnd.2
  | @cons_cons s l a h ih =>
    have hnd := List.nodup_cons.mp hn
    rw [List.filter_cons]
    simp only [List.contains_cons, beq_self_eq_true, Bool.true_or, if_true]
    congr 1
    have : l.filter (fun x => x == a || s.contains x) = l.filter (fun x => s.contains x) := by
      apply List.filter_congr
      intro x hx
      have : (x == a) = false := by
        rw [beq_eq_false_iff_ne]; rintro rfl; exact hnd.1 hx
      simp [this]
    rw [this, ih hnd.2]

omit [DecidableEq α] in
theorem recipients_support (l : List α) (q : Rat) (x : List α × Rat) (hx : x ∈ recipientsDist l q) :
    x.1 ∈ l.sublists := by
  simp only [recipientsDist, Dist.bind, sampleDist, List.mem_flatMap, List.mem_map] at hx
  obtain ⟨⟨k, p⟩, _, ⟨b, r⟩, ⟨s, hs, hb⟩, rfl⟩ := hx
  simp only [Prod.mk.injEq] at hb
  rw [List.mem_sublists, ← hb.1]
  exact (mem_sublistsLen l k s hs).1

theorem recipientsOrd_support (l : List α) (q : Rat) (x : List α × Rat) (hx : x ∈ recipientsOrdDist l q) :
    x.1 ∈ l.sublists := by
  simp only [recipientsOrdDist, Dist.bind, Dist.push, List.mem_flatMap, List.mem_map] at hx
  obtain ⟨⟨k, p⟩, _, ⟨b, r⟩, ⟨⟨s, r'⟩, _, hb⟩, rfl⟩ := hx
  simp only [Prod.mk.injEq] at hb
  rw [List.mem_sublists, ← hb.1]
  exact List.filter_sublist

/-- two distributions on the sublists of a duplicate-free `l` that give every sublist `l.filter keep` the same mass
agree on every event: every sublist `s` of `l` is `l.filter (s.contains ·)` -/
theorem mass_eq_of_filter_law {l : List α} (hn : l.Nodup) (d e : Dist (List α))
    (hd : ∀ x ∈ d, x.1 ∈ l.sublists) (he : ∀ x ∈ e, x.1 ∈ l.sublists)
    (h : ∀ keep : α → Bool,
      Dist.mass d (fun s => s == l.filter keep) = Dist.mass e (fun s => s == l.filter keep))
    (P : List α → Bool) : Dist.mass d P = Dist.mass e P := by
  rw [mass_decomp d _ (List.nodup_sublists.mpr hn) hd P, mass_decomp e _ (List.nodup_sublists.mpr hn) he P]
  apply sumRat_map_congr
  intro s hs
  have key := h fun x => s.contains x
  rw [filter_contains_of_sublist (List.mem_sublists.1 hs) hn] at key
  rw [key]

end Event

end FastSIRLaw
