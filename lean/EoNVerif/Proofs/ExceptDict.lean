import EoNVerif.Gen.PyTM
import EoNVerif.Proofs.ExceptStep
import EoNVerif.Proofs.TapeStep
import EoNVerif.Proofs.SumRat
import Mathlib.Logic.Function.Iterate
/-!
What the proofs about generated code share for loops in `Except String`: a loop whose body never raises is the pure fold
(`List.foldlM_pure_on`); a loop whose passes raise errors that do not depend on the state raises the first of them
(`foldlM_first`, `foldlM_guard`).  The lemmas of `Proofs/ExceptStep.lean` and the float division and `l[-1]` of
`Proofs/TapeStep.lean` are reachable under this file's namespace, `GenHelpProofs` (shared with `Proofs/GenHelp.lean`,
`DegList.lean`, the end of `GenGlue2.lean`).
-/

/-- `I` is what is known of the states the loop meets; for every lawful monad, so for `Except String` and the tape monad
alike -/
theorem List.foldlM_pure_on {m : Type → Type} [Monad m] [LawfulMonad m] {σ ι : Type} (body : σ → ι → m σ)
    (g : σ → ι → σ) (I : σ → Prop) (l : List ι) (h : ∀ s k, I s → k ∈ l → body s k = pure (g s k) ∧ I (g s k))
    (a : σ) (ha : I a) : l.foldlM body a = pure (l.foldl g a) ∧ I (l.foldl g a) := by
  induction l generalizing a with
  | nil => exact ⟨rfl, ha⟩
  | cons x t ih =>
    obtain ⟨h1, h2⟩ := h a x ha List.mem_cons_self
    rw [List.foldlM_cons, h1, pure_bind]
    exact ih (fun s k hs hk => h s k hs (List.mem_cons_of_mem _ hk)) _ h2

namespace GenHelpProofs
open PyTM

/-! ### the exception monad -/

export ExceptStep (ok_bind err_bind pure_eq_ok bind_ok bind_err bind_ok_inv)

@[simp] theorem throw_eq_err {α : Type} (e : String) : (throw e : Except String α) = .error e := rfl

export PyTM (fdiv_ok fdiv_zero listLast_concat)

/-! ### loops -/

theorem foldlM_ok_mem {σ ι : Type} (step : σ → ι → Except String σ) (h : σ → ι → σ) (l : List ι) (a : σ)
    (hs : ∀ k ∈ l, ∀ s, step s k = .ok (h s k)) : l.foldlM step a = .ok (l.foldl h a) :=
  (List.foldlM_pure_on step h (fun _ => True) l (fun s k _ hk => ⟨hs k hk s, trivial⟩) a trivial).1

theorem foldl_range_iterate {σ : Type} (h : σ → σ) (n : Nat) (a : σ) :
    (List.range n).foldl (fun s _ => h s) a = h^[n] a := by
  induction n generalizing a with
  | zero => rfl
  | succ n ih =>
    rw [List.range_succ, List.foldl_append, ih]
    simp only [List.foldl_cons, List.foldl_nil]
    rw [← Function.iterate_succ_apply' h n a]

theorem foldlM_range_iterate {σ : Type} (h : σ → σ) (n : Nat) (a : σ) :
    (List.range n).foldlM (fun s (_ : Nat) => (Except.ok (h s) : Except String σ)) a = .ok (h^[n] a) := by
  rw [← foldl_range_iterate]; exact List.foldlM_pure

theorem foldlM_range_error {σ : Type} (e : String) (n : Nat) (hn : 0 < n) (a : σ)
    (body : σ → Nat → Except String σ) (hb : ∀ s i, body s i = .error e) :
    (List.range n).foldlM body a = .error e := by
  obtain ⟨m, rfl⟩ := Nat.exists_eq_succ_of_ne_zero hn.ne'
  rw [List.range_succ_eq_map]
  simp [List.foldlM_cons, hb]

theorem foldl_add_sum {ι : Type} (g : ι → Rat) (l : List ι) (a : Rat) :
    l.foldl (fun acc k => acc + g k) a = a + sumRat (l.map g) :=
  foldl_acc_sumRat id _ g l (fun _ _ _ => rfl) a

theorem fold_keys_ok (step : Rat → Nat → Except String Rat) (g : Nat → Rat) (l : List Nat) (a : Rat)
    (h : ∀ k ∈ l, ∀ acc, step acc k = .ok (acc + g k)) :
    l.foldlM step a = .ok (a + sumRat (l.map g)) := by
  rw [foldlM_ok_mem step (fun acc k => acc + g k) l a h, foldl_add_sum]

/-- a loop each of whose passes either raises an error that does not depend on the state, or updates the state:
the loop raises the FIRST such error (in iteration order), otherwise it is the fold of the updates -/
theorem foldlM_first {σ ι : Type} (step : σ → ι → Except String σ) (h : σ → ι → σ) (err : ι → Option String)
    (l : List ι) (a : σ)
    (hs : ∀ k ∈ l, ∀ s, step s k = match err k with | some e => .error e | none => .ok (h s k)) :
    l.foldlM step a = match l.findSome? err with | some e => .error e | none => .ok (l.foldl h a) := by
  induction l generalizing a with
  | nil => rfl
  | cons x t ih =>
    rw [List.foldlM_cons, hs x List.mem_cons_self, List.findSome?_cons]
    cases hx : err x with
    | some e => rfl
    | none =>
      simp only [ok_bind, List.foldl_cons]
      exact ih _ (fun k hk => hs k (List.mem_cons_of_mem _ hk))

theorem findSome_guard {ι : Type} (p : ι → Prop) [DecidablePred p] (e : String) (l : List ι) :
    l.findSome? (fun k => if p k then none else some e) = if ∀ k ∈ l, p k then none else some e := by
  induction l with
  | nil => rfl
  | cons x r ih =>
    simp only [List.findSome?_cons, List.forall_mem_cons, ih]
    by_cases hx : p x <;> simp only [hx, if_true, if_false, true_and, false_and]

/-- `foldlM_first` for one kind of error -/
theorem foldlM_guard {σ ι : Type} (step : σ → ι → Except String σ) (h : σ → ι → σ) (p : ι → Prop) [DecidablePred p]
    (e : String) (l : List ι) (a : σ) (hs : ∀ k ∈ l, ∀ s, step s k = if p k then .ok (h s k) else .error e) :
    l.foldlM step a = if ∀ k ∈ l, p k then .ok (l.foldl h a) else .error e := by
  rw [foldlM_first step h (fun k => if p k then none else some e) l a
    (fun k hk s => by rw [hs k hk]; split <;> rfl), findSome_guard]
  by_cases hp : ∀ k ∈ l, p k
  · rw [if_pos hp, if_pos hp]
  · rw [if_neg hp, if_neg hp]

theorem foldl_pair {α β ι : Type} (f : α → ι → α) (g : β → ι → β) (l : List ι) (a : α) (b : β) :
    l.foldl (fun st x => (f st.1 x, g st.2 x)) (a, b) = (l.foldl f a, l.foldl g b) := by
  induction l generalizing a b with
  | nil => rfl
  | cons x t ih => simp only [List.foldl_cons]; exact ih _ _

theorem forIn_ok_of_mem {α σ : Type} (l : List α) (f : α → σ → Except String (ForInStep σ)) (g : α → σ → σ)
    (h : ∀ a ∈ l, ∀ s, f a s = .ok (.yield (g a s))) (s : σ) :
    forIn l s f = .ok (l.foldl (fun s a => g a s) s) := by
  induction l generalizing s with
  | nil => rfl
  | cons a t ih =>
    rw [List.forIn_cons, h a List.mem_cons_self s]
    exact ih (fun b hb s => h b (List.mem_cons_of_mem _ hb) s) (g a s)

theorem forIn_ok_yield {α σ : Type} (l : List α) (g : α → σ → σ) (s : σ) :
    forIn l s (fun a r => (Except.ok (ForInStep.yield (g a r)) : Except String (ForInStep σ)))
      = .ok (l.foldl (fun s a => g a s) s) :=
  forIn_ok_of_mem l _ g (fun _ _ _ => rfl) s

theorem mapM_ok_mem {ε α β : Type} (f : α → Except ε β) (g : α → β) (l : List α) (h : ∀ a ∈ l, f a = .ok (g a)) :
    l.mapM f = .ok (l.map g) := by
  induction l with
  | nil => rfl
  | cons a t ih =>
    rw [List.mapM_cons, h a List.mem_cons_self, ih (fun b hb => h b (List.mem_cons_of_mem _ hb))]; rfl

theorem mapM_pure {ε α β : Type} (g : α → β) (l : List α) :
    l.mapM (fun a => (Except.ok (g a) : Except ε β)) = .ok (l.map g) :=
  mapM_ok_mem _ g l (fun _ _ => rfl)

theorem mapM_cases {α β : Type} (f : α → Except String β) (l : List α) :
    (∃ ys, l.mapM f = .ok ys ∧ ∀ a ∈ l, ∃ y, f a = .ok y) ∨ (∃ e, l.mapM f = .error e ∧ ∃ a ∈ l, f a = .error e) := by
  induction l with
  | nil => exact .inl ⟨[], rfl, fun _ h => nomatch h⟩
  | cons a t ih =>
    rw [List.mapM_cons]
    cases ha : f a with
    | error e => exact .inr ⟨e, rfl, a, List.mem_cons_self, ha⟩
    | ok y =>
      rcases ih with ⟨ys, hys, hall⟩ | ⟨e, he, b, hb, hbe⟩
      · refine .inl ⟨y :: ys, by rw [ok_bind, hys]; rfl, fun b hb => ?_⟩
        rcases List.mem_cons.mp hb with rfl | hb
        · exact ⟨y, ha⟩
        · exact hall b hb
      · exact .inr ⟨e, by rw [ok_bind, he]; rfl, b, List.mem_cons_of_mem _ hb, hbe⟩

end GenHelpProofs
