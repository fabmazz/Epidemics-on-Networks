import EoNVerif.Gen.ListDictGen
import EoNVerif.Model.GenLDOps
import EoNVerif.Proofs.ListDict
import EoNVerif.Proofs.AssocList
import EoNVerif.Proofs.ExceptStep
/-!
Refinement (C16b): the Lean code GENERATED statement by statement from the Python class `_ListDict_`
(`EoNVerif/Gen/ListDictGen.lean`) against the hand-written model `LD` (`EoNVerif/Model/ListDict.lean`).

Forward (`remove_sim`, `update_sim`, `insert_sim`, `applyOps_sim_from`): whenever `LD` performs the
operation the generated code returns normally in a related state.  Backward (`*_sim_back`, `applyOps_sim_back_from`): every
normal return is a step of `LD`, provided a weight is passed iff the structure is weighted (`opTyped`).  `remove` needs
`LD.Inv l`: no duplicates (the position map survives the swap) and a weight entry for every listed item (`weight.pop` does
not raise); histories therefore need non-negative weights (`LD.inv_step`).  The two repairs of the running total in
`remove` are identities under `LD.Inv` (`remTotal`, `ld_remove_closed`).
-/

namespace GenLD
open ExceptStep (ok_bind pure_eq_ok)
section DD
variable {κ : Type} [DecidableEq κ]

theorem alGet_ddTouch (d : List (κ × Rat)) (x y : κ) : alGet (PyRT.ddTouch d x) 0 y = alGet d 0 y := by
  unfold PyRT.ddTouch
  split
  · rfl
  · rename_i h
    by_cases hy : y = x
    · subst hy
      rw [alGet_alSet_self, alGet_of_not_alHas d y 0 (alHas_eq_false_of_not d y h)]
    · exact alGet_alSet_ne d x y 0 0 hy

theorem ddTouch_alSet (d : List (κ × Rat)) (x : κ) (v : Rat) : PyRT.ddTouch (alSet d x v) x = alSet d x v :=
  ddTouch_of_alHas _ _ ((alHas_alSet d x x v).2 (Or.inr rfl))

end DD

section Lists
variable {α : Type} [DecidableEq α]

theorem idxOf_set_self (l : List α) (i : Nat) (z : α) (hz : z ∉ l) (hi : i < l.length) :
    (l.set i z).idxOf z = i := by
  induction l generalizing i with
  | nil => simp at hi
  | cons a t ih =>
    cases i with
    | zero => simp
    | succ j =>
      have ha : a ≠ z := fun h => hz (by simp [h])
      have hz' : z ∉ t := fun h => hz (by simp [h])
      rw [List.set_cons_succ, List.idxOf_cons_ne _ ha, ih j hz' (by simpa using hi)]

theorem idxOf_set_ne (l : List α) (i : Nat) (y z : α) (hy : y ≠ z) (hi : l.idxOf y ≠ i) :
    (l.set i z).idxOf y = l.idxOf y := by
  induction l generalizing i with
  | nil => simp
  | cons a t ih =>
    cases i with
    | zero =>
      have ha : a ≠ y := by
        intro h; apply hi; simp [h]
      rw [List.set_cons_zero, List.idxOf_cons_ne _ (Ne.symm hy), List.idxOf_cons_ne _ ha]
    | succ j =>
      rw [List.set_cons_succ]
      by_cases ha : a = y
      · simp [ha]
      · rw [List.idxOf_cons_ne _ ha, List.idxOf_cons_ne _ ha]
        rw [List.idxOf_cons_ne _ ha] at hi
        rw [ih j (by omega)]

omit [DecidableEq α] in
theorem listPop_concat (l₀ : List α) (z : α) : PyRT.listPop (l₀ ++ [z]) = .ok (z, l₀) := by
  simp [PyRT.listPop, pure, Except.pure]

omit [DecidableEq α] in
theorem listSet_of_lt (l : List α) (i : Nat) (v : α) (h : i < l.length) :
    PyRT.listSet l i v = .ok (l.set i v) := by
  simp [PyRT.listSet, h, pure, Except.pure]

theorem dictPop_of_find {κ ν : Type} [DecidableEq κ] (d : List (κ × ν)) (k : κ) (v : ν)
    (h : PyRT.alFind? d k = some v) : PyRT.dictPop d k = .ok (v, alDel d k) := by
  simp [PyRT.dictPop, h, pure, Except.pure]

theorem dictPop_of_not_has {κ ν : Type} [DecidableEq κ] (d : List (κ × ν)) (k : κ)
    (h : alHas d k = false) : PyRT.dictPop d k = .error "KeyError" := by
  simp [PyRT.dictPop, alFind?_of_not_has d k h, throw, throwThe, MonadExceptOf.throw]

theorem error_bind {ε β γ : Type} (e : ε) (f : β → Except ε γ) : (Except.error e >>= f) = Except.error e :=
  ExceptStep.err_bind e f

end Lists
variable {α : Type} [DecidableEq α]

/-- `itp` (the Python dict `item_to_position`) is exactly the position map of the list `items` -/
def PosMap (itp : List (α × Nat)) (items : List α) : Prop :=
  (∀ x, alHas itp x = true ↔ x ∈ items) ∧ (∀ x ∈ items, PyRT.alFind? itp x = some (items.idxOf x))

theorem posMap_nil : PosMap ([] : List (α × Nat)) [] := by
  constructor
  · intro x; simp [alHas]
  · intro x hx; simp at hx

/-- removing the last element of the list: only the dictionary entry is deleted -/
theorem posMap_remove_last (itp : List (α × Nat)) (l₀ : List α) (x : α) (hn : (l₀ ++ [x]).Nodup)
    (h : PosMap itp (l₀ ++ [x])) : PosMap (alDel itp x) l₀ := by
  have hnd := List.nodup_append.1 hn
  have hnot : x ∉ l₀ := fun h => hnd.2.2 x h x (by simp) rfl
  constructor
  · intro y
    rw [alHas_alDel, h.1 y]
    constructor
    · rintro ⟨h1, h2⟩
      rcases List.mem_append.1 h1 with h3 | h3
      · exact h3
      · simp at h3; exact absurd h3 h2
    · intro hy
      exact ⟨List.mem_append_left _ hy, fun hyx => hnot (hyx ▸ hy)⟩
  · intro y hy
    have hyx : y ≠ x := fun hyx => hnot (hyx ▸ hy)
    rw [alFind?_alDel_ne _ _ _ hyx, h.2 y (List.mem_append_left _ hy), List.idxOf_append_of_mem hy]

/-- removing an inner element: the last element `z` is moved into its slot and re-registered there -/
theorem posMap_remove_mid (itp : List (α × Nat)) (l₀ : List α) (x z : α) (hn : (l₀ ++ [z]).Nodup)
    (hx : x ∈ l₀) (h : PosMap itp (l₀ ++ [z])) :
    PosMap (alSet (alDel itp x) z (l₀.idxOf x)) (l₀.set (l₀.idxOf x) z) := by
  have hnd := List.nodup_append.1 hn
  have hz : z ∉ l₀ := fun h => hnd.2.2 z h z (by simp) rfl
  have hxz : x ≠ z := fun h => hz (h ▸ hx)
  have hi : l₀.idxOf x < l₀.length := List.idxOf_lt_length_of_mem hx
  have hmem : ∀ y, y ∈ l₀.set (l₀.idxOf x) z ↔ ((y ∈ l₀ ∧ y ≠ x) ∨ y = z) := by
    intro y
    have hp := (LD.set_idxOf_perm l₀ x z hx).mem_iff (a := y)
    rw [hp, List.mem_cons, hnd.1.mem_erase_iff]
    constructor
    · rintro (h1 | ⟨h1, h2⟩)
      · exact Or.inr h1
      · exact Or.inl ⟨h2, h1⟩
    · rintro (⟨h1, h2⟩ | h1)
      · exact Or.inr ⟨h2, h1⟩
      · exact Or.inl h1
  constructor
  · intro y
    rw [alHas_alSet, alHas_alDel, h.1 y, hmem y]
    constructor
    · rintro (⟨h1, h2⟩ | h1)
      · rcases List.mem_append.1 h1 with h3 | h3
        · exact Or.inl ⟨h3, h2⟩
        · simp at h3; exact Or.inr h3
      · exact Or.inr h1
    · rintro (⟨h1, h2⟩ | h1)
      · exact Or.inl ⟨List.mem_append_left _ h1, h2⟩
      · exact Or.inr h1
  · intro y hy
    rw [alFind?_alSet]
    by_cases hyz : y = z
    · subst hyz
      rw [if_pos rfl, idxOf_set_self l₀ _ y hz hi]
    · rw [if_neg hyz]
      rcases (hmem y).1 hy with ⟨h1, h2⟩ | h1
      · rw [alFind?_alDel_ne _ _ _ h2, h.2 y (List.mem_append_left _ h1), List.idxOf_append_of_mem h1]
        have : l₀.idxOf y ≠ l₀.idxOf x := fun hh => h2 ((List.idxOf_inj h1).1 hh)
        rw [idxOf_set_ne l₀ _ y z hyz this]
      · exact absurd h1 hyz

/-- appending a new element and registering it at position `len(items)-1` -/
theorem posMap_append (itp : List (α × Nat)) (l : List α) (x : α) (hx : x ∉ l) (h : PosMap itp l) :
    PosMap (alSet itp x (Int.toNat (((l ++ [x]).length : Int) - (1 : Int)))) (l ++ [x]) := by
  have hlen : Int.toNat (((l ++ [x]).length : Int) - (1 : Int)) = l.length := by
    simp
  rw [hlen]
  constructor
  · intro y
    rw [alHas_alSet, h.1 y]; simp
  · intro y hy
    rw [alFind?_alSet]
    by_cases hyx : y = x
    · subst hyx
      rw [if_pos rfl, List.idxOf_append_of_notMem hx]; simp
    · rw [if_neg hyx]
      have hy' : y ∈ l := by
        rcases List.mem_append.1 hy with h1 | h1
        · exact h1
        · simp at h1; exact absurd h1 hyx
      rw [h.2 y hy', List.idxOf_append_of_mem hy']

/-- **Simulation relation** between the state `p` of the generated code and the state `l` of the hand-written model:
every modelled attribute is equal, and the attribute the hand model abstracts away (`item_to_position`) is exactly
the position map of `items`. -/
structure R (p : PyLD α) (l : LD α) : Prop where
  items : p.items = l.items
  weighted : p.weighted = l.weighted
  weight : p.weight = l.weight
  maxW : p.max_weight = l.maxW
  maxCnt : p.max_weight_count = l.maxCnt
  total : p.total_weight_ = l.total
  pos_keys : ∀ x, alHas p.item_to_position x = true ↔ x ∈ p.items
  pos_val : ∀ x ∈ p.items, PyRT.alFind? p.item_to_position x = some (p.items.idxOf x)

theorem R.posMap {p : PyLD α} {l : LD α} (h : R p l) : PosMap p.item_to_position p.items := ⟨h.pos_keys, h.pos_val⟩

theorem R_toLD {p : PyLD α} {l : LD α} (h : R p l) : l = toLD p := by
  obtain ⟨lwd, litems, lwt, lmw, lmc, ltw⟩ := l
  obtain ⟨h1, h2, h3, h4, h5, h6, -, -⟩ := h
  simp only at h1 h2 h3 h4 h5 h6
  subst h1 h2 h3 h4 h5 h6
  rfl

theorem init_R (b : Bool) : R (init b : PyLD α) (LD.empty b) :=
  ⟨rfl, rfl, rfl, rfl, rfl, rfl, posMap_nil.1, posMap_nil.2⟩

theorem contains_iff {p : PyLD α} {l : LD α} (h : R p l) (x : α) : contains__ p x = true ↔ x ∈ l.items := by
  unfold contains__; rw [h.pos_keys, h.items]

theorem swapRemove_concat (l₀ : List α) (x z : α) :
    LD.swapRemove (l₀ ++ [z]) x =
      if (l₀ ++ [z]).idxOf x ≠ l₀.length then l₀.set ((l₀ ++ [z]).idxOf x) z else l₀ := by
  simp [LD.swapRemove, ite_not]

theorem posMap_remove (itp : List (α × Nat)) (l₀ : List α) (x z : α) (hn : (l₀ ++ [z]).Nodup)
    (hx : x ∈ l₀ ++ [z]) (h : PosMap itp (l₀ ++ [z])) :
    PosMap (if (l₀ ++ [z]).idxOf x ≠ l₀.length then alSet (alDel itp x) z ((l₀ ++ [z]).idxOf x) else alDel itp x)
      (if (l₀ ++ [z]).idxOf x ≠ l₀.length then l₀.set ((l₀ ++ [z]).idxOf x) z else l₀) := by
  by_cases hxz : x = z
  · subst hxz
    have hnot : x ∉ l₀ := fun h => (List.nodup_append.1 hn).2.2 x h x (by simp) rfl
    rw [List.idxOf_append_of_notMem hnot, List.idxOf_cons_self, Nat.add_zero, if_neg (not_not.2 rfl),
      if_neg (not_not.2 rfl)]
    exact posMap_remove_last itp l₀ x hn h
  · have hx0 : x ∈ l₀ := by simpa [hxz] using hx
    rw [List.idxOf_append_of_mem hx0, if_pos (List.idxOf_lt_length_of_mem hx0).ne,
      if_pos (List.idxOf_lt_length_of_mem hx0).ne]
    exact posMap_remove_mid itp l₀ x z hn hx0 h

omit [DecidableEq α] in
theorem update_max_weight_ok (s : PyLD α) (h : s.weight ≠ []) :
    update_max_weight s = .ok { s with
      max_weight := LD.foldMax (s.weight.map (·.2)),
      max_weight_count := (((s.weight.map (·.2)).filter (· == LD.foldMax (s.weight.map (·.2)))).length : Int) } := by
  obtain ⟨itp, items, wd, wt, mw, tw, mc⟩ := s
  cases wt with
  | nil => exact absurd rfl h
  | cons a t =>
    simp [update_max_weight, PyRT.maxOf, PyRT.countEq, LD.foldMax, pure, Except.pure, bind, Except.bind]

theorem ite_ok_congr {ε β : Type} {c : Prop} [Decidable c] (A B : β) (h : c → A = B) :
    (if c then Except.ok A else Except.ok B : Except ε β) = Except.ok B := by
  split
  · rw [h ‹_›]
  · rfl

theorem bind_eq_ok {ε β γ : Type} {m : Except ε β} {F : β → Except ε γ} (a : β) {b : γ} (hm : m = .ok a)
    (hF : F a = .ok b) : (m >>= F) = .ok b := by
  rw [hm]; exact hF

/-- closed form of the maximum bookkeeping of the generated `remove` (`n` = number of items left) -/
def remMax (wt' : List (α × Rat)) (n : Nat) (w mw : Rat) (mc : Int) : Rat × Int :=
  if n = 0 then (0, 0) else
    if w = mw then
      if mc - 1 = 0 then
        (LD.foldMax (wt'.map (·.2)), (((wt'.map (·.2)).filter (· == LD.foldMax (wt'.map (·.2)))).length : Int))
      else (mw, mc - 1)
    else (mw, mc)

/-- closed form of the running total after the generated `remove`: 0 for an emptied list, recomputed from the table
when it is `<= 0` with items left -/
def remTotal (wt' : List (α × Rat)) (n : Nat) (t : Rat) : Rat :=
  if n = 0 then 0 else if t ≤ 0 then PyRT.sumVals wt' else t

/-- the first half of `remove`, on a structure with either flag: the entry of `x` is popped, and the last item `z`
is moved into the slot `pos` of `x` unless that was the last slot -/
theorem remove_pos_part (l₀ : List α) (z : α) (wd : Bool) (wt : List (α × Rat)) (mw tw : Rat)
    (mc : Int) (pos : Nat) (hpos : pos ≤ l₀.length) (itp' : List (α × Nat)) :
    (if decide (pos ≠ l₀.length) = true then
        PyRT.listSet l₀ pos z >>= fun l' => Except.ok (⟨alSet itp' z pos, l', wd, wt, mw, tw, mc⟩ : PyLD α)
      else Except.ok ⟨itp', l₀, wd, wt, mw, tw, mc⟩ : Except String (PyLD α)) =
    .ok ⟨if pos ≠ l₀.length then alSet itp' z pos else itp', if pos ≠ l₀.length then l₀.set pos z else l₀,
      wd, wt, mw, tw, mc⟩ := by
  by_cases hp : pos = l₀.length
  · simp only [hp, ne_eq, not_true_eq_false, decide_false, Bool.false_eq_true, if_false]
  · simp only [ne_eq, hp, not_false_eq_true, decide_true, if_true,
      listSet_of_lt _ _ _ (Nat.lt_of_le_of_ne hpos hp), ok_bind]

/-- **what the generated `remove` computes** on a weighted structure, in closed form.  `hne` keeps `max(C.keys())`
in `_update_max_weight` from raising `ValueError` on an empty table; `remove_sim` gets it from `LD.Inv.keys`. -/
theorem remove_eval_weighted (itp : List (α × Nat)) (l₀ : List α) (z x : α) (wt : List (α × Rat)) (mw tw : Rat)
    (mc : Int) (pos : Nat) (w : Rat)
    (hfind : PyRT.alFind? itp x = some pos) (hpos : pos ≤ l₀.length)
    (hfw : PyRT.alFind? wt x = some w) (hne : l₀ ≠ [] → alDel wt x ≠ []) :
    remove ⟨itp, l₀ ++ [z], true, wt, mw, tw, mc⟩ x = .ok
      ⟨if pos ≠ l₀.length then alSet (alDel itp x) z pos else alDel itp x,
       if pos ≠ l₀.length then l₀.set pos z else l₀, true, alDel wt x,
       (remMax (alDel wt x) l₀.length w mw mc).1, remTotal (alDel wt x) l₀.length (tw - w),
       (remMax (alDel wt x) l₀.length w mw mc).2⟩ := by
  simp only [remove, dictPop_of_find _ _ _ hfind, listPop_concat, ok_bind, pure_eq_ok]
  refine bind_eq_ok _ (remove_pos_part l₀ z true wt mw tw mc pos hpos _) ?_
  -- the weight bookkeeping reads the new list only through its length `n`
  have hl : (if pos ≠ l₀.length then l₀.set pos z else l₀).length = l₀.length := by
    split <;> simp only [List.length_set]
  have hne' : l₀.length ≠ 0 → alDel wt x ≠ [] := fun h => hne (fun e => h (by rw [e]; rfl))
  generalize (if pos ≠ l₀.length then alSet (alDel itp x) z pos else alDel itp x) = itp'
  generalize (if pos ≠ l₀.length then l₀.set pos z else l₀) = items' at hl
  generalize l₀.length = n at hl hne'
  subst hl
  simp only [if_true, dictPop_of_find _ _ _ hfw, ok_bind, len__]
  -- first the running total, then the maximum
  refine bind_eq_ok ⟨itp', items', true, alDel wt x, mw, remTotal (alDel wt x) items'.length (tw - w), mc⟩ ?_ ?_
  · simp only [remTotal, decide_eq_true_eq]
    split_ifs <;> rfl
  · dsimp only
    by_cases hn : items'.length = 0
    · by_cases hmax : w = mw <;>
        simp only [hn, hmax, decide_true, decide_false, if_true, if_false, Bool.false_eq_true, Bool.and_false,
          gt_iff_lt, lt_self_iff_false, ok_bind, remMax]
    · have hnil : items' ≠ [] := fun e => hn (by rw [e]; rfl)
      by_cases hmax : w = mw
      · by_cases hc : mc - 1 = 0 <;>
          simp only [hmax, hc, hn, hnil, hne' hn, update_max_weight_ok, decide_true, decide_false, ↓reduceIte,
            gt_iff_lt, Nat.pos_iff_ne_zero, ne_eq, not_false_eq_true, Bool.and_self, Bool.and_true,
            Bool.false_eq_true, List.length_eq_zero_iff, decide_eq_true_eq, ok_bind, remMax]
      · simp only [hmax, hn, hnil, decide_false, Bool.false_eq_true, ↓reduceIte, List.length_eq_zero_iff,
          decide_eq_true_eq, ok_bind, remMax]

theorem remove_eval_unweighted (itp : List (α × Nat)) (l₀ : List α) (z x : α) (wt : List (α × Rat)) (mw tw : Rat)
    (mc : Int) (pos : Nat) (hfind : PyRT.alFind? itp x = some pos) (hpos : pos ≤ l₀.length) :
    remove ⟨itp, l₀ ++ [z], false, wt, mw, tw, mc⟩ x = .ok
      ⟨if pos ≠ l₀.length then alSet (alDel itp x) z pos else alDel itp x,
       if pos ≠ l₀.length then l₀.set pos z else l₀, false, wt, mw, tw, mc⟩ := by
  simp only [remove, dictPop_of_find _ _ _ hfind, listPop_concat, ok_bind, pure_eq_ok]
  exact bind_eq_ok _ (remove_pos_part l₀ z false wt mw tw mc pos hpos _) rfl

/-- the hand model's `remove` on a weighted structure in the same closed form (under the invariant the two repairs of
the running total are identities) -/
theorem ld_remove_closed (l l' : LD α) (x : α) (hI : LD.Inv l) (hwt : l.weighted = true) (hx : x ∈ l.items)
    (hrem : l.remove x = some l') :
    l'.items = LD.swapRemove l.items x ∧ l'.weighted = true ∧ l'.weight = alDel l.weight x ∧
      l'.maxW = (remMax (alDel l.weight x) (LD.swapRemove l.items x).length (l.getW x) l.maxW l.maxCnt).1 ∧
      l'.maxCnt = (remMax (alDel l.weight x) (LD.swapRemove l.items x).length (l.getW x) l.maxW l.maxCnt).2 ∧
      l'.total = remTotal (alDel l.weight x) (LD.swapRemove l.items x).length (l.total - l.getW x) := by
  have hI' : LD.Inv l' := LD.inv_remove l l' x hI hx hrem
  obtain ⟨s'', hs'', hit, hwd, hrest⟩ := LD.remove_shape l x hx
  rw [hrem] at hs''
  obtain rfl : l' = s'' := Option.some.inj hs''
  obtain ⟨hw', htot', -⟩ := hrest hwt
  have hwt' : l'.weighted = true := by rw [hwd, hwt]
  have hmax : l'.maxW = (remMax (alDel l.weight x) (LD.swapRemove l.items x).length (l.getW x) l.maxW l.maxCnt).1 ∧
      l'.maxCnt = (remMax (alDel l.weight x) (LD.swapRemove l.items x).length (l.getW x) l.maxW l.maxCnt).2 := by
    unfold LD.remove at hrem
    simp only [hx, hwt, if_true] at hrem
    unfold remMax
    by_cases hn : (LD.swapRemove l.items x).length = 0 <;> by_cases hmax : l.getW x = l.maxW <;>
      by_cases hc : l.maxCnt - 1 = 0 <;>
      simp [hn, hmax, hc, LD.forgetMax, LD.recomputeMax, LD.foldMax, Nat.pos_of_ne_zero] at hrem ⊢ <;>
      (subst hrem; simp)
  refine ⟨hit, hwt', hw', hmax.1, hmax.2, ?_⟩
  unfold remTotal
  rw [← htot']
  by_cases hn : (LD.swapRemove l.items x).length = 0
  · rw [if_pos hn, hI'.total hwt']
    have : l'.items = [] := by rw [hit]; exact List.eq_nil_of_length_eq_zero hn
    simp [LD.weightSum, this]
  · rw [if_neg hn]
    split
    · rw [hI'.total hwt', ← LD.sumVals_eq_weightSum l' hI' hwt', hw']; rfl
    · rfl

theorem mem_of_remove_some (l l' : LD α) (x : α) (h : l.remove x = some l') : x ∈ l.items := by
  by_contra hx
  unfold LD.remove at h
  rw [if_neg hx] at h; simp at h

/-- **forward simulation of `remove`**: whenever the hand model removes `x`, the generated
code returns normally and the results are related -/
theorem remove_sim (p : PyLD α) (l l' : LD α) (x : α) (hR : R p l) (hI : LD.Inv l)
    (hrem : l.remove x = some l') : ∃ p', remove p x = .ok p' ∧ R p' l' := by
  have hx := mem_of_remove_some l l' x hrem
  have hI' : LD.Inv l' := LD.inv_remove l l' x hI hx hrem
  obtain ⟨l₀, z, hl⟩ : ∃ l₀ z, l.items = l₀ ++ [z] :=
    ⟨_, _, (List.dropLast_append_getLast (List.ne_nil_of_mem hx)).symm⟩
  obtain ⟨itp, items, wd, wt, mw, tw, mc⟩ := p
  obtain ⟨h1, h2, h3, h4, h5, h6, h7, h8⟩ := hR
  simp only at h1 h2 h3 h4 h5 h6 h7 h8
  obtain rfl : items = l₀ ++ [z] := h1.trans hl
  subst h3 h4 h5 h6
  have hx' : x ∈ l₀ ++ [z] := hl ▸ hx
  have hfind := h8 x hx'
  have hpos : (l₀ ++ [z]).idxOf x ≤ l₀.length := by
    have := List.idxOf_lt_length_of_mem hx'
    rw [List.length_append, List.length_singleton] at this
    omega
  have hpm := posMap_remove itp l₀ x z (hl ▸ hI.nodup) hx' ⟨h7, h8⟩
  have hsw : LD.swapRemove l.items x =
      if (l₀ ++ [z]).idxOf x ≠ l₀.length then l₀.set ((l₀ ++ [z]).idxOf x) z else l₀ := by
    rw [hl]; exact swapRemove_concat l₀ x z
  generalize (l₀ ++ [z]).idxOf x = pos at hfind hpos hpm hsw
  cases wd with
  | false =>
    refine ⟨_, remove_eval_unweighted itp l₀ z x _ _ _ _ pos hfind hpos, ?_⟩
    unfold LD.remove at hrem
    simp only [hx, ← h2, if_true, Bool.false_eq_true, if_false, hsw] at hrem
    obtain rfl := Option.some.inj hrem
    exact ⟨rfl, rfl, rfl, rfl, rfl, rfl, hpm.1, hpm.2⟩
  | true =>
    have hwt : l.weighted = true := h2.symm
    obtain ⟨c1, c2, c3, c4, c5, c6⟩ := ld_remove_closed l l' x hI hwt hx hrem
    have hlen : (LD.swapRemove l.items x).length = l₀.length := by
      rw [hsw]; split <;> simp only [List.length_set]
    rw [hlen] at c4 c5 c6
    have hne : l₀ ≠ [] → alDel l.weight x ≠ [] := by
      intro h0 hh
      have : l'.items ≠ [] := fun e => h0 (List.eq_nil_of_length_eq_zero (by rw [← hlen, ← c1, e]; rfl))
      obtain ⟨y, hy⟩ := List.exists_mem_of_ne_nil _ this
      have := (hI'.keys c2 y).2 hy
      rw [c3, hh] at this; simp [alHas] at this
    refine ⟨_, remove_eval_weighted itp l₀ z x l.weight l.maxW l.total l.maxCnt pos (alGet l.weight 0 x) hfind hpos
      (alFind?_of_has l.weight x 0 ((hI.keys hwt x).2 hx)) hne, ?_⟩
    exact ⟨(c1.trans hsw).symm, c2.symm, c3.symm, c4.symm, c5.symm, c6.symm, hpm.1, hpm.2⟩

/-- the one documented failure of `remove`: an absent item raises `KeyError` (`item_to_position.pop`), exactly when
the hand model returns `none` -/
theorem remove_keyError (p : PyLD α) (l : LD α) (x : α) (hR : R p l) (hx : x ∉ l.items) :
    remove p x = .error "KeyError" ∧ l.remove x = none := by
  constructor
  · have : alHas p.item_to_position x = false := by
      apply alHas_eq_false_of_not
      rw [hR.pos_keys, hR.items]; exact hx
    simp only [remove, dictPop_of_not_has _ _ this, ExceptStep.err_bind]
  · unfold LD.remove; rw [if_neg hx]

theorem remove_sim_back (p p' : PyLD α) (l : LD α) (x : α) (hR : R p l) (hI : LD.Inv l)
    (hrem : remove p x = .ok p') : ∃ l', l.remove x = some l' ∧ R p' l' := by
  by_cases hx : x ∈ l.items
  · obtain ⟨l', hl', -⟩ := LD.remove_shape l x hx
    obtain ⟨p'', hp'', hR'⟩ := remove_sim p l l' x hR hI hl'
    rw [hrem] at hp''
    obtain rfl := Except.ok.inj hp''
    exact ⟨l', hl', hR'⟩
  · rw [(remove_keyError p l x hR hx).1] at hrem
    exact absurd hrem (by simp)

/-- the closing statements of `update`: an item not yet listed is appended and registered at the last position -/
theorem register_sim (x : α) (itp : List (α × Nat)) (items : List α) (wd : Bool) (wt : List (α × Rat)) (mw tw : Rat)
    (mc : Int) (l' : LD α) (hpm : PosMap itp items)
    (h : (if x ∈ items then some (⟨wd, items, wt, mw, mc, tw⟩ : LD α)
      else some ⟨wd, items ++ [x], wt, mw, mc, tw⟩) = some l') :
    ∃ p', (if alHas itp x = true then Except.ok ⟨itp, items, wd, wt, mw, tw, mc⟩ else
        Except.ok ⟨alSet itp x (Int.toNat (((items ++ [x]).length : Int) - (1 : Int))), items ++ [x], wd, wt, mw, tw,
          mc⟩) = (Except.ok p' : Except String (PyLD α)) ∧ R p' l' := by
  by_cases c4 : x ∈ items
  · rw [if_pos c4] at h
    obtain rfl := Option.some.inj h
    rw [if_pos ((hpm.1 x).2 c4)]
    exact ⟨_, rfl, rfl, rfl, rfl, rfl, rfl, rfl, hpm.1, hpm.2⟩
  · rw [if_neg c4] at h
    obtain rfl := Option.some.inj h
    rw [if_neg (fun hh => c4 ((hpm.1 x).1 hh))]
    have hpm' := posMap_append itp items x c4 hpm
    exact ⟨_, rfl, rfl, rfl, rfl, rfl, rfl, rfl, hpm'.1, hpm'.2⟩

/-- **forward simulation of `update`**: whenever the hand model performs the update, the
generated code returns normally and the results are related.  (The insertion-on-read of the `defaultdict`, which the
hand model does not have, never changes the outcome.) -/
theorem update_sim (p : PyLD α) (l l' : LD α) (x : α) (w : Option Rat) (hR : R p l)
    (hupd : l.update x w = some l') : ∃ p', update p x w = .ok p' ∧ R p' l' := by
  obtain ⟨itp, items, wd, wt, mw, tw, mc⟩ := p
  obtain ⟨lwd, litems, lwt, lmw, lmc, ltw⟩ := l
  obtain ⟨h1, h2, h3, h4, h5, h6, h7, h8⟩ := hR
  simp only at h1 h2 h3 h4 h5 h6 h7 h8
  subst h1 h2 h3 h4 h5 h6
  cases w with
  | none =>
    have hwd : wd = false := by
      cases wd with
      | false => rfl
      | true => simp [LD.update] at hupd
    subst hwd
    simp only [LD.update, Bool.false_eq_true, if_false] at hupd
    simp only [update, contains__, pure_eq_ok, Bool.false_eq_true, if_false, ok_bind]
    exact register_sim x _ _ _ _ _ _ _ l' ⟨h7, h8⟩ hupd
  | some w =>
    have hwd : wd = true := by
      cases wd with
      | true => rfl
      | false => simp [LD.update] at hupd
    subst hwd
    simp only [LD.update, LD.getW, Bool.not_true, Bool.false_eq_true, if_false] at hupd
    simp only [update, alGet_ddTouch, alSet_ddTouch, ddTouch_alSet, contains__, pure_eq_ok]
    -- the weight bookkeeping, case by case; the statements after it are `register_sim`
    by_cases c : ¬ w > 0 ∧ alGet wt 0 x = mw
    · -- non-positive increment on an item of maximal weight: the count is decremented twice
      obtain ⟨c0, c1⟩ := c
      simp only [c0, c1, decide_false, if_false, Bool.false_eq_true, ok_bind, ne_eq, not_true_eq_false, or_self,
        ite_self, alGet_ddTouch, alSet_ddTouch] at hupd ⊢
      rw [show mc - 1 - 1 = mc - 2 by omega]
      exact register_sim x _ _ _ _ _ _ _ l' ⟨h7, h8⟩ hupd
    · -- otherwise the first statement sets the flag `c_1`, whichever way
      have c01 : w > 0 ∨ alGet wt 0 x ≠ mw := by
        by_cases c0 : w > 0
        · exact Or.inl c0
        · exact Or.inr fun h => c ⟨c0, h⟩
      simp only [c01, if_true] at hupd
      by_cases c0 : w > 0
      case' pos => simp only [c0, decide_true, if_true, ok_bind]
      case' neg =>
        have c1 : alGet wt 0 x ≠ mw := c01.resolve_left c0
        simp only [c0, c1, decide_true, decide_false, if_true, if_false, Bool.false_eq_true, ok_bind, ne_eq,
          not_false_eq_true, alGet_ddTouch, alSet_ddTouch]
      all_goals
        by_cases c2 : alGet wt 0 x + w > mw
        · simp only [c2, decide_true, if_true, ok_bind, alGet_alSet_self] at hupd ⊢
          exact register_sim x _ _ _ _ _ _ _ l' ⟨h7, h8⟩ hupd
        · by_cases c3 : alGet wt 0 x + w = mw <;>
            simp only [c2, c3, decide_true, decide_false, if_true, if_false, Bool.false_eq_true, ok_bind,
              alGet_alSet_self, lt_self_iff_false] at hupd ⊢ <;>
            exact register_sim x _ _ _ _ _ _ _ l' ⟨h7, h8⟩ hupd

/-- backward simulation of `update`, for the calls the simulators make (a weight is passed iff the structure is
weighted) -/
theorem update_sim_back (p p' : PyLD α) (l : LD α) (x : α) (w : Option Rat) (hR : R p l)
    (hw : w.isSome = l.weighted) (hupd : update p x w = .ok p') : ∃ l', l.update x w = some l' ∧ R p' l' := by
  obtain ⟨l', hl'⟩ := LD.update_exists l x w hw
  obtain ⟨p'', hp'', hR'⟩ := update_sim p l l' x w hR hl'
  rw [hupd] at hp''
  obtain rfl := Except.ok.inj hp''
  exact ⟨l', hl', hR'⟩


/-- **forward simulation of `insert`** (`remove` if present, then `update` unless the weight
is 0) -/
theorem insert_sim (p : PyLD α) (l l' : LD α) (x : α) (w : Option Rat) (hR : R p l) (hI : LD.Inv l)
    (hins : l.insert x w = some l') : ∃ p', insert p x w = .ok p' ∧ R p' l' := by
  have hc := contains_iff hR x
  have key : ∀ (p1 : PyLD α) (l1 : LD α), R p1 l1 →
      (if w ≠ some 0 then l1.update x w else some l1) = some l' →
      ∃ p', (if decide (w ≠ some 0) = true then update p1 x w else Except.ok p1) = .ok p' ∧ R p' l' := by
    intro p1 l1 hR1 h2
    by_cases hw0 : w ≠ some 0
    · rw [if_pos hw0] at h2
      rw [if_pos (decide_eq_true hw0)]
      exact update_sim p1 l1 l' x w hR1 h2
    · rw [if_neg hw0] at h2
      obtain rfl := Option.some.inj h2
      rw [if_neg (fun h => hw0 (of_decide_eq_true h))]
      exact ⟨_, rfl, hR1⟩
  simp only [LD.insert, bind, Option.bind] at hins
  simp only [insert, pure_eq_ok]
  by_cases hx : x ∈ l.items
  · have hx' := hc.2 hx
    rw [if_pos hx] at hins
    cases hr : l.remove x with
    | none => rw [hr] at hins; simp at hins
    | some l1 =>
      rw [hr] at hins
      obtain ⟨p1, hp1, hR1⟩ := remove_sim p l l1 x hR hI hr
      simp only [hx', if_true, hp1, ok_bind]
      exact key p1 l1 hR1 hins
  · have hx' : contains__ p x = false := by
      cases h : contains__ p x with
      | false => rfl
      | true => exact absurd (hc.1 h) hx
    rw [if_neg hx] at hins
    simp only [hx', Bool.false_eq_true, if_false, ok_bind]
    exact key p l hR hins


theorem remove_weighted (l l' : LD α) (x : α) (h : l.remove x = some l') : l'.weighted = l.weighted := by
  have hx := mem_of_remove_some l l' x h
  obtain ⟨l'', h'', -, hw, -⟩ := LD.remove_shape l x hx
  rw [h] at h''
  obtain rfl := Option.some.inj h''
  exact hw

theorem insert_weighted (l l' : LD α) (x : α) (w : Option Rat) (h : l.insert x w = some l') :
    l'.weighted = l.weighted := by
  simp only [LD.insert, bind, Option.bind] at h
  have key : ∀ l1 : LD α, l1.weighted = l.weighted →
      (if w ≠ some 0 then l1.update x w else some l1) = some l' → l'.weighted = l.weighted := by
    intro l1 h1 h2
    split_ifs at h2
    · rw [(LD.update_any l1 l' x w h2).1, h1]
    · obtain rfl := Option.some.inj h2; exact h1
  by_cases hx : x ∈ l.items
  · rw [if_pos hx] at h
    cases hr : l.remove x with
    | none => rw [hr] at h; simp at h
    | some l1 =>
      rw [hr] at h
      exact key l1 (remove_weighted l l1 x hr) h
  · rw [if_neg hx] at h
    exact key l rfl h

theorem insert_isSome (l : LD α) (x : α) (w : Option Rat) (hw : w.isSome = l.weighted) :
    ∃ l', l.insert x w = some l' := by
  simp only [LD.insert, bind, Option.bind]
  have key : ∀ l1 : LD α, l1.weighted = l.weighted →
      ∃ l', (if w ≠ some 0 then l1.update x w else some l1) = some l' := by
    intro l1 h1
    split_ifs
    · exact LD.update_exists l1 x w (by rw [h1]; exact hw)
    · exact ⟨_, rfl⟩
  by_cases hx : x ∈ l.items
  · rw [if_pos hx]
    obtain ⟨l1, hr, -⟩ := LD.remove_shape l x hx
    rw [hr]
    exact key l1 (remove_weighted l l1 x hr)
  · rw [if_neg hx]
    exact key l rfl

theorem insert_sim_back (p p' : PyLD α) (l : LD α) (x : α) (w : Option Rat) (hR : R p l) (hI : LD.Inv l)
    (hw : w.isSome = l.weighted) (hins : insert p x w = .ok p') : ∃ l', l.insert x w = some l' ∧ R p' l' := by
  obtain ⟨l', hl'⟩ := insert_isSome l x w hw
  obtain ⟨p'', hp'', hR'⟩ := insert_sim p l l' x w hR hI hl'
  rw [hins] at hp''
  obtain rfl := Except.ok.inj hp''
  exact ⟨l', hl', hR'⟩

theorem applyOp_sim (p : PyLD α) (l l' : LD α) (o : LD.Op α) (hR : R p l) (hI : LD.Inv l)
    (h : l.applyOp o = some l') : ∃ p', applyOp p o = .ok p' ∧ R p' l' := by
  cases o with
  | ins x w => exact insert_sim p l l' x w hR hI h
  | upd x w => exact update_sim p l l' x w hR h
  | rem x => exact remove_sim p l l' x hR hI h

theorem applyOp_sim_back (p p' : PyLD α) (l : LD α) (o : LD.Op α) (hR : R p l) (hI : LD.Inv l)
    (ht : opTyped l.weighted o = true) (h : applyOp p o = .ok p') : ∃ l', l.applyOp o = some l' ∧ R p' l' := by
  cases o with
  | ins x w => exact insert_sim_back p p' l x w hR hI (by simpa [opTyped] using ht) h
  | upd x w => exact update_sim_back p p' l x w hR (by simpa [opTyped] using ht) h
  | rem x => exact remove_sim_back p p' l x hR hI h

theorem applyOp_weighted (l l' : LD α) (o : LD.Op α) (h : l.applyOp o = some l') : l'.weighted = l.weighted := by
  cases o with
  | ins x w => exact insert_weighted l l' x w h
  | upd x w => exact (LD.update_any l l' x w h).1
  | rem x => exact remove_weighted l l' x h

theorem applyOps_sim_from (p : PyLD α) (l l' : LD α) (ops : List (LD.Op α)) (hR : R p l) (hI : LD.Inv l)
    (hw : ∀ o ∈ ops, o.nonneg) (h : l.applyOps ops = some l') :
    ∃ p', applyOps p ops = .ok p' ∧ R p' l' := by
  induction ops generalizing p l with
  | nil =>
    simp only [LD.applyOps] at h
    obtain rfl := Option.some.inj h
    exact ⟨p, rfl, hR⟩
  | cons o os ih =>
    simp only [LD.applyOps] at h
    cases ho : l.applyOp o with
    | none => rw [ho] at h; simp at h
    | some l1 =>
      rw [ho] at h
      obtain ⟨p1, hp1, hR1⟩ := applyOp_sim p l l1 o hR hI ho
      have hI1 := LD.inv_step l l1 o hI (hw o (by simp)) ho
      obtain ⟨p', hp', hR'⟩ := ih p1 l1 hR1 hI1 (fun o' ho' => hw o' (by simp [ho'])) h
      refine ⟨p', ?_, hR'⟩
      simp only [applyOps, hp1, hp']

theorem applyOps_sim_back_from (p p' : PyLD α) (l : LD α) (ops : List (LD.Op α)) (hR : R p l) (hI : LD.Inv l)
    (hw : ∀ o ∈ ops, o.nonneg) (ht : ∀ o ∈ ops, opTyped l.weighted o = true) (h : applyOps p ops = .ok p') :
    ∃ l', l.applyOps ops = some l' ∧ R p' l' := by
  induction ops generalizing p l with
  | nil =>
    simp only [applyOps] at h
    obtain rfl := Except.ok.inj h
    exact ⟨l, rfl, hR⟩
  | cons o os ih =>
    simp only [applyOps] at h
    cases ho : applyOp p o with
    | error e => rw [ho] at h; simp at h
    | ok p1 =>
      rw [ho] at h
      obtain ⟨l1, hl1, hR1⟩ := applyOp_sim_back p p1 l o hR hI (ht o (by simp)) ho
      have hI1 := LD.inv_step l l1 o hI (hw o (by simp)) hl1
      have hwd := applyOp_weighted l l1 o hl1
      obtain ⟨l', hl', hR'⟩ := ih p1 l1 hR1 hI1 (fun o' ho' => hw o' (by simp [ho']))
        (fun o' ho' => by rw [hwd]; exact ht o' (by simp [ho'])) h
      refine ⟨l', ?_, hR'⟩
      simp only [LD.applyOps, hl1, hl']

/-- **selection**: on every tape of draws the generated `choose_random` returns what the hand model's `chooseRandom`
selects, and fails when it fails (draws exhausted, index out of range).  Its only possible state change, the
`defaultdict` read `self.weight[choice]`, is void because every listed item has a weight entry: the state is returned
unchanged. -/
theorem choose_random_eq (p : PyLD α) (l : LD α) (draws : List (Nat × Rat)) (hR : R p l) (hI : LD.Inv l) :
    (choose_random p draws).toOption = (l.chooseRandom draws).map fun ck => (p, ck.1) := by
  obtain ⟨itp, items, wd, wt, mw, tw, mc⟩ := p
  obtain ⟨lwd, litems, lwt, lmw, lmc, ltw⟩ := l
  obtain ⟨h1, h2, h3, h4, h5, h6, h7, h8⟩ := hR
  simp only at h1 h2 h3 h4 h5 h6 h7 h8
  subst h1 h2 h3 h4 h5 h6
  induction draws with
  | nil => rfl
  | cons d rest ih =>
    obtain ⟨i, r⟩ := d
    rw [choose_random, LD.chooseRandom]
    cases hi : items[i]? with
    | none => simp only [PyRT.listChoice, hi]; rfl
    | some c =>
      simp only [PyRT.listChoice, hi, pure_eq_ok, ok_bind]
      cases wd with
      | false => rfl
      | true =>
        have htouch : PyRT.ddTouch wt c = wt :=
          ddTouch_of_alHas _ _ ((hI.keys rfl c).2 (List.mem_of_getElem? hi))
        simp only [if_true, htouch, Bool.not_true, Bool.false_eq_true, if_false]
        rw [show LD.acceptThr ⟨true, items, wt, mw, mc, tw⟩ c = alGet wt 0 c / mw from rfl]
        by_cases hacc : r < alGet wt 0 c / mw
        · rw [if_pos hacc, if_pos hacc]; rfl
        · rw [if_neg hacc, if_neg hacc, ih, Option.map_map]; rfl

theorem choose_random_sim (p : PyLD α) (l : LD α) (draws : List (Nat × Rat)) (c : α) (k : Nat)
    (hR : R p l) (hI : LD.Inv l) (h : l.chooseRandom draws = some (c, k)) :
    choose_random p draws = .ok (p, c) := by
  have := choose_random_eq p l draws hR hI
  rw [h] at this
  cases hc : choose_random p draws with
  | error e => rw [hc] at this; cases this
  | ok q => rw [hc] at this; exact congrArg Except.ok (Option.some.inj this)

theorem choose_random_sim_back (p p' : PyLD α) (l : LD α) (draws : List (Nat × Rat)) (c : α)
    (hR : R p l) (hI : LD.Inv l) (h : choose_random p draws = .ok (p', c)) :
    p' = p ∧ ∃ k, l.chooseRandom draws = some (c, k) := by
  have := choose_random_eq p l draws hR hI
  rw [h] at this
  cases hc : l.chooseRandom draws with
  | none => rw [hc] at this; cases this
  | some ck =>
    rw [hc] at this
    obtain ⟨rfl, rfl⟩ := Prod.mk.inj (Option.some.inj this)
    exact ⟨rfl, ck.2, rfl⟩
theorem total_weight_sim (p : PyLD α) (l : LD α) (hR : R p l) : total_weight p = .ok (p, l.totalWeight) := by
  unfold total_weight LD.totalWeight len__
  rw [hR.weighted, hR.total, hR.items]
  split <;> rfl

end GenLD
