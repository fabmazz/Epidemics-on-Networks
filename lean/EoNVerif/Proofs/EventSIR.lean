import EoNVerif.Model.EventSIR
import EoNVerif.Proofs.AssocList
import EoNVerif.Proofs.ERat
import Mathlib.Tactic.Linarith
import Mathlib.Algebra.Order.Field.Rat
import Mathlib.Data.List.Perm.Subperm
/-!
Weighted walks in the kept-edge digraph (times in `ERat`, whose order is in `Proofs/ERat.lean`), and the two
fixed-point computations of the specification of `fast_nonMarkov_SIR`: `fppTime` (Bellman–Ford rounds: attained by a
walk, a lower bound for every walk) and `outComp` (reachability).
-/

namespace EventSIR

theorem emin_le_left (a b : ERat) : ERat.le (emin a b) a = true := by
  unfold emin; split
  · exact ERat.le_refl a
  · rename_i h; cases a <;> cases b <;> simp_all; linarith
theorem emin_le_right (a b : ERat) : ERat.le (emin a b) b = true := by
  unfold emin; split
  · assumption
  · exact ERat.le_refl b
theorem emin_cases (a b : ERat) : emin a b = a ∨ emin a b = b := by
  unfold emin; split <;> simp

/-- `GW I E t0 v p t`: `v :: p` is (in reverse order) a walk from a node of `I` to `v` along edges of `E`, of
total weight `t - t0`. -/
inductive GW (I : Node → Prop) (E : Node → Node → Rat → Prop) (t0 : Rat) : Node → List Node → Rat → Prop
  | init (v : Node) : I v → GW I E t0 v [] t0
  | step (u v : Node) (p : List Node) (t d : Rat) : GW I E t0 u p t → E u v d → GW I E t0 v (u :: p) (t + d)

section GWlemmas
variable {I : Node → Prop} {E : Node → Node → Rat → Prop} {t0 : Rat}

theorem GW.mem_nodes {nodes : List Node} (hI : ∀ v, I v → v ∈ nodes) (hE : ∀ u v d, E u v d → u ∈ nodes → v ∈ nodes)
    {v : Node} {p : List Node} {t : Rat} (h : GW I E t0 v p t) : ∀ x ∈ v :: p, x ∈ nodes := by
  induction h with
  | init v hv => intro x hx; simp at hx; subst hx; exact hI _ hv
  | step u v p t d _ he ih =>
    intro x hx
    rcases List.mem_cons.1 hx with rfl | hx
    · exact hE _ _ _ he (ih u (List.mem_cons_self ..))
    · exact ih x hx

theorem GW.suffix (hd : ∀ u v d, E u v d → 0 ≤ d) {u : Node} {p : List Node} {t : Rat} (h : GW I E t0 u p t)
    (v : Node) (hv : v ∈ u :: p) : ∃ q t', GW I E t0 v q t' ∧ (v :: q) <:+ (u :: p) ∧ t' ≤ t := by
  induction h with
  | init u hu =>
    simp at hv; subst hv
    exact ⟨[], t0, GW.init _ hu, List.suffix_refl _, le_refl _⟩
  | step u0 u p t d hw he ih =>
    rcases List.mem_cons.1 hv with rfl | hv
    · exact ⟨u0 :: p, t + d, GW.step _ _ _ _ _ hw he, List.suffix_refl _, le_refl _⟩
    · obtain ⟨q, t', h1, h2, h3⟩ := ih hv
      refine ⟨q, t', h1, ?_, ?_⟩
      · exact h2.trans (List.suffix_cons _ _)
      · have := hd _ _ _ he; linarith

theorem GW.nodup (hd : ∀ u v d, E u v d → 0 ≤ d) {v : Node} {p : List Node} {t : Rat} (h : GW I E t0 v p t) :
    ∃ p' t', GW I E t0 v p' t' ∧ (v :: p').Nodup ∧ t' ≤ t := by
  induction h with
  | init v hv => exact ⟨[], t0, GW.init _ hv, by simp, le_refl _⟩
  | step u v p t d _ he ih =>
    obtain ⟨p', t', h1, h2, h3⟩ := ih
    by_cases hv : v ∈ u :: p'
    · obtain ⟨q, t'', g1, g2, g3⟩ := GW.suffix hd h1 v hv
      refine ⟨q, t'', g1, h2.sublist g2.sublist, ?_⟩
      have := hd _ _ _ he; linarith
    · exact ⟨u :: p', t' + d, GW.step _ _ _ _ _ h1 he, List.nodup_cons.2 ⟨hv, h2⟩, by linarith⟩

theorem GW.short {nodes : List Node} (hI : ∀ v, I v → v ∈ nodes) (hE : ∀ u v d, E u v d → u ∈ nodes → v ∈ nodes)
    (hd : ∀ u v d, E u v d → 0 ≤ d) {v : Node} {p : List Node} {t : Rat} (h : GW I E t0 v p t) :
    ∃ p' t', GW I E t0 v p' t' ∧ p'.length + 1 ≤ nodes.length ∧ t' ≤ t := by
  obtain ⟨p', t', h1, h2, h3⟩ := GW.nodup hd h
  refine ⟨p', t', h1, ?_, h3⟩
  have hsub : (v :: p') ⊆ nodes := fun x hx => GW.mem_nodes hI hE h1 x hx
  have := (List.subperm_of_subset h2 hsub).length_le
  simpa using this

theorem GW.t0_le (hd : ∀ u v d, E u v d → 0 ≤ d) {v : Node} {p : List Node} {t : Rat} (h : GW I E t0 v p t) :
    t0 ≤ t := by
  induction h with
  | init v hv => exact le_refl _
  | step u v p t d _ he ih => have := hd _ _ _ he; linarith

end GWlemmas

def Et (nbrs : Node → List Node) (delay : Node → Node → ERat) (dur : Node → ERat) (recs : List Node)
    (u v : Node) (d : Rat) : Prop :=
  keeps nbrs delay dur u v = true ∧ v ∉ recs ∧ delay u v = some d

def It (infs recs : List Node) (v : Node) : Prop := v ∈ infs ∧ v ∉ recs

abbrev TW (nbrs : Node → List Node) (delay : Node → Node → ERat) (dur : Node → ERat) (tmin : Rat)
    (infs recs : List Node) : Node → List Node → Rat → Prop :=
  GW (It infs recs) (Et nbrs delay dur recs) tmin

structure WF (nodes : List Node) (nbrs : Node → List Node) (delay : Node → Node → ERat) (dur : Node → ERat)
    (infs recs : List Node) : Prop where
  nodup : nodes.Nodup
  nbr_nodup : ∀ u ∈ nodes, (nbrs u).Nodup
  nbr_mem : ∀ u ∈ nodes, ∀ v ∈ nbrs u, v ∈ nodes
  delay_nonneg : ∀ u v d, delay u v = some d → 0 ≤ d
  dur_nonneg : ∀ u d, dur u = some d → 0 ≤ d
  infs_nodup : infs.Nodup
  infs_mem : ∀ u ∈ infs, u ∈ nodes
  recs_mem : ∀ u ∈ recs, u ∈ nodes
  disjoint : ∀ u ∈ infs, u ∉ recs

def tableParams (nodes : List Node) (nbrs : Node → List Node) (delay : Node → Node → ERat) (dur : Node → ERat)
    (tmin : Rat) (tmax : ERat) : ESParams :=
  { nodes := nodes, nbrs := nbrs, joint := jointOfTables delay dur, tmin := tmin, tmax := tmax }

/-- recoveries reported by a run: rows in which `I` decreases are not recorded with the node in the state, so the
recovery list is reconstructed from `recTime` for the nodes whose final status is `R` (this is what the
implementation's full-data bookkeeping does: `recovery_times = {node:time for (node,time) in rec_time.items() if
status[node] == 'R'}` in `fast_nonMarkov_SIR`) -/
def recoveriesOf (nodes recs : List Node) (s : ESState) : List (Rat × Node) :=
  nodes.filterMap fun v =>
    if s.status v = St.R ∧ v ∉ recs then (match s.recTime v with | some t => some (t, v) | none => none) else none

/-- the kept-edge digraph of the percolation builders and its out-component (`get_infected_nodes`) -/
inductive Reach (nbrs : Node → List Node) (delay : Node → Node → ERat) (dur : Node → ERat) (infs recs : List Node) :
    Node → Prop
  | init (v : Node) : v ∈ infs → v ∉ recs → Reach nbrs delay dur infs recs v
  | step (u v : Node) : Reach nbrs delay dur infs recs u → keeps nbrs delay dur u v = true → v ∉ recs →
      Reach nbrs delay dur infs recs v

section Graph
variable {nodes : List Node} {nbrs : Node → List Node} {delay : Node → Node → ERat} {dur : Node → ERat}
  {infs recs : List Node}

theorem keeps_iff {u v : Node} :
    keeps nbrs delay dur u v = true ↔ v ∈ nbrs u ∧ ERat.le (delay u v) (dur u) = true := by
  unfold keeps
  rw [Bool.and_eq_true, List.contains_iff_mem]

theorem keeps_mem (h : WF nodes nbrs delay dur infs recs) {u v : Node} (hk : keeps nbrs delay dur u v = true)
    (hu : u ∈ nodes) : v ∈ nodes :=
  h.nbr_mem u hu v (keeps_iff.1 hk).1

theorem It_mem (h : WF nodes nbrs delay dur infs recs) : ∀ v, It infs recs v → v ∈ nodes :=
  fun v hv => h.infs_mem v hv.1
theorem Et_mem (h : WF nodes nbrs delay dur infs recs) :
    ∀ u v d, Et nbrs delay dur recs u v d → u ∈ nodes → v ∈ nodes :=
  fun _ _ _ he hu => keeps_mem h he.1 hu
theorem Et_nonneg (h : WF nodes nbrs delay dur infs recs) : ∀ u v d, Et nbrs delay dur recs u v d → 0 ≤ d :=
  fun u v d he => h.delay_nonneg u v d he.2.2

theorem TW.not_recs {tmin : Rat} {v : Node} {p : List Node} {t : Rat}
    (hw : TW nbrs delay dur tmin infs recs v p t) : v ∉ recs := by
  cases hw with
  | init _ hv => exact hv.2
  | step u _ p t d _ he => exact he.2.1

end Graph

theorem iter_succ' {α : Type} (f : α → α) (n : Nat) (x : α) : iter f (n + 1) x = f (iter f n x) := by
  induction n generalizing x with
  | zero => rfl
  | succ n ih => rw [iter, ih]; rfl

section Fold
variable (c : Node → Prop) [DecidablePred c] (g : Node → ERat)

theorem foldl_emin_le_init (l : List Node) (a : ERat) :
    ERat.le (l.foldl (fun acc u => if c u then emin acc (g u) else acc) a) a = true := by
  induction l generalizing a with
  | nil => exact ERat.le_refl a
  | cons x l ih =>
    simp only [List.foldl_cons]
    refine ERat.le_trans (ih _) ?_
    split
    · exact emin_le_left _ _
    · exact ERat.le_refl a

theorem foldl_emin_le_term (l : List Node) (a : ERat) (u : Node) (hu : u ∈ l) (hc : c u) :
    ERat.le (l.foldl (fun acc u => if c u then emin acc (g u) else acc) a) (g u) = true := by
  induction l generalizing a with
  | nil => simp at hu
  | cons x l ih =>
    simp only [List.foldl_cons]
    rcases List.mem_cons.1 hu with rfl | hu
    · refine ERat.le_trans (foldl_emin_le_init c g l _) ?_
      rw [if_pos hc]; exact emin_le_right _ _
    · exact ih _ hu

theorem foldl_emin_cases (l : List Node) (a : ERat) :
    l.foldl (fun acc u => if c u then emin acc (g u) else acc) a = a ∨
      ∃ u ∈ l, c u ∧ l.foldl (fun acc u => if c u then emin acc (g u) else acc) a = g u := by
  induction l generalizing a with
  | nil => left; rfl
  | cons x l ih =>
    simp only [List.foldl_cons]
    rcases ih (if c x then emin a (g x) else a) with h | ⟨u, hu, hc, h⟩
    · by_cases hx : c x
      · rw [if_pos hx] at h ⊢
        rcases emin_cases a (g x) with e | e
        · left; rw [h, e]
        · right; exact ⟨x, List.mem_cons_self .., hx, by rw [h, e]⟩
      · rw [if_neg hx] at h ⊢; left; exact h
    · right; exact ⟨u, List.mem_cons_of_mem _ hu, hc, h⟩
end Fold

section BF
variable (nodes : List Node) (nbrs : Node → List Node) (delay : Node → Node → ERat) (dur : Node → ERat)
  (tmin : Rat) (infs recs : List Node)

def Dk (k : Nat) (v : Node) : ERat :=
  alGet (iter (relax nodes nbrs delay dur recs) k
    (nodes.map fun v => (v, if v ∈ infs ∧ v ∉ recs then some tmin else none))) none v

theorem fppTime_eq : fppTime nodes nbrs delay dur tmin infs recs = Dk nodes nbrs delay dur tmin infs recs nodes.length := rfl

theorem Dk_zero (v : Node) : Dk nodes nbrs delay dur tmin infs recs 0 v =
    if v ∈ nodes then (if v ∈ infs ∧ v ∉ recs then some tmin else none) else none := by
  unfold Dk; rw [iter, alGet_map_mk]

theorem Dk_succ (k : Nat) (v : Node) : Dk nodes nbrs delay dur tmin infs recs (k + 1) v =
    if v ∈ nodes then
      (if v ∈ recs then none else
        nodes.foldl (fun acc u =>
          if u ∉ recs ∧ keeps nbrs delay dur u v then
            emin acc (ERat.add (Dk nodes nbrs delay dur tmin infs recs k u) (delay u v)) else acc)
          (Dk nodes nbrs delay dur tmin infs recs k v))
    else none := by
  unfold Dk; rw [iter_succ']; unfold relax; rw [alGet_map_mk]

variable {nodes nbrs delay dur tmin infs recs}

theorem Dk_walk (k : Nat) : ∀ (v : Node) (t : Rat), Dk nodes nbrs delay dur tmin infs recs k v = some t →
    ∃ p, TW nbrs delay dur tmin infs recs v p t := by
  induction k with
  | zero =>
    intro v t h
    rw [Dk_zero] at h
    split at h
    · split at h
      · rename_i hv; injection h with h; subst h; exact ⟨[], GW.init _ hv⟩
      · cases h
    · cases h
  | succ k ih =>
    intro v t h
    rw [Dk_succ] at h
    split at h
    · split at h
      · cases h
      · rename_i hn hr
        rcases foldl_emin_cases (fun u => u ∉ recs ∧ keeps nbrs delay dur u v = true)
          (fun u => ERat.add (Dk nodes nbrs delay dur tmin infs recs k u) (delay u v)) nodes
          (Dk nodes nbrs delay dur tmin infs recs k v) with e | ⟨u, hu, hc, e⟩
        · rw [e] at h; exact ih v t h
        · rw [e] at h
          obtain ⟨x, y, hx, hy, hxy⟩ := ERat.add_eq_some.1 h
          obtain ⟨p, hp⟩ := ih u x hx
          subst hxy
          exact ⟨u :: p, GW.step _ _ _ _ _ hp ⟨hc.2, hr, hy⟩⟩
    · cases h

theorem Dk_mono (k : Nat) (v : Node) (hr : v ∉ recs) :
    ERat.le (Dk nodes nbrs delay dur tmin infs recs (k + 1) v) (Dk nodes nbrs delay dur tmin infs recs k v) = true := by
  by_cases hn : v ∈ nodes
  · rw [Dk_succ, if_pos hn, if_neg hr]
    exact foldl_emin_le_init _ _ _ _
  · have : Dk nodes nbrs delay dur tmin infs recs k v = none := by
      cases k with
      | zero => rw [Dk_zero, if_neg hn]
      | succ k => rw [Dk_succ, if_neg hn]
    rw [this]; simp

theorem Dk_le_walk (h : WF nodes nbrs delay dur infs recs) {v : Node} {p : List Node} {t : Rat}
    (hw : TW nbrs delay dur tmin infs recs v p t) :
    ∀ k, p.length ≤ k → ERat.le (Dk nodes nbrs delay dur tmin infs recs k v) (some t) = true := by
  induction hw with
  | init v hv =>
    intro k hk
    clear hk
    induction k with
    | zero => rw [Dk_zero, if_pos (h.infs_mem v hv.1), if_pos (show v ∈ infs ∧ v ∉ recs from hv)]; simp
    | succ k ih => exact ERat.le_trans (Dk_mono k v hv.2) ih
  | step u v p t d hw he ih =>
    intro k hk
    cases k with
    | zero => simp at hk
    | succ k =>
      have hun : u ∈ nodes := GW.mem_nodes (It_mem h) (Et_mem h) hw u (List.mem_cons_self ..)
      have hvn : v ∈ nodes := Et_mem h _ _ _ he hun
      have hur : u ∉ recs := TW.not_recs hw
      rw [Dk_succ, if_pos hvn, if_neg he.2.1]
      refine ERat.le_trans (foldl_emin_le_term (fun u => u ∉ recs ∧ keeps nbrs delay dur u v = true)
        (fun u => ERat.add (Dk nodes nbrs delay dur tmin infs recs k u) (delay u v)) nodes _ u hun ⟨hur, he.1⟩) ?_
      have := ih k (by simpa using hk)
      have h2 := ERat.add_le_add_right (delay u v) this
      rw [he.2.2] at h2 ⊢
      simpa using h2

theorem fppTime_walk {v : Node} {t : Rat} (hv : fppTime nodes nbrs delay dur tmin infs recs v = some t) :
    ∃ p, TW nbrs delay dur tmin infs recs v p t := by
  rw [fppTime_eq] at hv; exact Dk_walk _ v t hv

theorem fppTime_le_walk (h : WF nodes nbrs delay dur infs recs) {v : Node} {p : List Node} {t : Rat}
    (hw : TW nbrs delay dur tmin infs recs v p t) :
    ERat.le (fppTime nodes nbrs delay dur tmin infs recs v) (some t) = true := by
  obtain ⟨p', t', h1, h2, h3⟩ := GW.short (It_mem h) (Et_mem h) (Et_nonneg h) hw
  rw [fppTime_eq]
  refine ERat.le_trans (Dk_le_walk h h1 nodes.length (by omega)) ?_
  simpa using h3

end BF

section OutComp
variable {nodes : List Node} {nbrs : Node → List Node} {delay : Node → Node → ERat} {dur : Node → ERat}
  {infs recs : List Node}

/-- the local `expand` of `outComp` under a name, so that `outComp = Ck … nodes.length` holds by `rfl` -/
def expandF (nodes : List Node) (nbrs : Node → List Node) (delay : Node → Node → ERat) (dur : Node → ERat)
    (recs : List Node) (cur : List Node) : List Node :=
  nodes.filter fun v => v ∉ recs ∧ (cur.contains v || cur.any fun u => keeps nbrs delay dur u v)

def Ck (nodes : List Node) (nbrs : Node → List Node) (delay : Node → Node → ERat) (dur : Node → ERat)
    (infs recs : List Node) (k : Nat) : List Node :=
  iter (expandF nodes nbrs delay dur recs) k (nodes.filter fun v => v ∈ infs ∧ v ∉ recs)

theorem mem_Ck_zero (v : Node) : v ∈ Ck nodes nbrs delay dur infs recs 0 ↔ v ∈ nodes ∧ v ∈ infs ∧ v ∉ recs := by
  simp [Ck, iter]

theorem mem_Ck_succ (k : Nat) (v : Node) : v ∈ Ck nodes nbrs delay dur infs recs (k + 1) ↔
    v ∈ nodes ∧ v ∉ recs ∧ (v ∈ Ck nodes nbrs delay dur infs recs k ∨
      ∃ u ∈ Ck nodes nbrs delay dur infs recs k, keeps nbrs delay dur u v = true) := by
  unfold Ck; rw [iter_succ']; unfold expandF; simp

theorem Ck_reach (k : Nat) : ∀ v, v ∈ Ck nodes nbrs delay dur infs recs k → Reach nbrs delay dur infs recs v := by
  induction k with
  | zero => intro v hv; rw [mem_Ck_zero] at hv; exact Reach.init v hv.2.1 hv.2.2
  | succ k ih =>
    intro v hv; rw [mem_Ck_succ] at hv
    rcases hv.2.2 with h | ⟨u, hu, hk⟩
    · exact ih v h
    · exact Reach.step u v (ih u hu) hk hv.2.1

theorem Ck_mono (k : Nat) (v : Node) (hv : v ∈ Ck nodes nbrs delay dur infs recs k) :
    v ∈ Ck nodes nbrs delay dur infs recs (k + 1) := by
  rw [mem_Ck_succ]
  cases k with
  | zero => rw [mem_Ck_zero] at hv; exact ⟨hv.1, hv.2.2, Or.inl ((mem_Ck_zero v).2 hv)⟩
  | succ k => have := (mem_Ck_succ k v).1 hv; exact ⟨this.1, this.2.1, Or.inl hv⟩

theorem Ck_mono_le {k j : Nat} (hkj : k ≤ j) (v : Node) (hv : v ∈ Ck nodes nbrs delay dur infs recs k) :
    v ∈ Ck nodes nbrs delay dur infs recs j := by
  induction hkj with
  | refl => exact hv
  | step _ ih => exact Ck_mono _ v ih

/-- reachability as walks of weight 0: `GW.short` then bounds the expansion rounds of `outComp` as it does the rounds of `fppTime` -/
def Er (nbrs : Node → List Node) (delay : Node → Node → ERat) (dur : Node → ERat) (recs : List Node)
    (u v : Node) (d : Rat) : Prop :=
  keeps nbrs delay dur u v = true ∧ v ∉ recs ∧ d = 0

theorem Reach.walk {v : Node} (hr : Reach nbrs delay dur infs recs v) :
    ∃ p, GW (It infs recs) (Er nbrs delay dur recs) 0 v p 0 := by
  induction hr with
  | init v h1 h2 => exact ⟨[], GW.init _ ⟨h1, h2⟩⟩
  | step u v _ hk hv ih =>
    obtain ⟨p, hp⟩ := ih
    have := GW.step (I := It infs recs) (E := Er nbrs delay dur recs) u v p 0 0 hp ⟨hk, hv, rfl⟩
    rw [add_zero] at this
    exact ⟨_, this⟩

theorem walk_Ck (h : WF nodes nbrs delay dur infs recs) {v : Node} {p : List Node} {t : Rat}
    (hw : GW (It infs recs) (Er nbrs delay dur recs) 0 v p t) : v ∈ Ck nodes nbrs delay dur infs recs p.length := by
  induction hw with
  | init v hv => rw [List.length_nil, mem_Ck_zero]; exact ⟨h.infs_mem v hv.1, hv⟩
  | step u v p t d hw he ih =>
    rw [List.length_cons, mem_Ck_succ]
    have hun : u ∈ nodes := ((mem_Ck_succ p.length u).1 (Ck_mono _ _ ih)).1
    exact ⟨keeps_mem h he.1 hun, he.2.1, Or.inr ⟨u, ih, he.1⟩⟩

/-- `outComp` (`get_infected_nodes`) is the out-component of the initial set in the kept-edge digraph -/
theorem outComp_spec (nodes : List Node) (nbrs : Node → List Node) (delay : Node → Node → ERat) (dur : Node → ERat)
    (infs recs : List Node) (h : WF nodes nbrs delay dur infs recs) (v : Node) :
    v ∈ outComp nodes nbrs delay dur infs recs ↔ Reach nbrs delay dur infs recs v := by
  show v ∈ Ck nodes nbrs delay dur infs recs nodes.length ↔ _
  constructor
  · exact Ck_reach _ v
  · intro hr
    obtain ⟨p, hp⟩ := hr.walk
    obtain ⟨p', t', h1, h2, _⟩ := GW.short (nodes := nodes) (It_mem h) (fun u v d he hu => keeps_mem h he.1 hu)
      (fun u v d he => le_of_eq he.2.2.symm) hp
    exact Ck_mono_le (by omega) v (walk_Ck h h1)

end OutComp

end EventSIR
