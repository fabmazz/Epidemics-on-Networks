import EoNVerif.Gen.OdeGlue2
import EoNVerif.Proofs.GenGlue
import EoNVerif.Proofs.GenStep
import EoNVerif.Proofs.AssocList
import Mathlib.Tactic.Ring
import Mathlib.Tactic.Linarith
/-!
What the theorems about the ODE entry points GENERATED into `Gen/OdeGlue2.lean` (namespace `GenGlue2`) share
(`Props/C06f.lean`, `Proofs/PairBased.lean`, `Props/C06i*.lean`, `Proofs/GenPrefMix.lean`), for arbitrary solvers
`odeint myodeint : (V → V) → V → Nat → V`: `odeint` stands for `scipy.integrate.odeint`, `myodeint` for EoN's `_my_odeint_`
(called by `SIS_pair_based` and `SIS_heterogeneous_pairwise` only).

* accessors `get` / `getV` / `getM` / `getN` / `getX` into the returned list of arrays (`PyGlue2.Out`); `GenGlueProofs` has
  accessors of the same names over `PyGlue.Ser` (there `getN l j i`, here `getN l j`): do not open both namespaces;
* `Except` / `need` / `bdim` / `bidx` / slice lemmas;
* the closed forms `out…` of the returned lists as functions of the solution `X : Nat → V` (row `i` = time index `i`),
  with conservation and the row at time index 0 for an arbitrary solution;
* sums of indicator vectors (`indV`, `sumTo_indV`, `sumTo_indV'`: `sumTo` of an indicator = number of members);
* the two test solvers and `rowAt`, through which the closed examples read a result.
-/
namespace GenGlue2Proofs
open Gen PyGlue2
open ODE (sumTo)
open GenGlueProofs (Solver RowZero)

/-- the result type of every generated entry point: (the `X0` handed to the solver, the returned arrays) -/
abbrev Res : Type := Except String (V × List Out)

/-- value at time index `i` of the `j`-th returned array when it is a time series (`0` otherwise) -/
def get (l : List Out) (j i : Nat) : Rat :=
  match l[j]? with
  | some (Out.s f) => f i
  | _ => 0

/-- class vector at time index `i` of the `j`-th returned array when it is a (class × time) or (a × b × time) array -/
def getV (l : List Out) (j i : Nat) : V :=
  match l[j]? with
  | some (Out.m _ f) => f i
  | some (Out.c _ _ f) => f i
  | _ => ⟨0, fun _ => 0⟩

/-- declared number of classes of the `j`-th returned array (`a * b` for a table) -/
def getN (l : List Out) (j : Nat) : Nat :=
  match l[j]? with
  | some (Out.m n _) => n
  | some (Out.c a b _) => a * b
  | _ => 0

/-- entry (class `k`, time index `i`) of the `j`-th returned array -/
def getM (l : List Out) (j i k : Nat) : Rat := (getV l j i).f k

/-- the `j`-th returned array when it is a 1-D array not indexed by the solver's time grid -/
def getX (l : List Out) (j : Nat) : V :=
  match l[j]? with
  | some (Out.v x) => x
  | _ => ⟨0, fun _ => 0⟩

@[simp] theorem get_zero_s (f : Nat → Rat) (l : List Out) (i : Nat) : get (Out.s f :: l) 0 i = f i := rfl
@[simp] theorem get_succ (a : Out) (l : List Out) (j i : Nat) : get (a :: l) (j + 1) i = get l j i := by
  simp [get]
@[simp] theorem getV_zero_m (n : Nat) (f : Nat → V) (l : List Out) (i : Nat) : getV (Out.m n f :: l) 0 i = f i := rfl
@[simp] theorem getV_zero_c (a b : Nat) (f : Nat → V) (l : List Out) (i : Nat) :
    getV (Out.c a b f :: l) 0 i = f i := rfl
@[simp] theorem getV_succ (a : Out) (l : List Out) (j i : Nat) : getV (a :: l) (j + 1) i = getV l j i := by
  simp [getV]
@[simp] theorem getN_zero_m (n : Nat) (f : Nat → V) (l : List Out) : getN (Out.m n f :: l) 0 = n := rfl
@[simp] theorem getN_zero_c (a b : Nat) (f : Nat → V) (l : List Out) : getN (Out.c a b f :: l) 0 = a * b := rfl
@[simp] theorem getN_succ (a : Out) (l : List Out) (j : Nat) : getN (a :: l) (j + 1) = getN l j := by
  simp [getN]
@[simp] theorem getX_zero_v (x : V) (l : List Out) : getX (Out.v x :: l) 0 = x := rfl
@[simp] theorem getX_succ (a : Out) (l : List Out) (j : Nat) : getX (a :: l) (j + 1) = getX l j := by
  simp [getX]

export GenStep (ok_bind err_bind pure_eq_ok)  -- defined in `Proofs/ExceptStep.lean`
@[simp] theorem throw_eq_err {α : Type} (e : String) : (throw e : Except String α) = .error e := rfl
@[simp] theorem need_some {α : Type} (x : α) (e : String) : need (some x) e = .ok x := rfl
@[simp] theorem need_none {α : Type} (e : String) : need (none : Option α) e = .error e := rfl

export GenStep (bdim_self bdim_one_right bdim_one_left)  -- defined in `Proofs/GenStep.lean`
theorem bdim_ok_iff (a b : Nat) : (∃ n, bdim a b = .ok n) ↔ (a = b ∨ a = 1 ∨ b = 1) := by
  unfold bdim
  by_cases h1 : a = b
  · simp [h1]
  · by_cases h2 : a = 1
    · subst h2
      by_cases h4 : 1 = b <;> simp [h4]
    · by_cases h3 : b = 1 <;> simp [h1, h2, h3]
theorem bdim_error (a b : Nat) (h1 : a ≠ b) (h2 : a ≠ 1) (h3 : b ≠ 1) : bdim a b = .error "ValueError" := by
  simp [bdim, h1, h2, h3]

theorem bidx_lt (n k : Nat) (h : k < n) : bidx n k = k := by
  unfold bidx
  split
  · omega
  · rfl

theorem sumTo_const (n : Nat) (c : Rat) : sumTo n (fun _ => c) = (n : Rat) * c := by
  induction n with
  | zero => simp [ODE.sumTo_zero_left]
  | succ n ih => rw [ODE.sumTo_succ, ih]; push_cast; ring

theorem sumTo_one_sub_bidx (n : Nat) (y : Nat → Rat) :
    sumTo n (fun k => 1 - y (bidx n k)) + sumTo n y = (n : Rat) := by
  have e : sumTo n (fun k => 1 - y (bidx n k)) = sumTo n (fun k => 1 - y k) :=
    ODE.sumTo_congr _ _ _ (fun k hk => by rw [bidx_lt n k hk])
  rw [e, GenGlueProofs.sumTo_sub, sumTo_const]; ring

/-- `SIS_individual_based`: `Is = Y.T` (`n` rows), `Ss = ones(n) − Is`; without full data the two sums -/
def outSISInd (T : Nat → Rat) (n : Nat) (full : Bool) (Y : Nat → V) : List Out :=
  if full then
    [Out.s T, Out.m n (fun i => ⟨n, fun k => 1 - (Y i).f (bidx n k)⟩), Out.m n (fun i => Y i)]
  else
    [Out.s T, Out.s (fun i => sumTo n (fun k => 1 - (Y i).f (bidx n k))), Out.s (fun i => sumTo n (Y i).f)]

/-- the tail of `SIS_individual_based` once `Y0` and the node list (its length `N`) are fixed -/
def runSISInd (odeint : Solver) (N : Nat) (nbrs : Nat → List Nat) (tr : Nat → Nat → Rat) (rr : Nat → Rat)
    (Y0 : V) (T : Nat → Rat) (full : Bool) : Res :=
  .ok (Y0, outSISInd T Y0.n full (odeint (fun st => Gen.dSIS_individual_based st N nbrs tr rr) Y0))

/-- `SIR_individual_based`: `Ss = V.T[:a]`, `Is = V.T[a:]` (`b` rows), `Rs = ones(a) − Ss − Is` (`m` rows after
broadcasting), `S, I, R` their sums -/
def outSIRInd (T : Nat → Rat) (a b m : Nat) (full : Bool) (X : Nat → V) : List Out :=
  let Rs : Nat → V := fun i => ⟨m, fun k => (1 - (X i).f (bidx a (bidx a k))) - (X i).f (a + bidx b k)⟩
  if full then
    [Out.s T, Out.s (fun i => sumTo a (X i).f), Out.s (fun i => sumTo b (fun k => (X i).f (a + k))),
     Out.s (fun i => sumTo m (Rs i).f),
     Out.m a (fun i => ⟨a, (X i).f⟩), Out.m b (fun i => ⟨b, fun k => (X i).f (a + k)⟩), Out.m m Rs]
  else
    [Out.s T, Out.s (fun i => sumTo a (X i).f), Out.s (fun i => sumTo b (fun k => (X i).f (a + k))),
     Out.s (fun i => sumTo m (Rs i).f)]

/-- the tail of `SIR_individual_based` once `X0`, `Y0` and the node list (its length `N`) are fixed: the only
remaining exception is NumPy's broadcasting `ValueError` of `ones(N) − Ss − Is` -/
def runSIRInd (odeint : Solver) (N : Nat) (nbrs : Nat → List Nat) (tr : Nat → Nat → Rat) (rr : Nat → Rat)
    (X0 Y0 : V) (T : Nat → Rat) (full : Bool) : Res :=
  match bdim X0.n Y0.n with
  | .error e => .error e
  | .ok m => .ok (V.append X0 Y0, outSIRInd T X0.n Y0.n m full
      (odeint (fun st => Gen.dSIR_individual_based st N nbrs tr rr) (V.append X0 Y0)))

/-- `1 − Y0` -/
def vcompl (y : V) : V := ⟨y.n, fun k => 1 - y.f k⟩
@[simp] theorem vcompl_n (y : V) : (vcompl y).n = y.n := rfl
@[simp] theorem vcompl_f (y : V) (k : Nat) : (vcompl y).f k = 1 - y.f k := rfl
@[simp] theorem vones_n (n : Nat) : (vones n).n = n := rfl
@[simp] theorem vones_f (n k : Nat) : (vones n).f k = 1 := rfl
@[simp] theorem vrep_n (x : Rat) (n : Nat) : (vrep x n).n = n := rfl
@[simp] theorem vrep_f (x : Rat) (n k : Nat) : (vrep x n).f k = x := rfl

/-- indicator vector of a node set along a node list -/
def indV (nl : List Nat) (p : Nat → Bool) (a b : Rat) : V := V.ofList (nl.map fun u => if p u then a else b)
@[simp] theorem indV_n (nl : List Nat) (p : Nat → Bool) (a b : Rat) : (indV nl p a b).n = nl.length := by
  simp [indV]
theorem indV_f (nl : List Nat) (p : Nat → Bool) (a b : Rat) (k : Nat) (hk : k < nl.length) :
    (indV nl p a b).f k = if p (nl.getD k 0) then a else b := by
  simp [indV, V.ofList, List.getD, hk]

theorem sumTo_indV (nl : List Nat) (p : Nat → Bool) :
    sumTo nl.length (indV nl p 1 0).f = ((nl.filter p).length : Rat) := by
  induction nl with
  | nil => rfl
  | cons a l ih =>
    have h := ODE.sumTo_shift l.length (indV (a :: l) p 1 0).f
    rw [show (fun k => (indV (a :: l) p 1 0).f (k + 1)) = (indV l p 1 0).f from rfl, ih] at h
    rw [List.length_cons, eq_add_of_sub_eq h.symm]
    by_cases hp : p a <;> simp [indV, V.ofList, hp]

theorem sumTo_indV' (nl : List Nat) (p : Nat → Bool) :
    sumTo nl.length (indV nl p 0 1).f = ((nl.filter (fun u => !p u)).length : Rat) := by
  have e : indV nl p 0 1 = indV nl (fun u => !p u) 1 0 :=
    congrArg (fun g => V.ofList (nl.map g)) (funext fun u => by cases h : p u <;> simp [h])
  rw [e, sumTo_indV]

theorem outSISInd_conserve (T : Nat → Rat) (n : Nat) (Y : Nat → V) (i : Nat) :
    get (outSISInd T n false Y) 1 i + get (outSISInd T n false Y) 2 i = (n : Rat) := by
  simp only [outSISInd, Bool.false_eq_true, if_false, get_succ, get_zero_s]
  exact sumTo_one_sub_bidx n (Y i).f

theorem outSISInd_conserve_full (T : Nat → Rat) (n : Nat) (Y : Nat → V) (i : Nat) :
    getN (outSISInd T n true Y) 1 = n ∧ getN (outSISInd T n true Y) 2 = n ∧
    (∀ k, k < n → getM (outSISInd T n true Y) 1 i k + getM (outSISInd T n true Y) 2 i k = 1) ∧
    sumTo n (getM (outSISInd T n true Y) 1 i) + sumTo n (getM (outSISInd T n true Y) 2 i) = (n : Rat) ∧
    (∀ k, getM (outSISInd T n true Y) 2 i k = (Y i).f k) := by
  refine ⟨rfl, rfl, fun k hk => ?_, ?_, fun _ => rfl⟩
  · simp only [outSISInd, if_true, getM, getV_succ, getV_zero_m, bidx_lt n k hk]; ring
  · exact sumTo_one_sub_bidx n (Y i).f

theorem outSISInd_init (T : Nat → Rat) (Y0 : V) (Y : Nat → V) (hY : Y 0 = Y0) :
    get (outSISInd T Y0.n false Y) 2 0 = sumTo Y0.n Y0.f ∧
    get (outSISInd T Y0.n false Y) 1 0 = (Y0.n : Rat) - sumTo Y0.n Y0.f := by
  have h := outSISInd_conserve T Y0.n Y 0
  have h2 : get (outSISInd T Y0.n false Y) 2 0 = sumTo Y0.n Y0.f := by
    simp only [outSISInd, Bool.false_eq_true, if_false, get_succ, get_zero_s, hY]
  refine ⟨h2, ?_⟩
  rw [h2] at h; linarith

theorem outSISInd_init_full (T : Nat → Rat) (Y0 : V) (Y : Nat → V) (hY : Y 0 = Y0) (k : Nat) (hk : k < Y0.n) :
    getM (outSISInd T Y0.n true Y) 2 0 k = Y0.f k ∧ getM (outSISInd T Y0.n true Y) 1 0 k = 1 - Y0.f k := by
  simp only [outSISInd, if_true, getM, getV_succ, getV_zero_m, hY, bidx_lt _ k hk]
  exact ⟨trivial, trivial⟩

@[simp] theorem sliceLo_zero (n : Nat) : sliceLo n 0 = 0 := by simp [sliceLo]
@[simp] theorem sliceLo_left (a b : Nat) : sliceLo (a + b) a = a := by simp [sliceLo]
@[simp] theorem sliceLen_left (a b : Nat) : sliceLen (a + b) 0 a = a := by simp [sliceLen]
@[simp] theorem sliceLen_right (a b : Nat) : sliceLen (a + b) a (a + b) = b := by simp [sliceLen]
theorem sliceLo_le (n lo : Nat) (h : lo ≤ n) : sliceLo n lo = lo := by simp [sliceLo, h]
theorem sliceLen_le (n lo hi : Nat) (h1 : lo ≤ hi) (h2 : hi ≤ n) : sliceLen n lo hi = hi - lo := by
  simp [sliceLen, Nat.min_eq_left h2, Nat.min_eq_left (Nat.le_trans h1 h2)]

theorem outSIRInd_conserve (T : Nat → Rat) (a : Nat) (full : Bool) (X : Nat → V) (i : Nat) :
    get (outSIRInd T a a a full X) 1 i + get (outSIRInd T a a a full X) 2 i + get (outSIRInd T a a a full X) 3 i
      = (a : Rat) := by
  have e : sumTo a (fun k => 1 - (X i).f (bidx a (bidx a k)) - (X i).f (a + bidx a k))
      = sumTo a (fun k => 1 - (X i).f k - (X i).f (a + k)) :=
    ODE.sumTo_congr _ _ _ (fun k hk => by rw [bidx_lt a k hk, bidx_lt a k hk])
  cases full <;>
    simp only [outSIRInd, Bool.false_eq_true, if_false, if_true, get_succ, get_zero_s] <;>
    rw [e, GenGlueProofs.sumTo_sub3, sumTo_const] <;> ring

theorem outSIRInd_conserve_full (T : Nat → Rat) (a : Nat) (X : Nat → V) (i : Nat) :
    getN (outSIRInd T a a a true X) 4 = a ∧ getN (outSIRInd T a a a true X) 5 = a ∧
    getN (outSIRInd T a a a true X) 6 = a ∧
    (∀ k, k < a → getM (outSIRInd T a a a true X) 4 i k + getM (outSIRInd T a a a true X) 5 i k
      + getM (outSIRInd T a a a true X) 6 i k = 1) ∧
    get (outSIRInd T a a a true X) 1 i = sumTo a (getM (outSIRInd T a a a true X) 4 i) ∧
    get (outSIRInd T a a a true X) 2 i = sumTo a (getM (outSIRInd T a a a true X) 5 i) ∧
    get (outSIRInd T a a a true X) 3 i = sumTo a (getM (outSIRInd T a a a true X) 6 i) := by
  refine ⟨rfl, rfl, rfl, fun k hk => ?_, rfl, rfl, rfl⟩
  simp only [outSIRInd, if_true, getM, getV_succ, getV_zero_m, bidx_lt a k hk]; ring

theorem outSIRInd_init (T : Nat → Rat) (X0 Y0 : V) (hn : Y0.n = X0.n) (full : Bool) (X : Nat → V)
    (hX : X 0 = V.append X0 Y0) :
    get (outSIRInd T X0.n X0.n X0.n full X) 1 0 = sumTo X0.n X0.f ∧
    get (outSIRInd T X0.n X0.n X0.n full X) 2 0 = sumTo X0.n Y0.f ∧
    get (outSIRInd T X0.n X0.n X0.n full X) 3 0 = (X0.n : Rat) - sumTo X0.n X0.f - sumTo X0.n Y0.f := by
  have hc := outSIRInd_conserve T X0.n full X 0
  have h1 : get (outSIRInd T X0.n X0.n X0.n full X) 1 0 = sumTo X0.n X0.f := by
    cases full <;>
      simp only [outSIRInd, Bool.false_eq_true, if_false, if_true, get_succ, get_zero_s, hX] <;>
      exact GenGlueProofs.sumTo_append_left _ _
  have h2 : get (outSIRInd T X0.n X0.n X0.n full X) 2 0 = sumTo X0.n Y0.f := by
    have := GenGlueProofs.sumTo_append_right X0 Y0
    rw [hn] at this
    cases full <;>
      simp only [outSIRInd, Bool.false_eq_true, if_false, if_true, get_succ, get_zero_s, hX] <;>
      exact this
  refine ⟨h1, h2, ?_⟩
  rw [h1, h2] at hc; linarith

theorem outSIRInd_init_full (T : Nat → Rat) (X0 Y0 : V) (X : Nat → V) (hX : X 0 = V.append X0 Y0)
    (k : Nat) (hk : k < X0.n) :
    getM (outSIRInd T X0.n X0.n X0.n true X) 4 0 k = X0.f k ∧
    getM (outSIRInd T X0.n X0.n X0.n true X) 5 0 k = Y0.f k ∧
    getM (outSIRInd T X0.n X0.n X0.n true X) 6 0 k = 1 - X0.f k - Y0.f k := by
  simp only [outSIRInd, if_true, getM, getV_succ, getV_zero_m, hX, bidx_lt _ k hk, V.append_f_ge,
    V.append_f_lt _ _ k hk]
  exact ⟨trivial, trivial, trivial⟩

/-! `slN_i` / `soN_i`: length / start of the `i`-th slice of a state of `N` blocks (`a|b|c`, resp. `a|a|b|b`) — the
`X.T[lo:hi]` of the return statements -/
theorem sl3_0 (a b c : Nat) : sliceLen (a + b + c) 0 a = a := by unfold sliceLen; omega
theorem sl3_1 (a b c : Nat) : sliceLen (a + b + c) a (a + b) = b := by unfold sliceLen; omega
theorem sl3_2 (a b c : Nat) : sliceLen (a + b + c) (a + b) (a + b + c) = c := by simp [sliceLen]
theorem so3_1 (a b c : Nat) : sliceLo (a + b + c) a = a := by unfold sliceLo; omega
theorem so3_2 (a b c : Nat) : sliceLo (a + b + c) (a + b) = a + b := by simp [sliceLo]

/-- `SIS_pair_based`: `Ys = V.T[:N]`, `Xs = ones(N) − Ys`, `XY = V.T[N:N+N²]`, `XX = V.T[N+N²:]`, `S`, `I` the sums -/
def outSISPair (T : Nat → Rat) (N : Nat) (full : Bool) (X : Nat → V) : List Out :=
  if full then
    [Out.s T, Out.s (fun i => sumTo N (fun k => 1 - (X i).f (bidx N k))), Out.s (fun i => sumTo N (X i).f),
     Out.m N (fun i => ⟨N, fun k => 1 - (X i).f (bidx N k)⟩), Out.m N (fun i => ⟨N, (X i).f⟩),
     Out.c N N (fun i => ⟨N ^ 2, fun k => (X i).f (N + k)⟩), Out.c N N (fun i => ⟨N ^ 2, fun k => (X i).f (N + N ^ 2 + k)⟩)]
  else
    [Out.s T, Out.s (fun i => sumTo N (fun k => 1 - (X i).f (bidx N k))), Out.s (fun i => sumTo N (X i).f)]

theorem outSISPair_conserve (T : Nat → Rat) (N : Nat) (full : Bool) (X : Nat → V) (i : Nat) :
    get (outSISPair T N full X) 1 i + get (outSISPair T N full X) 2 i = (N : Rat) := by
  cases full <;> simp only [outSISPair, Bool.false_eq_true, if_false, if_true, get_succ, get_zero_s] <;>
    exact sumTo_one_sub_bidx N (X i).f

theorem outSISPair_init (T : Nat → Rat) (N : Nat) (full : Bool) (X : Nat → V) (x0 : V) (y : Nat → Rat)
    (hX : X 0 = x0) (hy : ∀ k, k < N → x0.f k = y k) :
    get (outSISPair T N full X) 2 0 = sumTo N y ∧ get (outSISPair T N full X) 1 0 = (N : Rat) - sumTo N y := by
  have hc := outSISPair_conserve T N full X 0
  have h2 : get (outSISPair T N full X) 2 0 = sumTo N y := by
    cases full <;> simp only [outSISPair, Bool.false_eq_true, if_false, if_true, get_succ, get_zero_s, hX] <;>
      exact ODE.sumTo_congr _ _ _ hy
  refine ⟨h2, ?_⟩
  rw [h2] at hc; linarith

theorem sl4_0 (a b : Nat) : sliceLen (a + a + b + b) 0 a = a := by unfold sliceLen; omega
theorem sl4_1 (a b : Nat) : sliceLen (a + a + b + b) a (2 * a) = a := by unfold sliceLen; omega
theorem sl4_2 (a b : Nat) : sliceLen (a + a + b + b) (2 * a) (2 * a + b) = b := by unfold sliceLen; omega
theorem sl4_3 (a b : Nat) : sliceLen (a + a + b + b) (2 * a + b) (a + a + b + b) = b := by unfold sliceLen; omega
theorem so4_1 (a b : Nat) : sliceLo (a + a + b + b) a = a := by unfold sliceLo; omega
theorem so4_2 (a b : Nat) : sliceLo (a + a + b + b) (2 * a) = 2 * a := by unfold sliceLo; omega
theorem so4_3 (a b : Nat) : sliceLo (a + a + b + b) (2 * a + b) = 2 * a + b := by unfold sliceLo; omega

/-- `SIR_pair_based`: `Xs = V.T[:N]`, `Ys = V.T[N:2N]`, `Zs = ones(N) − Xs − Ys`, `XY = V.T[2N:2N+N²]`,
`XX = V.T[2N+N²:]`; `S, I, R` the sums -/
def outSIRPair (T : Nat → Rat) (N : Nat) (full : Bool) (X : Nat → V) : List Out :=
  let Zs : Nat → V := fun i => ⟨N, fun k => (1 - (X i).f (bidx N (bidx N k))) - (X i).f (N + bidx N k)⟩
  if full then
    [Out.s T, Out.s (fun i => sumTo N (X i).f), Out.s (fun i => sumTo N (fun k => (X i).f (N + k))),
     Out.s (fun i => sumTo N (Zs i).f),
     Out.m N (fun i => ⟨N, (X i).f⟩), Out.m N (fun i => ⟨N, fun k => (X i).f (N + k)⟩), Out.m N Zs,
     Out.c N N (fun i => ⟨N ^ 2, fun k => (X i).f (2 * N + k)⟩),
     Out.c N N (fun i => ⟨N ^ 2, fun k => (X i).f (2 * N + N ^ 2 + k)⟩)]
  else
    [Out.s T, Out.s (fun i => sumTo N (X i).f), Out.s (fun i => sumTo N (fun k => (X i).f (N + k))),
     Out.s (fun i => sumTo N (Zs i).f)]

theorem outSIRPair_conserve (T : Nat → Rat) (N : Nat) (full : Bool) (X : Nat → V) (i : Nat) :
    get (outSIRPair T N full X) 1 i + get (outSIRPair T N full X) 2 i + get (outSIRPair T N full X) 3 i = (N : Rat) := by
  -- entries 1–3 of `outSIRPair T N` are, up to unfolding, those of `outSIRInd T N N N`
  have h := outSIRInd_conserve T N full X i
  cases full <;> exact h

theorem outSIRPair_init (T : Nat → Rat) (N : Nat) (full : Bool) (X : Nat → V) (x0 : V) (x y : Nat → Rat)
    (hX : X 0 = x0) (hx : ∀ k, k < N → x0.f k = x k) (hy : ∀ k, k < N → x0.f (N + k) = y k) :
    get (outSIRPair T N full X) 1 0 = sumTo N x ∧ get (outSIRPair T N full X) 2 0 = sumTo N y ∧
    get (outSIRPair T N full X) 3 0 = (N : Rat) - sumTo N x - sumTo N y := by
  have hc := outSIRPair_conserve T N full X 0
  have h1 : get (outSIRPair T N full X) 1 0 = sumTo N x := by
    cases full <;> simp only [outSIRPair, Bool.false_eq_true, if_false, if_true, get_succ, get_zero_s, hX] <;>
      exact ODE.sumTo_congr _ _ _ hx
  have h2 : get (outSIRPair T N full X) 2 0 = sumTo N y := by
    cases full <;> simp only [outSIRPair, Bool.false_eq_true, if_false, if_true, get_succ, get_zero_s, hX] <;>
      exact ODE.sumTo_congr _ _ _ hy
  refine ⟨h1, h2, ?_⟩
  rw [h1, h2] at hc; linarith

def constOdeint : Solver := fun _ X0 _ => X0
theorem constOdeint_zero : RowZero constOdeint := fun _ _ => rfl

/-- a solver that adds `i` to every component in row `i` (`RowZero`: `driftOdeint_zero` in Props/C06iEffDeg; does not
preserve sums; the same function as `GenGlueProofs.badOdeint`) -/
def driftOdeint : Solver := fun _ X0 i => ⟨X0.n, fun k => X0.f k + (i : Rat)⟩

def outAt (o : Out) (i : Nat) : List Rat :=
  match o with
  | Out.s f => [f i]
  | Out.m n f => (List.range n).map (f i).f
  | Out.c a b f => (List.range (a * b)).map (f i).f
  | Out.v x => x.toList
  | Out.d l => l.map (fun p => p.2 i)
  | Out.dl l => l.flatMap (·.2)

/-- a result read at time index `i`: the exception, or (the `X0` handed to the solver, the returned arrays) -/
def rowAt (r : Res) (i : Nat) : String ⊕ (List Rat × List (List Rat)) :=
  match r with
  | .error e => .inl e
  | .ok (x0, l) => .inr (x0.toList, l.map (fun o => outAt o i))

end GenGlue2Proofs

/-! ## the prelude `PyGlue2`: its dicts are the association lists of `Proofs/AssocList.lean`; `sorted`, `enumerate`, `**` -/
namespace GenHelpProofs
open PyRT

/-! ### the dicts of `PyGlue2` -/
section Glue2
open PyGlue2
variable {α : Type}

theorem dGet_eq_dictGet (d : List (Nat × α)) (k : Nat) : dGet d k = dictGet d k := by
  induction d with
  | nil => rfl
  | cons p t ih =>
    obtain ⟨a, w⟩ := p
    by_cases ha : a = k
    · subst ha; simp [dGet, dictGet, alFind?]
    · simp only [dGet, dictGet, alFind?, ha, if_false] at ih ⊢
      rw [List.find?_cons_of_neg (by simpa using ha)]
      exact ih

theorem dSet_eq_alSet (d : List (Nat × α)) (k : Nat) (v : α) : dSet d k v = alSet d k v := by
  induction d with
  | nil => rfl
  | cons p t ih =>
    obtain ⟨a, w⟩ := p
    by_cases ha : a = k
    · subst ha; simp only [dSet, alSet, if_true]
    · simp only [dSet, alSet, ha, if_false, ih]

theorem dSet_keys (d : List (Nat × α)) (k : Nat) (v : α) (k' : Nat) :
    k' ∈ (dSet d k v).map (·.1) ↔ (k' ∈ d.map (·.1) ∨ k' = k) := by
  rw [dSet_eq_alSet]
  exact (mem_alKeys_iff _ k').trans ((alHas_alSet d k k' v).trans (or_congr_left (mem_alKeys_iff d k').symm))

end Glue2

/-! ### `sorted(keys)` and `enumerate` of `PyGlue2` -/
section SortEnum
open PyGlue2

theorem sortNat_ins_perm (acc : List Nat) (x : Nat) :
    ((acc.filter (· ≤ x)) ++ [x] ++ (acc.filter (fun y => ¬ (y ≤ x)))).Perm (x :: acc) := by
  have h := List.filter_append_perm (fun y => decide (y ≤ x)) acc
  have h2 : (acc.filter fun y => decide (¬ (y ≤ x))) = acc.filter fun y => !decide (y ≤ x) := by
    congr 1; funext y; exact decide_not
  rw [h2, List.append_assoc]
  exact (List.perm_middle).trans (List.Perm.cons x h)

theorem sortNat_fold_perm (l acc : List Nat) :
    (l.foldl (fun acc x => (acc.filter (· ≤ x)) ++ [x] ++ (acc.filter (fun y => ¬ (y ≤ x)))) acc).Perm (acc ++ l) := by
  induction l generalizing acc with
  | nil => simp
  | cons x t ih =>
    rw [List.foldl_cons]
    refine (ih _).trans ?_
    refine ((sortNat_ins_perm acc x).append_right t).trans ?_
    exact (List.perm_middle (l₁ := acc) (l₂ := t) (a := x)).symm

theorem sortNat_perm (l : List Nat) : (sortNat l).Perm l := by
  have := sortNat_fold_perm l []
  simpa [sortNat] using this

theorem mem_sortNat (l : List Nat) (k : Nat) : k ∈ sortNat l ↔ k ∈ l := (sortNat_perm l).mem_iff
theorem sortNat_length (l : List Nat) : (sortNat l).length = l.length := (sortNat_perm l).length_eq
theorem sortNat_nodup (l : List Nat) : (sortNat l).Nodup ↔ l.Nodup := (sortNat_perm l).nodup_iff

theorem enum_snd {α : Type} (l : List α) : (PyGlue2.enum l).map (·.2) = l := by
  simp [PyGlue2.enum, List.map_snd_zip]

theorem mem_enum {α : Type} (l : List α) (x : Nat × α) : x ∈ enum l ↔ l[x.1]? = some x.2 := by
  unfold enum
  rw [List.mem_iff_getElem?]
  constructor
  · rintro ⟨i, hi⟩
    rw [List.getElem?_zip_eq_some] at hi
    obtain ⟨h1, h2⟩ := hi
    rw [List.getElem?_range] at h1
    · injection h1 with h1; rw [← h1]; exact h2
    · by_contra hc
      rw [List.getElem?_eq_none (by simpa using hc)] at h1; cases h1
  · intro h
    have hlt : x.1 < l.length := by
      by_contra hc
      rw [List.getElem?_eq_none (by omega)] at h; cases h
    refine ⟨x.1, ?_⟩
    rw [List.getElem?_zip_eq_some]
    exact ⟨by rw [List.getElem?_range hlt], h⟩

theorem enum_lt {α : Type} (l : List α) (x : Nat × α) (h : x ∈ enum l) : x.1 < l.length := by
  rw [mem_enum] at h
  by_contra hc
  rw [List.getElem?_eq_none (by omega)] at h; cases h

theorem enum_of_mem {α : Type} (l : List α) (k : α) (h : k ∈ l) : ∃ x ∈ enum l, x.2 = k := by
  obtain ⟨i, hi⟩ := List.mem_iff_getElem?.1 h
  exact ⟨(i, k), (mem_enum l (i, k)).2 hi, rfl⟩

/-- `x ** (k − 1)` for a Python float: `0.0 ** (−1)` is a ZeroDivisionError -/
theorem zpowE_pred (x : Rat) (k : Nat) :
    zpowE x (((k : Nat) : Int) - 1) =
      if k = 0 ∧ x = 0 then .error "ZeroDivisionError" else .ok (if k = 0 then 1 / x else x ^ (k - 1)) := by
  unfold zpowE
  rcases k with _ | k
  · -- the exponent is `-1`
    rw [if_neg (by decide), if_pos rfl]
    by_cases hx : x = 0
    · rw [if_pos hx, if_pos ⟨rfl, hx⟩]; rfl
    · rw [if_neg hx, if_neg fun h => hx h.2]
      show Except.ok (1 / x ^ 1) = _
      rw [pow_one]
  · have h1 : ((k + 1 : Nat) : Int) - 1 ≥ 0 := by omega
    have h2 : (((k + 1 : Nat) : Int) - 1).toNat = k := by omega
    rw [if_pos h1, h2, if_neg fun h => Nat.succ_ne_zero k h.1, if_neg (Nat.succ_ne_zero k), Nat.add_sub_cancel]; rfl

end SortEnum

end GenHelpProofs
