import Mathlib.Analysis.SpecialFunctions.Log.Basic
import Mathlib.Analysis.SpecificLimits.Basic
import Mathlib.MeasureTheory.Measure.Lebesgue.Basic
import Mathlib.Tactic.Ring
/-!
The law of the transmission delays drawn by `_truncated_exponential_`
(`/repo/EoN/simulation.py`).

**The source is**
```
def _truncated_exponential_(rate, T):
    t = random.expovariate(rate)
    L = int(t/T)
    return t - L*T
```
i.e. an Exp(`rate`) variable reduced modulo `T` — *not* the inverse-CDF formula
`-log(1 - u*(1 - exp(-rate*T)))/rate`.  Both are defined here (`truncExp` = the source, `invCdfTruncExp` = the
inverse-CDF sampler); `Props/C01c.lean` shows that they have the same distribution function
`s ↦ (1 - exp(-rate*s)) / (1 - exp(-rate*T))` on `[0,T)`, the Exp(`rate`) law conditioned on `[0,T)`.

`random.expovariate(lambd)` is `-log(1.0 - random.random())/lambd` (CPython `random.py`), with
`random.random()` in `[0,1)`.  Real numbers model the floats (this file is about the mathematics of the sampler,
not about rounding).

Imports only Mathlib, and nothing may be imported here that depends on `EoNVerif/Rand/Dist.lean`: Mathlib's class `Dist`
clashes with it.  The namespace is shared with `Proofs/FastSIRLaw.lean` (the `Dist`-based half), which can never be in
one environment with this file.
-/
namespace FastSIRLaw
open Real

/-- `random.expovariate(r)` as a function of the underlying uniform draw `u ∈ [0,1)` -/
noncomputable def expovariate (r u : ℝ) : ℝ := -Real.log (1 - u) / r

/-- Python's `int(x)` on a float: truncation toward zero -/
noncomputable def pyInt (x : ℝ) : ℤ := if 0 ≤ x then ⌊x⌋ else ⌈x⌉

/-- body of `_truncated_exponential_` after `t` has been drawn: `t - int(t/T)*T` -/
noncomputable def reduceMod (T t : ℝ) : ℝ := t - (pyInt (t / T) : ℝ) * T

/-- `_truncated_exponential_(r, T)` as a function of the uniform draw -/
noncomputable def truncExp (r T u : ℝ) : ℝ := reduceMod T (expovariate r u)

/-- the inverse-CDF sampler for the same law -/
noncomputable def invCdfTruncExp (r T u : ℝ) : ℝ := -Real.log (1 - u * (1 - Real.exp (-r * T))) / r

/-- the distribution function of Exp(`r`) conditioned on `[0,T)` -/
noncomputable def truncCdf (r T s : ℝ) : ℝ := (1 - Real.exp (-r * s)) / (1 - Real.exp (-r * T))

/-! ### the Exp(`r`) distribution function `x ↦ 1 - exp(-r x)` -/

theorem one_sub_exp_le_iff {r : ℝ} (hr : 0 < r) {x y : ℝ} :
    1 - exp (-r * x) ≤ 1 - exp (-r * y) ↔ x ≤ y := by
  rw [sub_le_sub_iff_left, exp_le_exp, neg_mul, neg_mul, neg_le_neg_iff, mul_le_mul_iff_right₀ hr]

theorem one_sub_exp_lt_iff {r : ℝ} (hr : 0 < r) {x y : ℝ} :
    1 - exp (-r * x) < 1 - exp (-r * y) ↔ x < y :=
  lt_iff_lt_of_le_iff_le (one_sub_exp_le_iff hr)

theorem one_sub_exp_zero (r : ℝ) : 1 - exp (-r * 0) = 0 := by rw [mul_zero, exp_zero, sub_self]

theorem one_sub_exp_nonneg {r x : ℝ} (hr : 0 < r) (hx : 0 ≤ x) : 0 ≤ 1 - exp (-r * x) := by
  rw [← one_sub_exp_zero r]; exact (one_sub_exp_le_iff hr).2 hx

theorem one_sub_exp_pos {r x : ℝ} (hr : 0 < r) (hx : 0 < x) : 0 < 1 - exp (-r * x) := by
  rw [← one_sub_exp_zero r]; exact (one_sub_exp_lt_iff hr).2 hx

theorem one_sub_exp_lt_one (r x : ℝ) : 1 - exp (-r * x) < 1 := sub_lt_self _ (exp_pos _)

theorem expovariate_nonneg {r u : ℝ} (hr : 0 < r) (h0 : 0 ≤ u) (h1 : u < 1) : 0 ≤ expovariate r u :=
  div_nonneg (neg_nonneg.2 (log_nonpos (sub_nonneg.2 h1.le) (sub_le_self 1 h0))) hr.le

theorem le_expovariate_iff {r u : ℝ} (hr : 0 < r) (h1 : u < 1) (a : ℝ) :
    a ≤ expovariate r u ↔ 1 - exp (-r * a) ≤ u := by
  rw [expovariate, le_div_iff₀ hr, mul_comm, le_neg, ← neg_mul, log_le_iff_le_exp (sub_pos.2 h1), sub_le_comm]

theorem expovariate_le_iff {r u : ℝ} (hr : 0 < r) (h1 : u < 1) (b : ℝ) :
    expovariate r u ≤ b ↔ u ≤ 1 - exp (-r * b) := by
  rw [expovariate, div_le_iff₀ hr, mul_comm, neg_le, ← neg_mul, le_log_iff_exp_le (sub_pos.2 h1), le_sub_comm]

theorem lt_expovariate_iff {r u : ℝ} (hr : 0 < r) (h1 : u < 1) (t : ℝ) :
    t < expovariate r u ↔ 1 - exp (-r * t) < u :=
  lt_iff_lt_of_le_iff_le (expovariate_le_iff hr h1 t)

theorem pyInt_of_nonneg {x : ℝ} (h : 0 ≤ x) : pyInt x = ⌊x⌋ := if_pos h

theorem reduceMod_of_nonneg {T t : ℝ} (hT : 0 < T) (ht : 0 ≤ t) :
    reduceMod T t = t - (⌊t / T⌋₊ : ℝ) * T := by
  have hq : 0 ≤ t / T := div_nonneg ht hT.le
  rw [reduceMod, pyInt_of_nonneg hq, ← Int.natCast_floor_eq_floor hq, Int.cast_natCast]

theorem reduceMod_range {T t : ℝ} (hT : 0 < T) (ht : 0 ≤ t) : 0 ≤ reduceMod T t ∧ reduceMod T t < T := by
  rw [reduceMod_of_nonneg hT ht, sub_nonneg, sub_lt_iff_lt_add', ← add_one_mul]
  exact ⟨(le_div_iff₀ hT).1 (Nat.floor_le (div_nonneg ht hT.le)), (div_lt_iff₀ hT).1 (Nat.lt_floor_add_one _)⟩

/-- the event `{reduced value ≤ s}` is the union over `k` of `{kT ≤ t ≤ kT + s}` -/
theorem reduceMod_le_iff {T t : ℝ} (hT : 0 < T) (ht : 0 ≤ t) (s : ℝ) :
    reduceMod T t ≤ s ↔ ∃ k : ℕ, (k : ℝ) * T ≤ t ∧ t ≤ (k : ℝ) * T + s := by
  have hq : 0 ≤ t / T := div_nonneg ht hT.le
  rw [reduceMod_of_nonneg hT ht, sub_le_iff_le_add']
  constructor
  · intro h
    exact ⟨⌊t / T⌋₊, (le_div_iff₀ hT).1 (Nat.floor_le hq), h⟩
  · rintro ⟨k, hk1, hk2⟩
    have hk : (k : ℝ) ≤ (⌊t / T⌋₊ : ℝ) := Nat.cast_le.2 (Nat.le_floor ((le_div_iff₀ hT).2 hk1))
    exact hk2.trans (add_le_add_left (mul_le_mul_of_nonneg_right hk hT.le) s)

/-- left end of the `k`-th interval of uniform draws that give a delay `≤ s` -/
noncomputable def lo (r T : ℝ) (k : ℕ) : ℝ := 1 - Real.exp (-r * ((k : ℝ) * T))
/-- right end of that interval -/
noncomputable def hi (r T s : ℝ) (k : ℕ) : ℝ := 1 - Real.exp (-r * ((k : ℝ) * T + s))

theorem lo_le_hi {r T s : ℝ} (hr : 0 < r) (hs : 0 ≤ s) (k : ℕ) : lo r T k ≤ hi r T s k :=
  (one_sub_exp_le_iff hr).2 (le_add_of_nonneg_right hs)

theorem hi_lt_lo_succ {r T s : ℝ} (hr : 0 < r) (hs : s < T) (k : ℕ) : hi r T s k < lo r T (k + 1) := by
  refine (one_sub_exp_lt_iff hr).2 ?_
  rw [Nat.cast_succ, add_one_mul]
  exact add_lt_add_right hs _

theorem lo_nonneg {r T : ℝ} (hr : 0 < r) (hT : 0 < T) (k : ℕ) : 0 ≤ lo r T k :=
  one_sub_exp_nonneg hr (mul_nonneg k.cast_nonneg hT.le)

theorem hi_lt_one (r T s : ℝ) (k : ℕ) : hi r T s k < 1 := one_sub_exp_lt_one _ _

theorem lo_mono {r T : ℝ} (hr : 0 < r) (hT : 0 < T) {j k : ℕ} (h : j ≤ k) : lo r T j ≤ lo r T k :=
  (one_sub_exp_le_iff hr).2 (mul_le_mul_of_nonneg_right (Nat.cast_le.2 h) hT.le)

theorem index_le_of_lo_le_hi {r T s : ℝ} (hr : 0 < r) (hT : 0 < T) (hs : s < T) {j k : ℕ}
    (h : lo r T k ≤ hi r T s j) : k ≤ j := by
  by_contra hjk
  exact ((hi_lt_lo_succ hr hs j).trans_le (lo_mono hr hT (Nat.succ_le_of_lt (not_le.1 hjk)))).not_ge h

/-- the interval index is unique: the union is disjoint -/
theorem interval_unique {r T s u : ℝ} (hr : 0 < r) (hT : 0 < T) (hs : s < T) {j k : ℕ}
    (hj : lo r T j ≤ u ∧ u ≤ hi r T s j) (hk : lo r T k ≤ u ∧ u ≤ hi r T s k) : j = k :=
  le_antisymm (index_le_of_lo_le_hi hr hT hs (hj.1.trans hk.2)) (index_le_of_lo_le_hi hr hT hs (hk.1.trans hj.2))

/-- the lengths of the intervals add up to the truncated-exponential distribution function -/
theorem hasSum_lengths {r T : ℝ} (hr : 0 < r) (hT : 0 < T) (s : ℝ) :
    HasSum (fun k : ℕ => hi r T s k - lo r T k) (truncCdf r T s) := by
  have hlt : exp (-r * T) < 1 := sub_pos.1 (one_sub_exp_pos hr hT)
  have h := (hasSum_geometric_of_lt_one (exp_pos (-r * T)).le hlt).mul_left (1 - exp (-r * s))
  have heq : (fun k : ℕ => hi r T s k - lo r T k)
      = fun k : ℕ => (1 - exp (-r * s)) * exp (-r * T) ^ k := by
    funext k
    rw [hi, lo, mul_add, exp_add, mul_left_comm, exp_nat_mul]
    ring
  rw [heq, truncCdf, div_eq_mul_inv]
  exact h

theorem invCdfTruncExp_eq (r T u : ℝ) : invCdfTruncExp r T u = expovariate r (u * (1 - exp (-r * T))) := rfl

theorem truncCdf_zero (r T : ℝ) : truncCdf r T 0 = 0 := by rw [truncCdf, one_sub_exp_zero, zero_div]

theorem truncCdf_self {r T : ℝ} (hr : 0 < r) (hT : 0 < T) : truncCdf r T T = 1 :=
  div_self (one_sub_exp_pos hr hT).ne'

theorem truncCdf_mono {r T : ℝ} (hr : 0 < r) (hT : 0 < T) {s t : ℝ} (h : s ≤ t) :
    truncCdf r T s ≤ truncCdf r T t :=
  div_le_div_of_nonneg_right ((one_sub_exp_le_iff hr).2 h) (one_sub_exp_pos hr hT).le

theorem truncCdf_le_one {r T : ℝ} (hr : 0 < r) (hT : 0 < T) {s : ℝ} (hs : s ≤ T) : truncCdf r T s ≤ 1 := by
  rw [← truncCdf_self hr hT]; exact truncCdf_mono hr hT hs

open MeasureTheory

/-- an event that, for draws in `[0,1)`, amounts to `u ≤ c` has probability `c` -/
theorem volume_unit_le {p : ℝ → Prop} {c : ℝ} (hc : c ≤ 1) (h : ∀ u, 0 ≤ u → u < 1 → (p u ↔ u ≤ c)) :
    volume {u : ℝ | u ∈ Set.Ico (0 : ℝ) 1 ∧ p u} = ENNReal.ofReal c := by
  rcases hc.lt_or_eq with hc | rfl
  · have : {u : ℝ | u ∈ Set.Ico (0 : ℝ) 1 ∧ p u} = Set.Icc 0 c := by
      ext u
      simp only [Set.mem_ofPred_eq, Set.mem_Ico, Set.mem_Icc]
      constructor
      · rintro ⟨⟨h0, h1⟩, hp⟩
        exact ⟨h0, (h u h0 h1).1 hp⟩
      · rintro ⟨h0, hu⟩
        exact ⟨⟨h0, hu.trans_lt hc⟩, (h u h0 (hu.trans_lt hc)).2 hu⟩
    rw [this, Real.volume_Icc, sub_zero]
  · have : {u : ℝ | u ∈ Set.Ico (0 : ℝ) 1 ∧ p u} = Set.Ico 0 1 :=
      Set.ext fun u => and_iff_left_of_imp fun hu => (h u hu.1 hu.2).2 hu.2.le
    rw [this, Real.volume_Ico, sub_zero]

end FastSIRLaw
