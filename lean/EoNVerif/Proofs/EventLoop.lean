import EoNVerif.Proofs.TapeRel
import EoNVerif.Proofs.EventQueue
/-!
The loop `while Q: Q.pop_and_run()` of the event-driven simulators, once.  `evLoop more step` is the generated loop with
its bound on the number of events, `optLoop f` (`Proofs/EventQueue.lean`) the loop of a pure hand model whose step is a partial function.  Three
rules: lock step against a model in `TM` (`evLoop_RR`), against a pure model (`evLoop_opt`: forward and backward
refinement, totality and "the only failure is the bound" are its readings), induction over a successful run
(`evLoop_ok`).  A simulator proves that one event keeps its relation and instantiates.
-/
namespace TM
variable {α β γ Λ M : Type} {E : String → String → Prop}

/-- at most `fuel - 1` events: the test `more` that ends the loop costs one unit as well, so a run of `n` events succeeds
from fuel `n + 1` on (and the index of `C` in `evLoop_ok` is this fuel, not the number of events) -/
def evLoop (more : Λ → Bool) (step : Λ → TM Λ) : Nat → Λ → TM Λ
  | 0, _ => TM.fail "fuel"
  | n + 1, σ => if more σ then step σ >>= evLoop more step n else pure σ

theorem evLoop_RR {R : Λ → M → Prop} {more : Λ → Bool} {step : Λ → TM Λ} {more' : M → Bool} {step' : M → TM M}
    (hE : E "fuel" "fuel")
    (hsim : ∀ σ s ts, R σ s →
      (more σ = false ∧ more' s = false) ∨ (more σ = true ∧ more' s = true ∧ RR E R (step σ ts) (step' s ts))) :
    ∀ (fuel : Nat) (σ : Λ) (s : M) (ts : TapeSt), R σ s →
      RR E R (evLoop more step fuel σ ts) (evLoop more' step' fuel s ts) := by
  intro fuel
  induction fuel with
  | zero => exact fun _ _ ts _ => RR.fail ts hE
  | succ fuel ih =>
    intro σ s ts h
    rw [evLoop, evLoop]
    rcases hsim σ s ts h with ⟨hm, hm'⟩ | ⟨hm, hm', hs⟩
    · rw [hm, hm']; exact RR.pure _ h
    · rw [hm, hm']; exact hs.bind fun σ1 s1 t h1 => ih σ1 s1 t h1

theorem evLoop_opt {R : Λ → M → Prop} {more : Λ → Bool} {step : Λ → TM Λ} {f : M → Option M}
    (hsim : ∀ σ s ts, R σ s →
      (more σ = false ∧ f s = none) ∨ (more σ = true ∧ ∃ s', f s = some s' ∧ RR E R (step σ ts) (.ok (s', ts)))) :
    ∀ (fuel : Nat) (σ : Λ) (s : M) (ts : TapeSt), R σ s →
      (f (optLoop f fuel s) = none ∧ RR E R (evLoop more step (fuel + 1) σ ts) (.ok (optLoop f fuel s, ts))) ∨
      (f (optLoop f fuel s) ≠ none ∧ evLoop more step (fuel + 1) σ ts = .error "fuel") := by
  intro fuel
  induction fuel with
  | zero =>
    intro σ s ts h
    rw [evLoop, optLoop]
    rcases hsim σ s ts h with ⟨hm, hf⟩ | ⟨hm, s', hf, hs⟩
    · rw [hm]; exact Or.inl ⟨hf, RR.pure ts h⟩
    · obtain ⟨σ1, h1, -⟩ := hs.fwd rfl
      rw [hm, if_pos rfl, bind_ok h1, hf]
      exact Or.inr ⟨fun h' => (nomatch h'), rfl⟩
  | succ fuel ih =>
    intro σ s ts h
    rw [evLoop, optLoop]
    rcases hsim σ s ts h with ⟨hm, hf⟩ | ⟨hm, s', hf, hs⟩
    · rw [hm, hf]; exact Or.inl ⟨hf, RR.pure ts h⟩
    · obtain ⟨σ1, h1, hR1⟩ := hs.fwd rfl
      rw [hm, if_pos rfl, bind_ok h1, hf]
      exact ih σ1 s' ts hR1

theorem evLoop_ok {more : Λ → Bool} {step : Λ → TM Λ} {C : Nat → Λ → TapeSt → Λ → TapeSt → Prop}
    (stop : ∀ n σ ts, more σ = false → C (n + 1) σ ts σ ts)
    (go : ∀ n σ ts σ1 ts1 σ' ts', more σ = true → step σ ts = .ok (σ1, ts1) → C n σ1 ts1 σ' ts' →
      C (n + 1) σ ts σ' ts') :
    ∀ (n : Nat) (σ : Λ) (ts : TapeSt) (σ' : Λ) (ts' : TapeSt), evLoop more step n σ ts = .ok (σ', ts') →
      C n σ ts σ' ts' := by
  intro n
  induction n with
  | zero => intro σ ts σ' ts' h; exact absurd h (fail_ne_ok _ _ _)
  | succ n ih =>
    intro σ ts σ' ts' h
    rw [evLoop] at h
    cases hm : more σ with
    | false =>
      rw [hm] at h
      obtain ⟨rfl, rfl⟩ := pure_inv h
      exact stop n σ' ts' hm
    | true =>
      rw [hm, if_pos rfl] at h
      obtain ⟨σ1, ts1, h1, h2⟩ := bind_inv h
      exact go n σ ts σ1 ts1 σ' ts' hm h1 (ih σ1 ts1 σ' ts' h2)

end TM
