import EoNVerif.Model.Discrete
import EoNVerif.Model.DiscreteLaw
import EoNVerif.Proofs.SumRat
import EoNVerif.Proofs.ListChain
import EoNVerif.Proofs.Rows
import EoNVerif.Proofs.ERat
import Mathlib.Tactic.Ring
import Mathlib.Tactic.Linarith
import Mathlib.Algebra.Order.Field.Rat
/-!
Lemmas behind C12 (discrete-time simulators): field equations of `step`, the invariant rule `loop_inv` for the loop and
the invariants proved with it (row shape, conservation, BFS), mass lemmas for `percolateDist`.
-/
namespace Discrete

/-- The proofs use `nodup`, `nbr_mem` (the next generation stays inside `nodes`),
`infs_nodup` / `infs_mem` (`I[0] = |infs|`) and `disjoint` (ball 0 of the BFS); no proof uses `recs_nodup`, `recs_mem`, `rec_pos`:
they record the domain of `initial_recovereds` and of `test_recovery` ("recover at the `k`-th test", `k ≥ 1`). -/
structure WF (P : DParams) (infs recs : List Node) : Prop where
  nodup : P.nodes.Nodup
  nbr_mem : ∀ u ∈ P.nodes, ∀ v ∈ P.nbrs u, v ∈ P.nodes
  infs_nodup : infs.Nodup
  infs_mem : ∀ u ∈ infs, u ∈ P.nodes
  recs_nodup : recs.Nodup
  recs_mem : ∀ u ∈ recs, u ∈ P.nodes
  disjoint : ∀ u ∈ infs, u ∉ recs
  rec_pos : ∀ k, P.recSteps = some k → ∀ u, 1 ≤ k u

/-! ### field equations of `step` -/

def newInf (P : DParams) (s : DState) : List Node :=
  P.nodes.filter fun v => s.sus v && s.inf.any fun u => (P.nbrs u).contains v && P.rule (s.age u) u v

def stay (P : DParams) (s : DState) : List Node :=
  match P.recSteps with
  | none => []
  | some k => s.inf.filter fun u => s.age u + 1 < k u

theorem step_inf (P : DParams) (s : DState) :
    (step P s).inf = P.nodes.filter fun v => (newInf P s).contains v || (stay P s).contains v := by
  unfold step newInf stay
  cases P.recSteps <;> rfl

theorem step_sus (P : DParams) (s : DState) :
    (step P s).sus = fun v => s.sus v && !(newInf P s).contains v := by
  unfold step newInf
  cases P.recSteps <;> rfl

theorem step_t (P : DParams) (s : DState) :
    (step P s).t = (s.t.headD P.tmin + 1) :: s.t := by
  unfold step
  cases P.recSteps <;> rfl

theorem step_nS (P : DParams) (s : DState) :
    (step P s).nS = s.nS - ((newInf P s).length : Int) := by
  unfold step newInf
  cases P.recSteps <;> rfl

theorem step_totR (P : DParams) (s : DState) :
    (step P s).totR = s.totR + (((s.inf.length - (stay P s).length : Nat)) : Int) := by
  unfold step stay
  cases P.recSteps <;> rfl

theorem step_S (P : DParams) (s : DState) : (step P s).S = (step P s).nS :: s.S := by
  unfold step
  cases P.recSteps <;> rfl

theorem step_I (P : DParams) (s : DState) : (step P s).I = ((step P s).inf.length : Int) :: s.I := by
  unfold step
  cases P.recSteps <;> rfl

theorem step_R (P : DParams) (s : DState) : (step P s).R = (step P s).totR :: s.R := by
  unfold step
  cases P.recSteps <;> rfl

theorem step_infTime (P : DParams) (s : DState) :
    (step P s).infTime = s.infTime ++ (newInf P s).map (fun v => (v, s.t.headD P.tmin + 1)) := by
  unfold step newInf
  cases P.recSteps <;> rfl

theorem step_infectors (P : DParams) (s : DState) :
    (step P s).infectors = s.infectors ++ (newInf P s).map fun v =>
      (v, s.t.headD P.tmin, s.inf.filter fun u => (P.nbrs u).contains v && P.rule (s.age u) u v) := by
  unfold step newInf
  cases P.recSteps <;> rfl

theorem step_age_some (P : DParams) (s : DState) {k : Node → Nat} (h : P.recSteps = some k) :
    (step P s).age = fun u => if s.inf.contains u then s.age u + 1 else s.age u := by
  unfold step
  rw [h]

theorem step_age_none (P : DParams) (s : DState) (h : P.recSteps = none) : (step P s).age = s.age := by
  unfold step
  simp [h]

theorem mem_newInf (P : DParams) (s : DState) (v : Node) :
    v ∈ newInf P s ↔ v ∈ P.nodes ∧ s.sus v = true ∧ ∃ u ∈ s.inf, v ∈ P.nbrs u ∧ P.rule (s.age u) u v = true := by
  simp [newInf]

theorem stay_sublist (P : DParams) (s : DState) : (stay P s).Sublist s.inf := by
  unfold stay
  cases P.recSteps with
  | none => simp
  | some k => exact List.filter_sublist

theorem mem_step_inf (P : DParams) (s : DState) (v : Node) :
    v ∈ (step P s).inf ↔ v ∈ P.nodes ∧ (v ∈ newInf P s ∨ v ∈ stay P s) := by
  rw [step_inf]; simp

theorem newInf_perm (P : DParams) (s s' : DState) (hp : s.inf.Perm s'.inf) (hsus : s.sus = s'.sus)
    (hage : s.age = s'.age) : newInf P s = newInf P s' := by
  unfold newInf
  apply List.filter_congr
  intro v _
  rw [hsus, hage]
  congr 1
  rw [Bool.eq_iff_iff]
  simp only [List.any_eq_true]
  constructor
  · rintro ⟨u, hu, h⟩; exact ⟨u, hp.subset hu, h⟩
  · rintro ⟨u, hu, h⟩; exact ⟨u, hp.symm.subset hu, h⟩

theorem stay_perm (P : DParams) (s s' : DState) (hp : s.inf.Perm s'.inf) (hage : s.age = s'.age) :
    (stay P s).Perm (stay P s') := by
  unfold stay
  cases P.recSteps with
  | none => simp
  | some k => rw [hage]; exact hp.filter _

theorem step_notsus (P : DParams) (s : DState) (h : ∀ u ∈ s.inf, s.sus u = false) :
    ∀ u ∈ (step P s).inf, (step P s).sus u = false := by
  intro u hu
  rw [step_sus]
  rcases ((mem_step_inf P s u).1 hu).2 with h' | h'
  · show (s.sus u && !(newInf P s).contains u) = false
    rw [List.contains_iff_mem.2 h', Bool.not_true, Bool.and_false]
  · show (s.sus u && _) = false
    rw [h u ((stay_sublist P s).subset h'), Bool.false_and]

/-! ### the loop -/

/-- the `while` condition is false -/
def stopped (P : DParams) (s : DState) : Prop :=
  s.inf.isEmpty = true ∨ ERat.lt (some (s.t.headD P.tmin)) P.tmax = false

theorem loop_zero (P : DParams) (s : DState) : loop P 0 s = s := rfl

theorem loop_stopped (P : DParams) (fuel : Nat) (s : DState) (h : stopped P s) : loop P fuel s = s := by
  cases fuel
  · rfl
  unfold stopped at h
  simp only [loop]
  rw [if_pos]
  rcases h with h | h
  · exact Or.inl h
  · right; rw [h]; rfl

theorem loop_succ_running (P : DParams) (fuel : Nat) (s : DState) (h : ¬ stopped P s) :
    loop P (fuel + 1) s = loop P fuel (step P s) := by
  unfold stopped at h
  simp only [loop]
  rw [if_neg]
  rintro (h' | h')
  · exact h (Or.inl h')
  · apply h; right; simpa using h'

theorem loop_inv (P : DParams) (Inv : Nat → DState → Prop)
    (hstep : ∀ i s, Inv i s → ¬ stopped P s → Inv (i + 1) (step P s)) :
    ∀ fuel i s, Inv i s → ∃ j, Inv j (loop P fuel s) := by
  intro fuel
  induction fuel with
  | zero => intro i s h; exact ⟨i, h⟩
  | succ n ih =>
    intro i s h
    by_cases hs : stopped P s
    · rw [loop_stopped P _ s hs]; exact ⟨i, h⟩
    · rw [loop_succ_running P n s hs]; exact ih (i + 1) _ (hstep i s h hs)

/-! ### shape of the rows -/

def ShapeInv (P : DParams) (n : Nat) (s : DState) : Prop :=
  s.S.length = n + 1 ∧ s.I.length = n + 1 ∧ s.R.length = n + 1 ∧
  s.t = ((List.range (n + 1)).map fun (i : Nat) => P.tmin + (i : Rat)).reverse

theorem shapeInv_step (P : DParams) (n : Nat) (s : DState) (h : ShapeInv P n s) :
    ShapeInv P (n + 1) (step P s) := by
  obtain ⟨h1, h2, h3, h4⟩ := h
  refine ⟨?_, ?_, ?_, ?_⟩
  · rw [step_S]; simp [h1]
  · rw [step_I]; simp [h2]
  · rw [step_R]; simp [h3]
  · rw [step_t, h4, List.range_succ (n := n + 1)]
    simp [List.range_succ]
    ring

/-! ### conservation -/

theorem length_filter_contains (l m : List Node) (hl : l.Nodup) (hm : m.Nodup) (hsub : ∀ u ∈ m, u ∈ l) :
    (l.filter fun v => m.contains v).length = m.length :=
  hl.length_filter_eq hm _ fun a => by
    rw [List.contains_iff_mem]; exact ⟨fun h => h.2, fun h => ⟨hsub a h, h⟩⟩

theorem length_filter_or {α : Type} (l : List α) (p q : α → Bool) (h : ∀ v ∈ l, ¬ (p v = true ∧ q v = true)) :
    (l.filter fun v => p v || q v).length = (l.filter p).length + (l.filter q).length := by
  induction l with
  | nil => rfl
  | cons a t ih =>
    have iht := ih (fun v hv => h v (List.mem_cons_of_mem _ hv))
    have ha := h a List.mem_cons_self
    simp only [List.filter_cons]
    cases hp : p a <;> cases hq : q a
    · exact iht
    · simp only [Bool.false_or, if_true, List.length_cons, Bool.false_eq_true, if_false, iht]; omega
    · simp only [Bool.or_false, if_true, List.length_cons, Bool.false_eq_true, if_false, iht]; omega
    · exact absurd ⟨hp, hq⟩ ha

structure ConsInv (P : DParams) (s : DState) : Prop where
  sub : s.inf.Sublist P.nodes
  notsus : ∀ u ∈ s.inf, s.sus u = false
  count : s.nS + (s.inf.length : Int) + s.totR = (P.nodes.length : Int)
  lenS : s.S.length = s.t.length
  lenI : s.I.length = s.t.length
  lenR : s.R.length = s.t.length
  rows : ∀ i, i < s.t.length → s.S.getD i 0 + s.I.getD i 0 + s.R.getD i 0 = (P.nodes.length : Int)

theorem consInv_init (P : DParams) (infs recs : List Node) (h : WF P infs recs) :
    ConsInv P (init P infs recs) := by
  have hlen := length_filter_contains P.nodes infs h.nodup h.infs_nodup h.infs_mem
  refine ⟨?_, ?_, ?_, rfl, rfl, rfl, ?_⟩
  · exact List.filter_sublist
  · intro u hu
    simp only [init, List.mem_filter, List.contains_iff_mem] at hu
    simp [init, hu.2]
  · simp only [init]; rw [hlen]; ring
  · intro i hi
    simp only [init, List.length_singleton, Nat.lt_one_iff] at hi
    subst hi
    simp only [init, List.getD_cons_zero]
    ring

theorem length_step_inf (P : DParams) (s : DState) (hnd : P.nodes.Nodup) (hc : ConsInv P s) :
    (step P s).inf.length = (newInf P s).length + (stay P s).length := by
  have hstay_sub : (stay P s).Sublist s.inf := stay_sublist P s
  have hinf_nd : s.inf.Nodup := hc.sub.nodup hnd
  rw [step_inf, length_filter_or]
  · congr 1
    · have : (P.nodes.filter fun v => (newInf P s).contains v) = newInf P s := by
        conv_rhs => unfold newInf
        apply List.filter_congr
        intro v hv
        rw [Bool.eq_iff_iff, List.contains_iff_mem, mem_newInf]
        simp [hv]
      rw [this]
    · exact length_filter_contains P.nodes (stay P s) hnd (hstay_sub.nodup hinf_nd)
        (fun u hu => hc.sub.subset (hstay_sub.subset hu))
  · intro v _ ⟨h1, h2⟩
    rw [List.contains_iff_mem] at h1 h2
    have := hc.notsus v (hstay_sub.subset h2)
    rw [mem_newInf] at h1
    rw [h1.2.1] at this
    exact absurd this (by simp)

theorem consInv_step (P : DParams) (s : DState) (hnd : P.nodes.Nodup) (hc : ConsInv P s) :
    ConsInv P (step P s) := by
  have hlen := length_step_inf P s hnd hc
  have hstay_sub : (stay P s).Sublist s.inf := stay_sublist P s
  have hle : (stay P s).length ≤ s.inf.length := hstay_sub.length_le
  have hcount : (step P s).nS + ((step P s).inf.length : Int) + (step P s).totR = (P.nodes.length : Int) := by
    rw [hlen, step_nS, step_totR]
    have := hc.count
    push_cast [hle]
    linarith
  refine ⟨?_, ?_, hcount, ?_, ?_, ?_, ?_⟩
  · rw [step_inf]; exact List.filter_sublist
  · exact step_notsus P s hc.notsus
  · rw [step_S, step_t, List.length_cons, List.length_cons, hc.lenS]
  · rw [step_I, step_t, List.length_cons, List.length_cons, hc.lenI]
  · rw [step_R, step_t, List.length_cons, List.length_cons, hc.lenR]
  · intro i hi
    rw [step_S, step_I, step_R]
    rw [step_t] at hi
    cases i with
    | zero => exact hcount
    | succ j =>
      simp only [List.getD_cons_succ]
      exact hc.rows j (Nat.lt_of_succ_lt_succ hi)

theorem consInv_run (P : DParams) (infs recs : List Node) (h : WF P infs recs) (fuel : Nat) :
    ConsInv P (run P infs recs fuel) := by
  obtain ⟨_, hj⟩ := loop_inv P (fun _ s => ConsInv P s) (fun _ s hs _ => consInv_step P s h.nodup hs)
    fuel 0 _ (consInv_init P infs recs h)
  exact hj

/-! ### masses; `percolateDist` -/

theorem percolate_support' {ε : Type} (p : Rat) (edges : List ε) (kept : List ε)
    (hk : ∃ q, (kept, q) ∈ percolateDist p edges) : kept.Sublist edges := by
  induction edges generalizing kept with
  | nil =>
    obtain ⟨q, hq⟩ := hk
    simp [percolateDist, Dist.pure] at hq
    rw [hq.1]
  | cons e es ih =>
    obtain ⟨q, hq⟩ := hk
    simp only [percolateDist, Dist.bind, Dist.bern, Dist.push, List.flatMap_cons, List.flatMap_nil,
      List.append_nil, List.mem_append, List.mem_map, Prod.mk.injEq, Prod.exists] at hq
    rcases hq with ⟨a, b, ⟨a', b', hm, rfl, rfl⟩, rfl, rfl⟩ | ⟨a, b, ⟨a', b', hm, rfl, rfl⟩, rfl, rfl⟩
    · simpa using ih a' ⟨b', hm⟩
    · simpa using (ih a' ⟨b', hm⟩).cons e

/-- the two Bernoulli branches of `percolateDist (a :: l)`, for any `d` whose outcomes are sublists of `l` -/
theorem mass_beq_filter_cons {α : Type} [DecidableEq α] (d : Dist (List α)) {a : α} {l : List α} (ha : a ∉ l)
    (hd : ∀ x ∈ d, x.1.Sublist l) (keep : α → Bool) :
    Dist.mass d (fun s => a :: s == (a :: l).filter keep) =
      (if keep a then Dist.mass d (fun s => s == l.filter keep) else 0) ∧
    Dist.mass d (fun s => s == (a :: l).filter keep) =
      (if keep a then 0 else Dist.mass d (fun s => s == l.filter keep)) := by
  have hf : (a :: l).filter keep = if keep a = true then a :: l.filter keep else l.filter keep := List.filter_cons
  cases hk : keep a <;> rw [hk] at hf <;> simp only [Bool.false_eq_true, if_false, if_true] at hf ⊢ <;> rw [hf]
  · exact ⟨Dist.mass_eq_zero _ _ fun x _ => beq_eq_false_iff_ne.2 fun h =>
      ha (List.mem_filter.1 (h ▸ List.mem_cons_self)).1, rfl⟩
  · exact ⟨Dist.mass_congr _ _ _ fun x _ => by simp, Dist.mass_eq_zero _ _ fun x hx => beq_eq_false_iff_ne.2 fun h =>
      ha ((hd x hx).subset (h ▸ List.mem_cons_self))⟩

theorem percolate_edge_law' {ε : Type} [DecidableEq ε] (p : Rat) (edges : List ε) (hn : edges.Nodup)
    (keep : ε → Bool) :
    Dist.mass (percolateDist p edges) (fun kept => kept == edges.filter keep) =
      p ^ (edges.filter keep).length * (1 - p) ^ (edges.length - (edges.filter keep).length) := by
  induction edges with
  | nil => simp [percolateDist, Dist.mass_pure]
  | cons e es ih =>
    have hnd := List.nodup_cons.mp hn
    have hle : (es.filter keep).length ≤ es.length := List.length_filter_le _ _
    obtain ⟨h1, h2⟩ := mass_beq_filter_cons (percolateDist p es) hnd.1
      (fun x hx => percolate_support' p es x.1 ⟨x.2, hx⟩) keep
    simp only [percolateDist]
    rw [Dist.mass_bern_bind, Dist.mass_push, Dist.mass_push]
    simp only [if_true, Bool.false_eq_true, if_false]
    rw [h1, h2, ih hnd.2]
    cases hk : keep e
    · simp only [List.filter_cons, hk, Bool.false_eq_true, if_false, List.length_cons]
      rw [Nat.succ_sub hle, pow_succ]
      ring
    · simp only [List.filter_cons, hk, if_true, List.length_cons, Nat.add_sub_add_right]
      ring

section Ball
variable (P : DParams) (infs recs : List Node)

theorem mem_ball_zero (v : Node) :
    v ∈ ball P infs recs 0 ↔ v ∈ P.nodes ∧ v ∈ infs ∧ v ∉ recs := by
  simp [ball]

theorem mem_ball_succ (k : Nat) (v : Node) :
    v ∈ ball P infs recs (k + 1) ↔ v ∈ P.nodes ∧ v ∉ recs ∧
      (v ∈ ball P infs recs k ∨ ∃ u ∈ ball P infs recs k, v ∈ P.nbrs u ∧ P.rule 0 u v = true) := by
  simp [ball]

theorem ball_nodes (k : Nat) (v : Node) (h : v ∈ ball P infs recs k) : v ∈ P.nodes ∧ v ∉ recs := by
  cases k with
  | zero => rw [mem_ball_zero] at h; exact ⟨h.1, h.2.2⟩
  | succ k => rw [mem_ball_succ] at h; exact ⟨h.1, h.2.1⟩

theorem ball_mono_succ (k : Nat) (v : Node) (h : v ∈ ball P infs recs k) : v ∈ ball P infs recs (k + 1) := by
  rw [mem_ball_succ]
  exact ⟨(ball_nodes P infs recs k v h).1, (ball_nodes P infs recs k v h).2, Or.inl h⟩

theorem ball_mono {k m : Nat} (hkm : k ≤ m) (v : Node) (h : v ∈ ball P infs recs k) : v ∈ ball P infs recs m := by
  induction m with
  | zero => have : k = 0 := by omega
            subst this; exact h
  | succ n ih =>
    by_cases hk : k = n + 1
    · subst hk; exact h
    · exact ball_mono_succ P infs recs n v (ih (by omega))

theorem ball_stationary (k : Nat) (h : ∀ v, v ∈ ball P infs recs (k + 1) → v ∈ ball P infs recs k) :
    ∀ m v, v ∈ ball P infs recs m → v ∈ ball P infs recs k := by
  intro m
  induction m with
  | zero => intro v hv; exact ball_mono P infs recs (Nat.zero_le k) v hv
  | succ n ih =>
    intro v hv
    rw [mem_ball_succ] at hv
    obtain ⟨h1, h2, h3 | ⟨u, hu, hc⟩⟩ := hv
    · exact ih v h3
    · exact h v ((mem_ball_succ P infs recs k v).2 ⟨h1, h2, Or.inr ⟨u, ih u hu, hc⟩⟩)

theorem ball_empty (h : ∀ v, v ∉ ball P infs recs 0) : ∀ k v, v ∉ ball P infs recs k := by
  intro k
  induction k with
  | zero => exact h
  | succ n ih =>
    intro v hv
    rw [mem_ball_succ] at hv
    obtain ⟨_, _, h3 | ⟨u, hu, _⟩⟩ := hv
    · exact ih v h3
    · exact ih u hu

theorem exists_stationary :
    ∃ k ≤ P.nodes.length, ∀ v, v ∈ ball P infs recs (k + 1) → v ∈ ball P infs recs k := by
  obtain ⟨k, hk, h⟩ := List.exists_stationary_filter P.nodes (fun k v => decide (v ∈ ball P infs recs k))
    (fun k v _ hv => by simpa using ball_mono_succ P infs recs k v (by simpa using hv))
  exact ⟨k, hk, fun v hv => by simpa using h v (ball_nodes P infs recs _ v hv).1 (by simpa using hv)⟩

theorem ball_le_N (k : Nat) (v : Node) (hv : v ∈ ball P infs recs k) : v ∈ ball P infs recs P.nodes.length := by
  obtain ⟨k0, hk0, hst⟩ := exists_stationary P infs recs
  exact ball_mono P infs recs hk0 v (ball_stationary P infs recs k0 hst k v hv)

/-! ### `bfs` is the least index of a ball containing the node -/

theorem find?_range_none (p : Nat → Bool) (n : Nat) (h : (List.range n).find? p = none) :
    ∀ j < n, p j = false := by
  intro j hj
  rw [List.find?_eq_none] at h
  have := h j (List.mem_range.mpr hj)
  simpa using this

theorem find?_range_some (p : Nat → Bool) (n d : Nat) (h : (List.range n).find? p = some d) :
    d < n ∧ p d = true ∧ ∀ j < d, p j = false := by
  induction n with
  | zero => simp at h
  | succ n ih =>
    rw [List.range_succ, List.find?_append] at h
    cases hf : (List.range n).find? p with
    | some d' =>
      rw [hf] at h
      simp only [Option.some_or, Option.some.injEq] at h
      have := ih (by rw [hf, h])
      exact ⟨by omega, this.2⟩
    | none =>
      rw [hf] at h
      simp only [Option.none_or, List.find?_cons, List.find?_nil] at h
      cases hp : p n with
      | true =>
        rw [hp] at h
        simp only [Option.some.injEq] at h
        subst h
        exact ⟨by omega, hp, find?_range_none p n hf⟩
      | false => rw [hp] at h; simp at h

theorem bfs_none (v : Node) (h : bfs P infs recs v = none) : ∀ k, v ∉ ball P infs recs k := by
  intro k hk
  have := find?_range_none _ _ h P.nodes.length (by omega)
  have h2 := ball_le_N P infs recs k v hk
  simp [h2] at this

theorem bfs_some (v : Node) (d : Nat) (h : bfs P infs recs v = some d) :
    v ∈ ball P infs recs d ∧ ∀ j < d, v ∉ ball P infs recs j := by
  obtain ⟨_, h2, h3⟩ := find?_range_some _ _ _ h
  refine ⟨by simpa using h2, ?_⟩
  intro j hj
  simpa using h3 j hj

/-! ### expected report of a node after `i` generations -/

def isNew (k : Nat) (v : Node) : Prop := v ∈ ball P infs recs (k + 1) ∧ v ∉ ball P infs recs k

instance (k : Nat) (v : Node) : Decidable (isNew P infs recs k v) := by unfold isNew; infer_instance

def repSpec : Nat → Node → List Rat
  | 0, _ => []
  | i + 1, v => repSpec i v ++ (if isNew P infs recs i v then [P.tmin + (i : Rat) + 1] else [])

theorem isNew_unique (d d' : Nat) (v : Node) (h : isNew P infs recs d v) (h' : isNew P infs recs d' v) :
    d = d' := by
  by_contra hne
  rcases Nat.lt_or_gt_of_ne hne with hlt | hlt
  · exact h'.2 (ball_mono P infs recs (by omega) v h.1)
  · exact h.2 (ball_mono P infs recs (by omega) v h'.1)

theorem repSpec_nil (i : Nat) (v : Node) (h : ∀ d < i, ¬ isNew P infs recs d v) :
    repSpec P infs recs i v = [] := by
  induction i with
  | zero => rfl
  | succ n ih =>
    simp only [repSpec]
    rw [ih (fun d hd => h d (by omega)), if_neg (h n (by omega))]
    rfl

theorem repSpec_single (i d : Nat) (v : Node) (hd : d < i) (h : isNew P infs recs d v) :
    repSpec P infs recs i v = [P.tmin + (d : Rat) + 1] := by
  induction i with
  | zero => omega
  | succ n ih =>
    simp only [repSpec]
    by_cases hdn : d = n
    · subst hdn
      rw [if_pos h, repSpec_nil]
      · rfl
      · intro d' hd' h'
        have := isNew_unique P infs recs d d' v h h'
        omega
    · rw [ih (by omega), if_neg]
      · rfl
      · intro h'
        exact hdn (isNew_unique P infs recs d n v h h')

/-! ### the BFS invariant of the loop -/

/-- report of node `v` in an output list -/
def rep (l : List (Node × Rat)) (v : Node) : List Rat := (l.filter fun e => e.1 == v).map (·.2)

theorem rep_append (l m : List (Node × Rat)) (v : Node) : rep (l ++ m) v = rep l v ++ rep m v := by
  simp [rep]

theorem rep_map_const (l : List Node) (hl : l.Nodup) (c : Rat) (v : Node) :
    rep (l.map fun w => (w, c)) v = if v ∈ l then [c] else [] := by
  induction l with
  | nil => rfl
  | cons a t ih =>
    have hnd := List.nodup_cons.mp hl
    have iht := ih hnd.2
    by_cases hav : a = v
    · subst hav
      have : a ∉ t := hnd.1
      simp only [this, if_false] at iht
      simp only [rep, List.map_cons, List.filter_cons, beq_self_eq_true, if_true, List.mem_cons, true_or]
      simp only [rep] at iht
      rw [iht]
    · have hva : ¬ v = a := fun h => hav h.symm
      simp only [rep, List.map_cons, List.filter_cons, List.mem_cons, hva, false_or]
      simp only [rep] at iht
      rw [← iht]
      simp [hav]

/-- `inf_sup` says "every node that entered the ball at exactly step `i` is infectious" in a form that covers `i = 0` (premise
vacuous: all of ball 0).  `rule0` holds under the default recovery rule or an `Ageless` rule; without it `exA` of Props/C12.lean
is a counter-example. -/
structure BfsInv (i : Nat) (s : DState) : Prop where
  sus : ∀ v ∈ P.nodes, (s.sus v = true ↔ v ∉ ball P infs recs i ∧ v ∉ recs)
  inf_sub : ∀ v ∈ s.inf, v ∈ ball P infs recs i
  inf_sup : ∀ v ∈ ball P infs recs i, (∀ j, i = j + 1 → v ∉ ball P infs recs j) → v ∈ s.inf
  time : s.t.headD P.tmin = P.tmin + (i : Rat)
  horizon : ∀ j < i, ERat.lt (some (P.tmin + (j : Rat))) P.tmax = true
  rep : ∀ v, rep s.infTime v = repSpec P infs recs i v
  rule0 : ∀ u v, P.rule (s.age u) u v = P.rule 0 u v

theorem bfsInv_init (h : WF P infs recs) : BfsInv P infs recs 0 (init P infs recs) := by
  refine ⟨?_, ?_, ?_, ?_, ?_, ?_, ?_⟩
  · intro v hv
    rw [mem_ball_zero]
    simp only [init, Bool.not_eq_true', Bool.or_eq_false_iff, List.contains_eq_mem, decide_eq_false_iff_not]
    exact ⟨fun ⟨h1, h2⟩ => ⟨fun hb => h1 hb.2.1, h2⟩, fun ⟨h1, h2⟩ => ⟨fun hi => h1 ⟨hv, hi, h2⟩, h2⟩⟩
  · intro v hv
    simp only [init, List.mem_filter, List.contains_iff_mem] at hv
    rw [mem_ball_zero]
    exact ⟨hv.1, hv.2, h.disjoint v hv.2⟩
  · intro v hv _
    rw [mem_ball_zero] at hv
    simp only [init, List.mem_filter, List.contains_iff_mem]
    exact ⟨hv.1, hv.2.1⟩
  · show P.tmin = P.tmin + ((0 : Nat) : Rat)
    rw [Nat.cast_zero, add_zero]
  · intro j hj; exact absurd hj (Nat.not_lt_zero j)
  · intro v; rfl
  · intro u v; rfl

theorem mem_newInf_bfs (i : Nat) (s : DState) (h : BfsInv P infs recs i s) (v : Node) :
    v ∈ newInf P s ↔ isNew P infs recs i v := by
  unfold isNew
  rw [mem_newInf, mem_ball_succ]
  constructor
  · rintro ⟨hv, hs, u, hu, hc⟩
    rw [h.rule0] at hc
    have := (h.sus v hv).mp hs
    exact ⟨⟨hv, this.2, Or.inr ⟨u, h.inf_sub u hu, hc⟩⟩, this.1⟩
  · rintro ⟨⟨hv, hr, hb⟩, hnb⟩
    refine ⟨hv, (h.sus v hv).mpr ⟨hnb, hr⟩, ?_⟩
    rcases hb with hb | ⟨u, hu, hc⟩
    · exact absurd hb hnb
    · by_cases hui : u ∈ s.inf
      · exact ⟨u, hui, by rw [h.rule0]; exact hc⟩
      · exfalso
        have : ¬ ∀ j, i = j + 1 → u ∉ ball P infs recs j := fun hall => hui (h.inf_sup u hu hall)
        apply this
        intro j hj huj
        subst hj
        apply hnb
        rw [mem_ball_succ]
        exact ⟨hv, hr, Or.inr ⟨u, huj, hc⟩⟩

theorem bfsInv_step (hrule : P.recSteps = none ∨ Ageless P) (hnd : P.nodes.Nodup) (i : Nat) (s : DState) (h : BfsInv P infs recs i s)
    (hrun : ¬ stopped P s) : BfsInv P infs recs (i + 1) (step P s) := by
  have hnew := mem_newInf_bfs P infs recs i s h
  have hstay_sub : (stay P s).Sublist s.inf := stay_sublist P s
  refine ⟨?_, ?_, ?_, ?_, ?_, ?_, ?_⟩
  · intro v hv
    rw [step_sus]
    simp only [Bool.and_eq_true, Bool.not_eq_true', List.contains_eq_mem, decide_eq_false_iff_not]
    rw [hnew, h.sus v hv]
    unfold isNew
    constructor
    · rintro ⟨⟨h1, h2⟩, h3⟩
      exact ⟨fun hb => h3 ⟨hb, h1⟩, h2⟩
    · rintro ⟨h1, h2⟩
      exact ⟨⟨fun hb => h1 (ball_mono_succ P infs recs i v hb), h2⟩, fun hb => h1 hb.1⟩
  · intro v hv
    rw [mem_step_inf] at hv
    rcases hv.2 with hv' | hv'
    · exact ((hnew v).mp hv').1
    · exact ball_mono_succ P infs recs i v (h.inf_sub v (hstay_sub.subset hv'))
  · intro v hv hall
    rw [mem_step_inf]
    have hvn := (ball_nodes P infs recs _ v hv).1
    exact ⟨hvn, Or.inl ((hnew v).mpr ⟨hv, hall i rfl⟩)⟩
  · rw [step_t]
    simp only [List.headD_cons]
    rw [h.time]; push_cast; ring
  · intro j hj
    by_cases hji : j = i
    · subst hji
      unfold stopped at hrun
      rw [h.time] at hrun
      cases hlt : ERat.lt (some (P.tmin + (j : Rat))) P.tmax with
      | true => rfl
      | false => exact absurd (Or.inr hlt) hrun
    · exact h.horizon j (by omega)
  · intro v
    have hnn : (newInf P s).Nodup := (List.filter_sublist (l := P.nodes)).nodup hnd
    rw [step_infTime, rep_append, h.rep v, rep_map_const (newInf P s) hnn, h.time]
    simp only [repSpec]
    congr 1
    by_cases hn : isNew P infs recs i v
    · rw [if_pos ((hnew v).mpr hn), if_pos hn]
    · rw [if_neg (fun hh => hn ((hnew v).mp hh)), if_neg hn]
  · intro u v
    rcases hrule with hnone | hag
    · rw [step_age_none P s hnone]; exact h.rule0 u v
    · exact hag _ u v

/-- By cases on `bfs v`.  Unreachable or distance 0: no entry.  Distance `d + 1` with step `d` inside the horizon: one entry
provided `d < i`; `i ≤ d` is impossible — a loop that stopped for lack of infecteds has stationary balls from `i` on, against the
minimality of `d + 1`, and one that stopped at the horizon has `tmin + i ≥ tmax`.  Step `d` outside the horizon: `d ≥ i`, no entry. -/
theorem isBFS_of_inv (i : Nat) (s : DState) (h : BfsInv P infs recs i s) (hstop : stopped P s) :
    isBFS P infs recs s.infTime = true := by
  unfold isBFS
  rw [List.all_eq_true]
  intro v hv
  have hrep : (s.infTime.filter fun e => e.1 == v).map (·.2) = repSpec P infs recs i v := h.rep v
  simp only
  rw [hrep]
  cases hb : bfs P infs recs v with
  | none =>
    have hnone := bfs_none P infs recs v hb
    simp only [beq_iff_eq]
    exact repSpec_nil P infs recs i v (fun d _ hn => hnone _ hn.1)
  | some d =>
    obtain ⟨hd1, hd2⟩ := bfs_some P infs recs v d hb
    cases d with
    | zero =>
      simp only [beq_iff_eq]
      exact repSpec_nil P infs recs i v (fun d _ hn => hn.2 (ball_mono P infs recs (Nat.zero_le _) v hd1))
    | succ d =>
      have hnew : isNew P infs recs d v := ⟨hd1, hd2 d (by omega)⟩
      simp only
      by_cases hlt : ERat.lt (some (P.tmin + (d : Rat))) P.tmax = true
      · rw [if_pos hlt, beq_iff_eq]
        apply repSpec_single P infs recs i d v _ hnew
        by_contra hid
        have hid : i ≤ d := by omega
        rcases hstop with hemp | hhor
        · -- no infectious node left: the balls are stationary from `i` on
          have hemp' : s.inf = [] := by simpa using hemp
          cases i with
          | zero =>
            have h0 : ∀ w, w ∉ ball P infs recs 0 := by
              intro w hw
              have := h.inf_sup w hw (fun j hj => by omega)
              rw [hemp'] at this; simp at this
            exact ball_empty P infs recs h0 _ v hd1
          | succ j =>
            have hst : ∀ w, w ∈ ball P infs recs (j + 1) → w ∈ ball P infs recs j := by
              intro w hw
              by_contra hwj
              have := h.inf_sup w hw (fun j' hj' => by
                have : j' = j := by omega
                subst this; exact hwj)
              rw [hemp'] at this; simp at this
            have := ball_stationary P infs recs j hst _ v hd1
            exact hd2 j (by omega) this
        · rw [h.time] at hhor
          have := ERat.lt_of_le_of_lt (a := some (P.tmin + (i : Rat))) (b := some (P.tmin + (d : Rat)))
            (by have : (i : Rat) ≤ (d : Rat) := by exact_mod_cast hid
                simp only [ERat.le, decide_eq_true_eq]; linarith) hlt
          rw [this] at hhor
          exact absurd hhor (by simp)
      · rw [if_neg hlt, beq_iff_eq]
        apply repSpec_nil
        intro d' hd' hn'
        have := isNew_unique P infs recs d d' v hnew hn'
        subst this
        exact hlt (h.horizon d hd')

end Ball

end Discrete
