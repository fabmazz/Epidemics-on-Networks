import EoNVerif.Proofs.TapeStep
/-!
Two runs side by side.  `TM.RR E R x y` relates two results of tape computations: both return, with the SAME tape state
(remaining draws and logged calls) and `R`-related values, or both raise, with `E`-related messages.  By convention the
generated code is on the left, the hand model on the right (so `RR.fwd`, "forward", carries a return of the model to
the generated code).  Two `E` are in use: `Eq` (the same exception; `GenFastSIS` and, through `evLoop_opt`, the
event-driven simulators) and `NoKE2` (neither is `KeyError`; the Gillespie-type simulators).  `TM.Bisim m1 m2 Q` is the
statement for two programs with `E = NoKE2`, and has the same rules without the tape state.  The relations that the
property files state are readings of it: `TM.Sim` (both directions, no word on exceptions) by `Bisim.sim`,
`GenCC.ResRel` and `GenSC.ResRel` by their `resRel_eq`.  "Does not raise `KeyError`" is said of one program by `NoKE`
(the error branch of `TM.Safe` of Proofs/TapeStep) and concluded by `RR.no_keyerror`, `Bisim.no_keyerror` here,
`SafeR.no_keyerror`, `Safe.ne_keyError` there.
-/
namespace TM
variable {α β γ δ : Type}

def RR (E : String → String → Prop) (R : α → β → Prop) :
    Except String (α × TapeSt) → Except String (β × TapeSt) → Prop
  | .ok (a, t1), .ok (b, t2) => t1 = t2 ∧ R a b
  | .error e1, .error e2 => E e1 e2
  | _, _ => False

def NoKE2 (e1 e2 : String) : Prop := e1 ≠ "KeyError" ∧ e2 ≠ "KeyError"

namespace RR
variable {E : String → String → Prop} {R : α → β → Prop} {R' : γ → δ → Prop}
  {x : Except String (α × TapeSt)} {y : Except String (β × TapeSt)}

theorem ok {a : α} {b : β} (t : TapeSt) (h : R a b) : RR E R (.ok (a, t)) (.ok (b, t)) := ⟨rfl, h⟩

theorem of_err {e1 e2 : String} (hx : x = .error e1) (hy : y = .error e2) (h : E e1 e2) : RR E R x y := by
  subst hx hy; exact h

theorem cases (h : RR E R x y) :
    (∃ e1 e2, x = .error e1 ∧ y = .error e2 ∧ E e1 e2) ∨ ∃ a b t, x = .ok (a, t) ∧ y = .ok (b, t) ∧ R a b := by
  match x, y, h with
  | .ok (a, t1), .ok (b, _), ⟨rfl, h⟩ => exact .inr ⟨a, b, t1, rfl, rfl, h⟩
  | .error e1, .error e2, h => exact .inl ⟨e1, e2, rfl, rfl, h⟩

theorem mono (h : RR E R x y) {R₂ : α → β → Prop} (hR : ∀ a b, R a b → R₂ a b) : RR E R₂ x y := by
  rcases h.cases with ⟨e1, e2, rfl, rfl, he⟩ | ⟨a, b, t, rfl, rfl, hr⟩
  · exact he
  · exact ⟨rfl, hR _ _ hr⟩

theorem refl (hE : ∀ e, E e e) (x : Except String (α × TapeSt)) : RR E Eq x x := by
  match x with
  | .ok (a, t) => exact ⟨rfl, rfl⟩
  | .error e => exact hE e

theorem fwd (h : RR E R x y) {b : β} {t : TapeSt} (hy : y = .ok (b, t)) : ∃ a, x = .ok (a, t) ∧ R a b := by
  rcases h.cases with ⟨_, _, _, rfl, _⟩ | ⟨a, b', t', rfl, rfl, hr⟩
  · cases hy
  · cases hy; exact ⟨a, rfl, hr⟩

theorem bwd (h : RR E R x y) {a : α} {t : TapeSt} (hx : x = .ok (a, t)) : ∃ b, y = .ok (b, t) ∧ R a b := by
  rcases h.cases with ⟨_, _, rfl, _, _⟩ | ⟨a', b, t', rfl, rfl, hr⟩
  · cases hx
  · cases hx; exact ⟨b, rfl, hr⟩

theorem fails_iff (h : RR E R x y) : (∃ e, x = .error e) ↔ ∃ e, y = .error e := by
  rcases h.cases with ⟨e1, e2, rfl, rfl, _⟩ | ⟨a, b, t, rfl, rfl, _⟩
  · exact ⟨fun _ => ⟨e2, rfl⟩, fun _ => ⟨e1, rfl⟩⟩
  · exact ⟨(fun ⟨_, h'⟩ => nomatch h'), (fun ⟨_, h'⟩ => nomatch h')⟩

theorem error_iff (h : RR Eq R x y) (e : String) : x = .error e ↔ y = .error e := by
  rcases h.cases with ⟨e1, e2, rfl, rfl, rfl⟩ | ⟨a, b, t, rfl, rfl, _⟩
  · exact ⟨fun h' => congrArg _ (Except.error.inj h'), fun h' => congrArg _ (Except.error.inj h')⟩
  · exact ⟨(fun h' => nomatch h'), (fun h' => nomatch h')⟩

theorem err_left (h : RR E R x y) {e1 : String} (hx : x = .error e1) : ∃ e2, y = .error e2 ∧ E e1 e2 := by
  rcases h.cases with ⟨e1', e2, rfl, rfl, he⟩ | ⟨_, _, _, rfl, _, _⟩
  · cases hx; exact ⟨e2, rfl, he⟩
  · cases hx

theorem pure {a : α} {b : β} (ts : TapeSt) (h : R a b) : RR E R ((pure a : TM α) ts) ((pure b : TM β) ts) := ⟨rfl, h⟩

theorem fail {e1 e2 : String} (ts : TapeSt) (h : E e1 e2) : RR E R ((TM.fail e1 : TM α) ts) ((TM.fail e2 : TM β) ts) := h

theorem bind {m : TM α} {n : TM β} {k : α → TM γ} {k' : β → TM δ} {ts : TapeSt} (h : RR E R (m ts) (n ts))
    (hk : ∀ a b t, R a b → RR E R' (k a t) (k' b t)) : RR E R' ((m >>= k) ts) ((n >>= k') ts) := by
  rcases h.cases with ⟨e1, e2, h1, h2, he⟩ | ⟨a, b, t, h1, h2, hr⟩
  · rw [bind_err h1, bind_err h2]; exact he
  · rw [bind_ok h1, bind_ok h2]; exact hk a b t hr

theorem map_left {R' : γ → β → Prop} {m : TM α} {n : TM β} {f : α → γ} {ts : TapeSt}
    (h : RR E R (m ts) (n ts)) (hf : ∀ a b, R a b → R' (f a) b) :
    RR E R' ((m >>= fun a => (Pure.pure (f a) : TM γ)) ts) (n ts) := by
  rw [← bind_pure n]
  exact h.bind fun a b t hab => RR.pure t (hf a b hab)

theorem ite {c : Prop} [Decidable c] {a1 b1 : TM α} {a2 b2 : TM β} {ts : TapeSt} (ha : c → RR E R (a1 ts) (a2 ts))
    (hb : ¬ c → RR E R (b1 ts) (b2 ts)) : RR E R ((if c then a1 else b1) ts) ((if c then a2 else b2) ts) := by
  by_cases h : c
  · rw [if_pos h, if_pos h]; exact ha h
  · rw [if_neg h, if_neg h]; exact hb h

theorem no_keyerror (h : RR E R x y) (hE : ∀ e1 e2, E e1 e2 → e1 ≠ "KeyError") : x ≠ .error "KeyError" := by
  intro hx
  obtain ⟨e2, -, he⟩ := h.err_left hx
  exact hE _ _ he rfl

end RR

def NoKE (m : TM α) : Prop := ∀ ts e, m ts = .error e → e ≠ "KeyError"

theorem NoKE.popUnif : NoKE TM.popUnif := fun ts e h => TM.popUnif_err ts e h
theorem NoKE.popExpo (r : Rat) : NoKE (TM.popExpo r) := fun ts e h => TM.popExpo_err r ts e h
theorem NoKE.popChoice (seq : List (List Nat)) : NoKE (TM.popChoice seq) := fun ts e h => TM.popChoice_err seq ts e h

def Fails (m : TM α) : Prop := ∀ ts, ∃ e, m ts = .error e ∧ e ≠ "KeyError"

theorem Fails.fail (msg : String) (h : msg ≠ "KeyError") : Fails (TM.fail msg : TM α) :=
  fun _ => ⟨msg, rfl, h⟩

theorem Fails.liftE_error (e : String) (h : e ≠ "KeyError") (k : α → TM β) :
    Fails (PyTM.liftE (.error e : Except String α) >>= k) := fun _ => ⟨e, rfl, h⟩

theorem Fails.bind {m : TM α} {k : α → TM β} (hm : NoKE m) (hk : ∀ a, Fails (k a)) : Fails (m >>= k) := by
  intro ts
  cases h : m ts with
  | error e => exact ⟨e, bind_err h, hm ts e h⟩
  | ok p =>
    obtain ⟨e, he, hne⟩ := hk p.1 p.2
    exact ⟨e, (bind_ok h).trans he, hne⟩

def Bisim (m1 : TM α) (m2 : TM β) (Q : α → β → Prop) : Prop := ∀ ts, RR NoKE2 Q (m1 ts) (m2 ts)

namespace Bisim
variable {m1 : TM α} {m2 : TM β} {Q Q₂ : α → β → Prop} {Q' : γ → δ → Prop}

theorem bind {k1 : α → TM γ} {k2 : β → TM δ} (h1 : Bisim m1 m2 Q) (h2 : ∀ a b, Q a b → Bisim (k1 a) (k2 b) Q') :
    Bisim (m1 >>= k1) (m2 >>= k2) Q' :=
  fun ts => (h1 ts).bind fun a b t h => h2 a b h t

theorem same {m : TM α} (h : NoKE m) : Bisim m m Eq := by
  intro ts
  cases hx : m ts with
  | error e => exact ⟨h ts e hx, h ts e hx⟩
  | ok r => exact RR.ok r.2 rfl

theorem pure {a : α} {b : β} (h : Q a b) : Bisim (pure a : TM α) (pure b : TM β) Q := fun ts => RR.pure ts h

theorem of_fails (h1 : Fails m1) (h2 : Fails m2) : Bisim m1 m2 Q := by
  intro ts
  obtain ⟨e1, he1, hn1⟩ := h1 ts
  obtain ⟨e2, he2, hn2⟩ := h2 ts
  exact RR.of_err he1 he2 ⟨hn1, hn2⟩

theorem mono (h : Bisim m1 m2 Q) (hq : ∀ a b, Q a b → Q₂ a b) : Bisim m1 m2 Q₂ := fun ts => (h ts).mono hq

theorem ite {c : Prop} [Decidable c] {a1 b1 : TM α} {a2 b2 : TM β} (ha : c → Bisim a1 a2 Q)
    (hb : ¬ c → Bisim b1 b2 Q) : Bisim (if c then a1 else b1) (if c then a2 else b2) Q :=
  fun ts => RR.ite (fun hc => ha hc ts) (fun hc => hb hc ts)

theorem no_keyerror (h : Bisim m1 m2 Q) (ts : TapeSt) : m1 ts ≠ .error "KeyError" :=
  (h ts).no_keyerror fun _ _ he => he.1

end Bisim

/-- `m1` and `m2` simulate each other: on every tape state, a normal return of one is matched by a normal return of the
other with the SAME final tape state (remaining draws and logged calls) and `Q`-related results. -/
def Sim {α β : Type} (m1 : TM α) (m2 : TM β) (Q : α → β → Prop) : Prop :=
  ∀ ts, (∀ b ts', m2 ts = .ok (b, ts') → ∃ a, m1 ts = .ok (a, ts') ∧ Q a b) ∧
        (∀ a ts', m1 ts = .ok (a, ts') → ∃ b, m2 ts = .ok (b, ts') ∧ Q a b)

theorem Bisim.sim {α β : Type} {m1 : TM α} {m2 : TM β} {Q : α → β → Prop} (h : Bisim m1 m2 Q) : Sim m1 m2 Q :=
  fun ts => ⟨fun _ _ hb => (h ts).fwd hb, fun _ _ ha => (h ts).bwd ha⟩

/-- `Option` → tape monad: `none` is the model's `KeyError` -/
def ofOpt {α : Type} (o : Option α) : TM α :=
  match o with
  | some a => pure a
  | none => TM.fail "KeyError"

end TM
