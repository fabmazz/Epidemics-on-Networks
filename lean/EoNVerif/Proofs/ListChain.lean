/-!
A chain of predicates `p 0, p 1, …` that can only grow on a finite list stops growing within `length` steps (the count of
`filter` rises strictly until then): the pigeonhole argument behind the balls of the BFS specification (`Discrete.ball`)
and the expansion chain of `Perc.reach`.  The "chain" of the file name is this growing chain; nothing here is about
`List.IsChain`.
-/

theorem List.length_filter_lt_of_imp {α : Type} (l : List α) (p q : α → Bool) (hpq : ∀ v ∈ l, p v = true → q v = true)
    (hex : ∃ v ∈ l, q v = true ∧ p v = false) : (l.filter p).length < (l.filter q).length := by
  obtain ⟨v, hv, hq, hp⟩ := hex
  have : l.filter p = (l.filter q).filter p := by
    rw [List.filter_filter]
    refine List.filter_congr fun w hw => ?_
    cases hpw : p w
    · rfl
    · rw [hpq w hw hpw]; rfl
  rw [this]
  exact List.length_filter_lt_length_iff_exists.2 ⟨v, List.mem_filter.2 ⟨hv, hq⟩, by rw [hp]; exact Bool.false_ne_true⟩

theorem List.exists_stationary_filter {α : Type} (l : List α) (p : Nat → α → Bool)
    (hmono : ∀ k, ∀ v ∈ l, p k v = true → p (k + 1) v = true) :
    ∃ k ≤ l.length, ∀ v ∈ l, p (k + 1) v = true → p k v = true := by
  refine Classical.byContradiction fun hcon => ?_
  have hgrow : ∀ k ≤ l.length + 1, k ≤ (l.filter (p k)).length := by
    intro k
    induction k with
    | zero => intro _; exact Nat.zero_le _
    | succ k ih =>
      intro hk
      have hex : ∃ v ∈ l, p (k + 1) v = true ∧ p k v = false := by
        refine Classical.byContradiction fun hno => ?_
        refine hcon ⟨k, by omega, fun v hv h1 => ?_⟩
        cases h0 : p k v
        · exact absurd ⟨v, hv, h1, h0⟩ hno
        · rfl
      have := List.length_filter_lt_of_imp l (p k) (p (k + 1)) (hmono k) hex
      have := ih (by omega)
      omega
  have h1 := hgrow (l.length + 1) (Nat.le_refl _)
  have h2 := List.length_filter_le (p (l.length + 1)) l
  omega
