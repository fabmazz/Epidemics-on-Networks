import EoNVerif.Model.InitArgs
import EoNVerif.Model.History
import Mathlib.Tactic.Linarith
/-!
`InitArgs` (argument normalisation) and `History` (node histories from event times).  A node history grows by
"reset if the time is `tmin`, then append"; `Pred.histWFg_reset_append` says that this step keeps a history well formed,
and the SIS history is an iteration of it (`sisLoop_wf`; the SIR case is in Props/C05b.lean).
-/

namespace InitArgs

theorem popSample_ok (n k : Nat) (ts ts' : TapeSt) (l : List Nat)
    (h : TM.popSample n k ts = .ok (l, ts')) : l.length = k ∧ l.Nodup ∧ ∀ u ∈ l, u < n := by
  unfold TM.popSample at h
  split at h
  · cases h
  · split at h
    · split at h
      · rename_i hc
        cases h
        obtain ⟨h1, h2, h3⟩ := hc
        refine ⟨h1, h3, ?_⟩
        intro u hu
        simpa using (List.all_eq_true.mp h2) u hu
      · cases h
    · cases h
    · cases h

end InitArgs

namespace Pred

theorem nondecreasing_append (l : List Rat) (x : Rat) (h : nondecreasing l = true)
    (hl : ∀ y, l.getLast? = some y → y ≤ x) : nondecreasing (l ++ [x]) = true := by
  induction l with
  | nil => simp [nondecreasing]
  | cons a t ih =>
    cases t with
    | nil =>
      have := hl a (by simp)
      simp [nondecreasing, this]
    | cons b t' =>
      simp only [nondecreasing, Bool.and_eq_true, decide_eq_true_eq, List.cons_append] at h ⊢
      refine ⟨h.1, ?_⟩
      apply ih h.2
      intro y hy; apply hl; simpa [List.getLast?_cons_cons] using hy

theorem pairwise_append (legal : String → String → Bool) (l : List String) (x : String)
    (h : pairwise legal l = true)
    (hl : ∀ y, l.getLast? = some y → legal y x = true) : pairwise legal (l ++ [x]) = true := by
  induction l with
  | nil => simp [pairwise]
  | cons a t ih =>
    cases t with
    | nil =>
      have := hl a (by simp)
      simp [pairwise, this]
    | cons b t' =>
      simp only [pairwise, Bool.and_eq_true, List.cons_append] at h ⊢
      refine ⟨h.1, ?_⟩
      apply ih h.2
      intro y hy; apply hl; simpa [List.getLast?_cons_cons] using hy

theorem histWFg_append (legal : List (String × String)) (tmin : Rat) (h : Hist) (tl t : Rat) (sl s : String)
    (hwf : histWFg legal tmin h = true) (hlast : h.getLast? = some (tl, sl)) (hle : tl ≤ t)
    (hleg : legal.contains (sl, s) = true) : histWFg legal tmin (h ++ [(t, s)]) = true := by
  unfold histWFg histTimesOrdered at *
  simp only [Bool.and_eq_true] at hwf ⊢
  obtain ⟨⟨h1, h2⟩, h3⟩ := hwf
  refine ⟨⟨?_, ?_⟩, ?_⟩
  · cases h with
    | nil => simp at hlast
    | cons a t => simpa using h1
  · rw [List.map_append]
    apply nondecreasing_append _ _ h2
    intro y hy
    rw [List.getLast?_map, hlast] at hy
    simp at hy; rw [← hy]; exact hle
  · rw [List.map_append]
    apply pairwise_append _ _ _ h3
    intro y hy
    rw [List.getLast?_map, hlast] at hy
    simp at hy; rw [← hy]; exact hleg

theorem histWFg_singleton (legal : List (String × String)) (tmin : Rat) (s : String) :
    histWFg legal tmin [(tmin, s)] = true := by
  simp [histWFg, histTimesOrdered, nondecreasing, pairwise]

/-- one step of `_transform_to_node_history_`: an entry at `tmin` replaces the history, a later one is appended -/
theorem histWFg_reset_append (legal : List (String × String)) (tmin : Rat) (h : Hist) (tl t : Rat) (sl s : String)
    (hwf : histWFg legal tmin h = true) (hlast : h.getLast? = some (tl, sl)) (hle : tl ≤ t)
    (hleg : legal.contains (sl, s) = true) :
    histWFg legal tmin ((if t = tmin then [] else h) ++ [(t, s)]) = true := by
  split
  · next e => subst e; exact histWFg_singleton legal t s
  · exact histWFg_append legal tmin h tl t sl s hwf hlast hle hleg

end Pred

namespace History
open Pred

theorem sisLoop_wf (tmin : Rat) (infs : List Rat) : ∀ (recs : List Rat) (h : Hist) (tl : Rat),
    histWF false tmin h = true → h.getLast? = some (tl, "S") →
    (recs.length ≤ infs.length ∧ infs.length ≤ recs.length + 1) →
    (∀ ti, infs[0]? = some ti → tl ≤ ti) →
    (∀ k, (∀ ti tr, infs[k]? = some ti → recs[k]? = some tr → ti ≤ tr) ∧
          (∀ tr ti, recs[k]? = some tr → infs[k + 1]? = some ti → tr ≤ ti)) →
    histWF false tmin (sisLoop tmin infs recs h) = true := by
  induction infs with
  | nil => intro recs h tl hwf _ _ _ _; exact hwf
  | cons ti is ih =>
    intro recs h tl hwf hlast hlen hhead halt
    have hwf1 : histWF false tmin ((if ti = tmin then [] else h) ++ [(ti, "I")]) = true :=
      histWFg_reset_append _ _ _ tl ti "S" "I" hwf hlast (hhead ti rfl) (by decide)
    cases recs with
    | nil =>
      have : is = [] := by simpa using hlen
      subst this
      exact hwf1
    | cons tr rs =>
      refine ih rs _ tr
        (histWFg_append _ _ _ ti tr "I" "S" hwf1 (by simp) ((halt 0).1 ti tr rfl rfl) (by decide))
        (by simp) (by simpa using hlen) (fun ti' hti' => (halt 0).2 tr ti' rfl hti') (fun k => ?_)
      exact ⟨fun a b ha hb => (halt (k + 1)).1 a b ha hb, fun a b ha hb => (halt (k + 1)).2 a b ha hb⟩

end History
