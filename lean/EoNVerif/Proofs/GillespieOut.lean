import EoNVerif.Model.Investigation
import EoNVerif.Proofs.Gillespie
import EoNVerif.Proofs.Rows
/-!
Outputs of `Gillespie_SIR` / `Gillespie_SIS` (C04 / C05): the count invariant `Counts` and the arrays as a `Rows.Book`
(`GBook`, behind `Pred.wellFormed`), both as instances of `run_ind`.
-/
namespace Gillespie
open Pred Invest
open Rows (Row Book)

/-- initial status names for the history model -/
def initName (infs recs : List Node) (v : Node) : String := stName (initStatus infs recs v)

/-! ### status counts -/

theorem cnt_init (P : GParams) (h : WF P) (infs recs : List Node)
    (hi : infs.Nodup) (him : ∀ u ∈ infs, u ∈ P.nodes) (hrn : recs.Nodup) (hr : ∀ u ∈ recs, u ∈ P.nodes)
    (hdis : ∀ u ∈ infs, u ∉ recs) :
    Rows.cnt P.nodes (initStatus infs recs) St.S = (P.nodes.length : Int) - infs.length - recs.length ∧
    Rows.cnt P.nodes (initStatus infs recs) St.I = infs.length ∧ Rows.cnt P.nodes (initStatus infs recs) St.R = recs.length := by
  have cI := Rows.cnt_eq_length P.nodes infs h.nodup hi (initStatus infs recs) St.I (fun v => by
    unfold initStatus
    by_cases h1 : v ∈ recs <;> by_cases h2 : v ∈ infs <;> simp [h1, h2]
    · exact hdis v h2 h1
    · exact him v h2)
  have cR := Rows.cnt_eq_length P.nodes recs h.nodup hrn (initStatus infs recs) St.R (fun v => by
    unfold initStatus
    by_cases h1 : v ∈ recs <;> by_cases h2 : v ∈ infs <;> simp [h1, h2, hr v])
  have cS := Rows.cnt_sum P.nodes (initStatus infs recs)
  exact ⟨by omega, cI, cR⟩

/-- an enabled event is a legal move of one node; the arrays it leaves -/
theorem applyEvent_move (P : GParams) (h : WF P) (s s' : GState) (e : GEvent) (t : Rat) (hs : Inv P s)
    (hen : Enabled s e) (ha : applyEvent P s e t = some s') :
    ∃ u b, u ∈ P.nodes ∧ (s.status u = St.S ∧ b = St.I ∨ s.status u = St.I ∧ b = if P.sis then St.S else St.R) ∧
      s'.status = fset s.status u b ∧ s'.times = t :: s.times ∧
      (s.status u = St.S → s'.S = (hd s.S - 1) :: s.S ∧ s'.I = (hd s.I + 1) :: s.I ∧
        s'.R = if P.sis then s.R else hd s.R :: s.R) ∧
      (s.status u = St.I → s'.S = (hd s.S + if P.sis then 1 else 0) :: s.S ∧ s'.I = (hd s.I - 1) :: s.I ∧
        s'.R = if P.sis then s.R else (hd s.R + 1) :: s.R) := by
  cases e with
  | recover u =>
    obtain ⟨h1, h2, h3, h4, h5, -⟩ := applyRec_shape P s s' u t ha
    obtain ⟨hun, hsu⟩ := (hs.inf_items u).1 hen
    refine ⟨u, _, hun, Or.inr ⟨hsu, rfl⟩, h1, h2, fun g => (by rw [hsu] at g; cases g), fun _ => ⟨?_, h4, h5⟩⟩
    rw [h3]; cases P.sis <;> simp
  | transmit u v =>
    obtain ⟨h1, h2, h3, h4, h5, -⟩ := applyTrans_shape P s s' u v t ha
    obtain ⟨hu, hsu, hvu, hsv⟩ := (hs.link_items u v).1 hen
    exact ⟨v, _, h.nbr_mem u hu v hvu, Or.inl ⟨hsv, rfl⟩, h1, h2, fun _ => ⟨h3, h4, h5⟩,
      fun g => (by rw [hsv] at g; cases g)⟩

/-- the heads of the count arrays are the status counts -/
def Counts (P : GParams) (s : GState) : Prop := Rows.Heads P.nodes s.status ⟨0, hd s.S, hd s.I, hd s.R⟩

theorem counts_init (P : GParams) (h : WF P) (infs recs : List Node) (tmin : Rat)
    (hi : infs.Nodup) (him : ∀ u ∈ infs, u ∈ P.nodes) (hrn : recs.Nodup) (hr : ∀ u ∈ recs, u ∈ P.nodes)
    (hdis : ∀ u ∈ infs, u ∉ recs) (s0 : GState) (h0 : init P infs recs tmin = some s0) : Counts P s0 := by
  obtain ⟨hst, -, hS, hI, hR, -⟩ := init_shape P infs recs tmin s0 h0
  obtain ⟨c1, c2, c3⟩ := cnt_init P h infs recs hi him hrn hr hdis
  unfold Counts
  rw [hst, hS, hI, hR]
  exact ⟨c1.symm, c2.symm, c3.symm⟩

theorem counts_step (P : GParams) (h : WF P) (s s' : GState) (e : GEvent) (t : Rat) (hs : Inv P s)
    (hc : Counts P s) (hen : Enabled s e) (ha : applyEvent P s e t = some s') : Counts P s' := by
  obtain ⟨u, b, hun, hab, hst, -, hinf, hrec⟩ := applyEvent_move P h s s' e t hs hen ha
  obtain ⟨new, -, ⟨e1, e2, e3⟩, hnew⟩ := Rows.Heads.push (sis := P.sis) h.nodup hc hun 0 hab
  show hd s'.S = _ ∧ hd s'.I = _ ∧ hd s'.R = _
  rw [hst, ← e1, ← e2, ← e3]
  rcases hnew with ⟨g, g1, g2, g3⟩ | ⟨g, g2, g1, g3⟩
  · obtain ⟨h1, h2, h3⟩ := hinf g
    refine ⟨by rw [h1, g1]; rfl, by rw [h2, g2]; rfl, ?_⟩
    rw [h3, g3]; cases P.sis <;> rfl
  · obtain ⟨h1, h2, h3⟩ := hrec g
    refine ⟨by rw [h1, g1]; rfl, by rw [h2, g2]; rfl, ?_⟩
    rw [h3, g3]; cases P.sis <;> simp [hd]

theorem counts_run (P : GParams) (h : WF P) (infs recs : List Node) (tmin : Rat) (tmax : ERat) (fuel cfuel : Nat)
    (hi : infs.Nodup) (him : ∀ u ∈ infs, u ∈ P.nodes) (hrn : recs.Nodup) (hr : ∀ u ∈ recs, u ∈ P.nodes)
    (hdis : ∀ u ∈ infs, u ∉ recs) (hsis : P.sis = true → recs = []) (ts ts' : TapeSt) (s' : GState)
    (hrun : run P infs recs tmin tmax fuel cfuel ts = .ok (s', ts')) : Counts P s' :=
  (run_ind P h infs recs tmin tmax False (Counts P) hi him hdis hsis
    (fun s0 h0 _ _ => counts_init P h infs recs tmin hi him hrn hr hdis s0 h0)
    (fun s e tv s1 hs hQ hen _ _ ha => counts_step P h s s1 e tv hs hQ hen ha) fuel cfuel ts ts'
    (fun hc => hc.elim) s' hrun).2

/-! ### the arrays behind `Pred.wellFormed` -/

/-- the invariant of the returned arrays said index by index (lists are kept reversed in the state: index 0 is the latest
row).  Nothing below proves or uses it: the theorems about the output go through the list form `GBook` -/
structure TrajInv (P : GParams) (tmin : Rat) (tmax : ERat) (s : GState) : Prop where
  lenS : s.S.length = s.times.length
  lenI : s.I.length = s.times.length
  lenR : P.sis = false → s.R.length = s.times.length
  first : s.times.getLast? = some tmin
  mono : ∀ k, k + 1 < s.times.length → s.times.getD (k + 1) 0 ≤ s.times.getD k 0
  horizon : ∀ t ∈ s.times, ERat.lt (some t) tmax = true
  nonnegS : ∀ x ∈ s.S, 0 ≤ x
  nonnegI : ∀ x ∈ s.I, 0 ≤ x
  nonnegR : P.sis = false → ∀ x ∈ s.R, 0 ≤ x
  sum : ∀ k < s.times.length,
    s.S.getD k 0 + s.I.getD k 0 + (if P.sis then 0 else s.R.getD k 0) = P.nodes.length
  move : ∀ k, k + 1 < s.times.length →
    (s.S.getD k 0 = s.S.getD (k + 1) 0 - 1 ∧ s.I.getD k 0 = s.I.getD (k + 1) 0 + 1 ∧
      (P.sis = false → s.R.getD k 0 = s.R.getD (k + 1) 0)) ∨
    (s.S.getD k 0 = s.S.getD (k + 1) 0 + (if P.sis then 1 else 0) ∧ s.I.getD k 0 = s.I.getD (k + 1) 0 - 1 ∧
      (P.sis = false → s.R.getD k 0 = s.R.getD (k + 1) 0 + 1))


/-- the arrays of the state are the columns of `rs` (newest first); the first row is the one at `tmin` -/
structure GBook (P : GParams) (tmin : Rat) (tmax : ERat) (s : GState) (rs : List Row) : Prop where
  times : s.times = rs.map (·.t)
  colS : s.S = rs.map (·.S)
  colI : s.I = rs.map (·.I)
  colR : P.sis = false → s.R = rs.map (·.R)
  book : Book P.sis P.nodes tmin tmax s.status rs
  first : ∃ r rest, rs.reverse = r :: rest ∧ r.t = tmin
  noR : P.sis = true → ∀ r ∈ rs, r.R = 0

theorem gbook_init (P : GParams) (h : WF P) (infs recs : List Node) (tmin : Rat) (tmax : ERat)
    (hi : infs.Nodup) (him : ∀ u ∈ infs, u ∈ P.nodes) (hrn : recs.Nodup) (hr : ∀ u ∈ recs, u ∈ P.nodes)
    (hdis : ∀ u ∈ infs, u ∉ recs) (hsis : P.sis = true → recs = []) (htm : ERat.lt (some tmin) tmax = true)
    (s0 : GState) (h0 : init P infs recs tmin = some s0) : ∃ rs, GBook P tmin tmax s0 rs := by
  obtain ⟨hst, hT, hS, hI, hR, -⟩ := init_shape P infs recs tmin s0 h0
  obtain ⟨e1, cI, cR⟩ := cnt_init P h infs recs hi him hrn hr hdis
  refine ⟨[⟨tmin, Rows.cnt P.nodes (initStatus infs recs) St.S, Rows.cnt P.nodes (initStatus infs recs) St.I,
    Rows.cnt P.nodes (initStatus infs recs) St.R⟩], ?_, ?_, ?_, ?_, ?_, ⟨_, [], rfl, rfl⟩, ?_⟩
  · rw [hT]; rfl
  · rw [hS, e1]; rfl
  · rw [hI, cI]; rfl
  · intro _; rw [hR, cR]; rfl
  · rw [hst]; exact Book.single htm
  · intro hs r hr'
    rw [List.mem_singleton.1 hr']
    show Rows.cnt P.nodes (initStatus infs recs) St.R = 0
    rw [cR, hsis hs]; rfl

theorem gbook_step (P : GParams) (h : WF P) (tmin : Rat) (tmax : ERat) (s s' : GState) (e : GEvent) (t : Rat)
    (hs : Inv P s) {rs : List Row} (hG : GBook P tmin tmax s rs) (hen : Enabled s e)
    (hle : lastT s ≤ t) (hlt : ERat.lt (some t) tmax = true) (ha : applyEvent P s e t = some s') :
    ∃ rs', GBook P tmin tmax s' rs' := by
  obtain ⟨r, rest, hrs, -⟩ := hG.book.head
  obtain ⟨r0, rest0, hrev, hr0⟩ := hG.first
  have hdS : hd s.S = r.S := by rw [hG.colS, hrs]; rfl
  have hdI : hd s.I = r.I := by rw [hG.colI, hrs]; rfl
  have hdR : P.sis = false → hd s.R = r.R := fun hf => by rw [hG.colR hf, hrs]; rfl
  have hrt : r.t ≤ t := by
    have : lastT s = r.t := by unfold lastT; rw [hG.times, hrs]; rfl
    rwa [this] at hle
  obtain ⟨u, b, hun, hab, hst, hT, hinf, hrec⟩ := applyEvent_move P h s s' e t hs hen ha
  obtain ⟨new, hnt, hB, hnew⟩ := hG.book.push h.nodup hrs hun hrt hlt hab
  refine ⟨new :: rs, ?_, ?_, ?_, ?_, hst ▸ hB, ⟨r0, rest0 ++ [new], by rw [List.reverse_cons, hrev]; rfl, hr0⟩, ?_⟩
  · rw [hT, List.map_cons, hnt, hG.times]
  · rcases hnew with ⟨g, g1, -, -⟩ | ⟨g, -, g1, -⟩
    · rw [(hinf g).1, List.map_cons, g1, hdS, hG.colS]
    · rw [(hrec g).1, List.map_cons, g1, hdS, hG.colS]
  · rcases hnew with ⟨g, -, g1, -⟩ | ⟨g, g1, -, -⟩
    · rw [(hinf g).2.1, List.map_cons, g1, hdI, hG.colI]
    · rw [(hrec g).2.1, List.map_cons, g1, hdI, hG.colI]
  · intro hf
    rcases hnew with ⟨g, -, -, g1⟩ | ⟨g, -, -, g1⟩
    · rw [(hinf g).2.2, hf, List.map_cons, g1, hdR hf, hG.colR hf]; rfl
    · rw [(hrec g).2.2, hf, List.map_cons, g1, hdR hf, hG.colR hf, hf]; rfl
  · intro ht r' hr'
    rcases List.mem_cons.1 hr' with rfl | hr'
    · have := hG.noR ht r (by rw [hrs]; simp)
      rcases hnew with ⟨-, -, -, g1⟩ | ⟨-, -, -, g1⟩
      · rw [g1, this]
      · rw [g1, this, ht]; rfl
    · exact hG.noR ht r' hr'

theorem gbook_wellFormed (P : GParams) (tmin : Rat) (tmax : ERat) (s : GState) {rs : List Row}
    (hG : GBook P tmin tmax s rs) :
    wellFormed (if P.sis then TrajKind.sisCont else TrajKind.sirCont) P.nodes.length tmin tmax false false
      (gTraj P s) = true := by
  have : gTraj P s = Rows.trajOf P.sis (rs.reverse.drop 0) := by
    unfold gTraj Rows.trajOf
    rw [hG.times, hG.colS, hG.colI, List.drop_zero]
    cases hs : P.sis with
    | true => simp only [if_true, List.map_reverse]
    | false => rw [hG.colR hs]; simp only [Bool.false_eq_true, if_false, List.map_reverse]
  rw [this]
  exact hG.book.wellFormed 0 (by rw [List.drop_zero]; exact hG.first) hG.noR

theorem wf_run (P : GParams) (h : WF P) (infs recs : List Node) (tmin : Rat) (tmax : ERat) (fuel cfuel : Nat)
    (hi : infs.Nodup) (him : ∀ u ∈ infs, u ∈ P.nodes) (hrn : recs.Nodup) (hr : ∀ u ∈ recs, u ∈ P.nodes)
    (hdis : ∀ u ∈ infs, u ∉ recs) (hsis : P.sis = true → recs = []) (htm : ERat.lt (some tmin) tmax = true)
    (ts ts' : TapeSt) (hts : TapeNonneg ts) (s' : GState)
    (hrun : run P infs recs tmin tmax fuel cfuel ts = .ok (s', ts')) : ∃ rs, GBook P tmin tmax s' rs :=
  (run_ind P h infs recs tmin tmax True (fun s => ∃ rs, GBook P tmin tmax s rs) hi him hdis hsis
    (fun s0 h0 _ _ => gbook_init P h infs recs tmin tmax hi him hrn hr hdis hsis htm s0 h0)
    (fun s e tv s1 hs ⟨_, hQ⟩ hen hle hlt ha => gbook_step P h tmin tmax s s1 e tv hs hQ hen (hle trivial) hlt ha)
    fuel cfuel ts ts' (fun _ => hts) s' hrun).2

end Gillespie
