import EoNVerif.Gen.PyRT
/-!
The association-list model of a Python `dict` (`alGet` / `alSet` / `alHas` / `alDel` of `Basic`, `alFind?` / `dictGet` /
`ddTouch` of `Gen/PyRT`, the key list `alKeys`); it imports nothing but the definitions.  `alFind?` is the primitive:
`alGet`, `alHas` and `dictGet` are its three readings.

Membership is spelt in two ways by the users and some facts are stated in both: the test `alHas l x = true` is what a
generated `if k in d` produces, `x ∈ l.map (·.1)` is what invariants and `Nodup` hypotheses say (`mem_alKeys_iff` goes
between them).  `alKeys l` is a definition and unfolds to `l.map (·.1)` by `rw [alKeys]`; the lemmas speak of the raw `map`, except
`mem_alKeys_iff`, `alKeys_alSet_of_has`, `alKeys_alDel`, `values_eq_map_alGet`, which their users apply to `alKeys`.
-/
open PyRT

section AL
variable {α β : Type} [DecidableEq α]

theorem alHas_alSet (l : List (α × β)) (x y : α) (v : β) :
    alHas (alSet l x v) y = true ↔ (alHas l y = true ∨ y = x) := by
  induction l with
  | nil => simp [alSet, alHas, eq_comm]
  | cons p t ih => simp only [alSet]; split <;> simp only [alHas] <;> grind

theorem alGet_alSet_self (l : List (α × β)) (x : α) (v d : β) :
    alGet (alSet l x v) d x = v := by
  induction l with
  | nil => simp [alSet, alGet]
  | cons p t ih => by_cases hk : p.1 = x <;> simp [alSet, alGet, hk, ih]

theorem alGet_alSet_ne (l : List (α × β)) (x y : α) (v d : β) (h : y ≠ x) :
    alGet (alSet l x v) d y = alGet l d y := by
  induction l with
  | nil => simp [alSet, alGet, h.symm]
  | cons p t ih => by_cases hk : p.1 = x <;> simp_all [alSet, alGet, h.symm]

theorem alGet_alSet (l : List (α × β)) (x y : α) (v d : β) :
    alGet (alSet l x v) d y = if y = x then v else alGet l d y := by
  by_cases h : y = x
  · subst h; rw [if_pos rfl, alGet_alSet_self]
  · rw [if_neg h, alGet_alSet_ne _ _ _ _ _ h]

theorem alHas_alSet_bool (l : List (α × β)) (x y : α) (v : β) :
    alHas (alSet l x v) y = (alHas l y || decide (y = x)) := by
  rw [Bool.eq_iff_iff, alHas_alSet]; simp

theorem alSet_alSet (l : List (α × β)) (x : α) (u v : β) : alSet (alSet l x u) x v = alSet l x v := by
  induction l with
  | nil => simp [alSet]
  | cons p t ih =>
    obtain ⟨k, w⟩ := p
    simp only [alSet]
    by_cases hk : k = x
    · simp [hk, alSet]
    · simp [hk, alSet, ih]

theorem alHas_alDel (l : List (α × β)) (x y : α) :
    alHas (alDel l x) y = true ↔ (alHas l y = true ∧ y ≠ x) := by
  induction l with
  | nil => simp [alDel, alHas]
  | cons p t ih => by_cases hk : p.1 = x <;> by_cases hy : p.1 = y <;> simp_all [alDel, alHas]

theorem alGet_alDel_ne (l : List (α × β)) (x y : α) (d : β) (h : y ≠ x) :
    alGet (alDel l x) d y = alGet l d y := by
  induction l with
  | nil => simp [alDel, alGet]
  | cons p t ih => by_cases hk : p.1 = x <;> simp_all [alDel, alGet, h.symm]

theorem alGet_of_not_alHas (l : List (α × β)) (x : α) (d : β) (h : alHas l x = false) :
    alGet l d x = d := by
  induction l with
  | nil => simp [alGet]
  | cons p t ih => by_cases hk : p.1 = x <;> simp_all [alHas, alGet]

theorem alGet_mem_of_alHas (l : List (α × β)) (x : α) (d : β) (h : alHas l x = true) :
    alGet l d x ∈ l.map (·.2) := by
  induction l with
  | nil => simp [alHas] at h
  | cons p t ih =>
    rw [alHas] at h
    rw [alGet, List.map_cons, List.mem_cons]
    split at h
    · exact Or.inl (if_pos ‹_›)
    · rw [if_neg ‹_›]; exact Or.inr (ih h)

theorem alHas_eq_false_of_not (l : List (α × β)) (x : α) (h : ¬ alHas l x = true) : alHas l x = false := by
  cases hh : alHas l x with
  | true => exact absurd hh h
  | false => rfl

/-- keys of an association list (a Python dict has each key once) -/
def alKeys (l : List (α × β)) : List α := l.map (·.1)

theorem mem_alKeys_iff (l : List (α × β)) (x : α) : x ∈ alKeys l ↔ alHas l x = true := by
  induction l with
  | nil => simp [alKeys, alHas]
  | cons p t ih => simp only [alKeys, List.map_cons, List.mem_cons, alHas] at ih ⊢; grind

theorem alHas_of_mem_keys (l : List (α × β)) (x : α) (h : x ∈ l.map (·.1)) : alHas l x = true :=
  (mem_alKeys_iff l x).1 h

theorem alGet_of_not_key (l : List (α × β)) (d : β) (x : α) (h : x ∉ l.map (·.1)) : alGet l d x = d :=
  alGet_of_not_alHas l x d (alHas_eq_false_of_not l x fun hh => h ((mem_alKeys_iff l x).2 hh))

theorem keys_alSet (l : List (α × β)) (x : α) (v : β) :
    (alSet l x v).map (·.1) = if x ∈ l.map (·.1) then l.map (·.1) else l.map (·.1) ++ [x] := by
  induction l with
  | nil => rfl
  | cons p t ih => simp only [alSet, List.map_cons, List.mem_cons] at ih ⊢; grind

theorem alKeys_alSet_of_has (l : List (α × β)) (x : α) (v : β) (h : alHas l x = true) :
    alKeys (alSet l x v) = alKeys l := by
  rw [alKeys, keys_alSet, if_pos (show x ∈ l.map (·.1) from (mem_alKeys_iff l x).2 h)]
  rfl

theorem alKeys_alDel (l : List (α × β)) (x : α) : alKeys (alDel l x) = (alKeys l).filter (· ≠ x) := by
  induction l with
  | nil => rfl
  | cons p t ih => simp only [alKeys, alDel, List.map_cons, List.filter_cons] at ih ⊢; grind

theorem alSet_of_not_has (l : List (α × β)) (x : α) (v : β) (h : alHas l x = false) :
    alSet l x v = l ++ [(x, v)] := by
  induction l with
  | nil => rfl
  | cons p t ih =>
    obtain ⟨k, w⟩ := p
    by_cases hk : k = x
    · simp [alHas, hk] at h
    · simp only [alHas, hk, if_false] at h
      simp [alSet, hk, ih h]

theorem alSet_of_not_mem (l : List (α × β)) (x : α) (v : β) (h : x ∉ l.map (·.1)) : alSet l x v = l ++ [(x, v)] :=
  alSet_of_not_has l x v (alHas_eq_false_of_not l x fun hh => h ((mem_alKeys_iff l x).2 hh))

theorem mem_alSet {l : List (α × β)} {x : α} {v : β} {p : α × β} (hp : p ∈ alSet l x v) : p ∈ l ∨ p = (x, v) := by
  induction l with
  | nil => exact Or.inr (List.mem_singleton.1 hp)
  | cons q t ih =>
    obtain ⟨k', w⟩ := q
    unfold alSet at hp
    by_cases h : k' = x
    · rw [if_pos h] at hp
      rcases List.mem_cons.1 hp with hp | hp
      · exact Or.inr (by rw [hp, h])
      · exact Or.inl (List.mem_cons_of_mem _ hp)
    · rw [if_neg h] at hp
      rcases List.mem_cons.1 hp with hp | hp
      · exact Or.inl (hp ▸ List.mem_cons_self ..)
      · exact (ih hp).imp_left (List.mem_cons_of_mem _)

theorem mem_alSet_self (l : List (α × β)) (x : α) (v : β) : (x, v) ∈ alSet l x v := by
  induction l with
  | nil => exact List.mem_singleton.2 rfl
  | cons q t ih =>
    obtain ⟨k', w⟩ := q
    unfold alSet
    by_cases h : k' = x
    · rw [if_pos h, h]; exact List.mem_cons_self ..
    · rw [if_neg h]; exact List.mem_cons_of_mem _ ih

theorem mem_alSet_of_ne {l : List (α × β)} {p : α × β} (x : α) (v : β) (hp : p ∈ l) (hx : p.1 ≠ x) : p ∈ alSet l x v := by
  induction l with
  | nil => cases hp
  | cons q t ih =>
    obtain ⟨k', w⟩ := q
    unfold alSet
    by_cases h : k' = x
    · rw [if_pos h]
      rcases List.mem_cons.1 hp with hp | hp
      · exact absurd (by rw [hp]; exact h) hx
      · exact List.mem_cons_of_mem _ hp
    · rw [if_neg h]
      rcases List.mem_cons.1 hp with hp | hp
      · exact hp ▸ List.mem_cons_self ..
      · exact List.mem_cons_of_mem _ (ih hp)

theorem alSet_keys_nodup (l : List (α × β)) (x : α) (v : β) (h : (l.map (·.1)).Nodup) :
    ((alSet l x v).map (·.1)).Nodup := by
  rw [keys_alSet]
  split
  · exact h
  · rename_i hx
    exact List.nodup_append.2 ⟨h, by simp, fun a ha b hb hab => hx (List.mem_singleton.1 hb ▸ hab ▸ ha)⟩

theorem values_eq_map_alGet (l : List (α × β)) (d : β) (h : (alKeys l).Nodup) :
    l.map (·.2) = (alKeys l).map (alGet l d) := by
  induction l with
  | nil => rfl
  | cons p t ih =>
    rw [alKeys, List.map_cons, List.nodup_cons] at h
    rw [alKeys, List.map_cons, List.map_cons, ih h.2]
    congr 1
    · exact (if_pos rfl).symm
    · exact List.map_congr_left fun y hy => (if_neg fun (hky : p.1 = y) => h.1 (hky ▸ hy)).symm

theorem map_alGet_zip (l : List α) (bs : List β) (d : β) (hnd : l.Nodup) (hl : l.length = bs.length) :
    l.map (alGet (l.zip bs) d) = bs := by
  have h := values_eq_map_alGet (l.zip bs) d (by rw [alKeys, List.map_fst_zip (Nat.le_of_eq hl)]; exact hnd)
  rw [alKeys, List.map_fst_zip (Nat.le_of_eq hl), List.map_snd_zip (Nat.le_of_eq hl.symm)] at h
  exact h.symm

theorem alGet_const (l : List (α × β)) (d : β) (x : α) (h : ∀ p ∈ l, p.2 = d) : alGet l d x = d := by
  induction l with
  | nil => rfl
  | cons p t ih =>
    obtain ⟨k', v⟩ := p
    have hv : v = d := h (k', v) (by simp)
    have := ih (fun p hp => h p (List.mem_cons_of_mem _ hp))
    by_cases hk : k' = x <;> simp [alGet, hk, hv, this]

theorem alGet_map_val {μ : Type} (l : List (α × β)) (g : β → μ) (d : β) (x : α) :
    alGet (l.map fun kv => (kv.1, g kv.2)) (g d) x = g (alGet l d x) := by
  induction l with
  | nil => rfl
  | cons p t ih =>
    obtain ⟨k', v⟩ := p
    by_cases hk : k' = x
    · simp [alGet, hk]
    · simp [alGet, hk, ih]

theorem alHas_map_val {μ : Type} (l : List (α × β)) (g : α × β → μ) (x : α) :
    alHas (l.map fun kv => (kv.1, g kv)) x = alHas l x := by
  induction l with
  | nil => rfl
  | cons p t ih =>
    obtain ⟨k', v⟩ := p
    by_cases hk : k' = x
    · simp [alHas, hk]
    · simp [alHas, hk, ih]

/-! ### `{k: f(k) for k in l}` -/

theorem alGet_map_mk (l : List α) (f : α → β) (d : β) (x : α) :
    alGet (l.map fun k => (k, f k)) d x = if x ∈ l then f x else d := by
  induction l with
  | nil => simp [alGet]
  | cons a l ih =>
    simp only [List.map_cons, alGet, ih, List.mem_cons]
    by_cases h : a = x
    · subst h; simp
    · have h' : ¬ x = a := fun e => h e.symm
      simp [h, h']

theorem alHas_map_mk (l : List α) (f : α → β) (x : α) (hx : x ∈ l) : alHas (l.map fun k => (k, f k)) x = true :=
  alHas_of_mem_keys _ x (by rw [List.map_map]; exact List.mem_map.2 ⟨x, hx, rfl⟩)

theorem alGet_eq_getD (l : List (α × β)) (d : β) (x : α) : alGet l d x = (alFind? l x).getD d := by
  induction l with
  | nil => rfl
  | cons p t ih =>
    obtain ⟨k, w⟩ := p
    by_cases hk : k = x <;> simp [alGet, alFind?, hk, ih]

theorem alHas_eq_isSome (l : List (α × β)) (x : α) : alHas l x = (alFind? l x).isSome := by
  induction l with
  | nil => rfl
  | cons p t ih =>
    obtain ⟨k, w⟩ := p
    by_cases hk : k = x <;> simp [alHas, alFind?, hk, ih]

theorem alFind?_of_has (l : List (α × β)) (x : α) (d : β) (h : alHas l x = true) :
    alFind? l x = some (alGet l d x) := by
  rw [alHas_eq_isSome] at h
  rw [alGet_eq_getD]
  cases hf : alFind? l x with
  | none => rw [hf] at h; cases h
  | some v => rfl

theorem alFind?_of_not_has (l : List (α × β)) (x : α) (h : alHas l x = false) : alFind? l x = none := by
  rw [alHas_eq_isSome] at h
  cases hf : alFind? l x with
  | none => rfl
  | some v => rw [hf] at h; cases h

theorem alFind?_isSome (l : List (α × β)) (x : α) : (alFind? l x).isSome = true ↔ x ∈ l.map (·.1) := by
  rw [← alHas_eq_isSome]; exact (mem_alKeys_iff l x).symm

theorem alFind?_alSet (l : List (α × β)) (x y : α) (v : β) :
    alFind? (alSet l x v) y = if y = x then some v else alFind? l y := by
  induction l with
  | nil =>
    by_cases h : y = x
    · simp [alSet, alFind?, h]
    · simp [alSet, alFind?, h, Ne.symm h]
  | cons p t ih =>
    obtain ⟨k, w⟩ := p
    simp only [alSet]
    by_cases hk : k = x
    · subst hk
      by_cases h : y = k
      · simp [alFind?, h]
      · simp [alFind?, h, Ne.symm h]
    · simp only [hk, if_false, alFind?, ih]
      by_cases h : y = x
      · subst h; simp [hk]
      · simp [h]

theorem alFind?_alDel_ne (l : List (α × β)) (x y : α) (h : y ≠ x) : alFind? (alDel l x) y = alFind? l y := by
  induction l with
  | nil => rfl
  | cons p t ih =>
    obtain ⟨k, w⟩ := p
    simp only [alDel]
    by_cases hk : k = x
    · subst hk; simp [alFind?, Ne.symm h, ih]
    · simp only [hk, if_false, alFind?, ih]

theorem alFind?_of_nodup : ∀ (l : List (α × β)), (l.map (·.1)).Nodup → ∀ p ∈ l, alFind? l p.1 = some p.2 := by
  intro l
  induction l with
  | nil => intro _ p hp; cases hp
  | cons a l ih =>
    intro hn p hp
    obtain ⟨k, v⟩ := a
    rw [List.map_cons, List.nodup_cons] at hn
    unfold alFind?
    rcases List.mem_cons.1 hp with h | hp'
    · rw [h]; simp
    · have hne : k ≠ p.1 := fun hk => hn.1 (hk ▸ List.mem_map.2 ⟨p, hp', rfl⟩)
      simp only [hne, if_false]
      exact ih hn.2 p hp'

theorem alGet_of_mem_nodup {x : α} {v d : β} (l : List (α × β)) (hn : (l.map (·.1)).Nodup) (hm : (x, v) ∈ l) :
    alGet l d x = v := by
  rw [alGet_eq_getD, alFind?_of_nodup l hn (x, v) hm]; rfl

theorem alFind?_map_mk (l : List α) (f : α → β) (x : α) (hx : x ∈ l) :
    alFind? (l.map fun k => (k, f k)) x = some (f x) := by
  rw [alFind?_of_has _ x (f x) (alHas_map_mk l f x hx), alGet_map_mk, if_pos hx]

theorem dictGet_of_find (l : List (α × β)) (x : α) (v : β) (h : alFind? l x = some v) : dictGet l x = .ok v := by
  simp only [dictGet, h]; rfl

theorem dictGet_of_has (l : List (α × β)) (x : α) (d : β) (h : alHas l x = true) : dictGet l x = .ok (alGet l d x) :=
  dictGet_of_find l x _ (alFind?_of_has l x d h)

theorem dictGet_of_not_has (l : List (α × β)) (x : α) (h : alHas l x = false) : dictGet l x = .error "KeyError" := by
  simp only [dictGet, alFind?_of_not_has l x h]; rfl

theorem dictGet_eq_ite (l : List (α × β)) (x : α) (d : β) :
    dictGet l x = if x ∈ l.map (·.1) then .ok (alGet l d x) else .error "KeyError" := by
  have hm : x ∈ l.map (·.1) ↔ alHas l x = true := mem_alKeys_iff l x
  cases h : alHas l x with
  | true => rw [if_pos (hm.2 h), dictGet_of_has l x d h]
  | false => rw [if_neg (fun hk => by rw [hm.1 hk] at h; cases h), dictGet_of_not_has l x h]

theorem dictGet_eq_has (l : List (α × β)) (x : α) (d : β) :
    dictGet l x = if alHas l x = true then .ok (alGet l d x) else .error "KeyError" := by
  cases h : alHas l x with
  | true => exact dictGet_of_has l x d h
  | false => exact dictGet_of_not_has l x h

theorem alGet_of_dictGet_ok (l : List (α × β)) (x : α) (d v : β) (h : dictGet l x = .ok v) : alGet l d x = v := by
  rw [dictGet_eq_ite l x d] at h
  split at h
  · exact Except.ok.inj h
  · cases h

theorem dictGet_alSet_self (l : List (α × β)) (x : α) (v : β) : dictGet (alSet l x v) x = .ok v :=
  dictGet_of_find _ _ _ (by rw [alFind?_alSet, if_pos rfl])

theorem dictGet_alSet_ne (l : List (α × β)) (x y : α) (v : β) (hy : y ≠ x) :
    dictGet (alSet l x v) y = dictGet l y := by
  simp only [dictGet, alFind?_alSet, if_neg hy]

end AL

/-! ### `defaultdict(int)` (`_ListDict_.weight`: a read of a missing key stores 0) -/
section DD
variable {κ : Type} [DecidableEq κ]

theorem ddTouch_of_alHas (d : List (κ × Rat)) (x : κ) (h : alHas d x = true) : ddTouch d x = d := by
  simp [ddTouch, h]

theorem alSet_ddTouch (d : List (κ × Rat)) (x : κ) (v : Rat) : alSet (ddTouch d x) x v = alSet d x v := by
  unfold ddTouch
  split
  · rfl
  · exact alSet_alSet d x 0 v

end DD

namespace GenLD
section AL
variable {κ ν : Type} [DecidableEq κ]

theorem alHas_of_alFind? (d : List (κ × ν)) (k : κ) (v : ν) (h : PyRT.alFind? d k = some v) :
    alHas d k = true := by
  cases hh : alHas d k with
  | true => rfl
  | false => rw [alFind?_of_not_has d k hh] at h; simp at h

end AL
end GenLD
