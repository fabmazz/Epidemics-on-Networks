import EoNVerif.Proofs.GenStep
import EoNVerif.Proofs.GenGlue2
import EoNVerif.Proofs.DegList
/-!
The pair-based entry points `GenGlue2.SIS_pair_based` / `SIR_pair_based` (GENERATED into `Gen/OdeGlue2.lean`) for ALL
inputs: the guards on `(rho, nodelist, Y0)`, the shape checks of `Y0`, `XY0`, `XX0`, then masking by the adjacency matrix
of the node list, packing of `X0 = [(X0 |) Y0 | XY0∘A | XX0∘A]` (`pairX0SIS`, `pairX0SIR`), the solver call and the
returned arrays.  `SIS_pair_based_eq` and `SIR_pair_based_spec` are proved by walking the generated function itself;
what the rest of the development uses follows from them.  Nothing outside this file unfolds the two functions.
-/
namespace GenGlue2Props
/-- the node list used: `nodelist`, by default `G.nodes()` = `0..GN-1` -/
def nodesOf (GN : Nat) (nodelist : Option (List Nat)) : List Nat := nodelist.getD (List.range GN)
end GenGlue2Props

namespace GenGlue3Props
open Gen PyGlue PyGlue2 GenGlue2Proofs
open GenGlueProofs (Solver)
open GenGlue2Props (nodesOf)

def adjF (nl : List Nat) (nbrs : Nat → List Nat) (i j : Nat) : Rat :=
  if (nbrs (nl.getD i 0)).contains (nl.getD j 0) then 1 else 0

theorem bidx_one (k : Nat) : bidx 1 k = 0 := by simp [bidx]

/-- `M * A` for a table `M` and the adjacency matrix `A` of the node list; NumPy broadcasts a 1 × 1 `A` -/
def maskBy (M : Mx) (nl : List Nat) (nbrs : Nat → List Nat) : Mx :=
  ⟨M.r, M.c, fun i j => M.f (bidx M.r i) (bidx M.c j) * (adj nl nbrs).f (bidx nl.length i) (bidx nl.length j)⟩

/-- `(M * A).reshape(N², 1)` -/
def maskFlat (M : Mx) (nl : List Nat) (nbrs : Nat → List Nat) (N : Nat) : Mx :=
  ⟨N ^ 2, 1, fun i j => (maskBy M nl nbrs).f ((i * 1 + j) / M.c) ((i * 1 + j) % M.c)⟩

theorem op_adj (M : Mx) (nl : List Nat) (nbrs : Nat → List Nat) (N : Nat) (hM : M.r = N ∧ M.c = N)
    (hl : nl.length = N ∨ nl.length = 1) : Mx.op (fun a b => a * b) M (adj nl nbrs) = .ok (maskBy M nl nbrs) := by
  rcases hl with hl | hl <;> simp [Mx.op, maskBy, adj, hM.1, hM.2, hl]

theorem reshape_maskBy (M : Mx) (nl : List Nat) (nbrs : Nat → List Nat) (N : Nat) (hM : M.r = N ∧ M.c = N) :
    Mx.reshape (maskBy M nl nbrs) (N ^ 2) 1 = .ok (maskFlat M nl nbrs N) := by
  have hsq : N * N = N ^ 2 * 1 := by ring
  simp [Mx.reshape, maskBy, maskFlat, hM.1, hM.2, hsq]

theorem maskFlat_apply (M : Mx) (nl : List Nat) (nbrs : Nat → List Nat) (N i j : Nat)
    (hM : M.r = N ∧ M.c = N) (hi : i < N) (hj : j < N) :
    (maskFlat M nl nbrs N).f (i * N + j) 0 = M.f i j * adjF nl nbrs (bidx nl.length i) (bidx nl.length j) := by
  have d1 := RowMajor.rm_div N i j hj
  have d2 := RowMajor.rm_mod N i j hj
  simp only [maskFlat, maskBy, adj, Nat.mul_one, Nat.add_zero, d1, d2, hM.1, hM.2, bidx_lt _ _ hi, bidx_lt _ _ hj, adjF]

def shapeOk (N : Nat) (M : Option Mx) : Prop := ∀ m, M = some m → m.r = N ∧ m.c = N

theorem shapeOk_none (N : Nat) : shapeOk N none := fun _ h => nomatch h
theorem shapeOk_some (N : Nat) (m : Mx) : shapeOk N (some m) ↔ m.r = N ∧ m.c = N :=
  ⟨fun h => h m rfl, fun h _ e => by cases e; exact h⟩

/-- the default `XY0 = X0[:,None] * Y0[None,:]` -/
def xyDefault (x y : V) : Mx := ⟨x.n, y.n, fun i j => x.f (bidx x.n i) * y.f (bidx y.n j)⟩

theorem op_col_row (x y : V) : Mx.op (fun a b => a * b) (Mx.col x) (Mx.row y) = .ok (xyDefault x y) := by
  unfold Mx.op
  simp only [Mx.col, Mx.row, bdim_one_right, bdim_one_left, ok_bind, pure_eq_ok]
  rfl

theorem getD_shape (N : Nat) (d : Mx) (M : Option Mx) (hd : d.r = N ∧ d.c = N) (h : shapeOk N M) :
    (M.getD d).r = N ∧ (M.getD d).c = N := by
  cases M with
  | none => exact hd
  | some m => exact h m rfl

def pairY0 (GN : Nat) (rho : Option Rat) (Y0 : Option V) : V :=
  match Y0, rho with
  | some y, _ => y
  | none, some r => vrep r GN
  | none, none => vrep (1 / (GN : Rat)) GN

/-- the argument guards of the pair-based functions, in the generated order: `none` = accepted -/
def pairGuard (GN : Nat) (rho : Option Rat) (nodelist : Option (List Nat)) (Y0 : Option V) : Option String :=
  match Y0, rho, nodelist with
  | none, none, _ => if GN = 0 then some "ZeroDivisionError" else none
  | none, some _, _ => none
  | some _, some _, _ => some "EoNError"
  | some _, none, none => some "EoNError"
  | some _, none, some _ => none

/-- the resolved `XY0`, `XX0`: the arguments, by default `X0 ⊗ Y0`, `X0 ⊗ X0` with `X0 = 1 − Y0` -/
def xyOf (y : V) (XY0 : Option Mx) : Mx := XY0.getD (xyDefault (vcompl y) y)
def xxOf (y : V) (XX0 : Option Mx) : Mx := XX0.getD (xyDefault (vcompl y) (vcompl y))

theorem xyOf_shape (N : Nat) (y : V) (XY0 : Option Mx) (hy : y.n = N) (h : shapeOk N XY0) :
    (xyOf y XY0).r = N ∧ (xyOf y XY0).c = N := getD_shape N _ XY0 ⟨hy, hy⟩ h

theorem xxOf_shape (N : Nat) (y : V) (XX0 : Option Mx) (hy : y.n = N) (h : shapeOk N XX0) :
    (xxOf y XX0).r = N ∧ (xxOf y XX0).c = N := getD_shape N _ XX0 ⟨hy, hy⟩ h

/-- the `X0` used: the argument, by default `1 − Y0` -/
def pairX0 (GN : Nat) (rho : Option Rat) (Y0 X0 : Option V) : V := X0.getD (vcompl (pairY0 GN rho Y0))

/-- the resolved `XY0`, `XX0` of `SIR_pair_based`: the arguments, by default `X0 ⊗ Y0`, `X0 ⊗ X0` -/
def xyOfR (x y : V) (XY0 : Option Mx) : Mx := XY0.getD (xyDefault x y)
def xxOfR (x : V) (XX0 : Option Mx) : Mx := XX0.getD (xyDefault x x)

theorem xyOfR_shape (N : Nat) (x y : V) (XY0 : Option Mx) (hx : x.n = N) (hy : y.n = N) (h : shapeOk N XY0) :
    (xyOfR x y XY0).r = N ∧ (xyOfR x y XY0).c = N := getD_shape N _ XY0 ⟨hx, hy⟩ h

theorem xxOfR_shape (N : Nat) (x : V) (XX0 : Option Mx) (hx : x.n = N) (h : shapeOk N XX0) :
    (xxOfR x XX0).r = N ∧ (xxOfR x XX0).c = N := getD_shape N _ XX0 ⟨hx, hx⟩ h


open GenStep (bind_ok bind_err check_ok op_one)

instance (N : Nat) (M : Option Mx) : Decidable (shapeOk N M) := by
  cases M with
  | none => exact isTrue (shapeOk_none N)
  | some m => exact decidable_of_iff _ (shapeOk_some N m).symm

/-- `M.T[0]` -/
def mcol (M : Mx) : V := ⟨M.r, fun i => M.f i 0⟩

/-- the `X0` of `SIS_pair_based`: `[Y0 | (XY0∘A).flat | (XX0∘A).flat]` -/
def pairX0SIS (N : Nat) (nl : List Nat) (nbrs : Nat → List Nat) (y : V) (xy xx : Mx) : V :=
  V.append (V.append y (mcol (maskFlat xy nl nbrs N))) (mcol (maskFlat xx nl nbrs N))

/-- `SIS_pair_based` once `Y0` and the node list are resolved -/
def pairRunSIS (myodeint : Solver) (N : Nat) (nbrs : Nat → List Nat) (tr : Nat → Nat → Rat) (rr : Nat → Rat)
    (nl : List Nat) (y : V) (XY0 XX0 : Option Mx) (T : Nat → Rat) (full : Bool) : Res :=
  if y.n = N ∧ shapeOk N XY0 ∧ shapeOk N XX0 then
    if nl.length = N ∨ nl.length = 1 then
      .ok (pairX0SIS N nl nbrs y (xyOf y XY0) (xxOf y XX0), outSISPair T N full
        (myodeint (fun st => Gen.dSIS_pair_based st nl.length nbrs tr rr)
          (pairX0SIS N nl nbrs y (xyOf y XY0) (xxOf y XX0))))
    else .error "ValueError"
  else .error "EoNError"

/-- NumPy broadcasts a node list of length 1, and raises `ValueError` for any other length but `N` (at the product; for
`N = 1` at the reshape) -/
theorem mask_steps {β : Type} {xy xx : Mx} {N : Nat} (nl : List Nat) (nbrs : Nat → List Nat)
    (hxy : xy.r = N ∧ xy.c = N) (hxx : xx.r = N ∧ xx.c = N) (k : Mx → Mx → Except String β) :
    (Mx.op (fun a b => a * b) xy (adj nl nbrs) >>= fun t7 => need (some xx) >>= fun x2 =>
      Mx.op (fun a b => a * b) x2 (adj nl nbrs) >>= fun t8 => need (some t7) >>= fun x3 =>
      x3.reshape (N ^ 2) 1 >>= fun t9 => need (some t8) >>= fun x4 => x4.reshape (N ^ 2) 1 >>= fun t10 => k t9 t10)
      = if nl.length = N ∨ nl.length = 1 then k (maskFlat xy nl nbrs N) (maskFlat xx nl nbrs N)
        else .error "ValueError" := by
  by_cases hl : nl.length = N ∨ nl.length = 1
  · rw [if_pos hl]
    refine (bind_ok (op_adj _ _ _ N hxy hl) _).trans ((bind_ok rfl _).trans ((bind_ok (op_adj _ _ _ N hxx hl) _).trans ?_))
    refine (bind_ok rfl _).trans ((bind_ok (reshape_maskBy _ _ _ N hxy) _).trans ?_)
    exact (bind_ok rfl _).trans (bind_ok (reshape_maskBy _ _ _ N hxx) _)
  · rw [if_neg hl]
    have h1 : ¬ N = nl.length := fun e => hl (.inl e.symm)
    have h2 : nl.length ≠ 1 := fun e => hl (.inr e)
    by_cases hG : N = 1
    · obtain ⟨R, hR, hr, hc⟩ := op_one xy (adj nl nbrs) (hG ▸ hxy)
      obtain ⟨R', hR', -, -⟩ := op_one xx (adj nl nbrs) (hG ▸ hxx)
      refine (bind_ok hR _).trans ((bind_ok rfl _).trans ((bind_ok hR' _).trans ((bind_ok rfl _).trans ?_)))
      refine bind_err (GenStep.reshape_error _ _ _ ?_) _
      rw [hr, hc]
      show nl.length * nl.length ≠ N ^ 2 * 1
      rw [hG]
      intro h
      exact h2 (Nat.eq_one_of_mul_eq_one_left h)
    · refine bind_err ?_ _
      simp [Mx.op, adj, bdim, h1, h2, hG, hxy.1]

/-! The prologue of both generated functions — default `rho = 1/N`, the guards, default node list, default `Y0` — for an
arbitrary rest of the function (`jpR`, `jNl`, `jY` are its join points) and an arbitrary property `Q nl y` of the result
on the resolved node list and `Y0`. -/
section prologue
variable {Q : List Nat → V → Res → Prop} {GN : Nat} {rho : Option Rat} {nodelist : Option (List Nat)} {Y0 : Option V}

/-- the default `Y0 = [rho] * N` -/
theorem pairStaged_Y0 {nl : List Nat} {r : Option Rat} {jY : Unit → Option V → Res} (hY : ∀ y, Q nl y (jY () (some y)))
    (R : Res) (hR : (if Y0.isNone = true then need r >>= fun rho_1 => jY () (some (vrep rho_1 GN)) else jY () Y0) = R) :
    match (generalizing := false) Y0, r with
    | some y, _ => Q nl y R
    | none, some r' => Q nl (vrep r' GN) R
    | none, none => R = .error "TypeError" := by
  subst hR
  cases Y0 <;> cases r <;> first | exact hY _ | rfl

/-- the guards `Y0` with `rho`, `Y0` without `nodelist`, and the default node list (`jb`, `jc`: the join points after
the two guards) -/
theorem pairStaged_nodelist {r : Option Rat} {jNl : Unit → Option (List Nat) → Res} {jb jc : Unit → Res}
    (hc : ∀ u, jc u = if nodelist.isNone = true then jNl () (some (List.range GN)) else jNl () nodelist)
    (hb : ∀ u, jb u = if (Y0.isSome && nodelist.isNone) = true then
      (throw "EoNError" : Except String Unit) >>= fun u => jc u else jc ())
    (hNl : ∀ nl R, jNl () (some nl) = R → match (generalizing := false) Y0, r with
      | some y, _ => Q nl y R
      | none, some r' => Q nl (vrep r' GN) R
      | none, none => R = .error "TypeError")
    (R : Res)
    (hR : (if (Y0.isSome && r.isSome) = true then (throw "EoNError" : Except String Unit) >>= fun u => jb u
      else jb ()) = R) :
    match (generalizing := false) Y0, r, nodelist with
    | some _, some _, _ => R = .error "EoNError"
    | some _, none, none => R = .error "EoNError"
    | some y, none, some nl => Q nl y R
    | none, some r', _ => Q (nodesOf GN nodelist) (vrep r' GN) R
    | none, none, _ => R = .error "TypeError" := by
  subst hR
  cases Y0 <;> cases r <;> cases nodelist <;> simp only [hb, hc] <;> first | exact hNl _ _ rfl | rfl

/-- the default `rho = 1/N` -/
theorem pairStaged_of {jpR : Unit → Option Rat → Res}
    (hR : ∀ r R, jpR () r = R → match Y0, r, nodelist with
      | some _, some _, _ => R = .error "EoNError"
      | some _, none, none => R = .error "EoNError"
      | some y, none, some nl => Q nl y R
      | none, some r', _ => Q (nodesOf GN nodelist) (vrep r' GN) R
      | none, none, _ => R = .error "TypeError")
    (R : Res)
    (h : (if (Y0.isNone && rho.isNone) = true then
        if ((GN : Nat) : Rat) = 0 then
          (throw "ZeroDivisionError" : Except String Unit) >>= fun _ => jpR () (some (1 / ((GN : Nat) : Rat)))
        else jpR () (some (1 / ((GN : Nat) : Rat)))
      else jpR () rho) = R) :
    match pairGuard GN rho nodelist Y0 with
    | some e => R = .error e
    | none => Q (nodesOf GN nodelist) (pairY0 GN rho Y0) R := by
  subst h
  cases Y0 <;> cases rho
  · by_cases hN : GN = 0
    · simp [pairGuard, hN]
    · have : ¬ ((GN : Nat) : Rat) = 0 := by exact_mod_cast hN
      simp only [pairGuard, hN, this, Option.isNone_none, Bool.and_self, if_true, if_false]
      exact hR (some _) _ rfl
  · simp only [pairGuard, Option.isNone_none, Option.isNone_some, Bool.and_false, Bool.false_eq_true, if_false]
    exact hR (some _) _ rfl
  · cases nodelist <;> simp only [pairGuard, Option.isNone_some, Bool.false_and, Bool.false_eq_true, if_false] <;>
      exact hR none _ rfl
  · simp only [pairGuard, Option.isNone_some, Bool.false_and, Bool.false_eq_true, if_false]
    exact hR (some _) _ rfl
end prologue

theorem SIS_pair_based_eq (odeint myodeint : Solver) (GN : Nat) (nbrs : Nat → List Nat) (tr : Nat → Nat → Rat)
    (rr : Nat → Rat) (rho : Option Rat) (nodelist : Option (List Nat)) (Y0 : Option V) (XY0 XX0 : Option Mx)
    (tmin tmax : Rat) (tcount : Nat) (full : Bool) :
    GenGlue2.SIS_pair_based odeint myodeint GN nbrs tr rr rho nodelist Y0 XY0 XX0 tmin tmax tcount full =
      match pairGuard GN rho nodelist Y0 with
      | some e => .error e
      | none => pairRunSIS myodeint GN nbrs tr rr (nodesOf GN nodelist) (pairY0 GN rho Y0) XY0 XX0
          (linspace tmin tmax tcount) full := by
  have key : match pairGuard GN rho nodelist Y0 with
      | some e => GenGlue2.SIS_pair_based odeint myodeint GN nbrs tr rr rho nodelist Y0 XY0 XX0 tmin tmax tcount full
          = .error e
      | none => GenGlue2.SIS_pair_based odeint myodeint GN nbrs tr rr rho nodelist Y0 XY0 XX0 tmin tmax tcount full
          = pairRunSIS myodeint GN nbrs tr rr (nodesOf GN nodelist) (pairY0 GN rho Y0) XY0 XX0
            (linspace tmin tmax tcount) full := by
    /- `extract_lets` turns the `have`s of the generated `do` block into local definitions, among them its join points
    `__do_jp` (the rest of the function after an `if` that may reassign an argument, the argument being a parameter).
    The prologue is handled by `pairStaged_of`, `pairStaged_nodelist`, `pairStaged_Y0` for whatever follows it; what
    follows is walked with each further join point specified on its resolved argument and then made opaque by
    `clear_value`, so that the `isNone` tests before it are decided without looking at the rest.  The names are given by
    position: another statement order in a regenerated `Gen/OdeGlue2.lean` breaks these lines. -/
    unfold GenGlue2.SIS_pair_based
    extract_lets rho1 nodelist1 Y01 XY01 XX01 N T t16 a1 nlr jpR rhoD jp0
    let Q : List Nat → V → Res → Prop := fun nl y R =>
      R = pairRunSIS myodeint GN nbrs tr rr nl y XY0 XX0 (linspace tmin tmax tcount) full
    refine pairStaged_of (jpR := jpR) (Q := Q) (fun r R hR => ?_) _ rfl
    unfold jpR at hR
    extract_lets jNl jc jb at hR
    refine pairStaged_nodelist (jNl := jNl) (jb := jb) (jc := jc) (Q := Q) (fun _ => rfl) (fun _ => rfl)
      (fun nl R hR => ?_) R hR
    unfold jNl at hR
    extract_lets jY at hR
    refine pairStaged_Y0 (jY := jY) (Q := Q) (fun y => ?_) R hR
    show _ = _
    unfold jY
    refine (bind_ok (need_some y _) _).trans ?_
    extract_lets jLen
    by_cases hy : y.n = GN
    case neg => simp [N, hy, pairRunSIS]
    rw [if_neg (by simp [N, hy])]
    unfold jLen
    refine (bind_ok (need_some y _) _).trans ?_
    extract_lets X0 t4 t5 jXY
    -- the continuation after the default / the shape check of `XY0`, for a table of the right shape
    have hXY : ∀ xy : Mx, xy.r = GN ∧ xy.c = GN → jXY () (some xy) =
        if shapeOk GN XX0 then
          if nl.length = GN ∨ nl.length = 1 then
            .ok (pairX0SIS GN nl nbrs y xy (xxOf y XX0), outSISPair (linspace tmin tmax tcount) GN full
              (myodeint (fun st => Gen.dSIS_pair_based st nl.length nbrs tr rr)
                (pairX0SIS GN nl nbrs y xy (xxOf y XX0))))
          else .error "ValueError"
        else .error "EoNError" := by
      intro xy hxy
      unfold jXY
      extract_lets jXX
      have hXX : ∀ xx : Mx, xx.r = GN ∧ xx.c = GN → jXX () (some xx) =
          if nl.length = GN ∨ nl.length = 1 then
            .ok (pairX0SIS GN nl nbrs y xy xx, outSISPair (linspace tmin tmax tcount) GN full
              (myodeint (fun st => Gen.dSIS_pair_based st nl.length nbrs tr rr) (pairX0SIS GN nl nbrs y xy xx)))
          else .error "ValueError" := by
        intro xx hxx
        unfold jXX
        have hsq : GN * GN = GN ^ 2 := by ring
        refine (bind_ok rfl _).trans ((bind_ok rfl _).trans ((mask_steps nl nbrs hxy hxx _).trans ?_))
        by_cases hl : nl.length = GN ∨ nl.length = 1
        · rw [if_pos hl, if_pos hl]
          -- X0 = concatenate((Y0[:,None], XY0, XX0)).T[0]
          refine (bind_ok rfl _).trans ((bind_ok rfl _).trans ((bind_ok rfl _).trans ?_))
          refine (bind_ok rfl _).trans ((bind_ok rfl _).trans ?_)
          refine (bind_ok (x := pairX0SIS GN nl nbrs y xy xx) rfl _).trans ?_
          refine (bind_ok rfl _).trans ((bind_ok rfl _).trans ?_)
          have hn : (pairX0SIS GN nl nbrs y xy xx).n = GN + GN ^ 2 + GN ^ 2 := by
            exact congrArg (· + GN ^ 2 + GN ^ 2) hy
          have h0 : sliceLen (pairX0SIS GN nl nbrs y xy xx).n 0 GN = GN := hn ▸ sl3_0 _ _ _
          refine (bind_ok (x := GN) ((congrArg (bdim GN) h0).trans (bdim_self GN)) _).trans ?_
          cases full with
          | false =>
            refine congrArg Except.ok (congrArg (Prod.mk _) ?_)
            simp only [vsum, vslice, h0, N, sliceLo_zero, Nat.zero_add, t16]
            rfl
          | true =>
            refine (if_pos rfl).trans ?_
            refine (check_ok ((hn ▸ sl3_1 _ _ _ : sliceLen _ GN (GN + GN ^ 2) = GN ^ 2).trans hsq.symm) _ _).trans ?_
            refine (check_ok ((hn ▸ sl3_2 _ _ _ : sliceLen _ (GN + GN ^ 2) _ = GN ^ 2).trans hsq.symm) _ _).trans ?_
            refine congrArg Except.ok (congrArg (Prod.mk _) ?_)
            simp only [vsum, vslice, N, sliceLo_zero, Nat.zero_add, hn, sl3_0, sl3_1, sl3_2, so3_1, so3_2, t16, a1]
            rfl
        · rw [if_neg hl, if_neg hl]
      clear_value jXX
      cases XX0 with
      | none =>
        simp only [XX01, Option.isNone_none, if_true, X0, t4, t5]
        refine (bind_ok (op_col_row _ _) _).trans ?_
        rw [hXX _ ⟨hy, hy⟩, if_pos (shapeOk_none _)]
        rfl
      | some xx =>
        by_cases hxx : xx.r = GN ∧ xx.c = GN
        · simp [XX01, N, hxx, hXX xx hxx, shapeOk_some, xxOf]
        · simp [XX01, N, hxx, shapeOk_some]
    clear_value jXY
    cases XY0 with
    | none =>
      simp only [XY01, Option.isNone_none, if_true]
      refine (bind_ok (need_some y _) _).trans ((bind_ok (op_col_row _ _) _).trans ?_)
      rw [hXY _ ⟨hy, hy⟩]
      simp [pairRunSIS, hy, shapeOk_none, xyOf]
      rfl
    | some xy =>
      by_cases hxy : xy.r = GN ∧ xy.c = GN
      · simp [XY01, N, hxy, hXY xy hxy, shapeOk_some, xyOf, pairRunSIS, hy]
      · simp [XY01, N, hxy, shapeOk_some, pairRunSIS, hy]
  cases hg : pairGuard GN rho nodelist Y0 with
  | some e => rw [hg] at key; exact key
  | none => rw [hg] at key; exact key

theorem pairX0SIS_y (N : Nat) (nl : List Nat) (nbrs : Nat → List Nat) (y : V) (xy xx : Mx) (k : Nat) (hk : k < y.n) :
    (pairX0SIS N nl nbrs y xy xx).f k = y.f k := by
  rw [pairX0SIS, V.append_f_lt _ _ k (Nat.lt_add_right _ hk), V.append_f_lt _ _ k hk]

theorem pairX0SIS_xy (N : Nat) (nl : List Nat) (nbrs : Nat → List Nat) (y : V) (xy xx : Mx) (hy : y.n = N)
    (hxy : xy.r = N ∧ xy.c = N) (i j : Nat) (hi : i < N) (hj : j < N) :
    (pairX0SIS N nl nbrs y xy xx).f (N + (i * N + j))
      = xy.f i j * adjF nl nbrs (bidx nl.length i) (bidx nl.length j) := by
  have h := RowMajor.rm_lt N i j hi hj
  rw [pairX0SIS, V.append_f_lt _ _ _ (by show _ < y.n + N ^ 2; omega), ← hy, V.append_f_ge, hy]
  exact maskFlat_apply _ _ _ _ _ _ hxy hi hj

theorem pairX0SIS_xx (N : Nat) (nl : List Nat) (nbrs : Nat → List Nat) (y : V) (xy xx : Mx) (hy : y.n = N)
    (hxx : xx.r = N ∧ xx.c = N) (i j : Nat) (hi : i < N) (hj : j < N) :
    (pairX0SIS N nl nbrs y xy xx).f (N + N ^ 2 + (i * N + j))
      = xx.f i j * adjF nl nbrs (bidx nl.length i) (bidx nl.length j) := by
  rw [pairX0SIS, show N + N ^ 2 = (V.append y (mcol (maskFlat xy nl nbrs N))).n from by rw [← hy]; rfl, V.append_f_ge]
  exact maskFlat_apply _ _ _ _ _ _ hxx hi hj

/-! The lemmas `pairMid…` and `pairCore…` below (and the SIR twins further down) are all statements about `pairRunSIS` /
`pairRunSIR`: `Mid` = after the guards, before the node-list test; `Core` = explicit tables of the right shape. -/

theorem pairMidSIS_ok (myodeint : Solver) (N : Nat) (nbrs : Nat → List Nat) (tr : Nat → Nat → Rat) (rr : Nat → Rat)
    (nl : List Nat) (y : V) (XY0 XX0 : Option Mx) (T : Nat → Rat) (full : Bool)
    (hy : y.n = N) (hxy : shapeOk N XY0) (hxx : shapeOk N XX0) :
    pairRunSIS myodeint N nbrs tr rr nl y XY0 XX0 T full =
      if nl.length = N ∨ nl.length = 1 then
        .ok (pairX0SIS N nl nbrs y (xyOf y XY0) (xxOf y XX0), outSISPair T N full
          (myodeint (fun st => Gen.dSIS_pair_based st nl.length nbrs tr rr)
            (pairX0SIS N nl nbrs y (xyOf y XY0) (xxOf y XX0))))
      else .error "ValueError" := if_pos ⟨hy, hxy, hxx⟩

theorem pairMidSIS_err (myodeint : Solver) (N : Nat) (nbrs : Nat → List Nat) (tr : Nat → Nat → Rat) (rr : Nat → Rat)
    (nl : List Nat) (y : V) (XY0 XX0 : Option Mx) (T : Nat → Rat) (full : Bool)
    (h : ¬ (y.n = N ∧ shapeOk N XY0 ∧ shapeOk N XX0)) :
    pairRunSIS myodeint N nbrs tr rr nl y XY0 XX0 T full = .error "EoNError" := if_neg h

/-- explicit tables of shape `N × N` and a node list of length `N` or 1 (**a node list of length 1 is accepted on any
graph**: the 1 × 1 adjacency matrix is broadcast, every pair variable is multiplied by "node `nl[0]` is its own
neighbour", and the right-hand side is called with node count 1 on a state vector for `N` nodes); the entries of `X0`:
`pairX0SIS_y`, `pairX0SIS_xy`, `pairX0SIS_xx` -/
theorem pairCoreSIS_eq (myodeint : Solver) (N : Nat) (nbrs : Nat → List Nat) (tr : Nat → Nat → Rat) (rr : Nat → Rat)
    (nl : List Nat) (y : V) (XY XX : Mx) (T : Nat → Rat) (full : Bool)
    (hy : y.n = N) (hxy : XY.r = N ∧ XY.c = N) (hxx : XX.r = N ∧ XX.c = N) (hl : nl.length = N ∨ nl.length = 1) :
    pairRunSIS myodeint N nbrs tr rr nl y (some XY) (some XX) T full
      = .ok (pairX0SIS N nl nbrs y XY XX, outSISPair T N full
          (myodeint (fun st => Gen.dSIS_pair_based st nl.length nbrs tr rr) (pairX0SIS N nl nbrs y XY XX))) :=
  (pairMidSIS_ok _ _ _ _ _ _ _ _ _ _ _ hy ((shapeOk_some _ _).2 hxy) ((shapeOk_some _ _).2 hxx)).trans (if_pos hl)

/-- a node list whose length is neither `N` nor 1: NumPy's `ValueError` (broadcasting `XY0 * A`, or — for `N = 1` — the
reshape of the broadcast product) -/
theorem pairCoreSIS_err (myodeint : Solver) (N : Nat) (nbrs : Nat → List Nat) (tr : Nat → Nat → Rat) (rr : Nat → Rat)
    (nl : List Nat) (y : V) (XY XX : Mx) (T : Nat → Rat) (full : Bool)
    (hy : y.n = N) (hxy : XY.r = N ∧ XY.c = N) (hxx : XX.r = N ∧ XX.c = N) (hl : nl.length ≠ N) (h1 : nl.length ≠ 1) :
    pairRunSIS myodeint N nbrs tr rr nl y (some XY) (some XX) T full = .error "ValueError" :=
  (pairMidSIS_ok _ _ _ _ _ _ _ _ _ _ _ hy ((shapeOk_some _ _).2 hxy) ((shapeOk_some _ _).2 hxx)).trans
    (if_neg fun h => h.elim hl h1)

/-- **`Y0`, `nodelist` resolved: every normal return** and the exact exceptions -/
theorem pairMidSIS_form (myodeint : Solver) (N : Nat) (nbrs : Nat → List Nat) (tr : Nat → Nat → Rat) (rr : Nat → Rat)
    (nl : List Nat) (y : V) (XY0 XX0 : Option Mx) (T : Nat → Rat) (full : Bool) :
    (y.n = N ∧ shapeOk N XY0 ∧ shapeOk N XX0 ∧ (nl.length = N ∨ nl.length = 1) ∧
      pairRunSIS myodeint N nbrs tr rr nl y XY0 XX0 T full
        = .ok (pairX0SIS N nl nbrs y (xyOf y XY0) (xxOf y XX0), outSISPair T N full
            (myodeint (fun st => Gen.dSIS_pair_based st nl.length nbrs tr rr)
              (pairX0SIS N nl nbrs y (xyOf y XY0) (xxOf y XX0))))) ∨
    (¬ (y.n = N ∧ shapeOk N XY0 ∧ shapeOk N XX0) ∧
      pairRunSIS myodeint N nbrs tr rr nl y XY0 XX0 T full = .error "EoNError") ∨
    (y.n = N ∧ shapeOk N XY0 ∧ shapeOk N XX0 ∧ nl.length ≠ N ∧ nl.length ≠ 1 ∧
      pairRunSIS myodeint N nbrs tr rr nl y XY0 XX0 T full = .error "ValueError") := by
  by_cases h : y.n = N ∧ shapeOk N XY0 ∧ shapeOk N XX0
  · obtain ⟨hy, hxy, hxx⟩ := h
    rw [pairMidSIS_ok _ _ _ _ _ _ _ _ _ _ _ hy hxy hxx]
    by_cases hl : nl.length = N ∨ nl.length = 1
    · exact .inl ⟨hy, hxy, hxx, hl, if_pos hl⟩
    · exact .inr (.inr ⟨hy, hxy, hxx, fun e => hl (.inl e), fun e => hl (.inr e), if_neg hl⟩)
  · exact .inr (.inl ⟨h, pairMidSIS_err _ _ _ _ _ _ _ _ _ _ _ h⟩)

theorem pairRunSIS_ok {myodeint : Solver} {N : Nat} {nbrs : Nat → List Nat} {tr : Nat → Nat → Rat} {rr : Nat → Rat}
    {nl : List Nat} {y : V} {XY0 XX0 : Option Mx} {T : Nat → Rat} {full : Bool} {res : V × List Out}
    (h : pairRunSIS myodeint N nbrs tr rr nl y XY0 XX0 T full = .ok res) :
    (y.n = N ∧ shapeOk N XY0 ∧ shapeOk N XX0) ∧ (nl.length = N ∨ nl.length = 1) ∧
    res = (pairX0SIS N nl nbrs y (xyOf y XY0) (xxOf y XX0), outSISPair T N full
      (myodeint (fun st => Gen.dSIS_pair_based st nl.length nbrs tr rr)
        (pairX0SIS N nl nbrs y (xyOf y XY0) (xxOf y XX0)))) := by
  unfold pairRunSIS at h
  split at h
  · split at h
    · exact ⟨‹_›, ‹_›, (Except.ok.inj h).symm⟩
    · cases h
  · cases h

/-- **every normal return of `SIS_pair_based`** (all inputs): `myodeint` solved `Gen.dSIS_pair_based` (node count = length
of the node list) from `X0 = [Y0 | XY0∘A | XX0∘A]`; the returned arrays are `outSISPair` of the solution -/
theorem SIS_pair_based_form {odeint myodeint : Solver} {GN : Nat} {nbrs : Nat → List Nat} {tr : Nat → Nat → Rat}
    {rr : Nat → Rat} {rho : Option Rat} {nodelist : Option (List Nat)} {Y0 : Option V} {XY0 XX0 : Option Mx}
    {tmin tmax : Rat} {tcount : Nat} {full : Bool} {x0 : V} {l : List Out}
    (h : GenGlue2.SIS_pair_based odeint myodeint GN nbrs tr rr rho nodelist Y0 XY0 XX0 tmin tmax tcount full
      = .ok (x0, l)) :
    let nl := nodesOf GN nodelist
    let y := pairY0 GN rho Y0
    l = outSISPair (linspace tmin tmax tcount) GN full
      (myodeint (fun st => Gen.dSIS_pair_based st nl.length nbrs tr rr) x0) ∧
    x0.n = GN + GN ^ 2 + GN ^ 2 ∧ (∀ k, k < GN → x0.f k = y.f k) ∧
    (∀ i j, i < GN → j < GN → x0.f (GN + (i * GN + j))
      = (xyOf y XY0).f i j * adjF nl nbrs (bidx nl.length i) (bidx nl.length j)) ∧
    (∀ i j, i < GN → j < GN → x0.f (GN + GN ^ 2 + (i * GN + j))
      = (xxOf y XX0).f i j * adjF nl nbrs (bidx nl.length i) (bidx nl.length j)) := by
  intro nl y
  rw [SIS_pair_based_eq] at h
  cases hg : pairGuard GN rho nodelist Y0 with
  | some e => rw [hg] at h; cases h
  | none =>
    rw [hg] at h
    obtain ⟨⟨hy, hxy, hxx⟩, -, h5⟩ := pairRunSIS_ok h
    cases h5
    exact ⟨rfl, congrArg (· + GN ^ 2 + GN ^ 2) hy, fun k hk => pairX0SIS_y _ _ _ _ _ _ k (hy.symm ▸ hk),
      pairX0SIS_xy _ _ _ _ _ _ hy (xyOf_shape _ _ _ hy hxy), pairX0SIS_xx _ _ _ _ _ _ hy (xxOf_shape _ _ _ hy hxx)⟩

theorem SIS_pair_based_guard_error (odeint myodeint : Solver) (GN : Nat) (nbrs : Nat → List Nat) (tr : Nat → Nat → Rat)
    (rr : Nat → Rat) (rho : Option Rat) (nodelist : Option (List Nat)) (Y0 : Option V) (XY0 XX0 : Option Mx)
    (tmin tmax : Rat) (tcount : Nat) (full : Bool) (e : String) (hg : pairGuard GN rho nodelist Y0 = some e) :
    GenGlue2.SIS_pair_based odeint myodeint GN nbrs tr rr rho nodelist Y0 XY0 XX0 tmin tmax tcount full = .error e := by
  rw [SIS_pair_based_eq, hg]

/-- after the guards: a `Y0` whose length is not `G.order()`, or a given table whose shape is not `(N, N)` -/
theorem SIS_pair_based_shape_error (odeint myodeint : Solver) (GN : Nat) (nbrs : Nat → List Nat) (tr : Nat → Nat → Rat)
    (rr : Nat → Rat) (rho : Option Rat) (nodelist : Option (List Nat)) (Y0 : Option V) (XY0 XX0 : Option Mx)
    (tmin tmax : Rat) (tcount : Nat) (full : Bool) (hg : pairGuard GN rho nodelist Y0 = none)
    (h : ¬ ((pairY0 GN rho Y0).n = GN ∧ shapeOk GN XY0 ∧ shapeOk GN XX0)) :
    GenGlue2.SIS_pair_based odeint myodeint GN nbrs tr rr rho nodelist Y0 XY0 XX0 tmin tmax tcount full
      = .error "EoNError" := by
  rw [SIS_pair_based_eq, hg]
  exact if_neg h

/-- **accepted arguments**: the guards pass, `Y0` and the given tables have the shapes of the graph, the node list has
`G.order()` entries (or one): `SIS_pair_based` returns, and `SIS_pair_based_form` describes what -/
theorem SIS_pair_based_ok (odeint myodeint : Solver) (GN : Nat) (nbrs : Nat → List Nat) (tr : Nat → Nat → Rat)
    (rr : Nat → Rat) (rho : Option Rat) (nodelist : Option (List Nat)) (Y0 : Option V) (XY0 XX0 : Option Mx)
    (tmin tmax : Rat) (tcount : Nat) (full : Bool)
    (hg : pairGuard GN rho nodelist Y0 = none) (hy : (pairY0 GN rho Y0).n = GN) (hxy : shapeOk GN XY0)
    (hxx : shapeOk GN XX0) (hl : (nodesOf GN nodelist).length = GN ∨ (nodesOf GN nodelist).length = 1) :
    ∃ x0, GenGlue2.SIS_pair_based odeint myodeint GN nbrs tr rr rho nodelist Y0 XY0 XX0 tmin tmax tcount full
      = .ok (x0, outSISPair (linspace tmin tmax tcount) GN full
          (myodeint (fun st => Gen.dSIS_pair_based st (nodesOf GN nodelist).length nbrs tr rr) x0)) ∧
      ∀ k, k < GN → x0.f k = (pairY0 GN rho Y0).f k := by
  rw [SIS_pair_based_eq, hg]
  exact ⟨_, (if_pos ⟨hy, hxy, hxx⟩).trans (if_pos hl), fun k hk => pairX0SIS_y _ _ _ _ _ _ k (hy.symm ▸ hk)⟩

/-- the `X0` of `SIR_pair_based`: `[X0 | Y0 | (XY0∘A).flat | (XX0∘A).flat]` -/
def pairX0SIR (N : Nat) (nl : List Nat) (nbrs : Nat → List Nat) (x y : V) (xy xx : Mx) : V :=
  V.append (V.append (V.append x y) (mcol (maskFlat xy nl nbrs N))) (mcol (maskFlat xx nl nbrs N))


def pairOkSIR (odeint : Solver) (N : Nat) (nbrs : Nat → List Nat) (tr : Nat → Nat → Rat) (rr : Nat → Rat)
    (nl : List Nat) (x y : V) (xy xx : Mx) (T : Nat → Rat) (full : Bool) : Res :=
  if nl.length = N ∨ nl.length = 1 then
    .ok (pairX0SIR N nl nbrs x y xy xx, outSIRPair T N full
      (odeint (fun st => Gen.dSIR_pair_based st nl.length nbrs tr rr) (pairX0SIR N nl nbrs x y xy xx)))
  else .error "ValueError"

/-- a property of the result `r`, not an equation: the closed form holds **for an `X0` of `N` entries** only (the source
never checks the length of an explicit `X0`) -/
def PairSpecSIR (odeint : Solver) (N : Nat) (nbrs : Nat → List Nat) (tr : Nat → Nat → Rat) (rr : Nat → Rat)
    (nl : List Nat) (x y : V) (XY0 XX0 : Option Mx) (T : Nat → Rat) (full : Bool) (r : Res) : Prop :=
  if y.n = N ∧ shapeOk N XY0 ∧ shapeOk N XX0 then
    x.n = N → r = pairOkSIR odeint N nbrs tr rr nl x y (xyOfR x y XY0) (xxOfR x XX0) T full
  else r = Except.error "EoNError"

/-- the walk of `SIR_pair_based`; `E` stands for the call with `rho`, `nodelist`, `Y0` resolved (a variable, so that no
step compares two instances of the generated function).  The walk is that of `SIS_pair_based_eq`: see the comment there
on `extract_lets` / `clear_value` and on the positional names. -/
theorem SIR_pair_based_walk (odeint myodeint : Solver) (GN : Nat) (nbrs : Nat → List Nat) (tr : Nat → Nat → Rat)
    (rr : Nat → Rat) (rho : Option Rat) (nodelist : Option (List Nat)) (Y0 X0 : Option V) (XY0 XX0 : Option Mx)
    (tmin tmax : Rat) (tcount : Nat) (full : Bool) (E : List Nat → V → Res)
    (hE : ∀ nl y, GenGlue2.SIR_pair_based odeint myodeint GN nbrs tr rr none (some nl) (some y) X0 XY0 XX0 tmin tmax tcount
      full = E nl y) :
    match pairGuard GN rho nodelist Y0 with
    | some e =>
      GenGlue2.SIR_pair_based odeint myodeint GN nbrs tr rr rho nodelist Y0 X0 XY0 XX0 tmin tmax tcount full = .error e
    | none =>
      GenGlue2.SIR_pair_based odeint myodeint GN nbrs tr rr rho nodelist Y0 X0 XY0 XX0 tmin tmax tcount full
        = E (nodesOf GN nodelist) (pairY0 GN rho Y0) ∧
      PairSpecSIR odeint GN nbrs tr rr (nodesOf GN nodelist) (pairX0 GN rho Y0 X0) (pairY0 GN rho Y0) XY0 XX0
        (linspace tmin tmax tcount) full
        (GenGlue2.SIR_pair_based odeint myodeint GN nbrs tr rr rho nodelist Y0 X0 XY0 XX0 tmin tmax tcount full) := by
  unfold GenGlue2.SIR_pair_based
  extract_lets rho1 nodelist1 Y01 X01 XY01 XX01 N T t18 a1 nlr jpR rhoD jp0
  let Q : List Nat → V → Res → Prop := fun nl y R =>
    R = E nl y ∧ PairSpecSIR odeint GN nbrs tr rr nl (X0.getD (vcompl y)) y XY0 XX0 (linspace tmin tmax tcount) full R
  refine pairStaged_of (jpR := jpR) (Q := Q) (fun r R hR => ?_) _ rfl
  unfold jpR at hR
  extract_lets jNl jc jb at hR
  refine pairStaged_nodelist (jNl := jNl) (jb := jb) (jc := jc) (Q := Q) (fun _ => rfl) (fun _ => rfl)
      (fun nl R hR => ?_) R hR
  unfold jNl at hR
  extract_lets jY at hR
  refine pairStaged_Y0 (jY := jY) (Q := Q) (fun y => ⟨?_, ?_⟩) R hR
  · exact (show jY () (some y) = GenGlue2.SIR_pair_based odeint myodeint GN nbrs tr rr none (some nl) (some y) X0 XY0
      XX0 tmin tmax tcount full from rfl).trans (hE nl y)
  generalize hR : jY () (some y) = R
  unfold jY at hR
  replace hR := (bind_ok (need_some y _) _).symm.trans hR
  extract_lets jX jLen at hR
  unfold PairSpecSIR
  by_cases hy : y.n = GN
  case neg =>
    rw [if_neg (fun h => hy h.1), ← hR]
    simp [N, hy]
  rw [if_neg (by simp [N, hy])] at hR
  unfold jLen at hR
  have hX : ∀ x : V, if shapeOk GN XY0 ∧ shapeOk GN XX0 then
        x.n = GN → jX () (some x) = pairOkSIR odeint GN nbrs tr rr nl x y (xyOfR x y XY0) (xxOfR x XX0)
          (linspace tmin tmax tcount) full
      else jX () (some x) = .error "EoNError" := by
    intro x
    generalize hR : jX () (some x) = R
    unfold jX at hR
    extract_lets jXY at hR
    have hXY : ∀ xy : Mx, if shapeOk GN XX0 then
          xy.r = GN ∧ xy.c = GN → x.n = GN → jXY () (some xy) = pairOkSIR odeint GN nbrs tr rr nl x y xy
            (xxOfR x XX0) (linspace tmin tmax tcount) full
        else jXY () (some xy) = .error "EoNError" := by
      intro xy
      generalize hR : jXY () (some xy) = R
      unfold jXY at hR
      extract_lets jXX at hR
      have hXX : ∀ xx : Mx, xx.r = GN ∧ xx.c = GN → xy.r = GN ∧ xy.c = GN → x.n = GN → jXX () (some xx) =
          pairOkSIR odeint GN nbrs tr rr nl x y xy xx (linspace tmin tmax tcount) full := by
        intro xx hxx hxy hxn
        unfold jXX pairOkSIR
        have hsq : GN * GN = GN ^ 2 := by ring
        refine (bind_ok rfl _).trans ((bind_ok rfl _).trans ((mask_steps nl nbrs hxy hxx _).trans ?_))
        by_cases hl : nl.length = GN ∨ nl.length = 1
        · rw [if_pos hl, if_pos hl]
          -- X0 = concatenate((X0[:,None], Y0[:,None], XY0, XX0)).T[0]
          refine (bind_ok rfl _).trans ((bind_ok rfl _).trans ((bind_ok rfl _).trans ((bind_ok rfl _).trans ?_)))
          refine (bind_ok rfl _).trans ((bind_ok rfl _).trans ((bind_ok rfl _).trans ?_))
          refine (bind_ok (x := pairX0SIR GN nl nbrs x y xy xx) rfl _).trans ?_
          refine (bind_ok rfl _).trans ((bind_ok rfl _).trans ?_)
          have hn : (pairX0SIR GN nl nbrs x y xy xx).n = GN + GN + GN ^ 2 + GN ^ 2 := by
            show x.n + y.n + GN ^ 2 + GN ^ 2 = _
            rw [hxn, hy]
          have h0 : sliceLen (pairX0SIR GN nl nbrs x y xy xx).n 0 GN = GN := hn ▸ sl4_0 _ _
          have h1 : sliceLen (pairX0SIR GN nl nbrs x y xy xx).n GN (2 * GN) = GN := hn ▸ sl4_1 _ _
          refine (bind_ok (x := GN) ((congrArg (bdim GN) h0).trans (bdim_self GN)) _).trans ?_
          refine (bind_ok (x := GN) ((congrArg (bdim GN) h1).trans (bdim_self GN)) _).trans ?_
          cases full with
          | false =>
            refine congrArg Except.ok (congrArg (Prod.mk _) ?_)
            simp only [vsum, vslice, N, sliceLo_zero, Nat.zero_add, hn, sl4_0, sl4_1, so4_1, t18]
            rfl
          | true =>
            refine (if_pos rfl).trans ?_
            refine (check_ok ((hn ▸ sl4_2 _ _ : sliceLen _ (2 * GN) (2 * GN + GN ^ 2) = GN ^ 2).trans hsq.symm) _ _).trans ?_
            refine (check_ok ((hn ▸ sl4_3 _ _ : sliceLen _ (2 * GN + GN ^ 2) _ = GN ^ 2).trans hsq.symm) _ _).trans ?_
            refine congrArg Except.ok (congrArg (Prod.mk _) ?_)
            simp only [vsum, vslice, N, sliceLo_zero, Nat.zero_add, hn, sl4_0, sl4_1, sl4_2, sl4_3, so4_1, so4_2,
              so4_3, t18, a1]
            rfl
        · rw [if_neg hl, if_neg hl]
      clear_value jXX
      subst hR
      cases XX0 with
      | none =>
        rw [if_pos (shapeOk_none _)]
        intro hxy hxn
        simp only [XX01, Option.isNone_none, if_true]
        refine (bind_ok rfl _).trans ((bind_ok rfl _).trans ((bind_ok (op_col_row _ _) _).trans ?_))
        exact hXX _ ⟨hxn, hxn⟩ hxy hxn
      | some xx =>
        by_cases hxx : xx.r = GN ∧ xx.c = GN
        · rw [if_pos ((shapeOk_some _ _).2 hxx)]
          intro hxy hxn
          simp [XX01, N, hxx, hXX xx hxx hxy hxn, xxOfR]
        · rw [if_neg (fun h => hxx ((shapeOk_some _ _).1 h))]
          simp [XX01, N, hxx]
    clear_value jXY
    subst hR
    cases XY0 with
    | none =>
      have h := hXY (xyDefault x y)
      simp only [XY01, Option.isNone_none, if_true, shapeOk_none, true_and, need_some, ok_bind, op_col_row]
      split
      · rw [if_pos ‹_›] at h
        exact fun hxn => h ⟨hxn, hy⟩ hxn
      · rw [if_neg ‹_›] at h
        exact h
    | some xy =>
      have h := hXY xy
      by_cases hxy : xy.r = GN ∧ xy.c = GN
      · simp only [XY01, N, hxy, shapeOk_some, true_and]
        split
        · rw [if_pos ‹_›] at h
          simpa [hxy, xyOfR] using fun hxn => h hxy hxn
        · rw [if_neg ‹_›] at h
          simpa [hxy, xyOfR] using h
      · rw [if_neg (fun h => hxy ((shapeOk_some _ _).1 h.1))]
        simp [XY01, N, hxy]
  clear_value jX
  subst hR
  simp only [hy, true_and]
  cases X0 with
  | none =>
    simp only [X01, Option.isNone_none, if_true]
    rw [bind_ok (need_some y _)]
    exact hX _
  | some x => exact hX x

theorem pairX0SIR_x (N : Nat) (nl : List Nat) (nbrs : Nat → List Nat) (x y : V) (xy xx : Mx) (k : Nat) (hk : k < x.n) :
    (pairX0SIR N nl nbrs x y xy xx).f k = x.f k := by
  rw [pairX0SIR, V.append_f_lt _ _ k (Nat.lt_add_right _ (Nat.lt_add_right _ hk)),
    V.append_f_lt _ _ k (Nat.lt_add_right _ hk), V.append_f_lt _ _ k hk]

theorem pairX0SIR_y (N : Nat) (nl : List Nat) (nbrs : Nat → List Nat) (x y : V) (xy xx : Mx) (hx : x.n = N) (k : Nat)
    (hk : k < y.n) : (pairX0SIR N nl nbrs x y xy xx).f (N + k) = y.f k := by
  rw [pairX0SIR, V.append_f_lt _ _ _ (by show N + k < x.n + y.n + _; omega),
    V.append_f_lt _ _ _ (by show N + k < x.n + y.n; omega), ← hx, V.append_f_ge]

theorem pairX0SIR_xy (N : Nat) (nl : List Nat) (nbrs : Nat → List Nat) (x y : V) (xy xx : Mx) (hx : x.n = N)
    (hy : y.n = N) (hxy : xy.r = N ∧ xy.c = N) (i j : Nat) (hi : i < N) (hj : j < N) :
    (pairX0SIR N nl nbrs x y xy xx).f (N + N + (i * N + j))
      = xy.f i j * adjF nl nbrs (bidx nl.length i) (bidx nl.length j) := by
  have h := RowMajor.rm_lt N i j hi hj
  have e : N + N = (V.append x y).n := by show N + N = x.n + y.n; rw [hx, hy]
  rw [pairX0SIR, V.append_f_lt _ _ _ (by show _ < x.n + y.n + N ^ 2; omega), e, V.append_f_ge]
  exact maskFlat_apply _ _ _ _ _ _ hxy hi hj

theorem pairX0SIR_xx (N : Nat) (nl : List Nat) (nbrs : Nat → List Nat) (x y : V) (xy xx : Mx) (hx : x.n = N)
    (hy : y.n = N) (hxx : xx.r = N ∧ xx.c = N) (i j : Nat) (hi : i < N) (hj : j < N) :
    (pairX0SIR N nl nbrs x y xy xx).f (N + N + N ^ 2 + (i * N + j))
      = xx.f i j * adjF nl nbrs (bidx nl.length i) (bidx nl.length j) := by
  have e : N + N + N ^ 2 = (V.append (V.append x y) (mcol (maskFlat xy nl nbrs N))).n := by
    show _ = x.n + y.n + N ^ 2; rw [hx, hy]
  rw [pairX0SIR, e, V.append_f_ge]
  exact maskFlat_apply _ _ _ _ _ _ hxx hi hj

theorem pairX0_n {GN : Nat} {rho : Option Rat} {Y0 X0 : Option V} (hx : ∀ x, X0 = some x → x.n = GN)
    (hy : (pairY0 GN rho Y0).n = GN) : (pairX0 GN rho Y0 X0).n = GN := by
  cases X0 with
  | none => exact hy
  | some x => exact hx x rfl

/-- `SIR_pair_based` once `X0`, `Y0` and the node list are resolved, for an `X0` of `N` entries -/
def pairRunSIR (odeint : Solver) (N : Nat) (nbrs : Nat → List Nat) (tr : Nat → Nat → Rat) (rr : Nat → Rat)
    (nl : List Nat) (x y : V) (XY0 XX0 : Option Mx) (T : Nat → Rat) (full : Bool) : Res :=
  if y.n = N ∧ shapeOk N XY0 ∧ shapeOk N XX0 then
    pairOkSIR odeint N nbrs tr rr nl x y (xyOfR x y XY0) (xxOfR x XX0) T full
  else .error "EoNError"

theorem pairMidSIR_ok (odeint : Solver) (N : Nat) (nbrs : Nat → List Nat) (tr : Nat → Nat → Rat) (rr : Nat → Rat)
    (nl : List Nat) (x y : V) (XY0 XX0 : Option Mx) (T : Nat → Rat) (full : Bool)
    (hy : y.n = N) (hxy : shapeOk N XY0) (hxx : shapeOk N XX0) :
    pairRunSIR odeint N nbrs tr rr nl x y XY0 XX0 T full =
      pairOkSIR odeint N nbrs tr rr nl x y (xyOfR x y XY0) (xxOfR x XX0) T full := if_pos ⟨hy, hxy, hxx⟩

theorem pairMidSIR_err (odeint : Solver) (N : Nat) (nbrs : Nat → List Nat) (tr : Nat → Nat → Rat) (rr : Nat → Rat)
    (nl : List Nat) (x y : V) (XY0 XX0 : Option Mx) (T : Nat → Rat) (full : Bool)
    (h : ¬ (y.n = N ∧ shapeOk N XY0 ∧ shapeOk N XX0)) :
    pairRunSIR odeint N nbrs tr rr nl x y XY0 XX0 T full = .error "EoNError" := if_neg h

/-- the entries of `X0`: `pairX0SIR_x`, `_y`, `_xy`, `_xx` -/
theorem pairCoreSIR_eq (odeint : Solver) (N : Nat) (nbrs : Nat → List Nat) (tr : Nat → Nat → Rat) (rr : Nat → Rat)
    (nl : List Nat) (x y : V) (XY XX : Mx) (T : Nat → Rat) (full : Bool)
    (hy : y.n = N) (hxy : XY.r = N ∧ XY.c = N) (hxx : XX.r = N ∧ XX.c = N) (hl : nl.length = N ∨ nl.length = 1) :
    pairRunSIR odeint N nbrs tr rr nl x y (some XY) (some XX) T full
      = .ok (pairX0SIR N nl nbrs x y XY XX, outSIRPair T N full
          (odeint (fun st => Gen.dSIR_pair_based st nl.length nbrs tr rr) (pairX0SIR N nl nbrs x y XY XX))) :=
  (pairMidSIR_ok _ _ _ _ _ _ _ _ _ _ _ _ hy ((shapeOk_some _ _).2 hxy) ((shapeOk_some _ _).2 hxx)).trans (if_pos hl)

theorem pairCoreSIR_err (odeint : Solver) (N : Nat) (nbrs : Nat → List Nat) (tr : Nat → Nat → Rat) (rr : Nat → Rat)
    (nl : List Nat) (x y : V) (XY XX : Mx) (T : Nat → Rat) (full : Bool)
    (hy : y.n = N) (hxy : XY.r = N ∧ XY.c = N) (hxx : XX.r = N ∧ XX.c = N) (hl : nl.length ≠ N) (h1 : nl.length ≠ 1) :
    pairRunSIR odeint N nbrs tr rr nl x y (some XY) (some XX) T full = .error "ValueError" :=
  (pairMidSIR_ok _ _ _ _ _ _ _ _ _ _ _ _ hy ((shapeOk_some _ _).2 hxy) ((shapeOk_some _ _).2 hxx)).trans
    (if_neg fun h => h.elim hl h1)

/-- **`X0`, `Y0`, `nodelist` resolved: every normal return** and the exact exceptions (an `X0` of `N` entries is what
`SIR_pair_based_spec` asks before the call is `pairRunSIR`) -/
theorem pairMidSIR_form (odeint : Solver) (N : Nat) (nbrs : Nat → List Nat) (tr : Nat → Nat → Rat) (rr : Nat → Rat)
    (nl : List Nat) (x y : V) (XY0 XX0 : Option Mx) (T : Nat → Rat) (full : Bool) :
    (y.n = N ∧ shapeOk N XY0 ∧ shapeOk N XX0 ∧ (nl.length = N ∨ nl.length = 1) ∧
      pairRunSIR odeint N nbrs tr rr nl x y XY0 XX0 T full
        = .ok (pairX0SIR N nl nbrs x y (xyOfR x y XY0) (xxOfR x XX0), outSIRPair T N full
            (odeint (fun st => Gen.dSIR_pair_based st nl.length nbrs tr rr)
              (pairX0SIR N nl nbrs x y (xyOfR x y XY0) (xxOfR x XX0))))) ∨
    (¬ (y.n = N ∧ shapeOk N XY0 ∧ shapeOk N XX0) ∧
      pairRunSIR odeint N nbrs tr rr nl x y XY0 XX0 T full = .error "EoNError") ∨
    (y.n = N ∧ shapeOk N XY0 ∧ shapeOk N XX0 ∧ nl.length ≠ N ∧ nl.length ≠ 1 ∧
      pairRunSIR odeint N nbrs tr rr nl x y XY0 XX0 T full = .error "ValueError") := by
  by_cases h : y.n = N ∧ shapeOk N XY0 ∧ shapeOk N XX0
  · obtain ⟨hy, hxy, hxx⟩ := h
    rw [pairMidSIR_ok _ _ _ _ _ _ _ _ _ _ _ _ hy hxy hxx, pairOkSIR]
    by_cases hl : nl.length = N ∨ nl.length = 1
    · exact .inl ⟨hy, hxy, hxx, hl, if_pos hl⟩
    · exact .inr (.inr ⟨hy, hxy, hxx, fun e => hl (.inl e), fun e => hl (.inr e), if_neg hl⟩)
  · exact .inr (.inl ⟨h, pairMidSIR_err _ _ _ _ _ _ _ _ _ _ _ _ h⟩)

/-- `hx`: an `X0` of `N` entries, asked only where the shape checks pass -/
theorem PairSpecSIR.run {odeint : Solver} {N : Nat} {nbrs : Nat → List Nat} {tr : Nat → Nat → Rat} {rr : Nat → Rat}
    {nl : List Nat} {x y : V} {XY0 XX0 : Option Mx} {T : Nat → Rat} {full : Bool} {r : Res}
    (h : PairSpecSIR odeint N nbrs tr rr nl x y XY0 XX0 T full r)
    (hx : y.n = N ∧ shapeOk N XY0 ∧ shapeOk N XX0 → x.n = N) :
    r = pairRunSIR odeint N nbrs tr rr nl x y XY0 XX0 T full := by
  unfold PairSpecSIR at h
  unfold pairRunSIR
  split
  · rw [if_pos ‹_›] at h; exact h (hx ‹_›)
  · rw [if_neg ‹_›] at h; exact h

theorem SIR_pair_based_spec (odeint myodeint : Solver) (GN : Nat) (nbrs : Nat → List Nat) (tr : Nat → Nat → Rat)
    (rr : Nat → Rat) (rho : Option Rat) (nodelist : Option (List Nat)) (Y0 X0 : Option V) (XY0 XX0 : Option Mx)
    (tmin tmax : Rat) (tcount : Nat) (full : Bool) :
    match pairGuard GN rho nodelist Y0 with
    | some e =>
      GenGlue2.SIR_pair_based odeint myodeint GN nbrs tr rr rho nodelist Y0 X0 XY0 XX0 tmin tmax tcount full = .error e
    | none =>
      GenGlue2.SIR_pair_based odeint myodeint GN nbrs tr rr rho nodelist Y0 X0 XY0 XX0 tmin tmax tcount full
        = GenGlue2.SIR_pair_based odeint myodeint GN nbrs tr rr none (some (nodesOf GN nodelist))
            (some (pairY0 GN rho Y0)) X0 XY0 XX0 tmin tmax tcount full ∧
      PairSpecSIR odeint GN nbrs tr rr (nodesOf GN nodelist) (pairX0 GN rho Y0 X0) (pairY0 GN rho Y0) XY0 XX0
        (linspace tmin tmax tcount) full
        (GenGlue2.SIR_pair_based odeint myodeint GN nbrs tr rr rho nodelist Y0 X0 XY0 XX0 tmin tmax tcount full) :=
  SIR_pair_based_walk odeint myodeint GN nbrs tr rr rho nodelist Y0 X0 XY0 XX0 tmin tmax tcount full
    (fun nl y => GenGlue2.SIR_pair_based odeint myodeint GN nbrs tr rr none (some nl) (some y) X0 XY0 XX0 tmin tmax tcount
      full) fun _ _ => rfl

/-- **`SIR_pair_based`, all inputs**: the same guards as `SIS_pair_based`, then the call with `rho`, `nodelist`, `Y0`
resolved (any `X0`: the source never checks the length of an explicit `X0`) -/
theorem SIR_pair_based_eq (odeint myodeint : Solver) (GN : Nat) (nbrs : Nat → List Nat) (tr : Nat → Nat → Rat)
    (rr : Nat → Rat) (rho : Option Rat) (nodelist : Option (List Nat)) (Y0 X0 : Option V) (XY0 XX0 : Option Mx)
    (tmin tmax : Rat) (tcount : Nat) (full : Bool) :
    GenGlue2.SIR_pair_based odeint myodeint GN nbrs tr rr rho nodelist Y0 X0 XY0 XX0 tmin tmax tcount full =
      match pairGuard GN rho nodelist Y0 with
      | some e => .error e
      | none => GenGlue2.SIR_pair_based odeint myodeint GN nbrs tr rr none (some (nodesOf GN nodelist))
          (some (pairY0 GN rho Y0)) X0 XY0 XX0 tmin tmax tcount full := by
  have h := SIR_pair_based_spec odeint myodeint GN nbrs tr rr rho nodelist Y0 X0 XY0 XX0 tmin tmax tcount full
  cases hg : pairGuard GN rho nodelist Y0 with
  | some e => rw [hg] at h; exact h
  | none => rw [hg] at h; exact h.1

theorem SIR_pair_based_run (odeint myodeint : Solver) (GN : Nat) (nbrs : Nat → List Nat) (tr : Nat → Nat → Rat)
    (rr : Nat → Rat) (rho : Option Rat) (nodelist : Option (List Nat)) (Y0 X0 : Option V) (XY0 XX0 : Option Mx)
    (tmin tmax : Rat) (tcount : Nat) (full : Bool) (hx : ∀ x, X0 = some x → x.n = GN)
    (hg : pairGuard GN rho nodelist Y0 = none) :
    GenGlue2.SIR_pair_based odeint myodeint GN nbrs tr rr rho nodelist Y0 X0 XY0 XX0 tmin tmax tcount full =
      pairRunSIR odeint GN nbrs tr rr (nodesOf GN nodelist) (pairX0 GN rho Y0 X0) (pairY0 GN rho Y0) XY0 XX0
        (linspace tmin tmax tcount) full := by
  have h := SIR_pair_based_spec odeint myodeint GN nbrs tr rr rho nodelist Y0 X0 XY0 XX0 tmin tmax tcount full
  rw [hg] at h
  exact h.2.run fun hc => pairX0_n hx hc.1

/-- **every normal return of `SIR_pair_based`** with `X0` absent or of `G.order()` entries: `odeint` solved
`Gen.dSIR_pair_based` (node count = length of the node list) from `X0 = [X0 | Y0 | XY0∘A | XX0∘A]`; the returned arrays
are `outSIRPair` of the solution -/
theorem SIR_pair_based_form {odeint myodeint : Solver} {GN : Nat} {nbrs : Nat → List Nat} {tr : Nat → Nat → Rat}
    {rr : Nat → Rat} {rho : Option Rat} {nodelist : Option (List Nat)} {Y0 X0 : Option V} {XY0 XX0 : Option Mx}
    {tmin tmax : Rat} {tcount : Nat} {full : Bool} {x0 : V} {l : List Out}
    (hx : ∀ x, X0 = some x → x.n = GN)
    (h : GenGlue2.SIR_pair_based odeint myodeint GN nbrs tr rr rho nodelist Y0 X0 XY0 XX0 tmin tmax tcount full
      = .ok (x0, l)) :
    let nl := nodesOf GN nodelist
    let y := pairY0 GN rho Y0
    let x := pairX0 GN rho Y0 X0
    l = outSIRPair (linspace tmin tmax tcount) GN full
      (odeint (fun st => Gen.dSIR_pair_based st nl.length nbrs tr rr) x0) ∧
    x0.n = GN + GN + GN ^ 2 + GN ^ 2 ∧ (∀ k, k < GN → x0.f k = x.f k) ∧ (∀ k, k < GN → x0.f (GN + k) = y.f k) ∧
    (∀ i j, i < GN → j < GN → x0.f (GN + GN + (i * GN + j))
      = (xyOfR x y XY0).f i j * adjF nl nbrs (bidx nl.length i) (bidx nl.length j)) ∧
    (∀ i j, i < GN → j < GN → x0.f (GN + GN + GN ^ 2 + (i * GN + j))
      = (xxOfR x XX0).f i j * adjF nl nbrs (bidx nl.length i) (bidx nl.length j)) := by
  intro nl y x
  cases hg : pairGuard GN rho nodelist Y0 with
  | some e => rw [SIR_pair_based_eq, hg] at h; cases h
  | none =>
    rw [SIR_pair_based_run _ _ _ _ _ _ _ _ _ _ _ _ _ _ _ _ hx hg, pairRunSIR] at h
    split at h
    · rename_i hc
      have hxn := pairX0_n hx hc.1
      rw [pairOkSIR] at h
      split at h
      · cases h
        exact ⟨rfl, by show x.n + y.n + GN ^ 2 + GN ^ 2 = _; rw [hxn, hc.1],
          fun k hk => pairX0SIR_x _ _ _ _ _ _ _ k (hxn.symm ▸ hk),
          fun k hk => pairX0SIR_y _ _ _ _ _ _ _ hxn k (hc.1.symm ▸ hk),
          pairX0SIR_xy _ _ _ _ _ _ _ hxn hc.1 (xyOfR_shape _ _ _ _ hxn hc.1 hc.2.1),
          pairX0SIR_xx _ _ _ _ _ _ _ hxn hc.1 (xxOfR_shape _ _ _ hxn hc.2.2)⟩
      · cases h
    · cases h

theorem SIR_pair_based_guard_error (odeint myodeint : Solver) (GN : Nat) (nbrs : Nat → List Nat) (tr : Nat → Nat → Rat)
    (rr : Nat → Rat) (rho : Option Rat) (nodelist : Option (List Nat)) (Y0 X0 : Option V) (XY0 XX0 : Option Mx)
    (tmin tmax : Rat) (tcount : Nat) (full : Bool) (e : String) (hg : pairGuard GN rho nodelist Y0 = some e) :
    GenGlue2.SIR_pair_based odeint myodeint GN nbrs tr rr rho nodelist Y0 X0 XY0 XX0 tmin tmax tcount full = .error e := by
  rw [SIR_pair_based_eq, hg]

/-- after the guards: a `Y0` whose length is not `G.order()`, or a given table whose shape is not `(N, N)`; any `X0` -/
theorem SIR_pair_based_shape_error (odeint myodeint : Solver) (GN : Nat) (nbrs : Nat → List Nat) (tr : Nat → Nat → Rat)
    (rr : Nat → Rat) (rho : Option Rat) (nodelist : Option (List Nat)) (Y0 X0 : Option V) (XY0 XX0 : Option Mx)
    (tmin tmax : Rat) (tcount : Nat) (full : Bool) (hg : pairGuard GN rho nodelist Y0 = none)
    (h : ¬ ((pairY0 GN rho Y0).n = GN ∧ shapeOk GN XY0 ∧ shapeOk GN XX0)) :
    GenGlue2.SIR_pair_based odeint myodeint GN nbrs tr rr rho nodelist Y0 X0 XY0 XX0 tmin tmax tcount full
      = .error "EoNError" := by
  have h' := SIR_pair_based_spec odeint myodeint GN nbrs tr rr rho nodelist Y0 X0 XY0 XX0 tmin tmax tcount full
  rw [hg] at h'
  exact (if_neg h).mp h'.2

/-- **accepted arguments** of `SIR_pair_based` (`X0` absent or of `G.order()` entries) -/
theorem SIR_pair_based_ok (odeint myodeint : Solver) (GN : Nat) (nbrs : Nat → List Nat) (tr : Nat → Nat → Rat)
    (rr : Nat → Rat) (rho : Option Rat) (nodelist : Option (List Nat)) (Y0 X0 : Option V) (XY0 XX0 : Option Mx)
    (tmin tmax : Rat) (tcount : Nat) (full : Bool) (hx : ∀ x, X0 = some x → x.n = GN)
    (hg : pairGuard GN rho nodelist Y0 = none) (hy : (pairY0 GN rho Y0).n = GN) (hxy : shapeOk GN XY0)
    (hxx : shapeOk GN XX0) (hl : (nodesOf GN nodelist).length = GN ∨ (nodesOf GN nodelist).length = 1) :
    ∃ x0, GenGlue2.SIR_pair_based odeint myodeint GN nbrs tr rr rho nodelist Y0 X0 XY0 XX0 tmin tmax tcount full
      = .ok (x0, outSIRPair (linspace tmin tmax tcount) GN full
          (odeint (fun st => Gen.dSIR_pair_based st (nodesOf GN nodelist).length nbrs tr rr) x0)) ∧
      (∀ k, k < GN → x0.f k = (pairX0 GN rho Y0 X0).f k) ∧ (∀ k, k < GN → x0.f (GN + k) = (pairY0 GN rho Y0).f k) := by
  have hxn := pairX0_n hx hy
  rw [SIR_pair_based_run _ _ _ _ _ _ _ _ _ _ _ _ _ _ _ _ hx hg, pairRunSIR, if_pos ⟨hy, hxy, hxx⟩, pairOkSIR, if_pos hl]
  exact ⟨_, rfl, fun k hk => pairX0SIR_x _ _ _ _ _ _ _ k (hxn.symm ▸ hk),
    fun k hk => pairX0SIR_y _ _ _ _ _ _ _ hxn k (hy.symm ▸ hk)⟩

end GenGlue3Props
