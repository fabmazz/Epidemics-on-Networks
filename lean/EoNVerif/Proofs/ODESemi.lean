import EoNVerif.Proofs.ODE
import Mathlib.Algebra.Polynomial.Derivative
/-!
Definitions and helper lemmas for C07 (semiconjugacy of the ODE models): the EBCM change of variables, the coefficient
polynomial of the generating function, the "all mass in one degree class" vector, and the sum lemmas that rewrite the
degree-class sums of the compact pairwise model in terms of `psiHP`, `psiHDP`.
-/
namespace ODE
open Polynomial

/-! ## EBCM change of variables -/
section EBCM
variable (K : Nat) (c : Nat → Rat) (N tau gamma phiS0 phiR0 : Rat)

/-- probability that a random neighbour of a test node is susceptible / recovered / infected, in EBCM variables -/
def phiS (theta : Rat) : Rat := phiS0 * psiHP K c theta / psiHP K c 1
/-- `phiR0` is its value at time 0, where θ = 1 -/
def phiR (theta : Rat) : Rat := phiR0 + gamma * (1 - theta) / tau
def phiI (theta : Rat) : Rat := theta - phiS K c phiS0 theta - phiR tau gamma phiR0 theta
/-- the pair counts [SS], [SI] as functions of θ -/
def SSof (theta : Rat) : Rat := N * psiHP K c theta * phiS K c phiS0 theta
def SIof (theta : Rat) : Rat := N * psiHP K c theta * phiI K c tau gamma phiS0 phiR0 theta
/-- the θ-derivative of `SSof`: the product rule applied by hand, with ψ̂' = (ψ̂)' and ψ̂'' = (ψ̂')' (`psiHP_deriv`,
`psiHDP_deriv`, Props/C07.lean) -/
def dSSof (theta : Rat) : Rat :=
  N * (psiHDP K c theta * phiS K c phiS0 theta + psiHP K c theta * (phiS0 * psiHDP K c theta / psiHP K c 1))
def dSIof (theta : Rat) : Rat :=
  N * (psiHDP K c theta * phiI K c tau gamma phiS0 phiR0 theta
       + psiHP K c theta * (1 - phiS0 * psiHDP K c theta / psiHP K c 1 + gamma / tau))

end EBCM

noncomputable def psiHPoly (K : Nat) (c : Nat → Rat) : ℚ[X] := ((List.range K).map fun k => C (c k) * X ^ k).sum

/-- all mass in degree class `n` -/
def only (n : Nat) (x : Rat) : Nat → Rat := fun k => if k = n then x else 0

theorem only_self (m : Nat) (x : Rat) : only m x m = x := by simp [only]

theorem only_off (m : Nat) (x : Rat) (k : Nat) (h : k ≠ m) : only m x k = 0 := by simp [only, h]

/-! ## sums over degree classes -/

theorem sumTo_single (K n : Nat) (hn : n < K) (g : Nat → Rat) (h : ∀ k, k ≠ n → g k = 0) : sumTo K g = g n := by
  rw [sumTo_eq_sum]
  exact Finset.sum_eq_single n (fun k _ hk => h k hk) (fun hn' => absurd (Finset.mem_range.2 hn) hn')

theorem sumTo_mul_only (K n : Nat) (hn : n < K) (w : Nat → Rat) (x : Rat) :
    sumTo K (fun k => w k * only n x k) = w n * x := by
  rw [sumTo_single K n hn _ (fun k hk => by simp only [only, if_neg hk, mul_zero])]
  simp only [only, if_true]

theorem sumTo_kS (K : Nat) (c : Nat → Rat) (N theta : Rat) :
    sumTo K (fun k => kf k * (N * c k * theta ^ k)) = N * theta * psiHP K c theta := by
  unfold psiHP
  rw [← sumTo_mul_left]
  apply sumTo_congr
  intro k _
  cases k with
  | zero => simp [kf]
  | succ k =>
    simp only [Nat.add_sub_cancel, pow_succ]
    ring

theorem sumTo_kkS (K : Nat) (c : Nat → Rat) (N theta : Rat) :
    sumTo K (fun k => kf k * (kf k - 1) * (N * c k * theta ^ k)) = N * theta ^ 2 * psiHDP K c theta := by
  unfold psiHDP
  rw [← sumTo_mul_left]
  apply sumTo_congr
  intro k _
  match k with
  | 0 => simp [kf]
  | 1 => simp [kf]
  | k + 2 =>
    simp only [Nat.add_sub_cancel, pow_add]
    ring

/-! ## polynomials -/

theorem eval_list_sum_map (l : List Nat) (g : Nat → ℚ[X]) (x : ℚ) :
    ((l.map g).sum).eval x = sumRat (l.map fun k => (g k).eval x) := by
  induction l with
  | nil => simp
  | cons a t ih => simp [ih]

theorem derivative_list_sum_map (l : List Nat) (g : Nat → ℚ[X]) :
    derivative ((l.map g).sum) = (l.map fun k => derivative (g k)).sum := by
  induction l with
  | nil => simp
  | cons a t ih => simp [ih]

end ODE
