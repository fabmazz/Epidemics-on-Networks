import EoNVerif.Proofs.EventSIR
import EoNVerif.Proofs.EventQueue
/-!
The priority queue (`pop` returns an event of minimal time), the scheduling loop (`schedule`: what it appends to the
queue and how it lowers the predicted infection times), and one step of the event loop in closed form.
-/
namespace EventSIR

theorem minTime_spec (q : List QItem) :
    (minTime q = none ∧ q = []) ∨ ∃ m, minTime q = some m ∧ (∀ y ∈ q, m ≤ y.time) ∧ ∃ y ∈ q, y.time = m := by
  rw [EvQ.gminTime_of_rec QItem.time (mt := minTime) rfl (fun _ _ => rfl) q]
  cases h : EvQ.gminTime QItem.time q with
  | none => exact Or.inl ⟨rfl, EvQ.gminTime_none _ h⟩
  | some m => exact Or.inr ⟨m, rfl, (EvQ.gminTime_spec _ h).2, (EvQ.gminTime_spec _ h).1⟩

theorem pop_some {sel : Nat} {q : List QItem} {x : QItem} {q' : List QItem} (h : pop sel q = some (x, q')) :
    ∃ l1 l2, q = l1 ++ x :: l2 ∧ q' = l1 ++ l2 ∧ ∀ y ∈ q, x.time ≤ y.time := by
  unfold pop at h
  simp only at h
  split at h
  · cases h
  · rename_i i hi
    split at h
    · cases h
    · rename_i x' hx
      simp only [Option.some.injEq, Prod.mk.injEq] at h
      obtain ⟨h1, h2⟩ := h
      subst h1 h2
      have him : i ∈ minIdxs q := List.mem_of_getElem? hi
      unfold minIdxs at him
      rcases minTime_spec q with ⟨h0, _⟩ | ⟨m, h0, h1, _⟩
      · rw [h0] at him; simp at him
      · rw [h0] at him
        simp only [List.mem_filter, List.mem_range] at him
        obtain ⟨hlt, hm⟩ := him
        rw [hx] at hm
        simp only [Option.map_some, beq_iff_eq, Option.some.injEq] at hm
        obtain ⟨_, hxi⟩ := List.getElem?_eq_some_iff.1 hx
        refine ⟨q.take i, q.drop (i + 1), ?_, List.eraseIdx_eq_take_drop_succ .., ?_⟩
        · rw [← hxi, ← List.drop_eq_getElem_cons hlt, List.take_append_drop]
        · intro y hy; rw [hm]; exact h1 y hy

theorem mem_minIdxs_lt {q : List QItem} {i : Nat} (h : i ∈ minIdxs q) : i < q.length := by
  unfold minIdxs at h
  split at h
  · simp at h
  · simp only [List.mem_filter, List.mem_range] at h; exact h.1

theorem pop_none {sel : Nat} {q : List QItem} (h : pop sel q = none) : q = [] := by
  rcases minTime_spec q with ⟨_, h0⟩ | ⟨m, h0, _, y, hy, hym⟩
  · exact h0
  · exfalso
    obtain ⟨j, hj, hjy⟩ := List.getElem_of_mem hy
    have hjm : j ∈ minIdxs q := by
      unfold minIdxs; rw [h0]
      simp only [List.mem_filter, List.mem_range]
      refine ⟨hj, ?_⟩
      rw [List.getElem?_eq_getElem hj, hjy]; simp [hym]
    have hpos : 0 < (minIdxs q).length := List.length_pos_of_mem hjm
    have hlt : sel % (minIdxs q).length < (minIdxs q).length := Nat.mod_lt _ hpos
    unfold pop at h
    simp only at h
    rw [List.getElem?_eq_getElem hlt] at h
    simp only at h
    have hi : (minIdxs q)[sel % (minIdxs q).length] ∈ minIdxs q := List.getElem_mem hlt
    have hi2 : (minIdxs q)[sel % (minIdxs q).length] < q.length := mem_minIdxs_lt hi
    rw [List.getElem?_eq_getElem hi2] at h
    simp at h

/-! ### `pop 0` (`heapq`'s choice) takes the first entry of minimal time -/

theorem find?_range_eq_findIdx? {α : Type} (q : List α) (f : α → Rat) (m : Rat) :
    (List.range q.length).find? (fun i => (q[i]?.map f) == some m) = q.findIdx? (fun x => f x == m) := by
  ext i
  rw [List.find?_range_eq_some, List.findIdx?_eq_some_iff_getElem, List.mem_range]
  constructor
  · rintro ⟨h1, hi, h3⟩
    refine ⟨hi, by simpa [List.getElem?_eq_getElem hi] using h1, fun j hji => ?_⟩
    have := h3 j hji
    simpa [List.getElem?_eq_getElem (hji.trans hi)] using this
  · rintro ⟨hi, h1, h3⟩
    refine ⟨by simpa [List.getElem?_eq_getElem hi] using h1, hi, fun j hji => ?_⟩
    simpa [List.getElem?_eq_getElem (hji.trans hi)] using h3 j hji

theorem pop_zero_eq (q : List QItem) : pop 0 q = EvQ.gpop QItem.time q := by
  unfold pop minIdxs EvQ.gpop
  rw [EvQ.gminTime_of_rec QItem.time (mt := minTime) rfl (fun _ _ => rfl) q]
  cases EvQ.gminTime QItem.time q with
  | none => rfl
  | some m =>
    simp only [Nat.zero_mod, ← List.head?_eq_getElem?, List.head?_filter, find?_range_eq_findIdx?]
    cases List.findIdx? (fun x => x.time == m) q with
    | none => rfl
    | some i => simp only; cases q[i]? <;> rfl

theorem pop_zero_mid (pre post : List QItem) (x : QItem) (h1 : ∀ y ∈ pre, x.time < y.time)
    (h2 : ∀ y ∈ post, x.time ≤ y.time) : pop 0 (pre ++ x :: post) = some (x, pre ++ post) := by
  rw [pop_zero_eq]; exact EvQ.gpop_of_min _ rfl h1 h2

theorem qadd_eq (tmax : ERat) (q : List QItem) (t : Rat) (e : QEv) :
    qadd tmax q t e = q ++ (if ERat.lt (some t) tmax = true then [⟨t, e⟩] else []) := by
  unfold qadd; split <;> simp

theorem schedule_struct (tmax : ERat) (time : Rat) (src : Node) (recT : ERat) (l : List (Node × ERat))
    (pred : Node → ERat) (q : List QItem) :
    ∃ ex, (schedule tmax time src recT l pred q).2 = q ++ ex ∧ ex.length ≤ l.length ∧
      ∀ x ∈ ex, ∃ v d t, (v, d) ∈ l ∧ x = ⟨t, QEv.trans (some src) v⟩ ∧ ERat.add (some time) d = some t ∧
        ERat.lt (some t) tmax = true ∧ ERat.le (some t) recT = true := by
  induction l generalizing pred q with
  | nil => exact ⟨[], by simp [schedule], by simp, by simp⟩
  | cons a rest ih =>
    obtain ⟨v, d⟩ := a
    unfold schedule
    simp only
    split
    · rename_i hc
      split
      · rename_i t ht
        obtain ⟨ex, h1, h2, h3⟩ := ih (fset pred v (ERat.add (some time) d)) (qadd tmax q t (QEv.trans (some src) v))
        rw [h1, qadd_eq, List.append_assoc]
        refine ⟨_, rfl, ?_, ?_⟩
        · split <;> simp <;> omega
        · intro x hx
          rcases List.mem_append.1 hx with hx | hx
          · split at hx
            · rename_i hlt
              simp only [List.mem_singleton] at hx
              rw [ht] at hc
              exact ⟨v, d, t, List.mem_cons_self .., hx, ht, hlt, hc.1⟩
            · simp at hx
          · obtain ⟨v', d', t', g1, g2⟩ := h3 x hx
            exact ⟨v', d', t', List.mem_cons_of_mem _ g1, g2⟩
      · obtain ⟨ex, h1, h2, h3⟩ := ih (fset pred v (ERat.add (some time) d)) q
        refine ⟨ex, h1, by simp; omega, ?_⟩
        intro x hx
        obtain ⟨v', d', t', g1, g2⟩ := h3 x hx
        exact ⟨v', d', t', List.mem_cons_of_mem _ g1, g2⟩
    · obtain ⟨ex, h1, h2, h3⟩ := ih pred q
      refine ⟨ex, h1, by simp; omega, ?_⟩
      intro x hx
      obtain ⟨v', d', t', g1, g2⟩ := h3 x hx
      exact ⟨v', d', t', List.mem_cons_of_mem _ g1, g2⟩

theorem schedule_mono (tmax : ERat) (time : Rat) (src : Node) (recT : ERat) (l : List (Node × ERat))
    (pred : Node → ERat) (q : List QItem) (w : Node) :
    ERat.le ((schedule tmax time src recT l pred q).1 w) (pred w) = true := by
  induction l generalizing pred q with
  | nil => simp [schedule, ERat.le_refl]
  | cons a rest ih =>
    obtain ⟨v, d⟩ := a
    unfold schedule
    simp only
    have key : ∀ (q' : List QItem) (t : ERat), ERat.lt t (pred v) = true →
        ERat.le ((schedule tmax time src recT rest (fset pred v t) q').1 w) (pred w) = true := by
      intro q' t ht
      refine ERat.le_trans (ih _ _) ?_
      unfold fset
      split
      · rename_i hw; subst hw; exact ERat.le_of_lt ht
      · exact ERat.le_refl _
    split
    · rename_i hc
      split
      · exact key _ _ hc.2.1
      · rename_i ht; rw [ht] at hc; simp at hc
    · exact ih _ _

/-- holds whether or not the `if` fired for `(v, d)` -/
theorem schedule_le (tmax : ERat) (time : Rat) (src : Node) (recT : ERat) (l : List (Node × ERat))
    (pred : Node → ERat) (q : List QItem) (v : Node) (d : ERat) (t : Rat) (hm : (v, d) ∈ l)
    (ht : ERat.add (some time) d = some t) (h1 : ERat.le (some t) recT = true) (h2 : ERat.le (some t) tmax = true) :
    ERat.le ((schedule tmax time src recT l pred q).1 v) (some t) = true := by
  induction l generalizing pred q with
  | nil => simp at hm
  | cons a rest ih =>
    obtain ⟨v', d'⟩ := a
    rcases List.mem_cons.1 hm with heq | hm'
    · simp only [Prod.mk.injEq] at heq
      obtain ⟨rfl, rfl⟩ := heq
      unfold schedule
      simp only [ht]
      split
      · refine ERat.le_trans (schedule_mono ..) ?_
        simp [fset]
      · rename_i hc
        have : ERat.lt (some t) (pred v) = false := by
          cases hl : ERat.lt (some t) (pred v)
          · rfl
          · exact absurd ⟨h1, hl, h2⟩ hc
        exact ERat.le_trans (schedule_mono ..) (ERat.le_of_not_lt this)
    · unfold schedule
      simp only
      split
      · split
        · exact ih _ _ hm'
        · exact ih _ _ hm'
      · exact ih _ _ hm'

/-- the queue contains, for every still-susceptible node with a finite `pred` before `tmax`, an event at that time -/
def QJ (tmax : ERat) (Sset : Node → Prop) (pred : Node → ERat) (q : List QItem) : Prop :=
  ∀ v p, Sset v → pred v = some p → ERat.lt (some p) tmax = true →
    ∃ x ∈ q, x.time = p ∧ ∃ src, x.ev = QEv.trans src v

theorem schedule_QJ (tmax : ERat) (Sset : Node → Prop) (time : Rat) (src : Node) (recT : ERat)
    (l : List (Node × ERat)) (pred : Node → ERat) (q : List QItem) (h : QJ tmax Sset pred q) :
    QJ tmax Sset (schedule tmax time src recT l pred q).1 (schedule tmax time src recT l pred q).2 := by
  induction l generalizing pred q with
  | nil => exact h
  | cons a rest ih =>
    obtain ⟨v, d⟩ := a
    unfold schedule
    simp only
    split
    · rename_i hc
      split
      · rename_i t ht
        apply ih
        intro w p hw hp hlt
        unfold fset at hp
        split at hp
        · rename_i hwv
          subst hwv
          rw [ht] at hp
          injection hp with hp; subst hp
          refine ⟨⟨t, QEv.trans (some src) w⟩, ?_, rfl, some src, rfl⟩
          rw [qadd_eq, if_pos hlt]; simp
        · obtain ⟨x, hx, g⟩ := h w p hw hp hlt
          refine ⟨x, ?_, g⟩
          rw [qadd_eq]; exact List.mem_append_left _ hx
      · rename_i ht; rw [ht] at hc; simp at hc
    · exact ih _ _ h

/-- the queue after `Q.add(rec_time, …)` of `_process_trans_SIR_` -/
def addRec (tmax : ERat) (q : List QItem) (recT : ERat) (tgt : Node) : List QItem :=
  if ERat.le recT tmax then
    (match recT with
     | some t => qadd tmax q t (QEv.recov tgt)
     | none => q)
  else q

/-- predecessor times and queue after `tgt` has been infected at `time` and the rule has returned `jr` -/
def sched (tmax : ERat) (pr : Node → ERat) (q : List QItem) (time : Rat) (tgt : Node)
    (jr : List (Node × ERat) × ERat) : (Node → ERat) × List QItem :=
  schedule tmax time tgt (ERat.add (some time) jr.2) jr.1 pr (addRec tmax q (ERat.add (some time) jr.2) tgt)

/-- what the rule returns when `tgt` is infected in the status table `st` -/
def ask (P : ESParams) (st : Node → St) (tgt : Node) : List (Node × ERat) × ERat :=
  P.joint tgt ((P.nbrs tgt).filter fun v => fset st tgt St.I v = St.S)

theorem addRec_spec (tmax : ERat) (q : List QItem) (recT : ERat) (tgt : Node) :
    ∃ r, addRec tmax q recT tgt = q ++ r ∧ r.length ≤ 1 ∧
      (∀ x ∈ r, ∃ t, x = ⟨t, QEv.recov tgt⟩ ∧ recT = some t ∧ ERat.lt (some t) tmax = true) ∧
      (∀ t, recT = some t → ERat.lt (some t) tmax = true → (⟨t, QEv.recov tgt⟩ : QItem) ∈ r) := by
  unfold addRec
  cases recT with
  | none => exact ⟨[], by simp, by simp, by simp, by simp⟩
  | some t =>
    by_cases hlt : ERat.lt (some t) tmax = true
    · refine ⟨[⟨t, QEv.recov tgt⟩], ?_, by simp, ?_, ?_⟩
      · rw [if_pos (ERat.le_of_lt hlt)]; simp only; rw [qadd_eq, if_pos hlt]
      · intro x hx; simp only [List.mem_singleton] at hx; exact ⟨t, hx, rfl, hlt⟩
      · intro t' ht' _; injection ht' with ht'; subst ht'; simp
    · refine ⟨[], ?_, by simp, by simp, ?_⟩
      · split
        · simp only; rw [qadd_eq, if_neg hlt]
        · simp
      · intro t' ht' h'; injection ht' with ht'; subst ht'; exact absurd h' hlt

theorem sched_queue (tmax : ERat) (pr : Node → ERat) (q : List QItem) (time : Rat) (tgt : Node)
    (jr : List (Node × ERat) × ERat) :
    ∃ r ex, (sched tmax pr q time tgt jr).2 = q ++ r ++ ex ∧ r.length ≤ 1 ∧ ex.length ≤ jr.1.length ∧
      (∀ x ∈ r, ∃ t, x = ⟨t, QEv.recov tgt⟩ ∧ ERat.add (some time) jr.2 = some t ∧ ERat.lt (some t) tmax = true) ∧
      (∀ t, ERat.add (some time) jr.2 = some t → ERat.lt (some t) tmax = true → (⟨t, QEv.recov tgt⟩ : QItem) ∈ r) ∧
      ∀ x ∈ ex, ∃ v d t, (v, d) ∈ jr.1 ∧ x = ⟨t, QEv.trans (some tgt) v⟩ ∧ ERat.add (some time) d = some t ∧
        ERat.lt (some t) tmax = true ∧ ERat.le (some t) (ERat.add (some time) jr.2) = true := by
  obtain ⟨r, hq1, hrlen, hr1, hr2⟩ := addRec_spec tmax q (ERat.add (some time) jr.2) tgt
  obtain ⟨ex, hq2, hexlen, hex⟩ := schedule_struct tmax time tgt (ERat.add (some time) jr.2) jr.1 pr
    (addRec tmax q (ERat.add (some time) jr.2) tgt)
  exact ⟨r, ex, by unfold sched; rw [hq2, hq1], hrlen, hexlen, hr1, hr2, hex⟩

theorem processTrans_S (P : ESParams) (s : ESState) (time : Rat) (src : Option Node) (tgt : Node)
    (h : s.status tgt = St.S) :
    processTrans P s time src tgt =
      { s with status := fset s.status tgt St.I,
               recTime := fset s.recTime tgt (ERat.add (some time) (ask P s.status tgt).2),
               predInf := (sched P.tmax s.predInf s.queue time tgt (ask P s.status tgt)).1,
               queue := (sched P.tmax s.predInf s.queue time tgt (ask P s.status tgt)).2,
               times := time :: s.times, S := (hd s.S - 1) :: s.S, I := (hd s.I + 1) :: s.I, R := hd s.R :: s.R,
               trans := (time, src, tgt) :: s.trans } := by
  unfold processTrans
  rw [if_pos h]
  rfl

theorem processTrans_notS (P : ESParams) (s : ESState) (time : Rat) (src : Option Node) (tgt : Node)
    (h : s.status tgt ≠ St.S) : processTrans P s time src tgt = s := by
  simp only [processTrans, if_neg h]

theorem step_some {P : ESParams} {sel : Nat} {s s' : ESState} (h : step P sel s = some s') :
    ∃ x l1 l2, s.queue = l1 ++ x :: l2 ∧ (∀ y ∈ s.queue, x.time ≤ y.time) ∧
      ((∃ src tgt, x.ev = QEv.trans src tgt ∧ s' = processTrans P { s with queue := l1 ++ l2 } x.time src tgt) ∨
       (∃ u, x.ev = QEv.recov u ∧ s' = processRec { s with queue := l1 ++ l2 } x.time u)) := by
  unfold step at h
  split at h
  · cases h
  · rename_i x q hp
    obtain ⟨l1, l2, h1, rfl, h3⟩ := pop_some hp
    refine ⟨x, l1, l2, h1, h3, ?_⟩
    simp only at h
    split at h
    · rename_i src tgt hev
      injection h with h
      exact Or.inl ⟨src, tgt, hev, h.symm⟩
    · rename_i u hev
      injection h with h
      exact Or.inr ⟨u, hev, h.symm⟩

theorem step_none {P : ESParams} {sel : Nat} {s : ESState} (h : step P sel s = none) : s.queue = [] := by
  unfold step at h
  split at h
  · rename_i hp; exact pop_none hp
  · simp only at h
    split at h <;> cases h

end EventSIR
