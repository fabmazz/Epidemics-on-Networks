import EoNVerif.Gen.ComplexGen
import EoNVerif.Proofs.GenChoose
import EoNVerif.Proofs.ExceptDict
import EoNVerif.Proofs.Complex
/-!
Refinement (C15b): the Lean code GENERATED statement by statement from `Gillespie_complex_contagion`
(`EoNVerif/Gen/ComplexGen.lean`, namespace `GenCC`) and the hand-written model (`EoNVerif/Model/Complex.lean`)
compute related results on EVERY tape state: both fail, or both return, with the same final tape state (same
scripted draws consumed, same calls logged) and related states (`GenCC.Rel`).  The bookkeeping of the count columns
(`GenCC.Field`, `dataFold_eq`, `retFold_eq`, `colDup`, `colEdit`, `DRel`, `evData_*`) also serves Proofs/GenSimple.lean.
-/

/-! ### evaluation lemmas for the tape monad -/
namespace TM
theorem foldlM_pure_of {β α : Type} (body : β → α → TM β) (g : β → α → β) (I : β → Prop) (l : List α) (b : β)
    (hb : I b) (h : ∀ b a, I b → a ∈ l → body b a = pure (g b a) ∧ I (g b a)) :
    l.foldlM body b = pure (l.foldl g b) ∧ I (l.foldl g b) :=
  List.foldlM_pure_on body g I l (fun b a hb ha => h b a hb ha) b hb

end TM

namespace GenCC
section Cols
variable {τ : Type} [DecidableEq τ]

/-- `col[-1]` of a count column -/
def lastI (c : List Int) : Int := c.getLastD 0

theorem listLast_of_ne (c : List Int) (h : c ≠ []) : PyTM.listLast c = .ok (lastI c) :=
  PyTM.listLast_of_getLast? (by rw [lastI, List.getLastD_eq_getLast?, List.getLast?_eq_some_getLast h]; rfl)

theorem lastI_concat (c : List Int) (a : Int) : lastI (c ++ [a]) = a := by
  simp [lastI, List.getLastD_eq_getLast?]

theorem lastI_reverse (c : List Int) : lastI c.reverse = c.headD 0 := by
  cases c with
  | nil => rfl
  | cons a t => simp [lastI, List.getLastD_eq_getLast?]

/-- `data[x].append(data[x][-1])` -/
def colDup (d : List (τ × List Int)) (x : τ) : List (τ × List Int) :=
  alSet d x (alGet d [] x ++ [lastI (alGet d [] x)])

/-- `data[x][-1] = f (data[x][-1])` -/
def colEdit (d : List (τ × List Int)) (x : τ) (f : Int → Int) : List (τ × List Int) :=
  alSet d x ((alGet d [] x).dropLast ++ [f (lastI (alGet d [] x))])

theorem alKeys_foldl_colDup (ks : List τ) (d : List (τ × List Int)) (h : ∀ k ∈ ks, k ∈ alKeys d) :
    alKeys (ks.foldl colDup d) = alKeys d := by
  induction ks generalizing d with
  | nil => rfl
  | cons k ks ih =>
    have hk : alKeys (colDup d k) = alKeys d :=
      alKeys_alSet_of_has _ _ _ ((mem_alKeys_iff d k).1 (h k (by simp)))
    rw [List.foldl_cons, ih _ (fun k' hk' => by rw [hk]; exact h k' (by simp [hk'])), hk]

theorem alGet_foldl_colDup (ks : List τ) (hnd : ks.Nodup) (d : List (τ × List Int)) (x : τ) :
    alGet (ks.foldl colDup d) [] x =
      if x ∈ ks then alGet d [] x ++ [lastI (alGet d [] x)] else alGet d [] x := by
  induction ks generalizing d with
  | nil => simp
  | cons k ks ih =>
    rw [List.nodup_cons] at hnd
    rw [List.foldl_cons, ih hnd.2]
    by_cases hxk : x = k
    · subst hxk
      simp only [hnd.1, if_false, List.mem_cons, true_or, if_true]
      exact alGet_alSet_self _ _ _ _
    · have : alGet (colDup d k) [] x = alGet d [] x := alGet_alSet_ne _ _ _ _ _ hxk
      simp only [this, List.mem_cons, hxk, false_or]

theorem alGet_colEdit_if (ret : List τ) (d : List (τ × List Int)) (k : τ) (f : Int → Int) (x : τ) (hx : x ∈ ret) :
    alGet (if k ∈ ret then colEdit d k f else d) [] x =
      if k = x then (alGet d [] x).dropLast ++ [f (lastI (alGet d [] x))] else alGet d [] x := by
  by_cases hk : k = x
  · subst hk
    simp only [hx, if_true]
    exact alGet_alSet_self _ _ _ _
  · simp only [hk, if_false]
    split
    · exact alGet_alSet_ne _ _ _ _ _ (Ne.symm hk)
    · rfl

theorem alKeys_colEdit_if (ret : List τ) (d : List (τ × List Int)) (k : τ) (f : Int → Int) (hk : alKeys d = ret) :
    alKeys (if k ∈ ret then colEdit d k f else d) = ret := by
  split
  · rename_i h
    rw [colEdit, alKeys_alSet_of_has _ _ _ ((mem_alKeys_iff d k).1 (hk ▸ h)), hk]
  · exact hk

/-- the generated code's count table `d` (dict status → column, in insertion order) against the model's list of
reversed columns `cs` (one per entry of `return_statuses`) -/
structure DRel (ret : List τ) (d : List (τ × List Int)) (cs : List (List Int)) : Prop where
  keys : alKeys d = ret
  len : cs.length = ret.length
  cols : ∀ i (h : i < ret.length), alGet d [] (ret[i]) = (cs.getD i []).reverse
  ne : ∀ c ∈ cs, c ≠ []

/-- the three statements of the generated loop on the count table: duplicate every last entry, then `-1` on the old
status and `+1` on the new status (when they are reported) -/
def evData (ret : List τ) (d : List (τ × List Int)) (old new : τ) : List (τ × List Int) :=
  let d1 := ret.foldl colDup d
  let d2 := if old ∈ ret then colEdit d1 old (· - 1) else d1
  if new ∈ ret then colEdit d2 new (· + 1) else d2

/-- **column lemma**: the fold-then-edit-in-place of the generated code builds the columns the model builds with one
`map` -/
theorem evData_rel (ret : List τ) (hnd : ret.Nodup) (d : List (τ × List Int)) (cs : List (List Int))
    (h : DRel ret d cs) (old new : τ) :
    DRel ret (evData ret d old new) ((List.zip ret cs).map fun (x, col) =>
      let v := col.headD 0
      let v := if old = x then v - 1 else v
      let v := if new = x then v + 1 else v
      v :: col) := by
  have hk1 : alKeys (ret.foldl colDup d) = ret := by
    rw [alKeys_foldl_colDup ret d (fun k hk => by rw [h.keys]; exact hk), h.keys]
  refine ⟨?_, by simp [h.len], ?_, ?_⟩
  · exact alKeys_colEdit_if ret _ new _ (alKeys_colEdit_if ret _ old _ hk1)
  · intro i hi
    have hi' : i < cs.length := h.len ▸ hi
    have hx : ret[i] ∈ ret := List.getElem_mem hi
    have hc := h.cols i hi
    rw [← List.getElem_eq_getD (h := hi')] at hc
    unfold evData
    dsimp only
    rw [alGet_colEdit_if ret _ new _ _ hx, alGet_colEdit_if ret _ old _ _ hx, alGet_foldl_colDup ret hnd, if_pos hx, hc]
    -- editing the last entry of `l ++ [a]` in place gives `l ++ [f a]`
    have hedit : ∀ (c : Prop) [Decidable c] (l : List Int) (a : Int) (f : Int → Int),
        (if c then (l ++ [a]).dropLast ++ [f (lastI (l ++ [a]))] else l ++ [a]) = l ++ [if c then f a else a] := by
      intro c _ l a f
      split <;> simp [lastI_concat]
    rw [StatusCounts.event_column ret cs old new i hi hi', lastI_reverse, hedit _ _ _ (· - 1), hedit _ _ _ (· + 1),
      List.reverse_cons]
  · intro c hc
    simp only [List.mem_map] at hc
    obtain ⟨⟨x, col⟩, -, rfl⟩ := hc
    simp

theorem DRel.get_ne {ret : List τ} {d : List (τ × List Int)} {cs : List (List Int)} (h : DRel ret d cs)
    (x : τ) (hx : x ∈ ret) : alGet d [] x ≠ [] := by
  obtain ⟨i, hi, rfl⟩ := List.getElem_of_mem hx
  have hi' : i < cs.length := h.len ▸ hi
  rw [h.cols i hi, ← List.getElem_eq_getD (h := hi')]
  have := h.ne cs[i] (List.getElem_mem hi')
  simpa using this

theorem evData_side1 {ret : List τ} {d : List (τ × List Int)} {cs : List (List Int)} (h : DRel ret d cs)
    (hnd : ret.Nodup) (x : τ) (hx : x ∈ ret) :
    x ∈ alKeys (ret.foldl colDup d) ∧ alGet (ret.foldl colDup d) [] x ≠ [] := by
  constructor
  · rw [alKeys_foldl_colDup ret d (fun k hk => by rw [h.keys]; exact hk), h.keys]; exact hx
  · rw [alGet_foldl_colDup ret hnd, if_pos hx]; simp

theorem evData_side2 {ret : List τ} {d : List (τ × List Int)} {cs : List (List Int)} (h : DRel ret d cs)
    (hnd : ret.Nodup) (old : τ) (f : Int → Int) (x : τ) (hx : x ∈ ret) :
    x ∈ alKeys (if old ∈ ret then colEdit (ret.foldl colDup d) old f else ret.foldl colDup d) ∧
      alGet (if old ∈ ret then colEdit (ret.foldl colDup d) old f else ret.foldl colDup d) [] x ≠ [] := by
  have hk1 : alKeys (ret.foldl colDup d) = ret := by
    rw [alKeys_foldl_colDup ret d (fun k hk => by rw [h.keys]; exact hk), h.keys]
  constructor
  · rw [alKeys_colEdit_if ret _ old f hk1]; exact hx
  · rw [alGet_colEdit_if ret _ old f x hx]
    split
    · simp
    · exact (evData_side1 h hnd x hx).2

end Cols

variable {τ : Type} [DecidableEq τ]

def toP (A : PyTM.CArgs τ) : CCParams τ :=
  { nodes := A.nodes, rate := A.rate, choose := A.choose, infl := A.infl, ret := A.ret }

/-- The lemmas of this file are proved for `toP A` (`Agree.toP_eq`); the `gen_run_*` theorems of `Props/C15b` are restated for
an arbitrary agreeing `P`. -/
structure Agree (A : PyTM.CArgs τ) (P : CCParams τ) (ic : Node → τ) (tmin : Rat) (tmax : ERat) (cfuel : Nat) :
    Prop where
  nodes : A.nodes = P.nodes
  ic : A.ic = ic
  rate : A.rate = P.rate
  choose : A.choose = P.choose
  infl : A.infl = P.infl
  ret : A.ret = P.ret
  tmin : A.tmin = tmin
  tmax : A.tmax = tmax
  cfuel : A.cfuel = cfuel

omit [DecidableEq τ] in
theorem Agree.toP_eq {A : PyTM.CArgs τ} {P : CCParams τ} {ic : Node → τ} {tmin : Rat} {tmax : ERat} {cfuel : Nat}
    (h : Agree A P ic tmin tmax cfuel) : P = toP A := by
  obtain ⟨n, r, c, i, rt⟩ := P
  obtain ⟨h1, -, h3, h4, h5, h6, -, -, -⟩ := h
  simp only at h1 h3 h4 h5 h6
  subst h1 h3 h4 h5 h6
  rfl

/-- **simulation relation** between the locals of the generated function and the state of the model: same status map,
related `_ListDict_`s, the model's reversed time list is the generated list, and the model's reversed count columns
are the values of the generated dict `data`, whose keys are `return_statuses` in order -/
structure Rel (A : PyTM.CArgs τ) (σ : Loc τ) (s : CCState τ) : Prop where
  status : σ.status = s.status
  ld : GenLD.R σ.nodes_by_rate s.ld
  times : σ.times = s.times.reverse.map some
  data : DRel A.ret σ.data s.data

/-- results of the two programs on one tape state: both raise (neither raises `KeyError`), or both return with the same
tape state and related states -/
def ResRel (A : PyTM.CArgs τ) : Except String (Loc τ × TapeSt) → Except String (CCState τ × TapeSt) → Prop
  | .ok (σ, t1), .ok (s, t2) => t1 = t2 ∧ Rel A σ s
  | .error e1, .error e2 => e1 ≠ "KeyError" ∧ e2 ≠ "KeyError"
  | _, _ => False

theorem resRel_eq (A : PyTM.CArgs τ) : ResRel A = TM.RR TM.NoKE2 (Rel A) := by
  funext x y
  rcases x with _ | ⟨_, _⟩ <;> rcases y with _ | ⟨_, _⟩ <;> rfl

/-! ### batches of inserts -/
section Batches
omit [DecidableEq τ]

theorem insert_step (p : GenLD.PyLD Node) (ld : LD Node) (hR : GenLD.R p ld) (hI : LD.Inv ld)
    (hw : ld.weighted = true) (u : Node) (w : Rat) (h0 : 0 ≤ w) :
    ∃ p1 ld1, GenLD.insert p u (some w) = .ok p1 ∧ ld.insert u (some w) = some ld1 ∧ GenLD.R p1 ld1 ∧
      LD.Inv ld1 ∧ ld1.weighted = true ∧ ∀ y ∈ ld1.items, y ∈ ld.items ∨ y = u := by
  obtain ⟨ld1, hs1, hinv1, hwt1, hmem1, -⟩ := LD.insert_spec ld hI hw u w h0
  obtain ⟨p1, hp1, hR1⟩ := GenLD.insert_sim p ld ld1 u _ hR hI hs1
  refine ⟨p1, ld1, hp1, hs1, hR1, hinv1, hwt1, fun y hy => ?_⟩
  by_cases hyu : y = u
  · exact Or.inr hyu
  · exact Or.inl (by simpa [hyu] using (hmem1 y).1 hy)

/-- the generated `for u in l: nodes_by_rate.insert(u, weight = rate(u))` on the candidate structure alone -/
def insAll (rate : (Node → τ) → Node → Rat) (st : Node → τ) :
    List Node → GenLD.PyLD Node → Except String (GenLD.PyLD Node)
  | [], p => .ok p
  | u :: l, p => GenLD.insert p u (some (rate st u)) >>= insAll rate st l

theorem insAll_sim (A : PyTM.CArgs τ) (st : Node → τ) (hnn : ∀ u, 0 ≤ A.rate st u) (l : List Node)
    (p : GenLD.PyLD Node) (ld : LD Node) (hR : GenLD.R p ld) (hI : LD.Inv ld) (hw : ld.weighted = true) :
    ∃ p' ld', insAll A.rate st l p = .ok p' ∧ Complex.insertAll (toP A) st l ld = some ld' ∧ GenLD.R p' ld' ∧
      LD.Inv ld' ∧ ld'.weighted = true ∧ ∀ y ∈ ld'.items, y ∈ ld.items ∨ y ∈ l := by
  induction l generalizing p ld with
  | nil => exact ⟨p, ld, rfl, rfl, hR, hI, hw, fun y hy => Or.inl hy⟩
  | cons u l ih =>
    obtain ⟨p1, ld1, hp1, hs1, hR1, hinv1, hwt1, hsub1⟩ := insert_step p ld hR hI hw u (A.rate st u) (hnn u)
    obtain ⟨p', ld', h1, h2, h3, h4, h5, h6⟩ := ih p1 ld1 hR1 hinv1 hwt1
    refine ⟨p', ld', by rw [insAll, hp1]; exact h1, ?_, h3, h4, h5, fun y hy => ?_⟩
    · rw [Complex.insertAll, show ld.insert u (some ((toP A).rate st u)) = some ld1 from hs1]
      exact h2
    · rcases h6 y hy with h7 | h7
      · exact (hsub1 y h7).imp_right fun e => by simp [e]
      · exact Or.inr (List.mem_cons_of_mem _ h7)

/-- the two generated loops `for u in …: [if c(u):] nodes_by_rate.insert(u, weight = rate(u))` (the initial one
guarded by `rate > 0`, the one over the influence set unguarded) touch only `nodes_by_rate` -/
theorem insFold_eq (A : PyTM.CArgs τ) (c : (Node → τ) → Node → Bool) (body : Loc τ → Node → TM (Loc τ))
    (hbody : ∀ σ u, body σ u =
      if c σ.status u = true then
        PyTM.liftE (GenLD.insert σ.nodes_by_rate u (some (A.rate σ.status u))) >>= fun l =>
          pure { σ with nodes_by_rate := l }
      else pure σ)
    (l : List Node) (σ : Loc τ) :
    l.foldlM body σ =
      PyTM.liftE (insAll A.rate σ.status (l.filter (c σ.status)) σ.nodes_by_rate) >>= fun p =>
        pure { σ with nodes_by_rate := p } := by
  induction l generalizing σ with
  | nil => rfl
  | cons u l ih =>
    rw [List.foldlM_cons, hbody]
    by_cases hu : c σ.status u = true
    · rw [if_pos hu, List.filter_cons_of_pos hu, insAll]
      cases GenLD.insert σ.nodes_by_rate u (some (A.rate σ.status u)) with
      | error e => rfl
      | ok p1 => exact ih { σ with nodes_by_rate := p1 }
    · rw [if_neg hu, pure_bind, List.filter_cons_of_neg hu]
      exact ih σ

end Batches

/-! ### the statements of one loop iteration -/

/-- The two loops over the table `data` (`dataFold_eq`, `retFold_eq`) are stated over a field of the locals, for
`Gillespie_complex_contagion` and `Gillespie_simple_contagion` alike (two records, the same statements). -/
structure Field (Λ X : Type) where
  get : Λ → X
  set : Λ → X → Λ
  get_set : ∀ σ x, get (set σ x) = x
  set_set : ∀ σ x y, set (set σ x) y = set σ y
  set_get : ∀ σ, set σ (get σ) = σ

abbrev dataF : Field (Loc τ) (List (τ × List Int)) :=
  ⟨(·.data), fun σ d => { σ with data := d }, fun _ _ => rfl, fun _ _ _ => rfl, fun _ => rfl⟩

/-- `for x in data: data[x].append(data[x][-1])` -/
theorem dataFold_eq {Λ : Type} (F : Field Λ (List (τ × List Int))) (body : Λ → τ → TM Λ)
    (hbody : ∀ σ x, body σ x =
      PyTM.liftE (PyRT.dictGet (F.get σ) x) >>= fun col_11 => PyTM.liftE (PyTM.listLast col_11) >>= fun v_12 =>
        PyTM.liftE (PyRT.dictGet (F.get σ) x) >>= fun col_13 =>
          pure (F.set σ (alSet (F.get σ) x (col_13 ++ [v_12]))))
    (ks : List τ) (σ : Λ) (hks : ∀ k ∈ ks, k ∈ alKeys (F.get σ))
    (hne : ∀ k ∈ alKeys (F.get σ), alGet (F.get σ) [] k ≠ []) :
    ks.foldlM body σ = pure (F.set σ (ks.foldl colDup (F.get σ))) := by
  induction ks generalizing σ with
  | nil => rw [List.foldl_nil, F.set_get]; rfl
  | cons k ks ih =>
    have hk : alHas (F.get σ) k = true := (mem_alKeys_iff _ _).1 (hks k (by simp))
    have hkeys : alKeys (colDup (F.get σ) k) = alKeys (F.get σ) := alKeys_alSet_of_has _ _ _ hk
    rw [List.foldlM_cons, hbody, dictGet_of_has (F.get σ) k [] hk]
    simp only [TM.liftE_ok, pure_bind, listLast_of_ne _ (hne k (hks k (by simp)))]
    refine (ih (F.set σ (colDup (F.get σ) k)) ?_ ?_).trans (by rw [F.get_set, F.set_set, List.foldl_cons])
    · rw [F.get_set, hkeys]; exact fun k' hk' => hks k' (by simp [hk'])
    · rw [F.get_set, hkeys]
      intro k' hk'
      by_cases hkk : k' = k
      · subst hkk; rw [colDup, alGet_alSet_self]; simp
      · rw [colDup, alGet_alSet_ne _ _ _ _ _ hkk]; exact hne k' hk'

/-- `if x in return_statuses: data[x][-1] = f(data[x][-1])` -/
theorem edit_if_eval (c : Prop) [Decidable c] (a : Node → τ) (b : List ERat) (t e : ERat) (n : GenLD.PyLD Node)
    (h : List (Node × (List ERat × List τ))) (d : List (τ × List Int)) (x : τ) (f : Int → Int)
    (hx : c → x ∈ alKeys d ∧ alGet d [] x ≠ []) :
    (if c then
        PyTM.liftE (PyRT.dictGet d x) >>= fun col => PyTM.liftE (PyTM.listLast col) >>= fun v =>
          (pure (Loc.mk a b t e (alSet d x (col.dropLast ++ [f v])) n h) : TM (Loc τ))
      else pure (Loc.mk a b t e d n h)) =
    pure (Loc.mk a b t e (if c then colEdit d x f else d) n h) := by
  by_cases hc : c
  · obtain ⟨h1, h2⟩ := hx hc
    simp only [hc, if_true, dictGet_of_has d x [] ((mem_alKeys_iff _ _).1 h1), listLast_of_ne _ h2,
      TM.liftE_ok, pure_bind, colEdit]
  · simp only [hc, if_false]

omit [DecidableEq τ] in
/-- the two full-data statements `node_history[node][0].append(t)` / `node_history[node][1].append(new_status)` -/
theorem full_if_eval (c : Prop) [Decidable c] (a : Node → τ) (b : List ERat) (t e : ERat) (n : GenLD.PyLD Node)
    (d : List (τ × List Int)) (nh : List (Node × (List ERat × List τ))) (node : Node)
    (F G : (List ERat × List τ) → (List ERat × List τ)) (hx : c → alHas nh node = true) :
    (if c then
        PyTM.liftE (PyRT.dictGet nh node) >>= fun h18 =>
          PyTM.liftE (PyRT.dictGet (alSet nh node (F h18)) node) >>= fun h19 =>
            (pure (Loc.mk a b t e d n (alSet (alSet nh node (F h18)) node (G h19))) : TM (Loc τ))
      else pure (Loc.mk a b t e d n nh)) =
    pure (Loc.mk a b t e d n
      (if c then alSet (alSet nh node (F (alGet nh ([], []) node))) node (G (F (alGet nh ([], []) node))) else nh)) := by
  by_cases hc : c
  · simp only [hc, if_true, dictGet_of_has nh node ([], []) (hx hc), dictGet_alSet_self, TM.liftE_ok, pure_bind]
  · simp only [hc, if_false]

/-! ### the loop -/

/-- hypotheses on the user callbacks (part of `Complex.WF`) and on `return_statuses`.  `infl_mem` is needed only so that every
listed candidate is a node of `G`, hence a key of `node_history` (full data): with an influence set outside `G` the Python
code raises `KeyError` there. -/
structure Hyp (A : PyTM.CArgs τ) : Prop where
  rate_nonneg : ∀ st u, 0 ≤ A.rate st u
  infl_mem : ∀ st u, ∀ x ∈ A.infl st u, x ∈ A.nodes
  ret_nodup : A.ret.Nodup

/-- `items_mem` and `hist` serve full data only (`node_history[node]` must not raise) -/
structure LInv (A : PyTM.CArgs τ) (σ : Loc τ) (s : CCState τ) : Prop where
  rel : Rel A σ s
  ldInv : LD.Inv s.ld
  weighted : s.ld.weighted = true
  items_mem : ∀ x ∈ s.ld.items, x ∈ A.nodes
  hist : A.full = true → ∀ u ∈ A.nodes, alHas σ.node_history u = true

/-- the `while` test as the generated code and as the model write it -/
theorem guard_iff (p : Prop) [Decidable p] (b : Bool) :
    ((!decide p) = true ∨ (!b) = true) ↔ ¬ (decide p && b) = true := by
  cases b <;> by_cases hp : p <;> simp [hp]

/-- After the selection the generated statements of one iteration only compute, and arrive at the model's `applyEvent`
(`hAE`). -/
theorem loop_bisim (A : PyTM.CArgs τ) (hA : Hyp A) (fuel : Nat) (σ : Loc τ) (s : CCState τ) (hL : LInv A σ s) :
    TM.Bisim (loop A fuel σ) (Complex.loop (toP A) A.tmax A.cfuel fuel s σ.t) (Rel A) := by
  induction fuel generalizing σ s with
  | zero => exact .of_fails (.fail _ (by decide)) (.fail _ (by decide))
  | succ fuel ih =>
    obtain ⟨st, tms, t, dl, data, nbr, nh⟩ := σ
    obtain ⟨⟨hst, hld, htm, hdt⟩, hI, hw, him, hh⟩ := hL
    simp only at hst hld htm hdt hh
    subst hst
    rw [GenCC.loop, Complex.loop.eq_def]
    rw [GenLD.total_weight_sim nbr s.ld hld, TM.liftE_ok, pure_bind]
    cases t with
    | none =>
      simp only [ERat.lt, Bool.and_false, Bool.false_eq_true, if_false]
      exact .pure ⟨rfl, hld, htm, hdt⟩
    | some tv =>
      simp only []
      by_cases hc : (decide (s.ld.totalWeight > 0) && ERat.lt (some tv) A.tmax) = true
      · rw [if_pos hc, if_neg (mt (guard_iff _ _).1 (not_not.2 hc))]
        refine (GenLD.choose_bisim PyTM.encNode nbr s.ld hld hI A.cfuel).bind ?_
        rintro _ node ⟨rfl, hni⟩
        have hnode : node ∈ A.nodes := him node hni
        have hkeys : List.map (fun x : τ × List Int => x.1) data = A.ret := hdt.keys
        dsimp only
        rw [hkeys, dataFold_eq dataF _ ?_ _ _ ?_ ?_]
        rotate_left
        · intro σ x; rfl
        · intro k hk; rw [hdt.keys]; exact hk
        · intro k hk
          rw [hdt.keys] at hk; exact hdt.get_ne k hk
        simp only [pure_bind, decide_eq_true_eq]
        rw [edit_if_eval _ _ _ _ _ _ _ _ _ _ (evData_side1 hdt hA.ret_nodup _)]
        simp only [pure_bind]
        rw [edit_if_eval _ _ _ _ _ _ _ _ _ _ (evData_side2 hdt hA.ret_nodup _ _ _)]
        simp only [pure_bind]
        rw [full_if_eval _ _ _ _ _ _ _ _ _ _ _ (fun hf => hh hf node hnode)]
        simp only [pure_bind]
        obtain ⟨p1, ld1, hp1, hs1, hR1, hinv1, hwt1, hsub1⟩ := insert_step nbr s.ld hld hI hw node
          (A.rate (fset s.status node (A.choose s.status node)) node) (hA.rate_nonneg _ _)
        obtain ⟨p2, ld2, hp2, hm2, hR2, hinv2, hwt2, hsub2⟩ := insAll_sim A
          (fset s.status node (A.choose s.status node)) (hA.rate_nonneg _)
          (A.infl (fset s.status node (A.choose s.status node)) node) p1 ld1 hR1 hinv1 hwt1
        rw [hp1, TM.liftE_ok, pure_bind, insFold_eq A (fun _ _ => true) _ ?_]
        swap
        · intro σ u; rfl
        simp only [List.filter_true, hp2, TM.liftE_ok, pure_bind]
        have hAE : Complex.applyEvent (toP A) s node tv = some
            { status := fset s.status node (A.choose s.status node), ld := ld2, times := tv :: s.times,
              data := (List.zip A.ret s.data).map fun (x, col) =>
                let v := col.headD 0
                let v := if s.status node = x then v - 1 else v
                let v := if A.choose s.status node = x then v + 1 else v
                v :: col,
              log := (tv, node, A.choose s.status node) :: s.log } := by
          rw [Complex.applyEvent_eq, Complex.insertAll,
            show s.ld.insert node (some ((toP A).rate (fset s.status node ((toP A).choose s.status node)) node)) =
              some ld1 from hs1]
          exact congrArg (Option.map _) hm2
        rw [hAE]
        simp only [GenLD.total_weight_sim _ ld2 hR2, TM.liftE_ok, pure_bind]
        have hit : ∀ y ∈ ld2.items, y ∈ A.nodes := by
          intro y hy
          rcases hsub2 y hy with h3 | h3
          · exact (hsub1 y h3).elim (him y) (· ▸ hnode)
          · exact hA.infl_mem _ _ y h3
        have hh' : ∀ F G, A.full = true → ∀ u ∈ A.nodes,
            alHas (if A.full = true then alSet (alSet nh node F) node G else nh) u = true := by
          intro F G hf u hu
          rw [if_pos hf, alHas_alSet, alHas_alSet]
          exact Or.inl (Or.inl (hh hf u hu))
        have hts : tms ++ [some tv] = List.map some (tv :: s.times).reverse := by simp [htm]
        have hdt' := evData_rel A.ret hA.ret_nodup data s.data hdt (s.status node) (A.choose s.status node)
        by_cases hpos : ld2.totalWeight > 0
        · simp only [hpos, if_true, bind_assoc, pure_bind]
          exact (TM.Bisim.same (.popExpo _)).bind fun d _ hd =>
            hd ▸ ih _ _ ⟨⟨rfl, hR2, hts, hdt'⟩, hinv2, hwt2, hit, hh' _ _⟩
        · simp only [hpos, if_false, pure_bind]
          exact ih _ _ ⟨⟨rfl, hR2, hts, hdt'⟩, hinv2, hwt2, hit, hh' _ _⟩
      · rw [if_neg hc, if_pos ((guard_iff _ _).2 hc)]
        exact .pure ⟨rfl, hld, htm, hdt⟩

/-! ### set-up and `run` -/

theorem retFold_eq {Λ : Type} (F : Field Λ (List (τ × List Int))) (body : Λ → τ → TM Λ) (cnt : τ → Int)
    (hbody : ∀ σ x, body σ x = pure (F.set σ (alSet (F.get σ) x [cnt x]))) (l : List τ) (σ : Λ) :
    l.foldlM body σ = pure (F.set σ (l.foldl (fun d x => alSet d x [cnt x]) (F.get σ))) := by
  induction l generalizing σ with
  | nil => rw [List.foldl_nil, F.set_get]; rfl
  | cons x l ih => rw [List.foldlM_cons, hbody, pure_bind, ih, F.get_set, F.set_set, List.foldl_cons]

theorem foldl_alSet_fresh (cnt : τ → Int) (l : List τ) (hnd : l.Nodup) (d : List (τ × List Int))
    (hd : ∀ x ∈ l, alHas d x = false) :
    l.foldl (fun d x => alSet d x [cnt x]) d = d ++ l.map fun x => (x, [cnt x]) := by
  induction l generalizing d with
  | nil => simp
  | cons x l ih =>
    rw [List.nodup_cons] at hnd
    rw [List.foldl_cons, alSet_of_not_has d x _ (hd x (by simp)), ih hnd.2]
    · simp
    · intro y hy
      apply alHas_eq_false_of_not
      rw [← alSet_of_not_has d x [cnt x] (hd x (by simp)), alHas_alSet]
      rintro (h | h)
      · rw [hd y (by simp [hy])] at h; exact absurd h (by simp)
      · subst h; exact hnd.1 hy

theorem init_data_rel (nodes : List Node) (ic : Node → τ) (ret : List τ) (hnd : ret.Nodup) :
    DRel ret (List.foldl (fun d x => alSet d x [PyTM.countSt nodes ic x]) [] ret)
      (ret.map fun x => [PyTM.countSt nodes ic x]) := by
  rw [foldl_alSet_fresh _ ret hnd [] (fun x _ => rfl), List.nil_append]
  refine ⟨?_, by simp, ?_, ?_⟩
  · simp [alKeys, Function.comp_def]
  · intro i hi
    rw [alGet_map_mk ret (fun x => [PyTM.countSt nodes ic x]), if_pos (List.getElem_mem hi)]
    simp [List.getD_eq_getElem?_getD, hi]
  · intro c hc
    simp only [List.mem_map] at hc
    obtain ⟨x, -, rfl⟩ := hc
    simp

omit [DecidableEq τ] in
theorem hist_ite_pure (c : Prop) [Decidable c] (a : Node → τ) (b : List ERat) (t e : ERat) (n : GenLD.PyLD Node)
    (d : List (τ × List Int)) (h1 h2 : List (Node × (List ERat × List τ))) :
    (if c then (pure (Loc.mk a b t e d n h1) : TM (Loc τ)) else pure (Loc.mk a b t e d n h2)) =
      pure (Loc.mk a b t e d n (if c then h1 else h2)) := by
  split <;> rfl

theorem run_bisim (A : PyTM.CArgs τ) (hA : Hyp A) (fuel : Nat) :
    TM.Bisim (run A fuel) (Complex.run (toP A) A.ic A.tmin A.tmax fuel A.cfuel) (Rel A) := by
  unfold run Complex.run
  simp only [Loc.init, hist_ite_pure, pure_bind]
  rw [retFold_eq dataF _ (fun x => PyTM.countSt A.nodes A.ic x) (fun σ x => rfl)]
  simp only [pure_bind]
  rw [insFold_eq A (fun st u => decide (A.rate st u > 0)) _ ?_]
  swap
  · intro σ u; rfl
  obtain ⟨p0, ld0, hp0, hm0, hR0, hinv0, hwt0, hsub0⟩ := insAll_sim A A.ic (hA.rate_nonneg _)
    (A.nodes.filter fun u => decide (A.rate A.ic u > 0)) (GenLD.init true) (LD.empty true) (GenLD.init_R true)
    (LD.inv_empty true) rfl
  simp only [decide_eq_true_eq, hp0, TM.liftE_ok, pure_bind]
  have hinit : Complex.init (toP A) A.ic A.tmin = some
      { status := A.ic, ld := ld0, times := [A.tmin],
        data := A.ret.map fun x => [Complex.countSt (toP A) A.ic x], log := [] } := by
    rw [Complex.init, Complex.initLD_eq,
      show Complex.insertAll (toP A) A.ic ((toP A).nodes.filter fun u => decide ((toP A).rate A.ic u > 0))
        (LD.empty true) = some ld0 from hm0]
    rfl
  rw [hinit]
  simp only [GenLD.total_weight_sim _ ld0 hR0, TM.liftE_ok, pure_bind]
  have hit : ∀ y ∈ ld0.items, y ∈ A.nodes := by
    intro y hy
    rcases hsub0 y hy with h3 | h3
    · simp [LD.empty] at h3
    · exact (List.mem_filter.1 h3).1
  have hh0 : A.full = true → ∀ u ∈ A.nodes, alHas
      (if A.full = true then A.nodes.map (fun node => (node, [some A.tmin], [A.ic node])) else []) u = true := by
    intro hf u hu
    rw [if_pos hf]
    exact alHas_map_mk _ _ _ hu
  have hd0 : DRel A.ret _ (A.ret.map fun x => [Complex.countSt (toP A) A.ic x]) :=
    init_data_rel A.nodes A.ic A.ret hA.ret_nodup
  by_cases hpos : ld0.totalWeight > 0
  · simp only [hpos, if_true, bind_assoc, pure_bind]
    exact (TM.Bisim.same (.popExpo _)).bind fun d _ hd =>
      hd ▸ loop_bisim A hA fuel _ _ ⟨⟨rfl, hR0, rfl, hd0⟩, hinv0, hwt0, hit, hh0⟩
  · simp only [hpos, if_false, pure_bind]
    exact loop_bisim A hA fuel _ _ ⟨⟨rfl, hR0, rfl, hd0⟩, hinv0, hwt0, hit, hh0⟩

omit [DecidableEq τ] in
theorem Hyp.of_wf {A : PyTM.CArgs τ} (h : Complex.WF (toP A)) (hnd : A.ret.Nodup) : Hyp A :=
  ⟨h.rate_nonneg, h.infl_mem, hnd⟩

theorem LInv.of_inv {A : PyTM.CArgs τ} {σ : Loc τ} {s : CCState τ} (hR : Rel A σ s) (hI : Complex.Inv (toP A) s)
    (hh : A.full = true → ∀ u ∈ A.nodes, alHas σ.node_history u = true) : LInv A σ s :=
  ⟨hR, hI.ldInv, hI.weighted, hI.items_mem, hh⟩

/-- the C15 invariant restated on the locals of the generated function: the generated state is related to a model
state satisfying `Complex.Inv` -/
def GInv (A : PyTM.CArgs τ) (σ : Loc τ) : Prop := ∃ s, Rel A σ s ∧ Complex.Inv (toP A) s

/-- what `GInv` says in terms of the generated state only -/
theorem GInv.facts {A : PyTM.CArgs τ} (hwf : Complex.WF (toP A)) {σ : Loc τ} (hG : GInv A σ) :
    (∀ x ∈ A.nodes, 0 < A.rate σ.status x →
      x ∈ σ.nodes_by_rate.items ∧ alGet σ.nodes_by_rate.weight 0 x = A.rate σ.status x) ∧
    (∀ x ∈ A.nodes, A.rate σ.status x = 0 → x ∉ σ.nodes_by_rate.items) ∧
    (∀ x ∈ σ.nodes_by_rate.items, x ∈ A.nodes ∧ 0 < A.rate σ.status x) ∧
    σ.nodes_by_rate.items.Nodup ∧
    GenLD.total_weight σ.nodes_by_rate =
      .ok (σ.nodes_by_rate, sumRat (A.nodes.map (A.rate σ.status))) ∧
    (∀ x ∈ A.ret, lastI (alGet σ.data [] x) = PyTM.countSt A.nodes σ.status x) := by
  obtain ⟨s, hR, hI⟩ := hG
  have hst := hR.status
  have hit := hR.ld.items
  have hwt := hR.ld.weight
  refine ⟨?_, ?_, ?_, ?_, ?_, ?_⟩
  · intro x hx hp
    rw [hst] at hp ⊢
    obtain ⟨h1, h2⟩ := hI.pos x hx hp
    exact ⟨by rw [hit]; exact h1, by rw [hwt]; exact h2⟩
  · intro x hx h0
    rw [hst] at h0
    rw [hit]; exact hI.zero x hx h0
  · intro x hx
    rw [hit] at hx; rw [hst]
    exact (Complex.mem_items_iff (toP A) hwf s hI x).1 hx
  · rw [hit]; exact hI.ldInv.nodup
  · rw [GenLD.total_weight_sim _ _ hR.ld, Complex.clock_eq' (toP A) hwf s hI, hst]; rfl
  · intro x hx
    obtain ⟨i, hi, rfl⟩ := List.getElem_of_mem hx
    have hc := hI.counts.2 i hi
    rw [← List.getElem_eq_getD (l := (toP A).ret) (h := hi)] at hc
    rw [hR.data.cols i hi, lastI_reverse, hc, hst]
    rfl

end GenCC
