import EoNVerif.Proofs.GenWrap4
/-!
Tools for C06k (`Props/C06k.lean`):

1. the KEY structure of the dict of dicts returned by the generated `get_Pnk` (`get_Pnk_eq` of `Proofs/GenHelp.lean` only
   gives the values): outer keys = the degrees present, keys of row `k1` = the neighbour degrees seen from nodes of
   degree `k1`;
2. the `(s, i)` tables of `SIS_effective_degree_from_graph` / `SIR_effective_degree_from_graph`: tables as functions
   (`mat`), the class counts `siCnt`, the node loops (`sisLoop`, `sirLoop`) and the double loop that fills a table
   (`tableLoop`).
-/
namespace GenWrapProofs5
open InitCond GenInitProofs GenWrap GenWrapProofs GenWrapProofs2 GenWrapProofs4
open GenHelpProofs (ok_bind pure_eq_ok)

/-! ## 1. keys of `get_Pnk` -/

def oKey (P : List (Nat × List (Nat × Rat))) (a : Nat) : Prop := a ∈ P.map (·.1)
/-- `b` is a key of `P[a]` (no row: no key) -/
def rKey (P : List (Nat × List (Nat × Rat))) (a b : Nat) : Prop := b ∈ (alGet P [] a).map (·.1)

theorem mem_keys_alSet {ν : Type} (l : List (Nat × ν)) (x : Nat) (v : ν) (a : Nat) :
    a ∈ (alSet l x v).map (·.1) ↔ a ∈ l.map (·.1) ∨ x = a := by
  rw [keys_alSet]
  split
  · rename_i h
    exact ⟨Or.inl, fun h' => h'.elim id fun e => e ▸ h⟩
  · rw [List.mem_append, List.mem_singleton, eq_comm]

theorem rKey_step (P : List (Nat × List (Nat × Rat))) (k1 k2 : Nat) (v : Rat) (a b : Nat) :
    rKey (alSet P k1 (alSet (alGet P [] k1) k2 v)) a b ↔ rKey P a b ∨ (k1 = a ∧ k2 = b) := by
  unfold rKey
  by_cases ha : a = k1
  · subst ha
    rw [alGet_alSet_self, mem_keys_alSet]
    simp
  · rw [alGet_alSet_ne _ _ _ _ _ ha]
    simp [Ne.symm ha]

/-- the body of the inner loop of `get_Pnk` -/
def pnkBody (Nk : List (Nat × Nat)) (k1 : Nat) :
    List (Nat × List (Nat × Rat)) → Nat → Except String (List (Nat × List (Nat × Rat))) :=
  fun Pnk k2 => do
    let q ← PyTM.fdiv (1 : Rat) (((k1 : Nat) : Rat) * ((alGet Nk 0 k1 : Nat) : Rat))
    let row := alGet Pnk [] k1
    (pure (alSet Pnk k1 (alSet row k2 (alGet row 0 k2 + q))) : Except String _)

theorem inner_keys (Nk : List (Nat × Nat)) (k1 : Nat) (l : List Nat) :
    ∀ (P P' : List (Nat × List (Nat × Rat))), l.foldlM (pnkBody Nk k1) P = .ok P' →
    (∀ a, oKey P' a ↔ oKey P a ∨ (k1 = a ∧ l ≠ [])) ∧
    (∀ a b, rKey P' a b ↔ rKey P a b ∨ (k1 = a ∧ b ∈ l)) := by
  induction l with
  | nil =>
    intro P P' h
    injection h with h; subst h
    exact ⟨fun a => by simp, fun a b => by simp⟩
  | cons k2 t ih =>
    intro P P' h
    rw [List.foldlM_cons] at h
    obtain ⟨P1, hb, h⟩ := bind_ok_inv _ _ _ h
    unfold pnkBody at hb
    obtain ⟨q, -, hq⟩ := bind_ok_inv _ _ _ hb
    injection hq with hq; subst hq
    obtain ⟨h1, h2⟩ := ih _ P' h
    refine ⟨fun a => ?_, fun a b => ?_⟩
    · rw [h1 a]
      unfold oKey
      rw [mem_keys_alSet, or_assoc]
      exact or_congr_right ⟨fun h => ⟨h.elim id And.left, List.cons_ne_nil _ _⟩, fun h => Or.inl h.1⟩
    · rw [h2 a b, rKey_step, or_assoc, List.mem_cons, eq_comm (a := b), ← and_or_left]

theorem outer_keys (Nk : List (Nat × Nat)) (rows : List (List Nat)) :
    ∀ (P P' : List (Nat × List (Nat × Rat))),
    rows.foldlM (fun Pnk (nbr_degrees : List Nat) => nbr_degrees.foldlM (pnkBody Nk nbr_degrees.length) Pnk) P = .ok P' →
    (∀ a, oKey P' a ↔ oKey P a ∨ ∃ row ∈ rows, row.length = a ∧ row ≠ []) ∧
    (∀ a b, rKey P' a b ↔ rKey P a b ∨ ∃ row ∈ rows, row.length = a ∧ b ∈ row) := by
  induction rows with
  | nil =>
    intro P P' h
    injection h with h; subst h
    exact ⟨fun a => by simp, fun a b => by simp⟩
  | cons row t ih =>
    intro P P' h
    rw [List.foldlM_cons] at h
    obtain ⟨P1, h1, h⟩ := bind_ok_inv _ _ _ h
    obtain ⟨i1, i2⟩ := inner_keys Nk row.length row P P1 h1
    obtain ⟨o1, o2⟩ := ih P1 P' h
    refine ⟨fun a => ?_, fun a b => ?_⟩
    · rw [o1 a, i1 a, or_assoc]
      simp only [List.mem_cons, exists_eq_or_imp]
    · rw [o2 a b, i2 a b, or_assoc]
      simp only [List.mem_cons, exists_eq_or_imp]

/-- the dict `{k1: {} for k1 in degrees}` built before the loops: keys = the degrees, all rows empty -/
theorem init_keys (degs : List Nat) : ∀ (acc : List (Nat × List (Nat × Rat))),
    (∀ a, oKey (degs.foldl (fun acc k1 => if alHas acc k1 then acc else acc ++ [(k1, [])]) acc) a ↔
      oKey acc a ∨ a ∈ degs) := by
  induction degs with
  | nil => intro acc a; simp
  | cons d t ih =>
    intro acc a
    rw [List.foldl_cons, ih, List.mem_cons]
    by_cases hd : alHas acc d = true
    · rw [if_pos hd]
      have : oKey acc d := (mem_alKeys_iff acc d).2 hd
      constructor
      · exact fun h => h.elim Or.inl (Or.inr ∘ Or.inr)
      · rintro (h | rfl | h)
        exacts [Or.inl h, Or.inl this, Or.inr h]
    · rw [if_neg hd]
      simp only [oKey, List.map_append, List.map_cons, List.map_nil, List.mem_append, List.mem_singleton, or_assoc]

theorem init_rows (degs : List Nat) (a b : Nat) :
    ¬ rKey (degs.foldl (fun acc k1 => if alHas acc k1 then acc else acc ++ [(k1, [])]) []) a b := by
  unfold rKey
  rw [alGet_const _ [] a (GenHelpProofs.pnk_init_rows degs [] (by simp))]
  simp

/-- **the keys of `get_Pnk`** on an arbitrary list of neighbour-degree lists: the outer keys are the node degrees
(`len` of the rows), the keys of `Pnk[k1]` are the entries of the rows of length `k1` -/
theorem get_Pnk_keys (nbrdegs : List (List Nat)) (P : List (Nat × List (Nat × Rat)))
    (h : GenHelp.get_Pnk nbrdegs = .ok P) :
    (∀ a, a ∈ P.map (·.1) ↔ a ∈ nbrdegs.map (·.length)) ∧
    (∀ a b, b ∈ (alGet P [] a).map (·.1) ↔ ∃ row ∈ nbrdegs, row.length = a ∧ b ∈ row) := by
  obtain ⟨o1, o2⟩ := outer_keys (PyHelp.counter (nbrdegs.map (·.length))) nbrdegs
    ((nbrdegs.map (·.length)).foldl (fun acc k1 => if alHas acc k1 then acc else acc ++ [(k1, [])]) []) P h
  refine ⟨fun a => (o1 a).trans ?_, fun a b => (o2 a b).trans ?_⟩
  · rw [init_keys]
    simp only [oKey, List.map_nil, List.not_mem_nil, false_or, List.mem_map]
    constructor
    · rintro (h | ⟨row, hr, hl, -⟩)
      exacts [h, ⟨row, hr, hl⟩]
    · exact Or.inl
  · simp only [init_rows, false_or]

/-! ## 2. `(s, i)` tables -/

/-- the `(M+1) × (M+1)` table `[[F s i for i in 0..M] for s in 0..M]` -/
def mat (M : Nat) (F : Nat → Nat → Rat) : List (List Rat) := (List.range (M + 1)).map fun s => vec M (F s)

@[simp] theorem mat_length (M : Nat) (F : Nat → Nat → Rat) : (mat M F).length = M + 1 := by simp [mat]

theorem mat_getElem? (M : Nat) (F : Nat → Nat → Rat) (s : Nat) :
    (mat M F)[s]? = if s ≤ M then some (vec M (F s)) else none := by
  unfold mat
  rw [List.getElem?_map]
  by_cases h : s ≤ M
  · rw [if_pos h, List.getElem?_range (by omega)]; rfl
  · rw [if_neg h, List.getElem?_eq_none (by simp; omega)]; rfl

theorem mat_getD (M : Nat) (F : Nat → Nat → Rat) (s : Nat) (h : s ≤ M) : (mat M F).getD s [] = vec M (F s) := by
  rw [List.getD_eq_getElem?_getD, mat_getElem?, if_pos h]; rfl

theorem mat_congr (M : Nat) (F G : Nat → Nat → Rat) (h : ∀ a b, F a b = G a b) : mat M F = mat M G := by
  have : F = G := funext fun a => funext fun b => h a b
  rw [this]

theorem zeros2_eq (M : Nat) :
    PyWrap.zeros2 (((M : Nat) : Int) + 1) (((M : Nat) : Int) + 1) = .ok (mat M fun _ _ => 0) := by
  unfold PyWrap.zeros2
  have h1 : ¬ ((((M : Nat) : Int) + 1 < 0) ∨ (((M : Nat) : Int) + 1 < 0)) := by omega
  have h2 : (((M : Nat) : Int) + 1).toNat = M + 1 := by omega
  rw [if_neg h1, h2]
  show Except.ok _ = Except.ok _
  congr 1
  unfold mat vec
  apply List.ext_getElem
  · simp
  · intro k h3 h4
    simp

theorem mat_set_row (M : Nat) (F : Nat → Nat → Rat) (s : Nat) (g : Nat → Rat) :
    (mat M F).set s (vec M g) = mat M (fun a b => if a = s then g b else F a b) := by
  apply List.ext_getElem?
  intro k
  rw [List.getElem?_set, mat_getElem?, mat_getElem?]
  by_cases hk : s = k
  · subst hk
    by_cases hs : s ≤ M
    · simp [hs]
    · simp [hs]
  · have hk' : ¬ k = s := fun e => hk e.symm
    simp only [hk, hk', if_false]

theorem matAdd_nat (M : Nat) (F : Nat → Nat → Rat) (s i : Nat) (c : Rat) (hs : s ≤ M) (hi : i ≤ M) :
    PyWrap.matAdd (mat M F) ((s : Nat) : Int) ((i : Nat) : Int) c =
      .ok (mat M fun a b => F a b + if a = s ∧ b = i then c else 0) := by
  unfold PyWrap.matAdd
  rw [mat_length, idx_nat _ _ (by omega), ok_bind, mat_getD M F s hs, vecAdd_nat _ _ _ (by simp; omega), ok_bind,
    vec_set M (F s) i c hi, mat_set_row]
  show Except.ok _ = Except.ok _
  congr 1
  apply mat_congr
  intro a b
  by_cases ha : a = s
  · subst ha
    by_cases hb : i = b
    · subst hb; simp
    · have : ¬ b = i := fun e => hb e.symm
      simp [hb, this]
  · simp [ha]

theorem matSet_nat (M : Nat) (F : Nat → Nat → Rat) (s i : Nat) (c : Rat) (hs : s ≤ M) (hi : i ≤ M) :
    PyWrap.matSet (mat M F) ((s : Nat) : Int) ((i : Nat) : Int) c =
      .ok (mat M fun a b => if a = s ∧ b = i then c else F a b) := by
  unfold PyWrap.matSet PyWrap.vecSet
  rw [mat_length, idx_nat _ _ (by omega), ok_bind, mat_getD M F s hs, vec_length, idx_nat _ _ (by omega), ok_bind]
  have : (vec M (F s)).set i c = vec M (fun b => if b = i then c else F s b) := by
    apply List.ext_getElem?
    intro k
    rw [List.getElem?_set, vec_getElem?, vec_getElem?]
    by_cases hk : i = k
    · subst hk; simp [hi]
    · have hk' : ¬ k = i := fun e => hk e.symm
      simp [hk, hk']
  rw [this, pure_eq_ok, ok_bind, pure_eq_ok, mat_set_row]
  show Except.ok _ = Except.ok _
  congr 1
  apply mat_congr
  intro a b
  by_cases ha : a = s
  · subst ha; simp
  · simp [ha]

/-- number of nodes of the list with `sC u = a`, `iC u = b` and the property `p` -/
def siCnt (sC iC : Node → Nat) (p : Node → Prop) [DecidablePred p] (l : List Node) (a b : Nat) : Nat :=
  (l.filter fun u => sC u = a ∧ iC u = b ∧ p u).length

theorem siCnt_cons (sC iC : Node → Nat) (p : Node → Prop) [DecidablePred p] (u : Node) (t : List Node) (a b : Nat) :
    siCnt sC iC p (u :: t) a b = (if sC u = a ∧ iC u = b ∧ p u then 1 else 0) + siCnt sC iC p t a b := by
  unfold siCnt
  by_cases h : sC u = a ∧ iC u = b ∧ p u
  · rw [List.filter_cons_of_pos (by simpa using h), if_pos h, List.length_cons, Nat.add_comm]
  · rw [List.filter_cons_of_neg (by simpa using h), if_neg h, Nat.zero_add]

theorem siCnt_congr (sC sC' iC iC' : Node → Nat) (p p' : Node → Prop) [DecidablePred p] [DecidablePred p']
    (l : List Node) (h : ∀ u ∈ l, sC u = sC' u ∧ iC u = iC' u ∧ (p u ↔ p' u)) (a b : Nat) :
    siCnt sC iC p l a b = siCnt sC' iC' p' l a b := by
  unfold siCnt
  congr 1
  apply List.filter_congr
  intro u hu
  obtain ⟨h1, h2, h3⟩ := h u hu
  simp only [h1, h2, h3]

theorem siCnt_cons_of (sC iC : Node → Nat) (p : Node → Prop) [DecidablePred p] (u : Node) (t : List Node) (hp : p u)
    (a b : Nat) :
    (siCnt sC iC p (u :: t) a b : Rat) = (if a = sC u ∧ b = iC u then 1 else 0) + (siCnt sC iC p t a b : Rat) := by
  rw [siCnt_cons]
  simp only [hp, and_true, eq_comm (a := sC u), eq_comm (a := iC u)]
  split <;> simp

theorem siCnt_cons_of_not (sC iC : Node → Nat) (p : Node → Prop) [DecidablePred p] (u : Node) (t : List Node)
    (hp : ¬ p u) (a b : Nat) : siCnt sC iC p (u :: t) a b = siCnt sC iC p t a b := by
  rw [siCnt_cons, if_neg (fun h => hp h.2.2), Nat.zero_add]

/-- the node loop of `SIS_effective_degree_from_graph` on `(S_si0, I_si0)` -/
theorem sisLoop (st : Node → St) (sC iC : Node → Nat) (M : Nat) (l : List Node)
    (hl : ∀ u ∈ l, sC u ≤ M ∧ iC u ≤ M)
    (step : List (List Rat) × List (List Rat) → Node → Except String (List (List Rat) × List (List Rat)))
    (hstep : ∀ F G u, u ∈ l → step (mat M F, mat M G) u =
      if st u = St.S then
        (PyWrap.matAdd (mat M F) ((sC u : Nat) : Int) ((iC u : Nat) : Int) 1 >>= fun T => .ok (T, mat M G))
      else (PyWrap.matAdd (mat M G) ((sC u : Nat) : Int) ((iC u : Nat) : Int) 1 >>= fun T => .ok (mat M F, T))) :
    ∀ F G, l.foldlM step (mat M F, mat M G) =
      .ok (mat M (fun a b => F a b + (siCnt sC iC (fun u => st u = St.S) l a b : Rat)),
           mat M (fun a b => G a b + (siCnt sC iC (fun u => st u ≠ St.S) l a b : Rat))) := by
  induction l with
  | nil => intro F G; simp [siCnt]
  | cons u t ih =>
    intro F G
    obtain ⟨h1, h2⟩ := hl u (by simp)
    have ih' := ih (fun v hv => hl v (by simp [hv])) (fun F G v hv => hstep F G v (by simp [hv]))
    rw [List.foldlM_cons, hstep F G u (by simp)]
    by_cases hS : st u = St.S
    · rw [if_pos hS, matAdd_nat M F _ _ 1 h1 h2, ok_bind, ok_bind, ih']
      simp only [siCnt_cons_of _ _ (fun u => st u = St.S) u t hS,
        siCnt_cons_of_not _ _ (fun u => st u ≠ St.S) u t (not_not.mpr hS), add_assoc]
    · rw [if_neg hS, matAdd_nat M G _ _ 1 h1 h2, ok_bind, ok_bind, ih']
      simp only [siCnt_cons_of _ _ (fun u => st u ≠ St.S) u t hS,
        siCnt_cons_of_not _ _ (fun u => st u = St.S) u t hS, add_assoc]

theorem length_filter_cons (p : Node → Prop) [DecidablePred p] (u : Node) (t : List Node) :
    (((u :: t).filter fun v => p v).length : Int) = (if p u then 1 else 0) + ((t.filter fun v => p v).length : Int) := by
  by_cases h : p u
  · rw [List.filter_cons_of_pos (by simpa using h), if_pos h, List.length_cons, Nat.cast_add, Nat.cast_one, add_comm]
  · rw [List.filter_cons_of_neg (by simpa using h), if_neg h, zero_add]

/-- the node loop of `SIR_effective_degree_from_graph` on `(S_si0, I0, R0)` -/
theorem sirLoop (st : Node → St) (sC iC : Node → Nat) (M : Nat) (l : List Node)
    (hl : ∀ u ∈ l, st u = St.S → sC u ≤ M ∧ iC u ≤ M)
    (step : List (List Rat) × Int × Int → Node → Except String (List (List Rat) × Int × Int))
    (hstep : ∀ F I0 R0 u, u ∈ l → step (mat M F, I0, R0) u =
      if st u = St.S then
        (PyWrap.matAdd (mat M F) ((sC u : Nat) : Int) ((iC u : Nat) : Int) 1 >>= fun T => .ok (T, I0, R0))
      else if st u = St.I then .ok (mat M F, I0 + 1, R0) else .ok (mat M F, I0, R0 + 1)) :
    ∀ F (I0 R0 : Int), l.foldlM step (mat M F, I0, R0) =
      .ok (mat M (fun a b => F a b + (siCnt sC iC (fun u => st u = St.S) l a b : Rat)),
           I0 + ((l.filter fun u => st u = St.I).length : Nat), R0 + ((l.filter fun u => st u = St.R).length : Nat)) := by
  induction l with
  | nil => intro F I0 R0; simp [siCnt]
  | cons u t ih =>
    intro F I0 R0
    have ih' := ih (fun v hv => hl v (by simp [hv])) (fun F I0 R0 v hv => hstep F I0 R0 v (by simp [hv]))
    rw [List.foldlM_cons, hstep F I0 R0 u (by simp)]
    cases hS : st u
    · obtain ⟨h1, h2⟩ := hl u (by simp) hS
      rw [if_pos rfl, matAdd_nat M F _ _ 1 h1 h2, ok_bind, ok_bind, ih']
      simp only [siCnt_cons_of _ _ (fun u => st u = St.S) u t hS, length_filter_cons, hS, reduceCtorEq, if_false,
        zero_add, add_assoc]
    · rw [if_neg (by simp), if_pos rfl, ok_bind, ih']
      simp only [siCnt_cons_of_not _ _ (fun u => st u = St.S) u t (by simp [hS]), length_filter_cons, hS, reduceCtorEq,
        if_true, if_false, zero_add, add_assoc]
    · rw [if_neg (by simp), if_neg (by simp), ok_bind, ih']
      simp only [siCnt_cons_of_not _ _ (fun u => st u = St.S) u t (by simp [hS]), length_filter_cons, hS, reduceCtorEq,
        if_true, if_false, zero_add, add_assoc]

theorem foldlM_range_succ {σ : Type} (f : σ → Int → Except String σ) (n : Nat) (a : σ) :
    ((List.range (n + 1)).map (fun (i : Nat) => (i : Int))).foldlM f a =
      (((List.range n).map (fun (i : Nat) => (i : Int))).foldlM f a >>= fun b => f b (n : Int)) := by
  rw [List.range_succ, List.map_append, List.foldlM_append]
  congr 1
  funext b
  simp only [List.map_cons, List.map_nil, List.foldlM_cons, List.foldlM_nil]
  cases f b (n : Int) <;> rfl

/-- the double loop `for s in range(maxk+1): for i in range(maxk+1-s): T[s][i] = val s i` on any representation `R` of
tables -/
theorem tableLoop {σ α : Type} (R : (Nat → Nat → α) → σ) (M : Nat) (val : Nat → Nat → α)
    (inner : σ → Int → Int → Except String σ)
    (hin : ∀ F s i, s + i ≤ M → inner (R F) ((s : Nat) : Int) ((i : Nat) : Int) =
      .ok (R fun a b => if a = s ∧ b = i then val s i else F a b)) (F : Nat → Nat → α) :
    (PyWrap.range (((M : Nat) : Int) + 1)).foldlM (fun acc s =>
      (PyWrap.range ((((M : Nat) : Int) + 1) - s)).foldlM (fun acc i => inner acc s i) acc) (R F) =
      .ok (R fun a b => if a + b ≤ M then val a b else F a b) := by
  -- row `s` filled up to column `n`
  have hinner : ∀ s, s ≤ M → ∀ n, n ≤ M + 1 - s → ∀ F,
      ((List.range n).map (fun (i : Nat) => (i : Int))).foldlM (fun acc i => inner acc ((s : Nat) : Int) i) (R F) =
        .ok (R fun a b => if a = s ∧ b < n then val a b else F a b) := by
    intro s hs n
    induction n with
    | zero => intro _ F; simp
    | succ n ih =>
      intro hn F
      rw [foldlM_range_succ, ih (by omega) F, ok_bind, hin _ s n (by omega)]
      congr 2
      funext a b
      by_cases h1 : a = s ∧ b = n
      · rw [if_pos h1, if_pos ⟨h1.1, by omega⟩, h1.1, h1.2]
      · rw [if_neg h1, if_congr (show a = s ∧ b < n + 1 ↔ a = s ∧ b < n by omega) rfl rfl]
  -- rows below `m` filled
  have houter : ∀ m, m ≤ M + 1 → ∀ F,
      ((List.range m).map (fun (i : Nat) => (i : Int))).foldlM (fun acc s =>
        (PyWrap.range ((((M : Nat) : Int) + 1) - s)).foldlM (fun acc i => inner acc s i) acc) (R F) =
        .ok (R fun a b => if a < m ∧ a + b ≤ M then val a b else F a b) := by
    intro m
    induction m with
    | zero => intro _ F; simp
    | succ m ih =>
      intro hm F
      have hr : PyWrap.range ((((M : Nat) : Int) + 1) - ((m : Nat) : Int)) =
          (List.range (M + 1 - m)).map (fun (i : Nat) => (i : Int)) := by
        rw [← range_nat]; congr 1; omega
      rw [foldlM_range_succ, ih (by omega) F, ok_bind, hr, hinner m (by omega) (M + 1 - m) (le_refl _)]
      congr 2
      funext a b
      rw [← ite_or, if_congr (show (a = m ∧ b < M + 1 - m) ∨ (a < m ∧ a + b ≤ M) ↔ a < m + 1 ∧ a + b ≤ M by omega)
        rfl rfl]
  rw [range_succ_nat, houter (M + 1) (le_refl _) F]
  congr 2
  funext a b
  rw [if_congr (show a < M + 1 ∧ a + b ≤ M ↔ a + b ≤ M by omega) rfl rfl]

theorem bind_ok_id {α : Type} (x : Except String α) : (x >>= fun y => Except.ok y) = x := bind_pure x

/-- the two tables of the SIS wrapper as one state, so that `tableLoop` applies to them -/
def pairMat (M : Nat) (F : Nat → Nat → Rat × Rat) : List (List Rat) × List (List Rat) :=
  (mat M fun a b => (F a b).1, mat M fun a b => (F a b).2)

theorem pairMat_ite (M : Nat) (F v : Nat → Nat → Rat × Rat) (P : Nat → Nat → Prop) [∀ a b, Decidable (P a b)] :
    pairMat M (fun a b => if P a b then v a b else F a b) =
      (mat M fun a b => if P a b then (v a b).1 else (F a b).1, mat M fun a b => if P a b then (v a b).2 else (F a b).2) := by
  unfold pairMat
  simp only [apply_ite Prod.fst, apply_ite Prod.snd]

theorem bind_eta2 {α β : Type} (x : Except String (α × β)) : (x >>= fun y => Except.ok (y.1, y.2)) = x :=
  bind_pure x

theorem binomI_nat (n k : Nat) : PyWrap.binomI ((n : Nat) : Int) ((k : Nat) : Int) = .ok ((PyWrap.binom n k : Nat) : Rat) := by
  unfold PyWrap.binomI
  rw [if_neg (by omega), Int.toNat_natCast, Int.toNat_natCast]; rfl

/-- the binomial entry the `rho` branches write at `(s, i)`: `w·N_{s+i}·C(s+i, i)·rho^i·(1-rho)^s` -/
def edVal (degs : List Nat) (r w : Rat) (s i : Nat) : Rat :=
  w * ((Helpers.countEq degs (s + i) : Nat) : Rat) * ((PyWrap.binom (s + i) i : Nat) : Rat) * r ^ i * (1 - r) ^ s

theorem vecGet_NkL (degs : List Nat) (k : Nat) (h : k ≤ Helpers.maxDeg degs) :
    PyWrap.vecGet (NkL degs) ((k : Nat) : Int) = .ok ((Helpers.countEq degs k : Nat) : Rat) := by
  rw [vecGet_nat _ _ (by unfold NkL; simp; omega)]
  exact congrArg _ (vec_getD _ _ _ h)

/-- without `initial_infecteds` the default `rho = 1/N` is filled in, and a lone `initial_recovereds` is not looked at -/
theorem SIRed_rho_eq (A : WArgs) (tau gamma : Rat) (recs : Option (List Node)) (rho : Option Rat)
    (hrr : ¬ (rho.isSome ∧ recs.isSome)) (tmin tmax : Rat) (tcount : Int) (full : Bool) (hne : A.nodes ≠ []) :
    SIR_effective_degree_from_graph_args A tau gamma none recs rho tmin tmax tcount full =
      SIR_effective_degree_from_graph_args A tau gamma none none (some (rho.getD (1 / (A.nodes.length : Rat)))) tmin tmax
        tcount full := by
  cases rho with
  | some r =>
    cases recs with
    | none => rfl
    | some l => exact absurd ⟨rfl, rfl⟩ hrr
  | none =>
    unfold SIR_effective_degree_from_graph_args
    simp only [Option.isSome_none, Option.isSome_some, Bool.false_and, Bool.and_false, Bool.false_eq_true, if_false,
      Option.getD_none, fdiv_one_N A hne, ok_bind, pure_eq_ok]

theorem SISed_rho_eq (A : WArgs) (tau gamma : Rat) (rho : Option Rat) (tmin tmax : Rat) (tcount : Int) (full : Bool)
    (hne : A.nodes ≠ []) :
    SIS_effective_degree_from_graph_args A tau gamma none rho tmin tmax tcount full =
      SIS_effective_degree_from_graph_args A tau gamma none (some (rho.getD (1 / (A.nodes.length : Rat)))) tmin tmax tcount
        full := by
  cases rho with
  | some r => rfl
  | none =>
    unfold SIS_effective_degree_from_graph_args
    simp only [Option.isSome_none, Option.isSome_some, Bool.and_false, Bool.false_eq_true, if_false,
      Option.getD_none, fdiv_one_N A hne, ok_bind, pure_eq_ok]

end GenWrapProofs5
