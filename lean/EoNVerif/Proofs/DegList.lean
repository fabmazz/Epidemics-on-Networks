/-!
List and index arithmetic that several files need and that needs no library: `max` folded over a list of naturals
(`max(d.keys())`, the largest degree), the degree list of a graph given by adjacency lists, bounded by that maximum, and
the row-major index `k * K + l` of a `K × K` table (the pair tables of the pairwise ODE models).  Three namespaces:
`GenHelpProofs` (list facts), `Helpers` (the `max` fold and the degree list; Proofs/Helpers.lean continues it), `RowMajor`.
-/
namespace GenHelpProofs

theorem map_getD_range {α : Type} (l : List α) (d : α) : (List.range l.length).map (fun u => l.getD u d) = l := by
  apply List.ext_getElem
  · simp
  · intro i h1 h2
    simp at h1
    simp [h1]

/-- `for v in l: q += g(v)` on lists -/
theorem foldl_append_flatMap {α β : Type} (g : β → List α) (l : List β) (q : List α) :
    l.foldl (fun q v => q ++ g v) q = q ++ l.flatMap g := by
  induction l generalizing q with
  | nil => simp
  | cons v l ih => simp [ih, List.append_assoc]

end GenHelpProofs

namespace Helpers

theorem foldl_max_le_iff (l : List Nat) (init m : Nat) : l.foldl max init ≤ m ↔ init ≤ m ∧ ∀ d ∈ l, d ≤ m := by
  induction l generalizing init with
  | nil => simp
  | cons a t ih =>
    simp only [List.foldl_cons, ih, List.mem_cons, forall_eq_or_imp, Nat.max_le, and_assoc]

theorem le_foldl_max (l : List Nat) (init : Nat) :
    init ≤ l.foldl max init ∧ ∀ d ∈ l, d ≤ l.foldl max init :=
  (foldl_max_le_iff l init _).1 (Nat.le_refl _)

theorem map_deg_range (adj : List (List Nat)) :
    (List.range adj.length).map (fun u => (adj.getD u []).length) = adj.map (·.length) := by
  have h := congrArg (List.map (·.length)) (GenHelpProofs.map_getD_range adj [])
  rwa [List.map_map] at h

/-- a degree is at most the largest one; an index out of range has degree 0 -/
theorem getD_length_le_foldl_max (adj : List (List Nat)) (v : Nat) :
    (adj.getD v []).length ≤ (adj.map (·.length)).foldl max 0 := by
  by_cases hv : v < adj.length
  · apply (le_foldl_max _ 0).2
    have : adj.getD v [] = adj[v] := by simp [hv]
    rw [this]
    exact List.mem_map.2 ⟨adj[v], List.getElem_mem hv, rfl⟩
  · have : adj.getD v [] = [] := by simp [Nat.le_of_not_lt hv]
    rw [this]
    exact Nat.zero_le _

end Helpers

namespace RowMajor

theorem rm_div (K k l : Nat) (hl : l < K) : (k * K + l) / K = k := by
  have hK : 0 < K := by omega
  rw [Nat.add_comm, Nat.add_mul_div_right _ _ hK, Nat.div_eq_of_lt hl, Nat.zero_add]

theorem rm_mod (K k l : Nat) (hl : l < K) : (k * K + l) % K = l := by
  rw [Nat.add_comm, Nat.add_mul_mod_self_right, Nat.mod_eq_of_lt hl]

theorem rm_lt (K k l : Nat) (hk : k < K) (hl : l < K) : k * K + l < K ^ 2 := by
  have h1 : (k + 1) * K ≤ K * K := Nat.mul_le_mul_right K hk
  have h2 : (k + 1) * K = k * K + K := by rw [Nat.add_mul, Nat.one_mul]
  have h3 : K ^ 2 = K * K := by rw [Nat.pow_two]
  omega

theorem rm_lt_rect (A B s i : Nat) (hs : s < A) (hi : i < B) : s * B + i < A * B := by
  calc s * B + i < s * B + B := by omega
    _ = (s + 1) * B := by rw [Nat.add_mul, Nat.one_mul]
    _ ≤ A * B := Nat.mul_le_mul_right B hs

end RowMajor
