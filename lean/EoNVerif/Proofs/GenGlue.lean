import EoNVerif.Gen.OdeGlue
import EoNVerif.Proofs.ODE
/-!
Helper definitions and lemmas for C06d (`Props/C06d.lean`): the twelve ODE entry points GENERATED into
`Gen/OdeGlue.lean` (namespace `GenGlue`), for an arbitrary solver `odeint : (V → V) → V → Nat → V`.

* accessors `get` / `getV` / `getM` / `getN` into the returned list of arrays;
* the closed forms `out…` of the returned list as a function of the solution `X : Nat → V` (row `i` = time index `i`);
* `linspace`, `sumTo` and `V` index lemmas;
* `Solver`, `RowZero` (the solver and the one hypothesis on it), and the toy solvers `toyOdeint`, `badOdeint` with the row
  readers `serAt`, `rowAt` for the closed examples in Props.
-/
namespace GenGlueProofs
open Gen PyGlue
open ODE (sumTo)

/-- a solver: right-hand side, initial vector ↦ row `i` of the solution at time index `i` -/
abbrev Solver : Type := (V → V) → V → Nat → V

/-- row 0 of the solution is the initial state: the documented contract of `scipy.integrate.odeint`; for EoN's own
`_my_odeint_` (the `myodeint` of `Gen/OdeGlue2.lean`) it holds because that function starts its list of rows with `V0` -/
def RowZero (odeint : Solver) : Prop := ∀ (rhs : V → V) (X0 : V), odeint rhs X0 0 = X0

/-! ## accessors -/

/-- value at time index `i` of the `j`-th returned array when it is a time series (`0` otherwise) -/
def get (l : List Ser) (j i : Nat) : Rat :=
  match l[j]? with
  | some (Ser.s f) => f i
  | _ => 0

/-- class vector at time index `i` of the `j`-th returned array when it is a (class × time) array -/
def getV (l : List Ser) (j i : Nat) : V :=
  match l[j]? with
  | some (Ser.m f) => f i
  | _ => ⟨0, fun _ => 0⟩

/-- entry (class `k`, time index `i`) of the `j`-th returned array -/
def getM (l : List Ser) (j i k : Nat) : Rat := (getV l j i).f k
/-- number of classes of the `j`-th returned array at time index `i` -/
def getN (l : List Ser) (j i : Nat) : Nat := (getV l j i).n

@[simp] theorem get_zero_s (f : Nat → Rat) (l : List Ser) (i : Nat) : get (Ser.s f :: l) 0 i = f i := rfl
@[simp] theorem get_succ (a : Ser) (l : List Ser) (j i : Nat) : get (a :: l) (j + 1) i = get l j i := rfl
@[simp] theorem getV_zero_m (f : Nat → V) (l : List Ser) (i : Nat) : getV (Ser.m f :: l) 0 i = f i := rfl
@[simp] theorem getV_succ (a : Ser) (l : List Ser) (j i : Nat) : getV (a :: l) (j + 1) i = getV l j i := rfl

theorem ok_of_ite {g : Prop} [Decidable g] {e : String} {a l : List Ser}
    (h : (if g then (Except.error e : Except String (List Ser)) else Except.ok a) = Except.ok l) : ¬ g ∧ a = l := by
  by_cases hg : g
  · rw [if_pos hg] at h; cases h
  · rw [if_neg hg] at h; injection h with h; exact ⟨hg, h⟩

theorem ite_ne_valueError {g : Prop} [Decidable g] {a : List Ser} :
    (if g then (Except.error "EoNError" : Except String (List Ser)) else Except.ok a) ≠ Except.error "ValueError" := by
  split
  · intro h; injection h with h; exact absurd h (by decide)
  · intro h; cases h

theorem ite_ok_iff {g : Prop} [Decidable g] {e : String} {a : List Ser} :
    (∃ l, (if g then (Except.error e : Except String (List Ser)) else Except.ok a) = Except.ok l) ↔ ¬ g := by
  by_cases hg : g
  · rw [if_pos hg]; exact ⟨fun ⟨_, h⟩ => (nomatch h), fun h => absurd hg h⟩
  · rw [if_neg hg]; exact ⟨fun _ => hg, fun _ => ⟨a, rfl⟩⟩

theorem ok_inj {a l : List Ser} (h : (Except.ok a : Except String (List Ser)) = Except.ok l) : a = l := by
  injection h

/-! ## a compartment obtained by subtraction from the total `N` -/

theorem total_SI (N S : Rat) : S + (N - S) = N := add_sub_cancel S N

theorem total_SIR (N S I : Rat) : S + I + (N - S - I) = N := by ring

/-- `I = N - S - R` listed between `S` and `R` -/
theorem total_SRI (N S R : Rat) : S + (N - S - R) + R = N := by ring

/-! ## `linspace` -/

theorem linspace_zero (tmin tmax : Rat) (tcount : Nat) : linspace tmin tmax tcount 0 = tmin := by
  unfold linspace
  split
  · rfl
  · simp

theorem linspace_step (tmin tmax : Rat) (tcount : Nat) (h : 2 ≤ tcount) (i : Nat) :
    linspace tmin tmax tcount (i + 1) - linspace tmin tmax tcount i = (tmax - tmin) / ((tcount : Rat) - 1) := by
  unfold linspace
  have h1 : ¬ tcount ≤ 1 := by omega
  rw [if_neg h1, if_neg h1]
  push_cast
  ring

/-! ## `sumTo` -/

theorem sumTo_sub (K : Nat) (f g : Nat → Rat) : sumTo K (fun k => f k - g k) = sumTo K f - sumTo K g := by
  simp only [ODE.sumTo_eq_sum, Finset.sum_sub_distrib]

theorem sumTo_sub3 (K : Nat) (f g h : Nat → Rat) :
    sumTo K (fun k => f k - g k - h k) = sumTo K f - sumTo K g - sumTo K h := by
  rw [sumTo_sub K (fun k => f k - g k) h, sumTo_sub]

theorem sumTo_add3 (K : Nat) (f g h : Nat → Rat) :
    sumTo K (fun k => f k + g k + h k) = sumTo K f + sumTo K g + sumTo K h := by
  rw [ODE.sumTo_add K (fun k => f k + g k) h, ODE.sumTo_add]

theorem sumTo_split (a b : Nat) (f : Nat → Rat) : sumTo (a + b) f = sumTo a f + sumTo b (fun k => f (a + k)) := by
  simp only [ODE.sumTo_eq_sum, Finset.sum_range_add]

theorem sumTo_append_left (a b : V) : sumTo a.n (V.append a b).f = sumTo a.n a.f :=
  ODE.sumTo_congr _ _ _ (fun k hk => V.append_f_lt a b k hk)

theorem sumTo_append_right (a b : V) : sumTo b.n (fun k => (V.append a b).f (a.n + k)) = sumTo b.n b.f :=
  ODE.sumTo_congr _ _ _ (fun k _ => V.append_f_ge a b k)

theorem sumTo_append (a b : V) : sumTo (a.n + b.n) (V.append a b).f = sumTo a.n a.f + sumTo b.n b.f := by
  rw [sumTo_split, sumTo_append_left, sumTo_append_right]

theorem sumTo_two (f : Nat → Rat) : sumTo 2 f = f 0 + f 1 := by
  rw [show (2 : Nat) = 0 + 1 + 1 from rfl, ODE.sumTo_succ, ODE.sumTo_succ, ODE.sumTo_zero_left]; ring

/-! ## `V` index lemmas -/

@[simp] theorem ofList_f_zero (a : Rat) (l : List Rat) : (V.ofList (a :: l)).f 0 = a := rfl
@[simp] theorem ofList_f_succ (a : Rat) (l : List Rat) (j : Nat) : (V.ofList (a :: l)).f (j + 1) = (V.ofList l).f j := rfl
theorem append_f_n (a b : V) : (V.append a b).f a.n = b.f 0 := V.append_f_ge a b 0
theorem append_f_one (a : Rat) (b : V) (k : Nat) : (V.append (V.ofList [a]) b).f (1 + k) = b.f k :=
  V.append_f_ge (V.ofList [a]) b k
theorem append_f_one_zero (a : Rat) (b : V) : (V.append (V.ofList [a]) b).f 0 = a :=
  V.append_f_lt (V.ofList [a]) b 0 (by simp)

/-- `a + b` for class vectors as NumPy computes it on arrays of equal length (the length of `a`) -/
def vadd (a b : V) : V := ⟨a.n, fun k => a.f k + b.f k⟩
@[simp] theorem vadd_n (a b : V) : (vadd a b).n = a.n := rfl
@[simp] theorem vadd_f (a b : V) (k : Nat) : (vadd a b).f k = a.f k + b.f k := rfl

/-! ## closed forms of the returned lists; `T` is the time grid, `X` the solution (row `i` at time index `i`) -/

/-- `SIS_homogeneous_meanfield`: `S, I = X.T` -/
def outSISHomMF (T : Nat → Rat) (X : Nat → V) : List Ser :=
  [Ser.s T, Ser.s (fun i => (X i).f 0), Ser.s (fun i => (X i).f 1)]

/-- `SIR_homogeneous_meanfield`: `S, I = X.T; R = N - S - I` -/
def outSIRHomMF (T : Nat → Rat) (N : Rat) (X : Nat → V) : List Ser :=
  [Ser.s T, Ser.s (fun i => (X i).f 0), Ser.s (fun i => (X i).f 1), Ser.s (fun i => N - (X i).f 0 - (X i).f 1)]

/-- `SIS_homogeneous_pairwise`: `S, SI, SS = X.T; I = N - S; II = N*n - SS - 2*SI` -/
def outSISHomPW (T : Nat → Rat) (N n : Rat) (full : Bool) (X : Nat → V) : List Ser :=
  if full then
    [Ser.s T, Ser.s (fun i => (X i).f 0), Ser.s (fun i => N - (X i).f 0), Ser.s (fun i => (X i).f 1),
     Ser.s (fun i => (X i).f 2), Ser.s (fun i => N * n - (X i).f 2 - 2 * (X i).f 1)]
  else [Ser.s T, Ser.s (fun i => (X i).f 0), Ser.s (fun i => N - (X i).f 0)]

/-- `SIR_homogeneous_pairwise`: `S, I, SI, SS = X.T; R = N - S - I` -/
def outSIRHomPW (T : Nat → Rat) (N : Rat) (full : Bool) (X : Nat → V) : List Ser :=
  if full then
    [Ser.s T, Ser.s (fun i => (X i).f 0), Ser.s (fun i => (X i).f 1), Ser.s (fun i => N - (X i).f 0 - (X i).f 1),
     Ser.s (fun i => (X i).f 2), Ser.s (fun i => (X i).f 3)]
  else [Ser.s T, Ser.s (fun i => (X i).f 0), Ser.s (fun i => (X i).f 1), Ser.s (fun i => N - (X i).f 0 - (X i).f 1)]

/-- `SIS_heterogeneous_meanfield`: `Sk = X.T[:K]`, `Ik = X.T[K:]` (`M` further rows), `S`, `I` their sums -/
def outSISHetMF (T : Nat → Rat) (K M : Nat) (full : Bool) (X : Nat → V) : List Ser :=
  if full then
    [Ser.s T, Ser.s (fun i => sumTo K (fun k => (X i).f k)), Ser.s (fun i => sumTo M (fun k => (X i).f (K + k))),
     Ser.m (fun i => ⟨K, fun k => (X i).f k⟩), Ser.m (fun i => ⟨M, fun k => (X i).f (K + k)⟩)]
  else [Ser.s T, Ser.s (fun i => sumTo K (fun k => (X i).f k)), Ser.s (fun i => sumTo M (fun k => (X i).f (K + k)))]

/-- `SIR_heterogeneous_meanfield`: `theta = X[:,0]`, `Rk = X.T[1:]` (`M` rows), `Sk = Sk0 * theta**k`,
`Ik = Nk - Sk - Rk`; without full data the three sums -/
def outSIRHetMF (T : Nat → Rat) (Sk0 Nk : V) (M : Nat) (full : Bool) (X : Nat → V) : List Ser :=
  if full then
    [Ser.s T, Ser.m (fun i => ⟨Sk0.n, fun k => Sk0.f k * (X i).f 0 ^ k⟩),
     Ser.m (fun i => ⟨Nk.n, fun k => Nk.f k - Sk0.f k * (X i).f 0 ^ k - (X i).f (1 + k)⟩),
     Ser.m (fun i => ⟨M, fun k => (X i).f (1 + k)⟩)]
  else
    [Ser.s T, Ser.s (fun i => sumTo Sk0.n (fun k => Sk0.f k * (X i).f 0 ^ k)),
     Ser.s (fun i => sumTo Nk.n (fun k => Nk.f k - Sk0.f k * (X i).f 0 ^ k - (X i).f (1 + k))),
     Ser.s (fun i => sumTo M (fun k => (X i).f (1 + k)))]

/-- `SIS_compact_pairwise`: `Sk = X.T[:K]`, `SI, SS = X.T[K:]`, `Ik = Nk - Sk`, `II = twoM - SS - 2*SI` -/
def outSISCompactPW (T : Nat → Rat) (Nk : V) (twoM : Rat) (K : Nat) (full : Bool) (X : Nat → V) : List Ser :=
  if full then
    [Ser.s T, Ser.s (fun i => sumTo K (fun k => (X i).f k)), Ser.s (fun i => sumTo Nk.n (fun k => Nk.f k - (X i).f k)),
     Ser.m (fun i => ⟨K, fun k => (X i).f k⟩), Ser.m (fun i => ⟨Nk.n, fun k => Nk.f k - (X i).f k⟩),
     Ser.s (fun i => (X i).f K), Ser.s (fun i => (X i).f (K + 1)),
     Ser.s (fun i => twoM - (X i).f (K + 1) - 2 * (X i).f K)]
  else [Ser.s T, Ser.s (fun i => sumTo K (fun k => (X i).f k)), Ser.s (fun i => sumTo Nk.n (fun k => Nk.f k - (X i).f k))]

/-- `SIR_compact_pairwise`: `Sk = X.T[:K]`, `SS, SI, R = X.T[K:]`, `S = Sk.sum`, `I = N - R - S` -/
def outSIRCompactPW (T : Nat → Rat) (N : Rat) (K : Nat) (full : Bool) (X : Nat → V) : List Ser :=
  if full then
    [Ser.s T, Ser.m (fun i => ⟨K, fun k => (X i).f k⟩),
     Ser.s (fun i => N - (X i).f (K + 2) - sumTo K (fun k => (X i).f k)), Ser.s (fun i => (X i).f (K + 2)),
     Ser.s (fun i => (X i).f K), Ser.s (fun i => (X i).f (K + 1))]
  else
    [Ser.s T, Ser.s (fun i => sumTo K (fun k => (X i).f k)),
     Ser.s (fun i => N - (X i).f (K + 2) - sumTo K (fun k => (X i).f k)), Ser.s (fun i => (X i).f (K + 2))]

/-- `SIS_super_compact_pairwise`: `I, SS, SI, II = X.T; S = N - I` -/
def outSISSuperCompactPW (T : Nat → Rat) (N : Rat) (full : Bool) (X : Nat → V) : List Ser :=
  if full then
    [Ser.s T, Ser.s (fun i => N - (X i).f 0), Ser.s (fun i => (X i).f 0), Ser.s (fun i => (X i).f 1),
     Ser.s (fun i => (X i).f 2), Ser.s (fun i => (X i).f 3)]
  else [Ser.s T, Ser.s (fun i => N - (X i).f 0), Ser.s (fun i => (X i).f 0)]

/-- `SIR_super_compact_pairwise`: `theta, SS, SI, R = X.T; S = N*psihat(theta); I = N - S - R` -/
def outSIRSuperCompactPW (T : Nat → Rat) (N : Rat) (psihat : Rat → Rat) (full : Bool) (X : Nat → V) : List Ser :=
  if full then
    [Ser.s T, Ser.s (fun i => N * psihat ((X i).f 0)), Ser.s (fun i => N - N * psihat ((X i).f 0) - (X i).f 3),
     Ser.s (fun i => (X i).f 3), Ser.s (fun i => (X i).f 1), Ser.s (fun i => (X i).f 2)]
  else
    [Ser.s T, Ser.s (fun i => N * psihat ((X i).f 0)), Ser.s (fun i => N - N * psihat ((X i).f 0) - (X i).f 3),
     Ser.s (fun i => (X i).f 3)]

/-- `SIR_compact_effective_degree`: `Skappa = X.T[:K]`, `R, SI = X.T[K:]`, `S = Skappa.sum`, `I = N - S - R` -/
def outSIRCompactED (T : Nat → Rat) (N : Rat) (K : Nat) (full : Bool) (X : Nat → V) : List Ser :=
  if full then
    [Ser.s T, Ser.s (fun i => sumTo K (fun k => (X i).f k)),
     Ser.s (fun i => N - sumTo K (fun k => (X i).f k) - (X i).f K), Ser.s (fun i => (X i).f K),
     Ser.m (fun i => ⟨K, fun k => (X i).f k⟩), Ser.s (fun i => (X i).f (K + 1))]
  else
    [Ser.s T, Ser.s (fun i => sumTo K (fun k => (X i).f k)),
     Ser.s (fun i => N - sumTo K (fun k => (X i).f k) - (X i).f K), Ser.s (fun i => (X i).f K)]

/-- `EBCM`: `theta = X[:,0]; R = X[:,1]; S = N*psihat(theta); I = N - S - R` -/
def outEBCM (T : Nat → Rat) (N : Rat) (psihat : Rat → Rat) (full : Bool) (X : Nat → V) : List Ser :=
  if full then
    [Ser.s T, Ser.s (fun i => N * psihat ((X i).f 0)), Ser.s (fun i => N - N * psihat ((X i).f 0) - (X i).f 1),
     Ser.s (fun i => (X i).f 1), Ser.s (fun i => (X i).f 0)]
  else
    [Ser.s T, Ser.s (fun i => N * psihat ((X i).f 0)), Ser.s (fun i => N - N * psihat ((X i).f 0) - (X i).f 1),
     Ser.s (fun i => (X i).f 1)]


/-! ## the closed form of `SIR_heterogeneous_meanfield` (abstract solution `X`) -/
section out
variable (T : Nat → Rat) (X : Nat → V)

theorem outSIRHetMF_conserve (Sk0 Nk : V) (i : Nat) (hN : Nk.n = Sk0.n) :
    get (outSIRHetMF T Sk0 Nk Sk0.n false X) 1 i + get (outSIRHetMF T Sk0 Nk Sk0.n false X) 2 i
      + get (outSIRHetMF T Sk0 Nk Sk0.n false X) 3 i = sumTo Sk0.n Nk.f := by
  simp only [outSIRHetMF, Bool.false_eq_true, if_false, get_succ, get_zero_s, hN]
  rw [sumTo_sub3]
  ring

theorem outSIRHetMF_conserve_full (Sk0 Nk : V) (M : Nat) (i k : Nat) :
    getM (outSIRHetMF T Sk0 Nk M true X) 1 i k + getM (outSIRHetMF T Sk0 Nk M true X) 2 i k
      + getM (outSIRHetMF T Sk0 Nk M true X) 3 i k = Nk.f k := by
  simp only [outSIRHetMF, if_true, getM, getV_succ, getV_zero_m]
  ring

theorem outSIRHetMF_classes (Sk0 Nk : V) (M : Nat) (i : Nat) :
    getN (outSIRHetMF T Sk0 Nk M true X) 1 i = Sk0.n ∧ getN (outSIRHetMF T Sk0 Nk M true X) 2 i = Nk.n ∧
    getN (outSIRHetMF T Sk0 Nk M true X) 3 i = M := ⟨rfl, rfl, rfl⟩

/-- the returned sums are the sums of the classes of the full-data variant -/
theorem outSIRHetMF_sums (Sk0 Nk : V) (M : Nat) (i : Nat) :
    get (outSIRHetMF T Sk0 Nk M false X) 1 i = sumTo Sk0.n (getM (outSIRHetMF T Sk0 Nk M true X) 1 i) ∧
    get (outSIRHetMF T Sk0 Nk M false X) 2 i = sumTo Nk.n (getM (outSIRHetMF T Sk0 Nk M true X) 2 i) ∧
    get (outSIRHetMF T Sk0 Nk M false X) 3 i = sumTo M (getM (outSIRHetMF T Sk0 Nk M true X) 3 i) := ⟨rfl, rfl, rfl⟩

theorem outSIRHetMF_init_full (Sk0 Ik0 Rk0 : V) (hX : X 0 = V.append (V.ofList [1]) Rk0) (k : Nat) :
    getM (outSIRHetMF T Sk0 (vadd (vadd Sk0 Ik0) Rk0) Rk0.n true X) 1 0 k = Sk0.f k ∧
    getM (outSIRHetMF T Sk0 (vadd (vadd Sk0 Ik0) Rk0) Rk0.n true X) 2 0 k = Ik0.f k ∧
    getM (outSIRHetMF T Sk0 (vadd (vadd Sk0 Ik0) Rk0) Rk0.n true X) 3 0 k = Rk0.f k := by
  simp only [outSIRHetMF, if_true, getM, getV_succ, getV_zero_m, hX, append_f_one, append_f_one_zero, one_pow,
    mul_one, vadd_f]
  refine ⟨trivial, ?_, trivial⟩
  ring

theorem outSIRHetMF_init (Sk0 Ik0 Rk0 : V) (hX : X 0 = V.append (V.ofList [1]) Rk0) :
    get (outSIRHetMF T Sk0 (vadd (vadd Sk0 Ik0) Rk0) Rk0.n false X) 1 0 = sumTo Sk0.n Sk0.f ∧
    get (outSIRHetMF T Sk0 (vadd (vadd Sk0 Ik0) Rk0) Rk0.n false X) 2 0 = sumTo Sk0.n Ik0.f ∧
    get (outSIRHetMF T Sk0 (vadd (vadd Sk0 Ik0) Rk0) Rk0.n false X) 3 0 = sumTo Rk0.n Rk0.f := by
  simp only [outSIRHetMF, Bool.false_eq_true, if_false, get_succ, get_zero_s, hX, append_f_one, append_f_one_zero,
    one_pow, mul_one, vadd_f, vadd_n]
  refine ⟨trivial, ?_, trivial⟩
  apply ODE.sumTo_congr
  intro k _
  ring

end out

/-- the toy solver of the closed examples: row `i` moves `i` units from component 0 to component 1 -/
def toyOdeint : Solver :=
  fun _ X0 i => ⟨X0.n, fun k => X0.f k + (i : Rat) * (if k = 0 then -1 else if k = 1 then 1 else 0)⟩

theorem toyOdeint_zero (rhs : V → V) (X0 : V) : toyOdeint rhs X0 0 = X0 := by
  cases X0
  simp only [toyOdeint, Nat.cast_zero, zero_mul, add_zero]


def serAt (s : Ser) (i : Nat) : List Rat :=
  match s with
  | Ser.s f => [f i]
  | Ser.m f => (f i).toList

/-- the result of an entry point read at time index `i` (decidable equality: used by the closed examples) -/
def rowAt (r : Except String (List Ser)) (i : Nat) : String ⊕ List (List Rat) :=
  match r with
  | .error e => .inl e
  | .ok l => .inr (l.map (fun s => serAt s i))

/-- a solver that does not preserve the sum of the state (adds `i` to every component in row `i`) -/
def badOdeint : Solver := fun _ X0 i => ⟨X0.n, fun k => X0.f k + (i : Rat)⟩

end GenGlueProofs
