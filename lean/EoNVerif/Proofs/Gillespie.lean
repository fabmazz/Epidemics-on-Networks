import EoNVerif.Model.Gillespie
import EoNVerif.Model.GillespieLaw
import EoNVerif.Spec.Chain
import EoNVerif.Proofs.ListDict
import EoNVerif.Proofs.TapeStep
import EoNVerif.Proofs.Rows
import Mathlib.Data.List.Nodup
/-!
`Gillespie_SIR` / `Gillespie_SIS` (C01 / C02): `Gillespie.WF` and `Gillespie.Inv`, which says that `infecteds` and `IS_links` each track their set of candidates
(`inv_iff`, `LD.Tracks`); the neighbour loops and the initial loop written as batches of `_ListDict_` operations that
retarget the structures (`LD.Tracks.applyOps`); invariant preservation of the event applications; the rule for the main loop in the form `TM.Safe` of
`Proofs/TapeStep.lean` (`loop_safe`, `run_safe`; `loop_ind`, `run_ind` are the same read off one successful run), of which every loop
invariant here and in `GillespieOut*` is an instance; the clock and the one-step jump law.
A name ending in `'` (here: `applyRec_inv'`, `applyTrans_inv'`, `init_inv'`, `enabled_iff'`, `clock_eq'`,
`jump_law_support'`) is restated in `Props/C01` without the prime, with the hypotheses of the property.
-/

namespace Chain

def rate (P : GParams) : GEvent → Rat
  | .recover u => nodeRate P u
  | .transmit u v => edgeRate P u v

end Chain

namespace Gillespie

/-- well-formed undirected simple contact network with non-negative symmetric weights -/
structure WF (P : GParams) : Prop where
  nodup : P.nodes.Nodup
  nbr_nodup : ∀ u ∈ P.nodes, (P.nbrs u).Nodup
  nbr_mem : ∀ u ∈ P.nodes, ∀ v ∈ P.nbrs u, v ∈ P.nodes
  nbr_out : ∀ u, u ∉ P.nodes → P.nbrs u = []
  symm : ∀ u v, v ∈ P.nbrs u → u ∈ P.nbrs v
  noloop : ∀ u, u ∉ P.nbrs u
  ew_nonneg : ∀ f, P.ew = some f → ∀ u v, 0 ≤ f u v
  ew_symm : ∀ f, P.ew = some f → ∀ u v, f u v = f v u
  nw_nonneg : ∀ f, P.nw = some f → ∀ u, 0 ≤ f u
  tau_nonneg : 0 ≤ P.tau
  gamma_nonneg : 0 ≤ P.gamma

/-- The bookkeeping invariant: the two candidate structures equal the sets implied by the statuses. -/
structure Inv (P : GParams) (s : GState) : Prop where
  infInv : LD.Inv s.inf
  linkInv : LD.Inv s.links
  infW : s.inf.weighted = P.nw.isSome
  linkW : s.links.weighted = P.ew.isSome
  inf_items : ∀ u, u ∈ s.inf.items ↔ (u ∈ P.nodes ∧ s.status u = St.I)
  link_items : ∀ u v, (u, v) ∈ s.links.items ↔ (u ∈ P.nodes ∧ s.status u = St.I ∧ v ∈ P.nbrs u ∧ s.status v = St.S)
  inf_w : ∀ f, P.nw = some f → ∀ u ∈ s.inf.items, s.inf.getW u = f u
  link_w : ∀ f, P.ew = some f → ∀ p ∈ s.links.items, s.links.getW p = f p.1 p.2
  sis_noR : P.sis = true → ∀ u, s.status u ≠ St.R

/-! ### the neighbour loops as batches of operations -/

abbrev LOp := LD.Op (Node × Node)

/-! the operation each neighbour loop performs at one neighbour, and the batch of one loop -/

def initOp (P : GParams) (node : Node) (st : Node → St) (nbr : Node) : Option LOp :=
  if st nbr = St.S then some (.upd (node, nbr) (edgeW P node nbr)) else none

def recSIROp (u : Node) (st : Node → St) (nbr : Node) : Option LOp :=
  if st nbr = St.S then some (.rem (u, nbr)) else none

def recSISOp (P : GParams) (u : Node) (st : Node → St) (nbr : Node) : Option LOp :=
  if nbr = u then none
  else if st nbr = St.S then some (.rem (u, nbr))
  else some (.upd (nbr, u) (edgeW P u nbr))

def transOp (P : GParams) (v : Node) (st : Node → St) (nbr : Node) : Option LOp :=
  if st nbr = St.S then some (.upd (v, nbr) (edgeW P v nbr))
  else if (P.sis ∨ st nbr = St.I) ∧ nbr ≠ v then some (.rem (nbr, v))
  else none

def initLinksOps (P : GParams) (status : Node → St) (node : Node) (l : List Node) : List LOp :=
  l.filterMap (initOp P node status)

def recSIROps (status : Node → St) (u : Node) (l : List Node) : List LOp := l.filterMap (recSIROp u status)

def recSISOps (P : GParams) (status : Node → St) (u : Node) (l : List Node) : List LOp :=
  l.filterMap (recSISOp P u status)

def transOps (P : GParams) (status : Node → St) (v : Node) (l : List Node) : List LOp :=
  l.filterMap (transOp P v status)

theorem initLinks_eq (P : GParams) (status : Node → St) (node : Node) (l : List Node)
    (links : LD (Node × Node)) :
    initLinks P status node links l = links.applyOps (initLinksOps P status node l) := by
  induction l generalizing links with
  | nil => rfl
  | cons nbr rest ih =>
    unfold initLinks initLinksOps initOp
    by_cases h1 : status nbr = St.S
    · simp only [List.filterMap_cons, h1, if_true, LD.applyOps, LD.applyOp]
      cases links.update (node, nbr) (edgeW P node nbr) with
      | none => rfl
      | some l1 => exact ih l1
    · simp only [List.filterMap_cons, h1, if_false]
      exact ih links

theorem recLoopSIR_eq (status : Node → St) (u : Node) (l : List Node) (links : LD (Node × Node)) :
    recLoopSIR status u links l = links.applyOps (recSIROps status u l) := by
  induction l generalizing links with
  | nil => rfl
  | cons nbr rest ih =>
    unfold recLoopSIR recSIROps recSIROp
    by_cases h1 : status nbr = St.S
    · simp only [List.filterMap_cons, h1, if_true, LD.applyOps, LD.applyOp]
      cases links.remove (u, nbr) with
      | none => rfl
      | some l1 => exact ih l1
    · simp only [List.filterMap_cons, h1, if_false]
      exact ih links

theorem recLoopSIS_eq (P : GParams) (status : Node → St) (u : Node) (l : List Node)
    (links : LD (Node × Node)) :
    recLoopSIS P status u links l = links.applyOps (recSISOps P status u l) := by
  induction l generalizing links with
  | nil => rfl
  | cons nbr rest ih =>
    unfold recLoopSIS recSISOps recSISOp
    by_cases h0 : nbr = u
    · simp only [List.filterMap_cons, h0, if_true]
      exact ih links
    · by_cases h1 : status nbr = St.S
      · simp only [List.filterMap_cons, h0, h1, if_true, if_false, LD.applyOps, LD.applyOp]
        cases links.remove (u, nbr) with
        | none => rfl
        | some l1 => exact ih l1
      · simp only [List.filterMap_cons, h0, h1, if_false, LD.applyOps, LD.applyOp]
        cases links.update (nbr, u) (edgeW P u nbr) with
        | none => rfl
        | some l1 => exact ih l1

theorem transLoop_eq (P : GParams) (status : Node → St) (v : Node) (l : List Node)
    (links : LD (Node × Node)) :
    transLoop P status v links l = links.applyOps (transOps P status v l) := by
  induction l generalizing links with
  | nil => rfl
  | cons nbr rest ih =>
    unfold transLoop transOps transOp
    by_cases h1 : status nbr = St.S
    · simp only [List.filterMap_cons, h1, if_true, LD.applyOps, LD.applyOp]
      cases links.update (v, nbr) (edgeW P v nbr) with
      | none => rfl
      | some l1 => exact ih l1
    · by_cases h2 : (P.sis ∨ status nbr = St.I) ∧ nbr ≠ v
      · simp only [List.filterMap_cons, h1, if_false]
        rw [if_pos h2, if_pos h2]
        simp only [LD.applyOps, LD.applyOp]
        cases links.remove (nbr, v) with
        | none => rfl
        | some l1 => exact ih l1
      · simp only [List.filterMap_cons, h1, if_false]
        rw [if_neg h2, if_neg h2]
        exact ih links

theorem mem_initLinksOps_upd (P : GParams) (st : Node → St) (node : Node) (l : List Node) (p : Node × Node)
    (w : Option Rat) :
    LD.Op.upd p w ∈ initLinksOps P st node l ↔
      (p.1 = node ∧ p.2 ∈ l ∧ st p.2 = St.S ∧ w = edgeW P node p.2) := by
  simp only [initLinksOps, initOp, List.mem_filterMap]; grind

theorem mem_recSIROps_upd (st : Node → St) (u : Node) (l : List Node) (p : Node × Node) (w : Option Rat) :
    LD.Op.upd p w ∉ recSIROps st u l := by
  simp only [recSIROps, recSIROp, List.mem_filterMap]; grind

theorem mem_recSIROps_rem (st : Node → St) (u : Node) (l : List Node) (p : Node × Node) :
    LD.Op.rem p ∈ recSIROps st u l ↔ (p.1 = u ∧ p.2 ∈ l ∧ st p.2 = St.S) := by
  simp only [recSIROps, recSIROp, List.mem_filterMap]; grind

theorem mem_recSISOps_upd (P : GParams) (st : Node → St) (u : Node) (l : List Node) (p : Node × Node)
    (w : Option Rat) :
    LD.Op.upd p w ∈ recSISOps P st u l ↔
      (p.2 = u ∧ p.1 ∈ l ∧ p.1 ≠ u ∧ st p.1 ≠ St.S ∧ w = edgeW P u p.1) := by
  simp only [recSISOps, recSISOp, List.mem_filterMap]; grind

theorem mem_recSISOps_rem (P : GParams) (st : Node → St) (u : Node) (l : List Node) (p : Node × Node) :
    LD.Op.rem p ∈ recSISOps P st u l ↔ (p.1 = u ∧ p.2 ∈ l ∧ p.2 ≠ u ∧ st p.2 = St.S) := by
  simp only [recSISOps, recSISOp, List.mem_filterMap]; grind

theorem mem_transOps_upd (P : GParams) (st : Node → St) (v : Node) (l : List Node) (p : Node × Node)
    (w : Option Rat) :
    LD.Op.upd p w ∈ transOps P st v l ↔ (p.1 = v ∧ p.2 ∈ l ∧ st p.2 = St.S ∧ w = edgeW P v p.2) := by
  simp only [transOps, transOp, List.mem_filterMap]; grind

theorem mem_transOps_rem (P : GParams) (st : Node → St) (v : Node) (l : List Node) (p : Node × Node) :
    LD.Op.rem p ∈ transOps P st v l ↔
      (p.2 = v ∧ p.1 ∈ l ∧ st p.1 ≠ St.S ∧ (P.sis = true ∨ st p.1 = St.I) ∧ p.1 ≠ v) := by
  simp only [transOps, transOp, List.mem_filterMap]; grind

theorem initLinksOps_keys (P : GParams) (st : Node → St) (node : Node) (l : List Node) (hl : l.Nodup) :
    (initLinksOps P st node l).Pairwise fun a b => a.key ≠ b.key := by
  refine List.Pairwise.filterMap (R := (· ≠ ·)) _ ?_ hl
  intro a a' hne b hb b' hb'
  grind [LD.Op.key, initOp]

theorem recSIROps_keys (st : Node → St) (u : Node) (l : List Node) (hl : l.Nodup) :
    (recSIROps st u l).Pairwise fun a b => a.key ≠ b.key := by
  refine List.Pairwise.filterMap (R := (· ≠ ·)) _ ?_ hl
  intro a a' hne b hb b' hb'
  grind [LD.Op.key, recSIROp]

theorem recSISOps_keys (P : GParams) (st : Node → St) (u : Node) (l : List Node) (hl : l.Nodup) :
    (recSISOps P st u l).Pairwise fun a b => a.key ≠ b.key := by
  refine List.Pairwise.filterMap (R := (· ≠ ·)) _ ?_ hl
  intro a a' hne b hb b' hb'
  grind [LD.Op.key, recSISOp]

theorem transOps_keys (P : GParams) (st : Node → St) (v : Node) (l : List Node) (hl : l.Nodup) :
    (transOps P st v l).Pairwise fun a b => a.key ≠ b.key := by
  refine List.Pairwise.filterMap (R := (· ≠ ·)) _ ?_ hl
  intro a a' hne b hb b' hb'
  grind [LD.Op.key, transOp]

theorem edgeW_isSome (P : GParams) (a b : Node) : (edgeW P a b).isSome = P.ew.isSome := by
  unfold edgeW; cases P.ew <;> rfl

theorem nodeW_isSome (P : GParams) (a : Node) : (nodeW P a).isSome = P.nw.isSome := by
  unfold nodeW; cases P.nw <;> rfl

theorem edgeW_some (P : GParams) (f : Node → Node → Rat) (hf : P.ew = some f) (a b : Node) :
    edgeW P a b = some (f a b) := by
  unfold edgeW; rw [hf]; rfl

theorem nodeW_some (P : GParams) (f : Node → Rat) (hf : P.nw = some f) (a : Node) :
    nodeW P a = some (f a) := by
  unfold nodeW; rw [hf]; rfl

theorem edgeW_nonneg (P : GParams) (h : WF P) (a b : Node) (x : Rat) (hx : edgeW P a b = some x) : 0 ≤ x := by
  cases hf : P.ew with
  | none => simp [edgeW, hf] at hx
  | some f =>
    rw [edgeW_some P f hf] at hx
    obtain rfl := Option.some.inj hx
    exact h.ew_nonneg f hf a b

theorem nodeW_nonneg (P : GParams) (h : WF P) (a : Node) (x : Rat) (hx : nodeW P a = some x) : 0 ≤ x := by
  cases hf : P.nw with
  | none => simp [nodeW, hf] at hx
  | some f =>
    rw [nodeW_some P f hf] at hx
    obtain rfl := Option.some.inj hx
    exact h.nw_nonneg f hf a

theorem St.eq_I_of (x : St) (h1 : x ≠ St.S) (h2 : x ≠ St.R) : x = St.I := by
  cases x <;> simp_all

def InfT (P : GParams) (st : Node → St) (u : Node) : Prop := u ∈ P.nodes ∧ st u = St.I
def LinkT (P : GParams) (st : Node → St) (p : Node × Node) : Prop :=
  p.1 ∈ P.nodes ∧ st p.1 = St.I ∧ p.2 ∈ P.nbrs p.1 ∧ st p.2 = St.S
abbrev linkW (P : GParams) (p : Node × Node) : Option Rat := edgeW P p.1 p.2

/-- `Inv` says: `infecteds` tracks the infectious nodes, `IS_links` the I–S links, and SIS has no `R` -/
theorem inv_iff (P : GParams) (s : GState) :
    Inv P s ↔ s.inf.Tracks (nodeW P) (InfT P s.status) ∧ s.links.Tracks (linkW P) (LinkT P s.status) ∧
      (P.sis = true → ∀ u, s.status u ≠ St.R) := by
  constructor
  · intro hs
    refine ⟨⟨hs.infInv, fun x => (nodeW_isSome P x).trans hs.infW.symm, hs.inf_items, fun x v hx hv => ?_⟩,
      ⟨hs.linkInv, fun x => (edgeW_isSome P _ _).trans hs.linkW.symm, fun p => hs.link_items p.1 p.2,
        fun p v hp hv => ?_⟩, hs.sis_noR⟩
    · cases hf : P.nw with
      | none => simp [nodeW, hf] at hv
      | some f =>
        rw [nodeW_some P f hf] at hv
        exact (hs.inf_w f hf x ((hs.inf_items x).2 hx)).trans (Option.some.inj hv)
    · cases hf : P.ew with
      | none => simp [linkW, edgeW, hf] at hv
      | some f =>
        rw [linkW, edgeW_some P f hf] at hv
        exact (hs.link_w f hf p ((hs.link_items p.1 p.2).2 hp)).trans (Option.some.inj hv)
  · rintro ⟨hI, hL, hR⟩
    exact ⟨hI.inv, hL.inv, (hI.flag 0).symm.trans (nodeW_isSome P 0), (hL.flag (0, 0)).symm.trans (edgeW_isSome P 0 0),
      hI.mem, fun u v => hL.mem (u, v),
      fun f hf u hu => hI.getW u (f u) ((hI.mem u).1 hu) (nodeW_some P f hf u),
      fun f hf p hp => hL.getW p (f p.1 p.2) ((hL.mem p).1 hp) (edgeW_some P f hf _ _), hR⟩

theorem linkW_nonneg (P : GParams) (h : WF P) (x : Node × Node) (v : Rat) (hv : linkW P x = some v) : 0 ≤ v :=
  edgeW_nonneg P h _ _ v hv

theorem trans_links (P : GParams) (h : WF P) (s : GState) (hs : Inv P s) (u v : Node)
    (huv : (u, v) ∈ s.links.items) :
    ∃ links', transLoop P (fset s.status v St.I) v s.links (P.nbrs v) = some links' ∧
      links'.Tracks (linkW P) (LinkT P (fset s.status v St.I)) := by
  obtain ⟨hu, hsu, hvu, hsv⟩ := (hs.link_items u v).1 huv
  have hvn : v ∈ P.nodes := h.nbr_mem u hu v hvu
  rw [transLoop_eq]
  refine ((inv_iff P s).1 hs).2.1.applyOps _ (linkW_nonneg P h) _
    ((transOps_keys P _ v _ (h.nbr_nodup v hvn)).imp Or.inl) (fun o ho => ?_) fun p => ?_
  · obtain ⟨n, hn, hg⟩ := List.mem_filterMap.1 ho
    unfold transOp at hg
    split at hg
    · cases hg
      exact ⟨rfl, Or.inl fun hc => by have := hc.2.1; rw [hsv] at this; cases this⟩
    · split at hg
      · cases hg
        rename_i h1 h2
        obtain ⟨h2, h3⟩ := h2
        rw [fset_ne _ _ _ _ h3] at h1 h2
        exact ⟨h.nbr_mem v hvn n hn, h2.elim (fun h2 => St.eq_I_of _ h1 (hs.sis_noR h2 n)) id, h.symm v n hn, hsv⟩
      · cases hg
  · have hsym := h.symm
    have hnoR := hs.sis_noR
    have hmemn := h.nbr_mem v hvn
    simp only [mem_transOps_upd, mem_transOps_rem, LinkT, fset]
    grind

theorem recSIR_links (P : GParams) (h : WF P) (s : GState) (hs : Inv P s) (u : Node)
    (hu : u ∈ s.inf.items) :
    ∃ links', recLoopSIR (fset s.status u St.R) u s.links (P.nbrs u) = some links' ∧
      links'.Tracks (linkW P) (LinkT P (fset s.status u St.R)) := by
  obtain ⟨hun, hsu⟩ := (hs.inf_items u).1 hu
  rw [recLoopSIR_eq]
  refine ((inv_iff P s).1 hs).2.1.applyOps _ (linkW_nonneg P h) _
    ((recSIROps_keys _ u _ (h.nbr_nodup u hun)).imp Or.inl) (fun o ho => ?_) fun p => ?_
  · obtain ⟨n, hn, hg⟩ := List.mem_filterMap.1 ho
    unfold recSIROp at hg
    split at hg
    · cases hg
      rename_i h1
      have hne : n ≠ u := by
        rintro rfl; rw [fset_self] at h1; cases h1
      rw [fset_ne _ _ _ _ hne] at h1
      exact ⟨hun, hsu, hn, h1⟩
    · cases hg
  · simp only [mem_recSIROps_upd, mem_recSIROps_rem, LinkT, fset]
    grind

theorem recSIS_links (P : GParams) (h : WF P) (s : GState) (hs : Inv P s) (u : Node)
    (hu : u ∈ s.inf.items) (hsis : P.sis = true) :
    ∃ links', recLoopSIS P (fset s.status u St.S) u s.links (P.nbrs u) = some links' ∧
      links'.Tracks (linkW P) (LinkT P (fset s.status u St.S)) := by
  obtain ⟨hun, hsu⟩ := (hs.inf_items u).1 hu
  have hews : ∀ a, edgeW P u a = edgeW P a u := fun a => by
    cases hf : P.ew with
    | none => simp [edgeW, hf]
    | some f => rw [edgeW_some P f hf, edgeW_some P f hf, h.ew_symm f hf]
  rw [recLoopSIS_eq]
  refine ((inv_iff P s).1 hs).2.1.applyOps _ (linkW_nonneg P h) _
    ((recSISOps_keys P _ u _ (h.nbr_nodup u hun)).imp Or.inl) (fun o ho => ?_) fun p => ?_
  · obtain ⟨n, hn, hg⟩ := List.mem_filterMap.1 ho
    unfold recSISOp at hg
    split at hg
    · cases hg
    · rename_i hne
      split at hg
      · cases hg
        rename_i h1
        rw [fset_ne _ _ _ _ hne] at h1
        exact ⟨hun, hsu, hn, h1⟩
      · cases hg
        exact ⟨hews n, Or.inl fun hc => by have := hc.2.2.2; rw [hsu] at this; cases this⟩
  · have hsym := h.symm
    have hI : ∀ x, s.status x ≠ St.S → s.status x = St.I :=
      fun x hx => St.eq_I_of _ hx (hs.sis_noR hsis x)
    have hnl := h.noloop
    have hnm := h.nbr_mem u hun
    simp only [mem_recSISOps_upd, mem_recSISOps_rem, LinkT, fset]
    grind

/-! ### event applications preserve the invariant -/

theorem applyRec_inv' (P : GParams) (h : WF P) (s : GState) (hs : Inv P s) (u : Node) (t : Rat)
    (hu : u ∈ s.inf.items) :
    ∃ s', applyRec P s u t = some s' ∧ Inv P s' ∧ s'.status = Chain.apply P s.status (.recover u) := by
  obtain ⟨hI, -, hR⟩ := (inv_iff P s).1 hs
  obtain ⟨hun, hsu⟩ := (hI.mem u).1 hu
  obtain ⟨inf', hinf', hI'⟩ := hI.remove u ⟨hun, hsu⟩
  cases hsis : P.sis with
  | true =>
    obtain ⟨links', hl, hL'⟩ := recSIS_links P h s hs u hu hsis
    simp only [applyRec, hinf', hsis, if_true, hl]
    refine ⟨_, rfl, (inv_iff P _).2 ⟨hI'.congr fun a => ?_, hL', fun _ a => ?_⟩, by simp [Chain.apply, hsis]⟩
    · simp only [InfT, fset]; grind
    · have := hR hsis a; simp only [fset]; grind
  | false =>
    obtain ⟨links', hl, hL'⟩ := recSIR_links P h s hs u hu
    simp only [applyRec, hinf', hsis, Bool.false_eq_true, if_false, hl]
    refine ⟨_, rfl, (inv_iff P _).2 ⟨hI'.congr fun a => ?_, hL', fun hc => by rw [hsis] at hc; cases hc⟩,
      by simp [Chain.apply, hsis]⟩
    simp only [InfT, fset]; grind

theorem applyTrans_inv' (P : GParams) (h : WF P) (s : GState) (hs : Inv P s) (u v : Node) (t : Rat)
    (huv : (u, v) ∈ s.links.items) :
    ∃ s', applyTrans P s u v t = some s' ∧ Inv P s' ∧
      s'.status = Chain.apply P s.status (.transmit u v) := by
  obtain ⟨hI, hL, hR⟩ := (inv_iff P s).1 hs
  obtain ⟨hu, hsu, hvu, hsv⟩ := (hL.mem (u, v)).1 huv
  have hvn : v ∈ P.nodes := h.nbr_mem u hu v hvu
  obtain ⟨inf', hinf', hI'⟩ := hI.update (nodeW_nonneg P h) v (fun hc => by rw [hc.2] at hsv; cases hsv)
  obtain ⟨links', hl, hL'⟩ := trans_links P h s hs u v huv
  simp only [applyTrans, hinf', hl]
  refine ⟨_, rfl, (inv_iff P _).2 ⟨hI'.congr fun a => ?_, hL', fun hsis a => ?_⟩, by simp [Chain.apply]⟩
  · simp only [InfT, fset]; grind
  · have := hR hsis a; simp only [fset]; grind

/-! ### the initial state -/

/-- the two candidate structures are filled independently: `infecteds` by one `update` per initial node, `IS_links` by
the batches of the initial nodes one after the other -/
theorem initLoop_eq (P : GParams) (status : Node → St) (l : List Node) (inf : LD Node) (links : LD (Node × Node)) :
    initLoop P status l inf links =
      (inf.applyOps (l.map fun n => .upd n (nodeW P n))).bind fun inf' =>
        (links.applyOps (l.flatMap fun n => initLinksOps P status n (P.nbrs n))).map fun links' => (inf', links') := by
  induction l generalizing inf links with
  | nil => rfl
  | cons node rest ih =>
    rw [initLoop, List.map_cons, List.flatMap_cons, LD.applyOps_append, ← initLinks_eq]
    simp only [LD.applyOps, LD.applyOp]
    cases inf.update node (nodeW P node) with
    | none => rfl
    | some inf' =>
      cases initLinks P status node links (P.nbrs node) with
      | none => simp
      | some links' => exact ih inf' links'

theorem initLinksOps_src (P : GParams) (st : Node → St) (n : Node) (l : List Node) (o : LOp)
    (ho : o ∈ initLinksOps P st n l) : ∃ m ∈ l, st m = St.S ∧ o = .upd (n, m) (edgeW P n m) := by
  simp only [initLinksOps, initOp, List.mem_filterMap] at ho; grind

theorem init_inv' (P : GParams) (h : WF P) (infs recs : List Node) (tmin : Rat)
    (hi : infs.Nodup) (him : ∀ u ∈ infs, u ∈ P.nodes) (hd : ∀ u ∈ infs, u ∉ recs)
    (hsis : P.sis = true → recs = []) :
    ∃ s, init P infs recs tmin = some s ∧ Inv P s ∧ s.status = initStatus infs recs := by
  have hstI : ∀ a, initStatus infs recs a = St.I ↔ a ∈ infs := by
    intro a
    unfold initStatus
    by_cases h1 : a ∈ recs
    · simp only [h1, if_true]
      exact ⟨nofun, fun hc => absurd h1 (hd a hc)⟩
    · by_cases h2 : a ∈ infs <;> simp [h1, h2]
  -- both structures start empty and are filled by a batch of `update`s only
  obtain ⟨inf', hI, hI'⟩ := (LD.Tracks.empty P.nw.isSome (nodeW P) (nodeW_isSome P)).applyOps
    (InfT P (initStatus infs recs)) (nodeW_nonneg P h) (infs.map fun n => .upd n (nodeW P n))
    (List.pairwise_map.2 (hi.imp Or.inl))
    (fun o ho => by obtain ⟨n, -, rfl⟩ := List.mem_map.1 ho; exact ⟨rfl, Or.inl id⟩)
    (fun a => by
      rw [InfT, hstI]
      constructor
      · exact fun ha => Or.inr ⟨_, List.mem_map.2 ⟨a, ha.2, rfl⟩⟩
      · rintro (⟨hf, -⟩ | ⟨v, hv⟩)
        · exact hf.elim
        · obtain ⟨n, hn, e⟩ := List.mem_map.1 hv
          cases e
          exact ⟨him _ hn, hn⟩)
  obtain ⟨links', hL, hL'⟩ := (LD.Tracks.empty P.ew.isSome (linkW P) (fun p => edgeW_isSome P p.1 p.2)).applyOps
    (LinkT P (initStatus infs recs)) (linkW_nonneg P h)
    (infs.flatMap fun n => initLinksOps P (initStatus infs recs) n (P.nbrs n))
    (List.pairwise_flatMap.2 ⟨fun n hn => (initLinksOps_keys P _ n _ (h.nbr_nodup n (him n hn))).imp Or.inl,
      hi.imp fun hab x hx y hy => Or.inl fun hxy => by
        obtain ⟨_, -, -, rfl⟩ := initLinksOps_src P _ _ _ x hx
        obtain ⟨_, -, -, rfl⟩ := initLinksOps_src P _ _ _ y hy
        exact hab (Prod.mk.inj hxy).1⟩)
    (fun o ho => by
      obtain ⟨n, -, ho'⟩ := List.mem_flatMap.1 ho
      obtain ⟨m, -, -, rfl⟩ := initLinksOps_src P _ _ _ o ho'
      exact ⟨rfl, Or.inl id⟩)
    (fun p => by
      simp only [LinkT, hstI, false_and, false_or, List.mem_flatMap, mem_initLinksOps_upd]
      clear hI hI' hstI
      grind)
  refine ⟨_, by simp only [init, initLoop_eq, hI, hL]; rfl, (inv_iff P _).2 ⟨hI', hL', fun hs a => ?_⟩, rfl⟩
  show initStatus infs recs a ≠ St.R
  unfold initStatus
  rw [hsis hs]
  by_cases h2 : a ∈ infs <;> simp [h2]

theorem safe_chooseTM (nn : Prop) {α : Type} [DecidableEq α] (enc : α → List Nat) (ld : LD α) (fuel : Nat) :
    TM.Safe nn (chooseTM enc ld fuel) (· ∈ ld.items) := by
  induction fuel with
  | zero => exact .fail (by simp)
  | succ fuel ih =>
    rw [chooseTM]
    refine .bind (TM.safe_popChoice nn _) fun i _ => ?_
    cases hi : ld.items[i]? with
    | none => exact .fail (by simp)
    | some c =>
      have hmem : c ∈ ld.items := List.mem_of_getElem? hi
      dsimp only
      split
      · exact .pure hmem
      · split
        · exact .fail (by simp)
        · refine .bind (TM.safe_popUnif nn) fun r _ => ?_
          split
          · exact .pure hmem
          · exact ih

/-- the event is enabled in `s`: its candidate is in the corresponding `_ListDict_` -/
def Enabled (s : GState) : GEvent → Prop
  | .recover u => u ∈ s.inf.items
  | .transmit u v => (u, v) ∈ s.links.items

theorem safe_pick (nn : Prop) (P : GParams) (s : GState) (fuel : Nat) : TM.Safe nn (pick P s fuel) (Enabled s) := by
  unfold pick
  refine .bind (TM.safe_popUnif nn) fun r _ => ?_
  split
  · exact .bind (safe_chooseTM nn _ _ _) fun u hu => .pure hu
  · exact .bind (safe_chooseTM nn _ _ _) fun p hp => .pure hp

theorem applyEvent_spec (P : GParams) (h : WF P) (s : GState) (hs : Inv P s) (e : GEvent) (t : Rat)
    (he : Enabled s e) :
    ∃ s', applyEvent P s e t = some s' ∧ Inv P s' ∧ s'.status = Chain.apply P s.status e := by
  cases e with
  | recover u => exact applyRec_inv' P h s hs u t he
  | transmit u v => exact applyTrans_inv' P h s hs u v t he

/-- an enabled event can be applied: no KeyError, invariant preserved -/
theorem applyEvent_inv (P : GParams) (h : WF P) (s : GState) (hs : Inv P s) (e : GEvent) (t : Rat)
    (he : Enabled s e) :
    ∃ s', applyEvent P s e t = some s' ∧ Inv P s' :=
  have ⟨s', h1, h2, _⟩ := applyEvent_spec P h s hs e t he
  ⟨s', h1, h2⟩

/-! ### shapes of the event applications -/

theorem applyRec_shape (P : GParams) (s s' : GState) (u : Node) (t : Rat) (h : applyRec P s u t = some s') :
    s'.status = fset s.status u (if P.sis then St.S else St.R) ∧ s'.times = t :: s.times ∧
    s'.S = (if P.sis then hd s.S + 1 else hd s.S) :: s.S ∧ s'.I = (hd s.I - 1) :: s.I ∧
    s'.R = (if P.sis then s.R else (hd s.R + 1) :: s.R) ∧ s'.log = (t, GEvent.recover u) :: s.log := by
  unfold applyRec at h
  cases h1 : s.inf.remove u with
  | none => simp [h1] at h
  | some inf =>
    cases h2 : (if P.sis then recLoopSIS P (fset s.status u (if P.sis then St.S else St.R)) u s.links (P.nbrs u)
               else recLoopSIR (fset s.status u (if P.sis then St.S else St.R)) u s.links (P.nbrs u)) with
    | none => simp [h1, h2] at h
    | some links =>
      simp only [h1, h2, Option.bind_eq_bind, Option.bind_some, Option.pure_def, Option.some.injEq] at h
      subst h
      exact ⟨rfl, rfl, rfl, rfl, rfl, rfl⟩

theorem applyTrans_shape (P : GParams) (s s' : GState) (u v : Node) (t : Rat)
    (h : applyTrans P s u v t = some s') :
    s'.status = fset s.status v St.I ∧ s'.times = t :: s.times ∧
    s'.S = (hd s.S - 1) :: s.S ∧ s'.I = (hd s.I + 1) :: s.I ∧
    s'.R = (if P.sis then s.R else hd s.R :: s.R) ∧ s'.log = (t, GEvent.transmit u v) :: s.log := by
  unfold applyTrans at h
  cases h1 : s.inf.update v (nodeW P v) with
  | none => simp [h1] at h
  | some inf =>
    cases h2 : transLoop P (fset s.status v St.I) v s.links (P.nbrs v) with
    | none => simp [h1, h2] at h
    | some links =>
      simp only [h1, h2, Option.bind_eq_bind, Option.bind_some, Option.pure_def, Option.some.injEq] at h
      subst h
      exact ⟨rfl, rfl, rfl, rfl, rfl, rfl⟩

theorem init_shape (P : GParams) (infs recs : List Node) (tmin : Rat) (s0 : GState)
    (h0 : init P infs recs tmin = some s0) :
    s0.status = initStatus infs recs ∧ s0.times = [tmin] ∧
    s0.S = [(P.nodes.length : Int) - (infs.length : Int) - (recs.length : Int)] ∧
    s0.I = [(infs.length : Int)] ∧ s0.R = [(recs.length : Int)] ∧ s0.log = [] := by
  unfold init at h0
  dsimp only at h0
  cases hl : initLoop P (initStatus infs recs) infs (LD.empty P.nw.isSome) (LD.empty P.ew.isSome) with
  | none => rw [hl] at h0; cases h0
  | some p =>
    obtain ⟨inf, links⟩ := p
    rw [hl] at h0
    cases h0
    exact ⟨rfl, rfl, rfl, rfl, rfl, rfl⟩

/-- time of the latest row -/
def lastT (s : GState) : Rat := s.times.headD 0

theorem applyEvent_shape (P : GParams) (s s' : GState) (e : GEvent) (t : Rat)
    (h : applyEvent P s e t = some s') :
    s'.status = Chain.apply P s.status e ∧ s'.times = t :: s.times ∧ s'.log = (t, e) :: s.log := by
  cases e with
  | recover u => obtain ⟨h1, h2, -, -, -, h6⟩ := applyRec_shape P s s' u t h; exact ⟨h1, h2, h6⟩
  | transmit u v => obtain ⟨h1, h2, -, -, -, h6⟩ := applyTrans_shape P s s' u v t h; exact ⟨h1, h2, h6⟩

theorem applyEvent_lastT (P : GParams) (s s' : GState) (e : GEvent) (t : Rat)
    (h : applyEvent P s e t = some s') : lastT s' = t := by
  rw [lastT, (applyEvent_shape P s s' e t h).2.1]; rfl

/-! ### the main loop

One rule for every invariant of the loop: a predicate `Q` kept by every enabled event holds, together with `Inv`, of
whatever the loop returns, and the loop never raises `KeyError`.  `c` switches the time bookkeeping on: with `c` (and
a non-negative tape) the step hypothesis may use that the new event time is at least the time of the latest row. -/

theorem loop_safe (P : GParams) (h : WF P) (tmax : ERat) (c : Prop) (Q : GState → Prop)
    (hstep : ∀ s e tv s', Inv P s → Q s → Enabled s e → (c → lastT s ≤ tv) → ERat.lt (some tv) tmax = true →
      applyEvent P s e tv = some s' → Q s')
    (cfuel fuel : Nat) (s : GState) (t : ERat) (hs : Inv P s) (hQ : Q s)
    (ht : c → ∀ tv, t = some tv → lastT s ≤ tv) :
    TM.Safe c (loop P tmax cfuel fuel s t) fun s' => Inv P s' ∧ Q s' := by
  induction fuel generalizing s t with
  | zero => rw [loop]; exact .fail (by simp)
  | succ fuel ih =>
    cases t with
    | none => rw [loop]; exact .pure ⟨hs, hQ⟩
    | some tv =>
      rw [loop]
      split
      · exact .pure ⟨hs, hQ⟩
      · rename_i hcond
        have hlt : ERat.lt (some tv) tmax = true := by
          by_contra hc
          exact hcond (Or.inr (by simp [hc]))
        refine .bind (safe_pick c P s cfuel) fun e hen => ?_
        obtain ⟨s1, hs1, hinv1⟩ := applyEvent_inv P h s hs e tv hen
        have hQ1 : Q s1 := hstep s e tv s1 hs hQ hen (fun hc => ht hc tv rfl) hlt hs1
        have hlast : lastT s1 = tv := applyEvent_lastT P s s1 e tv hs1
        rw [hs1]
        dsimp only
        split
        · refine .bind (TM.safe_popExpo c _) fun d hd => ih s1 _ hinv1 hQ1 fun hc tv' htv' => ?_
          obtain rfl := Option.some.inj htv'
          rw [hlast]; linarith [hd hc]
        · exact ih s1 _ hinv1 hQ1 fun _ tv' htv' => by cases htv'

theorem run_safe (P : GParams) (h : WF P) (infs recs : List Node) (tmin : Rat) (tmax : ERat) (c : Prop)
    (Q : GState → Prop)
    (hi : infs.Nodup) (him : ∀ u ∈ infs, u ∈ P.nodes) (hdis : ∀ u ∈ infs, u ∉ recs)
    (hsis : P.sis = true → recs = [])
    (hinit : ∀ s0, init P infs recs tmin = some s0 → Inv P s0 → s0.status = initStatus infs recs → Q s0)
    (hstep : ∀ s e tv s', Inv P s → Q s → Enabled s e → (c → lastT s ≤ tv) → ERat.lt (some tv) tmax = true →
      applyEvent P s e tv = some s' → Q s')
    (fuel cfuel : Nat) :
    TM.Safe c (run P infs recs tmin tmax fuel cfuel) fun s' => Inv P s' ∧ Q s' := by
  obtain ⟨s0, h0, hinv0, hst0⟩ := init_inv' P h infs recs tmin hi him hdis hsis
  have hQ0 := hinit s0 h0 hinv0 hst0
  have hl0 : lastT s0 = tmin := by
    obtain ⟨-, h2, -⟩ := init_shape P infs recs tmin s0 h0
    simp [lastT, h2]
  unfold run
  rw [h0]
  dsimp only
  split
  · refine .bind (TM.safe_popExpo c _) fun d hd =>
      loop_safe P h tmax c Q hstep cfuel fuel s0 _ hinv0 hQ0 fun hc tv' htv' => ?_
    obtain rfl := Option.some.inj htv'
    rw [hl0]; linarith [hd hc]
  · exact loop_safe P h tmax c Q hstep cfuel fuel s0 _ hinv0 hQ0 fun _ tv' htv' => by cases htv'

theorem loop_ind (P : GParams) (h : WF P) (tmax : ERat) (c : Prop) (Q : GState → Prop)
    (hstep : ∀ s e tv s', Inv P s → Q s → Enabled s e → (c → lastT s ≤ tv) → ERat.lt (some tv) tmax = true →
      applyEvent P s e tv = some s' → Q s')
    (cfuel fuel : Nat) (s s' : GState) (t : ERat) (ts ts' : TapeSt) (hs : Inv P s) (hQ : Q s)
    (hts : c → TapeNonneg ts) (ht : c → ∀ tv, t = some tv → lastT s ≤ tv)
    (hl : loop P tmax cfuel fuel s t ts = .ok (s', ts')) : Inv P s' ∧ Q s' :=
  (loop_safe P h tmax c Q hstep cfuel fuel s t hs hQ ht ts hts).inv hl

theorem run_ind (P : GParams) (h : WF P) (infs recs : List Node) (tmin : Rat) (tmax : ERat) (c : Prop)
    (Q : GState → Prop)
    (hi : infs.Nodup) (him : ∀ u ∈ infs, u ∈ P.nodes) (hdis : ∀ u ∈ infs, u ∉ recs)
    (hsis : P.sis = true → recs = [])
    (hinit : ∀ s0, init P infs recs tmin = some s0 → Inv P s0 → s0.status = initStatus infs recs → Q s0)
    (hstep : ∀ s e tv s', Inv P s → Q s → Enabled s e → (c → lastT s ≤ tv) → ERat.lt (some tv) tmax = true →
      applyEvent P s e tv = some s' → Q s')
    (fuel cfuel : Nat) (ts ts' : TapeSt) (hts : c → TapeNonneg ts) (s' : GState)
    (hrun : run P infs recs tmin tmax fuel cfuel ts = .ok (s', ts')) : Inv P s' ∧ Q s' :=
  (run_safe P h infs recs tmin tmax c Q hi him hdis hsis hinit hstep fuel cfuel ts hts).inv hrun

/-! ### enabled sets and the clock -/

theorem mem_enabledTrans (P : GParams) (st : Node → St) (a b : Node) :
    (a, b) ∈ Chain.enabledTrans P st ↔ (a ∈ P.nodes ∧ st a = St.I ∧ b ∈ P.nbrs a ∧ st b = St.S) := by
  simp only [Chain.enabledTrans, List.mem_flatMap]
  grind

theorem enabled_iff' (P : GParams) (s : GState) (hs : Inv P s) :
    (∀ u, u ∈ Chain.enabledRec P s.status ↔ u ∈ s.inf.items) ∧
    (∀ p, p ∈ Chain.enabledTrans P s.status ↔ p ∈ s.links.items) := by
  constructor
  · intro u
    rw [hs.inf_items]
    simp [Chain.enabledRec, List.mem_filter]
  · rintro ⟨a, b⟩
    rw [hs.link_items, mem_enabledTrans]

theorem enabledRec_nodup (P : GParams) (h : WF P) (st : Node → St) : (Chain.enabledRec P st).Nodup :=
  h.nodup.filter _

theorem enabledTrans_nodup (P : GParams) (h : WF P) (st : Node → St) : (Chain.enabledTrans P st).Nodup := by
  unfold Chain.enabledTrans
  rw [List.nodup_flatMap]
  constructor
  · intro x hx
    split
    · refine List.Nodup.map ?_ ((h.nbr_nodup x hx).filter _)
      intro a b hab
      exact (Prod.mk.inj hab).2
    · exact List.nodup_nil
  · refine h.nodup.pairwise_of_forall_ne ?_
    intro a _ b _ hab
    have key : ∀ (x : Node) (p : Node × Node),
        p ∈ (if st x = St.I then ((P.nbrs x).filter fun v => st v = St.S).map fun v => (x, v) else []) →
        p.1 = x := by
      intro x p hp
      split at hp
      · simp only [List.mem_map] at hp
        obtain ⟨y, -, rfl⟩ := hp
        rfl
      · simp at hp
    intro p hp1 hp2
    exact hab ((key a p hp1).symm.trans (key b p hp2))

theorem nodeRate_eq (P : GParams) (u : Node) : Chain.nodeRate P u = P.gamma * (nodeW P u).getD 1 := by
  unfold Chain.nodeRate nodeW; cases P.nw <;> rfl

theorem edgeRate_eq (P : GParams) (p : Node × Node) : Chain.edgeRate P p.1 p.2 = P.tau * (linkW P p).getD 1 := by
  unfold Chain.edgeRate linkW edgeW; cases P.ew <;> rfl

theorem clock_eq' (P : GParams) (h : WF P) (s : GState) (hs : Inv P s) :
    totalRate P s = Chain.totalRate P s.status := by
  obtain ⟨hI, hL, -⟩ := (inv_iff P s).1 hs
  unfold totalRate Chain.totalRate recRate transRate
  rw [hI.mul_totalWeight _ (enabledRec_nodup P h s.status) (fun u => by simp [Chain.enabledRec, InfT]),
    hL.mul_totalWeight _ (enabledTrans_nodup P h s.status) (fun p => mem_enabledTrans P _ p.1 p.2),
    funext (nodeRate_eq P)]
  simp only [edgeRate_eq]

/-! ### the one-step jump law -/
open Dist

/-- acceptance factor of the candidate structure used by event `e` in state `s`: `1 - ρ^k` if it is weighted
(rejection sampling), `1` otherwise (`LD.factor` of that structure, written out) -/
def stepFactor (s : GState) (k : Nat) : GEvent → Rat
  | .recover _ => if s.inf.weighted then 1 - s.inf.rejProb ^ k else 1
  | .transmit _ _ => if s.links.weighted then 1 - s.links.rejProb ^ k else 1

theorem mass_pick (P : GParams) (s : GState) (k : Nat) (Q : Option GEvent → Bool) :
    mass (pickDist P s k) Q =
      recThr P s * mass (s.inf.chooseDist k) (fun o => Q (o.map GEvent.recover)) +
      (1 - recThr P s) * mass (s.links.chooseDist k) (fun o => Q (o.map fun p => GEvent.transmit p.1 p.2)) := by
  unfold pickDist
  rw [mass_bern_bind]
  simp only [if_true, Bool.false_eq_true, if_false, mass_push]

/- `pred_<map>_<event>`: the event `· == some e` pulled back along the map that `pickDist` pushes the sampler's answer
through: `eqSome` of the candidate when the kinds agree, constantly `false` otherwise. -/
theorem pred_rec_rec (u : Node) :
    (fun o : Option Node => (o.map GEvent.recover == some (GEvent.recover u))) = LD.eqSome u := by
  funext o
  cases o <;> simp

theorem pred_trans_rec (u : Node) :
    (fun o : Option (Node × Node) => ((o.map fun p => GEvent.transmit p.1 p.2) == some (GEvent.recover u)))
      = (fun _ => false) := by
  funext o
  cases o <;> simp

theorem pred_rec_trans (u v : Node) :
    (fun o : Option Node => (o.map GEvent.recover == some (GEvent.transmit u v))) = (fun _ => false) := by
  funext o
  cases o <;> simp

theorem pred_trans_trans (u v : Node) :
    (fun o : Option (Node × Node) => ((o.map fun p => GEvent.transmit p.1 p.2) == some (GEvent.transmit u v)))
      = LD.eqSome (u, v) := by
  funext o
  cases o with
  | none => simp
  | some p => obtain ⟨a, b⟩ := p; simp

theorem mass_pick_rec (P : GParams) (s : GState) (k : Nat) (u : Node) :
    mass (pickDist P s k) (fun o => o == some (GEvent.recover u)) =
      recThr P s * mass (s.inf.chooseDist k) (LD.eqSome u) := by
  rw [mass_pick, pred_rec_rec, pred_trans_rec, mass_false]; ring

theorem mass_pick_trans (P : GParams) (s : GState) (k : Nat) (u v : Node) :
    mass (pickDist P s k) (fun o => o == some (GEvent.transmit u v)) =
      (1 - recThr P s) * mass (s.links.chooseDist k) (LD.eqSome (u, v)) := by
  rw [mass_pick, pred_rec_trans, pred_trans_trans, mass_false]; ring

/-- **jump law**: an enabled event is the next one with its share of the chain's total rate, times the probability
that the rejection sampler of its candidate structure finishes within `k` rounds -/
theorem jump_law_event (P : GParams) (h : WF P) (s : GState) (hs : Inv P s) (hpos : 0 < totalRate P s)
    (e : GEvent) (he : Enabled s e) (k : Nat) (hk : 0 < k) :
    mass (pickDist P s k) (fun o => o == some e) =
      Chain.rate P e / Chain.totalRate P s.status * stepFactor s k e := by
  obtain ⟨hI, hL, -⟩ := (inv_iff P s).1 hs
  rw [← clock_eq' P h s hs]
  cases e with
  | recover u =>
    rw [mass_pick_rec, recThr, recRate, hI.share_law u ((hI.mem u).1 he) k hk, Chain.rate, nodeRate_eq]; rfl
  | transmit u v =>
    have hthr : 1 - recThr P s = transRate P s / totalRate P s := by
      rw [recThr, one_sub_div hpos.ne', totalRate, add_sub_cancel_left]
    rw [mass_pick_trans, hthr, transRate, hL.share_law (u, v) ((hL.mem _).1 he) k hk, Chain.rate,
      edgeRate_eq P (u, v)]; rfl

theorem jump_law_support' (P : GParams) (s : GState) (k : Nat) (e : GEvent) (he : ¬ Enabled s e) :
    mass (pickDist P s k) (fun o => o == some e) = 0 := by
  cases e with
  | recover u =>
    rw [mass_pick_rec, LD.chooseDist_not_mem s.inf u he k]; ring
  | transmit u v =>
    rw [mass_pick_trans, LD.chooseDist_not_mem s.links (u, v) he k]; ring

end Gillespie
