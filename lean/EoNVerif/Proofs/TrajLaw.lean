import EoNVerif.Proofs.ListDict
import Mathlib.Algebra.Order.Archimedean.Basic
/-!
The law of finite histories of a Gillespie-type simulator, once.  A *chain* lists the enabled events of a status with
their rates and says how an event changes the status; its jump chain `Chain.jump` selects event `e` with probability
`rate e / Σ rates` and stops where `Σ rates = 0`.  A *model* is one iteration of a simulator's loop: a stop test, a
selection law `select k` (sub-distribution: `none` = the `k`-round rejection sampler gave up), the state change, the rate
handed to `expovariate`.  Under `Sim` (stop test = absorption, clock = `Σ rates`, selection = `rate / Σ rates` times an
acceptance factor, state change = the chain's, all under an invariant) the model's law of the first `n` events is the
chain's times the product of the acceptance factors (`traj_law`), with the bounds, the support and the limit `k → ∞`
that follow.  `Proofs/GillespieTraj`, `SimpleTraj`, `ComplexTraj` are instances.
-/

namespace Dist
variable {α β : Type}

/-! ### histories as lists: mass of a pushed `cons`, for any element type -/
section
variable {γ : Type} [BEq (List γ)] [LawfulBEq (List γ)]

theorem mass_push_cons_eq [DecidableEq γ] (a a' : γ) (d : Dist (List γ)) (h' : List γ) :
    mass (Dist.push (fun h => a :: h) d) (fun x => x == a' :: h') =
      if a = a' then mass d (fun x => x == h') else 0 := by
  rw [mass_push]
  by_cases hc : a = a'
  · subst hc; rw [if_pos rfl]
    congr 1; funext x
    rw [Bool.eq_iff_iff]; simp
  · rw [if_neg hc]
    have : (fun x : List γ => (a :: x == a' :: h')) = fun _ => false := by
      funext x
      rw [beq_eq_false_iff_ne]
      intro h; exact hc (List.cons.inj h).1
    rw [this, mass_false]

theorem mass_push_cons_nil (a : γ) (d : Dist (List γ)) :
    mass (Dist.push (fun h => a :: h) d) (fun x => x == []) = 0 := by
  rw [mass_push]
  have : (fun x : List γ => (a :: x == [])) = fun _ => false := by
    funext x
    rw [beq_eq_false_iff_ne]
    intro h; cases h
  rw [this, mass_false]

theorem mass_pure_nil [DecidableEq γ] (h : List γ) :
    mass (Dist.pure ([] : List γ)) (fun x => x == h) = if h = [] then 1 else 0 := by
  rw [mass_pure]
  cases h with
  | nil => simp
  | cons a t =>
    have : (([] : List γ) == a :: t) = false := by
      rw [beq_eq_false_iff_ne]; intro h; cases h
    simp [this]

theorem eq_nil_of_mass_pure_nil [DecidableEq γ] (h : List γ)
    (hm : mass (Dist.pure ([] : List γ)) (fun x => x == h) ≠ 0) : h = [] := by
  by_contra hne
  exact hm (by rw [mass_pure_nil, if_neg hne])

end
end Dist

theorem pow_small (q ε : Rat) (h0 : 0 ≤ q) (h1 : q < 1) (hε : 0 < ε) : ∃ K : Nat, ∀ k, K ≤ k → q ^ k ≤ ε := by
  obtain ⟨K, hK⟩ := exists_pow_lt_of_lt_one hε h1
  exact ⟨K, fun k hk => le_trans (pow_le_pow_of_le_one h0 (le_of_lt h1) hk) (le_of_lt hK)⟩

namespace LD
variable {α : Type} [DecidableEq α]

/-- a candidate of positive weight makes the weight sum positive, hence `ρ < 1` (C16) and `ρ^k → 0` -/
theorem defect_small (s : LD α) (h : Inv s) (x : α) (hx : x ∈ s.items) (hpos : s.weighted = true → 0 < s.getW x)
    (ε : Rat) (hε : 0 < ε) : ∃ K : Nat, ∀ k, K ≤ k → s.defect k ≤ ε := by
  unfold defect
  by_cases hw : s.weighted = true
  · have hW : 0 < s.weightSum :=
      lt_of_lt_of_le (hpos hw) (sumRat_ge_mem s.items s.getW (h.nonneg hw) x hx)
    obtain ⟨b1, b2⟩ := rej_bounds s h hw hW
    obtain ⟨K, hK⟩ := pow_small _ ε b1 b2 hε
    exact ⟨K, fun k hk => by rw [if_pos hw]; exact hK k hk⟩
  · exact ⟨0, fun k _ => by rw [if_neg hw]; exact le_of_lt hε⟩

theorem Tracks.defect_small {s : LD α} {W : α → Option Rat} {T : α → Prop} (h : s.Tracks W T)
    (hnn : ∀ x v, W x = some v → 0 ≤ v) (x : α) (hx : T x) (hne : (W x).getD 1 ≠ 0) (ε : Rat) (hε : 0 < ε) :
    ∃ K : Nat, ∀ k, K ≤ k → s.defect k ≤ ε := by
  have h0 : 0 ≤ (W x).getD 1 := by
    cases hv : W x with
    | none => exact zero_le_one
    | some v => exact hnn x v hv
  refine LD.defect_small s h.inv x ((h.mem x).2 hx) (fun hw => ?_) ε hε
  have := h.getD_weight x hx
  rw [if_pos hw] at this
  exact this ▸ lt_of_le_of_ne h0 (Ne.symm hne)

end LD

namespace TrajLaw
open Dist

/-- enabled events of a status (duplicate-free under `Chain.WF`), their rates, the status after an event -/
structure Chain (S E : Type) where
  enabled : S → List E
  rate : S → E → Rat
  apply : S → E → S

/-- one iteration of a simulator's loop; `k` bounds the rounds of the rejection sampler.  `en s e`: the model can
select `e` in `s`; `factor`/`defect`: the probability that the sampler used for `e` has / has not stopped in time
(both are fields, tied by `Sim.factor_eq`, so that `accProd` multiplies and `defectSum` adds without a subtraction in
either definition) -/
structure Model (M E : Type) where
  halted : M → Prop
  decHalted : DecidablePred halted
  select : Nat → M → Dist (Option E)
  step : M → E → Option M
  clock : M → Rat
  en : M → E → Prop
  decEn : ∀ s e, Decidable (en s e)
  factor : Nat → M → E → Rat
  defect : Nat → M → E → Rat

attribute [instance] Model.decHalted Model.decEn

variable {S M E : Type}

namespace Chain
variable (C : Chain S E)

def total (st : S) : Rat := sumRat ((C.enabled st).map (C.rate st))

/-- first `n` jumps, as a law on histories of (event, `Σ rates` before the event) -/
def jump : Nat → S → Dist (List (E × Rat))
  | 0, _ => Dist.pure []
  | n + 1, st =>
    if C.total st = 0 then Dist.pure []
    else
      Dist.bind ((C.enabled st).map fun e => (e, C.rate st e / C.total st)) fun e =>
        Dist.push (fun h => (e, C.total st) :: h) (jump n (C.apply st e))

def applyHist : S → List (E × Rat) → S
  | st, [] => st
  | st, (e, _) :: h => applyHist (C.apply st e) h

def Legal : S → List (E × Rat) → Prop
  | _, [] => True
  | st, (e, r) :: h =>
    e ∈ C.enabled st ∧ 0 < C.rate st e ∧ r = C.total st ∧ 0 < C.total st ∧ Legal (C.apply st e) h

structure WF : Prop where
  nodup : ∀ st, (C.enabled st).Nodup
  nonneg : ∀ st, ∀ e ∈ C.enabled st, 0 ≤ C.rate st e

end Chain

namespace Model
variable (Mo : Model M E)

/-- law of the first `n` iterations: histories of (event, rate handed to `expovariate` before it) -/
def traj (k : Nat) : Nat → M → Dist (List (E × Rat))
  | 0, _ => Dist.pure []
  | n + 1, s =>
    if Mo.halted s then Dist.pure []
    else
      Dist.bind (Mo.select k s) fun o =>
        match o with
        | none => []
        | some e =>
          match Mo.step s e with
          | none => []
          | some s' => Dist.push (fun h => (e, Mo.clock s) :: h) (traj k n s')

/-- product of the acceptance factors along the model's path through a history (1 off the path) -/
def accProd (k : Nat) : M → List (E × Rat) → Rat
  | _, [] => 1
  | s, (e, _) :: h =>
    if Mo.en s e then
      match Mo.step s e with
      | some s' => Mo.factor k s e * accProd k s' h
      | none => 1
    else 1

def defectSum (k : Nat) : M → List (E × Rat) → Rat
  | _, [] => 0
  | s, (e, _) :: h =>
    if Mo.en s e then
      match Mo.step s e with
      | some s' => Mo.defect k s e + defectSum k s' h
      | none => 0
    else 0

def applyHist : M → List (E × Rat) → Option M
  | s, [] => some s
  | s, (e, _) :: h =>
    match Mo.step s e with
    | some s' => applyHist s' h
    | none => none

end Model

section
variable [BEq (Option E)]

/-- the model `Mo` follows the chain `C` on the states that satisfy `I`, `abs` reading the status off a state; `kOK`
says for which budgets the selection law holds (an unweighted structure never rejects, but needs one round).  The `==`
of `select_en`/`select_not` is that of the section's `BEq (Option E)`; at a concrete `E` the same text elaborates to
another instance, which `rw` does not see through: see `LD.eqSome` (`Proofs/ListDict.lean`), to which an instance
brings its predicate first (`Gillespie.pred_rec_rec`).  `select_not` holds at every budget, `k = 0` included, hence
without `kOK k` -/
structure Sim (C : Chain S E) (Mo : Model M E) (I : M → Prop) (abs : M → S) (kOK : Nat → Prop) : Prop where
  wf : C.WF
  kOK_pos : ∀ k, 0 < k → kOK k
  halted_iff : ∀ s, I s → (Mo.halted s ↔ C.total (abs s) = 0)
  clock_eq : ∀ s, I s → Mo.clock s = C.total (abs s)
  select_en : ∀ k s e, kOK k → I s → ¬ Mo.halted s → Mo.en s e →
    e ∈ C.enabled (abs s) ∧
      mass (Mo.select k s) (fun o => o == some e) = C.rate (abs s) e / C.total (abs s) * Mo.factor k s e
  select_not : ∀ k s e, I s → ¬ Mo.en s e →
    mass (Mo.select k s) (fun o => o == some e) = 0 ∧ (e ∈ C.enabled (abs s) → C.rate (abs s) e = 0)
  step_en : ∀ s e, I s → Mo.en s e → ∃ s', Mo.step s e = some s' ∧ I s' ∧ abs s' = C.apply (abs s) e
  factor_eq : ∀ k s e, Mo.factor k s e = 1 - Mo.defect k s e
  defect_unit : ∀ k s e, I s → Mo.en s e → 0 ≤ Mo.defect k s e ∧ Mo.defect k s e ≤ 1
  defect_small : ∀ s e, I s → Mo.en s e → 0 < C.rate (abs s) e → ∀ ε : Rat, 0 < ε →
    ∃ K : Nat, ∀ k, K ≤ k → Mo.defect k s e ≤ ε

end

/-! ### the chain alone: one step, non-negativity, total mass, support -/
namespace Chain
variable (C : Chain S E)

theorem total_nonneg (h : C.WF) (st : S) : 0 ≤ C.total st := sumRat_map_nonneg _ _ (h.nonneg st)

theorem jump_halted (n : Nat) (st : S) (h0 : C.total st = 0) : C.jump n st = Dist.pure [] := by
  cases n with
  | zero => rfl
  | succ n => rw [jump, if_pos h0]

theorem jump_nonneg (h : C.WF) (n : Nat) (st : S) : Dist.NonNeg (C.jump n st) := by
  induction n generalizing st with
  | zero => exact nonneg_pure _
  | succ n ih =>
    rw [jump]
    split
    · exact nonneg_pure _
    · apply nonneg_bind
      · intro x hx
        simp only [List.mem_map] at hx
        obtain ⟨e, he, rfl⟩ := hx
        exact div_nonneg (h.nonneg st e he) (C.total_nonneg h st)
      · intro x _
        exact nonneg_push _ _ (ih _)

/-- the jump chain's law has total mass 1, whatever the rates: `Σ_e rate e / Σ rates = 1` as soon as `Σ rates ≠ 0` -/
theorem jump_total (n : Nat) (st : S) : mass (C.jump n st) (fun _ => true) = 1 := by
  induction n generalizing st with
  | zero => simp [jump, mass_pure]
  | succ n ih =>
    rw [jump]
    split
    · simp [mass_pure]
    · rename_i h0
      rw [mass_bind, List.map_map,
        sumRat_map_congr _ _ (fun e => C.rate st e * (C.total st)⁻¹) (by
          intro e _
          simp only [Function.comp]
          rw [mass_push, ih]; ring),
        sumRat_map_mul_right]
      change C.total st * (C.total st)⁻¹ = 1
      field_simp

theorem legal_prefix (st : S) (h1 h2 : List (E × Rat)) (hl : C.Legal st (h1 ++ h2)) : C.Legal st h1 := by
  induction h1 generalizing st with
  | nil => trivial
  | cons a t ih =>
    obtain ⟨x, r⟩ := a
    obtain ⟨a1, a2, a3, a4, a5⟩ := hl
    exact ⟨a1, a2, a3, a4, ih _ a5⟩

section
variable [BEq (List (E × Rat))] [LawfulBEq (List (E × Rat))]

theorem jump_nil (n : Nat) (st : S) (h0 : C.total st ≠ 0) : mass (C.jump (n + 1) st) (fun y => y == []) = 0 := by
  rw [jump, if_neg h0]
  apply mass_bind_zero
  rintro ⟨e, p⟩ _
  exact mass_push_cons_nil _ _

variable [DecidableEq E]

theorem jump_step (h : C.WF) (n : Nat) (st : S) (h0 : C.total st ≠ 0) (x : E) (r : Rat) (h' : List (E × Rat)) :
    mass (C.jump (n + 1) st) (fun y => y == (x, r) :: h') =
      (if x ∈ C.enabled st then C.rate st x / C.total st else 0) *
        (if r = C.total st then mass (C.jump n (C.apply st x)) (fun y => y == h') else 0) := by
  rw [jump, if_neg h0, ← mass_map_point (C.enabled st) (fun e => C.rate st e / C.total st) x (h.nodup st)]
  apply mass_bind_indicator
  rintro ⟨e, p⟩ _
  dsimp only
  rw [mass_push_cons_eq]
  by_cases he : e = x
  · subst he; simp [eq_comm]
  · simp [he]

theorem jump_support (h : C.WF) (n : Nat) (st : S) (hist : List (E × Rat))
    (hm : mass (C.jump n st) (fun y => y == hist) ≠ 0) :
    C.Legal st hist ∧ hist.length ≤ n ∧ (hist.length < n → C.total (C.applyHist st hist) = 0) := by
  induction n generalizing st hist with
  | zero =>
    obtain rfl := eq_nil_of_mass_pure_nil hist hm
    exact ⟨trivial, le_refl _, fun hl => absurd hl (lt_irrefl _)⟩
  | succ n ih =>
    by_cases h0 : C.total st = 0
    · rw [C.jump_halted _ _ h0] at hm
      obtain rfl := eq_nil_of_mass_pure_nil hist hm
      exact ⟨trivial, Nat.zero_le _, fun _ => h0⟩
    · cases hist with
      | nil => exact absurd (C.jump_nil n st h0) hm
      | cons a h' =>
        obtain ⟨x, r⟩ := a
        rw [C.jump_step h n st h0] at hm
        obtain ⟨hq, hc⟩ := mul_ne_zero_iff.1 hm
        have hx : x ∈ C.enabled st := by by_contra hx; exact hq (if_neg hx)
        have hr : r = C.total st := by by_contra hr; exact hc (if_neg hr)
        rw [if_pos hx] at hq
        rw [if_pos hr] at hc
        obtain ⟨i1, i2, i3⟩ := ih (C.apply st x) h' hc
        have hpos : 0 < C.total st := lt_of_le_of_ne (C.total_nonneg h st) (Ne.symm h0)
        have hrp : 0 < C.rate st x :=
          lt_of_le_of_ne (h.nonneg st x hx) (fun e => hq (by rw [← e, zero_div]))
        exact ⟨⟨hx, hrp, hr, hpos, i1⟩, Nat.succ_le_succ i2, fun hl => i3 (Nat.lt_of_succ_lt_succ hl)⟩

end

end Chain

/-! ### one step of the model's law -/
namespace Model
variable (Mo : Model M E)

theorem traj_halted (k n : Nat) (s : M) (hh : Mo.halted s) : Mo.traj k n s = Dist.pure [] := by
  cases n with
  | zero => rfl
  | succ n => rw [traj, if_pos hh]

section
variable [BEq (List (E × Rat))] [LawfulBEq (List (E × Rat))]

def contMass (k n : Nat) (s : M) (e : E) (h' : List (E × Rat)) : Rat :=
  match Mo.step s e with
  | some s' => mass (Mo.traj k n s') (fun y => y == h')
  | none => 0

theorem traj_nil (k n : Nat) (s : M) (hh : ¬ Mo.halted s) : mass (Mo.traj k (n + 1) s) (fun y => y == []) = 0 := by
  rw [traj, if_neg hh]
  apply mass_bind_zero
  rintro ⟨o, p⟩ _
  cases o with
  | none => rfl
  | some e =>
    dsimp only
    cases Mo.step s e with
    | none => rfl
    | some s' => exact mass_push_cons_nil _ _

variable [DecidableEq E] [BEq (Option E)] [LawfulBEq (Option E)]

theorem traj_step (k n : Nat) (s : M) (hh : ¬ Mo.halted s) (x : E) (r : Rat) (h' : List (E × Rat)) :
    mass (Mo.traj k (n + 1) s) (fun y => y == (x, r) :: h') =
      mass (Mo.select k s) (fun o => o == some x) * (if r = Mo.clock s then Mo.contMass k n s x h' else 0) := by
  rw [traj, if_neg hh]
  apply mass_bind_indicator
  rintro ⟨o, p⟩ _
  -- only the branch that selects `x`, and only with the clock rate of `s`, can produce `(x, r) :: h'`
  cases o with
  | none => simp [mass_nil]
  | some e =>
    dsimp only
    by_cases he : e = x
    · subst he
      unfold contMass
      cases Mo.step s e with
      | none => simp [mass_nil]
      | some s' => dsimp only; rw [mass_push_cons_eq]; simp [eq_comm]
    · cases Mo.step s e with
      | none => simp [he, mass_nil]
      | some s' => dsimp only; rw [mass_push_cons_eq]; simp [he]

end

end Model

variable {C : Chain S E} {Mo : Model M E} {I : M → Prop} {abs : M → S} {kOK : Nat → Prop}

/-! ### what needs no mass: bounds on the acceptance factors, legal paths, the vanishing defect -/
section
variable [BEq (Option E)]

theorem accProd_bounds (h : Sim C Mo I abs kOK) (k : Nat) (s : M) (hs : I s) (hist : List (E × Rat)) :
    0 ≤ Mo.accProd k s hist ∧ Mo.accProd k s hist ≤ 1 ∧ 1 - Mo.defectSum k s hist ≤ Mo.accProd k s hist ∧
      0 ≤ Mo.defectSum k s hist := by
  have h10 : (0 : Rat) ≤ 1 ∧ (1 : Rat) ≤ 1 ∧ (1 : Rat) - 0 ≤ 1 ∧ (0 : Rat) ≤ 0 :=
    ⟨zero_le_one, le_refl _, (sub_zero _).le, le_refl _⟩
  induction hist generalizing s with
  | nil => exact h10
  | cons a t ih =>
    obtain ⟨x, r⟩ := a
    by_cases hx : Mo.en s x
    · obtain ⟨s', h1, h2, -⟩ := h.step_en s x hs hx
      rw [Model.accProd, Model.defectSum, if_pos hx, if_pos hx, h1, h.factor_eq]
      dsimp only
      obtain ⟨i1, i2, i3, i4⟩ := ih s' h2
      obtain ⟨d1, d2⟩ := h.defect_unit k s x hs hx
      have ha : 0 ≤ 1 - Mo.defect k s x := sub_nonneg.2 d2
      refine ⟨mul_nonneg ha i1, mul_le_one₀ (sub_le_self _ d1) i1 i2, ?_, add_nonneg d1 i4⟩
      -- `(1 - d) * acc ≥ (1 - d) * (1 - Σ) = 1 - d - Σ + d * Σ`
      have h3 := mul_le_mul_of_nonneg_left i3 ha
      have h4 := mul_nonneg d1 i4
      linarith
    · rw [Model.accProd, Model.defectSum, if_neg hx, if_neg hx]
      exact h10

theorem en_of_legal (h : Sim C Mo I abs kOK) (s : M) (hs : I s) (e : E) (he : e ∈ C.enabled (abs s))
    (hr : 0 < C.rate (abs s) e) : Mo.en s e := by
  by_contra hne
  exact absurd ((h.select_not 0 s e hs hne).2 he) (ne_of_gt hr)

theorem legal_applyHist (h : Sim C Mo I abs kOK) (s : M) (hs : I s) (hist : List (E × Rat))
    (hl : C.Legal (abs s) hist) :
    ∃ s', Mo.applyHist s hist = some s' ∧ I s' ∧ abs s' = C.applyHist (abs s) hist := by
  induction hist generalizing s with
  | nil => exact ⟨s, rfl, hs, rfl⟩
  | cons a t ih =>
    obtain ⟨x, r⟩ := a
    obtain ⟨a1, a2, -, -, a5⟩ := hl
    obtain ⟨s', h1, h2, h3⟩ := h.step_en s x hs (en_of_legal h s hs x a1 a2)
    rw [← h3] at a5
    obtain ⟨s'', g1, g2, g3⟩ := ih s' h2 a5
    refine ⟨s'', ?_, g2, ?_⟩
    · rw [Model.applyHist, h1]; exact g1
    · rw [g3, h3]; rfl

theorem defectSum_small (h : Sim C Mo I abs kOK) (s : M) (hs : I s) (hist : List (E × Rat))
    (hl : C.Legal (abs s) hist) (ε : Rat) (hε : 0 < ε) : ∃ K : Nat, ∀ k, K ≤ k → Mo.defectSum k s hist ≤ ε := by
  induction hist generalizing s ε with
  | nil => exact ⟨0, fun k _ => le_of_lt hε⟩
  | cons a t ih =>
    obtain ⟨x, r⟩ := a
    obtain ⟨a1, a2, -, -, a5⟩ := hl
    have hx := en_of_legal h s hs x a1 a2
    obtain ⟨s', h1, h2, h3⟩ := h.step_en s x hs hx
    rw [← h3] at a5
    have hε2 : 0 < ε / 2 := div_pos hε two_pos
    obtain ⟨K1, hK1⟩ := ih s' h2 a5 (ε / 2) hε2
    obtain ⟨K2, hK2⟩ := h.defect_small s x hs hx a2 (ε / 2) hε2
    refine ⟨max K1 K2, fun k hk => ?_⟩
    rw [Model.defectSum, if_pos hx, h1]
    dsimp only
    exact (add_le_add (hK2 k (le_trans (le_max_right _ _) hk)) (hK1 k (le_trans (le_max_left _ _) hk))).trans_eq
      (add_halves ε)

end

/-! ### the induction over events and its consequences -/
section
variable [BEq (List (E × Rat))] [LawfulBEq (List (E × Rat))]

theorem stopped_law (Mo : Model M E) (k : Nat) (s : M) (hist : List (E × Rat)) :
    mass (Dist.pure []) (fun y => y == hist) = mass (Dist.pure []) (fun y => y == hist) * Mo.accProd k s hist := by
  cases hist with
  | nil => rw [Model.accProd, mul_one]
  | cons a t =>
    classical
    rw [mass_pure_nil, if_neg (List.cons_ne_nil a t), zero_mul]

variable [DecidableEq E] [BEq (Option E)] [LawfulBEq (Option E)]

/-- **trajectory law**: mass of a history under the model's `n`-event law = its mass under the jump chain × the
product of the acceptance factors along it -/
theorem traj_law (h : Sim C Mo I abs kOK) (k : Nat) (hk : kOK k) (n : Nat) (s : M) (hs : I s)
    (hist : List (E × Rat)) :
    mass (Mo.traj k n s) (fun y => y == hist) =
      mass (C.jump n (abs s)) (fun y => y == hist) * Mo.accProd k s hist := by
  induction n generalizing s hist with
  | zero => exact stopped_law Mo k s hist
  | succ n ih =>
    by_cases hh : Mo.halted s
    · rw [Mo.traj_halted k _ s hh, C.jump_halted _ _ ((h.halted_iff s hs).1 hh)]
      exact stopped_law Mo k s hist
    · have h0 : C.total (abs s) ≠ 0 := fun hc => hh ((h.halted_iff s hs).2 hc)
      cases hist with
      | nil => rw [Mo.traj_nil k n s hh, C.jump_nil n _ h0, zero_mul]
      | cons a h' =>
        obtain ⟨x, r⟩ := a
        rw [Mo.traj_step k n s hh, C.jump_step h.wf n _ h0, h.clock_eq s hs]
        by_cases hx : Mo.en s x
        · -- selectable: the one-step law, then the induction hypothesis from the state after the event
          obtain ⟨s', h1, h2, h3⟩ := h.step_en s x hs hx
          obtain ⟨hxe, hsel⟩ := h.select_en k s x hk hs hh hx
          rw [hsel, if_pos hxe, Model.accProd, if_pos hx, Model.contMass, h1]
          dsimp only
          rw [ih s' h2 h', h3]
          split <;> ring
        · -- not selectable: never selected by the model, and of rate 0 (or not enabled) in the chain
          obtain ⟨hsel, hrate⟩ := h.select_not k s x hs hx
          have hq : (if x ∈ C.enabled (abs s) then C.rate (abs s) x / C.total (abs s) else 0) = 0 := by
            split
            · next hxe => rw [hrate hxe, zero_div]
            · rfl
          rw [hsel, hq, zero_mul, zero_mul, zero_mul]

theorem traj_law_le (h : Sim C Mo I abs kOK) (k : Nat) (hk : kOK k) (n : Nat) (s : M) (hs : I s)
    (hist : List (E × Rat)) :
    mass (Mo.traj k n s) (fun y => y == hist) ≤ mass (C.jump n (abs s)) (fun y => y == hist) := by
  rw [traj_law h k hk n s hs hist]
  exact mul_le_of_le_one_right (mass_nonneg _ (C.jump_nonneg h.wf n _) _) (accProd_bounds h k s hs hist).2.1

/-- the model under-weights a history by at most the relative defect `Σ d_i` (union bound over the samplers) -/
theorem traj_law_ge (h : Sim C Mo I abs kOK) (k : Nat) (hk : kOK k) (n : Nat) (s : M) (hs : I s)
    (hist : List (E × Rat)) :
    mass (C.jump n (abs s)) (fun y => y == hist) * (1 - Mo.defectSum k s hist) ≤
      mass (Mo.traj k n s) (fun y => y == hist) := by
  rw [traj_law h k hk n s hs hist]
  exact mul_le_mul_of_nonneg_left (accProd_bounds h k s hs hist).2.2.1 (mass_nonneg _ (C.jump_nonneg h.wf n _) _)

theorem traj_support (h : Sim C Mo I abs kOK) (k : Nat) (hk : kOK k) (n : Nat) (s : M) (hs : I s)
    (hist : List (E × Rat)) (hm : mass (Mo.traj k n s) (fun y => y == hist) ≠ 0) :
    C.Legal (abs s) hist ∧ hist.length ≤ n ∧ (hist.length < n → C.total (C.applyHist (abs s) hist) = 0) := by
  rw [traj_law h k hk n s hs hist] at hm
  exact C.jump_support h.wf n _ hist (left_ne_zero_of_mul hm)

/-- **the defect vanishes as `k → ∞`**: from some budget on, the model's mass of a history is within `ε` below the
chain's -/
theorem traj_law_limit (h : Sim C Mo I abs kOK) (n : Nat) (s : M) (hs : I s) (hist : List (E × Rat)) (ε : Rat)
    (hε : 0 < ε) :
    ∃ K : Nat, ∀ k, K ≤ k →
      mass (C.jump n (abs s)) (fun y => y == hist) - ε ≤ mass (Mo.traj k n s) (fun y => y == hist) := by
  have hm0 := mass_nonneg _ (C.jump_nonneg h.wf n (abs s)) (fun y => y == hist)
  by_cases hm : mass (C.jump n (abs s)) (fun y => y == hist) = 0
  · refine ⟨1, fun k hk => ?_⟩
    rw [traj_law h k (h.kOK_pos k hk) n s hs hist, hm, zero_mul]
    exact sub_nonpos.2 hε.le
  · -- a budget that brings the relative defect below `ε / mass`
    obtain ⟨K, hK⟩ := defectSum_small h s hs hist (C.jump_support h.wf n _ hist hm).1 _
      (div_pos hε (lt_of_le_of_ne hm0 (Ne.symm hm)))
    refine ⟨max K 1, fun k hk => le_trans ?_
      (traj_law_ge h k (h.kOK_pos k (le_trans (le_max_right _ _) hk)) n s hs hist)⟩
    have h3 := mul_le_mul_of_nonneg_left (hK k (le_trans (le_max_left _ _) hk)) hm0
    rw [mul_div_cancel₀ _ hm] at h3
    rw [mul_sub, mul_one]
    exact sub_le_sub_left h3 _

end

/-! ### recorded times do not influence the law -/
namespace Model
variable (Mo : Model M E)

/-- the law of the first iterations when the state change also records an event time (`stepT`), one time per
iteration -/
def trajT (stepT : M → E → Rat → Option M) (k : Nat) : List Rat → M → Dist (List (E × Rat))
  | [], _ => Dist.pure []
  | t :: ts, s =>
    if Mo.halted s then Dist.pure []
    else
      Dist.bind (Mo.select k s) fun o =>
        match o with
        | none => []
        | some e =>
          match stepT s e t with
          | none => []
          | some s' => Dist.push (fun h => (e, Mo.clock s) :: h) (trajT stepT k ts s')

/-- if stop test, selection and clock read only what `core` relates, and the state change keeps `core` whatever time
it records, then the law with any supply of times is `traj` -/
theorem trajT_eq (stepT : M → E → Rat → Option M) (core : M → M → Prop) (k : Nat)
    (hread : ∀ a b, core a b → (Mo.halted a ↔ Mo.halted b) ∧ Mo.select k a = Mo.select k b ∧ Mo.clock a = Mo.clock b)
    (hstep : ∀ a b, core a b → ∀ e t,
      match stepT a e t, Mo.step b e with
      | some a', some b' => core a' b'
      | none, none => True
      | _, _ => False)
    (ts : List Rat) (a b : M) (hc : core a b) : Mo.trajT stepT k ts a = Mo.traj k ts.length b := by
  induction ts generalizing a b with
  | nil => rfl
  | cons t ts ih =>
    obtain ⟨e1, e2, e3⟩ := hread a b hc
    rw [trajT, List.length_cons, traj]
    by_cases hh : Mo.halted a
    · rw [if_pos hh, if_pos (e1.1 hh)]
    · rw [if_neg hh, if_neg (fun hb => hh (e1.2 hb)), e2, e3]
      congr 1
      funext o
      cases o with
      | none => rfl
      | some e =>
        dsimp only
        have := hstep a b hc e t
        revert this
        cases stepT a e t <;> cases Mo.step b e <;> intro this
        · rfl
        · exact this.elim
        · exact this.elim
        · exact congrArg _ (ih _ _ this)

end Model

end TrajLaw
