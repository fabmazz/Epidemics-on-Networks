import EoNVerif.Proofs.TapeStep
/-!
What a run does on ANY tape that begins with given draws (`Takes₀`; `Takes` for a computation that carries a state of its
own over the tape).  Footprints append under `bind`, so a run is described by composing the descriptions of its
statements: no tape rest and no trace is threaded by hand.
-/
namespace TM
variable {σ α β : Type}

def Takes₀ (x : TM α) (ds : List Draw) (cs : List Call) (a : α) : Prop :=
  ∀ rest tr, x ⟨ds ++ rest, tr⟩ = .ok (a, ⟨rest, tr ++ cs⟩)

def Takes (x : StateT σ TM α) (s : σ) (ds : List Draw) (cs : List Call) (a : α) (s' : σ) : Prop :=
  Takes₀ (x s) ds cs (a, s')

theorem arr_app_assoc {α : Type} (a : Array α) (l1 l2 : List α) : a ++ l1 ++ l2 = a ++ (l1 ++ l2) := by
  apply Array.ext'; simp
theorem arr_push_app {α : Type} (a : Array α) (x : α) (l : List α) : a.push x ++ l = a ++ (x :: l) := by
  apply Array.ext'; simp
theorem arr_app_toArray {α : Type} (a : Array α) (l : List α) : a ++ l.toArray = a ++ l := by
  apply Array.ext'; simp

theorem Takes₀.pure (a : α) : Takes₀ (pure a : TM α) [] [] a := by
  intro rest tr; simp; rfl

theorem Takes₀.bind {x : TM α} {f : α → TM β} {d1 d2 : List Draw} {c1 c2 : List Call} {a : α} {b : β}
    (hx : Takes₀ x d1 c1 a) (hf : Takes₀ (f a) d2 c2 b) : Takes₀ (x >>= f) (d1 ++ d2) (c1 ++ c2) b := by
  intro rest tr
  rw [List.append_assoc, bind_ok (hx _ tr), hf rest, arr_app_assoc]

theorem Takes₀.map {x : TM α} {ds : List Draw} {cs : List Call} {a : α} (hx : Takes₀ x ds cs a) (g : α → β) :
    Takes₀ (x >>= fun a => Pure.pure (g a)) ds cs (g a) := by
  intro rest tr
  rw [bind_ok (hx rest tr)]; rfl

theorem Takes₀.cast {x : TM α} {ds ds' : List Draw} {cs cs' : List Call} {a : α} (h : Takes₀ x ds cs a)
    (hd : ds = ds') (hc : cs = cs') : Takes₀ x ds' cs' a := hd ▸ hc ▸ h

/-- a primitive of `TM` inside a state monad over it (`PyDM.liftT`, `PyPM.liftT`) -/
theorem Takes₀.lift {x : TM α} {ds : List Draw} {cs : List Call} {a : α} (h : Takes₀ x ds cs a) (s : σ) :
    Takes (fun s => do let a ← x; Pure.pure (a, s) : StateT σ TM α) s ds cs a s :=
  h.map fun a => (a, s)

theorem Takes.pure (a : α) (s : σ) : Takes (pure a : StateT σ TM α) s [] [] a s := Takes₀.pure (a, s)

theorem Takes.bind {x : StateT σ TM α} {f : α → StateT σ TM β} {s s1 s2 : σ} {d1 d2 : List Draw} {c1 c2 : List Call}
    {a : α} {b : β} (hx : Takes x s d1 c1 a s1) (hf : Takes (f a) s1 d2 c2 b s2) :
    Takes (x >>= f) s (d1 ++ d2) (c1 ++ c2) b s2 :=
  Takes₀.bind (f := fun p : α × σ => f p.1 p.2) hx hf

theorem Takes.map {x : StateT σ TM α} {s s1 : σ} {ds : List Draw} {cs : List Call} {a : α}
    (hx : Takes x s ds cs a s1) (g : α → β) : Takes (x >>= fun a => Pure.pure (g a)) s ds cs (g a) s1 :=
  Takes₀.map (x := x s) hx fun p : α × σ => (g p.1, p.2)

theorem Takes.of_pure {x : StateT σ TM α} {s s' : σ} {a : α}
    (h : ∀ ts, x s ts = .ok ((a, s'), ts)) : Takes x s [] [] a s' := by
  intro rest tr; rw [h]; simp

theorem Takes.cast {x : StateT σ TM α} {s s' : σ} {ds ds' : List Draw} {cs cs' : List Call} {a : α}
    (h : Takes x s ds cs a s') (hd : ds = ds') (hc : cs = cs') : Takes x s ds' cs' a s' := Takes₀.cast h hd hc

theorem Takes.mapM {c : α → StateT σ TM β} {use : β → List Draw} {log : β → List Call} (s : σ) :
    ∀ (l : List α) (bs : List β), l.length = bs.length →
      (∀ p ∈ l.zip bs, Takes (c p.1) s (use p.2) (log p.2) p.2 s) →
      Takes (l.mapM c) s (bs.flatMap use) (bs.flatMap log) bs s
  | [], [], _, _ => Takes.pure [] s
  | x :: l, b :: bs, hl, h => by
    have h1 : Takes (c x) s (use b) (log b) b s := h (x, b) List.mem_cons_self
    have h2 := Takes.mapM s l bs (Nat.succ.inj hl) fun p hp => h p (List.mem_cons_of_mem _ hp)
    rw [List.mapM_cons, List.flatMap_cons, List.flatMap_cons]
    exact h1.bind (h2.map (b :: ·))

theorem popUnif_takes (r : Rat) : Takes₀ popUnif [Draw.unif r] [Call.unif] r := by
  intro rest tr; simp [popUnif]

theorem popExpo_takes {rate : Rat} (h : rate ≠ 0) (d : Rat) : Takes₀ (popExpo rate) [Draw.expo d] [Call.expo rate] d :=
  fun rest tr => popExpo_eval rate d rest ⟨_, tr⟩ h rfl

theorem popChoice_takes (seq : List (List Nat)) (i : Nat) (hi : i < seq.length) :
    Takes₀ (popChoice seq) [Draw.choice i] [Call.choice seq] i := by
  intro rest tr
  have hne : seq.isEmpty = false := by cases seq <;> simp_all
  simp [popChoice, hne, hi]

theorem popBinom_takes {n k : Nat} (h : k ≤ n) (p : Rat) : Takes₀ (popBinom n p) [Draw.binom k] [Call.binom n p] k := by
  intro rest tr; simp [popBinom, h]

theorem popSample_takes {n k : Nat} (hk : k ≤ n) (idx : List Nat) (hl : idx.length = k) (hlt : ∀ i ∈ idx, i < n)
    (hnd : idx.Nodup) : Takes₀ (popSample n k) [Draw.sample idx] [Call.sample n k] idx := by
  intro rest tr
  have h1 : ¬ k > n := by omega
  have h2 : (idx.all (· < n)) = true := by
    rw [List.all_eq_true]; intro i hi; simpa using hlt i hi
  simp [popSample, h1, hl, h2, hnd]

end TM
