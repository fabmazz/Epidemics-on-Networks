import EoNVerif.Model.Tape
import EoNVerif.Gen.PyTM
/-!
Stepping through a `do` block of the tape monad `TM`, one statement at a time.  `bind_ok` / `bind_err` consume the
first statement given its result; `bind_inv` reads a normal return of the whole block backwards; the `liftE_…`
lemmas do the same for a statement that only computes in `Except` and leaves the tape alone; `st_bind_ok`, `st_bind_inv`
are `bind_ok`, `bind_inv` for a block that carries a state of its own over the tape (`StateT σ TM`).  Then what the draw
primitives raise and leave on the tape, and on these `TM.Safe`, one run that cannot end in `KeyError`: the form in which
the loops of the three Gillespie-type hand models are shown to keep their invariant (`Safe.bind` walks down the loop body).
-/
namespace TM
open PyTM
variable {α β σ : Type}

theorem pure_apply (a : α) (ts : TapeSt) : (pure a : TM α) ts = .ok (a, ts) := rfl

theorem bind_ok {x : TM α} {f : α → TM β} {ts ts' : TapeSt} {a : α} (h : x ts = .ok (a, ts')) :
    (x >>= f) ts = f a ts' := by
  simp only [bind, StateT.bind, Except.bind, h]

theorem bind_err {x : TM α} {f : α → TM β} {ts : TapeSt} {e : String} (h : x ts = .error e) :
    (x >>= f) ts = .error e := by
  simp only [bind, StateT.bind, Except.bind, h]

theorem bind_inv {x : TM α} {f : α → TM β} {ts : TapeSt} {r : β × TapeSt} (h : (x >>= f) ts = .ok r) :
    ∃ a ts1, x ts = .ok (a, ts1) ∧ f a ts1 = .ok r := by
  cases hx : x ts with
  | error e => rw [bind_err hx] at h; cases h
  | ok p => exact ⟨p.1, p.2, rfl, by rwa [bind_ok hx] at h⟩

theorem pure_inv {a b : α} {ts ts' : TapeSt} (h : (pure a : TM α) ts = .ok (b, ts')) : b = a ∧ ts' = ts := by
  cases h; exact ⟨rfl, rfl⟩

theorem pure_ne_err (a : α) (ts : TapeSt) (e : String) : (pure a : TM α) ts ≠ .error e := fun h => nomatch h

theorem fail_apply (msg : String) (ts : TapeSt) : (TM.fail msg : TM α) ts = .error msg := rfl

theorem fail_ne_ok (msg : String) (ts : TapeSt) (r : α × TapeSt) : (TM.fail msg : TM α) ts ≠ .ok r :=
  fun h => nomatch h

theorem fail_bind (e : String) (k : α → TM β) : (TM.fail e >>= k) = TM.fail e := rfl

theorem liftE_ok (a : α) : liftE (.ok a : Except String α) = (pure a : TM α) := rfl

theorem liftE_error (m : String) (ts : TapeSt) : liftE (.error m : Except String α) ts = .error m := rfl

theorem liftE_ok_bind (a : α) (k : α → TM β) : (liftE (.ok a) >>= k) = k a := rfl

theorem liftE_err_bind (e : String) (f : α → TM β) (ts : TapeSt) :
    (liftE (.error e : Except String α) >>= f) ts = .error e := rfl

theorem liftE_bind {α β : Type} (e : Except String α) (f : α → Except String β) :
    liftE (e >>= f) = liftE e >>= fun a => liftE (f a) := by
  cases e <;> rfl

theorem liftE_bind_inv {e : Except String α} {f : α → TM β} {ts : TapeSt} {r : β × TapeSt}
    (h : (liftE e >>= f) ts = .ok r) : ∃ a, e = .ok a ∧ f a ts = .ok r := by
  cases e with
  | error m => cases h
  | ok a => exact ⟨a, rfl, h⟩

theorem st_bind_ok {x : StateT σ TM α} {f : α → StateT σ TM β} {s s1 : σ} {ts ts1 : TapeSt} {a : α}
    (h : x s ts = .ok ((a, s1), ts1)) : (x >>= f) s ts = f a s1 ts1 := by
  show (x s >>= fun p : α × σ => f p.1 p.2) ts = _
  exact bind_ok h

theorem st_bind_inv {x : StateT σ TM α} {f : α → StateT σ TM β} {s : σ} {ts : TapeSt} {r : (β × σ) × TapeSt}
    (h : (x >>= f) s ts = .ok r) : ∃ a s1 ts1, x s ts = .ok ((a, s1), ts1) ∧ f a s1 ts1 = .ok r := by
  obtain ⟨⟨a, s1⟩, ts1, h1, h2⟩ := bind_inv (x := x s) (f := fun p : α × σ => f p.1 p.2) h
  exact ⟨a, s1, ts1, h1, h2⟩

theorem popUnif_err (ts : TapeSt) (e : String) (h : popUnif ts = .error e) : e ≠ "KeyError" := by
  unfold popUnif at h
  split at h <;> cases h <;> simp

theorem popExpo_err (rate : Rat) (ts : TapeSt) (e : String) (h : popExpo rate ts = .error e) :
    e ≠ "KeyError" := by
  unfold popExpo at h
  split at h
  · cases h; simp
  · split at h <;> cases h <;> simp

theorem popChoice_err (seq : List (List Nat)) (ts : TapeSt) (e : String) (h : popChoice seq ts = .error e) :
    e ≠ "KeyError" := by
  unfold popChoice at h
  split at h
  · cases h; simp
  · split at h
    · split at h <;> cases h; simp
    · cases h; simp
    · cases h; simp

theorem popExpo_eval (rate d : Rat) (rest : List Draw) (ts : TapeSt) (hr : rate ≠ 0)
    (htape : ts.tape = .expo d :: rest) :
    popExpo rate ts = .ok (d, { tape := rest, trace := ts.trace.push (.expo rate) }) := by
  unfold popExpo
  rw [if_neg hr, htape]

theorem popExpo_inv {rate : Rat} {ts : TapeSt} {d : Rat} {ts' : TapeSt} (h : popExpo rate ts = .ok (d, ts')) :
    rate ≠ 0 ∧ ts.tape = Draw.expo d :: ts'.tape := by
  unfold popExpo at h
  split at h
  · cases h
  · rename_i hr
    split at h
    · rename_i heq; cases h; exact ⟨hr, heq⟩
    · cases h
    · cases h

theorem popBinom_inv {n : Nat} {p : Rat} {ts : TapeSt} {k : Nat} {ts' : TapeSt}
    (h : popBinom n p ts = .ok (k, ts')) : ts.tape = Draw.binom k :: ts'.tape := by
  unfold popBinom at h
  split at h
  · rename_i heq
    split at h
    · cases h; exact heq
    · cases h
  · cases h
  · cases h

theorem popSample_inv {n k : Nat} {ts : TapeSt} {idx : List Nat} {ts' : TapeSt}
    (h : popSample n k ts = .ok (idx, ts')) : ts.tape = Draw.sample idx :: ts'.tape := by
  unfold popSample at h
  split at h
  · cases h
  · split at h
    · rename_i heq
      split at h
      · cases h; exact heq
      · cases h
    · cases h
    · cases h

end TM

namespace Gillespie

/-- every `expovariate` value on the tape is non-negative (documented behaviour of the primitive) -/
def TapeNonneg (ts : TapeSt) : Prop := ∀ d ∈ ts.tape, ∀ x, d = Draw.expo x → 0 ≤ x

theorem TapeNonneg.mono {ts ts' : TapeSt} (h : TapeNonneg ts) (hsub : ∀ d ∈ ts'.tape, d ∈ ts.tape) :
    TapeNonneg ts' := fun d hd x hx => h d (hsub d hd) x hx

end Gillespie

namespace TM
open Gillespie (TapeNonneg)

theorem popUnif_tape (ts ts' : TapeSt) (r : Rat) (h : popUnif ts = .ok (r, ts')) :
    ∀ d ∈ ts'.tape, d ∈ ts.tape := by
  unfold popUnif at h
  split at h
  · rename_i r' t heq
    cases h
    intro d hd; rw [heq]; exact List.mem_cons_of_mem _ hd
  · cases h
  · cases h

theorem popChoice_tape (seq : List (List Nat)) (ts ts' : TapeSt) (i : Nat)
    (h : popChoice seq ts = .ok (i, ts')) : ∀ d ∈ ts'.tape, d ∈ ts.tape := by
  unfold popChoice at h
  split at h
  · cases h
  · split at h
    · rename_i i' t heq
      split at h
      · cases h
        intro d hd; rw [heq]; exact List.mem_cons_of_mem _ hd
      · cases h
    · cases h
    · cases h

theorem popExpo_tape (rate : Rat) (ts ts' : TapeSt) (x : Rat) (h : popExpo rate ts = .ok (x, ts')) :
    Draw.expo x ∈ ts.tape ∧ ∀ d ∈ ts'.tape, d ∈ ts.tape := by
  obtain ⟨-, ht⟩ := popExpo_inv h
  rw [ht]
  exact ⟨List.mem_cons_self, fun d hd => List.mem_cons_of_mem _ hd⟩

/-! ### runs that cannot end in `KeyError` -/
section Safe
variable {α β : Type}

/-- a good result of a run: a value satisfying `Q` (and, if `nn`, a tape whose `expovariate` values are still
non-negative), or an exception other than `KeyError` -/
def SafeR (nn : Prop) (Q : α → Prop) : Except String (α × TapeSt) → Prop
  | .ok r => Q r.1 ∧ (nn → TapeNonneg r.2)
  | .error e => e ≠ "KeyError"

/-- on every tape state (with non-negative `expovariate` values, if `nn`) the run of `m` has a good result.  This is
the form in which invariants of the simulators' loops are proved: `Safe.bind` walks down the loop body, and one
statement gives both the invariant of every returned state and the absence of `KeyError`. -/
def Safe (nn : Prop) (m : TM α) (Q : α → Prop) : Prop := ∀ ts, (nn → TapeNonneg ts) → SafeR nn Q (m ts)

theorem SafeR.inv {nn : Prop} {Q : α → Prop} {r : Except String (α × TapeSt)} (h : SafeR nn Q r) {a : α}
    {ts' : TapeSt} (hr : r = .ok (a, ts')) : Q a := by
  subst hr; exact h.1

theorem SafeR.no_keyerror {nn : Prop} {Q : α → Prop} {r : Except String (α × TapeSt)} (h : SafeR nn Q r) :
    r ≠ .error "KeyError" := by
  intro hc; subst hc; exact h rfl

theorem Safe.ok {m : TM α} {Q : α → Prop} (h : Safe False m Q) {ts ts' : TapeSt} {a : α}
    (hr : m ts = .ok (a, ts')) : Q a :=
  (h ts False.elim).inv hr

theorem Safe.ne_keyError {m : TM α} {Q : α → Prop} (h : Safe False m Q) (ts : TapeSt) :
    m ts ≠ .error "KeyError" :=
  (h ts False.elim).no_keyerror

theorem Safe.pure {nn : Prop} {Q : α → Prop} {a : α} (h : Q a) : Safe nn (pure a) Q := fun _ hts => ⟨h, hts⟩

theorem Safe.fail {nn : Prop} {Q : α → Prop} {msg : String} (h : msg ≠ "KeyError") :
    Safe nn (TM.fail msg : TM α) Q := fun _ _ => h

theorem Safe.bind {nn : Prop} {m : TM α} {f : α → TM β} {Q : α → Prop} {R : β → Prop} (hm : Safe nn m Q)
    (hf : ∀ a, Q a → Safe nn (f a) R) : Safe nn (m >>= f) R := by
  intro ts hts
  have h1 := hm ts hts
  cases hm' : m ts with
  | error e => rw [hm'] at h1; rw [bind_err hm']; exact h1
  | ok r => rw [hm'] at h1; rw [bind_ok hm']; exact hf r.1 h1.1 r.2 h1.2

theorem Safe.of_cases {nn : Prop} {m : TM α} {Q : α → Prop}
    (hok : ∀ ts a ts', m ts = .ok (a, ts') → Q a ∧ ∀ d ∈ ts'.tape, d ∈ ts.tape)
    (herr : ∀ ts e, m ts = .error e → e ≠ "KeyError") : Safe nn m Q := by
  intro ts hts
  cases hm : m ts with
  | error e => exact herr ts e hm
  | ok r => exact ⟨(hok ts r.1 r.2 hm).1, fun hc => (hts hc).mono (hok ts r.1 r.2 hm).2⟩

theorem safe_popUnif (nn : Prop) : Safe nn popUnif fun _ => True :=
  .of_cases (fun ts r ts' h => ⟨trivial, popUnif_tape ts ts' r h⟩) popUnif_err

theorem safe_popChoice (nn : Prop) (seq : List (List Nat)) : Safe nn (popChoice seq) fun _ => True :=
  .of_cases (fun ts i ts' h => ⟨trivial, popChoice_tape seq ts ts' i h⟩) (popChoice_err seq)

theorem safe_popExpo (nn : Prop) (rate : Rat) : Safe nn (popExpo rate) fun d => nn → 0 ≤ d := by
  intro ts hts
  cases hm : popExpo rate ts with
  | error e => exact popExpo_err rate ts e hm
  | ok r =>
    obtain ⟨h1, h2⟩ := popExpo_tape rate ts r.2 r.1 hm
    exact ⟨fun hc => hts hc _ h1 _ rfl, fun hc => (hts hc).mono h2⟩

end Safe

end TM

namespace PyTM

theorem listLast_of_getLast? {α : Type} {l : List α} {a : α} (h : l.getLast? = some a) : listLast l = .ok a := by
  simp only [listLast, h]; rfl

@[simp] theorem listLast_concat {α : Type} (l : List α) (a : α) : listLast (l ++ [a]) = .ok a :=
  listLast_of_getLast? (by simp)

theorem listLast_reverse_cons {α : Type} (a : α) (l : List α) : listLast (a :: l).reverse = .ok a :=
  listLast_of_getLast? (by simp)

theorem fdiv_ok (a b : Rat) (h : b ≠ 0) : fdiv a b = .ok (a / b) := if_neg h

@[simp] theorem fdiv_zero (a : Rat) : fdiv a 0 = .error "ZeroDivisionError" := if_pos rfl

end PyTM

theorem TM.listLast_eq {α : Type} {l : List α} {a : α} (h : l.getLast? = some a) :
    PyTM.liftE (PyTM.listLast l) = (pure a : TM α) := by
  rw [PyTM.listLast_of_getLast? h]; rfl

/-- `[pop[i] for i in idx]` with every index in range (what `random.sample` returns for the indices on the tape) -/
theorem PyRT.mapM_listChoice {α : Type} (pop : List α) (d : α) (idx : List Nat) (h : ∀ i ∈ idx, i < pop.length) :
    idx.mapM (fun i => PyRT.listChoice pop i) = .ok (idx.map fun i => pop.getD i d) := by
  induction idx with
  | nil => rfl
  | cons a t ih =>
    have ha : a < pop.length := h a List.mem_cons_self
    rw [List.mapM_cons, ih fun i hi => h i (List.mem_cons_of_mem _ hi)]
    simp only [PyRT.listChoice, List.getElem?_eq_getElem ha, List.map_cons, List.getD_eq_getElem?_getD,
      Option.getD_some]
    rfl
