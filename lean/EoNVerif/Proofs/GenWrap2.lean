import EoNVerif.Proofs.GenWrap
/-!
Lemmas for C06g (`Props/C06g.lean`) and tools for the later files: the `rho` / default request of the compact pairwise wrappers
(`Σ_k k·N_k = Σ_u deg u` through the `vecGet` / `np.dot` folds); the node pass `ebStep` / `loop5` on `(Sk0, SS, SR, SX, R0)` that
`EBCM_from_graph` (here), `EBCM_discrete_from_graph` and the attack-rate wrappers (GenWrap3) share; `fold_deriv`, the loop by which
every generated closure sums a derivative of a power series.
-/
namespace GenWrapProofs2
open GenInit InitCond GenInitProofs GenWrap GenWrapProofs
open GenHelpProofs (ok_bind err_bind pure_eq_ok PkAL fold_keys_ok)

/-! ## runtime: indices, ranges, `max` -/

theorem idx_nat (len k : Nat) (h : k < len) : PyWrap.idx len ((k : Nat) : Int) = .ok k := by
  unfold PyWrap.idx
  have h1 : ¬ ((k : Int) < 0) := by omega
  have h2 : ¬ ((k : Int) ≥ (len : Int)) := by omega
  simp only [h1, if_false, h2, false_or, Int.toNat_natCast]
  rfl

theorem idx_nat_ge (len k : Nat) (h : len ≤ k) : PyWrap.idx len ((k : Nat) : Int) = .error "IndexError" := by
  unfold PyWrap.idx
  have h1 : ¬ ((k : Int) < 0) := by omega
  have h2 : ((k : Int) ≥ (len : Int)) := by omega
  simp only [h1, if_false, h2, or_true, if_true]
  rfl

theorem vecGet_nat (v : List Rat) (k : Nat) (h : k < v.length) :
    PyWrap.vecGet v ((k : Nat) : Int) = .ok (v.getD k 0) := by
  unfold PyWrap.vecGet
  rw [idx_nat _ _ h]; rfl

theorem vecAdd_nat (v : List Rat) (k : Nat) (c : Rat) (h : k < v.length) :
    PyWrap.vecAdd v ((k : Nat) : Int) c = .ok (v.set k (v.getD k 0 + c)) := by
  unfold PyWrap.vecAdd
  rw [idx_nat _ _ h]; rfl

theorem range_succ_nat (m : Nat) :
    PyWrap.range (((m : Nat) : Int) + 1) = (List.range (m + 1)).map (fun (i : Nat) => (i : Int)) := by
  unfold PyWrap.range
  have : (((m : Nat) : Int) + 1).toNat = m + 1 := by omega
  rw [this]

theorem range_nat (m : Nat) : PyWrap.range ((m : Nat) : Int) = (List.range m).map (fun (i : Nat) => (i : Int)) := by
  unfold PyWrap.range
  rw [Int.toNat_natCast]

/-- `max(degrees)` as the wrappers compute it -/
abbrev maxk (A : IArgs) : Nat := (A.nodes.map A.degree).foldl max 0

theorem maxNat_eq (l : List Nat) :
    PyWrap.maxNat l = if l = [] then .error "ValueError" else .ok ((l.foldl max 0 : Nat) : Int) := by
  cases l with
  | nil => rfl
  | cons x xs => simp [PyWrap.maxNat]

theorem degree_hist_length (A : IArgs) : (degree_hist A).length = maxk A + 1 := by
  simp [degree_hist, maxk]

theorem degree_hist_getD (A : IArgs) (k : Nat) (h : k ≤ maxk A) :
    (degree_hist A).getD k 0 = (((A.nodes.filter (fun u => A.degree u = k)).length : Nat) : Rat) := by
  have hk : k < maxk A + 1 := by omega
  simp [degree_hist, List.getD_eq_getElem?_getD, maxk] at hk ⊢
  simp [hk]

/-! ## `Σ_k k·N_k = Σ_u deg u` -/

theorem sum_ite_eq_self (N d : Nat) :
    ((List.range N).map (fun k => if d = k then k else 0)).sum = if d < N then d else 0 := by
  induction N with
  | zero => simp
  | succ N ih =>
    rw [List.range_succ, List.map_append, List.sum_append, ih]
    by_cases h1 : d < N
    · have : d ≠ N := by omega
      have h2 : d < N + 1 := by omega
      simp [h1, h2, this]
    · by_cases h3 : d = N
      · subst h3; simp
      · have h2 : ¬ d < N + 1 := by omega
        simp [h1, h2, h3]

theorem sum_classes_weighted (d : Node → Nat) (M : Nat) (l : List Node) (hl : ∀ u ∈ l, d u ≤ M) :
    ((List.range (M + 1)).map (fun k => (l.filter (fun u => d u = k)).length * k)).sum = (l.map d).sum := by
  induction l with
  | nil => simp
  | cons a t ih =>
    have h1 : ∀ k, ((a :: t).filter (fun u => d u = k)).length * k =
        (if d a = k then k else 0) + (t.filter (fun u => d u = k)).length * k := by
      intro k
      rw [List.filter_cons]
      by_cases h : d a = k
      · simp only [h, decide_true, if_true, List.length_cons]; ring
      · simp [h]
    simp only [h1]
    rw [List.sum_map_add, ih (fun u hu => hl u (by simp [hu])), sum_ite_eq_self]
    have := hl a (by simp)
    have h2 : d a < M + 1 := by omega
    simp [h2]

theorem weighted_countEq (degs : List Nat) :
    sumRat ((List.range (Helpers.maxDeg degs + 1)).map fun k =>
      ((k : Nat) : Rat) * ((Helpers.countEq degs k : Nat) : Rat)) = ((degs.sum : Nat) : Rat) := by
  have h2 := sum_classes_weighted id (Helpers.maxDeg degs) degs (fun u hu => Helpers.le_maxDeg degs u hu)
  simp only [id] at h2
  rw [List.map_id] at h2
  rw [← h2, ← sumRat_cast_nat, List.map_map]
  apply sumRat_map_congr
  intro k _
  simp only [Function.comp, Helpers.countEq]
  push_cast; ring

/-- the sum of the degrees as the wrappers see it -/
def degSum (A : IArgs) : Nat := (A.nodes.map A.degree).sum

theorem hist_weighted (A : IArgs) :
    sumRat ((List.range (maxk A + 1)).map fun k => (degree_hist A).getD k 0 * ((k : Nat) : Rat))
      = ((degSum A : Nat) : Rat) := by
  rw [degSum, ← weighted_countEq]
  apply sumRat_map_congr
  intro k hk
  rw [degree_hist_getD A k (by have := List.mem_range.mp hk; omega), Helpers.countEq, List.filter_map, List.length_map,
    mul_comm]
  rfl

theorem degSum_graph (A : IArgs) (adj : List (List Nat)) (hG : GraphOK A adj) : degSum A = twoM adj := by
  unfold degSum twoM
  rw [degs_eq A adj hG]

theorem fold_hist_weighted (A : IArgs) (c : Rat) (step : Rat → Int → Except String Rat)
    (h : ∀ (k : Nat), k ≤ maxk A → ∀ acc,
      step acc ((k : Nat) : Int) = .ok (acc + c * ((degree_hist A).getD k 0 * ((k : Nat) : Rat)))) :
    (PyWrap.range (((maxk A : Nat) : Int) + 1)).foldlM step 0 = .ok (c * ((degSum A : Nat) : Rat)) := by
  rw [range_succ_nat, List.foldlM_map,
    fold_keys_ok _ (fun k => c * ((degree_hist A).getD k 0 * ((k : Nat) : Rat)))]
  · rw [sumRat_map_mul_left, hist_weighted]; simp
  · intro k hk acc
    exact h k (by have := List.mem_range.mp hk; omega) acc

/-! ## compact pairwise wrappers without `initial_infecteds` -/

theorem SIS_cp_none (A : WArgs) (tau gamma : Rat) (tmin tmax : Rat) (tcount : Int) (full : Bool) :
    SIS_compact_pairwise_from_graph_args A tau gamma none none tmin tmax tcount full =
      if A.nodes.length = 0 then .error "ZeroDivisionError" else
      SIS_compact_pairwise_from_graph_args A tau gamma none (some (1 / (A.nodes.length : Rat))) tmin tmax tcount full := by
  unfold SIS_compact_pairwise_from_graph_args
  simp only [Option.isSome_none, Bool.false_eq_true, if_false, Option.isNone_none, Bool.and_self,
    if_true, Int.cast_natCast, fdiv_N]
  split <;> rfl

theorem SIS_cp_some (A : WArgs) (tau gamma : Rat) (r : Rat) (tmin tmax : Rat) (tcount : Int) (full : Bool) :
    SIS_compact_pairwise_from_graph_args A tau gamma none (some r) tmin tmax tcount full =
        if A.nodes = [] then .error "ValueError" else
        .ok { Sk0 := (get_Nk_and_IC_rho A.toIArgs r).2.1, Ik0 := (get_Nk_and_IC_rho A.toIArgs r).2.2.1,
              SI0 := (1 - r) * r * ((degSum A.toIArgs : Nat) : Rat),
              SS0 := (1 - r) * (1 - r) * ((degSum A.toIArgs : Nat) : Rat),
              II0 := r * r * ((degSum A.toIArgs : Nat) : Rat),
              tau := tau, gamma := gamma, tmin := tmin, tmax := tmax, tcount := tcount,
              return_full_data := full } := by
  unfold SIS_compact_pairwise_from_graph_args
  simp only [Option.isSome_none, Bool.false_and, Bool.false_eq_true, if_false, Option.isNone_none,
    Bool.and_false, Option.isNone_some, ok_bind, pure_eq_ok, arrays_closed, Option.isSome_some, and_false,
    Option.getD_some, maxNat_eq, List.map_eq_nil_iff, PyWrap.num]
  split
  · rfl
  · rename_i hne
    simp only [ok_bind]
    have hv : ∀ (k : Nat), k ≤ maxk A.toIArgs →
        PyWrap.vecGet (get_Nk_and_IC_rho A.toIArgs r).1 ((k : Nat) : Int)
          = .ok ((degree_hist A.toIArgs).getD k 0) := fun k hk =>
      vecGet_nat (degree_hist A.toIArgs) k (by rw [degree_hist_length]; omega)
    rw [fold_hist_weighted A.toIArgs ((1 - r) * (1 - r)), fold_hist_weighted A.toIArgs ((1 - r) * r),
      fold_hist_weighted A.toIArgs (r * r)]
    · simp only [ok_bind]
    all_goals
      intro k hk acc
      rw [hv k hk]
      simp only [ok_bind, Int.cast_one, Int.cast_natCast]
      congr 1; ring

theorem dot_range (n : Nat) (F : Nat → Rat) :
    PyWrap.dot ((List.range n).map F) ((PyWrap.range ((n : Nat) : Int)).map (fun (i : Int) => ((i : Int) : Rat)))
      = .ok (sumRat ((List.range n).map fun k => F k * ((k : Nat) : Rat))) := by
  unfold PyWrap.dot
  rw [range_nat]
  simp [List.zipWith_map, List.zipWith_self]

theorem degree_hist_as_map (A : IArgs) :
    degree_hist A = (List.range (maxk A + 1)).map (fun k => (degree_hist A).getD k 0) := by
  rw [← degree_hist_length A]; exact (GenHelpProofs.map_getD_range _ _).symm

theorem rho_Sk0_as_map (A : IArgs) (r : Rat) :
    (get_Nk_and_IC_rho A r).2.1 = (List.range (maxk A + 1)).map (fun k => (1 - r) * (degree_hist A).getD k 0) := by
  show (degree_hist A).map (fun x => (1 - r) * x) = _
  conv_lhs => rw [degree_hist_as_map A]
  simp [Function.comp_def]

theorem dot_rho_Sk0 (A : IArgs) (r : Rat) :
    PyWrap.dot (get_Nk_and_IC_rho A r).2.1
        ((PyWrap.range (((get_Nk_and_IC_rho A r).1.length : Nat) : Int)).map (fun (i : Int) => ((i : Int) : Rat)))
      = .ok ((1 - r) * ((degSum A : Nat) : Rat)) := by
  have hL : (get_Nk_and_IC_rho A r).1.length = maxk A + 1 := degree_hist_length A
  rw [hL, rho_Sk0_as_map, dot_range]
  have : (List.range (maxk A + 1)).map (fun k => (1 - r) * (degree_hist A).getD k 0 * ((k : Nat) : Rat))
      = (List.range (maxk A + 1)).map (fun k => (1 - r) * ((degree_hist A).getD k 0 * ((k : Nat) : Rat))) := by
    apply List.map_congr_left; intro k _; ring
  rw [this, sumRat_map_mul_left, hist_weighted]

theorem SIR_cp_none (A : WArgs) (tau gamma : Rat) (recs : Option (List Node)) (tmin tmax : Rat) (tcount : Int)
    (full : Bool) :
    SIR_compact_pairwise_from_graph_args A tau gamma none recs none tmin tmax tcount full =
      if A.nodes.length = 0 then .error "ZeroDivisionError" else
      SIR_compact_pairwise_from_graph_args A tau gamma none recs (some (1 / (A.nodes.length : Rat))) tmin tmax tcount
        full := by
  unfold SIR_compact_pairwise_from_graph_args
  simp only [Option.isSome_none, Bool.false_eq_true, if_false, Option.isNone_none, Bool.and_self,
    if_true, Int.cast_natCast, fdiv_N]
  split <;> rfl

/-- `SIR_compact_pairwise_from_graph` with `rho`, without `initial_infecteds`: an `initial_recovereds` is an `EoNError`
(raised by `_get_Nk_and_IC_as_arrays_`) -/
theorem SIR_cp_some (A : WArgs) (tau gamma : Rat) (recs : Option (List Node)) (r : Rat) (tmin tmax : Rat)
    (tcount : Int) (full : Bool) :
    SIR_compact_pairwise_from_graph_args A tau gamma none recs (some r) tmin tmax tcount full =
        if recs.isSome then .error "EoNError" else
        if A.nodes = [] then .error "ValueError" else
        .ok { Sk0 := (get_Nk_and_IC_rho A.toIArgs r).2.1, I0 := sumRat (get_Nk_and_IC_rho A.toIArgs r).2.2.1,
              R0 := sumRat (get_Nk_and_IC_rho A.toIArgs r).2.2.2,
              SS0 := (1 - r) * ((1 - r) * ((degSum A.toIArgs : Nat) : Rat)),
              SI0 := r * ((1 - r) * ((degSum A.toIArgs : Nat) : Rat)),
              tau := tau, gamma := gamma, tmin := tmin, tmax := tmax, tcount := tcount,
              return_full_data := full } := by
  unfold SIR_compact_pairwise_from_graph_args
  simp only [Option.isSome_none, Bool.false_and, Bool.false_eq_true, if_false, Option.isNone_none,
    Bool.and_false, Option.isNone_some, ok_bind, pure_eq_ok, arrays_closed, Option.isSome_some, and_false,
    Option.getD_some, Bool.true_eq_false, false_and, true_and]
  split
  · rfl
  · split
    · rfl
    · simp only [ok_bind, PyWrap.num, dot_rho_Sk0, Int.cast_one]
      rfl

/-! ## the node loops of the EBCM / attack-rate wrappers -/

/-- number of neighbours (as `G.neighbors` lists them) with status `x` -/
def nbCount (st : Node → St) (nb : Node → List Node) (u : Node) (x : St) : Nat :=
  ((nb u).filter fun v => st v = x).length

theorem nbFoldP (p : Node → Prop) [DecidablePred p] (l : List Node) : ∀ (a : Int),
    l.foldlM (fun (acc_ : Int) (nbr : Node) =>
      if decide (p nbr) then (pure (acc_ + (1 : Int)) : Except String Int) else pure acc_) a
      = .ok (a + ((l.filter fun v => p v).length : Nat)) := by
  induction l with
  | nil => intro a; simp
  | cons b t ih =>
    intro a
    rw [List.foldlM_cons]
    by_cases h : p b
    · rw [if_pos (by simpa using h)]
      show List.foldlM _ (a + 1) t = _
      rw [ih]; simp [h]; ring
    · rw [if_neg (by simpa using h)]
      show List.foldlM _ a t = _
      rw [ih]; simp [h]

/-- the array of degree counts the wrappers build from the `Counter` -/
def NkL (degs : List Nat) : List Rat := vec (Helpers.maxDeg degs) (fun k => ((Helpers.countEq degs k : Nat) : Rat))

theorem mapM_counter (degs : List Nat) :
    (PyWrap.range (((Helpers.maxDeg degs : Nat) : Int) + 1)).mapM (fun (k : Int) =>
      (pure (((PyWrap.counterGet (PyHelp.counter degs) k) : Int) : Rat) : Except String Rat)) = .ok (NkL degs) := by
  refine (GenHelpProofs.mapM_pure _ _).trans ?_
  rw [range_succ_nat, List.map_map]
  congr 1
  apply List.map_congr_left
  intro k _
  simp only [Function.comp, PyWrap.counterGet]
  rw [if_neg (by omega), Int.toNat_natCast, GenHelpProofs.counter_get]
  simp

theorem zeros_eq (M : Nat) : PyWrap.zeros (((M : Nat) : Int) + 1) = .ok (vec M (fun _ => 0)) := by
  unfold PyWrap.zeros
  have h1 : ¬ (((M : Nat) : Int) + 1 < 0) := by omega
  have h2 : (((M : Nat) : Int) + 1).toNat = M + 1 := by omega
  rw [if_neg h1, h2]
  show Except.ok _ = Except.ok _
  congr 1
  apply List.ext_getElem <;> simp [vec]

theorem vec_getD (M : Nat) (f : Nat → Rat) (k : Nat) (h : k ≤ M) : (vec M f).getD k 0 = f k := by
  rw [List.getD_eq_getElem?_getD, vec_getElem?, if_pos h]; rfl

theorem vec_set (M : Nat) (f : Nat → Rat) (d : Nat) (c : Rat) (hd : d ≤ M) :
    (vec M f).set d ((vec M f).getD d 0 + c) = vec M (fun k => f k + if d = k then c else 0) := by
  rw [vec_getD M f d hd]
  apply List.ext_getElem?
  intro k
  rw [List.getElem?_set, vec_getElem?, vec_getElem?]
  by_cases hk : d = k
  · subst hk; simp [hd]
  · simp [hk]

/-- one pass of the node loop of `EBCM_from_graph` on `(Sk0, SS, SR, SX, R0)`; `w k` is what a susceptible node of
degree `k` adds to `Sk0[k]` -/
def ebStep (d : Node → Nat) (st : Node → St) (nb : Node → List Node) (w : Nat → Rat)
    (acc : List Rat × Int × Int × Int × Int) (u : Node) : List Rat × Int × Int × Int × Int :=
  if st u = St.S then
    (acc.1.set (d u) (acc.1.getD (d u) 0 + w (d u)), acc.2.1 + (nbCount st nb u St.S : Nat),
      acc.2.2.1 + (nbCount st nb u St.R : Nat), acc.2.2.2.1 + (d u : Nat), acc.2.2.2.2)
  else if st u = St.R then (acc.1, acc.2.1, acc.2.2.1, acc.2.2.2.1, acc.2.2.2.2 + 1)
  else acc

/-- `Σ_{u ∈ l, u susceptible} g u` -/
def sumS (st : Node → St) (g : Node → Nat) (l : List Node) : Nat := (l.map fun u => if st u = St.S then g u else 0).sum

theorem cnt_cons_of_ne (d : Node → Nat) (st : Node → St) (a : Node) (t : List Node) (x : St) (k : Nat) (h : st a ≠ x) :
    cnt d st (a :: t) x k = cnt d st t x k := by
  unfold cnt
  rw [List.filter_cons_of_neg (by simpa using fun _ => h)]

theorem sumS_cons_of_ne (st : Node → St) (g : Node → Nat) (a : Node) (t : List Node) (h : st a ≠ St.S) :
    sumS st g (a :: t) = sumS st g t := by
  simp [sumS, h]

theorem foldl_ebStep (d : Node → Nat) (st : Node → St) (nb : Node → List Node) (w : Nat → Rat) (M : Nat)
    (l : List Node) (hl : ∀ u ∈ l, d u ≤ M) : ∀ (F : Nat → Rat) (SS SR SX R0 : Int),
    l.foldl (ebStep d st nb w) (vec M F, SS, SR, SX, R0) =
      (vec M (fun k => F k + (cnt d st l St.S k : Rat) * w k),
       SS + (sumS st (fun u => nbCount st nb u St.S) l : Nat), SR + (sumS st (fun u => nbCount st nb u St.R) l : Nat),
       SX + (sumS st d l : Nat), R0 + ((l.filter fun u => st u = St.R).length : Nat)) := by
  induction l with
  | nil => intro F SS SR SX R0; simp [cnt, sumS]
  | cons a t ih =>
    intro F SS SR SX R0
    have ha := hl a (by simp)
    rw [List.foldl_cons]
    cases h : st a
    · rw [show ebStep d st nb w (vec M F, SS, SR, SX, R0) a =
          ((vec M F).set (d a) ((vec M F).getD (d a) 0 + w (d a)), SS + (nbCount st nb a St.S : Nat),
            SR + (nbCount st nb a St.R : Nat), SX + (d a : Nat), R0) from by simp [ebStep, h],
        vec_set M F (d a) (w (d a)) ha, ih (fun u hu => hl u (by simp [hu]))]
      refine Prod.ext ?_ (Prod.ext ?_ (Prod.ext ?_ (Prod.ext ?_ ?_)))
      · apply vec_congr; intro k
        simp only [cnt_cons, ind, h]
        by_cases hk : d a = k
        · subst hk; simp; ring
        · simp [hk]
      · simp only [sumS, List.map_cons, List.sum_cons, h, if_true]; push_cast; ring
      · simp only [sumS, List.map_cons, List.sum_cons, h, if_true]; push_cast; ring
      · simp only [sumS, List.map_cons, List.sum_cons, h, if_true]; push_cast; ring
      · simp [h]
    · rw [show ebStep d st nb w (vec M F, SS, SR, SX, R0) a = (vec M F, SS, SR, SX, R0) from by simp [ebStep, h],
        ih (fun u hu => hl u (by simp [hu]))]
      simp [cnt_cons_of_ne, sumS_cons_of_ne, h]
    · rw [show ebStep d st nb w (vec M F, SS, SR, SX, R0) a = (vec M F, SS, SR, SX, R0 + 1) from by
          simp [ebStep, h],
        ih (fun u hu => hl u (by simp [hu]))]
      simp [cnt_cons_of_ne, sumS_cons_of_ne, h, add_assoc, add_comm]

theorem ebStep_length (d : Node → Nat) (st : Node → St) (nb : Node → List Node) (w : Nat → Rat)
    (acc : List Rat × Int × Int × Int × Int) (u : Node) : (ebStep d st nb w acc u).1.length = acc.1.length := by
  unfold ebStep
  split
  · simp
  · split <;> rfl

theorem loop5 (d : Node → Nat) (st : Node → St) (nb : Node → List Node) (w : Nat → Rat) (M : Nat)
    (l : List Node) (hl : ∀ u ∈ l, d u ≤ M)
    (step : List Rat × Int × Int × Int × Int → Node → Except String (List Rat × Int × Int × Int × Int))
    (hstep : ∀ acc u, u ∈ l → acc.1.length = M + 1 → step acc u = .ok (ebStep d st nb w acc u))
    (F : Nat → Rat) (SS SR SX R0 : Int) :
    l.foldlM step (vec M F, SS, SR, SX, R0) =
      .ok (vec M (fun k => F k + (cnt d st l St.S k : Rat) * w k),
       SS + (sumS st (fun u => nbCount st nb u St.S) l : Nat), SR + (sumS st (fun u => nbCount st nb u St.R) l : Nat),
       SX + (sumS st d l : Nat), R0 + ((l.filter fun u => st u = St.R).length : Nat)) := by
  rw [(List.foldlM_pure_on step (ebStep d st nb w) (fun acc => acc.1.length = M + 1) l
      (fun a x hP hx => ⟨hstep a x hx hP, by rw [ebStep_length]; exact hP⟩) _ (vec_length _ _)).1,
    foldl_ebStep d st nb w M l hl]
  rfl

/-! ## `EBCM_from_graph` -/

/-- what a susceptible node of degree `k` adds to `Sk0[k]`: `1/Nk[k]` -/
def wInv (degs : List Nat) (k : Nat) : Rat := 1 / (NkL degs).getD k 0

theorem NkL_getD (degs : List Nat) (k : Nat) (hk : k ∈ degs) :
    (NkL degs).getD k 0 = ((Helpers.countEq degs k : Nat) : Rat) ∧ (NkL degs).getD k 0 ≠ 0 := by
  have h1 : (NkL degs).getD k 0 = ((Helpers.countEq degs k : Nat) : Rat) :=
    vec_getD _ _ k (Helpers.le_maxDeg degs k hk)
  refine ⟨h1, ?_⟩
  rw [h1]
  have : 0 < Helpers.countEq degs k := by
    unfold Helpers.countEq
    apply List.length_pos_of_mem (a := k)
    simp [hk]
  exact_mod_cast this.ne'

theorem powI_nat (x : Rat) (k : Nat) : PyWrap.powI x ((k : Nat) : Int) = .ok (x ^ k) := by
  unfold PyWrap.powI
  rw [if_pos (by omega), Int.toNat_natCast]; rfl

theorem powI_shift (x : Rat) (k j : Nat) :
    PyWrap.powI x (((k : Nat) : Int) - ((j : Nat) : Int)) =
      if j ≤ k then .ok (x ^ (k - j)) else if x = 0 then .error "ZeroDivisionError" else .ok ((1 / x) ^ (j - k)) := by
  unfold PyWrap.powI
  by_cases h : j ≤ k
  · have : (((k : Nat) : Int) - ((j : Nat) : Int)).toNat = k - j := by omega
    rw [if_pos (by omega), if_pos h, this]; rfl
  · have : (-(((k : Nat) : Int) - ((j : Nat) : Int))).toNat = j - k := by omega
    rw [if_neg (by omega), if_neg h, this]
    split <;> rfl

theorem powI_pred (x : Rat) (k : Nat) (hk : 0 < k) : PyWrap.powI x (((k : Nat) : Int) - 1) = .ok (x ^ (k - 1)) :=
  (powI_shift x k 1).trans (if_pos hk)

/-- **The `j`-th derivative of a power sum as the generated closures compute it**, for every `x`: each key adds
`t k · x ** (k - j)`, and the coefficient `t k` vanishes below `j`.  For `x ≠ 0` a term below `j` is `0 · x ** (negative)`;
at `x = 0` it is `0.0 ** (negative)`, which raises — so the sum raises exactly when `x = 0` and some key is below `j`.
`hstep` speaks of the step after the dictionary / array lookups have answered.  Of its instances and their relatives, those named
`…_fold` may raise (the result is an `if`), those named `…_closure(_pos)` are total. -/
theorem fold_deriv (keys : List Nat) (j : Nat) (t : Nat → Rat) (ht : ∀ k ∈ keys, k < j → t k = 0) (x : Rat)
    (step : Rat → Nat → Except String Rat)
    (hstep : ∀ k ∈ keys, ∀ acc, step acc k =
      PyWrap.powI x (((k : Nat) : Int) - ((j : Nat) : Int)) >>= fun p => .ok (acc + t k * p)) :
    keys.foldlM step 0 =
      if x = 0 ∧ ∃ k ∈ keys, k < j then .error "ZeroDivisionError"
      else .ok (sumRat (keys.map fun k => if j ≤ k then t k * x ^ (k - j) else 0)) := by
  rw [GenHelpProofs.foldlM_guard step (fun acc k => acc + if j ≤ k then t k * x ^ (k - j) else 0)
    (fun k => ¬ (x = 0 ∧ k < j)) "ZeroDivisionError", GenHelpProofs.foldl_add_sum, zero_add]
  · by_cases h : x = 0 ∧ ∃ k ∈ keys, k < j
    · obtain ⟨hx, k, hk, hkj⟩ := h
      rw [if_neg fun hall => hall k hk ⟨hx, hkj⟩, if_pos ⟨hx, k, hk, hkj⟩]
    · rw [if_pos fun k hk (hz : x = 0 ∧ k < j) => h ⟨hz.1, k, hk, hz.2⟩, if_neg h]
  · intro k hk acc
    rw [hstep k hk, powI_shift]
    by_cases hkj : j ≤ k
    · rw [if_pos hkj, if_pos hkj, if_pos fun h => absurd h.2 (by omega)]; rfl
    · by_cases hx : x = 0
      · rw [if_neg hkj, if_pos hx, if_neg fun h => h ⟨hx, by omega⟩]; rfl
      · rw [if_neg hkj, if_neg hx, if_neg hkj, ht k hk (by omega), if_pos fun h => hx h.1]
        show Except.ok _ = Except.ok _
        rw [zero_mul]

theorem lt_one_iff_zero_mem (keys : List Nat) : (∃ k ∈ keys, k < 1) ↔ 0 ∈ keys :=
  ⟨fun ⟨k, hk, h⟩ => by rwa [show k = 0 by omega] at hk, fun h => ⟨0, h, Nat.one_pos⟩⟩

/-- `Σ_{k ∈ Pk} Pk[k]·v[k]·x^k` for an ARRAY `v` indexed by degree -/
def psiHatV (Pk : List (Nat × Rat)) (v : List Rat) (x : Rat) : Rat :=
  sumRat ((Pk.map (·.1)).map fun k => (alGet Pk 0 k * v.getD k 0) * x ^ k)

/-- `Σ_{k ∈ Pk} k·Pk[k]·v[k]·x^(k-1)` -/
def psiHatPV (Pk : List (Nat × Rat)) (v : List Rat) (x : Rat) : Rat :=
  sumRat ((Pk.map (·.1)).map fun k =>
    if 0 < k then ((((k : Nat) : Rat) * alGet Pk 0 k) * v.getD k 0) * x ^ (k - 1) else 0)

/-- the divisor `SX`, replaced by 1 when it is 0 -/
def gI (n : Nat) : Nat := if n = 0 then 1 else n

theorem gI_ne_zero (n : Nat) : gI n ≠ 0 := by unfold gI; split <;> omega

/-- the guard `if SX == 0: SX = 1` on a counter -/
theorem guard_nat (n : Nat) :
    (if decide (((n : Nat) : Int) = (0 : Int)) = true then (pure (1 : Int) : Except String Int) else pure ((n : Nat) : Int))
      = .ok ((gI n : Nat) : Int) := by
  unfold gI
  by_cases h : n = 0 <;> simp [h]

theorem fdiv_gI (a : Rat) (n : Nat) : PyTM.fdiv a (((gI n : Nat) : Int) : Rat) = .ok (a / ((gI n : Nat) : Rat)) := by
  rw [Int.cast_natCast]
  exact GenHelpProofs.fdiv_ok _ _ (by exact_mod_cast gI_ne_zero n)

theorem keys_PkAL_iff (degs : List Nat) (k : Nat) : k ∈ (PkAL degs).map (·.1) ↔ k ∈ degs := by
  rw [GenHelpProofs.PkAL_keys]; exact List.mem_eraseDups

theorem keys_PkAL_mem (degs : List Nat) (k : Nat) (hk : k ∈ (PkAL degs).map (·.1)) : k ∈ degs :=
  (keys_PkAL_iff degs k).mp hk

theorem keys_lt (degs : List Nat) (v : List Rat) (hv : v.length = Helpers.maxDeg degs + 1) :
    ∀ k ∈ (PkAL degs).map (·.1), PyWrap.vecGet v ((k : Nat) : Int) = .ok (v.getD k 0) := by
  intro k hk
  have := Helpers.le_maxDeg degs k (keys_PkAL_mem degs k hk)
  exact vecGet_nat v k (by omega)

/-- `Σ_{k ∈ Pk} Pk[k]·x^k` -/
def psiK (Pk : List (Nat × Rat)) (x : Rat) : Rat := sumRat ((Pk.map (·.1)).map fun k => alGet Pk 0 k * x ^ k)

theorem psiK_closure (Pk : List (Nat × Rat)) (x : Rat) :
    (Pk.map (·.1)).foldlM (fun (acc_ : Rat) (k_ : Nat) => do
        let d_21 ← PyWrap.dictGet Pk ((k_ : Nat) : Int)
        let p_22 ← PyWrap.powI x ((k_ : Nat) : Int)
        (pure (acc_ + (d_21 * p_22)) : Except String Rat)) 0 = .ok (psiK Pk x) := by
  rw [fold_keys_ok _ (fun k => alGet Pk 0 k * x ^ k)]
  · simp [psiK]
  · intro k hk acc
    rw [wdictGet_key _ k hk, powI_nat]; rfl

/-- the generated `psihat` closure of the explicit-sets branch, for an array `v` of `maxdeg + 1` entries -/
theorem psihat_closure (degs : List Nat) (v : List Rat) (hv : v.length = Helpers.maxDeg degs + 1) (x : Rat) :
    ((PkAL degs).map (·.1)).foldlM (fun (acc_ : Rat) (k_ : Nat) => do
        let d_10 ← PyWrap.dictGet (PkAL degs) ((k_ : Nat) : Int)
        let d_11 ← PyWrap.vecGet v ((k_ : Nat) : Int)
        let p_12 ← PyWrap.powI x ((k_ : Nat) : Int)
        (pure (acc_ + ((d_10 * d_11) * p_12)) : Except String Rat)) 0 = .ok (psiHatV (PkAL degs) v x) := by
  rw [fold_keys_ok _ (fun k => (alGet (PkAL degs) 0 k * v.getD k 0) * x ^ k)]
  · simp [psiHatV]
  · intro k hk acc
    have hk' := Helpers.le_maxDeg degs k (keys_PkAL_mem degs k hk)
    rw [wdictGet_key _ k hk, vecGet_nat v k (by omega), powI_nat]
    rfl

/-- the sum of the generated `psihatPrime` closure of the explicit-sets branch, over ALL keys: at `x = 0` the term of the
degree-0 class is `0.0 ** (-1)` -/
theorem psihatPrime_fold (degs : List Nat) (v : List Rat) (hv : v.length = Helpers.maxDeg degs + 1) (x : Rat) :
    ((PkAL degs).map (·.1)).foldlM (fun (acc_ : Rat) (k_ : Nat) => do
        let d_14 ← PyWrap.dictGet (PkAL degs) ((k_ : Nat) : Int)
        let d_15 ← PyWrap.vecGet v ((k_ : Nat) : Int)
        let p_16 ← PyWrap.powI x (((k_ : Nat) : Int) - (1 : Int))
        (pure (acc_ + ((((((k_ : Nat) : Int) : Rat) * d_14) * d_15) * p_16)) : Except String Rat)) 0
      = if x = 0 ∧ 0 ∈ degs then .error "ZeroDivisionError" else .ok (psiHatPV (PkAL degs) v x) := by
  rw [fold_deriv _ 1 (fun k => (((k : Nat) : Int) : Rat) * alGet (PkAL degs) 0 k * v.getD k 0)
    (fun k _ hk => by simp [show k = 0 by omega]) x _
    (fun k hk acc => by rw [wdictGet_key _ k hk, keys_lt degs v hv k hk]; rfl)]
  simp only [lt_one_iff_zero_mem, keys_PkAL_iff, psiHatPV, Int.cast_natCast]; rfl

/-- the final `Sk0` array of the explicit-sets branch: `Sk0[k]` = (number of susceptible nodes of degree `k`)/`N_k` -/
def Sk0fin (A : WArgs) (st : Node → St) : List Rat :=
  vec (Helpers.maxDeg (A.nodes.map A.degree))
    (fun k => (cnt A.degree st A.nodes St.S k : Rat) * wInv (A.nodes.map A.degree) k)

/-- the ValueError is Python's `max` of no degrees -/
theorem EBCM_sets (A : WArgs) (tau gamma : Rat) (infs : List Node) (recs : Option (List Node)) (tmin tmax : Rat)
    (tcount : Int) (full : Bool) :
    EBCM_from_graph_args A tau gamma (some infs) recs none tmin tmax tcount full =
      initialize_node_status A.toIArgs infs (recs.getD []) >>= fun st =>
      if A.nodes = [] then .error "ValueError" else
      .ok { N := (A.nodes.length : Rat),
            psihat := fun x => .ok (psiHatV (PkAL (A.nodes.map A.degree)) (Sk0fin A st) x),
            psihatPrime := fun x => if x = 0 ∧ 0 ∈ A.nodes.map A.degree then .error "ZeroDivisionError"
              else .ok (psiHatPV (PkAL (A.nodes.map A.degree)) (Sk0fin A st) x),
            tau := tau, gamma := gamma,
            phiS0 := ((sumS st (fun u => nbCount st A.neighbors u St.S) A.nodes : Nat) : Rat)
              / ((gI (sumS st A.degree A.nodes) : Nat) : Rat),
            phiR0 := ((sumS st (fun u => nbCount st A.neighbors u St.R) A.nodes : Nat) : Rat)
              / ((gI (sumS st A.degree A.nodes) : Nat) : Rat),
            R0 := (((A.nodes.filter fun u => st u = St.R).length : Nat) : Rat),
            tmin := tmin, tmax := tmax, tcount := tcount, return_full_data := full } := by
  unfold EBCM_from_graph_args
  simp only [Option.isSome_none, Bool.false_and, Bool.false_eq_true, if_false, GenHelpProofs.get_Pk_eq, ok_bind]
  congr 1; funext st
  by_cases hne : A.nodes = []
  · simp only [maxKey_counter, hne, List.map_nil, if_true, err_bind]
  · simp only [maxKey_degrees, hne, if_false, ok_bind, mapM_counter, zeros_eq]
    rw [loop5 A.degree st A.neighbors (wInv (A.nodes.map A.degree)) (Helpers.maxDeg (A.nodes.map A.degree)) A.nodes
      (fun u hu => Helpers.le_maxDeg _ _ (List.mem_map.mpr ⟨u, hu, rfl⟩))]
    swap
    · intro acc u hu hlen
      have hd : A.degree u ∈ A.nodes.map A.degree := List.mem_map.mpr ⟨u, hu, rfl⟩
      have hle := Helpers.le_maxDeg _ _ hd
      obtain ⟨a, b, c, d, e⟩ := acc
      simp only at hlen
      have e1 := vecGet_nat a (A.degree u) (by omega)
      have e2 := vecGet_nat (NkL (A.nodes.map A.degree)) (A.degree u) (by simp [NkL]; omega)
      have e3 := GenHelpProofs.fdiv_ok 1 _ (NkL_getD _ _ hd).2
      have e4 := vecAdd_nat a (A.degree u) (1 / (NkL (A.nodes.map A.degree)).getD (A.degree u) 0) (by omega)
      cases h : st u
      · simp only [decide_true, if_true, e1, e2, e3, e4, ok_bind, nbFoldP]
        simp [ebStep, h, nbCount, wInv]
      · simp [ebStep, h]
      · simp [ebStep, h]
    simp only [ok_bind, zero_add, guard_nat, fdiv_gI, psihat_closure _ _ (vec_length _ _),
      psihatPrime_fold _ _ (vec_length _ _)]
    simp [Sk0fin]

theorem EBCM_both (A : WArgs) (tau gamma : Rat) (infs recs : Option (List Node)) (r : Rat) (tmin tmax : Rat)
    (tcount : Int) (full : Bool) (h : infs.isSome ∨ recs.isSome) :
    EBCM_from_graph_args A tau gamma infs recs (some r) tmin tmax tcount full = .error "EoNError" := by
  unfold EBCM_from_graph_args
  cases infs <;> cases recs <;> simp at h ⊢

/-! ## the graph as adjacency lists, with `G.neighbors` -/

/-- `GraphOK` plus: `G.neighbors(u)` lists the adjacency list of `u` -/
structure GraphOKW (A : WArgs) (adj : List (List Nat)) : Prop extends GraphOK A.toIArgs adj where
  nbrs : ∀ u, u < adj.length → A.neighbors u = adj.getD u []

/-- `Σ_{u susceptible} deg u` (the `SX` of the wrappers) -/
def degS (adj : List (List Nat)) (st : Nat → St) : Nat :=
  ((List.range adj.length).map fun u => if st u = St.S then deg adj u else 0).sum

/-- `Sk0[k]` = fraction of the degree-`k` nodes that are susceptible, `k = 0..maxdeg` -/
def Sk0G (adj : List (List Nat)) (st : Nat → St) : List Rat :=
  vec (maxDeg adj) (fun k => (classCount adj st St.S k : Rat) / (Nk adj k : Rat))

theorem sumS_nb (A : WArgs) (adj : List (List Nat)) (hW : GraphOKW A adj) (st : Node → St) (x : St) :
    sumS st (fun u => nbCount st A.neighbors u x) A.nodes = pairCount adj st St.S x := by
  unfold sumS pairCount nbCount
  rw [hW.nodes]
  congr 1
  apply List.map_congr_left
  intro u hu
  simp only [hW.nbrs u (List.mem_range.mp hu)]

theorem sumS_deg (A : WArgs) (adj : List (List Nat)) (hG : GraphOK A.toIArgs adj) (st : Node → St) :
    sumS st A.degree A.nodes = degS adj st := by
  unfold sumS degS
  rw [hG.nodes]
  congr 1
  apply List.map_congr_left
  intro u hu
  rw [hG.degree u (List.mem_range.mp hu)]

theorem filterR_graph (A : WArgs) (adj : List (List Nat)) (hG : GraphOK A.toIArgs adj) (st : Node → St) :
    (A.nodes.filter fun u => st u = St.R).length = count adj st St.R := by
  rw [hG.nodes]; rfl

theorem countEq_degs (adj : List (List Nat)) (k : Nat) : Helpers.countEq (adj.map (·.length)) k = Nk adj k := by
  unfold Helpers.countEq Nk
  rw [← map_range_deg, List.filter_map, List.length_map]
  rfl

theorem Pk_graph (adj : List (List Nat)) (k : Nat) :
    alGet (PkAL (adj.map (·.length))) 0 k = (Nk adj k : Rat) / (adj.length : Rat) := by
  rw [GenHelpProofs.PkAL_get, Helpers.Pk, countEq_degs, List.length_map]

theorem Sk0G_getD (adj : List (List Nat)) (st : Nat → St) (k : Nat) (hk : k ≤ maxDeg adj) :
    (Sk0G adj st).getD k 0 = (classCount adj st St.S k : Rat) / (Nk adj k : Rat) := vec_getD _ _ k hk

theorem Nk_ne_zero (adj : List (List Nat)) (k : Nat) (hk : k ∈ adj.map (·.length)) : ((Nk adj k : Nat) : Rat) ≠ 0 := by
  have := (NkL_getD _ k hk).2
  rwa [(NkL_getD _ k hk).1, countEq_degs] at this

theorem NkL_graph (adj : List (List Nat)) :
    NkL (adj.map (·.length)) = vec (maxDeg adj) (fun k => ((Nk adj k : Nat) : Rat)) :=
  vec_congr _ _ _ fun k => by rw [countEq_degs]

theorem Sk0fin_graph (A : WArgs) (adj : List (List Nat)) (hG : GraphOK A.toIArgs adj) (st : Node → St) :
    Sk0fin A st = Sk0G adj st := by
  unfold Sk0fin Sk0G vec
  rw [degs_eq A.toIArgs adj hG]
  show List.map _ (List.range (maxDeg adj + 1)) = _
  apply List.map_congr_left
  intro k hk
  have hk' : k ≤ maxDeg adj := by have := List.mem_range.mp hk; omega
  have h1 : (NkL (adj.map (·.length))).getD k 0 = ((Nk adj k : Nat) : Rat) := by
    rw [NkL_graph]; exact vec_getD _ _ k hk'
  rw [hG.nodes, cnt_range_eq A.toIArgs adj hG, wInv, h1]
  ring

theorem classCount_zero (adj : List (List Nat)) (st : Nat → St) (x : St) (k : Nat) (hk : k ∉ adj.map (·.length)) :
    classCount adj st x k = 0 := by
  unfold classCount
  rw [List.length_eq_zero_iff, List.filter_eq_nil_iff]
  intro u hu
  have : deg adj u ≠ k := by
    intro e
    apply hk
    rw [← map_range_deg]
    exact List.mem_map.mpr ⟨u, hu, e⟩
  simp [this]

theorem psiHat_one (adj : List (List Nat)) (st : Nat → St) (hN : adj.length ≠ 0) :
    (adj.length : Rat) * psiHatV (PkAL (adj.map (·.length))) (Sk0G adj st) 1 = (count adj st St.S : Rat) := by
  have hNr : (adj.length : Rat) ≠ 0 := by exact_mod_cast hN
  -- each term is `cS(k)/N`; outside the degrees that occur `cS(k) = 0`, so the sum runs over `k = 0..maxdeg`
  have term : ∀ k ∈ (adj.map (·.length)).eraseDups,
      (alGet (PkAL (adj.map (·.length))) 0 k * (Sk0G adj st).getD k 0) * (1 : Rat) ^ k
        = (1 / (adj.length : Rat)) * ((classCount adj st St.S k : Nat) : Rat) := fun k hk => by
    have hkd := List.mem_eraseDups.mp hk
    have hnk := Nk_ne_zero adj k hkd
    rw [Pk_graph, Sk0G_getD adj st k (Helpers.le_maxDeg _ k hkd), one_pow]
    field_simp
  unfold psiHatV
  rw [GenHelpProofs.PkAL_keys, sumRat_map_congr _ _ _ term,
    ← ODE.sumTo_eq_sumRat_of_support (maxDeg adj + 1) _ (GenHelpProofs.nodup_eraseDups _)
      (fun k hk => Nat.lt_succ_of_le (Helpers.le_maxDeg _ k (List.mem_eraseDups.mp hk))) _
      (fun k hk => by rw [classCount_zero adj st St.S k fun h => hk (List.mem_eraseDups.mpr h)]; simp),
    ODE.sumTo, sumRat_map_mul_left, ← mul_assoc, mul_one_div_cancel hNr, one_mul]
  exact (sumRat_eq_sum _).trans ((vec_sum_cast _ _).trans (congrArg _ (sum_classCount adj st St.S)))

theorem psiK_one (degs : List Nat) (h : degs ≠ []) : psiK (PkAL degs) 1 = 1 := by
  have hl : ((degs.length : Nat) : Rat) ≠ 0 := by
    exact_mod_cast fun e => h (List.length_eq_zero_iff.mp e)
  have hs : sumRat (degs.map fun _ => (1 : Rat)) = (degs.length : Rat) := by
    rw [sumRat_eq_sum]; simp
  simp only [psiK, one_pow]
  rw [sum_keys_PkAL degs (fun _ => 1), Helpers.meanDeg, hs, div_self hl]

theorem rhoS_psiK (adj : List (List Nat)) (hN : adj.length ≠ 0) (r : Rat) :
    (adj.length : Rat) * ((1 - r) * psiK (PkAL (adj.map (·.length))) 1) = rhoS adj r := by
  have hd : adj.map (·.length) ≠ [] := fun e => hN (by simpa using congrArg List.length e)
  rw [psiK_one _ hd, rhoS]; ring

end GenWrapProofs2

open InitCond in
theorem GenWrapProofs4.maxDeg_eq (adj : List (List Nat)) : maxDeg adj = Helpers.maxDeg (adj.map (·.length)) := rfl
