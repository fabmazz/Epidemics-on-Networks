import EoNVerif.Model.Helpers
import EoNVerif.Proofs.DegList
import EoNVerif.Proofs.SumRat
import Mathlib.Algebra.Polynomial.Derivative
/-!
For C20.  The two-pointer scan of `subsample` against its specification (`scan_spec`: induction over the report times with
the invariant that everything consumed is `≤` every remaining report time); `sumRat_count_general` (a sum over classes is a
sum over members) carries every histogram fact.
-/
namespace Helpers
open Polynomial

def Sorted (l : List Rat) : Prop := l.Pairwise (· ≤ ·)

/-- the polynomial of which `psi`, `psiP`, `psiDP` are the value and the first and second derivative (Props/C20.lean) -/
noncomputable def psiPoly (degs : List Nat) : ℚ[X] :=
  ((List.range (maxDeg degs + 1)).map fun k => C (Pk degs k) * X ^ k).sum

/-! ### subsample -/

theorem advance_spec {α : Type} (r : Rat) (rest : List (Rat × α))
    (hs : rest.Pairwise (fun a b => a.1 ≤ b.1)) (consumed : List (Rat × α)) :
    ∃ pre post, rest = pre ++ post ∧ (∀ o ∈ pre, o.1 ≤ r) ∧ (∀ o ∈ post, r < o.1) ∧
      advance rest r (consumed.getLast?.map (·.2)) = (post, (consumed ++ pre).getLast?.map (·.2)) := by
  induction rest generalizing consumed with
  | nil => exact ⟨[], [], rfl, by simp, by simp, by simp [advance]⟩
  | cons o rest ih =>
    obtain ⟨t, s⟩ := o
    rw [List.pairwise_cons] at hs
    by_cases h : t ≤ r
    · obtain ⟨pre, post, he, h1, h2, h3⟩ := ih hs.2 (consumed ++ [(t, s)])
      refine ⟨(t, s) :: pre, post, by simp [he], ?_, h2, ?_⟩
      · intro o ho
        rcases List.mem_cons.1 ho with rfl | ho
        · exact h
        · exact h1 o ho
      · simp only [advance, h, if_true]
        simp only [List.getLast?_concat, Option.map_some, List.append_assoc, List.singleton_append] at h3
        exact h3
    · refine ⟨[], (t, s) :: rest, rfl, by simp, ?_, by simp [advance, h]⟩
      intro o ho
      rcases List.mem_cons.1 ho with rfl | ho
      · exact not_le.1 h
      · exact lt_of_lt_of_le (not_le.1 h) (hs.1 o ho)

theorem filter_le_eq {α : Type} (r : Rat) (pre post : List (Rat × α))
    (h1 : ∀ o ∈ pre, o.1 ≤ r) (h2 : ∀ o ∈ post, r < o.1) :
    (pre ++ post).filter (fun o => o.1 ≤ r) = pre := by
  rw [List.filter_append, List.filter_eq_self.2, List.filter_eq_nil_iff.2]
  · simp
  · intro o ho
    simpa using h2 o ho
  · intro o ho
    simpa using h1 o ho

theorem scan_spec {α : Type} (rs : List Rat) (hrs : rs.Pairwise (· ≤ ·)) (consumed rest : List (Rat × α))
    (hs : (consumed ++ rest).Pairwise (fun a b => a.1 ≤ b.1))
    (hc : ∀ o ∈ consumed, ∀ r ∈ rs, o.1 ≤ r) :
    scan rest (consumed.getLast?.map (·.2)) rs = rs.map (lastLE (consumed ++ rest)) := by
  induction rs generalizing consumed rest with
  | nil => rfl
  | cons r rs ih =>
    rw [List.pairwise_cons] at hrs
    obtain ⟨pre, post, he, h1, h2, h3⟩ :=
      advance_spec r rest (hs.sublist (List.sublist_append_right _ _)) consumed
    subst he
    have hcp : ∀ o ∈ consumed ++ pre, o.1 ≤ r := by
      intro o ho
      rcases List.mem_append.1 ho with ho | ho
      · exact hc o ho r (by simp)
      · exact h1 o ho
    simp only [scan, h3, List.map_cons]
    congr 1
    · unfold lastLE
      rw [← List.append_assoc, filter_le_eq r (consumed ++ pre) post hcp h2]
    · rw [← List.append_assoc]
      apply ih hrs.2 (consumed ++ pre) post (by rwa [List.append_assoc])
      intro o ho r' hr'
      exact le_trans (hcp o ho) (hrs.1 r' hr')

theorem zip_sorted {α : Type} (times : List Rat) (status : List α) (ht : times.Pairwise (· ≤ ·)) :
    (times.zip status).Pairwise (fun a b => a.1 ≤ b.1) := by
  induction times generalizing status with
  | nil => simp
  | cons t ts ih =>
    cases status with
    | nil => simp
    | cons s ss =>
      rw [List.pairwise_cons] at ht
      simp only [List.zip_cons_cons, List.pairwise_cons]
      refine ⟨?_, ih ss ht.2⟩
      intro o ho
      exact ht.1 _ (List.of_mem_zip ho).1

/-! ### get_time_shift -/

theorem find_zip_first (times L : List Rat) (thr : Rat) (hlen : L.length = times.length)
    (i : Nat) (hi : i < times.length) (hreach : thr ≤ L.getD i 0) (hfirst : ∀ j < i, L.getD j 0 < thr) :
    (times.zip L).find? (fun p => p.2 ≥ thr) = some (times.getD i 0, L.getD i 0) := by
  induction times generalizing L i with
  | nil => simp at hi
  | cons t ts ih =>
    cases L with
    | nil => simp at hlen
    | cons l ls =>
      cases i with
      | zero =>
        simp only [List.getD_cons_zero] at hreach
        simp [hreach]
      | succ i =>
        have h0 : l < thr := hfirst 0 (Nat.succ_pos _)
        rw [List.zip_cons_cons, List.find?_cons_of_neg (by simpa using h0)]
        exact ih ls (Nat.succ.inj hlen) i (Nat.lt_of_succ_lt_succ hi) hreach
          (fun j hj => hfirst (j + 1) (Nat.succ_lt_succ hj))

theorem find_zip_none (times L : List Rat) (thr : Rat) (hnever : ∀ l ∈ L, l < thr) :
    (times.zip L).find? (fun p => p.2 ≥ thr) = none := by
  rw [List.find?_eq_none]
  intro p hp
  simpa using hnever p.2 (List.of_mem_zip hp).2

/-! ### degree histogram -/

theorem le_maxDeg (degs : List Nat) : ∀ d ∈ degs, d ≤ maxDeg degs := (le_foldl_max degs 0).2

theorem sumRat_count_general {γ : Type} (l : List γ) (g : γ → Nat) (f : Nat → Rat) (n : Nat)
    (hn : ∀ v ∈ l, g v ≤ n) :
    sumRat ((List.range (n + 1)).map fun k => ((l.filter fun v => g v = k).length : Rat) * f k)
      = sumRat (l.map fun v => f (g v)) := by
  induction l with
  | nil => exact sumRat_map_zero _ _ (fun k _ => by simp)
  | cons a t ih =>
    have hk : ∀ k ∈ List.range (n + 1),
        (((a :: t).filter fun v => g v = k).length : Rat) * f k
          = f k * (if k = g a then 1 else 0) + ((t.filter fun v => g v = k).length : Rat) * f k := by
      intro k _
      by_cases h : g a = k
      · have h' : k = g a := h.symm
        simp [h]
        ring
      · have h' : ¬ k = g a := fun e => h e.symm
        simp [h, h']
    rw [sumRat_map_congr _ _ _ hk, sumRat_map_add,
      sumRat_indicator _ (g a) f List.nodup_range
        (by simpa using Nat.lt_succ_of_le (hn a (by simp))),
      ih (fun v hv => hn v (List.mem_cons_of_mem _ hv))]
    simp

theorem countEq_cons (a : Nat) (t : List Nat) (k : Nat) :
    countEq (a :: t) k = (if a = k then 1 else 0) + countEq t k := by
  unfold countEq
  by_cases h : a = k
  · simp [h]; omega
  · simp [h]

theorem countEq_map_deg (deg : Nat → Nat) (nb : List Nat) (k : Nat) :
    countEq (nb.map deg) k = (nb.filter fun v => deg v = k).length := by
  unfold countEq
  rw [List.filter_map, List.length_map]
  rfl

theorem sumRat_countEq (degs : List Nat) (f : Nat → Rat) :
    sumRat ((List.range (maxDeg degs + 1)).map fun k => (countEq degs k : Rat) * f k)
      = sumRat (degs.map f) :=
  sumRat_count_general degs id f (maxDeg degs) (le_maxDeg degs)

theorem countEq_zero_above (degs : List Nat) (k : Nat) (hk : maxDeg degs < k) : countEq degs k = 0 := by
  unfold countEq
  rw [List.length_eq_zero_iff, List.filter_eq_nil_iff]
  intro d hd
  have := le_maxDeg degs d hd
  simp
  omega

theorem sumRat_Pk_mul (degs : List Nat) (f : Nat → Rat) :
    sumRat ((List.range (maxDeg degs + 1)).map fun k => Pk degs k * f k) = meanDeg degs f := by
  unfold meanDeg
  rw [← sumRat_countEq degs f, div_eq_mul_inv, ← sumRat_map_mul_right]
  apply sumRat_map_congr
  intro k _
  unfold Pk
  ring

theorem length_ne_zero {degs : List Nat} (h : degs ≠ []) : (degs.length : Rat) ≠ 0 := by
  have : degs.length ≠ 0 := fun e => h (List.length_eq_zero_iff.1 e)
  exact_mod_cast this

/-! ### polynomials -/

theorem eval_list_sum_map (l : List Nat) (g : Nat → ℚ[X]) (x : ℚ) :
    ((l.map g).sum).eval x = sumRat (l.map fun k => (g k).eval x) := by
  induction l with
  | nil => simp
  | cons a t ih => simp [ih]

theorem derivative_list_sum_map (l : List Nat) (g : Nat → ℚ[X]) :
    derivative ((l.map g).sum) = (l.map fun k => derivative (g k)).sum := by
  induction l with
  | nil => simp
  | cons a t ih => simp [ih]

/-! ### get_Pnk -/

theorem sumRat_comm {β γ : Type} (l : List β) (m : List γ) (f : β → γ → Rat) :
    sumRat (l.map fun a => sumRat (m.map fun b => f a b))
      = sumRat (m.map fun b => sumRat (l.map fun a => f a b)) := by
  induction l with
  | nil => exact (sumRat_map_zero _ _ (fun k _ => by simp)).symm
  | cons a t ih => simp [ih, sumRat_map_add]

theorem sumRat_ite_const (l : List Nat) (k : Nat) (c : Rat) :
    sumRat (l.map fun d => if d = k then c else 0) = (countEq l k : Rat) * c := by
  induction l with
  | nil => simp [countEq]
  | cons a t ih =>
    rw [List.map_cons, sumRat_cons, ih, countEq_cons]
    split <;> push_cast <;> ring

theorem deg_le_maxDeg (adj : List (List Nat)) (v : Nat) :
    (adj.getD v []).length ≤ maxDeg (adj.map (·.length)) := getD_length_le_foldl_max adj v

/-- row sums of `Pnk` (well-formedness of the neighbour indices is not needed: an out-of-range index has
model degree 0, which is within the range summed over) -/
theorem Pnk_row_sum_aux (adj : List (List Nat)) (k1 : Nat) (hk : 0 < k1)
    (hex : 0 < countEq (adj.map (·.length)) k1) :
    sumRat ((List.range (maxDeg (adj.map (·.length)) + 1)).map fun k2 => Pnk adj k1 k2) = 1 := by
  have hk' : (k1 : Rat) ≠ 0 := by exact_mod_cast hk.ne'
  have hN : ((countEq (adj.map (·.length)) k1 : Nat) : Rat) ≠ 0 := by exact_mod_cast hex.ne'
  simp only [Pnk]
  rw [sumRat_comm]
  have hin : ∀ u ∈ List.range adj.length,
      sumRat ((List.range (maxDeg (adj.map (·.length)) + 1)).map fun k2 =>
        if (adj.getD u []).length = k1 then
          (((adj.getD u []).filter fun v => (adj.getD v []).length = k2).length : Rat) *
            (1 / ((k1 : Rat) * (countEq (adj.map (·.length)) k1 : Rat)))
        else 0)
      = (fun d => if d = k1 then 1 / (countEq (adj.map (·.length)) k1 : Rat) else 0)
          ((adj.getD u []).length) := by
    intro u _
    by_cases hu : (adj.getD u []).length = k1
    · simp only [hu, if_true]
      rw [sumRat_count_general (adj.getD u []) (fun v => (adj.getD v []).length) (fun _ => _) _
        (fun v _ => deg_le_maxDeg adj v), sumRat_map_const, hu, one_div, mul_inv, ← mul_assoc, mul_inv_cancel₀ hk',
        one_mul, one_div]
    · simp only [hu, if_false]
      exact sumRat_map_zero _ _ (fun _ _ => rfl)
  rw [sumRat_map_congr _ _ _ hin]
  have hmm : ∀ h : Nat → Rat, (List.range adj.length).map (fun u => h ((adj.getD u []).length))
      = (adj.map (·.length)).map h := by
    intro h
    rw [← map_deg_range, List.map_map]
    rfl
  rw [hmm (fun d => if d = k1 then 1 / (countEq (adj.map (·.length)) k1 : Rat) else 0), sumRat_ite_const,
    mul_one_div_cancel hN]

end Helpers
