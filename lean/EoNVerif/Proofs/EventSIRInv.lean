import EoNVerif.Proofs.EventSIRStep
import EoNVerif.Proofs.Rows
/-!
The state invariant of the event loop of `fast_nonMarkov_SIR` (Dijkstra's invariant under arbitrary tie-breaking) and
its preservation by each kind of event, for every rule whose rows agree with the delay and duration tables.
-/
namespace EventSIR

abbrev TEv := Rat × Option Node × Node

section Inv
variable (nodes : List Node) (nbrs : Node → List Node) (delay : Node → Node → ERat) (dur : Node → ERat)
  (tmin : Rat) (tmax : ERat) (infs recs : List Node)

/-- where a (queued or reported) transmission comes from -/
def SrcOK (tr : List TEv) (t : Rat) (src : Option Node) (v : Node) : Prop :=
  match src with
  | none => v ∈ infs ∧ t = tmin
  | some u => keeps nbrs delay dur u v = true ∧
      ∃ eu ∈ tr, eu.2.2 = u ∧ ERat.add (some eu.1) (delay u v) = some t

/-- `st`, `rt`, `pr`, `q`, `tr` = `status`, `rec_time`, `pred_inf_time`, the queue, the reported transmissions (newest first).
`tr_*`: the settled set of Dijkstra; `pred_*`: its frontier property, which `InvC.claim` uses; `rec_R`: what `recoveriesOf` reads. -/
structure InvC (st : Node → St) (rt pr : Node → ERat) (q : List QItem) (tr : List TEv) : Prop where
  st_S : ∀ v, st v = St.S ↔ (v ∉ recs ∧ ∀ e ∈ tr, e.2.2 ≠ v)
  tr_nodup : (tr.map (·.2.2)).Nodup
  tr_lt : ∀ e ∈ tr, ERat.lt (some e.1) tmax = true
  tr_src : ∀ e ∈ tr, SrcOK nbrs delay dur tmin infs tr e.1 e.2.1 e.2.2
  tr_walk : ∀ e ∈ tr, ∃ p, TW nbrs delay dur tmin infs recs e.2.2 p e.1
  tr_opt : ∀ e ∈ tr, ∀ p L, TW nbrs delay dur tmin infs recs e.2.2 p L → e.1 ≤ L
  q_lt : ∀ x ∈ q, ERat.lt (some x.time) tmax = true
  q_tr : ∀ x ∈ q, ∀ src v, x.ev = QEv.trans src v → v ∈ nodes ∧ SrcOK nbrs delay dur tmin infs tr x.time src v
  pred_edge : ∀ e ∈ tr, ∀ v d, keeps nbrs delay dur e.2.2 v = true → st v = St.S → delay e.2.2 v = some d →
      ERat.lt (some (e.1 + d)) tmax = true → ERat.le (pr v) (some (e.1 + d)) = true
  pred_init : ∀ v ∈ infs, st v = St.S → ERat.le (pr v) (some tmin) = true
  pred_q : QJ tmax (fun v => st v = St.S) pr q
  rec_time : ∀ e ∈ tr, rt e.2.2 = ERat.add (some e.1) (dur e.2.2)
  rec_R : ∀ v, st v = St.R → v ∉ recs → ∃ r, rt v = some r ∧ ERat.lt (some r) tmax = true
  rec_I : ∀ v r, st v = St.I → rt v = some r → ERat.lt (some r) tmax = true → (⟨r, QEv.recov v⟩ : QItem) ∈ q
  rec_q : ∀ x ∈ q, ∀ u, x.ev = QEv.recov u → st u = St.I ∧ rt u = some x.time
  rec_cnt : ∀ t u, q.count (⟨t, QEv.recov u⟩ : QItem) ≤ 1

variable {nodes nbrs delay dur tmin tmax infs recs}

theorem SrcOK.mono {tr tr' : List TEv} {t : Rat} {src : Option Node} {v : Node}
    (h : SrcOK nbrs delay dur tmin infs tr t src v) (hsub : ∀ e ∈ tr, e ∈ tr') :
    SrcOK nbrs delay dur tmin infs tr' t src v := by
  cases src with
  | none => exact h
  | some u =>
    obtain ⟨h1, eu, h2, h3⟩ := h
    exact ⟨h1, eu, hsub eu h2, h3⟩

variable {st : Node → St} {rt pr : Node → ERat} {q : List QItem} {tr : List TEv}

theorem InvC.mem_of_not_S (hI : InvC nodes nbrs delay dur tmin tmax infs recs st rt pr q tr) {y : Node}
    (hs : st y ≠ St.S) (hr : y ∉ recs) : ∃ e ∈ tr, e.2.2 = y := by
  by_contra hne
  apply hs
  rw [hI.st_S]
  refine ⟨hr, fun e he heq => hne ⟨e, he, heq⟩⟩

/-- Dijkstra's key step: every walk ending strictly before all queued events ends in a reported node -/
theorem InvC.claim (h : WF nodes nbrs delay dur infs recs)
    (hI : InvC nodes nbrs delay dur tmin tmax infs recs st rt pr q tr) (b : Rat) (hb : ∀ x ∈ q, b ≤ x.time)
    {y : Node} {p : List Node} {L : Rat} (hw : TW nbrs delay dur tmin infs recs y p L)
    (hLb : L < b) (hLt : ERat.lt (some L) tmax = true) : ∃ e ∈ tr, e.2.2 = y ∧ e.1 ≤ L := by
  induction hw with
  | init y hy =>
    have hns : st y ≠ St.S := by
      intro hs
      obtain ⟨p0, hp0, hle⟩ := ERat.le_some_iff.1 (hI.pred_init y hy.1 hs)
      have hlt : ERat.lt (some p0) tmax = true := ERat.lt_of_le_of_lt (by simpa using hle) hLt
      obtain ⟨x, hx, hxt, _⟩ := hI.pred_q y p0 hs hp0 hlt
      have := hb x hx
      linarith
    obtain ⟨e, he, hey⟩ := hI.mem_of_not_S hns hy.2
    refine ⟨e, he, hey, hI.tr_opt e he [] tmin ?_⟩
    rw [hey]; exact GW.init _ hy
  | step u y p t d hw he ih =>
    have hd : 0 ≤ d := Et_nonneg h _ _ _ he
    have htL : ERat.lt (some t) tmax = true :=
      ERat.lt_of_le_of_lt (a := some t) (b := some (t + d)) (by simp; linarith) hLt
    obtain ⟨eu, heu, hu, hle⟩ := ih (by linarith) htL
    have hns : st y ≠ St.S := by
      intro hs
      have hlt2 : ERat.lt (some (eu.1 + d)) tmax = true :=
        ERat.lt_of_le_of_lt (a := some (eu.1 + d)) (b := some (t + d)) (by simp; linarith) hLt
      have h1 := hI.pred_edge eu heu y d (by rw [hu]; exact he.1) hs (by rw [hu]; exact he.2.2) hlt2
      obtain ⟨p0, hp0, hle0⟩ := ERat.le_some_iff.1 h1
      have hlt : ERat.lt (some p0) tmax = true := ERat.lt_of_le_of_lt (by simpa using hle0) hlt2
      obtain ⟨x, hx, hxt, _⟩ := hI.pred_q y p0 hs hp0 hlt
      have := hb x hx
      linarith
    obtain ⟨e, he', hey⟩ := hI.mem_of_not_S hns he.2.1
    refine ⟨e, he', hey, hI.tr_opt e he' (u :: p) (t + d) ?_⟩
    rw [hey]; exact GW.step _ _ _ _ _ hw he

theorem InvC.dequeue_notS {l1 l2 : List QItem} {x : QItem} {src : Option Node} {tgt : Node}
    (hI : InvC nodes nbrs delay dur tmin tmax infs recs st rt pr (l1 ++ x :: l2) tr)
    (hev : x.ev = QEv.trans src tgt) (hs : st tgt ≠ St.S) :
    InvC nodes nbrs delay dur tmin tmax infs recs st rt pr (l1 ++ l2) tr where
  st_S := hI.st_S
  tr_nodup := hI.tr_nodup
  tr_lt := hI.tr_lt
  tr_src := hI.tr_src
  tr_walk := hI.tr_walk
  tr_opt := hI.tr_opt
  q_lt := fun y hy => hI.q_lt y (EvQ.mem_mid hy)
  q_tr := fun y hy => hI.q_tr y (EvQ.mem_mid hy)
  pred_edge := hI.pred_edge
  pred_init := hI.pred_init
  pred_q := by
    intro v p hv hp hlt
    obtain ⟨y, hy, hyt, src', hev'⟩ := hI.pred_q v p hv hp hlt
    refine ⟨y, EvQ.mem_of_mid hy ?_, hyt, src', hev'⟩
    rintro rfl
    rw [hev] at hev'; injection hev' with _ h2
    subst h2; exact hs hv
  rec_time := hI.rec_time
  rec_R := hI.rec_R
  rec_I := by
    intro v r h1 h2 h3
    refine EvQ.mem_of_mid (hI.rec_I v r h1 h2 h3) ?_
    intro heq
    rw [← heq] at hev; cases hev
  rec_q := fun y hy => hI.rec_q y (EvQ.mem_mid hy)
  rec_cnt := by
    intro t u
    have := hI.rec_cnt t u
    rw [EvQ.count_mid] at this; omega

theorem InvC.recover {l1 l2 : List QItem} {x : QItem} {u : Node}
    (hI : InvC nodes nbrs delay dur tmin tmax infs recs st rt pr (l1 ++ x :: l2) tr)
    (hev : x.ev = QEv.recov u) :
    InvC nodes nbrs delay dur tmin tmax infs recs (fset st u St.R) rt pr (l1 ++ l2) tr := by
  have hx : x ∈ l1 ++ x :: l2 := by simp
  obtain ⟨hsu, hru⟩ := hI.rec_q x hx u hev
  have hS : ∀ v, fset st u St.R v = St.S → st v = St.S := fun v hv => (fset_ne_of_eq (fun h => by cases h) hv).2
  have hxq : x ∉ l1 ++ l2 := by
    intro hin
    have := hI.rec_cnt x.time u
    rw [EvQ.count_mid] at this
    have hxe : x = ⟨x.time, QEv.recov u⟩ := by cases x; simp_all
    rw [if_pos hxe] at this
    have : 0 < (l1 ++ l2).count ⟨x.time, QEv.recov u⟩ := by
      rw [← hxe]; exact List.count_pos_iff.2 hin
    omega
  exact {
    st_S := by
      intro v
      by_cases hvu : v = u
      · subst hvu
        rw [fset_self, ← hI.st_S, hsu]; simp
      · rw [fset_ne _ _ _ _ hvu]; exact hI.st_S v
    tr_nodup := hI.tr_nodup
    tr_lt := hI.tr_lt
    tr_src := hI.tr_src
    tr_walk := hI.tr_walk
    tr_opt := hI.tr_opt
    q_lt := fun y hy => hI.q_lt y (EvQ.mem_mid hy)
    q_tr := fun y hy => hI.q_tr y (EvQ.mem_mid hy)
    pred_edge := fun e he v d h1 h2 => hI.pred_edge e he v d h1 (hS v h2)
    pred_init := fun v hv h2 => hI.pred_init v hv (hS v h2)
    pred_q := by
      intro v p hv hp hlt
      obtain ⟨y, hy, hyt, src', hev'⟩ := hI.pred_q v p (hS v hv) hp hlt
      refine ⟨y, EvQ.mem_of_mid hy ?_, hyt, src', hev'⟩
      rintro rfl
      rw [hev] at hev'; cases hev'
    rec_time := hI.rec_time
    rec_R := by
      intro v hv hr
      by_cases hvu : v = u
      · subst hvu; exact ⟨x.time, hru, hI.q_lt x hx⟩
      · rw [fset_ne _ _ _ _ hvu] at hv; exact hI.rec_R v hv hr
    rec_I := by
      intro v r h1 h2 h3
      have hvu : v ≠ u := by
        rintro rfl; rw [fset_self] at h1; cases h1
      rw [fset_ne _ _ _ _ hvu] at h1
      refine EvQ.mem_of_mid (hI.rec_I v r h1 h2 h3) ?_
      intro heq
      rw [← heq] at hev; simp only [QEv.recov.injEq] at hev; exact hvu hev
    rec_q := by
      intro y hy u' hev'
      obtain ⟨g1, g2⟩ := hI.rec_q y (EvQ.mem_mid hy) u' hev'
      have hne : u' ≠ u := by
        rintro rfl
        apply hxq
        have : y = x := by
          cases y; cases x; simp_all
        rwa [this] at hy
      rw [fset_ne _ _ _ _ hne]; exact ⟨g1, g2⟩
    rec_cnt := by
      intro t u'
      have := hI.rec_cnt t u'
      rw [EvQ.count_mid] at this; omega }

/-- `jr` may be returned by the rule for `tgt` in the status table `st`: the duration of `tgt`, and a row whose entries
are neighbours with their table delay and which lists every finite delay to a susceptible neighbour.  The order of the
row, entries with infinite delay and entries for nodes that are no longer susceptible do not matter. -/
structure RowFits (nbrs : Node → List Node) (delay : Node → Node → ERat) (dur : Node → ERat) (st : Node → St)
    (tgt : Node) (jr : List (Node × ERat) × ERat) : Prop where
  dur : jr.2 = dur tgt
  mem : ∀ v d, (v, d) ∈ jr.1 → v ∈ nbrs tgt ∧ d = delay tgt v
  -- `v ≠ tgt`: the rule is asked with `status[tgt] = 'I'` already set, so a self-loop in `nbrs tgt` never puts `tgt` in the row
  fin : ∀ v d, v ∈ nbrs tgt → v ≠ tgt → st v = St.S → delay tgt v = some d → (v, some d) ∈ jr.1

def RuleFits (nbrs : Node → List Node) (delay : Node → Node → ERat) (dur : Node → ERat)
    (joint : Node → List Node → List (Node × ERat) × ERat) : Prop :=
  ∀ st tgt, RowFits nbrs delay dur st tgt (joint tgt ((nbrs tgt).filter fun v => fset st tgt St.I v = St.S))

theorem RuleFits.tables (nbrs : Node → List Node) (delay : Node → Node → ERat) (dur : Node → ERat) :
    RuleFits nbrs delay dur (jointOfTables delay dur) := by
  intro st tgt
  refine ⟨rfl, ?_, ?_⟩
  · intro v d hvd
    obtain ⟨w, hw, e⟩ := List.mem_map.1 hvd
    injection e with e1 e2
    subst e1 e2
    exact ⟨(List.mem_filter.1 hw).1, rfl⟩
  · intro v d hv hvt hs hd
    refine List.mem_map.2 ⟨v, List.mem_filter.2 ⟨hv, ?_⟩, by rw [hd]⟩
    rw [fset_ne _ _ _ _ hvt]; simpa using hs

theorem InvC.infect (h : WF nodes nbrs delay dur infs recs) {l1 l2 : List QItem} {x : QItem}
    {src : Option Node} {tgt : Node} {jr : List (Node × ERat) × ERat} (hjr : RowFits nbrs delay dur st tgt jr)
    (hI : InvC nodes nbrs delay dur tmin tmax infs recs st rt pr (l1 ++ x :: l2) tr)
    (hmin : ∀ y ∈ l1 ++ x :: l2, x.time ≤ y.time)
    (hev : x.ev = QEv.trans src tgt) (hs : st tgt = St.S) :
    InvC nodes nbrs delay dur tmin tmax infs recs (fset st tgt St.I)
      (fset rt tgt (ERat.add (some x.time) jr.2))
      (sched tmax pr (l1 ++ l2) x.time tgt jr).1
      (sched tmax pr (l1 ++ l2) x.time tgt jr).2
      ((x.time, src, tgt) :: tr) := by
  obtain ⟨row, d0⟩ := jr
  obtain ⟨hdur, hrow, hfin⟩ := hjr
  simp only at hdur hrow hfin
  subst hdur
  have hx : x ∈ l1 ++ x :: l2 := by simp
  have htlt : ERat.lt (some x.time) tmax = true := hI.q_lt x hx
  obtain ⟨htn, hsrc⟩ := hI.q_tr x hx src tgt hev
  obtain ⟨htr, hno⟩ := (hI.st_S tgt).1 hs
  have hS : ∀ v, fset st tgt St.I v = St.S → v ≠ tgt ∧ st v = St.S := fun v hv => fset_ne_of_eq (fun h => by cases h) hv
  -- the new node is reached by a walk
  have hwalk : ∃ p, TW nbrs delay dur tmin infs recs tgt p x.time := by
    cases src with
    | none =>
      obtain ⟨h1, h2⟩ := hsrc
      rw [h2]; exact ⟨[], GW.init _ ⟨h1, htr⟩⟩
    | some u =>
      obtain ⟨h1, eu, heu, hu, hadd⟩ := hsrc
      obtain ⟨p, hp⟩ := hI.tr_walk eu heu
      obtain ⟨a, b, ha, hb, hab⟩ := ERat.add_eq_some.1 hadd
      injection ha with ha
      rw [hu] at hp
      rw [← hab, ← ha]
      exact ⟨u :: p, GW.step _ _ _ _ _ hp ⟨h1, htr, hb⟩⟩
  -- and no walk is shorter
  have hopt : ∀ p L, TW nbrs delay dur tmin infs recs tgt p L → x.time ≤ L := by
    intro p L hw
    by_contra hlt
    have hlt : L < x.time := not_le.1 hlt
    have hLt : ERat.lt (some L) tmax = true :=
      ERat.lt_of_le_of_lt (a := some L) (b := some x.time) (by simp; linarith) htlt
    obtain ⟨e, he, hey, _⟩ := hI.claim h x.time hmin hw hlt hLt
    exact hno e he hey
  obtain ⟨r, ex, hq, _, _, hr1, hr2, hex⟩ := sched_queue tmax pr (l1 ++ l2) x.time tgt (row, dur tgt)
  simp only at hr1 hr2 hex
  have hmono : ∀ w, ERat.le ((sched tmax pr (l1 ++ l2) x.time tgt (row, dur tgt)).1 w) (pr w) = true :=
    fun w => schedule_mono ..
  have hmemq : ∀ y, y ∈ (sched tmax pr (l1 ++ l2) x.time tgt (row, dur tgt)).2 ↔
      y ∈ l1 ++ l2 ∨ y ∈ r ∨ y ∈ ex := by
    intro y; rw [hq, List.mem_append, List.mem_append, or_assoc]
  have hexev : ∀ y ∈ ex, ∃ v t, y = ⟨t, QEv.trans (some tgt) v⟩ ∧ v ∈ nbrs tgt ∧
      ERat.add (some x.time) (delay tgt v) = some t ∧ ERat.lt (some t) tmax = true ∧
      ERat.le (some t) (ERat.add (some x.time) (dur tgt)) = true := by
    intro y hy
    obtain ⟨v, d, t, hvd, g1, g2, g3, g4⟩ := hex y hy
    obtain ⟨hv, rfl⟩ := hrow v d hvd
    exact ⟨v, t, g1, hv, g2, g3, g4⟩
  have hsub : ∀ e ∈ tr, e ∈ (x.time, src, tgt) :: tr := fun e he => List.mem_cons_of_mem _ he
  exact {
    st_S := by
      intro v
      by_cases hvt : v = tgt
      · subst hvt
        rw [fset_self]
        simp
      · rw [fset_ne _ _ _ _ hvt, hI.st_S v, List.forall_mem_cons]
        exact ⟨fun ⟨a, b⟩ => ⟨a, fun e => hvt e.symm, b⟩, fun ⟨a, _, b⟩ => ⟨a, b⟩⟩
    tr_nodup := by
      rw [List.map_cons, List.nodup_cons]
      refine ⟨?_, hI.tr_nodup⟩
      simp only [List.mem_map, not_exists, not_and]
      exact fun e he => hno e he
    tr_lt := List.forall_mem_cons.2 ⟨htlt, hI.tr_lt⟩
    tr_src := List.forall_mem_cons.2 ⟨hsrc.mono hsub, fun e he => (hI.tr_src e he).mono hsub⟩
    tr_walk := List.forall_mem_cons.2 ⟨hwalk, hI.tr_walk⟩
    tr_opt := List.forall_mem_cons.2 ⟨hopt, hI.tr_opt⟩
    q_lt := by
      intro y hy
      rcases (hmemq y).1 hy with hy | hy | hy
      · exact hI.q_lt y (EvQ.mem_mid hy)
      · obtain ⟨t, rfl, _, g⟩ := hr1 y hy; exact g
      · obtain ⟨v, t, rfl, _, _, g, _⟩ := hexev y hy; exact g
    q_tr := by
      intro y hy src' v' hev'
      rcases (hmemq y).1 hy with hy | hy | hy
      · obtain ⟨g1, g2⟩ := hI.q_tr y (EvQ.mem_mid hy) src' v' hev'
        exact ⟨g1, g2.mono hsub⟩
      · obtain ⟨t, rfl, _, g⟩ := hr1 y hy; cases hev'
      · obtain ⟨v, t, rfl, hv, g1, g2, g3⟩ := hexev y hy
        simp only [QEv.trans.injEq] at hev'
        obtain ⟨rfl, rfl⟩ := hev'
        refine ⟨h.nbr_mem tgt htn v hv, keeps_iff.2 ⟨hv, ?_⟩, (x.time, src, tgt), List.mem_cons_self .., rfl, g1⟩
        rwa [← g1, ERat.add_le_add_left_iff] at g3
    pred_edge := by
      intro e he v d hk hv hd hlt
      obtain ⟨hvt, hsv⟩ := hS v hv
      rcases List.mem_cons.1 he with rfl | he
      · simp only at hk hd hlt ⊢
        obtain ⟨hvn, hkl⟩ := keeps_iff.1 hk
        refine schedule_le tmax x.time tgt _ _ pr _ v (delay tgt v) (x.time + d) ?_ ?_ ?_ ?_
        · rw [hd]; exact hfin v d hvn hvt hsv hd
        · rw [hd]; rfl
        · have : ERat.add (some x.time) (delay tgt v) = some (x.time + d) := by rw [hd]; rfl
          rw [← this, ERat.add_le_add_left_iff]; exact hkl
        · exact ERat.le_of_lt hlt
      · exact ERat.le_trans (hmono v) (hI.pred_edge e he v d hk hsv hd hlt)
    pred_init := by
      intro v hv hsv
      exact ERat.le_trans (hmono v) (hI.pred_init v hv (hS v hsv).2)
    pred_q := by
      apply schedule_QJ
      intro v p hv hp hlt
      obtain ⟨hvt, hsv⟩ := hS v hv
      obtain ⟨y, hy, hyt, src', hev'⟩ := hI.pred_q v p hsv hp hlt
      refine ⟨y, ?_, hyt, src', hev'⟩
      obtain ⟨_, hq1, _⟩ := addRec_spec tmax (l1 ++ l2) (ERat.add (some x.time) (dur tgt)) tgt
      rw [hq1]
      refine List.mem_append_left _ (EvQ.mem_of_mid hy ?_)
      rintro rfl
      rw [hev] at hev'; injection hev' with _ h2
      exact hvt h2.symm
    rec_time := by
      intro e he
      rcases List.mem_cons.1 he with rfl | he
      · simp only [fset_self]
      · rw [fset_ne _ _ _ _ (hno e he)]; exact hI.rec_time e he
    rec_R := by
      intro v hv hr
      have hvt : v ≠ tgt := by rintro rfl; rw [fset_self] at hv; cases hv
      rw [fset_ne _ _ _ _ hvt] at hv ⊢
      exact hI.rec_R v hv hr
    rec_I := by
      intro v r0 h1 h2 h3
      rw [hmemq]
      by_cases hvt : v = tgt
      · subst hvt
        rw [fset_self] at h2
        exact Or.inr (Or.inl (hr2 r0 h2 h3))
      · rw [fset_ne _ _ _ _ hvt] at h1 h2
        refine Or.inl (EvQ.mem_of_mid (hI.rec_I v r0 h1 h2 h3) ?_)
        intro heq
        rw [← heq] at hev; cases hev
    rec_q := by
      intro y hy u hev'
      rcases (hmemq y).1 hy with hy | hy | hy
      · obtain ⟨g1, g2⟩ := hI.rec_q y (EvQ.mem_mid hy) u hev'
        have hut : u ≠ tgt := by rintro rfl; rw [hs] at g1; cases g1
        rw [fset_ne _ _ _ _ hut, fset_ne _ _ _ _ hut]; exact ⟨g1, g2⟩
      · obtain ⟨t, rfl, g1, _⟩ := hr1 y hy
        simp only [QEv.recov.injEq] at hev'
        subst hev'
        rw [fset_self, fset_self]; exact ⟨rfl, g1⟩
      · obtain ⟨v, t, rfl, _⟩ := hexev y hy; cases hev'
    rec_cnt := by
      intro t u
      rw [hq, List.count_append, List.count_append]
      have h3 : ex.count (⟨t, QEv.recov u⟩ : QItem) = 0 := by
        apply List.count_eq_zero_of_not_mem
        intro hin
        obtain ⟨v, t', g, _⟩ := hexev _ hin
        cases g
      by_cases hut : u = tgt
      · subst hut
        have h1 : (l1 ++ l2).count (⟨t, QEv.recov u⟩ : QItem) = 0 := by
          apply List.count_eq_zero_of_not_mem
          intro hin
          have := (hI.rec_q _ (EvQ.mem_mid hin) u rfl).1
          rw [hs] at this; cases this
        have h2 := List.count_le_length (a := (⟨t, QEv.recov u⟩ : QItem)) (l := r)
        omega
      · have h2 : r.count (⟨t, QEv.recov u⟩ : QItem) = 0 := by
          apply List.count_eq_zero_of_not_mem
          intro hin
          obtain ⟨t', g, _⟩ := hr1 _ hin
          simp only [QItem.mk.injEq, QEv.recov.injEq] at g
          exact hut g.2
        have h1 := hI.rec_cnt t u
        rw [EvQ.count_mid] at h1
        omega }

end Inv

end EventSIR
