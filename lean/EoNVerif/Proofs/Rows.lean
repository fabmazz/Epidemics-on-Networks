import EoNVerif.Spec.Predicates
import Mathlib.Data.List.Chain
import Mathlib.Algebra.Order.Field.Rat
/-!
A row list: the arrays `times`, `S`, `I`, `R` that `Gillespie_SIR`/`Gillespie_SIS` and `fast_nonMarkov_SIR` keep in
their state, newest row first, read as the columns of one `List Row`.  `Book`: the head row holds the current status
counts, each row follows the one before it by one legal move at a time that is not earlier, all rows lie in
`[tmin, tmax)` with non-negative counts summing to `N`.  `Book.push` keeps it when a node is infected or recovers;
`Book.wellFormed` gives `Pred.wellFormed` of the chronological arrays from row `k` on (`k` = the synthetic initial
rows that `fast_nonMarkov_SIR` strips; 0 for Gillespie).  Before it, in the root namespace, the facts about `Basic.fset`
(`fset_self`, `fset_ne`, `foldl_fset`, `fset_ne_of_eq`) and two counts over duplicate-free lists.
-/

theorem fset_self {α β : Type} [DecidableEq α] (f : α → β) (x : α) (v : β) : fset f x v x = v := if_pos rfl

theorem fset_ne {α β : Type} [DecidableEq α] (f : α → β) (x y : α) (v : β) (h : y ≠ x) : fset f x v y = f y :=
  if_neg h

/-- `for n in l: f[n] = x` -/
theorem foldl_fset {α β : Type} [DecidableEq α] (x : β) (l : List α) (f : α → β) (v : α) :
    (l.foldl (fun g n => fset g n x) f) v = if v ∈ l then x else f v := by
  induction l generalizing f with
  | nil => simp
  | cons n rest ih =>
    rw [List.foldl_cons, ih]
    by_cases h1 : v ∈ rest
    · simp [h1]
    · by_cases h2 : v = n <;> simp [h1, h2, fset]

theorem fset_ne_of_eq {α β : Type} [DecidableEq α] {f : α → β} {x y : α} {v w : β} (hv : v ≠ w)
    (h : fset f x v y = w) : y ≠ x ∧ f y = w := by
  by_cases hy : y = x
  · subst hy; rw [fset_self] at h; exact absurd h hv
  · exact ⟨hy, by rwa [fset_ne _ _ _ _ hy] at h⟩

/-- additive because in `Nat`: no subtraction; for `v ∉ l` it is the same statement -/
theorem List.Nodup.countP_update {α : Type} [DecidableEq α] {l : List α} (hl : l.Nodup) (f g : α → Bool) (v : α)
    (hg : ∀ u ∈ l, u ≠ v → g u = f u) :
    l.countP g + (if v ∈ l ∧ f v = true then 1 else 0) = l.countP f + (if v ∈ l ∧ g v = true then 1 else 0) := by
  induction l with
  | nil => simp
  | cons a l ih =>
    rw [List.nodup_cons] at hl
    have ih := ih hl.2 fun u hu => hg u (List.mem_cons_of_mem _ hu)
    simp only [List.countP_cons, List.mem_cons]
    by_cases ha : a = v
    · subst ha
      simp only [hl.1, false_and, if_false, Nat.add_zero] at ih
      rw [ih]
      simp only [true_or, true_and]
      cases f a <;> cases g a <;> simp
    · rw [hg a List.mem_cons_self ha]
      simp only [Ne.symm ha, false_or]
      omega

theorem List.Nodup.length_filter_eq {α : Type} {l m : List α} (hl : l.Nodup) (hm : m.Nodup) (p : α → Bool)
    (h : ∀ v, v ∈ l ∧ p v = true ↔ v ∈ m) : (l.filter p).length = m.length :=
  ((List.perm_ext_iff_of_nodup (hl.filter p) hm).2 fun v => by rw [List.mem_filter]; exact h v).length_eq

namespace Rows

structure Row where
  t : Rat
  S : Int
  I : Int
  R : Int

def mv (sis : Bool) (new old : Row) : Prop :=
  old.t ≤ new.t ∧ ((new.S = old.S - 1 ∧ new.I = old.I + 1 ∧ new.R = old.R) ∨
    (new.I = old.I - 1 ∧ if sis then new.S = old.S + 1 ∧ new.R = old.R else new.S = old.S ∧ new.R = old.R + 1))

theorem allIdx_iff (n : Nat) (p : Nat → Bool) : Pred.allIdx n p = true ↔ ∀ i, i < n → p i = true := by
  unfold Pred.allIdx
  simp [List.all_eq_true]

/-- the three monotonicity tests of `Pred` are chains: `f` is one of them, `r` its test on two neighbours -/
theorem chain_map {α β : Type} (R : α → α → Prop) (g : α → β) (r : β → β → Bool) (f : List β → Bool)
    (h0 : f [] = true) (h1 : ∀ a, f [a] = true) (h2 : ∀ a b t, f (a :: b :: t) = (r a b && f (b :: t)))
    (hR : ∀ a b, R a b → r (g a) (g b) = true) : ∀ l : List α, l.IsChain R → f (l.map g) = true := by
  intro l
  induction l with
  | nil => intro _; exact h0
  | cons a l ih =>
    intro hc
    cases l with
    | nil => exact h1 _
    | cons b l =>
      rw [List.isChain_cons_cons] at hc
      rw [List.map_cons, List.map_cons, h2, Bool.and_eq_true]
      exact ⟨hR _ _ hc.1, ih hc.2⟩

theorem row_map3 (l : List Row) (i : Nat) (hi : i < l.length) :
    Pred.row [l.map (·.S), l.map (·.I), l.map (·.R)] i = [l[i].S, l[i].I, l[i].R] := by
  simp [Pred.row, List.getD_eq_getElem?_getD, List.getElem?_eq_getElem hi]

theorem row_map2 (l : List Row) (i : Nat) (hi : i < l.length) :
    Pred.row [l.map (·.S), l.map (·.I)] i = [l[i].S, l[i].I] := by
  simp [Pred.row, List.getD_eq_getElem?_getD, List.getElem?_eq_getElem hi]

def trajOf (sis : Bool) (l : List Row) : Traj :=
  { times := l.map (·.t),
    cols := if sis then [l.map (·.S), l.map (·.I)] else [l.map (·.S), l.map (·.I), l.map (·.R)] }

/-- The two `false false` are the flags `expectExtinct` and `collapsed` of `Pred.wellFormed` (`Spec/Predicates.lean`): the
clause "the run ends with no infected node" is not claimed here, and the rows are the simulator's own (one move per row),
not a merged `summary()`.  `hR`: an SIS trajectory has the two columns `S`, `I`, whose sum is `N` only if `R` stays 0. -/
theorem wellFormed_of_rows (sis : Bool) (N : Nat) (tmin : Rat) (tmax : ERat) (l : List Row)
    (hhd : ∃ r rest, l = r :: rest ∧ r.t = tmin)
    (hch : l.IsChain (fun a b => mv sis b a))
    (hall : ∀ r ∈ l, ERat.lt (some r.t) tmax = true ∧ 0 ≤ r.S ∧ 0 ≤ r.I ∧ 0 ≤ r.R ∧ r.S + r.I + r.R = (N : Int))
    (hR : sis = true → ∀ r ∈ l, r.R = 0) :
    Pred.wellFormed (if sis then TrajKind.sisCont else TrajKind.sirCont) N tmin tmax false false (trajOf sis l) = true := by
  obtain ⟨r0, rest, hl, hr0⟩ := hhd
  have hlen : 0 < l.length := by rw [hl]; simp
  have h4 : (l.map (·.t)).head? = some tmin := by rw [hl]; simp [hr0]
  have h5 : Pred.nondecreasing (l.map (·.t)) = true :=
    chain_map _ _ (fun a b => decide (a ≤ b)) _ rfl (fun _ => rfl) (fun _ _ _ => rfl)
      (fun a b hab => decide_eq_true hab.1) l hch
  have hmv := fun i (hi1 : i + 1 < l.length) => (List.isChain_iff_getElem.1 hch i hi1).2
  have hT : ∀ t ∈ l.map (·.t), ERat.lt (some t) tmax = true := by
    simp only [List.mem_map]
    rintro t ⟨r, hr, rfl⟩
    exact (hall r hr).1
  cases sis with
  | false =>
    have h6 : (l.map (·.t)).all (Pred.beforeHorizon TrajKind.sirCont tmin tmax) = true := List.all_eq_true.2 hT
    have h7 : Pred.allIdx (l.map (·.t)).length
        (fun i => (Pred.row [l.map (·.S), l.map (·.I), l.map (·.R)] i).all (fun c => decide (0 ≤ c))) = true := by
      rw [allIdx_iff]
      intro i hi
      rw [List.length_map] at hi
      obtain ⟨_, g1, g2, g3, _⟩ := hall l[i] (List.getElem_mem hi)
      rw [row_map3 l i hi]
      simp [g1, g2, g3]
    have h8 : Pred.allIdx (l.map (·.t)).length
        (fun i => Pred.sumInt (Pred.row [l.map (·.S), l.map (·.I), l.map (·.R)] i) == (N : Int)) = true := by
      rw [allIdx_iff]
      intro i hi
      rw [List.length_map] at hi
      obtain ⟨_, _, _, _, g⟩ := hall l[i] (List.getElem_mem hi)
      rw [row_map3 l i hi]
      simp only [Pred.sumInt, List.foldr_cons, List.foldr_nil, beq_iff_eq]
      omega
    have h9 : Pred.allIdx ((l.map (·.t)).length - 1)
        (fun i => Pred.sirMove (Pred.row [l.map (·.S), l.map (·.I), l.map (·.R)] i)
          (Pred.row [l.map (·.S), l.map (·.I), l.map (·.R)] (i + 1))) = true := by
      rw [allIdx_iff]
      intro i hi
      rw [List.length_map] at hi
      have hi1 : i + 1 < l.length := by omega
      rw [row_map3 l i (by omega), row_map3 l (i + 1) hi1]
      simp only [Pred.sirMove, Bool.or_eq_true, Bool.and_eq_true, beq_iff_eq]
      rcases hmv i hi1 with g | g
      · left; exact ⟨⟨g.1, g.2.1⟩, g.2.2⟩
      · right; exact ⟨⟨g.2.1, g.1⟩, g.2.2⟩
    have h10 : Pred.nonincrInt (l.map (·.S)) = true :=
      chain_map _ _ (fun a b => decide (b ≤ a)) _ rfl (fun _ => rfl) (fun _ _ _ => rfl)
        (fun a b hab => decide_eq_true (by rcases hab.2 with g | g <;> [omega; (have := g.2; simp at this; omega)])) l hch
    have h11 : Pred.nondecrInt (l.map (·.R)) = true :=
      chain_map _ _ (fun a b => decide (a ≤ b)) _ rfl (fun _ => rfl) (fun _ _ _ => rfl)
        (fun a b hab => decide_eq_true (by rcases hab.2 with g | g <;> [omega; (have := g.2; simp at this; omega)])) l hch
    show Pred.wellFormed TrajKind.sirCont N tmin tmax false false
      { times := l.map (·.t), cols := [l.map (·.S), l.map (·.I), l.map (·.R)] } = true
    unfold Pred.wellFormed
    simp only [h4, h5, h6, h7, h8, h9]
    simp [h10, h11, hlen]
  | true =>
    have h6 : (l.map (·.t)).all (Pred.beforeHorizon TrajKind.sisCont tmin tmax) = true := List.all_eq_true.2 hT
    have h7 : Pred.allIdx (l.map (·.t)).length
        (fun i => (Pred.row [l.map (·.S), l.map (·.I)] i).all (fun c => decide (0 ≤ c))) = true := by
      rw [allIdx_iff]
      intro i hi
      rw [List.length_map] at hi
      obtain ⟨_, g1, g2, _⟩ := hall l[i] (List.getElem_mem hi)
      rw [row_map2 l i hi]
      simp [g1, g2]
    have h8 : Pred.allIdx (l.map (·.t)).length
        (fun i => Pred.sumInt (Pred.row [l.map (·.S), l.map (·.I)] i) == (N : Int)) = true := by
      rw [allIdx_iff]
      intro i hi
      rw [List.length_map] at hi
      obtain ⟨_, _, _, _, g⟩ := hall l[i] (List.getElem_mem hi)
      have := hR rfl l[i] (List.getElem_mem hi)
      rw [row_map2 l i hi]
      simp only [Pred.sumInt, List.foldr_cons, List.foldr_nil, beq_iff_eq]
      omega
    have h9 : Pred.allIdx ((l.map (·.t)).length - 1)
        (fun i => Pred.sisMove (Pred.row [l.map (·.S), l.map (·.I)] i)
          (Pred.row [l.map (·.S), l.map (·.I)] (i + 1))) = true := by
      rw [allIdx_iff]
      intro i hi
      rw [List.length_map] at hi
      have hi1 : i + 1 < l.length := by omega
      rw [row_map2 l i (by omega), row_map2 l (i + 1) hi1]
      simp only [Pred.sisMove, Bool.or_eq_true, Bool.and_eq_true, beq_iff_eq]
      rcases hmv i hi1 with g | g
      · left; exact ⟨g.1, g.2.1⟩
      · right; have := g.2; simp at this; exact ⟨this.1, g.1⟩
    show Pred.wellFormed TrajKind.sisCont N tmin tmax false false
      { times := l.map (·.t), cols := [l.map (·.S), l.map (·.I)] } = true
    unfold Pred.wellFormed
    simp only [h4, h5, h6, h7, h8, h9]
    simp [hlen]

section Counts
variable {σ : Type} [DecidableEq σ]

def cnt (nodes : List Node) (st : Node → σ) (x : σ) : Int :=
  ((nodes.countP fun v => decide (st v = x) : Nat) : Int)

theorem cnt_nonneg (nodes : List Node) (st : Node → σ) (x : σ) : 0 ≤ cnt nodes st x := by
  unfold cnt; omega

theorem cnt_eq_filter (nodes : List Node) (st : Node → σ) (x : σ) :
    cnt nodes st x = ((nodes.filter fun v => st v = x).length : Int) := by
  unfold cnt; rw [List.countP_eq_length_filter]

theorem countP_fset (st : Node → σ) (tgt : Node) (b x : σ) : ∀ l : List Node, l.Nodup →
    (l.countP fun v => decide (fset st tgt b v = x)) + (if tgt ∈ l ∧ st tgt = x then 1 else 0) =
      (l.countP fun v => decide (st v = x)) + (if tgt ∈ l ∧ b = x then 1 else 0) := by
  intro l hl
  have := hl.countP_update (fun v => decide (st v = x)) (fun v => decide (fset st tgt b v = x)) tgt
    fun u _ hu => by rw [fset_ne st tgt u b hu]
  simpa only [decide_eq_true_eq, fset_self] using this

theorem cnt_fset (nodes : List Node) (hn : nodes.Nodup) (st : Node → σ) (tgt : Node) (ht : tgt ∈ nodes) (b x : σ) :
    cnt nodes (fset st tgt b) x + (if st tgt = x then 1 else 0) = cnt nodes st x + (if b = x then 1 else 0) := by
  have := countP_fset st tgt b x nodes hn
  simp only [ht, true_and] at this
  unfold cnt
  split_ifs at this ⊢ <;> omega

theorem cnt_eq_length (nodes l : List Node) (hn : nodes.Nodup) (hl : l.Nodup) (st : Node → σ) (x : σ)
    (h : ∀ v, v ∈ nodes ∧ st v = x ↔ v ∈ l) : cnt nodes st x = (l.length : Int) := by
  unfold cnt
  rw [List.countP_eq_length_filter, hn.length_filter_eq hl _ fun v => by rw [decide_eq_true_eq]; exact h v]

end Counts

theorem cnt_sum (nodes : List Node) (st : Node → St) :
    cnt nodes st St.S + cnt nodes st St.I + cnt nodes st St.R = (nodes.length : Int) := by
  unfold cnt
  induction nodes with
  | nil => simp
  | cons a l ih =>
    simp only [List.countP_cons, List.length_cons]
    cases h : st a <;> simp <;> omega

def Heads (nodes : List Node) (st : Node → St) (r : Row) : Prop :=
  r.S = cnt nodes st St.S ∧ r.I = cnt nodes st St.I ∧ r.R = cnt nodes st St.R

theorem Heads.push {sis : Bool} {nodes : List Node} {st : Node → St} {r : Row} (hn : nodes.Nodup) (hH : Heads nodes st r)
    {u : Node} (hu : u ∈ nodes) {b : St} (t : Rat)
    (hab : (st u = St.S ∧ b = St.I) ∨ (st u = St.I ∧ b = if sis then St.S else St.R)) :
    ∃ new : Row, new.t = t ∧ Heads nodes (fset st u b) new ∧
      ((st u = St.S ∧ new.S = r.S - 1 ∧ new.I = r.I + 1 ∧ new.R = r.R) ∨
       (st u = St.I ∧ new.I = r.I - 1 ∧ new.S = r.S + (if sis then 1 else 0) ∧ new.R = r.R + (if sis then 0 else 1))) := by
  obtain ⟨hS, hI, hR⟩ := hH
  have cS := cnt_fset nodes hn st u hu b St.S
  have cI := cnt_fset nodes hn st u hu b St.I
  have cR := cnt_fset nodes hn st u hu b St.R
  refine ⟨⟨t, cnt nodes (fset st u b) St.S, cnt nodes (fset st u b) St.I, cnt nodes (fset st u b) St.R⟩, rfl,
    ⟨rfl, rfl, rfl⟩, ?_⟩
  rcases hab with ⟨ha, rfl⟩ | ⟨ha, rfl⟩
  · rw [ha] at cS cI cR
    simp only [if_true, reduceCtorEq, if_false, Int.add_zero] at cS cI cR
    left; refine ⟨ha, ?_⟩; simp only; omega
  · rw [ha] at cS cI cR
    right; refine ⟨ha, ?_⟩
    cases sis <;> simp only [if_true, reduceCtorEq, if_false, Int.add_zero, Bool.false_eq_true] at cS cI cR ⊢ <;> omega

structure Book (sis : Bool) (nodes : List Node) (tmin : Rat) (tmax : ERat) (st : Node → St) (rs : List Row) : Prop where
  head : ∃ r rest, rs = r :: rest ∧ Heads nodes st r
  chain : rs.IsChain (mv sis)
  all : ∀ r ∈ rs, tmin ≤ r.t ∧ ERat.lt (some r.t) tmax = true ∧ 0 ≤ r.S ∧ 0 ≤ r.I ∧ 0 ≤ r.R ∧
    r.S + r.I + r.R = (nodes.length : Int)

variable {sis : Bool} {nodes : List Node} {tmin : Rat} {tmax : ERat} {st : Node → St} {rs : List Row}

theorem Book.single (htm : ERat.lt (some tmin) tmax = true) :
    Book sis nodes tmin tmax st [⟨tmin, cnt nodes st St.S, cnt nodes st St.I, cnt nodes st St.R⟩] where
  head := ⟨_, [], rfl, rfl, rfl, rfl⟩
  chain := by simp
  all := by
    intro r hr
    rw [List.mem_singleton.1 hr]
    exact ⟨le_refl _, htm, cnt_nonneg .., cnt_nonneg .., cnt_nonneg .., cnt_sum ..⟩

theorem Book.push (hn : nodes.Nodup) (hB : Book sis nodes tmin tmax st rs) {r : Row} {rest : List Row}
    (hrs : rs = r :: rest) {u : Node} (hu : u ∈ nodes) {b : St} {t : Rat} (ht : r.t ≤ t)
    (hlt : ERat.lt (some t) tmax = true)
    (hab : (st u = St.S ∧ b = St.I) ∨ (st u = St.I ∧ b = if sis then St.S else St.R)) :
    ∃ new : Row, new.t = t ∧ Book sis nodes tmin tmax (fset st u b) (new :: rs) ∧
      ((st u = St.S ∧ new.S = r.S - 1 ∧ new.I = r.I + 1 ∧ new.R = r.R) ∨
       (st u = St.I ∧ new.I = r.I - 1 ∧ new.S = r.S + (if sis then 1 else 0) ∧ new.R = r.R + (if sis then 0 else 1))) := by
  obtain ⟨r', rest', hrs', hH⟩ := hB.head
  rw [hrs] at hrs'
  obtain ⟨rfl, rfl⟩ := List.cons.inj hrs'
  obtain ⟨new, hnt, hH', hnew⟩ := hH.push (sis := sis) hn hu t hab
  refine ⟨new, hnt, ⟨⟨_, rs, rfl, hH'⟩, ?_, ?_⟩, hnew⟩
  · rw [hrs, List.isChain_cons_cons, ← hrs]
    refine ⟨⟨hnt ▸ ht, ?_⟩, hB.chain⟩
    rcases hnew with ⟨_, g⟩ | ⟨_, g1, g2, g3⟩
    · exact Or.inl g
    · right; cases sis <;> simp only [if_true, if_false, Int.add_zero, Bool.false_eq_true] at g2 g3 ⊢ <;> exact ⟨g1, g2, g3⟩
  · intro r'' hr''
    rcases List.mem_cons.1 hr'' with rfl | hr''
    · obtain ⟨e1, e2, e3⟩ := hH'
      rw [hnt, e1, e2, e3]
      exact ⟨le_trans (hB.all r (by rw [hrs]; simp)).1 ht, hlt, cnt_nonneg .., cnt_nonneg .., cnt_nonneg .., cnt_sum ..⟩
    · exact hB.all r'' hr''

/-- `hR` is a hypothesis and no field of `Book`: `Book` does not say which statuses `st` takes, so "no node is ever `R` under SIS"
is for the simulator's invariant to state (`fast_nonMarkov_SIR`, never SIS, discharges it by `nomatch`) -/
theorem Book.wellFormed (hB : Book sis nodes tmin tmax st rs) (k : Nat)
    (hhd : ∃ r rest, rs.reverse.drop k = r :: rest ∧ r.t = tmin) (hR : sis = true → ∀ r ∈ rs, r.R = 0) :
    Pred.wellFormed (if sis then TrajKind.sisCont else TrajKind.sirCont) nodes.length tmin tmax false false
      (trajOf sis (rs.reverse.drop k)) = true := by
  apply wellFormed_of_rows _ _ _ _ _ hhd
  · exact (List.isChain_reverse.2 hB.chain).drop _
  · intro r hr
    exact (hB.all r (List.mem_reverse.1 (List.mem_of_mem_drop hr))).2
  · exact fun hs r hr => hR hs r (List.mem_reverse.1 (List.mem_of_mem_drop hr))

end Rows

/-! ### the count tables of `Gillespie_simple_contagion` and `Gillespie_complex_contagion`

Both keep one column per return status, whose head is the number of nodes in that status, and both edit the columns with
the same text when one node changes status. -/

namespace StatusCounts
variable {σ : Type} [DecidableEq σ]

/-- the `i`-th column after an event, as both `applyEvent`s build it -/
theorem event_column (ret : List σ) (data : List (List Int)) (old new : σ) (i : Nat)
    (hi : i < ret.length) (hi' : i < data.length) :
    ((List.zip ret data).map fun (x, col) =>
        let v := col.headD 0
        let v := if old = x then v - 1 else v
        let v := if new = x then v + 1 else v
        v :: col).getD i [] =
      (if new = ret[i] then (if old = ret[i] then data[i].headD 0 - 1 else data[i].headD 0) + 1
        else (if old = ret[i] then data[i].headD 0 - 1 else data[i].headD 0)) :: data[i] := by
  have hz : i < ((List.zip ret data).map fun (x, col) =>
      let v := col.headD 0
      let v := if old = x then v - 1 else v
      let v := if new = x then v + 1 else v
      v :: col).length := by rw [List.length_map, List.length_zip]; exact lt_min hi hi'
  rw [← List.getElem_eq_getD (h := hz), List.getElem_map, List.getElem_zip]

/-- `d`, `d'` are the defaults of the two `getD`s (the invariants take the status of node 0). -/
theorem data_step (nodes : List Node) (hnd : nodes.Nodup) (ret : List σ) (data : List (List Int)) (st : Node → σ)
    (m : Node) (hm : m ∈ nodes) (new d d' : σ)
    (hc : data.length = ret.length ∧ ∀ i, i < ret.length →
      (data.getD i []).headD 0 = ((nodes.filter fun u => st u = ret.getD i d).length : Int)) :
    ((List.zip ret data).map fun (x, col) =>
        let v := col.headD 0
        let v := if st m = x then v - 1 else v
        let v := if new = x then v + 1 else v
        v :: col).length = ret.length ∧
    ∀ i, i < ret.length →
      (((List.zip ret data).map fun (x, col) =>
        let v := col.headD 0
        let v := if st m = x then v - 1 else v
        let v := if new = x then v + 1 else v
        v :: col).getD i []).headD 0 = ((nodes.filter fun u => fset st m new u = ret.getD i d').length : Int) := by
  obtain ⟨hlen, hcnt⟩ := hc
  refine ⟨by rw [List.length_map, List.length_zip, hlen, min_self], fun i hi => ?_⟩
  have hi' : i < data.length := hlen ▸ hi
  have hci := hcnt i hi
  rw [← List.getElem_eq_getD (h := hi), ← List.getElem_eq_getD (h := hi')] at hci
  have := Rows.cnt_fset nodes hnd st m hm new ret[i]
  rw [Rows.cnt_eq_filter, Rows.cnt_eq_filter] at this
  rw [event_column ret data _ _ i hi hi', ← List.getElem_eq_getD (h := hi), List.headD_cons, hci]
  split_ifs at this ⊢ <;> omega

end StatusCounts
