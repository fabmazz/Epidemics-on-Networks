import EoNVerif.Gen.PyGlue2
import EoNVerif.Proofs.ExceptStep
/-!
Tools for proofs about the generated entry points of `Gen/OdeGlue2.lean` that never unfold them as a whole: the chain is
walked one Python statement at a time with `bind_ok` / `bind_err` of `Proofs/ExceptStep.lean` (reachable under this
namespace).  Statements whose arguments are explicit (`vcat` of one-column arrays, `need (some _)`) evaluate:
`bind_ok rfl _`.  `check_ok` / `check_err` do the same for a shape test, `reshape_*` and
`getRow_*` evaluate the two array operations that recur, and `OnlyVE` carries "the only exception is `ValueError`" down
the same chain.
-/
namespace GenStep
open Gen PyGlue2

export ExceptStep (ok_bind err_bind pure_eq_ok bind_ok bind_err bind_ok_inv)

/-- a shape test `if a ≠ b then throw … ; k` that passes -/
theorem check_ok {α β : Type} [DecidableEq β] {a b : β} (h : a = b) (t k : Except String α) :
    (if a ≠ b then t else k) = k := if_neg (not_not_intro h)

theorem check_err {α β γ : Type} [DecidableEq β] {a b : β} (h : a ≠ b) (e : String) (f : γ → Except String α)
    (k : Except String α) : (if a ≠ b then throw e >>= f else k) = .error e := if_pos h

/-- the only exception is `ValueError` -/
def OnlyVE {α : Type} (a : Except String α) : Prop := ∀ e, a = .error e → e = "ValueError"

theorem OnlyVE.ok {α : Type} (x : α) : OnlyVE (.ok x : Except String α) := fun _ h => nomatch h

theorem OnlyVE.error {α : Type} : OnlyVE (.error "ValueError" : Except String α) :=
  fun _ h => (Except.error.inj h).symm

theorem OnlyVE.ite {α : Type} {c : Prop} [Decidable c] {t k : Except String α} (ht : OnlyVE t) (hk : OnlyVE k) :
    OnlyVE (if c then t else k) := by
  split <;> assumption

theorem OnlyVE.bind {α β : Type} {a : Except String α} {f : α → Except String β} (ha : OnlyVE a)
    (hf : ∀ x, a = .ok x → OnlyVE (f x)) : OnlyVE (a >>= f) := by
  cases a with
  | error e => intro e' h; cases (err_bind e f).symm.trans h; exact ha e rfl
  | ok x => exact hf x rfl

theorem OnlyVE.check {α γ : Type} {c : Prop} [Decidable c] {f : γ → Except String α} {k : Except String α}
    (hk : OnlyVE k) : OnlyVE (if c then throw "ValueError" >>= f else k) := .ite .error hk

theorem OnlyVE.step {α β : Type} {a : Except String α} {x : α} (h : a = .ok x) {f : α → Except String β}
    (H : OnlyVE (f x)) : OnlyVE (a >>= f) := (bind_ok h f).symm ▸ H

theorem OnlyVE.stop {α β : Type} {a : Except String α} (h : a = .error "ValueError") {f : α → Except String β} :
    OnlyVE (a >>= f) := (bind_err h f).symm ▸ .error

theorem OnlyVE.cases {α : Type} {a : Except String α} (h : OnlyVE a) :
    a = .error "ValueError" ∨ ∃ x, a = .ok x := by
  cases a with
  | error e => exact .inl (congrArg _ (h e rfl))
  | ok x => exact .inr ⟨x, rfl⟩

/-! ### broadcasting -/

@[simp] theorem bdim_self (a : Nat) : bdim a a = .ok a := by simp [bdim]
@[simp] theorem bdim_one_right (a : Nat) : bdim a 1 = .ok a := by
  unfold bdim; by_cases h : a = 1 <;> simp [h]
@[simp] theorem bdim_one_left (a : Nat) : bdim 1 a = .ok a := by
  unfold bdim; by_cases h : 1 = a
  · simp [h]
  · simp [h]

theorem bdim_onlyVE (a b : Nat) : OnlyVE (bdim a b) := .ite (.ok _) (.ite (.ok _) (.ite (.ok _) .error))

theorem vop_onlyVE (op : Rat → Rat → Rat) (a b : V) : OnlyVE (vop op a b) := (bdim_onlyVE _ _).bind fun _ _ => .ok _

theorem mxop_onlyVE (op : Rat → Rat → Rat) (a b : Mx) : OnlyVE (Mx.op op a b) :=
  (bdim_onlyVE _ _).bind fun _ _ => (bdim_onlyVE _ _).bind fun _ _ => .ok _

theorem vop_err (op : Rat → Rat → Rat) {a b : V} {e : String} (h : bdim a.n b.n = .error e) : vop op a b = .error e :=
  bind_err h _

theorem reshape_ok (a : Mx) (r c : Nat) (h : a.r * a.c = r * c) :
    a.reshape r c = .ok ⟨r, c, fun i j => a.f ((i * c + j) / a.c) ((i * c + j) % a.c)⟩ := if_neg (not_not_intro h)

theorem reshape_error (a : Mx) (r c : Nat) (h : a.r * a.c ≠ r * c) : a.reshape r c = .error "ValueError" := if_pos h

theorem getRow_mk (r c : Nat) (f : Nat → Nat → Rat) (i : Nat) (h : i < r) : (⟨r, c, f⟩ : Mx).getRow i = .ok ⟨c, f i⟩ :=
  if_pos h

theorem reshape1_ok {M : Mx} {q : Nat} (h : M.r * M.c = q) :
    Mx.reshape M q 1 = .ok ⟨q, 1, fun i j => M.f ((i * 1 + j) / M.c) ((i * 1 + j) % M.c)⟩ :=
  reshape_ok M q 1 (h.trans (Nat.mul_one q).symm)

theorem reshape1_err {M : Mx} {q : Nat} (h : M.r * M.c ≠ q) : Mx.reshape M q 1 = .error "ValueError" :=
  reshape_error M q 1 (fun h' => h (h'.trans (Nat.mul_one q)))

theorem getRow_T (a : Mx) (h : 0 < a.c) : Mx.getRow (Mx.T a) 0 = .ok ⟨a.r, fun i => a.f i 0⟩ :=
  getRow_mk a.c a.r _ 0 h

/-- a 1 × 1 table is broadcast against any table -/
theorem op_one (M B : Mx) (h : M.r = 1 ∧ M.c = 1) :
    ∃ R, Mx.op (fun a b => a * b) M B = .ok R ∧ R.r = B.r ∧ R.c = B.c := by
  refine ⟨⟨B.r, B.c, fun i j => M.f (bidx 1 i) (bidx 1 j) * B.f (bidx B.r i) (bidx B.c j)⟩, ?_, rfl, rfl⟩
  simp only [Mx.op, h.1, h.2, bdim_one_left, ok_bind]
  rfl

end GenStep
