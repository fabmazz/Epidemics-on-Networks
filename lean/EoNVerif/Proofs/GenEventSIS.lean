import EoNVerif.Gen.EventSISGen
import EoNVerif.Model.EventSIS
import EoNVerif.Proofs.HeapPop
import EoNVerif.Proofs.EventLoop
import EoNVerif.Proofs.AssocList
import EoNVerif.Proofs.DegList
import EoNVerif.Proofs.Rows
import EoNVerif.Proofs.EventSIS
import EoNVerif.Proofs.ERat
/-!
The code generated from `fast_nonMarkov_SIS` / `_process_trans_SIS_nonMarkov_` / `_process_rec_SIS_` / `myQueue`
(`Gen/EventSISGen.lean`, namespace `GenNMSIS`) refines the hand-written lazy-queue model `EventSIS`
(`Model/EventSIS.lean`): a lock-step simulation between `GenNMSIS.pop_and_run` and `EventSIS.step`.
-/
open PyTM

namespace GenNMSIS

theorem tm_pure {α : Type} (a : α) (ts : TapeSt) : (pure a : TM α) ts = .ok (a, ts) := TM.pure_apply a ts

theorem liftE_pure {α : Type} (a : α) : liftE (pure a : Except String α) = (pure a : TM α) := TM.liftE_ok a

theorem listGet_zero_cons {α : Type} (a : α) (l : List α) : liftE (listGet (a :: l) 0) = (pure a : TM α) := rfl

theorem alGet_ddAppend {κ ν : Type} [DecidableEq κ] (d : List (κ × List ν)) (k : κ) (x : ν) (u : κ) :
    alGet (ddAppend d k x) [] u = if u = k then alGet d [] k ++ [x] else alGet d [] u := by
  unfold ddAppend; exact alGet_alSet _ _ _ _ _

theorem dictGet_map {ν : Type} (f : Node → ν) (l : List Node) (v : Node) (hv : v ∈ l) :
    liftE (PyRT.dictGet (l.map fun w => (w, f w)) v) = (pure (f v) : TM ν) := by
  simp only [PyRT.dictGet, alFind?_map_mk l f v hv]; rfl

theorem ERat.add_some (a b : Rat) : ERat.add (some a) (some b) = some (a + b) := ERat.add_some_some a b

theorem map_add_some (t : Rat) (ds : List Rat) :
    List.map (fun td => ERat.add (some t) td) (List.map some ds) = List.map some (ds.map fun d => t + d) := by
  simp [ERat.add]

theorem filter_lt_some (r : Rat) (l : List Rat) :
    List.filter (fun x => ERat.lt (some r) x) (List.map some l) = List.map some (l.filter fun x => x > r) := by
  rw [List.filter_map]
  congr 1

def conc : SEv → Ev
  | .trans s t fut => .trans s t (fut.map some)
  | .recov u => .recov u

def concItem (x : SItem) : ERat × Ev := (some x.time, conc x.ev)

/-- the generated queue `q` represents the model queue `l`: same entries in insertion order, strictly increasing
counters below `q.counter`, same `tmax` -/
structure QRel (P : SSParams) (q : MyQueue) (l : List SItem) : Prop where
  tmax : q.tmax = some P.tmax
  ents : q.q.map (fun e => (e.1, e.2.2)) = l.map concItem
  sorted : (q.q.map (fun e => e.2.1)).Pairwise (· < ·)
  below : ∀ e ∈ q.q, e.2.1 < q.counter

theorem QRel.length {P : SSParams} {q : MyQueue} {l : List SItem} (h : QRel P q l) : q.q.length = l.length := by
  have := congrArg List.length h.ents
  simpa using this

theorem QRel.rep {P : SSParams} {q : MyQueue} {l : List SItem} (h : QRel P q l) :
    HeapPop.Rep SItem.time (fun x => conc x.ev) q.q q.counter l :=
  ⟨h.ents, List.pairwise_map.1 h.sorted, h.below⟩

theorem QRel.of_rep {P : SSParams} {q : MyQueue} {l : List SItem} (ht : q.tmax = some P.tmax)
    (h : HeapPop.Rep SItem.time (fun x => conc x.ev) q.q q.counter l) : QRel P q l :=
  ⟨ht, h.ents, List.pairwise_map.2 h.sorted, h.below⟩

theorem QRel.add {P : SSParams} {q : MyQueue} {l : List SItem} (h : QRel P q l) (t : Rat) (e : SEv) :
    QRel P (q.add (some t) (conc e)) (EventSIS.qadd P.tmax l t e) := by
  unfold MyQueue.add EventSIS.qadd
  rw [h.tmax, ERat.lt_some_some]
  by_cases ht : t < P.tmax
  · simp only [ht, decide_true, if_true]
    exact QRel.of_rep rfl (h.rep.push ⟨t, e⟩)
  · simp only [ht, decide_false, if_false]
    exact h

theorem QRel.add_chain {P : SSParams} {q : MyQueue} {l : List SItem} (h : QRel P q l) (src : Option Node) (v : Node)
    (tt : List Rat) :
    QRel P (match tt with
      | [] => q
      | t0 :: fol => q.add (some t0) (Ev.trans src v (fol.map some)))
     (l ++ (match tt with
      | [] => []
      | t0 :: fol => if t0 < P.tmax then [⟨t0, SEv.trans src v fol⟩] else [])) := by
  cases tt with
  | nil => simpa using h
  | cons t0 fol =>
    have := h.add t0 (SEv.trans src v fol)
    rw [EventSIS.qadd_eq] at this
    exact this

theorem before_isBefore : HeapPop.IsBefore MyQueue.before := HeapPop.isBefore_lex

theorem popMin_spec {P : SSParams} {q : MyQueue} {l : List SItem} (h : QRel P q l) (hne : q.q ≠ []) :
    ∃ x l' c q', EventSIS.pop l = some (x, l') ∧ MyQueue.popMin q = .ok ((some x.time, c, conc x.ev), q') ∧
      QRel P q' l' := by
  cases hq : q.q with
  | nil => exact absurd hq hne
  | cons e0 es =>
    obtain ⟨x, l1, l2, c, hl, h1, h2, hm, hrep⟩ := HeapPop.Rep.pop before_isBefore (hq ▸ h.rep)
    refine ⟨x, l1 ++ l2, c, { q with q := (e0 :: es).erase (some x.time, c, conc x.ev) },
      by rw [EventSIS.pop_eq]; exact EvQ.gpop_of_min _ hl h1 h2, ?_, QRel.of_rep h.tmax hrep⟩
    unfold MyQueue.popMin
    rw [hq]
    simp only [hm]
    rfl

/-- current number of infected nodes -/
def lastI : List Change → Int
  | [] => 0
  | c :: l => if c.2.2 then lastI l + 1 else lastI l - 1

/-- the `I` column (one row per status change, after the initial row) -/
def colI : List Change → List Int
  | [] => [0]
  | c :: l => colI l ++ [lastI (c :: l)]

/-- current number of susceptible nodes -/
def lastS (N : Int) : List Change → Int
  | [] => N
  | c :: l => if c.2.2 then lastS N l - 1 else lastS N l + 1

/-- the `S` column -/
def colS (N : Int) : List Change → List Int
  | [] => [N]
  | c :: l => colS N l ++ [lastS N (c :: l)]

/-- the `times` column -/
def colT (tmin : Rat) : List Change → List ERat
  | [] => [some tmin]
  | c :: l => colT tmin l ++ [some c.1]

/-- the times at which `u` became infected (`b = true`) / recovered (`b = false`), oldest first -/
def evTimes (b : Bool) : List Change → Node → List ERat
  | [], _ => []
  | c :: l, u => if c.2.1 = u ∧ c.2.2 = b then evTimes b l u ++ [some c.1] else evTimes b l u

theorem colI_last (l : List Change) : (colI l).getLast? = some (lastI l) := by
  cases l with
  | nil => rfl
  | cons c l => simp [colI]

theorem colS_last (N : Int) (l : List Change) : (colS N l).getLast? = some (lastS N l) := by
  cases l with
  | nil => rfl
  | cons c l => simp [colS]

theorem colT_eq (tmin : Rat) (log : List Change) :
    colT tmin log = some tmin :: log.reverse.map (fun c => some c.1) := by
  induction log with
  | nil => rfl
  | cons c l ih => simp [colT, ih]

theorem lastI_eq (l : List Change) :
    lastI l = (l.countP (fun c => c.2.2) : Int) - (l.countP (fun c => !c.2.2) : Int) := by
  induction l with
  | nil => rfl
  | cons c l ih =>
    simp only [lastI, ih, List.countP_cons]
    cases c.2.2 <;> simp <;> omega

theorem lastS_eq (N : Int) (l : List Change) : lastS N l = N - lastI l := by
  induction l with
  | nil => simp [lastS, lastI]
  | cons c l ih =>
    simp only [lastS, lastI, ih]
    cases c.2.2 <;> simp <;> omega

theorem colS_eq (N : Int) (l : List Change) : colS N l = (colI l).map (fun i => N - i) := by
  induction l with
  | nil => simp [colS, colI]
  | cons c l ih => simp [colS, colI, ih, lastS_eq]

theorem colI_length (l : List Change) : (colI l).length = l.length + 1 := by
  induction l with
  | nil => rfl
  | cons c l ih => simp [colI, ih]

theorem colI_getElem (l : List Change) (i : Nat) (hi : i ≤ l.length) :
    (colI l)[i]? = some (lastI (l.drop (l.length - i))) := by
  induction l with
  | nil =>
    have : i = 0 := by simpa using hi
    subst this; rfl
  | cons c l ih =>
    simp only [colI]
    by_cases h : i ≤ l.length
    · rw [List.getElem?_append_left (by rw [colI_length]; omega), ih h]
      have : (c :: l).length - i = (l.length - i) + 1 := by simp; omega
      rw [this, List.drop_succ_cons]
    · have : i = l.length + 1 := by simp at hi; omega
      subst this
      rw [List.getElem?_append_right (by rw [colI_length]), colI_length]
      simp

theorem evTimes_eq (b : Bool) (log : List Change) (u : Node) :
    evTimes b log u = (log.reverse.filter (fun c => c.2.1 == u && c.2.2 == b)).map (fun c => some c.1) := by
  induction log with
  | nil => rfl
  | cons c l ih =>
    simp only [evTimes, ih, List.reverse_cons, List.filter_append, List.map_append]
    by_cases h : c.2.1 = u ∧ c.2.2 = b
    · simp [h]
    · simp only [h, if_false]
      have : (c.2.1 == u && c.2.2 == b) = false := by
        simp only [Bool.and_eq_false_iff, beq_eq_false_iff_ne]
        by_cases h1 : c.2.1 = u
        · right; exact fun h2 => h ⟨h1, h2⟩
        · left; exact h1
      simp [this]

/-- the user rule of the generated code is the model's pair of tables -/
structure Agree (A : NArgs) (P : SSParams) : Prop where
  nbrs : A.nbrs = P.nbrs
  order : A.order = P.nodes.length
  tmin : A.tmin = P.tmin
  tmax : A.tmax = some P.tmax
  rule : ∀ k u nbrs, A.transRec k u nbrs =
    pure (nbrs.map (fun v => (v, (P.delays u v k).map some)), some (P.dur u k))

/-- everything except the queue -/
structure RelCore (P : SSParams) (σ : Loc) (s : SSState) : Prop where
  status : ∀ u, σ.status u = if s.inf u then St.I else St.S
  rec_time : ∀ u, σ.rec_time u = some (s.recTime u)
  count : ∀ u, (alGet σ.infection_times [] u).length = s.count u
  trans : σ.transmissions = s.trans.reverse.map (fun e => (some e.1, e.2.1, e.2.2))
  times : σ.times = colT P.tmin s.log
  colS : σ.S = colS (P.nodes.length : Int) s.log
  colI : σ.I = colI s.log
  itimes : ∀ u, alGet σ.infection_times [] u = evTimes true s.log u
  rtimes : ∀ u, alGet σ.recovery_times [] u = evTimes false s.log u

/-- An initial-infection entry (`source = None`) never carries future attempts.  Needed in `process_trans_sim`: the last
statement of `_process_trans_SIS_nonMarkov_` re-queues `(source, target, following)` whatever `source` is, while the model's
`reQ` queues nothing for `source = none`; the two agree only because such an entry has `fut = []` (`NoneNil_init`,
`NoneNil_step`). -/
def NoneNil (l : List SItem) : Prop := ∀ x ∈ l, ∀ v fut, x.ev = SEv.trans none v fut → fut = []

structure Rel (P : SSParams) (σ : Loc) (s : SSState) : Prop where
  core : RelCore P σ s
  queue : QRel P σ.Q s.queue
  noneNil : NoneNil s.queue

/-- `_process_rec_SIS_` -/
theorem process_rec_sim (A : NArgs) {P : SSParams} {σ : Loc} {s : SSState} (h : RelCore P σ s) (t : Rat) (u : Node)
    (ts : TapeSt) :
    ∃ σ', process_rec A (some t) u σ ts = .ok (σ', ts) ∧ RelCore P σ' (EventSIS.processRec s t u) ∧ σ'.Q = σ.Q := by
  unfold process_rec
  have hS : (σ.S).getLast? = some (lastS (P.nodes.length : Int) s.log) := by rw [h.colS]; exact colS_last _ _
  have hI : (σ.I).getLast? = some (lastI s.log) := by rw [h.colI]; exact colI_last _
  simp only [TM.listLast_eq hS, TM.listLast_eq hI, pure_bind]
  refine ⟨_, rfl, ?_, rfl⟩
  refine ⟨?_, ?_, ?_, ?_, ?_, ?_, ?_, ?_, ?_⟩
  · intro v
    simp only [EventSIS.processRec, fset]
    by_cases hv : v = u
    · simp [hv]
    · simp [hv, h.status v]
  · exact h.rec_time
  · exact h.count
  · exact h.trans
  · simp only [EventSIS.processRec, colT, h.times]
  · simp [EventSIS.processRec, colS, lastS, h.colS]
  · simp [EventSIS.processRec, colI, lastI, h.colI]
  · intro v; simp [EventSIS.processRec, evTimes, h.itimes v]
  · intro v
    simp only [EventSIS.processRec, evTimes, alGet_ddAppend]
    by_cases hv : v = u
    · subst hv; simp [h.rtimes v]
    · have : ¬ u = v := fun h' => hv h'.symm
      simp [hv, this, h.rtimes v]

def Ok {α : Type} (x : TM α) (ts : TapeSt) (R : α → Prop) : Prop := ∃ a, x ts = .ok (a, ts) ∧ R a

theorem Ok.pure {α : Type} {a : α} {ts : TapeSt} {R : α → Prop} (h : R a) : Ok (pure a : TM α) ts R := ⟨a, rfl, h⟩

theorem Ok.bind {α β : Type} {x : TM α} {f : α → TM β} {ts : TapeSt} {Q : α → Prop} {R : β → Prop}
    (hx : Ok x ts Q) (hf : ∀ a, Q a → Ok (f a) ts R) : Ok (x >>= f) ts R := by
  obtain ⟨a, ha, hq⟩ := hx
  obtain ⟨b, hb, hr⟩ := hf a hq
  exact ⟨b, by rw [TM.bind_ok ha]; exact hb, hr⟩

theorem Ok.mono {α : Type} {x : TM α} {ts : TapeSt} {Q R : α → Prop} (hx : Ok x ts Q) (h : ∀ a, Q a → R a) :
    Ok x ts R := by
  obtain ⟨a, ha, hq⟩ := hx; exact ⟨a, ha, h a hq⟩

theorem Ok.ite {α : Type} {c : Prop} [Decidable c] {x y : TM α} {ts : TapeSt} {R : α → Prop}
    (hx : c → Ok x ts R) (hy : ¬ c → Ok y ts R) : Ok (if c then x else y) ts R := by
  by_cases h : c
  · simp only [h, if_true]; exact hx h
  · simp only [h, if_false]; exact hy h

theorem Ok.foldlM {β γ : Type} {body : Loc → β → TM Loc} {ts : TapeSt} (Inv : Loc → γ → Prop) (stepq : γ → β → γ)
    (l : List β) (hbody : ∀ σ q v, v ∈ l → Inv σ q → Ok (body σ v) ts (fun σ' => Inv σ' (stepq q v))) :
    ∀ σ q, Inv σ q → Ok (l.foldlM body σ) ts (fun σ' => Inv σ' (l.foldl stepq q)) := by
  induction l with
  | nil => intro σ q h; exact Ok.pure h
  | cons v l ih =>
    intro σ q h
    rw [List.foldlM_cons, List.foldl_cons]
    exact Ok.bind (hbody σ q v (by simp) h) (fun σ' h' => ih (fun σ q w hw => hbody σ q w (by simp [hw])) σ' _ h')

theorem tm_bind_elim {α β : Type} {x : TM α} {f : α → TM β} {ts : TapeSt} {Q : α → Prop}
    {G : Except String (β × TapeSt) → Prop} (hx : Ok x ts Q) (h : ∀ a, Q a → G (f a ts)) : G ((x >>= f) ts) := by
  obtain ⟨a, ha, hq⟩ := hx
  rw [TM.bind_ok ha]; exact h a hq

/-- all fields except the queue and the two scratch locals agree -/
structure Frame (σ σ' : Loc) : Prop where
  status : σ'.status = σ.status
  rec_time : σ'.rec_time = σ.rec_time
  times : σ'.times = σ.times
  S : σ'.S = σ.S
  I : σ'.I = σ.I
  infection_times : σ'.infection_times = σ.infection_times
  recovery_times : σ'.recovery_times = σ.recovery_times
  transmissions : σ'.transmissions = σ.transmissions

theorem RelCore.frame {P : SSParams} {σ σ' : Loc} {s : SSState} (h : RelCore P σ s) (hf : Frame σ σ')
    (q : List SItem) : RelCore P σ' { s with queue := q } :=
  ⟨by rw [hf.status]; exact h.status, by rw [hf.rec_time]; exact h.rec_time,
   by rw [hf.infection_times]; exact h.count, by rw [hf.transmissions]; exact h.trans,
   by rw [hf.times]; exact h.times, by rw [hf.S]; exact h.colS, by rw [hf.I]; exact h.colI,
   by rw [hf.infection_times]; exact h.itimes, by rw [hf.recovery_times]; exact h.rtimes⟩

theorem RelCore.upd {P : SSParams} {σ : Loc} {s : SSState} (h : RelCore P σ s) (q : MyQueue) (a b : List ERat)
    (l : List SItem) :
    RelCore P { σ with Q := q, trans_times := a, following_transmissions := b } { s with queue := l } :=
  h.frame (by exact ⟨rfl, rfl, rfl, rfl, rfl, rfl, rfl, rfl⟩) l

theorem RelCore.requeue {P : SSParams} {σ : Loc} {s : SSState} (h : RelCore P σ s)
    (q : List SItem) : RelCore P σ { s with queue := q } :=
  h.frame ⟨rfl, rfl, rfl, rfl, rfl, rfl, rfl, rfl⟩ q

theorem infect_core {P : SSParams} {σ σ1 : Loc} {s : SSState} (hc : RelCore P σ s) (t : Rat) (src : Option Node)
    (tgt : Node) (h1 : σ1.status = fset σ.status tgt St.I)
    (h2 : σ1.rec_time = fset σ.rec_time tgt (some (t + P.dur tgt (s.count tgt))))
    (h3 : σ1.times = σ.times ++ [some t])
    (h4 : σ1.S = σ.S ++ [lastS (P.nodes.length : Int) s.log - 1])
    (h5 : σ1.I = σ.I ++ [lastI s.log + 1])
    (h6 : σ1.infection_times = ddAppend σ.infection_times tgt (some t))
    (h7 : σ1.recovery_times = σ.recovery_times)
    (h8 : σ1.transmissions = σ.transmissions ++ [(some t, src, tgt)]) :
    RelCore P σ1 (EventSIS.infectS P s t src tgt) := by
  refine ⟨?_, ?_, ?_, ?_, ?_, ?_, ?_, ?_, ?_⟩
  · intro v
    simp only [h1, EventSIS.infectS, fset]
    by_cases hv : v = tgt
    · simp [hv]
    · simp [hv, hc.status v]
  · intro v
    simp only [h2, EventSIS.infectS, fset]
    by_cases hv : v = tgt
    · simp [hv]
    · simp [hv, hc.rec_time v]
  · intro v
    simp only [h6, EventSIS.infectS, fset, alGet_ddAppend]
    by_cases hv : v = tgt
    · subst hv; simp [hc.count v]
    · simp [hv, hc.count v]
  · simp [h8, EventSIS.infectS, hc.trans]
  · simp only [h3, EventSIS.infectS, colT, hc.times]
  · simp [h4, EventSIS.infectS, colS, lastS, hc.colS]
  · simp [h5, EventSIS.infectS, colI, lastI, hc.colI]
  · intro v
    simp only [h6, EventSIS.infectS, evTimes, alGet_ddAppend]
    by_cases hv : v = tgt
    · subst hv; simp [hc.itimes v]
    · have : ¬ tgt = v := fun h' => hv h'.symm
      simp [hv, this, hc.itimes v]
  · intro v; simp [h7, EventSIS.infectS, evTimes, hc.rtimes v]

/-- `_process_trans_SIS_nonMarkov_` -/
theorem process_trans_sim {A : NArgs} {P : SSParams} (hA : Agree A P) {σ : Loc} {s : SSState}
    (hc : RelCore P σ s) (hq : QRel P σ.Q s.queue) (t : Rat) (src : Option Node) (tgt : Node) (fut : List Rat)
    (hnn : src = none → fut = []) (ts : TapeSt) :
    Ok (process_trans A (some t) src tgt (fut.map some) σ) ts
      (fun σ' => RelCore P σ' (EventSIS.processTrans P s t src tgt fut) ∧
        QRel P σ'.Q (EventSIS.processTrans P s t src tgt fut).queue) := by
  rw [EventSIS.processTrans_eq]
  unfold process_trans
  refine Ok.bind (Q := fun σ2 =>
    RelCore P σ2 (if s.inf tgt then s else EventSIS.infectS P s t src tgt) ∧
    QRel P σ2.Q (if s.inf tgt then s else EventSIS.infectS P s t src tgt).queue) ?_ ?_
  · by_cases hi : s.inf tgt = true
    · have hst : ¬ σ.status tgt = St.S := by rw [hc.status tgt]; simp [hi]
      simp only [hst, decide_false, Bool.false_eq_true, if_false, hi, if_true]
      exact Ok.pure ⟨hc, hq⟩
    · have hst : σ.status tgt = St.S := by rw [hc.status tgt]; simp [hi]
      have hS : (σ.S).getLast? = some (lastS (P.nodes.length : Int) s.log) := by rw [hc.colS]; exact colS_last _ _
      have hI : (σ.I).getLast? = some (lastI s.log) := by rw [hc.colI]; exact colI_last _
      have hk : (alGet (ddAppend σ.infection_times tgt (some t)) [] tgt).length - 1 = s.count tgt := by
        rw [alGet_ddAppend]; simp [hc.count tgt]
      simp only [hst, decide_true, if_true, TM.listLast_eq hS, TM.listLast_eq hI, pure_bind, hA.rule, fset_self, hk,
        ERat.add_some, hi, Bool.false_eq_true, if_false, hA.nbrs]
      refine Ok.bind (Q := fun σ1 => RelCore P σ1 (EventSIS.infectS P s t src tgt) ∧
        QRel P σ1.Q (EventSIS.qadd P.tmax s.queue (t + P.dur tgt (s.count tgt)) (SEv.recov tgt))) ?_ ?_
      · have hadd := hq.add (t + P.dur tgt (s.count tgt)) (SEv.recov tgt)
        refine Ok.ite (fun hlt => Ok.pure ⟨?_, ?_⟩) (fun hlt => Ok.pure ⟨?_, ?_⟩)
        · exact infect_core hc t src tgt rfl rfl rfl rfl rfl rfl rfl rfl
        · exact hadd
        · exact infect_core hc t src tgt rfl rfl rfl rfl rfl rfl rfl rfl
        · unfold MyQueue.add at hadd
          simp only [hlt] at hadd
          exact hadd
      · rintro σ1 ⟨hc1, hq1⟩
        refine Ok.mono (Ok.foldlM
          (fun σ' q => RelCore P σ' (EventSIS.infectS P s t src tgt) ∧ QRel P σ'.Q q)
          (fun q v => q ++ EventSIS.chainOf P.tmax tgt v
            (EventSIS.liveTimes (EventSIS.infectS P s t src tgt).inf (EventSIS.infectS P s t src tgt).recTime v
              ((P.delays tgt v (s.count tgt)).map fun d => t + d)))
          (P.nbrs tgt) ?_ σ1 _ ⟨hc1, hq1⟩) ?_
        · rintro σ2 q v hv ⟨hc2, hq2⟩
          simp only [dictGet_map _ _ _ hv, pure_bind]
          -- `L`: the attempt times on `v` that survive the filter against its current infectious period
          generalize hL : EventSIS.liveTimes (EventSIS.infectS P s t src tgt).inf (EventSIS.infectS P s t src tgt).recTime v
            ((P.delays tgt v (s.count tgt)).map fun d => t + d) = L
          cases hds : P.delays tgt v (s.count tgt) with
          | nil =>
            have hnil : L = [] := by rw [← hL, hds]; simp [EventSIS.liveTimes]
            simp only [hnil, List.map_nil, List.isEmpty_nil, Bool.not_true, Bool.false_eq_true, if_false,
              EventSIS.chainOf, List.append_nil]
            exact Ok.pure ⟨hc2, hq2⟩
          | cons d0 ds =>
            rw [← hds, if_pos (by rw [hds]; rfl)]
            refine Ok.bind (Q := fun σ3 => σ3 = { σ2 with trans_times := L.map some }) ?_ ?_
            · by_cases hi : (EventSIS.infectS P s t src tgt).inf v = true
              · have hst : σ2.status v = St.I := by rw [hc2.status v]; simp [hi]
                simp only [hst, decide_true, if_true, map_add_some, hc2.rec_time v, filter_lt_some]
                exact Ok.pure (by rw [← hL]; simp only [EventSIS.liveTimes, hi, if_true])
              · have hst : ¬ σ2.status v = St.I := by rw [hc2.status v]; simp [hi]
                simp only [hst, decide_false, Bool.false_eq_true, if_false, map_add_some]
                exact Ok.pure (by rw [← hL]; simp only [EventSIS.liveTimes, hi, Bool.false_eq_true, if_false])
            · rintro σ3 rfl
              have hq3 := hq2.add_chain (some tgt) v L
              cases L with
              | nil =>
                simp only [List.map_nil, List.isEmpty_nil, Bool.not_true, Bool.false_eq_true, if_false]
                exact Ok.pure ⟨hc2.upd _ _ _ _, hq3⟩
              | cons t0 fol =>
                simp only [List.map_cons, List.isEmpty_cons, Bool.not_false, if_true, listGet_zero_cons, pure_bind,
                  List.drop_succ_cons, List.drop_zero]
                exact Ok.pure ⟨hc2.upd _ _ _ _, hq3⟩
        · rintro σ3 ⟨hc3, hq3⟩
          refine ⟨hc3, ?_⟩
          rw [GenHelpProofs.foldl_append_flatMap, EventSIS.qadd_eq] at hq3
          exact hq3
  · generalize (if s.inf tgt then s else EventSIS.infectS P s t src tgt) = s1
    rintro σ2 ⟨hc2, hq2⟩
    simp only [hc2.rec_time tgt, filter_lt_some]
    cases hL : fut.filter (fun x => x > s1.recTime tgt) with
    | nil =>
      simp only [List.map_nil, List.isEmpty_nil, Bool.not_true, Bool.false_eq_true, if_false]
      refine Ok.pure ⟨hc2.upd _ _ _ _, ?_⟩
      have : EventSIS.reQ P.tmax src tgt [] = [] := by cases src <;> rfl
      simp only [this, List.append_nil]
      exact hq2
    | cons t0 fol =>
      simp only [List.map_cons, List.isEmpty_cons, Bool.not_false, if_true, listGet_zero_cons, pure_bind,
        List.drop_succ_cons, List.drop_zero]
      refine Ok.pure ⟨hc2.upd _ _ _ _, ?_⟩
      cases src with
      | none => rw [hnn rfl] at hL; simp at hL
      | some u =>
        have := hq2.add t0 (SEv.trans (some u) tgt fol)
        rw [EventSIS.qadd_eq] at this
        exact this

theorem NoneNil_step {P : SSParams} {s s' : SSState} (h : NoneNil s.queue) (hs : EventSIS.step P s = some s') :
    NoneNil s'.queue := by
  -- the step only creates recoveries and chains with a source
  have hchain : ∀ {u w : Node} {tt : List Rat}, ∀ y ∈ EventSIS.chainOf P.tmax u w tt,
      ∀ v fut, y.ev = SEv.trans none v fut → fut = [] := by
    intro u w tt y hy v fut he
    obtain ⟨t0, fol, _, _, rfl⟩ := EventSIS.mem_chainOf hy
    cases he
  refine EventSIS.step_queue hs h (fun x _ w y hy => ?_) (fun x _ src w fut _ p y hy => ?_)
  · rcases EventSIS.mem_newItems hy with ⟨rfl, _⟩ | ⟨z, _, hy⟩
    · intro v fut he; cases he
    · exact hchain y hy
  · obtain ⟨u, _, hy⟩ := EventSIS.mem_reQ hy
    exact hchain y hy

theorem NoneNil_init (P : SSParams) (infs : List Node) : NoneNil (EventSIS.init P infs).queue := by
  intro x hx v fut he
  obtain ⟨u, _, rfl, _⟩ := EventSIS.mem_init_queue hx
  cases he
  rfl

/-- `myQueue.pop_and_run` on related states: the model takes the corresponding step -/
theorem pop_and_run_sim {A : NArgs} {P : SSParams} (hA : Agree A P) {σ : Loc} {s : SSState} (h : Rel P σ s)
    (hne : σ.Q.q ≠ []) (ts : TapeSt) :
    ∃ s', EventSIS.step P s = some s' ∧ Ok (pop_and_run A σ) ts (fun σ' => Rel P σ' s') := by
  obtain ⟨x, l', mc, q', hmodel, hpop, hq'⟩ := popMin_spec h.queue hne
  have hxq : x ∈ s.queue := by
    rw [EventSIS.pop_eq] at hmodel
    obtain ⟨l1, l2, hl, -⟩ := EvQ.gpop_some _ hmodel
    rw [hl]; simp
  have hstep : EventSIS.step P s = some (EventSIS.exec P { s with queue := l' } x) := by
    unfold EventSIS.step EventSIS.exec
    rw [hmodel]
    simp only
    cases x.ev <;> rfl
  refine ⟨_, hstep, ?_⟩
  have hnn := NoneNil_step h.noneNil hstep
  unfold pop_and_run
  have hlift : liftE (MyQueue.popMin σ.Q) = (pure ((some x.time, mc, conc x.ev), q') : TM _) := by
    rw [hpop]; rfl
  simp only [hlift, pure_bind]
  unfold EventSIS.exec at hnn ⊢
  have hc : RelCore P { σ with Q := q' } { s with queue := l' } := h.core.upd _ _ _ _
  cases hev : x.ev with
  | trans src tgt fut =>
    simp only [hev] at hnn ⊢
    simp only [conc]
    refine Ok.mono (process_trans_sim hA hc hq' x.time src tgt fut ?_ ts) ?_
    · intro hsrc; subst hsrc; exact h.noneNil x hxq tgt fut hev
    · rintro σ' ⟨hc', hq''⟩
      exact ⟨hc', hq'', hnn⟩
  | recov u =>
    simp only [hev] at hnn ⊢
    simp only [conc]
    obtain ⟨σ', hσ', hc', hQ⟩ := process_rec_sim A hc x.time u ts
    refine ⟨σ', hσ', hc', ?_, hnn⟩
    rw [hQ]; exact hq'

theorem loop_eq (A : NArgs) : loop A = TM.evLoop (fun σ => decide (MyQueue.len σ.Q > 0)) (pop_and_run A) := by
  funext fuel
  induction fuel with
  | zero => rfl
  | succ fuel ih => funext σ; rw [loop, TM.evLoop, ih]

theorem loop_sim {A : NArgs} {P : SSParams} (hA : Agree A P) (ts : TapeSt) (fuel : Nat) (σ : Loc) (s : SSState)
    (h : Rel P σ s) :
      (loop A fuel σ ts = .error "fuel" ∧ ∀ k, k < fuel → (EventSIS.loop P k s).queue ≠ []) ∨
      (∃ σ', loop A fuel σ ts = .ok (σ', ts) ∧ Rel P σ' (EventSIS.loop P fuel s) ∧
        (EventSIS.loop P fuel s).queue = [] ∧ ∃ k, k < fuel ∧ (EventSIS.loop P k s).queue = []) := by
  cases fuel with
  | zero => exact Or.inl ⟨rfl, fun k hk => absurd hk (Nat.not_lt_zero _)⟩
  | succ n =>
    rw [loop_eq]
    refine (TM.evLoop_opt (E := Eq) (R := Rel P) (f := EventSIS.step P) (fun σ s ts h => ?_) n σ s ts h).elim
      (fun ⟨h1, h2⟩ => Or.inr ?_) (fun ⟨h1, h2⟩ => Or.inl ⟨h2, fun k hk hq => h1 ?_⟩)
    · by_cases hne : σ.Q.q = []
      · exact Or.inl ⟨by simp [MyQueue.len, hne], EventSIS.step_of_empty (h.queue.rep.nil_iff.1 hne)⟩
      · obtain ⟨s', hstep, σ1, hσ1, hrel⟩ := pop_and_run_sim hA h hne ts
        exact Or.inr ⟨decide_eq_true (List.length_pos_iff.2 hne), s', hstep, hσ1 ▸ TM.RR.ok ts hrel⟩
    · -- "fuel": a model that had stopped after `k ≤ n` events would be in the same state after `n`
      have := EventSIS.loop_stable k (n - k) s hq
      rw [show k + (n - k) = n by omega] at this
      rw [← EventSIS.loop_eq_optLoop, this]
      exact EventSIS.step_of_empty hq
    · obtain ⟨σ', e, hR⟩ := h2.fwd rfl
      rw [← EventSIS.loop_eq_optLoop] at h1 hR
      have hq := EventSIS.step_none h1
      have hst := EventSIS.loop_stable n 1 s hq
      exact ⟨σ', e, by rw [hst]; exact hR, by rw [hst]; exact hq, n, Nat.lt_succ_self n, hq⟩

/-- what `fast_nonMarkov_SIS` returns, in terms of the final model state: the three columns without the rows of
the initial infections, the transmission list, the per-node infection / recovery times -/
structure Out (P : SSParams) (infs : List Node) (σ : Loc) (s : SSState) : Prop where
  times : σ.times = (colT P.tmin s.log).drop infs.length
  S : σ.S = (colS (P.nodes.length : Int) s.log).drop infs.length
  I : σ.I = (colI s.log).drop infs.length
  transmissions : σ.transmissions = s.trans.reverse.map (fun e => (some e.1, e.2.1, e.2.2))
  infection_times : ∀ u, alGet σ.infection_times [] u = evTimes true s.log u
  recovery_times : ∀ u, alGet σ.recovery_times [] u = evTimes false s.log u
  status : ∀ u, σ.status u = if s.inf u then St.I else St.S
  rec_time : ∀ u, σ.rec_time u = some (s.recTime u)
  queue : σ.Q.q = []

/-- `k < fuel`, not `≤`: the generated loop spends one unit of fuel on the test that finds the queue empty. -/
def RunSpec (P : SSParams) (infs : List Node) (fuel : Nat) (ts : TapeSt) (r : Except String (Loc × TapeSt)) : Prop :=
  (r = .error "fuel" ∧ ∀ k, k < fuel → (EventSIS.run P infs k).queue ≠ []) ∨
  (∃ σ, r = .ok (σ, ts) ∧ Out P infs σ (EventSIS.run P infs fuel) ∧
    (EventSIS.run P infs fuel).queue = [] ∧ ∃ k, k < fuel ∧ (EventSIS.run P infs k).queue = [])

theorem run_sim {A : NArgs} {P : SSParams} (hA : Agree A P) (infs : List Node) (fuel : Nat) (ts : TapeSt) :
    RunSpec P infs fuel ts (run A infs fuel ts) := by
  unfold run
  refine tm_bind_elim (G := RunSpec P infs fuel ts) (Q := fun σ1 => Rel P σ1 (EventSIS.init P infs)) ?_ ?_
  · refine Ok.mono (Ok.foldlM
      (fun σ q => RelCore P σ (EventSIS.init P infs) ∧ QRel P σ.Q q)
      (fun q u => EventSIS.qadd P.tmax q P.tmin (SEv.trans none u [])) infs ?_ _ [] ⟨?_, ?_⟩) ?_
    · rintro σ q u _ ⟨hc, hq⟩
      refine Ok.pure ⟨hc.upd _ _ _ _, ?_⟩
      rw [hA.tmin]
      exact hq.add P.tmin (SEv.trans none u [])
    · refine ⟨?_, ?_, ?_, ?_, ?_, ?_, ?_, ?_, ?_⟩
      · intro u; rfl
      · intro u; simp only [hA.tmin]; rfl
      · intro u; rfl
      · rfl
      · simp only [hA.tmin]; rfl
      · simp only [hA.order]; rfl
      · rfl
      · intro u; rfl
      · intro u; rfl
    · exact ⟨hA.tmax, rfl, List.Pairwise.nil, by intro e he; cases he⟩
    · rintro σ1 ⟨hc, hq⟩
      exact ⟨hc, hq, NoneNil_init P infs⟩
  · intro σ1 hrel
    rcases loop_sim hA ts fuel σ1 _ hrel with ⟨he, hk⟩ | ⟨σ', hσ', hr, hq, hk⟩
    · left
      exact ⟨TM.bind_err he, hk⟩
    · right
      refine ⟨_, TM.bind_ok hσ', ?_, hq, hk⟩
      exact ⟨by simp only [hr.core.times]; rfl, by simp only [hr.core.colS]; rfl, by simp only [hr.core.colI]; rfl,
        hr.core.trans, hr.core.itimes, hr.core.rtimes, hr.core.status, hr.core.rec_time, hr.queue.rep.nil_iff.2 hq⟩

/-- **forward refinement**: a successful run of the generated code leaves the tape untouched, the model's queue is
empty after the same number of steps, and the returned objects are those of the model's final state -/
theorem gen_run_refines {A : NArgs} {P : SSParams} (hA : Agree A P) (infs : List Node) (fuel : Nat)
    (ts ts' : TapeSt) (σ : Loc) (h : run A infs fuel ts = .ok (σ, ts')) :
    ts' = ts ∧ (EventSIS.run P infs fuel).queue = [] ∧ (∃ k, k < fuel ∧ (EventSIS.run P infs k).queue = []) ∧
      Out P infs σ (EventSIS.run P infs fuel) := by
  rcases run_sim hA infs fuel ts with ⟨he, _⟩ | ⟨σ', hσ', hout, hq, hk⟩
  · rw [he] at h; cases h
  · rw [hσ'] at h
    injection h with h
    injection h with h1 h2
    subst h1 h2
    exact ⟨rfl, hq, hk, hout⟩

theorem evTimes_nlog (b : Bool) (log : List Change) (u : Node) :
    evTimes b log u = ((EventSIS.nlog log u).filter (fun c => c.2.2 == b)).map (fun c => some c.1) := by
  rw [evTimes_eq, EventSIS.nlog, List.filter_filter]
  congr 1
  apply List.filter_congr
  intro c _
  exact Bool.and_comm _ _

/-- In a list that alternates between `b` and `!b`, starting with `b`, the `b` entries are the even and the others the
odd positions; so there are `⌈n/2⌉` of the former and `⌊n/2⌋` of the latter.  (Induction on the list, the head flipping
`b`.) -/
theorem alt_filter (b : Bool) (l : List Change) (h : ∀ i c, l[i]? = some c → c.2.2 = ((i % 2 == 0) == b)) :
    (∀ i, (l.filter (fun c => c.2.2 == b))[i]? = l[2 * i]? ∧ (l.filter (fun c => c.2.2 == !b))[i]? = l[2 * i + 1]?) ∧
    (l.filter (fun c => c.2.2 == b)).length = (l.length + 1) / 2 ∧
    (l.filter (fun c => c.2.2 == !b)).length = l.length / 2 := by
  induction l generalizing b with
  | nil => exact ⟨fun _ => ⟨rfl, rfl⟩, rfl, rfl⟩
  | cons c l ih =>
    have hc : c.2.2 = b := (h 0 c rfl).trans (by cases b <;> rfl)
    obtain ⟨ihg, ihl1, ihl2⟩ := ih (!b) (fun i d hd => by
      rw [h (i + 1) d hd]
      rcases Nat.mod_two_eq_zero_or_one i with hi | hi
      · rw [hi, show (i + 1) % 2 = 1 by omega]; cases b <;> rfl
      · rw [hi, show (i + 1) % 2 = 0 by omega]; cases b <;> rfl)
    rw [Bool.not_not] at ihg ihl2
    have e1 : (c :: l).filter (fun c => c.2.2 == b) = c :: l.filter (fun c => c.2.2 == b) := by
      rw [List.filter_cons, hc, beq_self_eq_true, if_pos rfl]
    have e2 : (c :: l).filter (fun c => c.2.2 == !b) = l.filter (fun c => c.2.2 == !b) := by
      rw [List.filter_cons, hc, if_neg (by cases b <;> decide)]
    rw [e1, e2]
    refine ⟨fun i => ⟨?_, (ihg i).1⟩, ?_, ?_⟩
    · cases i with
      | zero => rfl
      | succ j => exact (ihg j).2
    · rw [List.length_cons, List.length_cons, ihl2]; omega
    · rw [List.length_cons, ihl1]

theorem alt_filter_true {l : List Change} (h : ∀ i c, l[i]? = some c → c.2.2 = (i % 2 == 0)) :
    (∀ i, (l.filter (fun c => c.2.2 == true))[i]? = l[2 * i]? ∧ (l.filter (fun c => c.2.2 == false))[i]? = l[2 * i + 1]?) ∧
    (l.filter (fun c => c.2.2 == true)).length = (l.length + 1) / 2 ∧
    (l.filter (fun c => c.2.2 == false)).length = l.length / 2 :=
  alt_filter true l (fun i c hc => by rw [h i c hc, beq_true])

end GenNMSIS
