import EoNVerif.Model.Gillespie
import EoNVerif.Model.Complex
import EoNVerif.Model.Simple
import EoNVerif.Model.FastSIS
import EoNVerif.Proofs.Gillespie
/-!
Helper lemmas for C18: prefix determinism of the tape monad.  A program that succeeds on a tape succeeds with the
same result on every extension of the tape and leaves exactly the extra draws unconsumed.  The property is closed
under `pure`, `>>=`, `if`, `match`, holds for the five primitives and (vacuously) for `TM.fail`; the simulators are
built from these by recursion on fuel / on neighbour lists.
-/

def TapeSt.extend (ts : TapeSt) (extra : List Draw) : TapeSt := { ts with tape := ts.tape ++ extra }

namespace TM
/-- a program is *prefix-determined* when success on a tape implies the same success on every extension -/
def PrefixDet {α : Type} (m : TM α) : Prop :=
  ∀ (ts ts' : TapeSt) (a : α) (extra : List Draw), m ts = .ok (a, ts') → m (ts.extend extra) = .ok (a, ts'.extend extra)

theorem prefixDet_pure {α : Type} (a : α) : PrefixDet (pure a : TM α) := by
  intro ts ts' b extra h
  obtain ⟨rfl, rfl⟩ := pure_inv h
  rfl

theorem prefixDet_bind {α β : Type} (m : TM α) (f : α → TM β) (hm : PrefixDet m) (hf : ∀ a, PrefixDet (f a)) :
    PrefixDet (m >>= f) := by
  intro ts ts' b extra h
  obtain ⟨a, ts1, h1, h2⟩ := bind_inv h
  have h1' := hm _ _ _ extra h1
  have h2' := hf a _ _ _ extra h2
  show (m (ts.extend extra) >>= fun p => f p.1 p.2) = _
  rw [h1']
  exact h2'

theorem prefixDet_fail {α : Type} (msg : String) : PrefixDet (TM.fail msg : TM α) := by
  intro ts ts' b extra h
  exact absurd h (fail_ne_ok _ _ _)

theorem prefixDet_popUnif : PrefixDet TM.popUnif := by
  intro ts ts' a extra h
  obtain ⟨tape, trace⟩ := ts
  unfold popUnif at h ⊢
  cases tape with
  | nil => simp at h
  | cons d t =>
    cases d <;> simp only [TapeSt.extend, List.cons_append, reduceCtorEq] at h ⊢
    cases h; rfl

theorem prefixDet_popExpo (r : Rat) : PrefixDet (TM.popExpo r) := by
  intro ts ts' a extra h
  obtain ⟨tape, trace⟩ := ts
  unfold popExpo at h ⊢
  split at h
  · cases h
  · rename_i hr
    rw [if_neg hr]
    cases tape with
    | nil => simp at h
    | cons d t =>
      cases d <;> simp only [TapeSt.extend, List.cons_append, reduceCtorEq] at h ⊢
      cases h; rfl

theorem prefixDet_popChoice (seq : List (List Nat)) : PrefixDet (TM.popChoice seq) := by
  intro ts ts' a extra h
  obtain ⟨tape, trace⟩ := ts
  unfold popChoice at h ⊢
  split at h
  · cases h
  · rename_i hr
    rw [if_neg hr]
    cases tape with
    | nil => simp at h
    | cons d t =>
      cases d <;> simp only [TapeSt.extend, List.cons_append, reduceCtorEq] at h ⊢
      split at h
      · rename_i hi
        rw [if_pos hi]
        cases h; rfl
      · cases h

theorem prefixDet_popSample (n k : Nat) : PrefixDet (TM.popSample n k) := by
  intro ts ts' a extra h
  obtain ⟨tape, trace⟩ := ts
  unfold popSample at h ⊢
  split at h
  · cases h
  · rename_i hr
    rw [if_neg hr]
    cases tape with
    | nil => simp at h
    | cons d t =>
      cases d <;> simp only [TapeSt.extend, List.cons_append, reduceCtorEq] at h ⊢
      split at h
      · rename_i hi
        rw [if_pos hi]
        cases h; rfl
      · cases h

theorem prefixDet_popBinom (n : Nat) (p : Rat) : PrefixDet (TM.popBinom n p) := by
  intro ts ts' a extra h
  obtain ⟨tape, trace⟩ := ts
  unfold popBinom at h ⊢
  cases tape with
  | nil => simp at h
  | cons d t =>
    cases d <;> simp only [TapeSt.extend, List.cons_append, reduceCtorEq] at h ⊢
    split at h
    · rename_i hi
      rw [if_pos hi]
      cases h; rfl
    · cases h

theorem prefixDet_ite {α : Type} (c : Prop) [Decidable c] (m₁ m₂ : TM α) (h₁ : c → PrefixDet m₁)
    (h₂ : ¬c → PrefixDet m₂) : PrefixDet (if c then m₁ else m₂) := by
  split
  · exact h₁ ‹_›
  · exact h₂ ‹_›

end TM

/-- one structural step of a prefix-determinism proof, directed by the head of the program: `pure`, `fail` and the five
primitives are closed by their lemmas (matched without unfolding anything), a `>>=` is split into its two parts, an
`if` or `match` into its branches (`split`), and a `let` is reduced (`dsimp only`) -/
macro "pd_step" : tactic =>
  `(tactic| first
    | with_reducible exact TM.prefixDet_pure _
    | with_reducible exact TM.prefixDet_fail _
    | with_reducible exact TM.prefixDet_popUnif
    | with_reducible exact TM.prefixDet_popExpo _
    | with_reducible exact TM.prefixDet_popChoice _
    | with_reducible exact TM.prefixDet_popSample _ _
    | with_reducible exact TM.prefixDet_popBinom _ _
    | with_reducible refine TM.prefixDet_bind _ _ ?_ (fun _ => ?_)
    | split
    | dsimp only)

namespace Gillespie

theorem chooseTM_prefixDet {α : Type} [DecidableEq α] (enc : α → List Nat) (ld : LD α) (fuel : Nat) :
    TM.PrefixDet (chooseTM enc ld fuel) := by
  induction fuel with
  | zero => exact TM.prefixDet_fail _
  | succ n ih =>
    rw [chooseTM]
    repeat (first | exact ih | pd_step)

theorem pick_prefixDet (P : GParams) (s : GState) (fuel : Nat) : TM.PrefixDet (pick P s fuel) := by
  unfold pick
  repeat (first | exact chooseTM_prefixDet _ _ _ | pd_step)

theorem loop_prefixDet (P : GParams) (tmax : ERat) (cfuel fuel : Nat) (s : GState) (t : ERat) :
    TM.PrefixDet (loop P tmax cfuel fuel s t) := by
  induction fuel generalizing s t with
  | zero => exact TM.prefixDet_fail _
  | succ n ih =>
    rw [loop.eq_def]; dsimp only
    repeat (first | exact ih _ _ | exact pick_prefixDet _ _ _ | pd_step)

end Gillespie

namespace Complex
variable {σ : Type} [DecidableEq σ]

theorem loop_prefixDet (P : CCParams σ) (tmax : ERat) (cfuel fuel : Nat) (s : CCState σ) (t : ERat) :
    TM.PrefixDet (loop P tmax cfuel fuel s t) := by
  induction fuel generalizing s t with
  | zero => exact TM.prefixDet_fail _
  | succ n ih =>
    rw [loop.eq_def]; dsimp only
    repeat (first | exact ih _ _ | exact Gillespie.chooseTM_prefixDet _ _ _ | pd_step)

end Complex

namespace Simple
variable {σ : Type} [DecidableEq σ]

omit [DecidableEq σ] in
theorem pick_prefixDet (P : SCParams σ) (s : SCState σ) (cfuel : Nat) : TM.PrefixDet (pick P s cfuel) := by
  unfold pick
  repeat (first | exact Gillespie.chooseTM_prefixDet _ _ _ | pd_step)

theorem loop_prefixDet (P : SCParams σ) (tmax : ERat) (cfuel fuel : Nat) (s : SCState σ) (t : ERat) :
    TM.PrefixDet (loop P tmax cfuel fuel s t) := by
  induction fuel generalizing s t with
  | zero => exact TM.prefixDet_fail _
  | succ n ih =>
    rw [loop.eq_def]; dsimp only
    repeat (first | exact ih _ _ | exact pick_prefixDet _ _ _ | pd_step)

end Simple

namespace FastSIS

theorem findNext_prefixDet (P : FSParams) (s : FSState) (time rate : Rat) (src tgt : Node) :
    TM.PrefixDet (findNext P s time rate src tgt) := by
  unfold findNext
  repeat pd_step

theorem nbrLoop_prefixDet (P : FSParams) (time : Rat) (tgt : Node) (l : List Node) (s : FSState) :
    TM.PrefixDet (nbrLoop P time tgt l s) := by
  induction l generalizing s with
  | nil => exact TM.prefixDet_pure _
  | cons v rest ih =>
    rw [nbrLoop]
    repeat (first | exact ih _ | exact findNext_prefixDet _ _ _ _ _ _ | pd_step)

theorem processTrans_prefixDet (P : FSParams) (s : FSState) (time : Rat) (src : Option Node) (tgt : Node) :
    TM.PrefixDet (processTrans P s time src tgt) := by
  unfold processTrans
  repeat (first | exact nbrLoop_prefixDet _ _ _ _ _ | exact findNext_prefixDet _ _ _ _ _ _ | pd_step)

theorem loop_prefixDet (P : FSParams) (fuel : Nat) (s : FSState) : TM.PrefixDet (loop P fuel s) := by
  induction fuel generalizing s with
  | zero => exact TM.prefixDet_fail _
  | succ n ih =>
    rw [loop.eq_def]; dsimp only
    repeat (first | exact ih _ | exact processTrans_prefixDet _ _ _ _ _ | pd_step)

end FastSIS
