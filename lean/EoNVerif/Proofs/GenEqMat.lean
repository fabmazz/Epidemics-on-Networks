import EoNVerif.Gen.AnalyticMat
import EoNVerif.Model.ODE2
import EoNVerif.Proofs.GenEq
import EoNVerif.Proofs.DegList
import Mathlib.Tactic.Ring
/-!
The state vectors of the heterogeneous pairwise models, packed the way `SIS_heterogeneous_pairwise` and
`SIR_heterogeneous_pairwise` pack them: `S ++ [SS] row-major ++ [SI] row-major` (SIS) and
`S ++ I ++ [SS] row-major ++ [SI] row-major` (SIR), and how an entry is read back.  The generated right-hand sides
(`Gen/AnalyticMat.lean`) read their argument and build their result in exactly this layout, so the same reading lemmas
serve on both sides of `GenMatProps.gen_sisHetPW` / `gen_sirHetPW` (`Props/GenMat.lean`).
-/
namespace GenEqMat
open Gen ODE GenEq

theorem _root_.Gen.V.append_assoc (a b c : V) : V.append (V.append a b) c = V.append a (V.append b c) := by
  show V.mk (a.n + b.n + c.n) _ = V.mk (a.n + (b.n + c.n)) _
  refine congr (congrArg V.mk (Nat.add_assoc _ _ _)) (funext fun i => ?_)
  show (if i < a.n + b.n then (if i < a.n then a.f i else b.f (i - a.n)) else c.f (i - (a.n + b.n)))
    = if i < a.n then a.f i else (if i - a.n < b.n then b.f (i - a.n) else c.f (i - a.n - b.n))
  by_cases h1 : i < a.n
  · rw [if_pos (show i < a.n + b.n by omega), if_pos h1, if_pos h1]
  · by_cases h2 : i < a.n + b.n
    · rw [if_pos h2, if_neg h1, if_neg h1, if_pos (show i - a.n < b.n by omega)]
    · rw [if_neg h2, if_neg h1, if_neg (show ¬ i - a.n < b.n by omega), Nat.sub_add_eq]

theorem append_mid (a b w : V) (j : Nat) (hj : j < b.n) : (V.append a (V.append b w)).f (a.n + j) = b.f j := by
  rw [V.append_f_ge, V.append_f_lt _ _ j hj]

theorem append_last (a b w : V) (j : Nat) : (V.append a (V.append b w)).f (a.n + b.n + j) = w.f j := by
  rw [Nat.add_assoc, V.append_f_ge, V.append_f_ge]


export RowMajor (rm_div rm_mod rm_lt)  -- defined in `Proofs/DegList.lean`

/-- the generated guard `a[a == 0] = 1` is the model's `nz` -/
theorem guard_nz (x : Rat) : (if x = 0 then (1 : Rat) else x) = nz x := rfl


/-- the packing of `SIS_heterogeneous_pairwise`:
`np.concatenate((Sk0[:,None], SkSl0.reshape(K²,1), SkIl0.reshape(K²,1))).T[0]` -/
def packSIS (K : Nat) (S : Nat → Rat) (SS SI : Nat → Nat → Rat) : V :=
  V.append ⟨K, S⟩ (V.append ⟨K ^ 2, fun i => SS (i / K) (i % K)⟩ ⟨K ^ 2, fun i => SI (i / K) (i % K)⟩)

theorem packSIS_S (K : Nat) (S : Nat → Rat) (SS SI : Nat → Nat → Rat) (j : Nat) (hj : j < K) :
    (packSIS K S SS SI).f j = S j :=
  V.append_f_lt _ _ j hj

theorem packSIS_SS (K : Nat) (S : Nat → Rat) (SS SI : Nat → Nat → Rat) (k l : Nat) (hk : k < K) (hl : l < K) :
    (packSIS K S SS SI).f (K + (k * K + l)) = SS k l := by
  refine (append_mid _ _ _ _ (rm_lt K k l hk hl)).trans ?_
  simp only [rm_div K k l hl, rm_mod K k l hl]

theorem packSIS_SI (K : Nat) (S : Nat → Rat) (SS SI : Nat → Nat → Rat) (k l : Nat) (hl : l < K) :
    (packSIS K S SS SI).f ((K + K ^ 2) + (k * K + l)) = SI k l := by
  refine (append_last _ _ _ _).trans ?_
  simp only [rm_div K k l hl, rm_mod K k l hl]

theorem packSIS_rowsum (K : Nat) (S : Nat → Rat) (SS SI : Nat → Nat → Rat) (k : Nat) :
    sumTo K (fun l => (packSIS K S SS SI).f ((K + K ^ 2) + (k * K + l))) = sumTo K (fun l => SI k l) :=
  ODE.sumTo_congr _ _ _ (fun l hl => packSIS_SI K S SS SI k l hl)


/-- the packing of `SIR_heterogeneous_pairwise`:
`np.concatenate((Sk0[:,None], Ik0[:,None], SkSl0.reshape(K²,1), SkIl0.reshape(K²,1))).T[0]` -/
def packSIR (K : Nat) (S I : Nat → Rat) (SS SI : Nat → Nat → Rat) : V :=
  V.append ⟨K, S⟩ (V.append ⟨K, I⟩
    (V.append ⟨K ^ 2, fun i => SS (i / K) (i % K)⟩ ⟨K ^ 2, fun i => SI (i / K) (i % K)⟩))

theorem packSIR_S (K : Nat) (S I : Nat → Rat) (SS SI : Nat → Nat → Rat) (j : Nat) (hj : j < K) :
    (packSIR K S I SS SI).f j = S j :=
  V.append_f_lt _ _ j hj

theorem packSIR_I (K : Nat) (S I : Nat → Rat) (SS SI : Nat → Nat → Rat) (j : Nat) (hj : j < K) :
    (packSIR K S I SS SI).f (K + j) = I j := by
  unfold packSIR
  rw [append_f_ge' _ _ K _ rfl]; exact V.append_f_lt _ _ j hj

theorem packSIR_SS (K : Nat) (S I : Nat → Rat) (SS SI : Nat → Nat → Rat) (k l : Nat) (hk : k < K) (hl : l < K) :
    (packSIR K S I SS SI).f (2 * K + (k * K + l)) = SS k l := by
  unfold packSIR
  rw [Nat.two_mul, Nat.add_assoc, append_f_ge' _ _ K _ rfl, append_f_ge' _ _ K _ rfl,
    V.append_f_lt _ _ _ (rm_lt K k l hk hl)]
  simp only [rm_div K k l hl, rm_mod K k l hl]

theorem packSIR_SI (K : Nat) (S I : Nat → Rat) (SS SI : Nat → Nat → Rat) (k l : Nat) (hl : l < K) :
    (packSIR K S I SS SI).f ((2 * K + K ^ 2) + (k * K + l)) = SI k l := by
  unfold packSIR
  rw [Nat.two_mul, Nat.add_assoc, Nat.add_assoc, append_f_ge' _ _ K _ rfl, append_f_ge' _ _ K _ rfl,
    append_f_ge' _ _ (K ^ 2) _ rfl]
  simp only [rm_div K k l hl, rm_mod K k l hl]

theorem packSIR_rowsum (K : Nat) (S I : Nat → Rat) (SS SI : Nat → Nat → Rat) (k : Nat) :
    sumTo K (fun l => (packSIR K S I SS SI).f ((2 * K + K ^ 2) + (k * K + l))) = sumTo K (fun l => SI k l) :=
  ODE.sumTo_congr _ _ _ (fun l hl => packSIR_SI K S I SS SI k l hl)

end GenEqMat
