import EoNVerif.Model.ODE2
import Mathlib.Tactic.Ring
import Mathlib.Tactic.LinearCombination
import Mathlib.Algebra.Order.Field.Rat
/-!
Tree exactness of the pair-based SIR system (`ODE.sirPairBased`, the model of `_dSIR_pair_based_`) for the two smallest
trees, against an explicit master (Kolmogorov forward) equation of the node-level SIR Markov chain, over `Rat`.

Index convention (that of `ODE.sirPairBased`): `XY i j = P(i susceptible ∧ j infectious)` and `tr i j` is the rate at
which infectious `j` infects susceptible `i`; `rr i` is the recovery rate of `i`.

The marginals of the master equation are finite sums over the 9 resp. 27 joint states; each component identity is
checked by writing both sides out (`simp only` with the definitions) and comparing polynomials (`ring`).  On the path
the pair-based system contains the closed triples `XX i j * XY j k / X j`; for every `p` each pair component differs from
the master equation by a rate times the error of one closed triple (`path_pair_defect`), and `tripleErr_eq_zero` is the
one place where the closure relation enters.  The last part defines what the invariance statements of `Props/C08b.lean`
are about (the defect of the closure relation, the 2×2 minors of the slice `1 = S`, the coefficient kernel `cF`); on that
slice the master equation is `M0 ⊗ 1 + 1 ⊗ M2` (`me3_mid_S`).
-/
namespace TreeExact
open St

def sumSt (f : St → Rat) : Rat := f S + f I + f R
def ind (x y : St) : Rat := if x = y then 1 else 0

theorem sumSt_ind_left (f : St → Rat) (a : St) : sumSt (fun x => ind a x * f x) = f a := by
  cases a <;> simp [sumSt, ind]

/-! ## the components of `ODE.sirPairBased` -/
section
variable (nbrs : Nat → List Nat) (tr : Nat → Nat → Rat) (rr : Nat → Rat) (X Y : Nat → Rat) (XY XX : Nat → Nat → Rat)

theorem pb_X (i : Nat) :
    (ODE.sirPairBased nbrs tr rr X Y XY XX).1 i = -sumRat ((nbrs i).map fun j => tr i j * XY i j) := rfl

theorem pb_Y (i : Nat) :
    (ODE.sirPairBased nbrs tr rr X Y XY XX).2.1 i = -rr i * Y i + sumRat ((nbrs i).map fun j => tr i j * XY i j) := rfl

theorem pb_XY (i j : Nat) : (ODE.sirPairBased nbrs tr rr X Y XY XX).2.2.1 i j
    = if (nbrs i).contains j then -(tr i j + rr j) * XY i j
        + sumRat (((nbrs j).filter fun w => w ≠ i).map fun k => tr j k * XX i j * XY j k * ODE.xinv (X j))
        - sumRat (((nbrs i).filter fun w => w ≠ j).map fun k => tr i k * XY i k * XY i j * ODE.xinv (X i)) else 0 := rfl

theorem pb_XX (i j : Nat) : (ODE.sirPairBased nbrs tr rr X Y XY XX).2.2.2 i j
    = if (nbrs i).contains j then
        - sumRat (((nbrs j).filter fun w => w ≠ i).map fun k => tr j k * XX i j * XY j k * ODE.xinv (X j))
        - sumRat (((nbrs i).filter fun w => w ≠ j).map fun k => tr i k * XY i k * XX i j * ODE.xinv (X i)) else 0 := rfl

end

/-! ## Part A: the single edge 0 – 1 -/

def nbrs2 : Nat → List Nat
  | 0 => [1]
  | 1 => [0]
  | _ => []

/-- rate at which node 0 leaves its current status `a` when node 1 has status `b` -/
def leave2_0 (tr : Nat → Nat → Rat) (rr : Nat → Rat) (a b : St) : Rat :=
  match a with
  | S => tr 0 1 * ind b I
  | I => rr 0
  | R => 0
/-- rate at which node 1 leaves its current status `b` when node 0 has status `a` -/
def leave2_1 (tr : Nat → Nat → Rat) (rr : Nat → Rat) (a b : St) : Rat :=
  match b with
  | S => tr 1 0 * ind a I
  | I => rr 1
  | R => 0

/-- master equation of the SIR chain on the edge: `d/dt p(a,b)` = inflow (through node 0, through node 1) − outflow;
the only moves of a node are S → I (infection) and I → R (recovery) -/
def me2 (tr : Nat → Nat → Rat) (rr : Nat → Rat) (p : St → St → Rat) (a b : St) : Rat :=
  (match a with
    | S => 0
    | I => leave2_0 tr rr S b * p S b
    | R => leave2_0 tr rr I b * p I b)
  + (match b with
    | S => 0
    | I => leave2_1 tr rr a S * p a S
    | R => leave2_1 tr rr a I * p a I)
  - (leave2_0 tr rr a b + leave2_1 tr rr a b) * p a b

/-- `X_i = P(i = S)` -/
def mX2 (p : St → St → Rat) : Nat → Rat
  | 0 => sumSt fun b => p S b
  | 1 => sumSt fun a => p a S
  | _ => 0
/-- `Y_i = P(i = I)` -/
def mY2 (p : St → St → Rat) : Nat → Rat
  | 0 => sumSt fun b => p I b
  | 1 => sumSt fun a => p a I
  | _ => 0
/-- `XY i j = P(i = S ∧ j = I)` on the two directed edges, `0` elsewhere -/
def mXY2 (p : St → St → Rat) : Nat → Nat → Rat
  | 0, 1 => p S I
  | 1, 0 => p I S
  | _, _ => 0
/-- `XX i j = P(i = S ∧ j = S)` on the two directed edges, `0` elsewhere -/
def mXX2 (p : St → St → Rat) : Nat → Nat → Rat
  | 0, 1 => p S S
  | 1, 0 => p S S
  | _, _ => 0

theorem edge_dX (tr : Nat → Nat → Rat) (rr : Nat → Rat) (p : St → St → Rat) (i : Nat) :
    mX2 (me2 tr rr p) i = (ODE.sirPairBased nbrs2 tr rr (mX2 p) (mY2 p) (mXY2 p) (mXX2 p)).1 i := by
  rw [pb_X]
  match i with
  | 0 | 1 =>
    simp only [nbrs2, mX2, mXY2, sumSt, me2, leave2_0, leave2_1, ind, List.map, sumRat_cons, sumRat_nil, reduceCtorEq,
      if_true, if_false]
    ring
  | n + 2 => rfl

theorem edge_dY (tr : Nat → Nat → Rat) (rr : Nat → Rat) (p : St → St → Rat) (i : Nat) :
    mY2 (me2 tr rr p) i = (ODE.sirPairBased nbrs2 tr rr (mX2 p) (mY2 p) (mXY2 p) (mXX2 p)).2.1 i := by
  rw [pb_Y]
  match i with
  | 0 | 1 =>
    simp only [nbrs2, mY2, mXY2, sumSt, me2, leave2_0, leave2_1, ind, List.map, sumRat_cons, sumRat_nil, reduceCtorEq,
      if_true, if_false]
    ring
  | n + 2 => simp only [nbrs2, mY2, List.map, sumRat_nil, mul_zero, add_zero]

/-- on the edge both filtered neighbour lists are empty: no triple enters -/
theorem edge_dXY (tr : Nat → Nat → Rat) (rr : Nat → Rat) (p : St → St → Rat) (i j : Nat) :
    mXY2 (me2 tr rr p) i j = (ODE.sirPairBased nbrs2 tr rr (mX2 p) (mY2 p) (mXY2 p) (mXX2 p)).2.2.1 i j := by
  match i, j with
  | 0, 1 | 1, 0 =>
    rw [pb_XY]
    simp only [nbrs2, mXY2, me2, leave2_0, leave2_1, ind, List.contains_cons, List.contains_nil, List.filter, List.map,
      sumRat_nil, reduceCtorEq, if_true, if_false, Nat.reduceBEq, Bool.or_false, ne_eq, not_true_eq_false, decide_false]
    ring
  | 0, 0 | 0, n + 2 | 1, 1 | 1, n + 2 | m + 2, _ => rfl

theorem edge_dXX (tr : Nat → Nat → Rat) (rr : Nat → Rat) (p : St → St → Rat) (i j : Nat) :
    mXX2 (me2 tr rr p) i j = (ODE.sirPairBased nbrs2 tr rr (mX2 p) (mY2 p) (mXY2 p) (mXX2 p)).2.2.2 i j := by
  match i, j with
  | 0, 1 | 1, 0 =>
    rw [pb_XX]
    simp only [nbrs2, mXX2, me2, leave2_0, leave2_1, ind, List.contains_cons, List.contains_nil, List.filter, List.map,
      sumRat_nil, reduceCtorEq, if_true, if_false, Nat.reduceBEq, Bool.or_false, ne_eq, not_true_eq_false, decide_false]
    ring
  | 0, 0 | 0, n + 2 | 1, 1 | 1, n + 2 | m + 2, _ => rfl

/-! ## Part B: the path 0 – 1 – 2 -/

def nbrs3 : Nat → List Nat
  | 0 => [1]
  | 1 => [0, 2]
  | 2 => [1]
  | _ => []

/-- rate at which node 0 leaves status `a` (neighbour 1 has status `b`) -/
def leave3_0 (tr : Nat → Nat → Rat) (rr : Nat → Rat) (a b _c : St) : Rat :=
  match a with
  | S => tr 0 1 * ind b I
  | I => rr 0
  | R => 0
/-- rate at which node 1 leaves status `b` (neighbours 0 and 2 have statuses `a`, `c`) -/
def leave3_1 (tr : Nat → Nat → Rat) (rr : Nat → Rat) (a b c : St) : Rat :=
  match b with
  | S => tr 1 0 * ind a I + tr 1 2 * ind c I
  | I => rr 1
  | R => 0
/-- rate at which node 2 leaves status `c` (neighbour 1 has status `b`) -/
def leave3_2 (tr : Nat → Nat → Rat) (rr : Nat → Rat) (_a b c : St) : Rat :=
  match c with
  | S => tr 2 1 * ind b I
  | I => rr 2
  | R => 0

/-- master equation of the SIR chain on the path 0 – 1 – 2 (27 states): inflow through each of the three nodes minus
outflow -/
def me3 (tr : Nat → Nat → Rat) (rr : Nat → Rat) (p : St → St → St → Rat) (a b c : St) : Rat :=
  (match a with
    | S => 0
    | I => leave3_0 tr rr S b c * p S b c
    | R => leave3_0 tr rr I b c * p I b c)
  + (match b with
    | S => 0
    | I => leave3_1 tr rr a S c * p a S c
    | R => leave3_1 tr rr a I c * p a I c)
  + (match c with
    | S => 0
    | I => leave3_2 tr rr a b S * p a b S
    | R => leave3_2 tr rr a b I * p a b I)
  - (leave3_0 tr rr a b c + leave3_1 tr rr a b c + leave3_2 tr rr a b c) * p a b c

def mX3 (p : St → St → St → Rat) : Nat → Rat
  | 0 => sumSt fun b => sumSt fun c => p S b c
  | 1 => sumSt fun a => sumSt fun c => p a S c
  | 2 => sumSt fun a => sumSt fun b => p a b S
  | _ => 0
def mY3 (p : St → St → St → Rat) : Nat → Rat
  | 0 => sumSt fun b => sumSt fun c => p I b c
  | 1 => sumSt fun a => sumSt fun c => p a I c
  | 2 => sumSt fun a => sumSt fun b => p a b I
  | _ => 0
/-- `XY i j = P(i = S ∧ j = I)` on the four directed edges -/
def mXY3 (p : St → St → St → Rat) : Nat → Nat → Rat
  | 0, 1 => sumSt fun c => p S I c
  | 1, 0 => sumSt fun c => p I S c
  | 1, 2 => sumSt fun a => p a S I
  | 2, 1 => sumSt fun a => p a I S
  | _, _ => 0
/-- `XX i j = P(i = S ∧ j = S)` on the four directed edges -/
def mXX3 (p : St → St → St → Rat) : Nat → Nat → Rat
  | 0, 1 => sumSt fun c => p S S c
  | 1, 0 => sumSt fun c => p S S c
  | 1, 2 => sumSt fun a => p a S S
  | 2, 1 => sumSt fun a => p a S S
  | _, _ => 0

/-- `PA a = P(0 = a ∧ 1 = S)` -/
def PA (p : St → St → St → Rat) (a : St) : Rat := sumSt fun b => p a S b
/-- `PB b = P(1 = S ∧ 2 = b)` -/
def PB (p : St → St → St → Rat) (b : St) : Rat := sumSt fun a => p a S b
/-- `P(1 = S)` (`= mX3 p 1`) -/
def PS (p : St → St → St → Rat) : Rat := sumSt fun a => sumSt fun b => p a S b

theorem PS_eq_mX3 (p : St → St → St → Rat) : PS p = mX3 p 1 := rfl

/-- the conditional-independence (closure) relation at the middle node: given 1 = S, the statuses of 0 and 2 are
independent.  Most statements of `Props/C08b` write the relation out instead of naming it, with `PS p` or with `mX3 p 1`,
which is the same by `PS_eq_mX3`. -/
def Closure (p : St → St → St → Rat) : Prop := ∀ a b : St, p a S b * PS p = PA p a * PB p b

/-- generator of node 0 while node 1 is susceptible, killed at the rate at which 0 infects 1:
`I → R` at rate `rr 0`, `I` is left at total rate `rr 0 + tr 1 0` (recovery of 0, or node 1 leaving `S`) -/
def M0 (tr : Nat → Nat → Rat) (rr : Nat → Rat) (a a' : St) : Rat :=
  ind a' I * (rr 0 * ind a R - (rr 0 + tr 1 0) * ind a I)
def M2 (tr : Nat → Nat → Rat) (rr : Nat → Rat) (b b' : St) : Rat :=
  ind b' I * (rr 2 * ind b R - (rr 2 + tr 1 2) * ind b I)

/-- on the slice `1 = S` the master equation is `M0 ⊗ 1 + 1 ⊗ M2`: nodes 0 and 2 evolve independently -/
theorem me3_mid_S (tr : Nat → Nat → Rat) (rr : Nat → Rat) (p : St → St → St → Rat) (a b : St) :
    me3 tr rr p a S b = sumSt (fun a' => M0 tr rr a a' * p a' S b) + sumSt (fun b' => M2 tr rr b b' * p a S b') := by
  cases a <;> cases b <;>
    simp only [me3, leave3_0, leave3_1, leave3_2, M0, M2, sumSt, ind, reduceCtorEq, if_true, if_false] <;> ring

/-- marginals of the slice under the master equation: it loses mass only through the infection of node 1, by node 0
or by node 2 -/
theorem PS_me3 (tr : Nat → Nat → Rat) (rr : Nat → Rat) (p : St → St → St → Rat) :
    PS (me3 tr rr p) = -(tr 1 0 * PA p I) - tr 1 2 * PB p I := by
  simp only [PS, PA, PB, me3_mid_S, sumSt, M0, M2, ind, reduceCtorEq, if_true, if_false]
  ring

theorem path_dX (tr : Nat → Nat → Rat) (rr : Nat → Rat) (p : St → St → St → Rat) (i : Nat) :
    mX3 (me3 tr rr p) i = (ODE.sirPairBased nbrs3 tr rr (mX3 p) (mY3 p) (mXY3 p) (mXX3 p)).1 i := by
  rw [pb_X]
  match i with
  | 0 | 2 =>
    simp only [nbrs3, mX3, mXY3, sumSt, me3, leave3_0, leave3_1, leave3_2, ind, List.map, sumRat_cons, sumRat_nil,
      reduceCtorEq, if_true, if_false]
    ring
  | 1 =>
    -- `mX3 · 1` is `PS`, and `PA p I`, `PB p I` are `XY 1 0`, `XY 1 2`
    refine (PS_me3 tr rr p).trans ?_
    simp only [nbrs3, mXY3, PA, PB, List.map, sumRat_cons, sumRat_nil]
    ring
  | n + 3 => rfl

theorem path_dY (tr : Nat → Nat → Rat) (rr : Nat → Rat) (p : St → St → St → Rat) (i : Nat) :
    mY3 (me3 tr rr p) i = (ODE.sirPairBased nbrs3 tr rr (mX3 p) (mY3 p) (mXY3 p) (mXX3 p)).2.1 i := by
  rw [pb_Y]
  match i with
  | 0 | 1 | 2 =>
    simp only [nbrs3, mY3, mXY3, sumSt, me3, leave3_0, leave3_1, leave3_2, ind, List.map, sumRat_cons, sumRat_nil,
      reduceCtorEq, if_true, if_false]
    ring
  | n + 3 => simp only [nbrs3, mY3, List.map, sumRat_nil, mul_zero, add_zero]

/-! ### the pair components

The only nonlinear terms of the pair-based system on the path are the closed triples through the middle node,
`P(0 = a, 1 = S) · P(1 = S, 2 = b) / P(1 = S)`.  For every `p` each pair component differs from the derivative of the
marginal under the master equation by a rate times the error `tripleErr` of one closed triple. -/

/-- true triple `P(0 = a, 1 = S, 2 = b)` minus its closed form -/
def tripleErr (p : St → St → St → Rat) (a b : St) : Rat := p a S b - PA p a * PB p b * ODE.xinv (PS p)

theorem tripleErr_eq_zero {p : St → St → St → Rat} (hx : PS p ≠ 0) {a b : St}
    (h : p a S b * PS p = PA p a * PB p b) : tripleErr p a b = 0 := by
  rw [tripleErr, ← h, ODE.xinv, if_neg hx, mul_assoc, mul_one_div_cancel hx, mul_one, sub_self]

theorem path_pair_defect (tr : Nat → Nat → Rat) (rr : Nat → Rat) (p : St → St → St → Rat) :
    let m := ODE.sirPairBased nbrs3 tr rr (mX3 p) (mY3 p) (mXY3 p) (mXX3 p)
    let q := me3 tr rr p
    (mXY3 q 0 1 = m.2.2.1 0 1 + tr 1 2 * tripleErr p S I ∧ mXY3 q 1 0 = m.2.2.1 1 0 - tr 1 2 * tripleErr p I I ∧
      mXY3 q 1 2 = m.2.2.1 1 2 - tr 1 0 * tripleErr p I I ∧ mXY3 q 2 1 = m.2.2.1 2 1 + tr 1 0 * tripleErr p I S) ∧
    (mXX3 q 0 1 = m.2.2.2 0 1 - tr 1 2 * tripleErr p S I ∧ mXX3 q 1 0 = m.2.2.2 1 0 - tr 1 2 * tripleErr p S I ∧
      mXX3 q 1 2 = m.2.2.2 1 2 - tr 1 0 * tripleErr p I S ∧ mXX3 q 2 1 = m.2.2.2 2 1 - tr 1 0 * tripleErr p I S) := by
  simp only [pb_XY, pb_XX, tripleErr, nbrs3, mX3, mXY3, mXX3, PA, PB, PS, sumSt, me3, leave3_0, leave3_1, leave3_2,
    ind, List.contains_cons, List.contains_nil, List.filter, List.map, sumRat_cons, sumRat_nil, reduceCtorEq, if_true,
    if_false, Nat.reduceBEq, Bool.or_false, Bool.or_true, ne_eq, not_true_eq_false, not_false_eq_true,
    decide_false, decide_true, OfNat.ofNat_ne_zero, OfNat.zero_ne_ofNat]
  refine ⟨⟨?_, ?_, ?_, ?_⟩, ?_, ?_, ?_, ?_⟩ <;> ring

section
variable (tr : Nat → Nat → Rat) (rr : Nat → Rat) (p : St → St → St → Rat) (hx : PS p ≠ 0)
include hx

theorem path_dXY (hSI : p S S I * PS p = PA p S * PB p I) (hII : p I S I * PS p = PA p I * PB p I)
    (hIS : p I S S * PS p = PA p I * PB p S) (i j : Nat) :
    mXY3 (me3 tr rr p) i j = (ODE.sirPairBased nbrs3 tr rr (mX3 p) (mY3 p) (mXY3 p) (mXX3 p)).2.2.1 i j := by
  obtain ⟨d01, d10, d12, d21⟩ := (path_pair_defect tr rr p).1
  match i, j with
  | 0, 1 => rw [d01, tripleErr_eq_zero hx hSI, mul_zero, add_zero]
  | 1, 0 => rw [d10, tripleErr_eq_zero hx hII, mul_zero, sub_zero]
  | 1, 2 => rw [d12, tripleErr_eq_zero hx hII, mul_zero, sub_zero]
  | 2, 1 => rw [d21, tripleErr_eq_zero hx hIS, mul_zero, add_zero]
  | 0, 0 | 0, n + 2 | 1, 1 | 1, n + 3 | 2, 0 | 2, n + 2 | m + 3, _ => rfl

theorem path_dXX (hSI : p S S I * PS p = PA p S * PB p I) (hIS : p I S S * PS p = PA p I * PB p S) (i j : Nat) :
    mXX3 (me3 tr rr p) i j = (ODE.sirPairBased nbrs3 tr rr (mX3 p) (mY3 p) (mXY3 p) (mXX3 p)).2.2.2 i j := by
  obtain ⟨d01, d10, d12, d21⟩ := (path_pair_defect tr rr p).2
  match i, j with
  | 0, 1 => rw [d01, tripleErr_eq_zero hx hSI, mul_zero, sub_zero]
  | 1, 0 => rw [d10, tripleErr_eq_zero hx hSI, mul_zero, sub_zero]
  | 1, 2 => rw [d12, tripleErr_eq_zero hx hIS, mul_zero, sub_zero]
  | 2, 1 => rw [d21, tripleErr_eq_zero hx hIS, mul_zero, sub_zero]
  | 0, 0 | 0, n + 2 | 1, 1 | 1, n + 3 | 2, 0 | 2, n + 2 | m + 3, _ => rfl

end

/-! ## the closure relation is invariant under the master equation -/

/-- point mass at the joint state `(a0, b0, c0)` -/
def pure3 (a0 b0 c0 : St) : St → St → St → Rat := fun a b c => ind a a0 * ind b b0 * ind c c0

theorem PA_me3 (tr : Nat → Nat → Rat) (rr : Nat → Rat) (p : St → St → St → Rat) (a : St) :
    PA (me3 tr rr p) a = sumSt (fun x => M0 tr rr a x * PA p x) - tr 1 2 * p a S I := by
  simp only [PA, me3_mid_S, sumSt, M2, ind, reduceCtorEq, if_true, if_false]
  ring

theorem PB_me3 (tr : Nat → Nat → Rat) (rr : Nat → Rat) (p : St → St → St → Rat) (b : St) :
    PB (me3 tr rr p) b = sumSt (fun y => M2 tr rr b y * PB p y) - tr 1 0 * p I S b := by
  simp only [PB, me3_mid_S, sumSt, M0, ind, reduceCtorEq, if_true, if_false]
  ring

/-- defect of the closure relation -/
def Fcl (p : St → St → St → Rat) (a b : St) : Rat := p a S b * PS p - PA p a * PB p b
/-- derivative of `Fcl` at `p` in the direction `v` (product rule) -/
def dFcl (p v : St → St → St → Rat) (a b : St) : Rat :=
  v a S b * PS p + p a S b * PS v - PA v a * PB p b - PA p a * PB v b

theorem closure_iff_Fcl (p : St → St → St → Rat) : Closure p ↔ ∀ a b, Fcl p a b = 0 := by
  simp only [Closure, Fcl, sub_eq_zero]

/-- the 2×2 minors of the slice `q(a,b) = p a S b` -/
def Gm (p : St → St → St → Rat) (a b a' b' : St) : Rat := p a S b * p a' S b' - p a S b' * p a' S b
def dGm (p v : St → St → St → Rat) (a b a' b' : St) : Rat :=
  v a S b * p a' S b' + p a S b * v a' S b' - v a S b' * p a' S b - p a S b' * v a' S b

theorem Gm_expand (p v : St → St → St → Rat) (e : Rat) (a b a' b' : St) :
    Gm (fun x y z => p x y z + e * v x y z) a b a' b' = Gm p a b a' b' + e * dGm p v a b a' b' + e ^ 2 * Gm v a b a' b' := by
  simp only [Gm, dGm]
  ring

/-- the defect is the sum of the minors over the second index pair (and `dFcl_eq_sum_dGm` likewise for the derivatives), so
`minors_invariant` of `Props/C08b` implies the invariance of `Fcl` without the factor `P(1=S)` -/
theorem Fcl_eq_sum_Gm (p : St → St → St → Rat) (a b : St) :
    Fcl p a b = sumSt fun a' => sumSt fun b' => Gm p a b a' b' := by
  simp only [Fcl, Gm, PS, PA, PB, sumSt]
  ring

theorem dFcl_eq_sum_dGm (p v : St → St → St → Rat) (a b : St) :
    dFcl p v a b = sumSt fun a' => sumSt fun b' => dGm p v a b a' b' := by
  simp only [dFcl, dGm, PS, PA, PB, sumSt]
  ring

/-- explicit coefficients of the linear system for the closure defect (valid where `P(1 = S) ≠ 0`) -/
def cF (tr : Nat → Nat → Rat) (rr : Nat → Rat) (p : St → St → St → Rat) (a b a' b' : St) : Rat :=
  M0 tr rr a a' * ind b b' + M2 tr rr b b' * ind a a'
  - ODE.xinv (PS p) * (tr 1 0 * (PA p I * ind a a' * ind b b' - PA p a * ind I a' * ind b b')
                       + tr 1 2 * (PB p I * ind a a' * ind b b' - PB p b * ind a a' * ind I b'))

theorem sumSt_add (f g : St → Rat) : sumSt (fun x => f x + g x) = sumSt f + sumSt g := by
  simp only [sumSt]; ring

theorem sumSt_sub (f g : St → Rat) : sumSt (fun x => f x - g x) = sumSt f - sumSt g := by
  simp only [sumSt]; ring

theorem sumSt_mul_left (c : Rat) (f : St → Rat) : sumSt (fun x => c * f x) = c * sumSt f := by
  simp only [sumSt]; ring

/-- what the coefficient kernel `cF` does to any `G`: every term of `cF` carries two indicators, which
`sumSt_ind_left` collapses -/
theorem cF_apply (tr : Nat → Nat → Rat) (rr : Nat → Rat) (p : St → St → St → Rat) (G : St → St → Rat) (a b : St) :
    (sumSt fun a' => sumSt fun b' => cF tr rr p a b a' b' * G a' b')
      = (sumSt (fun x => M0 tr rr a x * G x b) + sumSt (fun y => M2 tr rr b y * G a y))
        - ODE.xinv (PS p) * (tr 1 0 * (PA p I * G a b - PA p a * G I b)
                             + tr 1 2 * (PB p I * G a b - PB p b * G a I)) := by
  have h : ∀ a' b', cF tr rr p a b a' b' * G a' b'
      = ind b b' * (M0 tr rr a a' * G a' b') + ind a a' * (M2 tr rr b b' * G a' b')
        - (ODE.xinv (PS p) * tr 1 0 * PA p I) * (ind a a' * (ind b b' * G a' b'))
        + (ODE.xinv (PS p) * tr 1 0 * PA p a) * (ind I a' * (ind b b' * G a' b'))
        - (ODE.xinv (PS p) * tr 1 2 * PB p I) * (ind a a' * (ind b b' * G a' b'))
        + (ODE.xinv (PS p) * tr 1 2 * PB p b) * (ind a a' * (ind I b' * G a' b')) := fun a' b' => by
    simp only [cF]; ring
  simp only [h, sumSt_add, sumSt_sub, sumSt_mul_left, sumSt_ind_left]
  ring

end TreeExact
