import EoNVerif.Proofs.GenWrap2
/-!
Lemmas for C06g / C06h (`Props/C06h.lean`): the `*_from_graph` wrappers of `Gen/WrapGen.lean` not covered by C06e —
`Attack_rate_discrete_from_graph`, `Attack_rate_cts_time_from_graph`, `EBCM_discrete_from_graph` (argument records, the
link array ↔ dict needed to compose them with the generated `GenHelp` base functions through C08c), the `rho` / default
branches of `EBCM_from_graph`, `EBCM_discrete_from_graph` (one equation each: `EBCM_none`, `EBCMd_none`) and of
`SIR_compact_effective_degree_from_graph`.
-/
namespace GenWrapProofs3
open GenInit GenInitProofs GenWrap GenWrapProofs GenWrapProofs2
open GenHelpProofs (ok_bind err_bind pure_eq_ok PkAL kAveAL fold_keys_ok psiHatAL psiHatPAL)

/-! ## an array indexed by degree read as a dict -/

theorem alGet_zip_range' (v : List Rat) : ∀ (s k : Nat),
    alGet ((List.range' s v.length).zip v) 0 k = if s ≤ k then v.getD (k - s) 0 else 0 := by
  induction v with
  | nil => intro s k; simp [alGet]
  | cons a t ih =>
    intro s k
    simp only [List.length_cons, List.range'_succ, List.zip_cons_cons, alGet]
    rw [ih]
    by_cases h : s = k
    · subst h; simp
    · by_cases h2 : s ≤ k
      · have h3 : s + 1 ≤ k := by omega
        have e : k - s = (k - (s + 1)) + 1 := by omega
        simp [h, h2, h3, e]
      · have h3 : ¬ s + 1 ≤ k := by omega
        simp [h, h2, h3]

theorem alGet_vecToDict (v : List Rat) (k : Nat) : alGet (PyWrap.vecToDict v) 0 k = v.getD k 0 := by
  unfold PyWrap.vecToDict
  rw [List.range_eq_range', alGet_zip_range']
  simp

theorem alHas_zip_range' (v : List Rat) : ∀ (s k : Nat),
    alHas ((List.range' s v.length).zip v) k = decide (s ≤ k ∧ k < s + v.length) := by
  induction v with
  | nil => intro s k; simp [alHas]
  | cons a t ih =>
    intro s k
    simp only [List.length_cons, List.range'_succ, List.zip_cons_cons, alHas]
    rw [ih]
    by_cases h : s = k
    · subst h; simp
    · simp only [h, if_false]
      congr 1
      apply propext
      constructor <;> intro hh <;> omega

theorem alHas_vecToDict (v : List Rat) (k : Nat) : alHas (PyWrap.vecToDict v) k = decide (k < v.length) := by
  unfold PyWrap.vecToDict
  rw [List.range_eq_range', alHas_zip_range']
  simp

theorem psiHatV_eq_AL (Pk : List (Nat × Rat)) (v : List Rat) :
    psiHatV Pk v = psiHatAL Pk (PyWrap.vecToDict v) := by
  funext x
  unfold psiHatV psiHatAL
  simp only [alGet_vecToDict]

theorem psiHatPV_eq_PAL (Pk : List (Nat × Rat)) (v : List Rat) :
    psiHatPV Pk v = psiHatPAL Pk (PyWrap.vecToDict v) := by
  funext x
  unfold psiHatPV psiHatPAL
  simp only [alGet_vecToDict]

/-! ## the node loop of the two attack-rate wrappers: `(Sk0, SS, SR, SX)` -/

/-- one pass of the node loop of `Attack_rate_*_from_graph` (`ebStep` of Proofs/GenWrap2.lean without the `R0` counter) -/
def arStep (d : Node → Nat) (st : Node → St) (nb : Node → List Node) (w : Nat → Rat)
    (acc : List Rat × Int × Int × Int) (u : Node) : List Rat × Int × Int × Int :=
  if st u = St.S then
    (acc.1.set (d u) (acc.1.getD (d u) 0 + w (d u)), acc.2.1 + (nbCount st nb u St.S : Nat),
      acc.2.2.1 + (nbCount st nb u St.R : Nat), acc.2.2.2 + (d u : Nat))
  else acc

def proj5 (x : List Rat × Int × Int × Int × Int) : List Rat × Int × Int × Int := (x.1, x.2.1, x.2.2.1, x.2.2.2.1)

theorem foldl_arStep_proj (d : Node → Nat) (st : Node → St) (nb : Node → List Node) (w : Nat → Rat) (l : List Node) :
    ∀ x, l.foldl (arStep d st nb w) (proj5 x) = proj5 (l.foldl (ebStep d st nb w) x) := by
  induction l with
  | nil => intro x; rfl
  | cons a t ih =>
    intro x
    have : arStep d st nb w (proj5 x) a = proj5 (ebStep d st nb w x a) := by
      unfold arStep ebStep proj5
      cases h : st a <;> simp
    rw [List.foldl_cons, List.foldl_cons, this, ih]

theorem arStep_length (d : Node → Nat) (st : Node → St) (nb : Node → List Node) (w : Nat → Rat)
    (acc : List Rat × Int × Int × Int) (u : Node) : (arStep d st nb w acc u).1.length = acc.1.length := by
  unfold arStep
  split
  · simp
  · rfl

/-- `loop5` without `R0`, by projecting `foldl_ebStep` -/
theorem loop4 (d : Node → Nat) (st : Node → St) (nb : Node → List Node) (w : Nat → Rat) (M : Nat)
    (l : List Node) (hl : ∀ u ∈ l, d u ≤ M)
    (step : List Rat × Int × Int × Int → Node → Except String (List Rat × Int × Int × Int))
    (hstep : ∀ acc u, u ∈ l → acc.1.length = M + 1 → step acc u = .ok (arStep d st nb w acc u))
    (F : Nat → Rat) (SS SR SX : Int) :
    l.foldlM step (vec M F, SS, SR, SX) =
      .ok (vec M (fun k => F k + (cnt d st l St.S k : Rat) * w k),
       SS + (sumS st (fun u => nbCount st nb u St.S) l : Nat), SR + (sumS st (fun u => nbCount st nb u St.R) l : Nat),
       SX + (sumS st d l : Nat)) := by
  rw [(List.foldlM_pure_on step (arStep d st nb w) (fun acc => acc.1.length = M + 1) l
      (fun a x hP hx => ⟨hstep a x hx hP, by rw [arStep_length]; exact hP⟩) _ (vec_length _ _)).1]
  have := foldl_arStep_proj d st nb w l (vec M F, SS, SR, SX, 0)
  rw [foldl_ebStep d st nb w M l hl] at this
  exact congrArg Except.ok this

/-! ## `Attack_rate_discrete_from_graph`, `Attack_rate_cts_time_from_graph`: the argument records -/

/-- `SS/SX` resp. `SR/SX` as the wrappers compute them (`SX` replaced by 1 when it is 0) -/
def phiOf (A : WArgs) (st : Node → St) (x : St) : Rat :=
  ((sumS st (fun u => nbCount st A.neighbors u x) A.nodes : Nat) : Rat) / ((gI (sumS st A.degree A.nodes) : Nat) : Rat)

/-- the node loop of the two attack-rate wrappers (the same generated text in both), started from `np.zeros(maxk+1)`.  The right
side keeps the `0 + …` that `loop4` leaves, so that it is applied as it stands -/
theorem AR_node_loop (A : WArgs) (st : Node → St) :
    A.nodes.foldlM (fun (acc_ : List Rat × Int × Int × Int) (node : Node) => do
        let (Sk0, SS, SR, SX) := acc_
        let (Sk0, SS, SR, SX) ← (if decide ((st node) = St.S) then do
          let k : Int := ((A.degree node : Nat) : Int)
          let _ ← PyWrap.vecGet Sk0 k
          let d_6 ← PyWrap.vecGet (NkL (A.nodes.map A.degree)) k
          let q_7 ← PyTM.fdiv (1 : Rat) d_6
          let Sk0 ← PyWrap.vecAdd Sk0 k q_7
          let s_8 ← (A.neighbors node).foldlM (fun (acc_ : Int) (nbr : Node) => do
              if decide ((st nbr) = St.S) then do
                pure (acc_ + (1 : Int))
              else pure acc_) 0
          let SS : Int := (SS + s_8)
          let s_9 ← (A.neighbors node).foldlM (fun (acc_ : Int) (nbr : Node) => do
              if decide ((st nbr) = St.R) then do
                pure (acc_ + (1 : Int))
              else pure acc_) 0
          let SR : Int := (SR + s_9)
          let SX : Int := (SX + k)
          pure (Sk0, SS, SR, SX)
        else do
          pure (Sk0, SS, SR, SX))
        pure (Sk0, SS, SR, SX)) (vec (Helpers.maxDeg (A.nodes.map A.degree)) (fun _ => 0), 0, 0, 0) =
      .ok (vec (Helpers.maxDeg (A.nodes.map A.degree))
            (fun k => 0 + (cnt A.degree st A.nodes St.S k : Rat) * wInv (A.nodes.map A.degree) k),
          0 + (sumS st (fun u => nbCount st A.neighbors u St.S) A.nodes : Nat),
          0 + (sumS st (fun u => nbCount st A.neighbors u St.R) A.nodes : Nat), 0 + (sumS st A.degree A.nodes : Nat)) := by
  apply loop4 A.degree st A.neighbors (wInv (A.nodes.map A.degree)) (Helpers.maxDeg (A.nodes.map A.degree)) A.nodes
    (fun u hu => Helpers.le_maxDeg _ _ (List.mem_map.mpr ⟨u, hu, rfl⟩))
  intro acc u hu hlen
  have hd : A.degree u ∈ A.nodes.map A.degree := List.mem_map.mpr ⟨u, hu, rfl⟩
  have hle := Helpers.le_maxDeg _ _ hd
  obtain ⟨a, b, c, d⟩ := acc
  simp only at hlen
  have e1 := vecGet_nat a (A.degree u) (by omega)
  have e2 := vecGet_nat (NkL (A.nodes.map A.degree)) (A.degree u) (by simp [NkL]; omega)
  have e3 := GenHelpProofs.fdiv_ok 1 _ (NkL_getD _ _ hd).2
  have e4 := vecAdd_nat a (A.degree u) (1 / (NkL (A.nodes.map A.degree)).getD (A.degree u) 0) (by omega)
  cases h : st u
  · simp only [decide_true, if_true, e1, e2, e3, e4, ok_bind, nbFoldP]
    simp [arStep, h, nbCount, wInv]
  · simp [arStep, h]
  · simp [arStep, h]

theorem ARd_sets (A : WArgs) (p : Rat) (infs : List Node) (recs : Option (List Node)) (n : Int) :
    Attack_rate_discrete_from_graph_args A p (some infs) recs none n =
      initialize_node_status A.toIArgs infs (recs.getD []) >>= fun st =>
      if A.nodes = [] then .error "ValueError" else
      .ok { Pk := PkAL (A.nodes.map A.degree), p := p, rho := none, Sk0 := some (Sk0fin A st),
            phiS0 := some (phiOf A st St.S), phiR0 := some (phiOf A st St.R), number_its := n } := by
  unfold Attack_rate_discrete_from_graph_args
  simp only [Option.isSome_none, Bool.false_and, Bool.false_eq_true, if_false, GenHelpProofs.get_Pk_eq, ok_bind]
  congr 1; funext st
  by_cases hne : A.nodes = []
  · simp only [maxKey_counter, hne, List.map_nil, if_true, err_bind]
  · simp only [maxKey_degrees, hne, if_false, ok_bind, mapM_counter, zeros_eq, AR_node_loop, zero_add, guard_nat,
      fdiv_gI]
    simp [phiOf, Sk0fin]

theorem ARc_sets (A : WArgs) (tau gamma : Rat) (infs : List Node) (recs : Option (List Node)) (n : Int) :
    Attack_rate_cts_time_from_graph_args A tau gamma (some infs) recs none n =
      initialize_node_status A.toIArgs infs (recs.getD []) >>= fun st =>
      if A.nodes = [] then .error "ValueError" else
      .ok { Pk := PkAL (A.nodes.map A.degree), tau := tau, gamma := gamma, number_its := n, rho := none,
            Sk0 := some (Sk0fin A st), phiS0 := some (phiOf A st St.S), phiR0 := some (phiOf A st St.R) } := by
  unfold Attack_rate_cts_time_from_graph_args
  simp only [Option.isSome_none, Bool.false_and, Bool.false_eq_true, if_false, GenHelpProofs.get_Pk_eq, ok_bind]
  congr 1; funext st
  by_cases hne : A.nodes = []
  · simp only [maxKey_counter, hne, List.map_nil, if_true, err_bind]
  · simp only [maxKey_degrees, hne, if_false, ok_bind, mapM_counter, zeros_eq, AR_node_loop, zero_add, guard_nat,
      fdiv_gI]
    simp [phiOf, Sk0fin]

theorem AR_both (A : WArgs) (p tau gamma : Rat) (infs recs : Option (List Node)) (r : Rat) (n : Int)
    (h : infs.isSome ∨ recs.isSome) :
    Attack_rate_discrete_from_graph_args A p infs recs (some r) n = .error "EoNError" ∧
    Attack_rate_cts_time_from_graph_args A tau gamma infs recs (some r) n = .error "EoNError" := by
  unfold Attack_rate_discrete_from_graph_args Attack_rate_cts_time_from_graph_args
  cases infs <;> cases recs <;> simp at h ⊢

/-- without `initial_infecteds`: NOTHING is computed from the graph but `Pk`; `rho` is passed on as given (`None`
included — no default `1/N`), `Sk0 = phiS0 = None`, `phiR0 = 0`; never an exception, the empty graph included -/
theorem AR_none (A : WArgs) (p tau gamma : Rat) (recs : Option (List Node)) (rho : Option Rat)
    (hrr : ¬ (rho.isSome ∧ recs.isSome)) (n : Int) :
    Attack_rate_discrete_from_graph_args A p none recs rho n =
      .ok { Pk := PkAL (A.nodes.map A.degree), p := p, rho := rho, Sk0 := none, phiS0 := none, phiR0 := some 0,
            number_its := n } ∧
    Attack_rate_cts_time_from_graph_args A tau gamma none recs rho n =
      .ok { Pk := PkAL (A.nodes.map A.degree), tau := tau, gamma := gamma, number_its := n, rho := rho, Sk0 := none,
            phiS0 := none, phiR0 := some 0 } := by
  have h2 := guard_false hrr
  unfold Attack_rate_discrete_from_graph_args Attack_rate_cts_time_from_graph_args
  simp only [Option.isSome_none, Bool.and_false, Bool.false_eq_true, if_false, h2, GenHelpProofs.get_Pk_eq, ok_bind]
  constructor <;> simp

/-! ## `EBCM_discrete_from_graph`: the argument record -/

/-- `v[k]/Nk[k]`, `k = 0..maxdeg` -/
def divNk (degs : List Nat) (v : List Rat) : List Rat :=
  vec (Helpers.maxDeg degs) (fun k => v.getD k 0 * wInv degs k)

/-- the generated `psihat` closure of `EBCM_discrete_from_graph` (explicit sets): each term is divided by `Nk[k]` -/
theorem psihatN_closure (degs : List Nat) (v : List Rat) (hv : v.length = Helpers.maxDeg degs + 1) (x : Rat) :
    ((PkAL degs).map (·.1)).foldlM (fun (acc_ : Rat) (k_ : Nat) => do
        let d_7 ← PyWrap.dictGet (PkAL degs) ((k_ : Nat) : Int)
        let d_8 ← PyWrap.vecGet v ((k_ : Nat) : Int)
        let p_9 ← PyWrap.powI x ((k_ : Nat) : Int)
        let d_10 ← PyWrap.vecGet (NkL degs) ((k_ : Nat) : Int)
        let q_11 ← PyTM.fdiv ((d_7 * d_8) * p_9) d_10
        (pure (acc_ + q_11) : Except String Rat)) 0 = .ok (psiHatV (PkAL degs) (divNk degs v) x) := by
  rw [fold_keys_ok _ (fun k => (alGet (PkAL degs) 0 k * (divNk degs v).getD k 0) * x ^ k)]
  · simp [psiHatV]
  · intro k hk acc
    have hkd := keys_PkAL_mem degs k hk
    have hk' := Helpers.le_maxDeg degs k hkd
    rw [wdictGet_key _ k hk, vecGet_nat v k (by omega), powI_nat, vecGet_nat (NkL degs) k (by simp [NkL]; omega)]
    simp only [ok_bind, GenHelpProofs.fdiv_ok _ _ (NkL_getD _ _ hkd).2, divNk, vec_getD _ _ k hk', wInv]
    show Except.ok _ = Except.ok _
    congr 1; ring

/-- the generated `psihatPrime` closure of `EBCM_discrete_from_graph` (explicit sets) — the `k = 0` term is skipped
(`… for k in Pk if k>0`), so the closure is total: no hypothesis on `x` or on the degrees -/
theorem psihatPrimeN_closure (degs : List Nat) (v : List Rat) (hv : v.length = Helpers.maxDeg degs + 1) (x : Rat) :
    ((PkAL degs).map (·.1)).foldlM (fun (acc_ : Rat) (k_ : Nat) =>
        if decide (((k_ : Nat) : Int) > (0 : Int)) then do
          let d_13 ← PyWrap.dictGet (PkAL degs) ((k_ : Nat) : Int)
          let d_14 ← PyWrap.vecGet v ((k_ : Nat) : Int)
          let p_15 ← PyWrap.powI x (((k_ : Nat) : Int) - (1 : Int))
          let d_16 ← PyWrap.vecGet (NkL degs) ((k_ : Nat) : Int)
          let q_17 ← PyTM.fdiv ((((((k_ : Nat) : Int) : Rat) * d_13) * d_14) * p_15) d_16
          (pure (acc_ + q_17) : Except String Rat)
        else (pure acc_ : Except String Rat)) 0 = .ok (psiHatPV (PkAL degs) (divNk degs v) x) := by
  rw [fold_keys_ok _ (fun k => if 0 < k then
      ((((k : Nat) : Rat) * alGet (PkAL degs) 0 k) * (divNk degs v).getD k 0) * x ^ (k - 1) else 0)]
  · simp [psiHatPV]
  · intro k hk acc
    have hkd := keys_PkAL_mem degs k hk
    have hk' := Helpers.le_maxDeg degs k hkd
    by_cases hk0 : 0 < k
    · have hki : ((k : Nat) : Int) > (0 : Int) := by omega
      rw [if_pos (decide_eq_true hki), wdictGet_key _ k hk, vecGet_nat v k (by omega), powI_pred x k hk0,
        vecGet_nat (NkL degs) k (by simp [NkL]; omega)]
      simp only [ok_bind, GenHelpProofs.fdiv_ok _ _ (NkL_getD _ _ hkd).2, divNk, vec_getD _ _ k hk', wInv, hk0, if_true]
      show Except.ok _ = Except.ok _
      congr 1; simp; ring
    · have : k = 0 := by omega
      subst this
      simp

theorem psihatPrimeN_closure_zero (degs : List Nat) (v : List Rat) (hv : v.length = Helpers.maxDeg degs + 1) :
    ((PkAL degs).map (·.1)).foldlM (fun (acc_ : Rat) (k_ : Nat) =>
        if decide (((k_ : Nat) : Int) > (0 : Int)) then do
          let d_13 ← PyWrap.dictGet (PkAL degs) ((k_ : Nat) : Int)
          let d_14 ← PyWrap.vecGet v ((k_ : Nat) : Int)
          let p_15 ← PyWrap.powI (0 : Rat) (((k_ : Nat) : Int) - (1 : Int))
          let d_16 ← PyWrap.vecGet (NkL degs) ((k_ : Nat) : Int)
          let q_17 ← PyTM.fdiv ((((((k_ : Nat) : Int) : Rat) * d_13) * d_14) * p_15) d_16
          (pure (acc_ + q_17) : Except String Rat)
        else (pure acc_ : Except String Rat)) 0 = .ok (psiHatPV (PkAL degs) (divNk degs v) 0) :=
  psihatPrimeN_closure degs v hv 0

/-- `Σ_{k ∈ Pk} k·Pk[k]·x^(k-1)` -/
def psiKP (Pk : List (Nat × Rat)) (x : Rat) : Rat :=
  sumRat ((Pk.map (·.1)).map fun k => if 0 < k then (((k : Nat) : Rat) * alGet Pk 0 k) * x ^ (k - 1) else 0)

/-- the sum of the `psihatPrime` closure of the `rho` branch of `EBCM_from_graph` (before the factor `1 - rho`), over ALL
keys: at `x = 0` the term of the key `0` is `0.0 ** (-1)` -/
theorem psiKP_fold (Pk : List (Nat × Rat)) (x : Rat) :
    (Pk.map (·.1)).foldlM (fun (acc_ : Rat) (k_ : Nat) => do
        let d_25 ← PyWrap.dictGet Pk ((k_ : Nat) : Int)
        let p_26 ← PyWrap.powI x (((k_ : Nat) : Int) - (1 : Int))
        (pure (acc_ + (((((k_ : Nat) : Int) : Rat) * d_25) * p_26)) : Except String Rat)) 0 =
      if x = 0 ∧ 0 ∈ Pk.map (·.1) then .error "ZeroDivisionError" else .ok (psiKP Pk x) := by
  rw [fold_deriv _ 1 (fun k => (((k : Nat) : Int) : Rat) * alGet Pk 0 k) (fun k _ hk => by simp [show k = 0 by omega]) x _
    (fun k hk acc => by rw [wdictGet_key Pk k hk]; rfl)]
  simp only [lt_one_iff_zero_mem, psiKP, Int.cast_natCast]; rfl

/-- the `psihatPrime` closure of the `rho` branch of `EBCM_discrete_from_graph` (before the factor `1 - rho`): the `k = 0`
term is skipped (`… for k in Pk if k>0`), so it is total — the same polynomial `psiKP` for every `x`, `x = 0` included -/
theorem psiKP_closure_pos (Pk : List (Nat × Rat)) (x : Rat) :
    (Pk.map (·.1)).foldlM (fun (acc_ : Rat) (k_ : Nat) =>
        if decide (((k_ : Nat) : Int) > (0 : Int)) then do
          let d_25 ← PyWrap.dictGet Pk ((k_ : Nat) : Int)
          let p_26 ← PyWrap.powI x (((k_ : Nat) : Int) - (1 : Int))
          (pure (acc_ + (((((k_ : Nat) : Int) : Rat) * d_25) * p_26)) : Except String Rat)
        else (pure acc_ : Except String Rat)) 0 = .ok (psiKP Pk x) := by
  rw [fold_keys_ok _ (fun k => if 0 < k then (((k : Nat) : Rat) * alGet Pk 0 k) * x ^ (k - 1) else 0)]
  · simp [psiKP]
  · intro k hk acc
    by_cases hk0 : 0 < k
    · have hki : ((k : Nat) : Int) > (0 : Int) := by omega
      rw [if_pos (decide_eq_true hki), wdictGet_key _ k hk, powI_pred x k hk0]; simp [hk0]
    · have : k = 0 := by omega
      subst this
      simp

theorem smul_NkL (c : Rat) (degs : List Nat) :
    PyWrap.smul c (NkL degs) = vec (Helpers.maxDeg degs) (fun k => c * ((Helpers.countEq degs k : Nat) : Rat)) := by
  unfold PyWrap.smul NkL
  rw [vec_map]

/-- left side = what `loop5 … (fun _ => 1)` returns from the start array `0.0*Nk`, divided by `Nk`; not simplified, so that
`simp only [divNk_cnt]` fires in `EBCMd_sets` -/
theorem divNk_cnt (A : WArgs) (st : Node → St) :
    divNk (A.nodes.map A.degree) (vec (Helpers.maxDeg (A.nodes.map A.degree))
      (fun k => (0 : Rat) * ((Helpers.countEq (A.nodes.map A.degree) k : Nat) : Rat)
        + (cnt A.degree st A.nodes St.S k : Rat) * 1)) = Sk0fin A st := by
  unfold divNk Sk0fin vec
  apply List.map_congr_left
  intro k hk
  have hk' : k ≤ Helpers.maxDeg (A.nodes.map A.degree) := by have := List.mem_range.mp hk; omega
  rw [show (List.map _ (List.range (Helpers.maxDeg (A.nodes.map A.degree) + 1))) = vec (Helpers.maxDeg (A.nodes.map A.degree))
      (fun k => (0 : Rat) * ((Helpers.countEq (A.nodes.map A.degree) k : Nat) : Rat)
        + (cnt A.degree st A.nodes St.S k : Rat) * 1) from rfl, vec_getD _ _ k hk']
  ring

/-- `psihat`, `psihatPrime` are the graph's ψ̂, ψ̂' (each term of the generated sums is divided by `Nk[k]`, `divNk_cnt`) and never
raise -/
theorem EBCMd_sets (A : WArgs) (p : Rat) (infs : List Node) (recs : Option (List Node)) (tmin tmax : Int)
    (full : Bool) :
    EBCM_discrete_from_graph_args A p (some infs) recs none tmin tmax full =
      initialize_node_status A.toIArgs infs (recs.getD []) >>= fun st =>
      if A.nodes = [] then .error "ValueError" else
      .ok { N := (A.nodes.length : Rat),
            psihat := fun x => .ok (psiHatV (PkAL (A.nodes.map A.degree)) (Sk0fin A st) x),
            psihatPrime := fun x => .ok (psiHatPV (PkAL (A.nodes.map A.degree)) (Sk0fin A st) x),
            p := p, phiS0 := phiOf A st St.S, phiR0 := phiOf A st St.R,
            R0 := (((A.nodes.filter fun u => st u = St.R).length : Nat) : Rat),
            tmin := tmin, tmax := tmax, return_full_data := full } := by
  unfold EBCM_discrete_from_graph_args
  simp only [Option.isSome_none, Bool.false_and, Bool.false_eq_true, if_false, GenHelpProofs.get_Pk_eq, ok_bind]
  congr 1; funext st
  by_cases hne : A.nodes = []
  · simp only [maxKey_counter, hne, List.map_nil, if_true, err_bind]
  simp only [maxKey_degrees, hne, if_false, ok_bind, mapM_counter, Int.cast_zero, smul_NkL]
  rw [loop5 A.degree st A.neighbors (fun _ => 1) (Helpers.maxDeg (A.nodes.map A.degree)) A.nodes
    (fun u hu => Helpers.le_maxDeg _ _ (List.mem_map.mpr ⟨u, hu, rfl⟩))]
  swap
  · intro acc u hu hlen
    have hd : A.degree u ∈ A.nodes.map A.degree := List.mem_map.mpr ⟨u, hu, rfl⟩
    have hle := Helpers.le_maxDeg _ _ hd
    obtain ⟨a, b, c, d, e⟩ := acc
    simp only at hlen
    have e4 := vecAdd_nat a (A.degree u) 1 (by omega)
    cases h : st u
    · simp only [decide_true, if_true, e4, ok_bind, nbFoldP, Int.cast_one]
      simp [ebStep, h, nbCount]
    · simp [ebStep, h]
    · simp [ebStep, h]
  simp only [ok_bind, zero_add, guard_nat, fdiv_gI, psihatN_closure _ _ (vec_length _ _),
    psihatPrimeN_closure _ _ (vec_length _ _), divNk_cnt]
  simp [phiOf]

theorem EBCMd_both (A : WArgs) (p : Rat) (infs recs : Option (List Node)) (r : Rat) (tmin tmax : Int) (full : Bool)
    (h : infs.isSome ∨ recs.isSome) :
    EBCM_discrete_from_graph_args A p infs recs (some r) tmin tmax full = .error "EoNError" := by
  unfold EBCM_discrete_from_graph_args
  cases infs <;> cases recs <;> simp at h ⊢

/-- `EBCM_discrete_from_graph` without `initial_infecteds` (an `initial_recovereds` given without `rho` is ignored): both
callbacks are total -/
theorem EBCMd_none (A : WArgs) (p : Rat) (recs : Option (List Node)) (rho : Option Rat)
    (hrr : ¬ (rho.isSome ∧ recs.isSome)) (tmin tmax : Int) (full : Bool) :
    EBCM_discrete_from_graph_args A p none recs rho tmin tmax full =
      rhoOr A rho >>= fun r => .ok
        { N := (A.nodes.length : Rat), psihat := fun x => .ok ((1 - r) * psiK (PkAL (A.nodes.map A.degree)) x),
          psihatPrime := fun x => .ok ((1 - r) * psiKP (PkAL (A.nodes.map A.degree)) x), p := p, phiS0 := 1 - r,
          phiR0 := 0, R0 := 0, tmin := tmin, tmax := tmax, return_full_data := full } := by
  have h2 := guard_false hrr
  unfold EBCM_discrete_from_graph_args
  simp only [Option.isSome_none, Bool.and_false, Bool.false_eq_true, if_false, h2, GenHelpProofs.get_Pk_eq, ok_bind,
    psiK_closure, psiKP_closure_pos]
  congr 1
  cases rho with
  | some r => rfl
  | none => simp only [rhoOr, Int.cast_natCast, fdiv_N]; split <;> rfl

/-! ## `EBCM_from_graph` without `initial_infecteds` -/

/-- `EBCM_from_graph` without `initial_infecteds` (an `initial_recovereds` given without `rho` is ignored): `psihat` is
total, `psihatPrime(0)` raises on a graph with an isolated node -/
theorem EBCM_none (A : WArgs) (tau gamma : Rat) (recs : Option (List Node)) (rho : Option Rat)
    (hrr : ¬ (rho.isSome ∧ recs.isSome)) (tmin tmax : Rat) (tcount : Int) (full : Bool) :
    EBCM_from_graph_args A tau gamma none recs rho tmin tmax tcount full =
      rhoOr A rho >>= fun r => .ok
        { N := (A.nodes.length : Rat), psihat := fun x => .ok ((1 - r) * psiK (PkAL (A.nodes.map A.degree)) x),
          psihatPrime := fun x => if x = 0 ∧ 0 ∈ A.nodes.map A.degree then .error "ZeroDivisionError"
            else .ok ((1 - r) * psiKP (PkAL (A.nodes.map A.degree)) x),
          tau := tau, gamma := gamma, phiS0 := 1 - r, phiR0 := 0, R0 := 0, tmin := tmin, tmax := tmax,
          tcount := tcount, return_full_data := full } := by
  have h2 := guard_false hrr
  unfold EBCM_from_graph_args
  simp only [Option.isSome_none, Bool.and_false, Bool.false_eq_true, if_false, h2, GenHelpProofs.get_Pk_eq, ok_bind,
    psiK_closure, psiKP_fold, keys_PkAL_iff]
  congr 1
  · cases rho with
    | some r => rfl
    | none => simp only [rhoOr, Int.cast_natCast, fdiv_N]; split <;> rfl
  · funext r
    simp only [pure_eq_ok, Int.cast_natCast, Int.cast_one, Int.cast_zero]
    congr; funext x; split <;> rfl

/-! ## the `rho` branch of the attack-rate base functions on the graph's `Pk` -/

theorem alGet_map_const (l : List (Nat × Rat)) (c : Rat) (k : Nat) :
    alGet (l.map fun kv => (kv.1, c)) 0 k = if alHas l k then c else 0 := by
  induction l with
  | nil => rfl
  | cons q t ih =>
    obtain ⟨k', v⟩ := q
    by_cases hk : k' = k
    · simp [alGet, alHas, hk]
    · simp [alGet, alHas, hk, ih]

/-- `Sk0 = {k: 1-rho}`: `ψ̂ = (1-rho)ψ`, `ψ̂' = (1-rho)ψ'` -/
theorem psiHatAL_const (Pk : List (Nat × Rat)) (c : Rat) :
    psiHatAL Pk (Pk.map fun kv => (kv.1, c)) = (fun x => c * psiK Pk x) ∧
    psiHatPAL Pk (Pk.map fun kv => (kv.1, c)) = (fun x => c * psiKP Pk x) := by
  constructor
  · funext x
    unfold psiHatAL psiK
    rw [← sumRat_map_mul_left]
    apply sumRat_map_congr
    intro k hk
    rw [alGet_map_const, alHas_of_mem_keys Pk k hk]
    simp; ring
  · funext x
    unfold psiHatPAL psiKP
    rw [← sumRat_map_mul_left]
    apply sumRat_map_congr
    intro k hk
    rw [alGet_map_const, alHas_of_mem_keys Pk k hk]
    by_cases h0 : 0 < k
    · simp [h0]; ring
    · simp [h0]

theorem psiKP_one (Pk : List (Nat × Rat)) : psiKP Pk 1 = kAveAL Pk := by
  unfold psiKP kAveAL
  apply sumRat_map_congr
  intro k _
  by_cases h0 : 0 < k
  · simp [h0]
  · have : k = 0 := by omega
    subst this; simp

/-! ## `PyWrap.total` -/

theorem total_of_ok (g : Rat → Except String Rat) (x y : Rat) (h : g x = .ok y) : PyWrap.total g x = y := by
  simp [PyWrap.total, h]

/-! ## `SIR_compact_effective_degree_from_graph` -/

/-- `SIR_compact_effective_degree_from_graph` without `initial_infecteds` (all inputs; an `initial_recovereds` given
without `rho` is ignored): the default `rho = 1/N` first (ZeroDivisionError), then ValueError on a graph without nodes -/
theorem SIRced_rho (A : WArgs) (tau gamma : Rat) (recs : Option (List Node)) (rho : Option Rat)
    (hrr : ¬ (rho.isSome ∧ recs.isSome)) (tmin tmax : Rat) (tcount : Int) (full : Bool) :
    SIR_compact_effective_degree_from_graph_args A tau gamma none recs rho tmin tmax tcount full =
      (rhoOr A rho >>= fun r => if A.nodes = [] then .error "ValueError" else
        .ok { Skappa0 := vec (Helpers.maxDeg (A.nodes.map A.degree))
                (fun k => (1 - r) * ((Helpers.countEq (A.nodes.map A.degree) k : Nat) : Rat)),
              I0 := r * sumRat (NkL (A.nodes.map A.degree)), R0 := 0,
              SI0 := (1 - r) * r * (((A.nodes.map A.degree).sum : Nat) : Rat),
              tau := tau, gamma := gamma, tmin := tmin, tmax := tmax, tcount := tcount,
              return_full_data := full }) := by
  have h2 := guard_false hrr
  have key : ∀ r : Rat,
      (PyWrap.range (((Helpers.maxDeg (A.nodes.map A.degree) : Nat) : Int) + 1)).foldlM (fun (acc_ : Rat) (k : Int) => do
        let d_9 ← PyWrap.vecGet (PyWrap.smul (((1 : Int) : Rat) - r) (NkL (A.nodes.map A.degree))) k
        (pure (acc_ + ((((k : Int) : Rat) * d_9) * r)) : Except String Rat)) 0
      = .ok ((1 - r) * r * (((A.nodes.map A.degree).sum : Nat) : Rat)) := by
    intro r
    rw [range_succ_nat, List.foldlM_map, fold_keys_ok _ (fun k => ((1 - r) * r) *
      (((k : Nat) : Rat) * ((Helpers.countEq (A.nodes.map A.degree) k : Nat) : Rat)))]
    · rw [sumRat_map_mul_left, weighted_countEq]; simp
    · intro k hk acc
      have hk' : k ≤ Helpers.maxDeg (A.nodes.map A.degree) := by have := List.mem_range.mp hk; omega
      rw [smul_NkL, vecGet_nat _ k (by rw [vec_length]; omega), vec_getD _ _ k hk']
      simp only [ok_bind, Int.cast_one, Int.cast_natCast, pure_eq_ok]
      congr 1; ring
  unfold SIR_compact_effective_degree_from_graph_args
  simp only [Option.isSome_none, Bool.and_false, Bool.false_eq_true, if_false, h2, maxKey_counter,
    List.map_eq_nil_iff]
  congr 1
  · cases rho with
    | some r => rfl
    | none => simp only [rhoOr, Int.cast_natCast, fdiv_N]; split <;> rfl
  · funext r
    split
    · rfl
    · simp only [ok_bind, mapM_counter, key r]
      simp [smul_NkL]

theorem SIRced_both (A : WArgs) (tau gamma : Rat) (infs recs : Option (List Node)) (r : Rat) (tmin tmax : Rat)
    (tcount : Int) (full : Bool) (h : infs.isSome ∨ recs.isSome) :
    SIR_compact_effective_degree_from_graph_args A tau gamma infs recs (some r) tmin tmax tcount full
      = .error "EoNError" := by
  unfold SIR_compact_effective_degree_from_graph_args
  cases infs <;> cases recs <;> simp at h ⊢

end GenWrapProofs3
