import EoNVerif.Gen.ListDictTM
import EoNVerif.Proofs.GenLD
import EoNVerif.Model.Gillespie
import EoNVerif.Proofs.TapeRel
/-!
The one tape program that every generated Gillespie-type simulator calls: `_ListDict_.choose_random` as generated
(`GenLD.choose_random_tm`) runs in lock step with the model's `Gillespie.chooseTM` (`GenLD.choose_bisim`).
-/
namespace GenLD
open TM
variable {α : Type} [DecidableEq α]

/-- **`choose_random()` against the tape**: the generated code and the model pop the same draws, log the same calls and
return the same listed item; the generated code returns its state unchanged.  (When `max_weight = 0` the generated code
pops the uniform draw before the division raises, the model raises first: both fail.) -/
theorem choose_bisim (enc : α → List Nat) (p : PyLD α) (l : LD α) (hR : R p l) (hI : LD.Inv l) (fuel : Nat) :
    Bisim (choose_random_tm enc p fuel) (Gillespie.chooseTM enc l fuel) (fun pc c => pc = (p, c) ∧ c ∈ l.items) := by
  obtain ⟨itp, items, wd, wt, mw, tw, mc⟩ := p
  obtain ⟨lwd, litems, lwt, lmw, lmc, ltw⟩ := l
  obtain ⟨h1, h2, h3, h4, h5, h6, h7, h8⟩ := hR
  simp only at h1 h2 h3 h4 h5 h6 h7 h8
  subst h1 h2 h3 h4 h5 h6
  induction fuel with
  | zero => exact .of_fails (.fail _ (by decide)) (.fail _ (by decide))
  | succ fuel ih =>
    rw [choose_random_tm, Gillespie.chooseTM]
    -- both flags start with `random.choice(self.items)`
    have hchoice : ∀ (k1 : α → TM (PyLD α × α)) (k2 : α → TM α),
        (∀ c ∈ items, Bisim (k1 c) (k2 c) fun pc c => pc = (⟨itp, items, wd, wt, mw, tw, mc⟩, c) ∧ c ∈ items) →
        Bisim (TM.popChoice (items.map enc) >>= fun i => PyTM.liftE (PyRT.listChoice items i) >>= k1)
          (TM.popChoice (items.map enc) >>= fun i => match items[i]? with
            | none => TM.fail "tape-bad-index"
            | some c => k2 c)
          fun pc c => pc = (⟨itp, items, wd, wt, mw, tw, mc⟩, c) ∧ c ∈ items := by
      intro k1 k2 hk
      refine (Bisim.same (NoKE.popChoice _)).bind ?_
      rintro i _ rfl
      cases hi : items[i]? with
      | none =>
        simp only [PyRT.listChoice, hi]
        exact .of_fails (.liftE_error _ (by decide) _) (.fail _ (by decide))
      | some c =>
        simp only [PyRT.listChoice, hi, ExceptStep.pure_eq_ok, TM.liftE_ok_bind]
        exact hk c (List.mem_of_getElem? hi)
    cases wd with
    | false =>
      simp only [Bool.false_eq_true, if_false]
      refine hchoice _ _ fun c hmem => ?_
      simp only [Bool.not_false, if_true]
      exact .pure ⟨rfl, hmem⟩
    | true =>
      simp only [if_true]
      refine hchoice _ _ fun c hmem => ?_
      -- the defaultdict read `weight[choice]` inserts nothing: `choice` is a key
      have htouch : PyRT.ddTouch wt c = wt := ddTouch_of_alHas _ _ ((hI.keys rfl c).2 hmem)
      simp only [Bool.not_true, Bool.false_eq_true, if_false, htouch]
      by_cases hm : mw = 0
      · rw [if_pos hm, hm, PyTM.fdiv_zero]
        exact .of_fails (.bind NoKE.popUnif fun _ => .liftE_error _ (by decide) _) (.fail _ (by decide))
      · rw [if_neg hm]
        refine (Bisim.same NoKE.popUnif).bind ?_
        rintro r _ rfl
        rw [PyTM.fdiv_ok _ _ hm, TM.liftE_ok_bind]
        exact .ite (fun _ => .pure ⟨rfl, hmem⟩) (fun _ => ih)

end GenLD
