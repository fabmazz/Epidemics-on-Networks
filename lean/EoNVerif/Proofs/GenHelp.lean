import EoNVerif.Gen.HelpersGen
import EoNVerif.Proofs.ExceptDict
import EoNVerif.Proofs.AssocList
import EoNVerif.Proofs.Helpers
import EoNVerif.Proofs.ODE
import Mathlib.Tactic.Ring
import Mathlib.Algebra.Order.Field.Rat
import Mathlib.Logic.Function.Iterate
/-!
C20c / C08c (and the graph wrappers: Props/C06h, C06k open it too) — lemmas: the Lean code GENERATED from the degree-distribution helpers and the final-size / discrete-time
EBCM functions of `EoN/analytic.py` (Gen/HelpersGen.lean, namespace `GenHelp`) against the hand-written models
`Model/Helpers.lean` and `Model/ODE.lean`; the closed forms of `EBCM_discrete` and the attack-rate functions (`ebcmTraj`,
`thetaMap`, `omegaMap`, `alphaMap`) are defined here.
-/

-- `GenHelpProofs` is also the namespace of the shared loop, dict and `sortNat` lemmas (Proofs/ExceptDict, DegList, the end of
-- GenGlue2): a short name used below that is not declared in this file stands there.
namespace GenHelpProofs
open PyRT PyTM PyHelp

/-! ### `Counter` -/

theorem eraseDups_concat (l : List Nat) (a : Nat) :
    (l ++ [a]).eraseDups = if a ∈ l then l.eraseDups else l.eraseDups ++ [a] := by
  rw [List.eraseDups_append]
  split <;> simp [List.removeAll, List.eraseDups_cons, *]

theorem nodup_eraseDups (l : List Nat) : l.eraseDups.Nodup := by
  induction l using List.reverseRecOn with
  | nil => simp
  | append_singleton l a ih =>
    rw [eraseDups_concat]
    split
    · exact ih
    · exact ih.append (List.nodup_singleton a) (by simpa [List.mem_eraseDups])

theorem counter_concat (l : List Nat) (a : Nat) :
    counter (l ++ [a]) = alSet (counter l) a (alGet (counter l) 0 a + 1) := by
  rw [counter, List.foldl_append]; rfl

theorem counter_get (l : List Nat) (k : Nat) : alGet (counter l) 0 k = Helpers.countEq l k := by
  induction l using List.reverseRecOn with
  | nil => rfl
  | append_singleton l a ih =>
    rw [counter_concat, Helpers.countEq, List.filter_append, List.length_append, ← Helpers.countEq, ← ih]
    by_cases h : k = a
    · subst h; rw [alGet_alSet_self]; simp
    · rw [alGet_alSet_ne _ _ _ _ _ h]; simp [Ne.symm h]

/-- the keys of `Counter(l)`: the distinct values in order of first occurrence -/
theorem counter_keys (l : List Nat) : (counter l).map (·.1) = l.eraseDups := by
  induction l using List.reverseRecOn with
  | nil => rfl
  | append_singleton l a ih =>
    rw [counter_concat, keys_alSet, ih, eraseDups_concat]
    simp only [List.mem_eraseDups]

/-! ### `max(d.keys())` -/

theorem maxDeg_congr (l l' : List Nat) (h : ∀ x, x ∈ l ↔ x ∈ l') : Helpers.maxDeg l = Helpers.maxDeg l' := by
  apply le_antisymm
  · rw [Helpers.maxDeg, Helpers.foldl_max_le_iff]
    exact ⟨Nat.zero_le _, fun d hd => Helpers.le_maxDeg l' d ((h d).1 hd)⟩
  · rw [Helpers.maxDeg, Helpers.foldl_max_le_iff]
    exact ⟨Nat.zero_le _, fun d hd => Helpers.le_maxDeg l d ((h d).2 hd)⟩

def maxKeyVal {ν : Type} (d : List (Nat × ν)) : Nat := Helpers.maxDeg (d.map (·.1))

theorem maxKey_ok {ν : Type} (d : List (Nat × ν)) (h : d ≠ []) : maxKey d = .ok (maxKeyVal d) := by
  cases d with
  | nil => exact absurd rfl h
  | cons x xs =>
    simp only [maxKey, pure_eq_ok, maxKeyVal, Helpers.maxDeg, List.map_cons, List.foldl_cons, List.foldl_map]
    simp

theorem maxKey_nil {ν : Type} : maxKey ([] : List (Nat × ν)) = .error "ValueError" := rfl

/-! ### `get_Pk` -/

/-- the dict returned by `get_Pk` -/
def PkAL (degs : List Nat) : List (Nat × Rat) :=
  (counter degs).map fun kv => (kv.1, ((kv.2 : Nat) : Rat) / ((degs.length : Nat) : Rat))

/-- `get_Pk` never raises: the division by `len(degs)` sits inside the comprehension over the (then non-empty) counter -/
theorem get_Pk_eq (degs : List Nat) : GenHelp.get_Pk degs = .ok (PkAL degs) := by
  apply mapM_ok_mem
  intro kv hkv
  have hne : degs ≠ [] := by rintro rfl; cases hkv
  rw [fdiv_ok _ _ (Helpers.length_ne_zero hne)]
  rfl

theorem PkAL_keys (degs : List Nat) : (PkAL degs).map (·.1) = degs.eraseDups := by
  simp only [PkAL, List.map_map]
  exact counter_keys degs

theorem PkAL_get (degs : List Nat) (k : Nat) : alGet (PkAL degs) 0 k = Helpers.Pk degs k := by
  have h0 : (0 : Rat) = (fun c : Nat => (c : Rat) / ((degs.length : Nat) : Rat)) 0 := by simp
  rw [PkAL, h0, alGet_map_val (counter degs) (fun c : Nat => (c : Rat) / ((degs.length : Nat) : Rat)) 0 k,
    counter_get]
  rfl

theorem PkAL_ne_nil (degs : List Nat) (h : degs ≠ []) : PkAL degs ≠ [] := by
  intro e
  have := PkAL_keys degs
  rw [e] at this
  cases degs with
  | nil => exact h rfl
  | cons a t => simp [List.eraseDups_cons] at this

theorem PkAL_nil : PkAL [] = [] := rfl

theorem PkAL_maxKey (degs : List Nat) : maxKeyVal (PkAL degs) = Helpers.maxDeg degs := by
  rw [maxKeyVal, PkAL_keys]
  exact maxDeg_congr _ _ (fun x => List.mem_eraseDups)

/-! ### the probability generating functions -/

/-- the polynomial returned by `get_PGF(Pk)` -/
def psiAL (Pk : List (Nat × Rat)) (x : Rat) : Rat :=
  sumRat ((List.range (maxKeyVal Pk + 1)).map fun k => alGet Pk 0 k * x ^ k)
/-- the polynomial returned by `get_PGFPrime(Pk)` -/
def psiPAL (Pk : List (Nat × Rat)) (x : Rat) : Rat :=
  sumRat ((List.range (maxKeyVal Pk + 1)).map fun k => alGet Pk 0 k * (((k : Nat) : Rat) * x ^ (k - 1)))
/-- the polynomial returned by `get_PGFDPrime(Pk)` -/
def psiDPAL (Pk : List (Nat × Rat)) (x : Rat) : Rat :=
  sumRat ((List.range (maxKeyVal Pk + 1)).map fun k =>
    alGet Pk 0 k * ((((k : Nat) : Rat) * (((k : Nat) : Rat) - 1)) * x ^ (k - 2)))

theorem get_PGF_ok (Pk : List (Nat × Rat)) (h : Pk ≠ []) :
    GenHelp.get_PGF Pk = .ok (fun x => sumRat ((List.range (maxKeyVal Pk + 1)).map fun k => alGet Pk 0 k * x ^ k)) := by
  rw [GenHelp.get_PGF, maxKey_ok Pk h]; rfl

theorem get_PGFPrime_ok (Pk : List (Nat × Rat)) (h : Pk ≠ []) :
    GenHelp.get_PGFPrime Pk = .ok (fun x => sumRat ((List.range (maxKeyVal Pk + 1)).map fun k =>
      alGet Pk 0 k * (((k : Nat) : Rat) * x ^ (k - 1)))) := by
  rw [GenHelp.get_PGFPrime, maxKey_ok Pk h]; rfl

theorem get_PGFDPrime_ok (Pk : List (Nat × Rat)) (h : Pk ≠ []) :
    GenHelp.get_PGFDPrime Pk = .ok (fun x => sumRat ((List.range (maxKeyVal Pk + 1)).map fun k =>
      alGet Pk 0 k * ((((k : Nat) : Rat) * (((k : Nat) : Rat) - 1)) * x ^ (k - 2)))) := by
  rw [GenHelp.get_PGFDPrime, maxKey_ok Pk h]; rfl

theorem get_PGF_PkAL (degs : List Nat) (h : degs ≠ []) : GenHelp.get_PGF (PkAL degs) = .ok (Helpers.psi degs) := by
  rw [get_PGF_ok _ (PkAL_ne_nil degs h), PkAL_maxKey]
  congr 1
  funext x
  simp only [PkAL_get, Helpers.psi]

theorem get_PGFPrime_PkAL (degs : List Nat) (h : degs ≠ []) :
    GenHelp.get_PGFPrime (PkAL degs) = .ok (Helpers.psiP degs) := by
  rw [get_PGFPrime_ok _ (PkAL_ne_nil degs h), PkAL_maxKey]
  congr 1
  funext x
  simp only [PkAL_get, Helpers.psiP]

theorem get_PGFDPrime_PkAL (degs : List Nat) (h : degs ≠ []) :
    GenHelp.get_PGFDPrime (PkAL degs) = .ok (Helpers.psiDP degs) := by
  rw [get_PGFDPrime_ok _ (PkAL_ne_nil degs h), PkAL_maxKey]
  congr 1
  funext x
  simp only [PkAL_get, Helpers.psiDP]

/-! ### `estimate_R0` -/

/-- the transmissibility used by `estimate_R0` -/
def resolveT (tau gamma transmissibility : Option Rat) : Except String Rat :=
  match transmissibility with
  | some t => .ok t
  | none => match tau, gamma with
    | some tau, some gamma => if tau + gamma = 0 then .error "ZeroDivisionError" else .ok (tau / (tau + gamma))
    | _, _ => .error "EoNError"

theorem sumRat_nonneg_eq_zero {γ : Type} (l : List γ) (f : γ → Rat) (h : ∀ c ∈ l, 0 ≤ f c) :
    sumRat (l.map f) = 0 ↔ ∀ c ∈ l, f c = 0 := by
  induction l with
  | nil => simp
  | cons a t ih =>
    have h1 := h a List.mem_cons_self
    have h2 := sumRat_map_nonneg t f (fun c hc => h c (List.mem_cons_of_mem _ hc))
    rw [List.map_cons, sumRat_cons, add_eq_zero_iff_of_nonneg h1 h2,
      ih (fun c hc => h c (List.mem_cons_of_mem _ hc)), List.forall_mem_cons]

theorem psiP_one_eq_zero_iff (degs : List Nat) (h : degs ≠ []) :
    Helpers.psiP degs 1 = 0 ↔ ∀ d ∈ degs, d = 0 := by
  have h1 : Helpers.psiP degs 1 = Helpers.meanDeg degs (fun k => (k : Rat)) := by
    rw [← Helpers.sumRat_Pk_mul]
    simp [Helpers.psiP]
  rw [h1, Helpers.meanDeg, div_eq_zero_iff]
  have hl := Helpers.length_ne_zero h
  simp only [hl, or_false]
  rw [sumRat_nonneg_eq_zero _ _ (fun c _ => Nat.cast_nonneg c)]
  simp

theorem estimate_R0_eq (degs : List Nat) (tau gamma tr : Option Rat) :
    GenHelp.estimate_R0 degs tau gamma tr = resolveT tau gamma tr >>= fun T =>
      if degs = [] then .error "ValueError"
      else if Helpers.psiP degs 1 = 0 then .error "ZeroDivisionError"
      else .ok (Helpers.R0 degs T) := by
  have key : ∀ T : Rat, (do
        let Pk ← GenHelp.get_Pk degs
        let psiDPrime ← GenHelp.get_PGFDPrime Pk
        let psiPrime ← GenHelp.get_PGFPrime Pk
        fdiv (T * psiDPrime 1) (psiPrime 1))
      = (if degs = [] then .error "ValueError"
        else if Helpers.psiP degs 1 = 0 then .error "ZeroDivisionError"
        else .ok (Helpers.R0 degs T) : Except String Rat) := by
    intro T
    by_cases hd : degs = []
    · subst hd
      simp [get_Pk_eq, PkAL_nil, GenHelp.get_PGFDPrime, maxKey_nil]
    · simp only [get_Pk_eq, ok_bind, get_PGFDPrime_PkAL degs hd, get_PGFPrime_PkAL degs hd, hd, if_false]
      by_cases h0 : Helpers.psiP degs 1 = 0
      · simp [h0]
      · simp [fdiv_ok _ _ h0, h0, Helpers.R0]
  unfold GenHelp.estimate_R0
  simp only [key]
  rfl

/-! ### `EBCM_discrete` -/

/-- `psihatPrime1` after the guard `if psihatPrime1 == 0: psihatPrime1 = 1`; it is `ODE.nz` (Model/ODE2.lean) written out.
Trap: after `open GenHelpProofs` the bare name shadows core's `guard`; an error that speaks of `Alternative` means the other
one was picked. -/
def guard (y : Rat) : Rat := if y = 0 then 1 else y

theorem guard_ne_zero (y : Rat) : guard y ≠ 0 := by
  unfold guard
  split
  · exact one_ne_zero
  · assumption

theorem guard_of_ne (y : Rat) (h : y ≠ 0) : guard y = y := by simp [guard, h]

theorem ite_decide_eq_guard (y : Rat) : (if decide (y = 0) = true then (1 : Rat) else y) = guard y := by simp [guard]

/-- the state of the discrete EBCM at one time: (θ, R, S, I) -/
abbrev EState := Rat × Rat × Rat × Rat

/-- the θ-iteration shared by `EBCM_discrete` and `Attack_rate_discrete` -/
def thetaMap (f' : Rat → Rat) (p phiS0 phiR0 th : Rat) : Rat :=
  (1 - p) + p * (phiR0 + phiS0 * f' th / guard (f' 1))

/-- one pass of the loop of `EBCM_discrete` -/
def ebcmNext (N : Rat) (f f' : Rat → Rat) (p phiS0 phiR0 : Rat) (x : EState) : EState :=
  let th' := thetaMap f' p phiS0 phiR0 x.1
  let R' := x.2.1 + x.2.2.2
  let S' := N * f th'
  (th', R', S', N - R' - S')

def ebcmInit (N : Rat) (f : Rat → Rat) (R0 : Rat) : EState := (1, R0, N * f 1, N - N * f 1 - R0)

def ebcmTraj (N : Rat) (f f' : Rat → Rat) (p phiS0 phiR0 R0 : Rat) (n : Nat) : EState :=
  (ebcmNext N f f' p phiS0 phiR0)^[n] (ebcmInit N f R0)

def cols (rows : List EState) : List Rat × List Rat × List Rat × List Rat :=
  (rows.map (·.1), rows.map (·.2.1), rows.map (·.2.2.1), rows.map (·.2.2.2))

/-- The loop of `EBCM_discrete`: a body that appends the time and the successor of the last row turns the initial row
`x` into the columns of `x, next x, next (next x), …` -/
theorem ebcm_loop (next : EState → EState) (x : EState) (tmin : Int)
    (body : List Rat × List Rat × List Rat × List Rat × List Rat → Int →
      Except String (List Rat × List Rat × List Rat × List Rat × List Rat))
    (init : List Rat × List Rat × List Rat × List Rat × List Rat) (hinit : init = ([(tmin : Rat)], cols [x]))
    (hb : ∀ (tm : List Rat) (rows : List EState) (y : EState) (t : Int),
      body (tm, cols (rows ++ [y])) t = .ok (tm ++ [(t : Rat)], cols (rows ++ [y] ++ [next y]))) (m : Nat) :
    ((List.range m).map fun (j : Nat) => tmin + 1 + (j : Int)).foldlM body init
      = .ok ((List.range (m + 1)).map (fun (j : Nat) => ((tmin + (j : Int) : Int) : Rat)),
          cols ((List.range (m + 1)).map fun j => next^[j] x)) := by
  subst hinit
  induction m with
  | zero => simp
  | succ m ih =>
    rw [List.range_succ, List.map_append, List.foldlM_append, ih]
    simp only [List.range_succ, List.map_append, List.map_singleton, List.foldlM_cons, List.foldlM_nil, hb, ok_bind,
      pure_eq_ok, Function.iterate_succ_apply']
    congr 4
    push_cast
    ring

/-! ### the trajectory of `EBCM_discrete` -/

theorem ebcmTraj_zero (N : Rat) (f f' : Rat → Rat) (p phiS0 phiR0 R0 : Rat) :
    ebcmTraj N f f' p phiS0 phiR0 R0 0 = ebcmInit N f R0 := rfl

theorem ebcmTraj_succ (N : Rat) (f f' : Rat → Rat) (p phiS0 phiR0 R0 : Rat) (n : Nat) :
    ebcmTraj N f f' p phiS0 phiR0 R0 (n + 1) = ebcmNext N f f' p phiS0 phiR0 (ebcmTraj N f f' p phiS0 phiR0 R0 n) :=
  Function.iterate_succ_apply' _ _ _

theorem ebcmTraj_theta (N : Rat) (f f' : Rat → Rat) (p phiS0 phiR0 R0 : Rat) (n : Nat) :
    (ebcmTraj N f f' p phiS0 phiR0 R0 n).1 = (thetaMap f' p phiS0 phiR0)^[n] 1 := by
  induction n with
  | zero => rfl
  | succ n ih => rw [ebcmTraj_succ, Function.iterate_succ_apply', ← ih]; rfl

theorem ebcmTraj_S (N : Rat) (f f' : Rat → Rat) (p phiS0 phiR0 R0 : Rat) (n : Nat) :
    (ebcmTraj N f f' p phiS0 phiR0 R0 n).2.2.1 = N * f (ebcmTraj N f f' p phiS0 phiR0 R0 n).1 := by
  cases n with
  | zero => rfl
  | succ n => rw [ebcmTraj_succ]; rfl

theorem ebcmTraj_conserve (N : Rat) (f f' : Rat → Rat) (p phiS0 phiR0 R0 : Rat) (n : Nat) :
    (ebcmTraj N f f' p phiS0 phiR0 R0 n).2.2.1 + (ebcmTraj N f f' p phiS0 phiR0 R0 n).2.2.2
      + (ebcmTraj N f f' p phiS0 phiR0 R0 n).2.1 = N := by
  cases n with
  | zero => simp only [ebcmTraj_zero, ebcmInit]; ring
  | succ n => rw [ebcmTraj_succ]; simp only [ebcmNext]; ring

theorem ebcmTraj_R (N : Rat) (f f' : Rat → Rat) (p phiS0 phiR0 R0 : Rat) (n : Nat) :
    (ebcmTraj N f f' p phiS0 phiR0 R0 (n + 1)).2.1
      = (ebcmTraj N f f' p phiS0 phiR0 R0 n).2.1 + (ebcmTraj N f f' p phiS0 phiR0 R0 n).2.2.2 := by
  rw [ebcmTraj_succ]; rfl

/-! ### the attack-rate functions -/

/-- ψ̂(x) = Σ_{k ∈ Pk.keys()} Pk[k]·Sk0[k]·x^k -/
def psiHatAL (Pk Sk0 : List (Nat × Rat)) (x : Rat) : Rat :=
  sumRat ((Pk.map (·.1)).map fun k => (alGet Pk 0 k * alGet Sk0 0 k) * x ^ k)

/-- ψ̂'(x) = Σ_{k ∈ Pk.keys(), k > 0} k·Pk[k]·Sk0[k]·x^(k-1) -/
def psiHatPAL (Pk Sk0 : List (Nat × Rat)) (x : Rat) : Rat :=
  sumRat ((Pk.map (·.1)).map fun k =>
    if 0 < k then ((((k : Nat) : Rat) * alGet Pk 0 k) * alGet Sk0 0 k) * x ^ (k - 1) else 0)

/-- Σ_k k·Pk[k] -/
def kAveAL (Pk : List (Nat × Rat)) : Rat := sumRat ((Pk.map (·.1)).map fun k => ((k : Nat) : Rat) * alGet Pk 0 k)

theorem dictGet_key (Pk : List (Nat × Rat)) (k : Nat) (hk : k ∈ Pk.map (·.1)) : dictGet Pk k = .ok (alGet Pk 0 k) :=
  dictGet_of_has Pk k 0 (alHas_of_mem_keys Pk k hk)

/-- the loop of `psihat(x)`: a key of `Pk` that `Sk0` lacks is a KeyError.  (The generator wraps the body of an
unconditional comprehension in `if true then … else pure acc`; `if_true` removes that before this lemma applies.) -/
theorem psihat_loop (Pk Sk0 : List (Nat × Rat)) (x : Rat) :
    (Pk.map (·.1)).foldlM (fun (acc : Rat) (k : Nat) => do
        let d_51 ← PyRT.dictGet Pk k
        let d_52 ← PyRT.dictGet Sk0 k
        pure (acc + ((d_51 * d_52) * (x ^ k)))) 0
      = if ∀ kv ∈ Pk, alHas Sk0 kv.1 = true then .ok (psiHatAL Pk Sk0 x) else .error "KeyError" := by
  rw [foldlM_guard _ (fun acc k => acc + (alGet Pk 0 k * alGet Sk0 0 k) * x ^ k) (fun k => alHas Sk0 k = true)
    "KeyError", foldl_add_sum, zero_add]
  · exact if_congr List.forall_mem_map rfl rfl
  · intro k hk acc
    rw [dictGet_key Pk k hk, dictGet_eq_has Sk0 k 0]
    split <;> rfl

/-- the loop of `psihatPrime(x)`: only the keys `k > 0` are read from `Sk0` -/
theorem psihatP_loop (Pk Sk0 : List (Nat × Rat)) (x : Rat) :
    (Pk.map (·.1)).foldlM (fun (acc : Rat) (k : Nat) => do
        if decide (k > 0) then do
          let d_51 ← PyRT.dictGet Pk k
          let d_52 ← PyRT.dictGet Sk0 k
          pure (acc + (((((k : Nat) : Rat) * d_51) * d_52) * (x ^ (k - 1))))
        else pure acc) 0
      = if ∀ kv ∈ Pk, 0 < kv.1 → alHas Sk0 kv.1 = true then .ok (psiHatPAL Pk Sk0 x) else .error "KeyError" := by
  rw [foldlM_guard _
    (fun acc k => acc + if 0 < k then ((((k : Nat) : Rat) * alGet Pk 0 k) * alGet Sk0 0 k) * x ^ (k - 1) else 0)
    (fun k => 0 < k → alHas Sk0 k = true) "KeyError", foldl_add_sum, zero_add]
  · exact if_congr List.forall_mem_map rfl rfl
  · intro k hk acc
    by_cases hk0 : 0 < k
    · rw [if_pos (decide_eq_true hk0), dictGet_key Pk k hk, dictGet_eq_has Sk0 k 0, if_pos hk0]
      by_cases hS : alHas Sk0 k = true
      · rw [if_pos hS, if_pos fun _ => hS]; rfl
      · rw [if_neg hS, if_neg fun h => hS (h hk0)]; rfl
    · rw [if_neg (by simpa using hk0), if_pos fun h => absurd h hk0, if_neg hk0, add_zero]; rfl

theorem kave_loop (Pk : List (Nat × Rat)) :
    (Pk.map (·.1)).foldlM (fun (acc : Rat) (k : Nat) => do
        let d_52 ← PyRT.dictGet Pk k
        pure (acc + (((k : Nat) : Rat) * d_52))) 0 = .ok (kAveAL Pk) := by
  rw [fold_keys_ok _ (fun k => ((k : Nat) : Rat) * alGet Pk 0 k), zero_add, kAveAL]
  intro k hk acc
  rw [dictGet_key Pk k hk]
  rfl

/-- the loop of `kave` in `Attack_rate_cts_time` (its value is not used) -/
theorem kave_loop' (Pk : List (Nat × Rat)) :
    (Pk.map (·.1)).foldlM (fun (acc : Rat) (k : Nat) => do
        let d_54 ← PyRT.dictGet Pk k
        pure (acc + (d_54 * ((k : Nat) : Rat)))) 0
      = .ok (sumRat ((Pk.map (·.1)).map fun k => alGet Pk 0 k * ((k : Nat) : Rat))) := by
  rw [fold_keys_ok _ (fun k => alGet Pk 0 k * ((k : Nat) : Rat)), zero_add]
  intro k hk acc
  rw [dictGet_key Pk k hk]
  rfl

theorem ite_ok_bind {α β : Type} (c : Prop) [Decidable c] (a : α) (e : String) (f : α → Except String β) :
    ((if c then .ok a else .error e : Except String α) >>= f) = if c then f a else .error e := by
  split <;> rfl

/-- the default `phiS0 = psihatPrime(1) / Σ k Pk[k]` for a total `psihatPrime` -/
def resolvePhiS0 (Pk : List (Nat × Rat)) (f'1 : Rat) (phiS0 : Option Rat) : Except String Rat :=
  match phiS0 with
  | some v => .ok v
  | none => if kAveAL Pk = 0 then .error "ZeroDivisionError" else .ok (f'1 / kAveAL Pk)

/-- the ω-iteration of `Attack_rate_cts_time` -/
def omegaMap (f' : Rat → Rat) (tau gamma phiS0 phiR0 om : Rat) : Rat :=
  (gamma / (gamma + tau) + (tau * phiS0) * f' om / (guard (f' 1) * (gamma + tau))) + (tau * phiR0) / (gamma + tau)

theorem Attack_rate_discrete_both (Pk : List (Nat × Rat)) (p r : Rat) (d : List (Nat × Rat)) (phiS0 phiR0 : Option Rat)
    (n : Nat) : GenHelp.Attack_rate_discrete Pk p (some r) (some d) phiS0 phiR0 n = .error "EoNError" := rfl

theorem Attack_rate_discrete_rho (Pk : List (Nat × Rat)) (p r : Rat) (hr : r ≠ 0) (phiS0 phiR0 : Option Rat) (n : Nat) :
    GenHelp.Attack_rate_discrete Pk p (some r) none phiS0 phiR0 n
      = GenHelp.Attack_rate_discrete Pk p none (some (Pk.map fun kv => (kv.1, 1 - r))) phiS0 phiR0 n := by
  have h0 : decide (some r = some (0 : Rat)) = false := by simp [hr]
  unfold GenHelp.Attack_rate_discrete
  rw [h0]
  rfl

/-- **`Attack_rate_discrete` with `Sk0` given**: a key `k > 0` of `Pk` missing from `Sk0` is a KeyError (from
`psihatPrime(1)`), then the default `phiS0` may divide by zero, then the θ-iteration runs, and only the final `psihat(θ)`
reads `Sk0[0]` -/
theorem Attack_rate_discrete_some (Pk : List (Nat × Rat)) (p : Rat) (S : List (Nat × Rat)) (phiS0 phiR0 : Option Rat)
    (n : Nat) : GenHelp.Attack_rate_discrete Pk p none (some S) phiS0 phiR0 n =
      if ∀ kv ∈ Pk, 0 < kv.1 → alHas S kv.1 = true then
        resolvePhiS0 Pk (psiHatPAL Pk S 1) phiS0 >>= fun S0 =>
          if ∀ kv ∈ Pk, alHas S kv.1 = true then
            .ok (1 - psiHatAL Pk S ((thetaMap (psiHatPAL Pk S) p S0 (phiR0.getD 0))^[n] 1))
          else .error "KeyError"
      else .error "KeyError" := by
  unfold GenHelp.Attack_rate_discrete
  simp only [if_true, psihat_loop, psihatP_loop, kave_loop]
  simp only [Option.isSome_none, Bool.false_and, Bool.false_eq_true, if_false, pure_eq_ok, ok_bind]
  by_cases hP : ∀ kv ∈ Pk, 0 < kv.1 → alHas S kv.1 = true
  · simp only [if_pos hP, ok_bind, ite_decide_eq_guard, fdiv_ok _ _ (guard_ne_zero _), foldlM_range_iterate, ite_ok_bind]
    cases phiS0 with
    | some v => cases phiR0 <;> rfl
    | none =>
      unfold resolvePhiS0 fdiv
      by_cases hz : kAveAL Pk = 0 <;> simp only [hz, if_true, if_false] <;> cases phiR0 <;> rfl
  · simp only [if_neg hP]
    cases phiS0 <;> cases phiR0 <;> rfl

theorem Attack_rate_cts_both (Pk : List (Nat × Rat)) (tau gamma r : Rat) (d : List (Nat × Rat)) (phiS0 phiR0 : Option Rat)
    (n : Nat) : GenHelp.Attack_rate_cts_time Pk tau gamma n (some r) (some d) phiS0 phiR0 = .error "EoNError" := rfl

theorem Attack_rate_cts_none (Pk : List (Nat × Rat)) (tau gamma : Rat) (rho : Option Rat) (phiS0 phiR0 : Option Rat)
    (n : Nat) : GenHelp.Attack_rate_cts_time Pk tau gamma n rho none phiS0 phiR0
      = GenHelp.Attack_rate_cts_time Pk tau gamma n none (some (Pk.map fun kv => (kv.1, 1 - rho.getD 0))) phiS0 phiR0 := by
  cases rho <;> rfl

/-- **`Attack_rate_cts_time` with `Sk0` given**: as `Attack_rate_discrete_some`, with the division by `gamma + tau`
after `phiS0` and before the first `psihatPrime(1)` that is not part of the default `phiS0` -/
theorem Attack_rate_cts_some (Pk : List (Nat × Rat)) (tau gamma : Rat) (n : Nat) (S : List (Nat × Rat))
    (phiS0 phiR0 : Option Rat) :
    GenHelp.Attack_rate_cts_time Pk tau gamma n none (some S) phiS0 phiR0 =
      if ∀ kv ∈ Pk, 0 < kv.1 → alHas S kv.1 = true then
        resolvePhiS0 Pk (psiHatPAL Pk S 1) phiS0 >>= fun S0 =>
          if gamma + tau = 0 then .error "ZeroDivisionError"
          else if ∀ kv ∈ Pk, alHas S kv.1 = true then
            .ok (1 - psiHatAL Pk S ((omegaMap (psiHatPAL Pk S) tau gamma S0 (phiR0.getD 0))^[n] (gamma / (gamma + tau))))
          else .error "KeyError"
      else if phiS0.isSome ∧ gamma + tau = 0 then .error "ZeroDivisionError" else .error "KeyError" := by
  unfold GenHelp.Attack_rate_cts_time
  simp only [if_true, psihat_loop, psihatP_loop, kave_loop, kave_loop']
  simp only [Option.isSome_none, Bool.false_and, Bool.false_eq_true, if_false, pure_eq_ok, ok_bind]
  by_cases hP : ∀ kv ∈ Pk, 0 < kv.1 → alHas S kv.1 = true <;> by_cases hz : gamma + tau = 0
  · simp only [if_pos hP, ok_bind, hz, fdiv_zero, if_true]
    cases phiS0 with
    | some v => cases phiR0 <;> rfl
    | none =>
      unfold resolvePhiS0 fdiv
      by_cases hk : kAveAL Pk = 0 <;> simp only [hk, if_true, if_false] <;> cases phiR0 <;> rfl
  · simp only [if_pos hP, ok_bind, ite_decide_eq_guard, fdiv_ok _ _ hz, fdiv_ok _ _ (mul_ne_zero (guard_ne_zero _) hz),
      foldlM_range_iterate, ite_ok_bind, hz, if_false]
    cases phiS0 with
    | some v => cases phiR0 <;> rfl
    | none =>
      unfold resolvePhiS0 fdiv
      by_cases hk : kAveAL Pk = 0 <;> simp only [hk, if_true, if_false] <;> cases phiR0 <;> rfl
  · simp only [if_neg hP, hz, fdiv_zero]
    cases phiS0 <;> cases phiR0 <;> rfl
  · simp only [if_neg hP, fdiv_ok _ _ hz, hz, and_false, if_false]
    cases phiS0 <;> cases phiR0 <;> rfl

/-! ### `Epi_Prob_discrete` -/

/-- the α-iteration of `Epi_Prob_discrete` -/
def alphaMap (f' : Rat → Rat) (p a : Rat) : Rat := (1 - p) + p * f' a / f' 1

theorem Epi_Prob_discrete_nil (p : Rat) (n : Nat) : GenHelp.Epi_Prob_discrete [] p n = .error "ValueError" := rfl

/-! ### the key sums as the coefficient sums of Model/ODE.lean -/

theorem psiHatAL_eq_psiH (Pk Sk0 : List (Nat × Rat)) (hn : (Pk.map (·.1)).Nodup) (K : Nat)
    (hK : ∀ k ∈ Pk.map (·.1), k < K) (x : Rat) :
    psiHatAL Pk Sk0 x = ODE.psiH K (fun k => alGet Pk 0 k * alGet Sk0 0 k) x := by
  unfold psiHatAL ODE.psiH
  refine (ODE.sumTo_eq_sumRat_of_support K _ hn hK _ ?_).symm
  intro k hk
  simp [alGet_of_not_key Pk 0 k hk]

theorem psiHatPAL_eq_psiHP (Pk Sk0 : List (Nat × Rat)) (hn : (Pk.map (·.1)).Nodup) (K : Nat)
    (hK : ∀ k ∈ Pk.map (·.1), k < K) (x : Rat) :
    psiHatPAL Pk Sk0 x = ODE.psiHP K (fun k => alGet Pk 0 k * alGet Sk0 0 k) x := by
  unfold psiHatPAL ODE.psiHP
  rw [← ODE.sumTo_eq_sumRat_of_support K _ hn hK]
  · apply ODE.sumTo_congr
    intro k _
    by_cases hk : 0 < k
    · simp only [hk, if_true, ODE.kf]; ring
    · have : k = 0 := by omega
      subst this
      simp [ODE.kf]
  · intro k hk
    simp [alGet_of_not_key Pk 0 k hk]

/-! ### `get_Pnk` -/

/-- `Pnk[k1][k2]` read with the defaults of the two `defaultdict`s -/
def pnkVal (P : List (Nat × List (Nat × Rat))) (k1 k2 : Nat) : Rat := alGet (alGet P [] k1) 0 k2

theorem pnk_init_rows (degs : List Nat) (acc : List (Nat × List (Nat × Rat))) (h : ∀ p ∈ acc, p.2 = []) :
    ∀ p ∈ degs.foldl (fun acc k1 => if alHas acc k1 then acc else acc ++ [(k1, [])]) acc, p.2 = [] := by
  induction degs generalizing acc with
  | nil => exact h
  | cons a t ih =>
    rw [List.foldl_cons]
    apply ih
    split
    · exact h
    · intro p hp
      rcases List.mem_append.1 hp with hp | hp
      · exact h p hp
      · simp only [List.mem_singleton] at hp
        rw [hp]

theorem pnkVal_init (degs : List Nat) (k1 k2 : Nat) :
    pnkVal (degs.foldl (fun acc k1 => if alHas acc k1 then acc else acc ++ [(k1, [])]) []) k1 k2 = 0 := by
  unfold pnkVal
  rw [alGet_const _ [] k1 (pnk_init_rows degs [] (by simp))]
  rfl

/-- `Pnk[k1][k2] += q` on the nested dict -/
abbrev pnkAdd (P : List (Nat × List (Nat × Rat))) (k1 k2 : Nat) (q : Rat) : List (Nat × List (Nat × Rat)) :=
  alSet P k1 (alSet (alGet P [] k1) k2 (alGet (alGet P [] k1) 0 k2 + q))

theorem pnkVal_add (P : List (Nat × List (Nat × Rat))) (k1 k2 : Nat) (q : Rat) (a b : Nat) :
    pnkVal (pnkAdd P k1 k2 q) a b = pnkVal P a b + (if a = k1 then (if k2 = b then q else 0) else 0) := by
  unfold pnkVal
  by_cases ha : a = k1
  · subst ha
    rw [alGet_alSet_self]
    by_cases hb : k2 = b
    · subst hb
      simp [alGet_alSet_self]
    · have hb' : b ≠ k2 := fun e => hb e.symm
      simp [alGet_alSet_ne _ _ _ _ _ hb', hb]
  · simp [alGet_alSet_ne _ _ _ _ _ ha, ha]

theorem pnkVal_foldl_row (l : List Nat) (k1 : Nat) (q : Rat) (P : List (Nat × List (Nat × Rat))) (a b : Nat) :
    pnkVal (l.foldl (fun P k2 => pnkAdd P k1 k2 q) P) a b
      = pnkVal P a b + if a = k1 then (Helpers.countEq l b : Rat) * q else 0 := by
  induction l generalizing P with
  | nil => simp [Helpers.countEq]
  | cons k2 t ih =>
    rw [List.foldl_cons, ih, pnkVal_add, Helpers.countEq_cons]
    by_cases ha : a = k1
    · by_cases hb : k2 = b
      · simp only [ha, hb, if_true]; push_cast; ring
      · simp only [ha, hb, if_true, if_false]; push_cast; ring
    · simp only [ha, if_false, add_zero]

theorem pnkVal_foldl_rows (rows : List (List Nat)) (q : Nat → Rat) (P : List (Nat × List (Nat × Rat))) (a b : Nat) :
    pnkVal (rows.foldl (fun P row => row.foldl (fun P k2 => pnkAdd P row.length k2 (q row.length)) P) P) a b
      = pnkVal P a b + sumRat (rows.map fun row => if row.length = a then (Helpers.countEq row b : Rat) * q a else 0) := by
  induction rows generalizing P with
  | nil => simp
  | cons row t ih =>
    rw [List.foldl_cons, ih, pnkVal_foldl_row, List.map_cons, sumRat_cons]
    by_cases h : a = row.length
    · subst h; rw [if_pos rfl]; ring
    · rw [if_neg h, if_neg (Ne.symm h)]; ring

/-- the two loops of `get_Pnk` never raise: `1/(k1·N_{k1})` is only computed inside the loop over a non-empty row -/
theorem get_Pnk_loops (Nk : List (Nat × Nat)) (rows : List (List Nat)) (P : List (Nat × List (Nat × Rat)))
    (h : ∀ row ∈ rows, row = [] ∨ ((row.length : Nat) : Rat) * ((alGet Nk 0 row.length : Nat) : Rat) ≠ 0) :
    rows.foldlM (fun Pnk nbr_degrees => do
        let k1 := nbr_degrees.length
        nbr_degrees.foldlM (fun Pnk k2 => do
          let q ← fdiv (1 : Rat) (((k1 : Nat) : Rat) * ((alGet Nk 0 k1 : Nat) : Rat))
          let row := alGet Pnk [] k1
          (pure (alSet Pnk k1 (alSet row k2 (alGet row 0 k2 + q))) : Except String _)) Pnk) P
      = .ok (rows.foldl (fun P row => row.foldl (fun P k2 =>
          pnkAdd P row.length k2 (1 / (((row.length : Nat) : Rat) * ((alGet Nk 0 row.length : Nat) : Rat)))) P) P) := by
  induction rows generalizing P with
  | nil => rfl
  | cons row t ih =>
    rw [List.foldlM_cons, List.foldl_cons, ← ih _ (fun r hr => h r (List.mem_cons_of_mem _ hr))]
    rcases h row List.mem_cons_self with rfl | hD
    · rfl
    · simp only [fdiv_ok _ _ hD, ok_bind, List.foldlM_pure]
      rfl

/-- **`get_Pnk` on an arbitrary list of neighbour-degree lists**: never an error (the division is only reached for a
node of degree `k1 ≥ 1`, and that node is itself counted in `N_{k1}`), and
`Pnk[k1][k2] = Σ_{rows of length k1} #{entries = k2} / (k1 · N_{k1})` -/
theorem get_Pnk_eq (nbrdegs : List (List Nat)) :
    ∃ P, GenHelp.get_Pnk nbrdegs = .ok P ∧ ∀ k1 k2, pnkVal P k1 k2 = sumRat (nbrdegs.map fun row =>
      if row.length = k1 then (Helpers.countEq row k2 : Rat) *
        (1 / (((k1 : Nat) : Rat) * ((Helpers.countEq (nbrdegs.map (·.length)) k1 : Nat) : Rat))) else 0) := by
  have hD : ∀ row ∈ nbrdegs, row = [] ∨
      ((row.length : Nat) : Rat) * ((alGet (counter (nbrdegs.map (·.length))) 0 row.length : Nat) : Rat) ≠ 0 := by
    intro row hrow
    cases row with
    | nil => left; rfl
    | cons x t =>
      right
      rw [counter_get]
      have h1 : 0 < Helpers.countEq (nbrdegs.map (·.length)) (x :: t).length := by
        unfold Helpers.countEq
        apply List.length_pos_of_mem (a := (x :: t).length)
        rw [List.mem_filter]
        exact ⟨List.mem_map.2 ⟨x :: t, hrow, rfl⟩, by simp⟩
      have h2 : 0 < (x :: t).length := by simp
      apply mul_ne_zero
      · exact_mod_cast h2.ne'
      · exact_mod_cast h1.ne'
  have h1 := get_Pnk_loops (counter (nbrdegs.map (·.length))) nbrdegs
    ((nbrdegs.map (·.length)).foldl (fun acc k1 => if alHas acc k1 then acc else acc ++ [(k1, [])]) []) hD
  refine ⟨_, h1, fun k1 k2 => ?_⟩
  have := pnkVal_foldl_rows nbrdegs
    (fun k => 1 / (((k : Nat) : Rat) * ((alGet (counter (nbrdegs.map (·.length))) 0 k : Nat) : Rat)))
    ((nbrdegs.map (·.length)).foldl (fun acc k1 => if alHas acc k1 then acc else acc ++ [(k1, [])]) []) k1 k2
  rw [pnkVal_init, zero_add, counter_get] at this
  exact this

/-- the neighbour-degree lists of a graph given by adjacency lists -/
def nbrDegs (adj : List (List Nat)) : List (List Nat) :=
  adj.map fun nb => nb.map fun v => (adj.getD v []).length

end GenHelpProofs
