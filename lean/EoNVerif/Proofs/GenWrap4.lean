import EoNVerif.Proofs.GenWrap3
/-!
Tools for C06j (`Props/C06j.lean`), where the `*_from_graph` wrappers of `Gen/WrapGen.lean` not covered by C06e / C06g /
C06h get their closed forms: the node loop of `SIR_compact_effective_degree_from_graph` on `(Skappa0, SI0, I0, R0)`
(`cedLoop`), the `np.dot` moments of `SIS_super_compact_pairwise_from_graph` (`moments_ok`, `dot_rhoSk`), and the closures
`psihat`, `psihatPrime`, `psihatDPrime` of `SIR_super_compact_pairwise_from_graph` (`closures`: three equations for every
`x`, from `GenWrapProofs2.fold_deriv`).  Where a wrapper fills in the default `rho = 1/N`, the request is first reduced to the
one with that `rho` given (`*_rho_eq`).
-/
namespace GenWrapProofs4
open GenInit InitCond GenInitProofs GenWrap GenWrapProofs GenWrapProofs2
open GenHelpProofs (ok_bind pure_eq_ok PkAL fold_keys_ok)

/-! ## 1. `SIR_compact_effective_degree_from_graph`, explicit sets -/

/-- number of neighbours (as `G.neighbors` lists them) that are NOT recovered: the `kappa` of the wrapper -/
def nrCount (st : Node → St) (nb : Node → List Node) (u : Node) : Nat :=
  ((nb u).filter fun v => st v ≠ St.R).length

theorem nrCount_graph (A : WArgs) (adj : List (List Nat)) (hW : GraphOKW A adj) (st : Node → St) (u : Nat)
    (hu : u < adj.length) : nrCount st A.neighbors u = ((adj.getD u []).filter fun v => st v ≠ St.R).length := by
  unfold nrCount; rw [hW.nbrs u hu]

/-- the node loop of `SIR_compact_effective_degree_from_graph` on `(Skappa0, SI0, I0, R0)`: a susceptible node adds 1 to
class `κ u` and `si u` to `SI0`, the others are counted -/
theorem cedLoop (κ si : Node → Nat) (st : Node → St) (M : Nat) (l : List Node)
    (hl : ∀ u ∈ l, st u = St.S → κ u ≤ M)
    (step : List Rat × Int × Int × Int → Node → Except String (List Rat × Int × Int × Int))
    (hstep : ∀ F SI I0 R0 u, u ∈ l → step (vec M F, SI, I0, R0) u =
      if st u = St.S then
        (PyWrap.vecAdd (vec M F) ((κ u : Nat) : Int) 1 >>= fun v => .ok (v, SI + (si u : Nat), I0, R0))
      else if st u = St.I then .ok (vec M F, SI, I0 + 1, R0) else .ok (vec M F, SI, I0, R0 + 1)) :
    ∀ (F : Nat → Rat) (SI I0 R0 : Int), l.foldlM step (vec M F, SI, I0, R0) =
      .ok (vec M (fun k => F k + (cnt κ st l St.S k : Rat)), SI + (sumS st si l : Nat),
       I0 + ((l.filter fun u => st u = St.I).length : Nat), R0 + ((l.filter fun u => st u = St.R).length : Nat)) := by
  induction l with
  | nil => intro F SI I0 R0; simp [cnt, sumS]
  | cons u t ih =>
    intro F SI I0 R0
    have ih' := ih (fun v hv => hl v (by simp [hv])) (fun F SI I0 R0 v hv => hstep F SI I0 R0 v (by simp [hv]))
    rw [List.foldlM_cons, hstep F SI I0 R0 u (by simp)]
    cases hS : st u
    · rw [if_pos rfl, vecAdd_nat _ _ _ (by rw [vec_length]; have := hl u (by simp) hS; omega),
        vec_set M F _ 1 (hl u (by simp) hS), ok_bind, ok_bind, ih']
      simp [cnt_cons, ind, sumS, hS, add_assoc]
    · rw [if_neg (by simp), if_pos rfl, ok_bind, ih']
      simp [cnt_cons, ind, sumS, hS, add_assoc, add_comm]
    · rw [if_neg (by simp), if_neg (by simp), ok_bind, ih']
      simp [cnt_cons, ind, sumS, hS, add_assoc, add_comm]

/-! ## 2. `SIS_super_compact_pairwise_from_graph` -/

theorem fdiv_one_N (A : WArgs) (hne : A.nodes ≠ []) :
    PyTM.fdiv (1 : Rat) (((A.nodes.length : Nat) : Int) : Rat) = .ok (1 / (A.nodes.length : Rat)) := by
  rw [Int.cast_natCast, fdiv_N, if_neg (fun e => hne (List.length_eq_zero_iff.mp e))]

/-- `d.get(k, dflt)` for a key that is a natural number read as a float -/
theorem dictGetD_nat (d : List (Nat × Rat)) (i : Nat) (dflt : Rat) :
    PyWrap.dictGetD d ((i : Nat) : Rat) dflt = alGet d dflt i := by
  unfold PyWrap.dictGetD
  induction d with
  | nil => rfl
  | cons q t ih =>
    obtain ⟨k, v⟩ := q
    by_cases h : k = i
    · subst h; simp [alGet]
    · have h' : ((k : Nat) : Rat) ≠ ((i : Nat) : Rat) := by exact_mod_cast h
      simp only [List.find?_cons, h', decide_false, alGet, h, if_false]
      exact ih

/-- `np.arange(n)` -/
theorem ks_eq (n : Nat) :
    (PyWrap.range ((n : Nat) : Int)).map (fun (i_ : Int) => ((i_ : Int) : Rat)) = (List.range n).map (fun k => ((k : Nat) : Rat)) := by
  rw [range_nat, List.map_map]
  apply List.map_congr_left
  intro k _
  simp

theorem vmul_maps (n : Nat) (F G : Nat → Rat) :
    PyWrap.vmul ((List.range n).map F) ((List.range n).map G) = .ok ((List.range n).map fun k => F k * G k) := by
  unfold PyWrap.vmul
  simp [List.zipWith_map, List.zipWith_self]

theorem dot_maps (n : Nat) (F G : Nat → Rat) :
    PyWrap.dot ((List.range n).map F) ((List.range n).map G) = .ok (sumRat ((List.range n).map fun k => F k * G k)) := by
  unfold PyWrap.dot
  simp [List.zipWith_map, List.zipWith_self]

/-- `[Pk.get(k, 0) for k in ks]` -/
theorem Pks_eq (degs : List Nat) (n : Nat) :
    ((List.range n).map (fun k => ((k : Nat) : Rat))).mapM (fun (k : Rat) =>
      (Except.ok (PyWrap.dictGetD (PkAL degs) k ((0 : Int) : Rat)) : Except String Rat))
      = .ok ((List.range n).map fun k => Helpers.Pk degs k) := by
  refine (GenHelpProofs.mapM_pure _ _).trans ?_
  rw [List.map_map]
  congr 1
  apply List.map_congr_left
  intro k _
  simp only [Function.comp, Int.cast_zero, dictGetD_nat, GenHelpProofs.PkAL_get]

/-- the `j`-th moment of the degree list: `Σ_u deg(u)^j / N` -/
def kMoment (degs : List Nat) (j : Nat) : Rat := Helpers.meanDeg degs (fun k => ((k : Nat) : Rat) ^ j)

/-- `np.dot(Nk, arange(len(Nk)))` = `Σ_u deg u` -/
theorem dot_hist (A : IArgs) :
    PyWrap.dot (degree_hist A)
        ((PyWrap.range (((degree_hist A).length : Nat) : Int)).map (fun (i : Int) => ((i : Int) : Rat)))
      = .ok ((degSum A : Nat) : Rat) := by
  rw [degree_hist_length A]
  conv_lhs => rw [degree_hist_as_map A]
  rw [dot_range, hist_weighted]

/-- `np.dot(Pks, ks**j)` is the `j`-th moment, however the power is spelt -/
theorem dot_Pk_pow (degs : List Nat) (j : Nat) (G : Nat → Rat) (hG : ∀ k, G k = ((k : Nat) : Rat) ^ j) :
    PyWrap.dot ((List.range (Helpers.maxDeg degs + 1)).map fun k => Helpers.Pk degs k)
      ((List.range (Helpers.maxDeg degs + 1)).map G) = .ok (kMoment degs j) := by
  rw [dot_maps]
  simp only [hG]
  exact congrArg _ (Helpers.sumRat_Pk_mul degs _)

theorem moments_ok (degs : List Nat) :
    let ks := (List.range (Helpers.maxDeg degs + 1)).map (fun k => ((k : Nat) : Rat))
    let ks2 := (List.range (Helpers.maxDeg degs + 1)).map (fun k => ((k : Nat) : Rat) * ((k : Nat) : Rat))
    let ks3 := (List.range (Helpers.maxDeg degs + 1)).map
      (fun k => ((k : Nat) : Rat) * ((k : Nat) : Rat) * ((k : Nat) : Rat))
    let Pks := (List.range (Helpers.maxDeg degs + 1)).map fun k => Helpers.Pk degs k
    PyWrap.dot Pks ks = .ok (kMoment degs 1) ∧ PyWrap.vmul ks ks = .ok ks2 ∧
    PyWrap.dot Pks ks2 = .ok (kMoment degs 2) ∧ PyWrap.vmul ks2 ks = .ok ks3 ∧
    PyWrap.dot Pks ks3 = .ok (kMoment degs 3) :=
  ⟨dot_Pk_pow degs 1 _ fun k => (pow_one _).symm, vmul_maps _ _ _, dot_Pk_pow degs 2 _ fun k => (sq _).symm,
    vmul_maps _ _ _, dot_Pk_pow degs 3 _ fun k => by ring⟩

theorem sum_Nk_weighted (adj : List (List Nat)) (c : Rat) :
    sumRat ((List.range (Helpers.maxDeg (adj.map (·.length)) + 1)).map
      fun k => c * (Nk adj k : Rat) * ((k : Nat) : Rat)) = c * (twoM adj : Rat) := by
  have h := weighted_countEq (adj.map (·.length))
  rw [show (fun k => c * (Nk adj k : Rat) * ((k : Nat) : Rat))
      = fun k => c * (((k : Nat) : Rat) * ((Helpers.countEq (adj.map (·.length)) k : Nat) : Rat)) from by
        funext k; rw [countEq_degs]; ring,
    sumRat_map_mul_left, h]
  rfl

/-! `np.dot(Sk0, ks)` (`dot_rhoSk`) and `np.dot(Nk, ks)` (`dot_Nk`, with the `1 *` that `sum_Nk_weighted` at `c = 1` leaves) of the `rho`
requests -/

theorem dot_rhoSk (adj : List (List Nat)) (r : Rat) :
    PyWrap.dot (vec (Helpers.maxDeg (adj.map (·.length))) fun k => rhoSk adj r k)
      ((List.range (Helpers.maxDeg (adj.map (·.length)) + 1)).map (fun k => ((k : Nat) : Rat)))
      = .ok ((1 - r) * (twoM adj : Rat)) := by
  unfold vec rhoSk
  rw [dot_maps, sum_Nk_weighted]

theorem dot_Nk (adj : List (List Nat)) :
    PyWrap.dot (vec (Helpers.maxDeg (adj.map (·.length))) fun k => (Nk adj k : Rat))
      ((List.range (Helpers.maxDeg (adj.map (·.length)) + 1)).map (fun k => ((k : Nat) : Rat)))
      = .ok (1 * (twoM adj : Rat)) := by
  unfold vec
  rw [← sum_Nk_weighted adj 1, dot_maps]
  simp only [one_mul]

theorem SISscp_rho_eq (A : WArgs) (tau gamma : Rat) (rho : Option Rat) (tmin tmax : Rat) (tcount : Int) (full : Bool)
    (hne : A.nodes ≠ []) :
    SIS_super_compact_pairwise_from_graph_args A tau gamma none rho tmin tmax tcount full =
      SIS_super_compact_pairwise_from_graph_args A tau gamma none (some (rho.getD (1 / (A.nodes.length : Rat)))) tmin
        tmax tcount full := by
  cases rho with
  | some r => rfl
  | none =>
    unfold SIS_super_compact_pairwise_from_graph_args
    simp only [Option.isSome_none, Option.isSome_some, Bool.and_false, Bool.false_eq_true, if_false, arrays_closed,
      and_false, Option.getD_none, Option.getD_some, fdiv_one_N A hne, ok_bind, pure_eq_ok]

/-! ## 3. `SIR_super_compact_pairwise_from_graph`: the closures -/

/-- `Σ_k val(k)·x^k` -/
def sum0 (keys : List Nat) (val : Nat → Rat) (x : Rat) : Rat := sumRat (keys.map fun k => val k * x ^ k)

/-- `Σ_{k>0} k·val(k)·x^(k-1)` -/
def sum1 (keys : List Nat) (val : Nat → Rat) (x : Rat) : Rat :=
  sumRat (keys.map fun k => if 0 < k then (((k : Nat) : Rat) * val k) * x ^ (k - 1) else 0)

/-- `Σ_{k≥2} k(k-1)·val(k)·x^(k-2)` -/
def sum2 (keys : List Nat) (val : Nat → Rat) (x : Rat) : Rat :=
  sumRat (keys.map fun k => if 2 ≤ k then ((((k : Nat) : Rat) * (((k : Nat) : Rat) - 1)) * val k) * x ^ (k - 2) else 0)

theorem lt_two_iff_mem (keys : List Nat) : (∃ k ∈ keys, k < 2) ↔ 0 ∈ keys ∨ 1 ∈ keys :=
  ⟨fun ⟨k, hk, h⟩ => by
    obtain rfl | rfl : k = 0 ∨ k = 1 := by omega
    exacts [Or.inl hk, Or.inr hk], fun h => h.elim (fun h => ⟨0, h, by omega⟩) (fun h => ⟨1, h, by omega⟩)⟩

/-- **the three closures** `psihat`, `psihatPrime`, `psihatDPrime` before their last step, for every `x` and a getter that
succeeds with `val k` on every key; `ds` is any list with the same members as the keys.  `psihat` is total; `psihatPrime`
raises at 0 iff 0 is a key (`0.0 ** (-1)`); `psihatDPrime` raises at 0 iff 0 or 1 is a key — for `k = 1` although its
coefficient `k(k-1)` is 0 -/
theorem closures (keys ds : List Nat) (hds : ∀ k, k ∈ keys ↔ k ∈ ds) (get : Int → Except String Rat) (val : Nat → Rat)
    (hget : ∀ k ∈ keys, get ((k : Nat) : Int) = .ok (val k)) (x : Rat) :
    keys.foldlM (fun (acc_ : Rat) (k_ : Nat) => do
        let d_3 ← get ((k_ : Nat) : Int)
        let p_4 ← PyWrap.powI x ((k_ : Nat) : Int)
        (Except.ok (acc_ + (d_3 * p_4)) : Except String Rat)) 0 = .ok (sum0 keys val x) ∧
    keys.foldlM (fun (acc_ : Rat) (k_ : Nat) => do
        let d_7 ← get ((k_ : Nat) : Int)
        let p_8 ← PyWrap.powI x (((k_ : Nat) : Int) - (1 : Int))
        (Except.ok (acc_ + ((((((k_ : Nat) : Int) : Int) : Rat) * d_7) * p_8)) : Except String Rat)) 0
      = (if x = 0 ∧ 0 ∈ ds then .error "ZeroDivisionError" else .ok (sum1 keys val x)) ∧
    keys.foldlM (fun (acc_ : Rat) (k_ : Nat) => do
        let d_11 ← get ((k_ : Nat) : Int)
        let p_12 ← PyWrap.powI x (((k_ : Nat) : Int) - (2 : Int))
        (Except.ok (acc_ + ((((((k_ : Nat) : Int) * (((k_ : Nat) : Int) - (1 : Int)) : Int) : Rat) * d_11) * p_12))
          : Except String Rat)) 0
      = (if x = 0 ∧ (0 ∈ ds ∨ 1 ∈ ds) then .error "ZeroDivisionError" else .ok (sum2 keys val x)) := by
  refine ⟨?_, ?_, ?_⟩
  · rw [fold_keys_ok _ (fun k => val k * x ^ k), zero_add]; · rfl
    intro k hk acc
    rw [hget k hk, powI_nat]; rfl
  · rw [fold_deriv _ 1 (fun k => (((k : Nat) : Int) : Rat) * val k) (fun k _ hk => by simp [show k = 0 by omega]) x _
      (fun k hk acc => by rw [hget k hk]; rfl)]
    simp only [lt_one_iff_zero_mem, hds, sum1, Int.cast_natCast]; rfl
  · rw [fold_deriv _ 2 (fun k => ((((k : Nat) : Int) * (((k : Nat) : Int) - (1 : Int)) : Int) : Rat) * val k)
      (fun k _ hk => by obtain rfl | rfl : k = 0 ∨ k = 1 := by omega
                        all_goals simp) x _
      (fun k hk acc => by rw [hget k hk]; rfl)]
    simp only [lt_two_iff_mem, hds, sum2]; push_cast; rfl

theorem SIRscp_rho_eq (A : WArgs) (tau gamma : Rat) (rho : Option Rat) (tmin tmax : Rat) (tcount : Int) (full : Bool)
    (hne : A.nodes ≠ []) :
    SIR_super_compact_pairwise_from_graph_args A tau gamma none none rho tmin tmax tcount full =
      SIR_super_compact_pairwise_from_graph_args A tau gamma none none (some (rho.getD (1 / (A.nodes.length : Rat)))) tmin
        tmax tcount full := by
  cases rho with
  | some r => rfl
  | none =>
    unfold SIR_super_compact_pairwise_from_graph_args
    simp only [Option.isSome_none, Bool.false_and, Bool.false_eq_true, if_false, Option.isNone_none, Bool.and_self,
      if_true, fdiv_one_N A hne, ok_bind, pure_eq_ok, Option.isSome_some, Bool.and_false, Option.isNone_some,
      Option.getD_none]

end GenWrapProofs4
