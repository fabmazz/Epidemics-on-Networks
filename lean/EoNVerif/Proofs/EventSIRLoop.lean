import EoNVerif.Proofs.EventSIRInv
import EoNVerif.Proofs.Rows
/-!
The induction rule of `loop` (`loop_ind`), the invariant along it, and termination: the measure `mu` decreases at every
step.
-/
namespace EventSIR

theorem loop_ind {P : ESParams} {sel : Nat → Nat} (I : ESState → Prop)
    (hstep : ∀ n s s', I s → step P n s = some s' → I s') (fuel : Nat) :
    ∀ (k : Nat) (s : ESState), I s → I (loop P sel fuel k s) := by
  induction fuel with
  | zero => exact fun _ _ h => h
  | succ fuel ih =>
    intro k s h
    unfold EventSIR.loop
    split
    · exact h
    · rename_i s' hs
      exact ih _ _ (hstep _ _ _ h hs)

section Loop
variable {nodes : List Node} {nbrs : Node → List Node} {delay : Node → Node → ERat} {dur : Node → ERat}
  {tmin : Rat} {tmax : ERat} {infs recs : List Node}

def Inv (nodes : List Node) (nbrs : Node → List Node) (delay : Node → Node → ERat) (dur : Node → ERat)
    (tmin : Rat) (tmax : ERat) (infs recs : List Node) (s : ESState) : Prop :=
  InvC nodes nbrs delay dur tmin tmax infs recs s.status s.recTime s.predInf s.queue s.trans

variable {joint : Node → List Node → List (Node × ERat) × ERat}

theorem Inv.step (h : WF nodes nbrs delay dur infs recs) (hJ : RuleFits nbrs delay dur joint) {sel : Nat}
    {s s' : ESState} (hI : Inv nodes nbrs delay dur tmin tmax infs recs s)
    (hs : step ⟨nodes, nbrs, joint, tmin, tmax⟩ sel s = some s') :
    Inv nodes nbrs delay dur tmin tmax infs recs s' := by
  obtain ⟨x, l1, l2, hq, hmin, hc⟩ := step_some hs
  unfold Inv at hI
  rw [hq] at hI hmin
  rcases hc with ⟨src, tgt, hev, rfl⟩ | ⟨u, hev, rfl⟩
  · by_cases hst : s.status tgt = St.S
    · rw [processTrans_S _ { s with queue := l1 ++ l2 } _ _ _ hst]
      exact hI.infect h (hJ s.status tgt) hmin hev hst
    · rw [processTrans_notS _ { s with queue := l1 ++ l2 } _ _ _ hst]
      exact hI.dequeue_notS hev hst
  · exact hI.recover hev

theorem initQueue_eq (P : ESParams) (l : List Node) (q : List QItem) :
    initQueue P l q = q ++ (if ERat.lt (some P.tmin) P.tmax = true then
      l.map (fun u => (⟨P.tmin, QEv.trans none u⟩ : QItem)) else []) := by
  induction l generalizing q with
  | nil => simp [initQueue]
  | cons u rest ih =>
    rw [initQueue, ih, qadd_eq]
    split <;> simp

theorem init_queue (P : ESParams) (infs recs : List Node) :
    (init P infs recs).queue =
      if ERat.lt (some P.tmin) P.tmax = true then infs.map (fun u => (⟨P.tmin, QEv.trans none u⟩ : QItem)) else [] := by
  show initQueue P infs [] = _
  rw [initQueue_eq, List.nil_append]

theorem Inv.init (h : WF nodes nbrs delay dur infs recs) :
    Inv nodes nbrs delay dur tmin tmax infs recs (EventSIR.init ⟨nodes, nbrs, joint, tmin, tmax⟩ infs recs) := by
  have hmem : ∀ x ∈ (EventSIR.init ⟨nodes, nbrs, joint, tmin, tmax⟩ infs recs).queue,
      ERat.lt (some tmin) tmax = true ∧ ∃ u ∈ infs, x = ⟨tmin, QEv.trans none u⟩ := by
    intro x hx
    rw [init_queue] at hx
    split at hx
    · rename_i hlt
      simp only [List.mem_map] at hx
      obtain ⟨u, hu, rfl⟩ := hx
      exact ⟨hlt, u, hu, rfl⟩
    · simp at hx
  exact show InvC nodes nbrs delay dur tmin tmax infs recs (fun v => if v ∈ recs then St.R else St.S)
      (fun v => if v ∈ recs then some tmin else some (tmin - 1)) (fun v => if v ∈ infs then some tmin else none)
      (EventSIR.init ⟨nodes, nbrs, joint, tmin, tmax⟩ infs recs).queue [] from {
    st_S := by intro v; by_cases hv : v ∈ recs <;> simp [hv]
    tr_nodup := by simp
    tr_lt := by simp
    tr_src := by simp
    tr_walk := by simp
    tr_opt := by simp
    q_lt := by
      intro x hx
      obtain ⟨hlt, u, _, rfl⟩ := hmem x hx
      exact hlt
    q_tr := by
      intro x hx src v hev
      obtain ⟨hlt, u, hu, rfl⟩ := hmem x hx
      simp only [QEv.trans.injEq] at hev
      obtain ⟨rfl, rfl⟩ := hev
      exact ⟨h.infs_mem _ hu, hu, rfl⟩
    pred_edge := by simp
    pred_init := by
      intro v hv _
      simp [hv]
    pred_q := by
      intro v p hv hp hlt
      simp only at hp
      split at hp
      · rename_i hvi
        injection hp with hp; subst hp
        refine ⟨⟨tmin, QEv.trans none v⟩, ?_, rfl, none, rfl⟩
        rw [init_queue, if_pos hlt]
        exact List.mem_map.2 ⟨v, hvi, rfl⟩
      · cases hp
    rec_time := by simp
    rec_R := by
      intro v hv hr
      have hv' : (if v ∈ recs then St.R else St.S) = St.R := hv
      rw [if_neg hr] at hv'; cases hv'
    rec_I := by
      intro v r hv
      have hv' : (if v ∈ recs then St.R else St.S) = St.I := hv
      split at hv' <;> cases hv'
    rec_q := by
      intro x hx u hev
      obtain ⟨_, u', _, rfl⟩ := hmem x hx
      cases hev
    rec_cnt := by
      intro t u
      have : (EventSIR.init ⟨nodes, nbrs, joint, tmin, tmax⟩ infs recs).queue.count (⟨t, QEv.recov u⟩ : QItem) = 0 := by
        apply List.count_eq_zero_of_not_mem
        intro hin
        obtain ⟨_, u', _, g⟩ := hmem _ hin
        cases g
      omega }

theorem Inv.run (h : WF nodes nbrs delay dur infs recs) (hJ : RuleFits nbrs delay dur joint) (sel : Nat → Nat)
    (fuel : Nat) :
    Inv nodes nbrs delay dur tmin tmax infs recs (run ⟨nodes, nbrs, joint, tmin, tmax⟩ sel infs recs fuel) :=
  loop_ind _ (fun _ _ _ hI hs => hI.step h hJ hs) fuel 0 _ (Inv.init h)

/-- the measure of termination: a susceptible node weighs more than all the events its infection can queue -/
def mu (nodes : List Node) (s : ESState) : Nat :=
  nodes.countP (fun v => s.status v = St.S) * (nodes.length + 1) + s.queue.length

theorem nodup_length_le {l nodes : List Node} (hn : l.Nodup) (hs : ∀ x ∈ l, x ∈ nodes) : l.length ≤ nodes.length :=
  (List.subperm_of_subset hn hs).length_le

/-- an infection lowers the number of susceptible nodes; the table-driven rule then queues at most one event per
neighbour and one recovery -/
theorem mu_step (h : WF nodes nbrs delay dur infs recs) {sel : Nat} {s s' : ESState}
    (hI : Inv nodes nbrs delay dur tmin tmax infs recs s)
    (hs : step (tableParams nodes nbrs delay dur tmin tmax) sel s = some s') : mu nodes s' < mu nodes s := by
  obtain ⟨x, l1, l2, hq, hmin, hc⟩ := step_some hs
  have hx : x ∈ s.queue := by rw [hq]; simp
  have hlen : s.queue.length = (l1 ++ l2).length + 1 := by
    rw [hq]; simp only [List.length_append, List.length_cons]; omega
  unfold mu
  rw [hlen]
  rcases hc with ⟨src, tgt, hev, rfl⟩ | ⟨u, hev, rfl⟩
  · by_cases hst : s.status tgt = St.S
    · rw [processTrans_S _ { s with queue := l1 ++ l2 } _ _ _ hst]
      have htn : tgt ∈ nodes := (hI.q_tr x hx src tgt hev).1
      have hc := Rows.countP_fset s.status tgt St.I St.S nodes h.nodup
      rw [if_pos ⟨htn, hst⟩, if_neg (by simp)] at hc
      obtain ⟨r, ex, hqn, hr, hex, _⟩ := sched_queue tmax s.predInf (l1 ++ l2) x.time tgt
        (ask (tableParams nodes nbrs delay dur tmin tmax) s.status tgt)
      have hrow : (ask (tableParams nodes nbrs delay dur tmin tmax) s.status tgt).1.length ≤ (nbrs tgt).length := by
        show (((nbrs tgt).filter _).map _).length ≤ _
        rw [List.length_map]; exact List.length_filter_le _ _
      have hnb : (nbrs tgt).length ≤ nodes.length :=
        nodup_length_le (h.nbr_nodup tgt htn) (h.nbr_mem tgt htn)
      have hmul := congrArg (· * (nodes.length + 1)) hc
      simp only [Nat.add_mul, Nat.add_zero] at hmul
      show nodes.countP (fun v => decide (fset s.status tgt St.I v = St.S)) * (nodes.length + 1) +
        (sched tmax s.predInf (l1 ++ l2) x.time tgt _).2.length < _
      rw [hqn]
      simp only [List.length_append] at hlen ⊢
      omega
    · rw [processTrans_notS _ { s with queue := l1 ++ l2 } _ _ _ hst]
      exact Nat.lt_succ_self _
  · have hc := Rows.countP_fset s.status u St.R St.S nodes h.nodup
    rw [if_neg (by rw [(hI.rec_q x hx u hev).1]; simp), if_neg (by simp), Nat.add_zero, Nat.add_zero] at hc
    show nodes.countP (fun v => decide (fset s.status u St.R v = St.S)) * (nodes.length + 1) + (l1 ++ l2).length < _
    rw [hc]
    exact Nat.lt_succ_self _

theorem loop_queue_empty (h : WF nodes nbrs delay dur infs recs) (sel : Nat → Nat) (fuel : Nat) :
    ∀ (k : Nat) (s : ESState), Inv nodes nbrs delay dur tmin tmax infs recs s → mu nodes s ≤ fuel →
      (loop (tableParams nodes nbrs delay dur tmin tmax) sel fuel k s).queue = [] := by
  induction fuel with
  | zero =>
    intro k s _ hm
    unfold mu at hm
    unfold EventSIR.loop
    exact List.length_eq_zero_iff.1 (by omega)
  | succ fuel ih =>
    intro k s hI hm
    unfold EventSIR.loop
    split
    · rename_i hs; exact step_none hs
    · rename_i s' hs
      have := mu_step h hI hs
      exact ih _ _ (hI.step h (RuleFits.tables nbrs delay dur) hs) (by omega)

theorem mu_init (h : WF nodes nbrs delay dur infs recs) :
    mu nodes (init (tableParams nodes nbrs delay dur tmin tmax) infs recs) ≤
      (nodes.length + 1) * (nodes.length + 1) + nodes.length := by
  unfold mu
  have h1 : nodes.countP (fun v => decide ((init (tableParams nodes nbrs delay dur tmin tmax) infs recs).status v = St.S))
      ≤ nodes.length := List.countP_le_length
  have h2 : (init (tableParams nodes nbrs delay dur tmin tmax) infs recs).queue.length ≤ nodes.length := by
    rw [init_queue]
    have := nodup_length_le h.infs_nodup h.infs_mem
    split
    · simpa using this
    · simp
  have hmul := Nat.mul_le_mul_right (nodes.length + 1) h1
  have : nodes.length * (nodes.length + 1) ≤ (nodes.length + 1) * (nodes.length + 1) :=
    Nat.mul_le_mul_right _ (by omega)
  omega

end Loop

end EventSIR
