import EoNVerif.Gen.InvestGen
import EoNVerif.Proofs.Helpers
import EoNVerif.Proofs.GenInvest
import Mathlib.Tactic.Linarith
/-!
C20b — lemmas: the Lean code GENERATED from `EoN.auxiliary.subsample` / `get_time_shift` (end of Gen/InvestGen.lean:
`GenInvest.subsample_inner / subsample_outer / subsample`, `get_time_shift_loop / get_time_shift`) equals the hand-written
models `Helpers.subsample` / `Helpers.timeShift` (Model/Helpers.lean).

The generated code walks the two grids by index (two-pointer loops with fuel, the possibly unbound Python local
`candidate` as an `Option`); the model walks the zipped list of observations.  The bridge is
`List.drop k (times.zip status)`: "the observations from index `k` on".
-/

namespace GenAux
open PyRT GenInvest GenInvestProofs

/-- reading the results of the model as Python does: an unbound `candidate` raises -/
def unwrapAll {α : Type} : List (Option α) → Except String (List α)
  | [] => .ok []
  | some c :: t => (unwrapAll t).map (c :: ·)
  | none :: _ => .error "UnboundLocalError"

@[simp] theorem unwrapAll_map_some {α : Type} (l : List α) : unwrapAll (l.map some) = .ok l := by
  induction l with
  | nil => rfl
  | cons a t ih => simp [unwrapAll, ih, Except.map]

theorem pyIndex_zero_nil {α : Type} : pyIndex ([] : List α) 0 = .error "IndexError" :=
  GenInvestProofs.pyIndex_zero_nil

theorem drop_zip_cons {α : Type} (times : List Rat) (status : List α) (k : Nat)
    (hk : k < times.length) (hk' : k < status.length) :
    (times.zip status).drop k = (times[k], status[k]) :: (times.zip status).drop (k + 1) := by
  have h : k < (times.zip status).length := by rw [List.length_zip]; omega
  rw [List.drop_eq_getElem_cons h]
  simp

theorem inner_eq_advance {α : Type} (times : List Rat) (status : List α) (hlen : times.length ≤ status.length)
    (r : Rat) (fuel k : Nat) (cand : Option α) (hk : k ≤ times.length) (hf : times.length - k < fuel) :
    ∃ k' c', k ≤ k' ∧ k' ≤ times.length ∧
      subsample_inner times status r fuel k cand = .ok (k', c') ∧
      Helpers.advance ((times.zip status).drop k) r cand = ((times.zip status).drop k', c') := by
  induction fuel generalizing k cand with
  | zero => exact absurd hf (Nat.not_lt_zero _)
  | succ fuel ih =>
    by_cases hk1 : k < times.length
    · have hk2 : k < status.length := Nat.lt_of_lt_of_le hk1 hlen
      rw [drop_zip_cons times status k hk1 hk2]
      by_cases hle : times[k] ≤ r
      · obtain ⟨k', c', h1, h2, h3, h4⟩ := ih (k + 1) (some status[k]) hk1 (by omega)
        refine ⟨k', c', Nat.le_of_succ_le h1, h2, ?_, ?_⟩
        · rw [subsample_inner]
          simp only [hk1, if_true, pyIndex_nat times k hk1, pyIndex_nat status k hk2]
          simpa [bind, Except.bind, hle] using h3
        · simpa [Helpers.advance, hle] using h4
      · refine ⟨k, cand, le_refl _, hk, ?_, ?_⟩
        · rw [subsample_inner]
          simp only [hk1, if_true, pyIndex_nat times k hk1]
          simp [bind, Except.bind, hle, pure, Except.pure]
        · rw [← drop_zip_cons times status k hk1 hk2]
          simp [drop_zip_cons times status k hk1 hk2, Helpers.advance, hle]
    · have hk0 : k = times.length := Nat.le_antisymm hk (Nat.le_of_not_lt hk1)
      refine ⟨k, cand, le_refl _, hk, ?_, ?_⟩
      · rw [subsample_inner]
        simp [hk1, pure, Except.pure]
      · have : (times.zip status).drop k = [] := by
          rw [List.drop_eq_nil_iff, List.length_zip, Nat.min_eq_left hlen]
          omega
        simp [this, Helpers.advance]

theorem outer_eq_scan {α : Type} (report times : List Rat) (status : List α) (hlen : times.length ≤ status.length)
    (fuel i k : Nat) (cand : Option α) (acc : List α)
    (hi : i ≤ report.length) (hk : k ≤ times.length) (hf : report.length - i < fuel) :
    subsample_outer report times status fuel i k cand acc
      = (unwrapAll (Helpers.scan ((times.zip status).drop k) cand (report.drop i))).map (acc ++ ·) := by
  induction fuel generalizing i k cand acc with
  | zero => exact absurd hf (Nat.not_lt_zero _)
  | succ fuel ih =>
    by_cases hi1 : i < report.length
    · rw [List.drop_eq_getElem_cons hi1]
      obtain ⟨k', c', h1, h2, h3, h4⟩ :=
        inner_eq_advance times status hlen report[i] (times.length + 1) k cand hk (Nat.lt_succ_of_le (Nat.sub_le _ _))
      rw [subsample_outer]
      simp only [hi1, if_true, pyIndex_nat report i hi1, Helpers.scan, h4]
      cases c' with
      | none => simp [bind, Except.bind, h3, unwrapAll, Except.map, throw, throwThe, MonadExceptOf.throw]
      | some c =>
        have := ih (i + 1) k' (some c) (acc ++ [c]) hi1 h2 (by omega)
        simp only [bind, Except.bind, h3, pure, Except.pure, this, unwrapAll]
        cases unwrapAll (Helpers.scan ((times.zip status).drop k') (some c) (report.drop (i + 1))) <;>
          simp [Except.map]
    · have : report.drop i = [] := by
        rw [List.drop_eq_nil_iff]
        omega
      rw [subsample_outer]
      simp [hi1, this, Helpers.scan, unwrapAll, Except.map, pure, Except.pure]

/-! ### the candidate is bound from the first report on -/

theorem advance_isSome {α : Type} (obs : List (Rat × α)) (r : Rat) (cand : Option α) (h : cand.isSome) :
    (Helpers.advance obs r cand).2.isSome := by
  induction obs generalizing cand with
  | nil => simpa [Helpers.advance] using h
  | cons o rest ih =>
    obtain ⟨t, s⟩ := o
    by_cases hle : t ≤ r
    · simpa [Helpers.advance, hle] using ih (some s) rfl
    · simpa [Helpers.advance, hle] using h

theorem scan_some {α : Type} (obs : List (Rat × α)) (cand : Option α) (h : cand.isSome) (rs : List Rat) :
    ∃ l : List α, Helpers.scan obs cand rs = l.map some := by
  induction rs generalizing obs cand with
  | nil => exact ⟨[], rfl⟩
  | cons r rs ih =>
    have h1 := advance_isSome obs r cand h
    obtain ⟨l, hl⟩ := ih (Helpers.advance obs r cand).1 (Helpers.advance obs r cand).2 h1
    obtain ⟨c, hc⟩ := Option.isSome_iff_exists.1 h1
    rw [hc] at hl
    refine ⟨c :: l, ?_⟩
    simp only [Helpers.scan, hc, hl, List.map_cons]

theorem scan_first_some {α : Type} (t : Rat) (s : α) (obs : List (Rat × α)) (r : Rat) (rs : List Rat) (h : t ≤ r) :
    ∃ l : List α, Helpers.scan ((t, s) :: obs) none (r :: rs) = l.map some := by
  have h1 : (Helpers.advance ((t, s) :: obs) r none).2.isSome := by
    simpa [Helpers.advance, h] using advance_isSome obs r (some s) rfl
  obtain ⟨l, hl⟩ := scan_some (Helpers.advance ((t, s) :: obs) r none).1 _ h1 rs
  obtain ⟨c, hc⟩ := Option.isSome_iff_exists.1 h1
  rw [hc] at hl
  refine ⟨c :: l, ?_⟩
  simp only [Helpers.scan, hc, hl, List.map_cons]

/-! ### error behaviour of the loops for ALL inputs (no hypothesis on the lengths): never "fuel" -/

theorem inner_errors {α : Type} (times : List Rat) (status : List α) (r : Rat) (fuel k : Nat) (cand : Option α)
    (hf : times.length - k < fuel) (e : String)
    (h : subsample_inner times status r fuel k cand = .error e) : e = "IndexError" := by
  induction fuel generalizing k cand with
  | zero => exact absurd hf (Nat.not_lt_zero _)
  | succ fuel ih =>
    rw [subsample_inner] at h
    by_cases hk1 : k < times.length
    · simp only [hk1, if_true, pyIndex_nat times k hk1] at h
      by_cases hle : times[k] ≤ r
      · by_cases hk2 : k < status.length
        · simp only [bind, Except.bind, hle, if_true, pyIndex_nat status k hk2] at h
          exact ih (k + 1) (some status[k]) (by omega) h
        · simp only [bind, Except.bind, hle, if_true, pyIndex_nat_err status k (Nat.le_of_not_lt hk2)] at h
          injection h with h
          exact h.symm
      · simp [bind, Except.bind, hle, pure, Except.pure] at h
    · simp [hk1, pure, Except.pure] at h

theorem outer_errors {α : Type} (report times : List Rat) (status : List α)
    (fuel i k : Nat) (cand : Option α) (acc : List α) (hf : report.length - i < fuel) (e : String)
    (h : subsample_outer report times status fuel i k cand acc = .error e) :
    e = "IndexError" ∨ e = "UnboundLocalError" := by
  induction fuel generalizing i k cand acc with
  | zero => exact absurd hf (Nat.not_lt_zero _)
  | succ fuel ih =>
    rw [subsample_outer] at h
    by_cases hi1 : i < report.length
    · simp only [hi1, if_true, pyIndex_nat report i hi1] at h
      cases hin : subsample_inner times status report[i] (times.length + 1) k cand with
      | error e' =>
        have he' := inner_errors times status report[i] (times.length + 1) k cand (Nat.lt_succ_of_le (Nat.sub_le _ _)) e' hin
        simp only [bind, Except.bind, hin] at h
        injection h with h
        left
        rw [← h, he']
      | ok p =>
        obtain ⟨k', c'⟩ := p
        cases c' with
        | none =>
          simp only [bind, Except.bind, hin, throw, throwThe, MonadExceptOf.throw] at h
          injection h with h
          right
          exact h.symm
        | some c =>
          simp only [bind, Except.bind, hin, pure, Except.pure] at h
          exact ih (i + 1) k' (some c) (acc ++ [c]) (by omega) h
    · simp [hi1, pure, Except.pure] at h

/-- the `for index, t in enumerate(times)` loop started at index `k` with `t` bound to `prev` -/
theorem time_shift_loop_eq (L : List Rat) (thr : Rat) (ts : List Rat) (k : Nat) (prev : Option Rat) :
    get_time_shift_loop L thr ((List.range' k ts.length).zip ts) prev =
      match (ts.zip (L.drop k)).find? (fun p => p.2 ≥ thr) with
      | some p => .ok (some p.1)
      | none => if L.length - k < ts.length then .error "IndexError" else .ok (ts.getLast?.or prev) := by
  induction ts generalizing k prev with
  | nil => simp [get_time_shift_loop, pure, Except.pure]
  | cons t ts ih =>
    simp only [List.length_cons, List.range'_succ, List.zip_cons_cons, get_time_shift_loop]
    by_cases hk : k < L.length
    · rw [pyIndex_nat L k hk, List.drop_eq_getElem_cons hk]
      by_cases hge : L[k] ≥ thr
      · simp only [bind, Except.bind, hge, pure, Except.pure, if_true, List.zip_cons_cons, List.find?_cons,
          decide_true]
      · have hstep : L.length - (k + 1) < ts.length ↔ L.length - k < ts.length + 1 := by omega
        have hlast : ts.getLast?.or (some t) = (t :: ts).getLast?.or prev := by
          cases ts with
          | nil => simp
          | cons a ts' =>
            rw [List.getLast?_cons_cons, List.getLast?_eq_some_getLast (List.cons_ne_nil a ts')]
            simp
        simp only [bind, Except.bind, hge, if_false, ih (k + 1) (some t), List.zip_cons_cons,
          List.find?_cons, decide_false, hstep, hlast]
    · have hd : L.drop k = [] := by
        rw [List.drop_eq_nil_iff]
        omega
      have hlt : L.length - k < ts.length + 1 := by omega
      simp [pyIndex_nat_err L k (by omega), bind, Except.bind, hd, hlt]

end GenAux
