import EoNVerif.Basic
import Mathlib.Tactic.Linarith
import Mathlib.Algebra.Order.Field.Rat
/-!
`ERat`, a time or `inf` (`none`): what `ERat.lt`, `ERat.le`, `ERat.add` evaluate to on each shape of argument (`simp`
lemmas), and the order facts the event-driven models and their refinements use.
-/

namespace ERat
@[simp] theorem le_some_some (x y : Rat) : ERat.le (some x) (some y) = decide (x ≤ y) := rfl
@[simp] theorem le_none (a : ERat) : ERat.le a none = true := by cases a <;> rfl
@[simp] theorem le_none_some (y : Rat) : ERat.le none (some y) = false := rfl
@[simp] theorem lt_some_some (x y : Rat) : ERat.lt (some x) (some y) = decide (x < y) := rfl
@[simp] theorem lt_some_none (x : Rat) : ERat.lt (some x) none = true := rfl
@[simp] theorem lt_none (b : ERat) : ERat.lt none b = false := rfl
@[simp] theorem add_some_some (x y : Rat) : ERat.add (some x) (some y) = some (x + y) := rfl
@[simp] theorem add_none_left (b : ERat) : ERat.add none b = none := rfl
@[simp] theorem add_none_right (a : ERat) : ERat.add a none = none := by cases a <;> rfl

theorem le_refl (a : ERat) : ERat.le a a = true := by cases a <;> simp
theorem le_trans {a b c : ERat} (h1 : ERat.le a b = true) (h2 : ERat.le b c = true) : ERat.le a c = true := by
  cases a <;> cases b <;> cases c <;> simp_all
  linarith
theorem le_of_not_lt {a b : ERat} (h : ERat.lt a b = false) : ERat.le b a = true := by
  cases a <;> cases b <;> simp_all
theorem add_le_add_right {a b : ERat} (c : ERat) (h : ERat.le a b = true) :
    ERat.le (ERat.add a c) (ERat.add b c) = true := by
  cases a <;> cases b <;> cases c <;> simp_all
theorem le_some_iff {a : ERat} {y : Rat} : ERat.le a (some y) = true ↔ ∃ x, a = some x ∧ x ≤ y := by
  cases a <;> simp
theorem add_eq_some {a b : ERat} {t : Rat} : ERat.add a b = some t ↔ ∃ x y, a = some x ∧ b = some y ∧ x + y = t := by
  cases a <;> cases b <;> simp
theorem le_of_lt {a b : ERat} (h : ERat.lt a b = true) : ERat.le a b = true := by
  cases a <;> cases b <;> simp_all
  linarith
theorem add_le_add_left_iff (x : Rat) (a b : ERat) :
    ERat.le (ERat.add (some x) a) (ERat.add (some x) b) = ERat.le a b := by
  cases a <;> cases b <;> simp
theorem lt_of_le_of_lt {a b c : ERat} (h1 : ERat.le a b = true) (h2 : ERat.lt b c = true) : ERat.lt a c = true := by
  cases a <;> cases b <;> cases c <;> simp_all
  linarith
end ERat
