import EoNVerif.Proofs.EventSIRFinal
import EoNVerif.Proofs.Rows
/-!
The row lists (`times`, `S`, `I`, `R`) kept by the event loop.  The invariant `RInv` (the lists are the columns of a
`Rows.Book` for the current statuses, no queued event is earlier than the newest row, and there is at least one `tmin` row
more than there are reported transmissions at `tmin`) is carried along `loop` next to the Dijkstra invariant `Inv`;
`Rows.Book.wellFormed` then gives `Pred.wellFormed` of the returned arrays.
For `heapq` tie-breaking (`sel = 0`) the first `len(initial_infecteds)` pops are shown to be the initial events.
-/
namespace EventSIR
open Rows (Row Book cnt)

def traj (s : ESState) (k : Nat) : Traj :=
  { times := (rows s k).1, cols := [(rows s k).2.1, (rows s k).2.2.1, (rows s k).2.2.2] }

theorem cnt_init (nodes recs : List Node) (hn : nodes.Nodup) (hrn : recs.Nodup) (hsub : ∀ u ∈ recs, u ∈ nodes) :
    cnt nodes (fun v => if v ∈ recs then St.R else St.S) St.S = (nodes.length : Int) - (recs.length : Int) ∧
    cnt nodes (fun v => if v ∈ recs then St.R else St.S) St.I = 0 ∧
    cnt nodes (fun v => if v ∈ recs then St.R else St.S) St.R = (recs.length : Int) := by
  have hsum := Rows.cnt_sum nodes (fun v => if v ∈ recs then St.R else St.S)
  have hR := Rows.cnt_eq_length nodes recs hn hrn (fun v => if v ∈ recs then St.R else St.S) St.R
    (fun v => by by_cases hv : v ∈ recs <;> simp [hv, hsub v])
  have hI := Rows.cnt_eq_length nodes [] hn List.nodup_nil (fun v => if v ∈ recs then St.R else St.S) St.I
    (fun v => by by_cases hv : v ∈ recs <;> simp [hv])
  rw [List.length_nil] at hI
  exact ⟨by omega, hI, hR⟩

section Rows
variable {nodes : List Node} {nbrs : Node → List Node} {delay : Node → Node → ERat} {dur : Node → ERat}
  {tmin : Rat} {tmax : ERat} {infs recs : List Node} {joint : Node → List Node → List (Node × ERat) × ERat}

theorem sched_ge (h : WF nodes nbrs delay dur infs recs) {st : Node → St} {tgt : Node}
    {jr : List (Node × ERat) × ERat} (hjr : RowFits nbrs delay dur st tgt jr) (pr : Node → ERat) (q : List QItem)
    (time : Rat) : ∃ ex, (sched tmax pr q time tgt jr).2 = q ++ ex ∧ ∀ y ∈ ex, time ≤ y.time := by
  obtain ⟨r, ex, hq, _, _, hr, _, hex⟩ := sched_queue tmax pr q time tgt jr
  refine ⟨r ++ ex, by rw [hq, List.append_assoc], ?_⟩
  intro y hy
  rcases List.mem_append.1 hy with hy | hy
  · obtain ⟨t, rfl, g, _⟩ := hr y hy
    obtain ⟨a, b, ha, hb, hab⟩ := ERat.add_eq_some.1 g
    injection ha with ha
    have := h.dur_nonneg tgt b (hjr.dur ▸ hb)
    show time ≤ t
    linarith
  · obtain ⟨v, d, t, hvd, rfl, g, _⟩ := hex y hy
    obtain ⟨a, b, ha, hb, hab⟩ := ERat.add_eq_some.1 g
    injection ha with ha
    have := h.delay_nonneg tgt v b ((hjr.mem v d hvd).2 ▸ hb)
    show time ≤ t
    linarith

/-- the row invariant on the components of the state; `rs` is the list of rows, newest first -/
structure RInvC (nodes : List Node) (tmin : Rat) (tmax : ERat) (st : Node → St) (q : List QItem) (tr : List TEv)
    (rs : List Row) : Prop where
  st_nodes : ∀ v, st v ≠ St.S → v ∈ nodes
  book : Book false nodes tmin tmax st rs
  qmin : ∀ r ∈ rs.head?, ∀ x ∈ q, r.t ≤ x.time
  cntT : (tr.countP fun e => decide (e.1 = tmin)) + 1 ≤ rs.countP fun r => decide (r.t = tmin)

def RInv (nodes : List Node) (tmin : Rat) (tmax : ERat) (s : ESState) : Prop :=
  ∃ rs : List Row, s.times = rs.map (·.t) ∧ s.S = rs.map (·.S) ∧ s.I = rs.map (·.I) ∧ s.R = rs.map (·.R) ∧
    RInvC nodes tmin tmax s.status s.queue s.trans rs

theorem RInv.step (h : WF nodes nbrs delay dur infs recs) (hJ : RuleFits nbrs delay dur joint) {sel : Nat}
    {s s' : ESState} (hI : Inv nodes nbrs delay dur tmin tmax infs recs s) (hR : RInv nodes tmin tmax s)
    (hs : step ⟨nodes, nbrs, joint, tmin, tmax⟩ sel s = some s') : RInv nodes tmin tmax s' := by
  obtain ⟨rs, et, eS, eI, eR, hC⟩ := hR
  obtain ⟨x, l1, l2, hq, hmin, hc⟩ := step_some hs
  obtain ⟨r, rest, hrs, -⟩ := hC.book.head
  have hx : x ∈ s.queue := by rw [hq]; simp
  have hrq : ∀ y ∈ s.queue, r.t ≤ y.time := hC.qmin r (by rw [hrs]; rfl)
  have hsubq : ∀ y ∈ l1 ++ l2, y ∈ s.queue := fun y hy => by rw [hq]; exact EvQ.mem_mid hy
  have hdS : hd s.S = r.S := by rw [eS, hrs]; rfl
  have hdI : hd s.I = r.I := by rw [eI, hrs]; rfl
  have hdR : hd s.R = r.R := by rw [eR, hrs]; rfl
  -- the state after a node `u` has moved S→I or I→R (`b` is its new status): a new row at the popped time
  have hpush : ∀ (u : Node) (b : St), u ∈ nodes → (s.status u = St.S ∧ b = St.I ∨ s.status u = St.I ∧ b = St.R) →
      ∀ (q' : List QItem) (tr' : List TEv) (nS nI nR : Int), (∀ y ∈ q', x.time ≤ y.time) →
      (tr'.countP fun e => decide (e.1 = tmin)) + 1 ≤ (rs.countP fun r => decide (r.t = tmin)) +
        (if x.time = tmin then 1 else 0) →
      (s.status u = St.S → nS = hd s.S - 1 ∧ nI = hd s.I + 1 ∧ nR = hd s.R) →
      (s.status u = St.I → nS = hd s.S ∧ nI = hd s.I - 1 ∧ nR = hd s.R + 1) →
      ∃ rs' : List Row, x.time :: s.times = rs'.map (·.t) ∧ nS :: s.S = rs'.map (·.S) ∧
        nI :: s.I = rs'.map (·.I) ∧ nR :: s.R = rs'.map (·.R) ∧
        RInvC nodes tmin tmax (fset s.status u b) q' tr' rs' := by
    intro u b hu hab q' tr' nS nI nR hq' htr' h1 h2
    obtain ⟨new, hnt, hB, hnew⟩ := hC.book.push h.nodup hrs hu (hrq x hx) (hI.q_lt x hx)
      (hab.imp id (fun g => ⟨g.1, g.2⟩))
    have hcol : nS = new.S ∧ nI = new.I ∧ nR = new.R := by
      rcases hnew with ⟨g, g1, g2, g3⟩ | ⟨g, g1, g2, g3⟩
      · obtain ⟨e1, e2, e3⟩ := h1 g
        rw [e1, e2, e3, g1, g2, g3, hdS, hdI, hdR]; exact ⟨rfl, rfl, rfl⟩
      · obtain ⟨e1, e2, e3⟩ := h2 g
        simp only [Bool.false_eq_true, if_false, Int.add_zero] at g2 g3
        rw [e1, e2, e3, g1, g2, g3, hdS, hdI, hdR]; exact ⟨rfl, rfl, rfl⟩
    refine ⟨new :: rs, by rw [List.map_cons, hnt, et], by rw [List.map_cons, ← eS, hcol.1],
      by rw [List.map_cons, ← eI, hcol.2.1], by rw [List.map_cons, ← eR, hcol.2.2], ?_, hB, ?_, ?_⟩
    · intro v hv
      by_cases hvt : v = u
      · rw [hvt]; exact hu
      · exact hC.st_nodes v (by rwa [fset_ne _ _ _ _ hvt] at hv)
    · intro r' hr' y hy
      cases hr'
      rw [hnt]; exact hq' y hy
    · rw [List.countP_cons, hnt]
      simp only [decide_eq_true_eq]
      exact htr'
  rcases hc with ⟨src, tgt, hev, rfl⟩ | ⟨u, hev, rfl⟩
  · by_cases hst : s.status tgt = St.S
    · rw [processTrans_S _ { s with queue := l1 ++ l2 } _ _ _ hst]
      obtain ⟨ex, hqn, hex⟩ := sched_ge (tmax := tmax) h (hJ s.status tgt) s.predInf (l1 ++ l2) x.time
      exact hpush tgt St.I (hI.q_tr x hx src tgt hev).1 (Or.inl ⟨hst, rfl⟩) _ ((x.time, src, tgt) :: s.trans) _ _ _
        (fun y hy => (List.mem_append.1 (hqn ▸ hy)).elim (fun hy => hmin y (hsubq y hy)) (hex y))
        (by have := hC.cntT; rw [List.countP_cons]; simp only [decide_eq_true_eq]; omega)
        (fun _ => ⟨rfl, rfl, rfl⟩) (fun g => by rw [hst] at g; cases g)
    · rw [processTrans_notS _ { s with queue := l1 ++ l2 } _ _ _ hst]
      exact ⟨rs, et, eS, eI, eR, hC.st_nodes, hC.book, fun r' hr' y hy => hC.qmin r' hr' y (hsubq y hy), hC.cntT⟩
  · obtain ⟨hsu, _⟩ := hI.rec_q x hx u hev
    exact hpush u St.R (hC.st_nodes u (by rw [hsu]; exact fun g => nomatch g)) (Or.inr ⟨hsu, rfl⟩) (l1 ++ l2) s.trans _ _ _
      (fun y hy => hmin y (hsubq y hy)) (Nat.le_add_right_of_le hC.cntT)
      (fun g => by rw [hsu] at g; cases g) (fun _ => ⟨rfl, rfl, rfl⟩)

end Rows

section RowsLoop
variable {nodes : List Node} {nbrs : Node → List Node} {delay : Node → Node → ERat} {dur : Node → ERat}
  {tmin : Rat} {tmax : ERat} {infs recs : List Node} {joint : Node → List Node → List (Node × ERat) × ERat}

theorem RInv.init (h : WF nodes nbrs delay dur infs recs) (hrn : recs.Nodup)
    (htm : ERat.lt (some tmin) tmax = true) :
    RInv nodes tmin tmax (EventSIR.init ⟨nodes, nbrs, joint, tmin, tmax⟩ infs recs) := by
  obtain ⟨c1, c2, c3⟩ := cnt_init nodes recs h.nodup hrn h.recs_mem
  have hB := Book.single (sis := false) (nodes := nodes) (st := fun v => if v ∈ recs then St.R else St.S) htm
  rw [c1, c2, c3] at hB
  refine ⟨_, rfl, rfl, rfl, rfl, ?_, hB, ?_, ?_⟩
  · intro v hv
    by_cases hvr : v ∈ recs
    · exact h.recs_mem v hvr
    · exfalso; apply hv
      show (if v ∈ recs then St.R else St.S) = St.S
      rw [if_neg hvr]
  · intro r hr x hx
    cases hr
    rw [init_queue, if_pos htm] at hx
    obtain ⟨u, _, rfl⟩ := List.mem_map.1 hx
    exact le_refl _
  · show ([] : List TEv).countP _ + 1 ≤ _
    simp

theorem RInv.run (h : WF nodes nbrs delay dur infs recs) (hJ : RuleFits nbrs delay dur joint) (hrn : recs.Nodup)
    (htm : ERat.lt (some tmin) tmax = true) (sel : Nat → Nat) (fuel : Nat) :
    RInv nodes tmin tmax (run ⟨nodes, nbrs, joint, tmin, tmax⟩ sel infs recs fuel) :=
  (loop_ind (fun s => Inv nodes nbrs delay dur tmin tmax infs recs s ∧ RInv nodes tmin tmax s)
    (fun _ _ _ hI hs => ⟨hI.1.step h hJ hs, hI.2.step h hJ hI.1 hs⟩) fuel 0 _ ⟨Inv.init h, RInv.init h hrn htm⟩).2

theorem Inv.infs_reported (h : WF nodes nbrs delay dur infs recs) {s : ESState}
    (hI : Inv nodes nbrs delay dur tmin tmax infs recs s) (hq : s.queue = [])
    (htm : ERat.lt (some tmin) tmax = true) : ∀ v ∈ infs, ∃ e ∈ s.trans, e.2.2 = v ∧ e.1 = tmin := by
  intro v hv
  have hvr : v ∉ recs := h.disjoint v hv
  have hns : s.status v ≠ St.S := by
    intro hs
    obtain ⟨p0, hp0, hle⟩ := ERat.le_some_iff.1 (hI.pred_init v hv hs)
    have hlt : ERat.lt (some p0) tmax = true := ERat.lt_of_le_of_lt (by simpa using hle) htm
    obtain ⟨x, hx, _⟩ := hI.pred_q v p0 hs hp0 hlt
    rw [hq] at hx; simp at hx
  obtain ⟨e, he, hev⟩ := InvC.mem_of_not_S hI hns hvr
  refine ⟨e, he, hev, le_antisymm ?_ ?_⟩
  · apply hI.tr_opt e he [] tmin
    rw [hev]; exact GW.init _ ⟨hv, hvr⟩
  · obtain ⟨p, hp⟩ := hI.tr_walk e he
    exact GW.t0_le (Et_nonneg h) hp

theorem Inv.infs_count (h : WF nodes nbrs delay dur infs recs) {s : ESState}
    (hI : Inv nodes nbrs delay dur tmin tmax infs recs s) (hq : s.queue = [])
    (htm : ERat.lt (some tmin) tmax = true) :
    infs.length ≤ s.trans.countP fun e => decide (e.1 = tmin) := by
  rw [List.countP_eq_length_filter, ← List.length_map (f := fun e : TEv => e.2.2)]
  apply nodup_length_le h.infs_nodup
  intro v hv
  obtain ⟨e, he, hev, het⟩ := hI.infs_reported h hq htm v hv
  exact List.mem_map.2 ⟨e, List.mem_filter.2 ⟨he, by simpa using het⟩, hev⟩

theorem drop_head_tmin (tmin : Rat) : ∀ (c : List Row), c.Pairwise (fun a b => a.t ≤ b.t) → (∀ r ∈ c, tmin ≤ r.t) →
    ∀ k, k + 1 ≤ (c.countP fun r => decide (r.t = tmin)) → ∃ r rest, c.drop k = r :: rest ∧ r.t = tmin := by
  intro c
  induction c with
  | nil => intro _ _ k hk; simp at hk
  | cons a c ih =>
    intro hp hge k hk
    rw [List.pairwise_cons] at hp
    cases k with
    | zero =>
      refine ⟨a, c, rfl, ?_⟩
      have hpos : 0 < ((a :: c).countP fun r => decide (r.t = tmin)) := by omega
      obtain ⟨r, hr, hrt⟩ := List.countP_pos_iff.1 hpos
      simp only [decide_eq_true_eq] at hrt
      have h1 := hge a (List.mem_cons_self ..)
      rcases List.mem_cons.1 hr with rfl | hr
      · exact hrt
      · have := hp.1 r hr
        linarith
    | succ k =>
      rw [List.drop_succ_cons]
      apply ih hp.2 (fun r hr => hge r (List.mem_cons_of_mem _ hr))
      rw [List.countP_cons] at hk
      split_ifs at hk <;> omega

/-- **C04 core**: a terminated state satisfying both invariants has well-formed rows -/
theorem rows_wf_core (h : WF nodes nbrs delay dur infs recs) (htm : ERat.lt (some tmin) tmax = true) {s : ESState}
    (hI : Inv nodes nbrs delay dur tmin tmax infs recs s) (hR : RInv nodes tmin tmax s) (hq : s.queue = []) :
    Pred.wellFormed TrajKind.sirCont nodes.length tmin tmax false false (traj s infs.length) = true := by
  obtain ⟨rs, et, eS, eI, eR, hC⟩ := hR
  have htraj : traj s infs.length = Rows.trajOf false (rs.reverse.drop infs.length) := by
    unfold traj rows Rows.trajOf
    simp only [et, eS, eI, eR, List.map_drop, List.map_reverse, Bool.false_eq_true, if_false]
  rw [htraj]
  have hch : rs.reverse.IsChain (fun a b => Rows.mv false b a) := List.isChain_reverse.2 hC.book.chain
  refine hC.book.wellFormed infs.length (drop_head_tmin tmin rs.reverse ?_ ?_ _ ?_) (fun hs => nomatch hs)
  · have : Trans (fun a b : Row => a.t ≤ b.t) (fun a b : Row => a.t ≤ b.t) (fun a b : Row => a.t ≤ b.t) :=
      ⟨fun h1 h2 => le_trans h1 h2⟩
    exact List.isChain_iff_pairwise.1 (hch.imp fun a b hab => hab.1)
  · intro r hr; exact (hC.book.all r (List.mem_reverse.1 hr)).1
  · rw [List.countP_reverse]; exact le_trans (Nat.succ_le_succ (hI.infs_count h hq htm)) hC.cntT

end RowsLoop

/-! ### `heapq` tie-breaking (`sel = 0`): the initial events are popped first -/

theorem pop_zero_head (x : QItem) (rest : List QItem) (hmin : ∀ y ∈ rest, x.time ≤ y.time) :
    pop 0 (x :: rest) = some (x, rest) :=
  pop_zero_mid [] rest x (fun _ hy => absurd hy List.not_mem_nil) hmin

theorem col_drop (l lf : List Int) (k : Nat) (a : Int) (hl : l.length = k + 1) (hh : hd l = a) (hs : l <:+ lf) :
    (lf.reverse.drop k).getD 0 0 = a := by
  obtain ⟨ext, rfl⟩ := hs
  cases l with
  | nil => simp at hl
  | cons b tl =>
    have hb : b = a := hh
    have htl : tl.reverse.length = k := by simp at hl ⊢; omega
    have : (ext ++ b :: tl).reverse = tl.reverse ++ (b :: ext.reverse) := by simp
    rw [this, List.drop_left' htl, hb]
    rfl

section Heapq
variable {nodes : List Node} {nbrs : Node → List Node} {delay : Node → Node → ERat} {dur : Node → ERat}
  {tmin : Rat} {tmax : ERat} {infs recs : List Node} {joint : Node → List Node → List (Node × ERat) × ERat}

theorem step_suffix {P : ESParams} {sel : Nat} {s s' : ESState} (hs : step P sel s = some s') :
    s.S <:+ s'.S ∧ s.I <:+ s'.I ∧ s.R <:+ s'.R := by
  obtain ⟨x, l1, l2, _, _, hc⟩ := step_some hs
  rcases hc with ⟨src, tgt, _, rfl⟩ | ⟨u, _, rfl⟩
  · by_cases hst : s.status tgt = St.S
    · rw [processTrans_S _ { s with queue := l1 ++ l2 } _ _ _ hst]
      exact ⟨List.suffix_cons _ _, List.suffix_cons _ _, List.suffix_cons _ _⟩
    · rw [processTrans_notS _ { s with queue := l1 ++ l2 } _ _ _ hst]
      exact ⟨List.suffix_refl _, List.suffix_refl _, List.suffix_refl _⟩
  · exact ⟨List.suffix_cons _ _, List.suffix_cons _ _, List.suffix_cons _ _⟩

theorem loop_suffix (P : ESParams) (sel : Nat → Nat) (fuel k : Nat) (s : ESState) :
    s.S <:+ (loop P sel fuel k s).S ∧ s.I <:+ (loop P sel fuel k s).I ∧ s.R <:+ (loop P sel fuel k s).R :=
  loop_ind (fun s' => s.S <:+ s'.S ∧ s.I <:+ s'.I ∧ s.R <:+ s'.R)
    (fun _ _ _ ⟨a1, a2, a3⟩ hs => by
      obtain ⟨b1, b2, b3⟩ := step_suffix hs
      exact ⟨a1.trans b1, a2.trans b2, a3.trans b3⟩)
    fuel k s ⟨List.suffix_refl _, List.suffix_refl _, List.suffix_refl _⟩

def iniEv (tmin : Rat) (u : Node) : QItem := ⟨tmin, QEv.trans none u⟩

/-- state after the first `i` pops under `heapq` order: exactly the first `i` initial nodes have been infected -/
structure Ph (nodes : List Node) (nbrs : Node → List Node) (delay : Node → Node → ERat) (dur : Node → ERat)
    (tmin : Rat) (tmax : ERat) (infs recs : List Node) (i : Nat) (s : ESState) : Prop where
  inv : Inv nodes nbrs delay dur tmin tmax infs recs s
  queue : ∃ extra, s.queue = (infs.drop i).map (iniEv tmin) ++ extra ∧ ∀ x ∈ extra, tmin ≤ x.time
  tr : ∀ e ∈ s.trans, ∃ j, j < i ∧ infs[j]? = some e.2.2
  lenS : s.S.length = i + 1
  lenI : s.I.length = i + 1
  lenR : s.R.length = i + 1
  hdS : hd s.S = (nodes.length : Int) - (i : Int) - (recs.length : Int)
  hdI : hd s.I = (i : Int)
  hdR : hd s.R = (recs.length : Int)

theorem Ph.init (h : WF nodes nbrs delay dur infs recs) (htm : ERat.lt (some tmin) tmax = true) :
    Ph nodes nbrs delay dur tmin tmax infs recs 0 (EventSIR.init ⟨nodes, nbrs, joint, tmin, tmax⟩ infs recs) where
  inv := Inv.init h
  queue := by
    refine ⟨[], ?_, by simp⟩
    rw [init_queue, if_pos htm, List.append_nil, List.drop_zero]
    rfl
  tr := by intro e he; exact absurd he (by simp [EventSIR.init])
  lenS := rfl
  lenI := rfl
  lenR := rfl
  hdS := by
    show (nodes.length : Int) - (recs.length : Int) = _
    simp
  hdI := rfl
  hdR := rfl

theorem Ph.step (h : WF nodes nbrs delay dur infs recs) (hJ : RuleFits nbrs delay dur joint) {i : Nat} {s : ESState}
    (hP : Ph nodes nbrs delay dur tmin tmax infs recs i s) (hi : i < infs.length) :
    ∃ s', step ⟨nodes, nbrs, joint, tmin, tmax⟩ 0 s = some s' ∧
      Ph nodes nbrs delay dur tmin tmax infs recs (i + 1) s' := by
  obtain ⟨extra, hq, hex⟩ := hP.queue
  rw [List.drop_eq_getElem_cons hi, List.map_cons, List.cons_append] at hq
  have hu : infs[i] ∈ infs := List.getElem_mem hi
  have hmin : ∀ y ∈ (infs.drop (i + 1)).map (iniEv tmin) ++ extra, (iniEv tmin infs[i]).time ≤ y.time := by
    intro y hy
    rcases List.mem_append.1 hy with hy | hy
    · obtain ⟨v, _, rfl⟩ := List.mem_map.1 hy
      exact le_refl _
    · exact hex y hy
  have hpop := pop_zero_head _ _ hmin
  rw [← hq] at hpop
  have hst : s.status infs[i] = St.S := by
    refine (hP.inv.st_S _).2 ⟨h.disjoint _ hu, ?_⟩
    intro e he heq
    obtain ⟨j, hj, hje⟩ := hP.tr e he
    rw [heq, ← List.getElem?_eq_getElem hi] at hje
    have := (List.getElem?_inj (by omega) h.infs_nodup).1 hje
    omega
  have hs : EventSIR.step ⟨nodes, nbrs, joint, tmin, tmax⟩ 0 s =
      some (processTrans ⟨nodes, nbrs, joint, tmin, tmax⟩
        { s with queue := (infs.drop (i + 1)).map (iniEv tmin) ++ extra } tmin none infs[i]) := by
    unfold EventSIR.step
    rw [hpop]
    rfl
  refine ⟨_, hs, ?_⟩
  have hinv := hP.inv.step h hJ hs
  rw [processTrans_S _ { s with queue := (infs.drop (i + 1)).map (iniEv tmin) ++ extra } _ _ _ hst] at hinv ⊢
  obtain ⟨ex, hqn, hexs⟩ := sched_ge (tmax := tmax) h (hJ s.status infs[i]) s.predInf
    ((infs.drop (i + 1)).map (iniEv tmin) ++ extra) tmin
  exact {
    inv := hinv
    queue := ⟨extra ++ ex, hqn.trans (List.append_assoc ..), fun y hy =>
      (List.mem_append.1 hy).elim (hex y) (hexs y)⟩
    tr := by
      intro e he
      rcases List.mem_cons.1 he with rfl | he
      · exact ⟨i, by omega, List.getElem?_eq_getElem hi⟩
      · obtain ⟨j, hj, hje⟩ := hP.tr e he
        exact ⟨j, by omega, hje⟩
    lenS := by show (_ :: s.S).length = _; rw [List.length_cons, hP.lenS]
    lenI := by show (_ :: s.I).length = _; rw [List.length_cons, hP.lenI]
    lenR := by show (_ :: s.R).length = _; rw [List.length_cons, hP.lenR]
    hdS := by
      show hd s.S - 1 = _
      rw [hP.hdS]; push_cast; omega
    hdI := by
      show hd s.I + 1 = _
      rw [hP.hdI]; push_cast; omega
    hdR := hP.hdR }

/-- **C05 core**: under `heapq` order row `len(initial_infecteds)` of the raw arrays is the requested initial condition -/
theorem Ph.final (h : WF nodes nbrs delay dur infs recs) (hJ : RuleFits nbrs delay dur joint) :
    ∀ (d i : Nat) (s : ESState), i + d = infs.length →
    Ph nodes nbrs delay dur tmin tmax infs recs i s → ∀ (fuel idx : Nat),
    (loop ⟨nodes, nbrs, joint, tmin, tmax⟩ (fun _ => 0) fuel idx s).queue = [] →
    Pred.row (traj (loop ⟨nodes, nbrs, joint, tmin, tmax⟩ (fun _ => 0) fuel idx s) infs.length).cols 0 =
      [(nodes.length : Int) - (infs.length : Int) - (recs.length : Int), (infs.length : Int), (recs.length : Int)] := by
  intro d
  induction d with
  | zero =>
    intro i s hi hP fuel idx _
    have hik : i = infs.length := by omega
    subst hik
    obtain ⟨a1, a2, a3⟩ := loop_suffix ⟨nodes, nbrs, joint, tmin, tmax⟩ (fun _ => 0) fuel idx s
    have c1 := col_drop _ _ _ _ hP.lenS hP.hdS a1
    have c2 := col_drop _ _ _ _ hP.lenI hP.hdI a2
    have c3 := col_drop _ _ _ _ hP.lenR hP.hdR a3
    unfold traj rows Pred.row
    simp only [List.map_cons, List.map_nil]
    rw [c1, c2, c3]
  | succ d ih =>
    intro i s hi hP fuel idx hq
    have hlt : i < infs.length := by omega
    obtain ⟨s', hs, hP'⟩ := hP.step h hJ hlt
    cases fuel with
    | zero =>
      exfalso
      obtain ⟨extra, hqe, _⟩ := hP.queue
      rw [List.drop_eq_getElem_cons hlt] at hqe
      have : (loop ⟨nodes, nbrs, joint, tmin, tmax⟩ (fun _ => 0) 0 idx s).queue = s.queue := rfl
      rw [this, hqe] at hq
      simp at hq
      omega
    | succ fuel =>
      have hl : loop ⟨nodes, nbrs, joint, tmin, tmax⟩ (fun _ => 0) (fuel + 1) idx s =
          loop ⟨nodes, nbrs, joint, tmin, tmax⟩ (fun _ => 0) fuel (idx + 1) s' := by
        rw [EventSIR.loop]
        simp only [hs]
      rw [hl] at hq ⊢
      exact ih (i + 1) s' (by omega) hP' fuel (idx + 1) hq

end Heapq

end EventSIR
