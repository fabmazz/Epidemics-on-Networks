import EoNVerif.Gen.AnalyticLoops
import EoNVerif.Proofs.ODE
import EoNVerif.Proofs.DegList
import Mathlib.Tactic.Ring
import Mathlib.Tactic.Linarith
/-!
The pair-based right-hand sides generated from `EoN/analytic.py` (`Gen.dSIS_pair_based`, `Gen.dSIR_pair_based`,
triple-nested `for` loops with `+=` on array cells and `continue`) equal the closed-form hand models
`ODE.sisPairBased` / `ODE.sirPairBased` of `Model/ODE2.lean`.

The loop nests are restated with named step functions (`sisLoop`, `sirLoop`), for a list of node labels and an index
map as the code is written (so that they also serve the translation that keeps the labels, `Proofs/GenLabel.lean`), and
are definitionally the generated code at `idx = id`, `nl = range N`.  Every cell of their result is a sum over the node
list and the neighbour lists (`sisLoop_cells`, `sirLoop_cells`) of terms that depend on label-indexed data only; with
positions as labels and `(nbrs u).Nodup` the sum has one term, which is the component of the hand model.
-/

namespace GenEqLoops2
open Gen ODE

abbrev A := Nat → Rat
abbrev M := Nat → Nat → Rat

/-! ## 0. generic accumulation lemmas -/

theorem upd1_add (a : A) (i : Nat) (x : Rat) (k : Nat) : upd1 a i (a i + x) k = a k + if k = i then x else 0 := by
  by_cases h : k = i
  · subst h; simp
  · rw [upd1_other _ _ _ _ h, if_neg h, add_zero]

theorem upd2_add (a : M) (i j : Nat) (x : Rat) (k m : Nat) :
    upd2 a i j (a i j + x) k m = a k m + if k = i ∧ m = j then x else 0 := by
  by_cases h : k = i ∧ m = j
  · obtain ⟨rfl, rfl⟩ := h; simp
  · rw [upd2_other _ _ _ _ _ _ h, if_neg h, add_zero]

theorem foldl_keep {σ α : Type} (p : σ → Rat) (step : σ → α → σ) (l : List α)
    (h : ∀ s, ∀ v ∈ l, p (step s v) = p s) (s0 : σ) :
    p (l.foldl step s0) = p s0 := by
  have := foldl_acc_sumRat p step (fun _ => 0) l (by intro s v hv; rw [h s v hv]; ring) s0
  rw [this, sumRat_map_zero _ _ (fun _ _ => rfl)]; ring

/-! ### sums -/

theorem sumRat_pick2 (N : Nat) (nbrs : Nat → List Nat) (i j : Nat) (T : Nat → Nat → Rat) (hn : (nbrs i).Nodup) :
    sumRat ((List.range N).map fun u => sumRat ((nbrs u).map fun v => if i = u ∧ j = v then T u v else 0))
      = if i < N ∧ j ∈ nbrs i then T i j else 0 := by
  have h1 : ∀ u ∈ List.range N,
      sumRat ((nbrs u).map fun v => if i = u ∧ j = v then T u v else 0)
        = if i = u then (fun u => if j ∈ nbrs u then T u j else 0) u else 0 := by
    intro u _
    by_cases h : i = u
    · subst h; simp only [true_and, if_true]; exact sumRat_pick _ _ _ hn
    · simp only [h, false_and, if_false]; exact sumRat_map_zero _ _ (fun _ _ => rfl)
  rw [sumRat_map_congr _ _ _ h1, sumRat_pick_range]
  by_cases h1 : i < N <;> by_cases h2 : j ∈ nbrs i <;> simp [h1, h2]

/-! ## 1. the loop nests with named step functions -/

/-- `[1/v if v != 0 else 0 for v in X]`, as coded -/
def xinvG (x : Rat) : Rat := if x ≠ (0 : Rat) then ((1 : Rat) / x) else (0 : Rat)

theorem xinvG_eq (x : Rat) : xinvG x = xinv x := by
  unfold xinvG xinv; by_cases h : x = 0 <;> simp [h]

/-- innermost loops: `for w in ...: if w == s: continue; dXY[i,j] += f w; dXX[i,j] += g w` -/
def skipStep (s i j : Nat) (f g : Nat → Rat) (st : M × M) (w : Nat) : M × M :=
  if w = s then st else (upd2 st.1 i j (st.1 i j + f w), upd2 st.2 i j (st.2 i j + g w))

/-- the two triple loops of iteration `(u, v)`, writing to cell `(i, j)`: first over `w ∈ nbrs v` skipping `u`, then
over `w ∈ nbrs u` skipping `v` -/
def triples (nbrs : Nat → List Nat) (u v i j : Nat) (f1 g1 f2 g2 : Nat → Rat) (st : M × M) : M × M :=
  (nbrs u).foldl (skipStep v i j f2 g2) ((nbrs v).foldl (skipStep u i j f1 g1) st)

/-! The loop nests are written for a list `nl` of node labels and the position `idx u` of node `u` in the arrays, as
the code is (`nodelist`, `index_of_node`).  Everything the loops READ is given as a function of labels (`xy u v` is
`XY[idx u, idx v]`, `xi u` is `Xinv[idx u]`, `y u` is `Y[idx u]`), so that the increments do not mention `idx`; the
loops WRITE to the cells `idx u`, `(idx u, idx v)`.  The translation in which a node is its position is the case
`idx = id`, `nl = range N`. -/
section steps
variable (idx : Nat → Nat) (nbrs : Nat → List Nat) (tr : Nat → Nat → Rat) (rr : Nat → Rat) (xi : A) (xy xx : M)

/-! triple-term increments (`f1*`: the loop over `nbrs v`, `f2*`: over `nbrs u`); `xi j` is the code's `Xinv[j]` -/
def f1XY (u v w : Nat) : Rat := (((tr v w) * (xx u v)) * (xy v w)) * (xi v)
def f1XX (u v w : Nat) : Rat := (((-(tr v w)) * (xx u v)) * (xy v w)) * (xi v)
def f2XY (u v w : Nat) : Rat := (((-(tr u w)) * (xy u w)) * (xy u v)) * (xi u)
def f2XX (u v w : Nat) : Rat := (((-(tr u w)) * (xy u w)) * (xx u v)) * (xi u)

/-- both triple loops of `_dSIS_pair_based_` / `_dSIR_pair_based_` (they are identical) -/
def tri (u v : Nat) (st : M × M) : M × M :=
  triples nbrs u v (idx u) (idx v) (f1XY tr xi xy xx u v) (f1XX tr xi xy xx u v) (f2XY tr xi xy u v)
    (f2XX tr xi xy xx u v) st

def sisBXY (u v : Nat) : Rat :=
  ((-((tr u v) + (rr v))) * (xy u v)) + ((rr u) * ((((1 : Rat) - (xy u v)) - (xx u v)) - (xy v u)))
def sisBXX (u v : Nat) : Rat := ((rr u) * (xy v u)) + ((rr v) * (xy u v))

def sisStepV (u : Nat) (st : A × M × M) (v : Nat) : A × M × M :=
  let r := tri idx nbrs tr xi xy xx u v
    (upd2 st.2.1 (idx u) (idx v) (st.2.1 (idx u) (idx v) + sisBXY tr rr xy xx u v),
     upd2 st.2.2 (idx u) (idx v) (st.2.2 (idx u) (idx v) + sisBXX rr xy u v))
  (upd1 st.1 (idx u) (st.1 (idx u) + (tr u v) * (xy u v)), r.1, r.2)

def sisStepU (y : A) (st : A × M × M) (u : Nat) : A × M × M :=
  (nbrs u).foldl (sisStepV idx nbrs tr rr xi xy xx u)
    (upd1 st.1 (idx u) (st.1 (idx u) + (-(rr u)) * (y u)), st.2.1, st.2.2)

def sisLoop (nl : List Nat) (y : A) : A × M × M :=
  nl.foldl (sisStepU idx nbrs tr rr xi xy xx y) (fun _ => 0, fun _ _ => 0, fun _ _ => 0)

/-! SIR; the state of the outer loop is `(dY, dX, dXY, dXX)`, that of the `v` loop `(dX, dY, dXY, dXX)` -/
def sirBXY (u v : Nat) : Rat := (-((tr u v) + (rr v))) * (xy u v)

def sirStepV (u : Nat) (st : A × A × M × M) (v : Nat) : A × A × M × M :=
  let r := tri idx nbrs tr xi xy xx u v
    (upd2 st.2.2.1 (idx u) (idx v) (st.2.2.1 (idx u) (idx v) + sirBXY tr rr xy u v), st.2.2.2)
  (upd1 st.1 (idx u) (st.1 (idx u) + (-(tr u v)) * (xy u v)),
   upd1 st.2.1 (idx u) (st.2.1 (idx u) + (tr u v) * (xy u v)), r.1, r.2)

def sirStepU (y : A) (st : A × A × M × M) (u : Nat) : A × A × M × M :=
  let r := (nbrs u).foldl (sirStepV idx nbrs tr rr xi xy xx u)
    (st.2.1, upd1 st.1 (idx u) (st.1 (idx u) + (-(rr u)) * (y u)), st.2.2.1, st.2.2.2)
  (r.2.1, r.1, r.2.2.1, r.2.2.2)

def sirLoop (nl : List Nat) (y : A) : A × A × M × M :=
  nl.foldl (sirStepU idx nbrs tr rr xi xy xx y) (fun _ => 0, fun _ => 0, fun _ _ => 0, fun _ _ => 0)

end steps

/-- row-major packing of an `r × c` array (`M.shape = (r*c, 1)`) -/
def flat (r c : Nat) (a : M) : V := ⟨r * c, fun k => a (k / c) (k % c)⟩

/-- the generated `_dSIS_pair_based_` IS the loop nest `sisLoop` on the slices of the state vector (by unfolding) -/
theorem gen_sis_loop (Vst : V) (N : Nat) (nbrs : Nat → List Nat) (tr : Nat → Nat → Rat) (rr : Nat → Rat) :
    Gen.dSIS_pair_based Vst N nbrs tr rr =
      (let y : A := fun i => Vst.f (0 + i)
       let r := sisLoop id nbrs tr rr (fun i => xinvG (1 - y i))
         (fun a b => Vst.f (N + (a * N + b))) (fun a b => Vst.f ((N + N * N) + (a * N + b))) (List.range N) y
       V.append ⟨N, r.1⟩ (V.append (flat N N r.2.1) (flat N N r.2.2))) := rfl

/-- the generated `_dSIR_pair_based_` IS the loop nest `sirLoop` on the slices of the state vector (by unfolding) -/
theorem gen_sir_loop (Vst : V) (N : Nat) (nbrs : Nat → List Nat) (tr : Nat → Nat → Rat) (rr : Nat → Rat) :
    Gen.dSIR_pair_based Vst N nbrs tr rr =
      (let x : A := fun i => Vst.f (0 + i)
       let r := sirLoop id nbrs tr rr (fun i => xinvG (x i))
         (fun a b => Vst.f ((2 * N) + (a * N + b))) (fun a b => Vst.f (((2 * N) + N * N) + (a * N + b)))
         (List.range N) (fun i => Vst.f (N + i))
       V.append ⟨N, r.2.1⟩ (V.append ⟨N, r.1⟩ (V.append (flat N N r.2.2.1) (flat N N r.2.2.2)))) := rfl

/-! ## 2. value of every cell after the loop nest -/

/-- `for w in l: if w == s: continue; a[i,j] += f w`, where the matrix `a` is the part `p` of the loop state: cell
`(i, j)` gains the sum of `f` over `l` without `s`, no other cell changes -/
theorem foldl_skip_cell {σ : Type} (p : σ → M) (step : σ → Nat → σ) (s i j : Nat) (f : Nat → Rat)
    (hstep : ∀ st w, p (step st w) = if w = s then p st else upd2 (p st) i j (p st i j + f w))
    (l : List Nat) (st : σ) (k m : Nat) :
    p (l.foldl step st) k m
      = p st k m + if k = i ∧ m = j then sumRat ((l.filter fun w => w ≠ s).map f) else 0 := by
  have hcell : ∀ st w, p (step st w) k m = p st k m + if w = s then 0 else if k = i ∧ m = j then f w else 0 := by
    intro st w
    rw [hstep]
    split
    · rw [add_zero]
    · exact upd2_add _ _ _ _ _ _
  rw [foldl_acc_sumRat (fun st => p st k m) step _ l (fun st w _ => hcell st w) st, sumRat_skip, sumRat_guard]

theorem skip_fold_1 (s i j : Nat) (f g : Nat → Rat) (l : List Nat) (st : M × M) (k m : Nat) :
    (l.foldl (skipStep s i j f g) st).1 k m
      = st.1 k m + if k = i ∧ m = j then sumRat ((l.filter fun w => w ≠ s).map f) else 0 :=
  foldl_skip_cell Prod.fst _ s i j f (fun st w => by unfold skipStep; split <;> rfl) l st k m

theorem skip_fold_2 (s i j : Nat) (f g : Nat → Rat) (l : List Nat) (st : M × M) (k m : Nat) :
    (l.foldl (skipStep s i j f g) st).2 k m
      = st.2 k m + if k = i ∧ m = j then sumRat ((l.filter fun w => w ≠ s).map g) else 0 :=
  foldl_skip_cell Prod.snd _ s i j g (fun st w => by unfold skipStep; split <;> rfl) l st k m

/-- what a loop over `nl` that adds `g u` to cell `idx u` leaves in cell `k` -/
def cells1 (idx : Nat → Nat) (nl : List Nat) (g : Nat → Rat) (k : Nat) : Rat :=
  sumRat (nl.map fun u => if k = idx u then g u else 0)

/-- what a loop over `u ∈ nl`, `v ∈ nbrs u` that adds `T u v` to cell `(idx u, idx v)` leaves in cell `(k, m)` -/
def cells2 (idx : Nat → Nat) (nl : List Nat) (nbrs : Nat → List Nat) (T : Nat → Nat → Rat) (k m : Nat) : Rat :=
  sumRat (nl.map fun u => sumRat ((nbrs u).map fun v => if k = idx u ∧ m = idx v then T u v else 0))

section cells
variable (idx : Nat → Nat) (nbrs : Nat → List Nat) (tr : Nat → Nat → Rat) (rr : Nat → Rat) (xi : A) (xy xx : M)

/-! total of the triple terms added to `dXY[u, v]` / `dXX[u, v]` -/
def triXY (u v : Nat) : Rat :=
  sumRat (((nbrs v).filter fun w => w ≠ u).map (f1XY tr xi xy xx u v))
    + sumRat (((nbrs u).filter fun w => w ≠ v).map (f2XY tr xi xy u v))
def triXX (u v : Nat) : Rat :=
  sumRat (((nbrs v).filter fun w => w ≠ u).map (f1XX tr xi xy xx u v))
    + sumRat (((nbrs u).filter fun w => w ≠ v).map (f2XX tr xi xy xx u v))

theorem tri_1 (u v : Nat) (st : M × M) (k m : Nat) :
    (tri idx nbrs tr xi xy xx u v st).1 k m
      = st.1 k m + if k = idx u ∧ m = idx v then triXY nbrs tr xi xy xx u v else 0 := by
  unfold tri triXY triples
  rw [skip_fold_1, skip_fold_1, add_assoc, ite_add_ite, add_zero]

theorem tri_2 (u v : Nat) (st : M × M) (k m : Nat) :
    (tri idx nbrs tr xi xy xx u v st).2 k m
      = st.2 k m + if k = idx u ∧ m = idx v then triXX nbrs tr xi xy xx u v else 0 := by
  unfold tri triXX triples
  rw [skip_fold_2, skip_fold_2, add_assoc, ite_add_ite, add_zero]

/-! ### SIS -/

/-! the increments of `dY[u]`, `dXY[u, v]`, `dXX[u, v]` over the whole loop nest, as functions of the labels; `dY` is the
same expression in the SIR code, so `sisGY` serves `sirStepU_Y`, `sirLoop_cells` too -/
def sisGY (y : A) (u : Nat) : Rat := -rr u * y u + sumRat ((nbrs u).map fun v => tr u v * xy u v)
def sisTXY (u v : Nat) : Rat := sisBXY tr rr xy xx u v + triXY nbrs tr xi xy xx u v
def sisTXX (u v : Nat) : Rat := sisBXX rr xy u v + triXX nbrs tr xi xy xx u v

theorem sisStepV_Y (u : Nat) (st : A × M × M) (v k : Nat) :
    (sisStepV idx nbrs tr rr xi xy xx u st v).1 k = st.1 k + if k = idx u then tr u v * xy u v else 0 :=
  upd1_add _ _ _ _

theorem sisStepV_XY (u : Nat) (st : A × M × M) (v k m : Nat) :
    (sisStepV idx nbrs tr rr xi xy xx u st v).2.1 k m
      = st.2.1 k m + if k = idx u ∧ m = idx v then sisTXY nbrs tr rr xi xy xx u v else 0 := by
  unfold sisStepV sisTXY
  rw [tri_1]; dsimp only
  rw [upd2_add, add_assoc, ite_add_ite, add_zero]

theorem sisStepV_XX (u : Nat) (st : A × M × M) (v k m : Nat) :
    (sisStepV idx nbrs tr rr xi xy xx u st v).2.2 k m
      = st.2.2 k m + if k = idx u ∧ m = idx v then sisTXX nbrs tr rr xi xy xx u v else 0 := by
  unfold sisStepV sisTXX
  rw [tri_2]; dsimp only
  rw [upd2_add, add_assoc, ite_add_ite, add_zero]

theorem sisStepU_Y (y : A) (st : A × M × M) (u k : Nat) :
    (sisStepU idx nbrs tr rr xi xy xx y st u).1 k = st.1 k + if k = idx u then sisGY nbrs tr rr xy y u else 0 := by
  unfold sisStepU sisGY
  rw [foldl_acc_sumRat (fun st : A × M × M => st.1 k) _ _ _ (fun s v _ => sisStepV_Y idx nbrs tr rr xi xy xx u s v k),
    sumRat_guard]
  dsimp only
  rw [upd1_add, add_assoc, ite_add_ite, add_zero]

theorem sisLoop_cells (nl : List Nat) (y : A) :
    sisLoop idx nbrs tr rr xi xy xx nl y
      = (cells1 idx nl (sisGY nbrs tr rr xy y), cells2 idx nl nbrs (sisTXY nbrs tr rr xi xy xx),
         cells2 idx nl nbrs (sisTXX nbrs tr rr xi xy xx)) := by
  unfold sisLoop
  refine Prod.ext (funext fun k => ?_)
    (Prod.ext (funext fun k => funext fun m => ?_) (funext fun k => funext fun m => ?_))
  · exact (foldl_acc_sumRat (fun st : A × M × M => st.1 k) _ _ _
      (fun s u _ => sisStepU_Y idx nbrs tr rr xi xy xx y s u k) _).trans (zero_add _)
  · refine (foldl_acc_sumRat (fun st : A × M × M => st.2.1 k m) _ _ _ (fun s u _ => ?_) _).trans (zero_add _)
    exact foldl_acc_sumRat (fun st : A × M × M => st.2.1 k m) _ _ _
      (fun s v _ => sisStepV_XY idx nbrs tr rr xi xy xx u s v k m) _
  · refine (foldl_acc_sumRat (fun st : A × M × M => st.2.2 k m) _ _ _ (fun s u _ => ?_) _).trans (zero_add _)
    exact foldl_acc_sumRat (fun st : A × M × M => st.2.2 k m) _ _ _
      (fun s v _ => sisStepV_XX idx nbrs tr rr xi xy xx u s v k m) _

/-! ### SIR -/

def sirGX (u : Nat) : Rat := sumRat ((nbrs u).map fun v => (-(tr u v)) * xy u v)
def sirTXY (u v : Nat) : Rat := sirBXY tr rr xy u v + triXY nbrs tr xi xy xx u v

theorem sirStepV_X (u : Nat) (st : A × A × M × M) (v k : Nat) :
    (sirStepV idx nbrs tr rr xi xy xx u st v).1 k = st.1 k + if k = idx u then (-(tr u v)) * xy u v else 0 :=
  upd1_add _ _ _ _

theorem sirStepV_Y (u : Nat) (st : A × A × M × M) (v k : Nat) :
    (sirStepV idx nbrs tr rr xi xy xx u st v).2.1 k = st.2.1 k + if k = idx u then tr u v * xy u v else 0 :=
  upd1_add _ _ _ _

theorem sirStepV_XY (u : Nat) (st : A × A × M × M) (v k m : Nat) :
    (sirStepV idx nbrs tr rr xi xy xx u st v).2.2.1 k m
      = st.2.2.1 k m + if k = idx u ∧ m = idx v then sirTXY nbrs tr rr xi xy xx u v else 0 := by
  unfold sirStepV sirTXY
  rw [tri_1]; dsimp only
  rw [upd2_add, add_assoc, ite_add_ite, add_zero]

theorem sirStepV_XX (u : Nat) (st : A × A × M × M) (v k m : Nat) :
    (sirStepV idx nbrs tr rr xi xy xx u st v).2.2.2 k m
      = st.2.2.2 k m + if k = idx u ∧ m = idx v then triXX nbrs tr xi xy xx u v else 0 := by
  unfold sirStepV
  rw [tri_2]

theorem sirStepU_Y (y : A) (st : A × A × M × M) (u k : Nat) :
    (sirStepU idx nbrs tr rr xi xy xx y st u).1 k = st.1 k + if k = idx u then sisGY nbrs tr rr xy y u else 0 := by
  unfold sirStepU sisGY
  dsimp only
  rw [foldl_acc_sumRat (fun st : A × A × M × M => st.2.1 k) _ _ _ (fun s v _ => sirStepV_Y idx nbrs tr rr xi xy xx u s v k),
    sumRat_guard]
  dsimp only
  rw [upd1_add, add_assoc, ite_add_ite, add_zero]

theorem sirStepU_X (y : A) (st : A × A × M × M) (u k : Nat) :
    (sirStepU idx nbrs tr rr xi xy xx y st u).2.1 k = st.2.1 k + if k = idx u then sirGX nbrs tr xy u else 0 := by
  unfold sirStepU sirGX
  dsimp only
  rw [foldl_acc_sumRat (fun st : A × A × M × M => st.1 k) _ _ _ (fun s v _ => sirStepV_X idx nbrs tr rr xi xy xx u s v k),
    sumRat_guard]

/-- the SIR loop nest, cell by cell; the components are `(dY, dX, dXY, dXX)` -/
theorem sirLoop_cells (nl : List Nat) (y : A) :
    sirLoop idx nbrs tr rr xi xy xx nl y
      = (cells1 idx nl (sisGY nbrs tr rr xy y), cells1 idx nl (sirGX nbrs tr xy),
         cells2 idx nl nbrs (sirTXY nbrs tr rr xi xy xx), cells2 idx nl nbrs (triXX nbrs tr xi xy xx)) := by
  unfold sirLoop
  refine Prod.ext (funext fun k => ?_) (Prod.ext (funext fun k => ?_)
    (Prod.ext (funext fun k => funext fun m => ?_) (funext fun k => funext fun m => ?_)))
  · exact (foldl_acc_sumRat (fun st : A × A × M × M => st.1 k) _ _ _
      (fun s u _ => sirStepU_Y idx nbrs tr rr xi xy xx y s u k) _).trans (zero_add _)
  · exact (foldl_acc_sumRat (fun st : A × A × M × M => st.2.1 k) _ _ _
      (fun s u _ => sirStepU_X idx nbrs tr rr xi xy xx y s u k) _).trans (zero_add _)
  · refine (foldl_acc_sumRat (fun st : A × A × M × M => st.2.2.1 k m) _ _ _ (fun s u _ => ?_) _).trans (zero_add _)
    unfold sirStepU
    exact foldl_acc_sumRat (fun st : A × A × M × M => st.2.2.1 k m) _ _ _
      (fun s v _ => sirStepV_XY idx nbrs tr rr xi xy xx u s v k m) _
  · refine (foldl_acc_sumRat (fun st : A × A × M × M => st.2.2.2 k m) _ _ _ (fun s u _ => ?_) _).trans (zero_add _)
    unfold sirStepU
    exact foldl_acc_sumRat (fun st : A × A × M × M => st.2.2.2 k m) _ _ _
      (fun s v _ => sirStepV_XX idx nbrs tr rr xi xy xx u s v k m) _

end cells

/-! ### positions as labels: `idx = id`, `nl = range N` -/

theorem cells1_range (N : Nat) (g : Nat → Rat) (k : Nat) :
    cells1 id (List.range N) g k = if k < N then g k else 0 :=
  sumRat_pick_range N k g

theorem cells2_range (N : Nat) (nbrs : Nat → List Nat) (T : Nat → Nat → Rat) (k m : Nat) (hn : (nbrs k).Nodup) :
    cells2 id (List.range N) nbrs T k m = if k < N ∧ m ∈ nbrs k then T k m else 0 :=
  sumRat_pick2 N nbrs k m T hn

/-! ### the cell sums under a renaming of the labels, a reordering of the neighbour lists, and at the cell of a label -/

section cellSums
variable {idx idx' : Nat → Nat} {nl : List Nat} {nbrs nbrs' : Nat → List Nat}

theorem cells1_map (φ : Nat → Nat) {g g' : Nat → Rat} (h : ∀ u ∈ nl, idx' (φ u) = idx u ∧ g' (φ u) = g u) :
    cells1 idx' (nl.map φ) g' = cells1 idx nl g := by
  funext k
  unfold cells1
  rw [List.map_map]
  apply sumRat_map_congr
  intro u hu
  simp only [Function.comp, h u hu]

theorem cells2_map (φ : Nat → Nat) {T T' : Nat → Nat → Rat}
    (h1 : ∀ u ∈ nl, idx' (φ u) = idx u ∧ nbrs' (φ u) = (nbrs u).map φ)
    (h2 : ∀ u ∈ nl, ∀ v ∈ nbrs u, idx' (φ v) = idx v ∧ T' (φ u) (φ v) = T u v) :
    cells2 idx' (nl.map φ) nbrs' T' = cells2 idx nl nbrs T := by
  funext k m
  unfold cells2
  rw [List.map_map]
  apply sumRat_map_congr
  intro u hu
  simp only [Function.comp, (h1 u hu).1, (h1 u hu).2, List.map_map]
  apply sumRat_map_congr
  intro v hv
  simp only [Function.comp, h2 u hu v hv]

theorem cells2_perm (hp : ∀ u, (nbrs u).Perm (nbrs' u)) (T : Nat → Nat → Rat) :
    cells2 idx nl nbrs T = cells2 idx nl nbrs' T := by
  funext k m
  unfold cells2
  apply sumRat_map_congr
  intro u _
  exact sumRat_perm ((hp u).map _)

variable (hnd : nl.Nodup) (hinj : ∀ a ∈ nl, ∀ b ∈ nl, idx a = idx b → a = b)
include hnd hinj

theorem cells1_label (g : Nat → Rat) (u0 : Nat) (hu0 : u0 ∈ nl) : cells1 idx nl g (idx u0) = g u0 := by
  unfold cells1
  rw [sumRat_map_congr nl _ (fun u => if u0 = u then g u else 0) (fun u hu => by
      have : (idx u0 = idx u) = (u0 = u) := propext ⟨hinj u0 hu0 u hu, fun e => e ▸ rfl⟩
      simp only [this]),
    sumRat_pick _ _ _ hnd, if_pos hu0]

theorem cells2_label (hcl : ∀ u ∈ nl, ∀ v ∈ nbrs u, v ∈ nl) (T : Nat → Nat → Rat) (u0 v0 : Nat) (hu0 : u0 ∈ nl)
    (hv0 : v0 ∈ nl) :
    cells2 idx nl nbrs T (idx u0) (idx v0) = sumRat ((nbrs u0).map fun v => if v0 = v then T u0 v else 0) := by
  unfold cells2
  rw [sumRat_map_congr nl _
      (fun u => if u0 = u then (fun u => sumRat ((nbrs u).map fun v => if v0 = v then T u v else 0)) u else 0) ?_,
    sumRat_pick _ _ _ hnd, if_pos hu0]
  intro u hu
  by_cases e : u0 = u
  · subst e
    rw [if_pos rfl]
    apply sumRat_map_congr
    intro v hv
    have : (idx v0 = idx v) = (v0 = v) := propext ⟨hinj v0 hv0 v (hcl u0 hu0 v hv), fun e => e ▸ rfl⟩
    simp only [true_and, this]
  · rw [if_neg e]
    apply sumRat_map_zero
    intro v _
    rw [if_neg]
    intro h
    exact e (hinj u0 hu0 u hu h.1)

end cellSums

/-! ### the terms of the cell sums are transported along a renaming `φ` of the labels

(`P` singles out the labels in use, closed under `nbrs`: the listed ones, or the positions `< N`; `φ` is injective on
them, and neighbour lists, rates and the label-indexed data are transported along `φ` on them; with `φ = id`: the terms
depend on the data at those labels only) -/

section transport
variable {φ : Nat → Nat} {P : Nat → Prop} {nbrs nbrs' : Nat → List Nat} {tr tr' : Nat → Nat → Rat} {rr rr' : Nat → Rat}
  {xi xi' : A} {xy xy' xx xx' : M}
  (hinj : ∀ u, P u → ∀ v, P v → φ u = φ v → u = v) (hcl : ∀ u, P u → ∀ v ∈ nbrs u, P v)
  (hnbrs : ∀ u, P u → nbrs' (φ u) = (nbrs u).map φ) (htr : ∀ u, P u → ∀ v, P v → tr' (φ u) (φ v) = tr u v)
  (hrr : ∀ u, P u → rr' (φ u) = rr u) (hxi : ∀ u, P u → xi' (φ u) = xi u)
  (hxy : ∀ u, P u → ∀ v, P v → xy' (φ u) (φ v) = xy u v) (hxx : ∀ u, P u → ∀ v, P v → xx' (φ u) (φ v) = xx u v)
include hcl hnbrs htr hxy

theorem sirGX_mor (u : Nat) (hu : P u) : sirGX nbrs' tr' xy' (φ u) = sirGX nbrs tr xy u := by
  unfold sirGX
  rw [hnbrs u hu, List.map_map]
  apply sumRat_map_congr
  intro v hv
  simp only [Function.comp, htr u hu v (hcl u hu v hv), hxy u hu v (hcl u hu v hv)]

include hrr

theorem sisGY_mor {y y' : A} (hy : ∀ u, P u → y' (φ u) = y u) (u : Nat) (hu : P u) :
    sisGY nbrs' tr' rr' xy' y' (φ u) = sisGY nbrs tr rr xy y u := by
  unfold sisGY
  rw [hnbrs u hu, List.map_map, hrr u hu, hy u hu]
  congr 1
  apply sumRat_map_congr
  intro v hv
  simp only [Function.comp, htr u hu v (hcl u hu v hv), hxy u hu v (hcl u hu v hv)]

omit htr hxy hrr
include hinj

theorem sum_skip_mor (u v : Nat) (hu : P u) (hv : P v) (f f' : Nat → Rat) (hf : ∀ w, P w → f' (φ w) = f w) :
    sumRat (((nbrs' (φ v)).filter fun w => w ≠ φ u).map f') = sumRat (((nbrs v).filter fun w => w ≠ u).map f) := by
  have hfil : (nbrs v).filter ((fun w => decide (w ≠ φ u)) ∘ φ) = (nbrs v).filter fun w => w ≠ u := by
    apply List.filter_congr
    intro w hw
    have : (φ w = φ u) = (w = u) := propext ⟨hinj w (hcl v hv w hw) u hu, fun e => congrArg φ e⟩
    simp only [Function.comp, ne_eq, this]
  rw [hnbrs v hv, List.filter_map, List.map_map, hfil]
  apply sumRat_map_congr
  intro w hw
  exact hf w (hcl v hv w (List.mem_filter.1 hw).1)

include htr hxi hxy hxx

theorem triXY_mor (u v : Nat) (hu : P u) (hv : P v) :
    triXY nbrs' tr' xi' xy' xx' (φ u) (φ v) = triXY nbrs tr xi xy xx u v := by
  unfold triXY
  rw [sum_skip_mor hinj hcl hnbrs u v hu hv (f1XY tr xi xy xx u v) _
      (fun w hw => by unfold f1XY; rw [htr v hv w hw, hxx u hu v hv, hxy v hv w hw, hxi v hv]),
    sum_skip_mor hinj hcl hnbrs v u hv hu (f2XY tr xi xy u v) _
      (fun w hw => by unfold f2XY; rw [htr u hu w hw, hxy u hu w hw, hxy u hu v hv, hxi u hu])]

theorem triXX_mor (u v : Nat) (hu : P u) (hv : P v) :
    triXX nbrs' tr' xi' xy' xx' (φ u) (φ v) = triXX nbrs tr xi xy xx u v := by
  unfold triXX
  rw [sum_skip_mor hinj hcl hnbrs u v hu hv (f1XX tr xi xy xx u v) _
      (fun w hw => by unfold f1XX; rw [htr v hv w hw, hxx u hu v hv, hxy v hv w hw, hxi v hv]),
    sum_skip_mor hinj hcl hnbrs v u hv hu (f2XX tr xi xy xx u v) _
      (fun w hw => by unfold f2XX; rw [htr u hu w hw, hxy u hu w hw, hxx u hu v hv, hxi u hu])]

include hrr

theorem sisTXY_mor (u v : Nat) (hu : P u) (hv : P v) :
    sisTXY nbrs' tr' rr' xi' xy' xx' (φ u) (φ v) = sisTXY nbrs tr rr xi xy xx u v := by
  unfold sisTXY sisBXY
  rw [triXY_mor hinj hcl hnbrs htr hxi hxy hxx u v hu hv, htr u hu v hv, hrr u hu, hrr v hv, hxy u hu v hv,
    hxx u hu v hv, hxy v hv u hu]

theorem sisTXX_mor (u v : Nat) (hu : P u) (hv : P v) :
    sisTXX nbrs' tr' rr' xi' xy' xx' (φ u) (φ v) = sisTXX nbrs tr rr xi xy xx u v := by
  unfold sisTXX sisBXX
  rw [triXX_mor hinj hcl hnbrs htr hxi hxy hxx u v hu hv, hrr u hu, hrr v hv, hxy u hu v hv, hxy v hv u hu]

theorem sirTXY_mor (u v : Nat) (hu : P u) (hv : P v) :
    sirTXY nbrs' tr' rr' xi' xy' xx' (φ u) (φ v) = sirTXY nbrs tr rr xi xy xx u v := by
  unfold sirTXY sirBXY
  rw [triXY_mor hinj hcl hnbrs htr hxi hxy hxx u v hu hv, htr u hu v hv, hrr v hv, hxy u hu v hv]

end transport

/-! ## 3. the cell values are the hand model's closed forms -/

section model
variable (nbrs : Nat → List Nat) (tr : Nat → Nat → Rat) (rr : Nat → Rat) (X : A) (xy xx : M)

/-- the model's triple sums `t1`, `t2` (`Model/ODE2.lean`) -/
def mT1 (i j : Nat) : Rat :=
  sumRat (((nbrs j).filter fun w => w ≠ i).map fun k => tr j k * xx i j * xy j k * xinv (X j))
def mT2 (Z : M) (i j : Nat) : Rat :=
  sumRat (((nbrs i).filter fun w => w ≠ j).map fun k => tr i k * xy i k * Z i j * xinv (X i))

theorem triXY_eq (u v : Nat) :
    triXY nbrs tr (fun i => xinvG (X i)) xy xx u v = mT1 nbrs tr X xy xx u v - mT2 nbrs tr X xy xy u v := by
  unfold triXY mT1 mT2
  have h2 : sumRat (((nbrs u).filter fun w => w ≠ v).map (f2XY tr (fun i => xinvG (X i)) xy u v))
      = -sumRat (((nbrs u).filter fun w => w ≠ v).map fun k => tr u k * xy u k * xy u v * xinv (X u)) := by
    rw [← sumRat_map_neg]; apply sumRat_map_congr; intro w _; simp only [f2XY, xinvG_eq]; ring
  have h1 : sumRat (((nbrs v).filter fun w => w ≠ u).map (f1XY tr (fun i => xinvG (X i)) xy xx u v))
      = sumRat (((nbrs v).filter fun w => w ≠ u).map fun k => tr v k * xx u v * xy v k * xinv (X v)) := by
    apply sumRat_map_congr; intro w _; simp only [f1XY, xinvG_eq]
  rw [h1, h2]; ring

theorem triXX_eq (u v : Nat) :
    triXX nbrs tr (fun i => xinvG (X i)) xy xx u v = -mT1 nbrs tr X xy xx u v - mT2 nbrs tr X xy xx u v := by
  unfold triXX mT1 mT2
  have h2 : sumRat (((nbrs u).filter fun w => w ≠ v).map (f2XX tr (fun i => xinvG (X i)) xy xx u v))
      = -sumRat (((nbrs u).filter fun w => w ≠ v).map fun k => tr u k * xy u k * xx u v * xinv (X u)) := by
    rw [← sumRat_map_neg]; apply sumRat_map_congr; intro w _; simp only [f2XX, xinvG_eq]; ring
  have h1 : sumRat (((nbrs v).filter fun w => w ≠ u).map (f1XX tr (fun i => xinvG (X i)) xy xx u v))
      = -sumRat (((nbrs v).filter fun w => w ≠ u).map fun k => tr v k * xx u v * xy v k * xinv (X v)) := by
    rw [← sumRat_map_neg]; apply sumRat_map_congr; intro w _; simp only [f1XX, xinvG_eq]; ring
  rw [h1, h2]; ring

end model

section modelEq
variable (nbrs : Nat → List Nat) (tr : Nat → Nat → Rat) (rr : Nat → Rat) (xy xx : M)

/-! the components of the hand models are the terms of the cell sums -/

theorem sisModel_Y (y : A) (i : Nat) : (sisPairBased nbrs tr rr y xy xx).1 i = sisGY nbrs tr rr xy y i := rfl

theorem sisModel_XY (y : A) (i j : Nat) :
    (sisPairBased nbrs tr rr y xy xx).2.1 i j
      = if j ∈ nbrs i then sisTXY nbrs tr rr (fun i => xinvG (1 - y i)) xy xx i j else 0 := by
  rw [sisTXY, triXY_eq nbrs tr (fun i => 1 - y i)]
  unfold mT1 mT2 sisPairBased sisBXY
  by_cases hm : j ∈ nbrs i
  · simp only [hm, if_true, List.contains_eq_mem, decide_true]; ring
  · simp only [hm, if_false, List.contains_eq_mem, decide_false, Bool.false_eq_true]

theorem sisModel_XX (y : A) (i j : Nat) :
    (sisPairBased nbrs tr rr y xy xx).2.2 i j
      = if j ∈ nbrs i then sisTXX nbrs tr rr (fun i => xinvG (1 - y i)) xy xx i j else 0 := by
  rw [sisTXX, triXX_eq nbrs tr (fun i => 1 - y i)]
  unfold mT1 mT2 sisPairBased sisBXX
  by_cases hm : j ∈ nbrs i
  · simp only [hm, if_true, List.contains_eq_mem, decide_true]; ring
  · simp only [hm, if_false, List.contains_eq_mem, decide_false, Bool.false_eq_true]

theorem sirModel_X (x y : A) (i : Nat) : (sirPairBased nbrs tr rr x y xy xx).1 i = sirGX nbrs tr xy i := by
  simp only [sirPairBased, sirGX]
  rw [← sumRat_map_neg]; apply sumRat_map_congr; intro v _; ring

theorem sirModel_Y (x y : A) (i : Nat) : (sirPairBased nbrs tr rr x y xy xx).2.1 i = sisGY nbrs tr rr xy y i := rfl

theorem sirModel_XY (x y : A) (i j : Nat) :
    (sirPairBased nbrs tr rr x y xy xx).2.2.1 i j
      = if j ∈ nbrs i then sirTXY nbrs tr rr (fun i => xinvG (x i)) xy xx i j else 0 := by
  rw [sirTXY, triXY_eq nbrs tr x]
  unfold mT1 mT2 sirPairBased sirBXY
  by_cases hm : j ∈ nbrs i
  · simp only [hm, if_true, List.contains_eq_mem, decide_true]; ring
  · simp only [hm, if_false, List.contains_eq_mem, decide_false, Bool.false_eq_true]

theorem sirModel_XX (x y : A) (i j : Nat) :
    (sirPairBased nbrs tr rr x y xy xx).2.2.2 i j
      = if j ∈ nbrs i then triXX nbrs tr (fun i => xinvG (x i)) xy xx i j else 0 := by
  rw [triXX_eq nbrs tr x]
  unfold mT1 mT2 sirPairBased
  by_cases hm : j ∈ nbrs i
  · simp only [hm, if_true, List.contains_eq_mem, decide_true]
  · simp only [hm, if_false, List.contains_eq_mem, decide_false, Bool.false_eq_true]

variable (N : Nat) (hn : ∀ u, u < N → (nbrs u).Nodup) {P : Nat → Prop} (hP : ∀ u, u < N → P u)
  (hcl : ∀ u, P u → ∀ v ∈ nbrs u, P v)
include hn hP hcl

/-- with positions as labels and neighbour lists without repetition the loop nest leaves the hand model in the cells
`< N`; the model may be taken at any data that agree with those of the loops on a set `P` of positions that holds
`0..N-1` and is closed under `nbrs` (all positions, or `0..N-1` itself when neighbours are `< N`) -/
theorem sisLoop_model {y Y : A} {xy xx XY XX : M} (hy : ∀ u, P u → y u = Y u)
    (hxy : ∀ u, P u → ∀ v, P v → xy u v = XY u v) (hxx : ∀ u, P u → ∀ v, P v → xx u v = XX u v) :
    let r := sisLoop id nbrs tr rr (fun i => xinvG (1 - y i)) xy xx (List.range N) y
    let m := sisPairBased nbrs tr rr Y XY XX
    (∀ i, i < N → r.1 i = m.1 i) ∧ ∀ i j, i < N → j < N → r.2.1 i j = m.2.1 i j ∧ r.2.2 i j = m.2.2 i j := by
  have hid : ∀ u, P u → nbrs (id u) = (nbrs u).map id := fun u _ => (List.map_id _).symm
  have hxi : ∀ u, P u → xinvG (1 - y u) = xinvG (1 - Y u) := fun u hu => by rw [hy u hu]
  simp only [sisLoop_cells, sisModel_Y, sisModel_XY, sisModel_XX]
  refine ⟨fun i hi => ?_, fun i j hi _ => ⟨?_, ?_⟩⟩
  · rw [cells1_range, if_pos hi]
    exact sisGY_mor (φ := id) hcl hid (fun _ _ _ _ => rfl) (fun _ _ => rfl) hxy hy i (hP i hi)
  · rw [cells2_range N nbrs _ i j (hn i hi)]
    simp only [hi, true_and]
    exact if_ctx_congr Iff.rfl (fun hj => sisTXY_mor (φ := id) (fun _ _ _ _ e => e) hcl hid (fun _ _ _ _ => rfl)
      (fun _ _ => rfl) hxi hxy hxx i j (hP i hi) (hcl i (hP i hi) j hj)) fun _ => rfl
  · rw [cells2_range N nbrs _ i j (hn i hi)]
    simp only [hi, true_and]
    exact if_ctx_congr Iff.rfl (fun hj => sisTXX_mor (φ := id) (fun _ _ _ _ e => e) hcl hid (fun _ _ _ _ => rfl)
      (fun _ _ => rfl) hxi hxy hxx i j (hP i hi) (hcl i (hP i hi) j hj)) fun _ => rfl

theorem sirLoop_model {x X y Y : A} {xy xx XY XX : M} (hx : ∀ u, P u → x u = X u) (hy : ∀ u, P u → y u = Y u)
    (hxy : ∀ u, P u → ∀ v, P v → xy u v = XY u v) (hxx : ∀ u, P u → ∀ v, P v → xx u v = XX u v) :
    let r := sirLoop id nbrs tr rr (fun i => xinvG (x i)) xy xx (List.range N) y
    let m := sirPairBased nbrs tr rr X Y XY XX
    (∀ i, i < N → r.2.1 i = m.1 i ∧ r.1 i = m.2.1 i) ∧
      ∀ i j, i < N → j < N → r.2.2.1 i j = m.2.2.1 i j ∧ r.2.2.2 i j = m.2.2.2 i j := by
  have hid : ∀ u, P u → nbrs (id u) = (nbrs u).map id := fun u _ => (List.map_id _).symm
  have hxi : ∀ u, P u → xinvG (x u) = xinvG (X u) := fun u hu => by rw [hx u hu]
  simp only [sirLoop_cells, sirModel_X, sirModel_Y, sirModel_XY, sirModel_XX]
  refine ⟨fun i hi => ⟨?_, ?_⟩, fun i j hi _ => ⟨?_, ?_⟩⟩
  · rw [cells1_range, if_pos hi]
    exact sirGX_mor (φ := id) hcl hid (fun _ _ _ _ => rfl) hxy i (hP i hi)
  · rw [cells1_range, if_pos hi]
    exact sisGY_mor (φ := id) hcl hid (fun _ _ _ _ => rfl) (fun _ _ => rfl) hxy hy i (hP i hi)
  · rw [cells2_range N nbrs _ i j (hn i hi)]
    simp only [hi, true_and]
    exact if_ctx_congr Iff.rfl (fun hj => sirTXY_mor (φ := id) (fun _ _ _ _ e => e) hcl hid (fun _ _ _ _ => rfl)
      (fun _ _ => rfl) hxi hxy hxx i j (hP i hi) (hcl i (hP i hi) j hj)) fun _ => rfl
  · rw [cells2_range N nbrs _ i j (hn i hi)]
    simp only [hi, true_and]
    exact if_ctx_congr Iff.rfl (fun hj => triXX_mor (φ := id) (fun _ _ _ _ e => e) hcl hid (fun _ _ _ _ => rfl)
      hxi hxy hxx i j (hP i hi) (hcl i (hP i hi) j hj)) fun _ => rfl

end modelEq

/-! ## 4. packing / unpacking of the flat state vector -/

theorem flat_f {N a b : Nat} (m : M) (hb : b < N) : (flat N N m).f (a * N + b) = m a b := by
  show m ((a * N + b) / N) ((a * N + b) % N) = m a b
  rw [RowMajor.rm_div _ _ _ hb, RowMajor.rm_mod _ _ _ hb]

/-- `r` reads as `concatenate((a, B.flat, C.flat))`, as far as indices `< N` go -/
def Packed3 (N : Nat) (r : V) (a : A) (b c : M) : Prop :=
  r.n = N + (N * N + N * N) ∧ (∀ i, i < N → r.f i = a i) ∧
  ∀ i j, i < N → j < N → r.f (N + (i * N + j)) = b i j ∧ r.f (N + (N * N + (i * N + j))) = c i j

/-- `r` reads as `concatenate((a, b, C.flat, D.flat))`, as far as indices `< N` go -/
def Packed4 (N : Nat) (r : V) (a b : A) (c d : M) : Prop :=
  r.n = N + (N + (N * N + N * N)) ∧ (∀ i, i < N → r.f i = a i ∧ r.f (N + i) = b i) ∧
  ∀ i j, i < N → j < N →
    r.f (N + (N + (i * N + j))) = c i j ∧ r.f (N + (N + (N * N + (i * N + j)))) = d i j

theorem packed3 (N : Nat) (a : A) (b c : M) :
    Packed3 N (V.append ⟨N, a⟩ (V.append (flat N N b) (flat N N c))) a b c := by
  refine ⟨rfl, fun i hi => V.append_f_lt ⟨N, a⟩ _ i hi, fun i j hi hj => ⟨?_, ?_⟩⟩
  · show (V.append ⟨N, a⟩ _).f ((⟨N, a⟩ : V).n + (i * N + j)) = _
    rw [V.append_f_ge, V.append_f_lt _ _ _ (RowMajor.rm_lt_rect _ _ _ _ hi hj), flat_f _ hj]
  · show (V.append ⟨N, a⟩ _).f ((⟨N, a⟩ : V).n + (N * N + (i * N + j))) = _
    rw [V.append_f_ge]
    show (V.append (flat N N b) _).f ((flat N N b).n + (i * N + j)) = _
    rw [V.append_f_ge, flat_f _ hj]

theorem packed4 (N : Nat) (a b : A) (c d : M) :
    Packed4 N (V.append ⟨N, a⟩ (V.append ⟨N, b⟩ (V.append (flat N N c) (flat N N d)))) a b c d := by
  obtain ⟨-, o1, o2⟩ := packed3 N b c d
  refine ⟨rfl, fun i hi => ⟨V.append_f_lt ⟨N, a⟩ _ i hi, ?_⟩, fun i j hi hj => ⟨?_, ?_⟩⟩
  · show (V.append ⟨N, a⟩ _).f ((⟨N, a⟩ : V).n + i) = _
    rw [V.append_f_ge]; exact o1 i hi
  · show (V.append ⟨N, a⟩ _).f ((⟨N, a⟩ : V).n + (N + (i * N + j))) = _
    rw [V.append_f_ge]; exact (o2 i j hi hj).1
  · show (V.append ⟨N, a⟩ _).f ((⟨N, a⟩ : V).n + (N + (N * N + (i * N + j)))) = _
    rw [V.append_f_ge]; exact (o2 i j hi hj).2

theorem Packed3.congr {N : Nat} {r : V} {a a' : A} {b b' c c' : M} (h : Packed3 N r a b c)
    (ha : ∀ i, i < N → a i = a' i) (hbc : ∀ i j, i < N → j < N → b i j = b' i j ∧ c i j = c' i j) :
    Packed3 N r a' b' c' :=
  ⟨h.1, fun i hi => (h.2.1 i hi).trans (ha i hi), fun i j hi hj =>
    ⟨(h.2.2 i j hi hj).1.trans (hbc i j hi hj).1, (h.2.2 i j hi hj).2.trans (hbc i j hi hj).2⟩⟩

theorem Packed4.congr {N : Nat} {r : V} {a a' b b' : A} {c c' d d' : M} (h : Packed4 N r a b c d)
    (hab : ∀ i, i < N → a i = a' i ∧ b i = b' i) (hcd : ∀ i j, i < N → j < N → c i j = c' i j ∧ d i j = d' i j) :
    Packed4 N r a' b' c' d' :=
  ⟨h.1, fun i hi => ⟨(h.2.1 i hi).1.trans (hab i hi).1, (h.2.1 i hi).2.trans (hab i hi).2⟩, fun i j hi hj =>
    ⟨(h.2.2 i j hi hj).1.trans (hcd i j hi hj).1, (h.2.2 i j hi hj).2.trans (hcd i j hi hj).2⟩⟩

/-! ## 5. the generated functions and the hand models -/

/-- `_dSIS_pair_based_` on an ARBITRARY state vector: the result cells are the model's closed forms evaluated on the
slices of the vector as the code reads them.  Only duplicate-freeness of the neighbour lists is needed. -/
theorem gen_sis_cells (Vst : V) (N : Nat) (nbrs : Nat → List Nat) (tr : Nat → Nat → Rat) (rr : Nat → Rat)
    (hn : ∀ u, u < N → (nbrs u).Nodup) :
    let m := sisPairBased nbrs tr rr (fun i => Vst.f (0 + i)) (fun a b => Vst.f (N + (a * N + b)))
      (fun a b => Vst.f ((N + N * N) + (a * N + b)))
    Packed3 N (Gen.dSIS_pair_based Vst N nbrs tr rr) m.1 m.2.1 m.2.2 := by
  rw [gen_sis_loop]
  obtain ⟨c1, c2⟩ := sisLoop_model nbrs tr rr N hn (P := fun _ => True) (fun _ _ => trivial) (fun _ _ _ _ => trivial)
    (y := fun i => Vst.f (0 + i)) (xy := fun a b => Vst.f (N + (a * N + b)))
    (xx := fun a b => Vst.f ((N + N * N) + (a * N + b))) (fun _ _ => rfl) (fun _ _ _ _ => rfl) (fun _ _ _ _ => rfl)
  exact (packed3 N _ _ _).congr c1 c2

theorem gen_sir_cells (Vst : V) (N : Nat) (nbrs : Nat → List Nat) (tr : Nat → Nat → Rat) (rr : Nat → Rat)
    (hn : ∀ u, u < N → (nbrs u).Nodup) :
    let m := sirPairBased nbrs tr rr (fun i => Vst.f (0 + i)) (fun i => Vst.f (N + i))
      (fun a b => Vst.f ((2 * N) + (a * N + b))) (fun a b => Vst.f (((2 * N) + N * N) + (a * N + b)))
    Packed4 N (Gen.dSIR_pair_based Vst N nbrs tr rr) m.1 m.2.1 m.2.2.1 m.2.2.2 := by
  rw [gen_sir_loop]
  obtain ⟨c1, c2⟩ := sirLoop_model nbrs tr rr N hn (P := fun _ => True) (fun _ _ => trivial) (fun _ _ _ _ => trivial)
    (x := fun i => Vst.f (0 + i)) (y := fun i => Vst.f (N + i)) (xy := fun a b => Vst.f ((2 * N) + (a * N + b)))
    (xx := fun a b => Vst.f (((2 * N) + N * N) + (a * N + b))) (fun _ _ => rfl) (fun _ _ => rfl)
    (fun _ _ _ _ => rfl) (fun _ _ _ _ => rfl)
  exact (packed4 N _ _ _ _).congr c1 c2

/-- On a state that reads as `concatenate((Y, XY.flat, XX.flat))` the generated `_dSIS_pair_based_`
returns the packed hand model `ODE.sisPairBased`. -/
theorem gen_sisPairBased (N : Nat) (nbrs : Nat → List Nat) (tr : Nat → Nat → Rat) (rr : Nat → Rat)
    (Y : A) (XY XX : M) (Vst : V) (hV : Packed3 N Vst Y XY XX)
    (hn : ∀ u, u < N → (nbrs u).Nodup) (hb : ∀ u, u < N → ∀ v ∈ nbrs u, v < N) :
    let m := sisPairBased nbrs tr rr Y XY XX
    Packed3 N (Gen.dSIS_pair_based Vst N nbrs tr rr) m.1 m.2.1 m.2.2 := by
  rw [gen_sis_loop]
  obtain ⟨c1, c2⟩ := sisLoop_model nbrs tr rr N hn (P := fun u => u < N) (fun _ h => h) hb
    (y := fun i => Vst.f (0 + i)) (xy := fun a b => Vst.f (N + (a * N + b)))
    (xx := fun a b => Vst.f ((N + N * N) + (a * N + b)))
    (fun i hi => by simp only [Nat.zero_add]; exact hV.2.1 i hi) (fun a ha b hb' => (hV.2.2 a b ha hb').1)
    (fun a ha b hb' => by simp only [Nat.add_assoc]; exact (hV.2.2 a b ha hb').2)
  exact (packed3 N _ _ _).congr c1 c2

/-- On a state that reads as `concatenate((X, Y, XY.flat, XX.flat))` the generated `_dSIR_pair_based_`
returns the packed hand model `ODE.sirPairBased`. -/
theorem gen_sirPairBased (N : Nat) (nbrs : Nat → List Nat) (tr : Nat → Nat → Rat) (rr : Nat → Rat)
    (X Y : A) (XY XX : M) (Vst : V) (hV : Packed4 N Vst X Y XY XX)
    (hn : ∀ u, u < N → (nbrs u).Nodup) (hb : ∀ u, u < N → ∀ v ∈ nbrs u, v < N) :
    let m := sirPairBased nbrs tr rr X Y XY XX
    Packed4 N (Gen.dSIR_pair_based Vst N nbrs tr rr) m.1 m.2.1 m.2.2.1 m.2.2.2 := by
  rw [gen_sir_loop]
  obtain ⟨c1, c2⟩ := sirLoop_model nbrs tr rr N hn (P := fun u => u < N) (fun _ h => h) hb
    (x := fun i => Vst.f (0 + i)) (y := fun i => Vst.f (N + i)) (xy := fun a b => Vst.f ((2 * N) + (a * N + b)))
    (xx := fun a b => Vst.f (((2 * N) + N * N) + (a * N + b)))
    (fun i hi => by simp only [Nat.zero_add]; exact (hV.2.1 i hi).1) (fun i hi => (hV.2.1 i hi).2)
    (fun a ha b hb' => by simp only [Nat.two_mul, Nat.add_assoc]; exact (hV.2.2 a b ha hb').1)
    (fun a ha b hb' => by simp only [Nat.two_mul, Nat.add_assoc]; exact (hV.2.2 a b ha hb').2)
  exact (packed4 N _ _ _ _).congr c1 c2

end GenEqLoops2
