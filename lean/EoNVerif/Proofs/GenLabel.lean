import EoNVerif.Gen.AnalyticLoopsL
import EoNVerif.Gen.AnalyticLoops
import EoNVerif.Proofs.GenEqLoops
import EoNVerif.Proofs.GenEqLoops2
import Mathlib.Tactic.Ring
import Mathlib.Data.List.Perm.Basic
import Mathlib.Data.List.Nodup
import Mathlib.Algebra.Group.Pi.Basic
import Mathlib.Algebra.Group.Prod
/-!
Label ↔ index mapping of the node-level ODE right-hand sides of `EoN/analytic.py` (C14).

`Gen/AnalyticLoopsL.lean` (namespace `GenL`) is the translation that keeps the node LABELS (`nodelist`, the dict
`index_of_node` as `idx`, `G.neighbors` / rate functions on labels); `Gen/AnalyticLoops.lean` (namespace `Gen`) is the
translation in which a node is its array position.

Main tool: a *label morphism* `LabelMor φ nl …` between two labelled instances (`φ` renames the labels of `nl`,
injectively, and all the data — `index_of_node`, neighbour lists, rates — are transported along `φ` on `nl`).  The
four labelled functions return literally the same vector on both instances (`*_mor`).  Special cases:
* `φ = idx`: the target is the index-level instance (`nodelist = range N`, `idx = id`) = the `Gen` function
  (`*_range`): label erasure;
* `φ = f` an arbitrary injective renaming: relabelling invariance.

Pair-based functions: the loop nests of `Proofs/GenEqLoops2.lean` are written for labels and an index map, and
`sisLoop_cells` / `sirLoop_cells` give every cell of the result as a sum (`cells1`, `cells2`) over `nodelist` and the
neighbour lists of terms that depend on the label-indexed data only.  Hence the three invariances: the terms are
transported along a renaming (`GenEqLoops2.*_mor`, here `sisLoop_mor`, `sirLoop_mor`), every sum is independent of the
order of its list (`*_perm`), and for a well-formed instance the cell of a label holds the term of that label only
(`GenEqLoops2.cells1_label`, `cells2_label`, here `*_listings`).  Individual-based functions: closed form of every
entry (`*IndL_entry`).
-/
namespace GenLabel
open Gen

/-- well-formed labelled instance: `nodelist` has no repeated label, `idx` is
`{node: i for i, node in enumerate(nodelist)}`, neighbours of listed nodes are listed -/
def LabelOK (nodelist : List Nat) (idx : Nat → Nat) (nbrs : Nat → List Nat) : Prop :=
  nodelist.Nodup ∧ (∀ i (h : i < nodelist.length), idx (nodelist[i]) = i) ∧
  (∀ u ∈ nodelist, ∀ v ∈ nbrs u, v ∈ nodelist)

/-- position `i` stands for the label `nodelist[i]`.  `getD … 0`: a position outside the list reads label 0; under
`LabelOK` only positions `< length` are ever used (`getD_mem`). -/
def eraseNbrs (nodelist : List Nat) (idx : Nat → Nat) (nbrs : Nat → List Nat) : Nat → List Nat :=
  fun i => (nbrs (nodelist.getD i 0)).map idx
def eraseTr (nodelist : List Nat) (tr : Nat → Nat → Rat) : Nat → Nat → Rat :=
  fun i j => tr (nodelist.getD i 0) (nodelist.getD j 0)
def eraseRr (nodelist : List Nat) (rr : Nat → Rat) : Nat → Rat :=
  fun i => rr (nodelist.getD i 0)

/-- `φ` transports the labelled instance `(nl, idx, nbrs, tr, rr)` to `(nl.map φ, idx', nbrs', tr', rr')` -/
structure LabelMor (φ : Nat → Nat) (nl : List Nat)
    (idx : Nat → Nat) (nbrs : Nat → List Nat) (tr : Nat → Nat → Rat) (rr : Nat → Rat)
    (idx' : Nat → Nat) (nbrs' : Nat → List Nat) (tr' : Nat → Nat → Rat) (rr' : Nat → Rat) : Prop where
  inj : ∀ u ∈ nl, ∀ v ∈ nl, φ u = φ v → u = v
  closed : ∀ u ∈ nl, ∀ v ∈ nbrs u, v ∈ nl
  hidx : ∀ u ∈ nl, idx' (φ u) = idx u
  hnbrs : ∀ u ∈ nl, nbrs' (φ u) = (nbrs u).map φ
  htr : ∀ u ∈ nl, ∀ v ∈ nl, tr' (φ u) (φ v) = tr u v
  hrr : ∀ u ∈ nl, rr' (φ u) = rr u

theorem foldl_congr_mem {σ α : Type} (F G : σ → α → σ) (l : List α) (h : ∀ a ∈ l, ∀ s, F s a = G s a) (s : σ) :
    l.foldl F s = l.foldl G s := List.foldl_ext F G s fun s a ha => h a ha s

theorem getD_mem (l : List Nat) (i : Nat) (h : i < l.length) : l.getD i 0 ∈ l := by
  rw [List.getD_eq_getElem?_getD, List.getElem?_eq_getElem h, Option.getD_some]
  exact List.getElem_mem h

theorem getD_map (φ : Nat → Nat) (l : List Nat) (i : Nat) (h : i < l.length) :
    (l.map φ).getD i 0 = φ (l.getD i 0) := by
  rw [List.getD_eq_getElem?_getD, List.getD_eq_getElem?_getD, List.getElem?_map, List.getElem?_eq_getElem h]
  rfl

theorem getD_range (N i : Nat) (h : i < N) : (List.range N).getD i 0 = i := by
  rw [List.getD_eq_getElem?_getD, List.getElem?_eq_getElem (by simpa using h), Option.getD_some, List.getElem_range]

theorem LabelOK.map_idx {nl : List Nat} {idx : Nat → Nat} {nbrs : Nat → List Nat} (h : LabelOK nl idx nbrs) :
    nl.map idx = List.range nl.length := by
  apply List.ext_getElem
  · simp
  · intro i h1 h2
    rw [List.getElem_map, List.getElem_range]
    exact h.2.1 i (by simpa using h1)

theorem LabelOK.getD_idx {nl : List Nat} {idx : Nat → Nat} {nbrs : Nat → List Nat} (h : LabelOK nl idx nbrs)
    (u : Nat) (hu : u ∈ nl) : nl.getD (idx u) 0 = u := by
  obtain ⟨i, hi, rfl⟩ := List.getElem_of_mem hu
  rw [h.2.1 i hi, List.getD_eq_getElem?_getD, List.getElem?_eq_getElem hi, Option.getD_some]

theorem LabelOK.idx_lt {nl : List Nat} {idx : Nat → Nat} {nbrs : Nat → List Nat} (h : LabelOK nl idx nbrs)
    (u : Nat) (hu : u ∈ nl) : idx u < nl.length := by
  obtain ⟨i, hi, rfl⟩ := List.getElem_of_mem hu
  rw [h.2.1 i hi]; exact hi

theorem LabelOK.idx_inj {nl : List Nat} {idx : Nat → Nat} {nbrs : Nat → List Nat} (h : LabelOK nl idx nbrs)
    (u : Nat) (hu : u ∈ nl) (v : Nat) (hv : v ∈ nl) (e : idx u = idx v) : u = v := by
  rw [← h.getD_idx u hu, ← h.getD_idx v hv, e]

/-- what `sis/sirPairBased_nodelist_perm` need of two listings of one graph -/
theorem LabelOK.perm_bounds {nl nl' : List Nat} {idx idx' : Nat → Nat} {nbrs : Nat → List Nat} (h : LabelOK nl idx nbrs)
    (h' : LabelOK nl' idx' nbrs) (hp : nl.Perm nl') :
    nl'.length = nl.length ∧ (∀ a ∈ nl, ∀ b ∈ nl, idx' a = idx' b → a = b) ∧
      (∀ u ∈ nl, idx u < nl.length) ∧ ∀ u ∈ nl, idx' u < nl.length :=
  have hm : ∀ u, u ∈ nl → u ∈ nl' := fun _ hu => hp.mem_iff.1 hu
  ⟨hp.length_eq.symm, fun a ha b hb e => h'.idx_inj a (hm a ha) b (hm b hb) e, h.idx_lt,
    fun u hu => hp.length_eq ▸ h'.idx_lt u (hm u hu)⟩

theorem LabelOK.mor_erase {nl : List Nat} {idx : Nat → Nat} {nbrs : Nat → List Nat} (h : LabelOK nl idx nbrs)
    (tr : Nat → Nat → Rat) (rr : Nat → Rat) :
    LabelMor idx nl idx nbrs tr rr id (eraseNbrs nl idx nbrs) (eraseTr nl tr) (eraseRr nl rr) where
  inj := h.idx_inj
  closed := h.2.2
  hidx := fun u hu => rfl
  hnbrs := fun u hu => by simp only [eraseNbrs, h.getD_idx u hu]
  htr := fun u hu v hv => by simp only [eraseTr, h.getD_idx u hu, h.getD_idx v hv]
  hrr := fun u hu => by simp only [eraseRr, h.getD_idx u hu]

theorem mor_rename (f g : Nat → Nat) (nl : List Nat) (idx : Nat → Nat) (nbrs : Nat → List Nat)
    (tr : Nat → Nat → Rat) (rr : Nat → Rat)
    (hg : ∀ u ∈ nl, g (f u) = u) (hc : ∀ u ∈ nl, ∀ v ∈ nbrs u, v ∈ nl) :
    LabelMor f nl idx nbrs tr rr (idx ∘ g) (fun u => (nbrs (g u)).map f) (fun u v => tr (g u) (g v))
      (fun u => rr (g u)) where
  inj := fun u hu v hv e => by rw [← hg u hu, ← hg v hv, e]
  closed := hc
  hidx := fun u hu => by simp only [Function.comp, hg u hu]
  hnbrs := fun u hu => by simp only [hg u hu]
  htr := fun u hu v hv => by simp only [hg u hu, hg v hv]
  hrr := fun u hu => by simp only [hg u hu]

/-! ## individual-based functions -/

section individual
variable {φ : Nat → Nat} {nl : List Nat} {idx : Nat → Nat} {nbrs : Nat → List Nat} {tr : Nat → Nat → Rat}
  {rr : Nat → Rat} {idx' : Nat → Nat} {nbrs' : Nat → List Nat} {tr' : Nat → Nat → Rat} {rr' : Nat → Rat}

theorem sisInd_mor (H : LabelMor φ nl idx nbrs tr rr idx' nbrs' tr' rr') (Y : V) :
    GenL.dSIS_individual_basedL Y (nl.map φ) idx' nbrs' tr' rr' = GenL.dSIS_individual_basedL Y nl idx nbrs tr rr := by
  unfold GenL.dSIS_individual_basedL
  simp only [List.length_map]
  congr 1
  apply foldl_congr_mem
  intro i hi st
  have hi' : i < nl.length := List.mem_range.1 hi
  have hm := getD_mem nl i hi'
  simp only [getD_map φ nl i hi', H.hnbrs _ hm, H.hrr _ hm, List.map_map]
  congr 3
  apply List.map_congr_left
  intro v hv
  have hv' := H.closed _ hm v hv
  simp only [Function.comp, H.htr _ hm _ hv', H.hidx _ hv']

theorem sirInd_mor (H : LabelMor φ nl idx nbrs tr rr idx' nbrs' tr' rr') (Vst : V) :
    GenL.dSIR_individual_basedL Vst (nl.map φ) idx' nbrs' tr' rr' = GenL.dSIR_individual_basedL Vst nl idx nbrs tr rr := by
  unfold GenL.dSIR_individual_basedL
  simp only [List.length_map]
  refine congrArg (fun r : (Nat → Rat) × (Nat → Rat) => V.append ⟨nl.length, r.1⟩ ⟨nl.length, r.2⟩)
    (foldl_congr_mem _ _ _ ?_ _)
  intro i hi st
  obtain ⟨dX, dY⟩ := st
  have hi' : i < nl.length := List.mem_range.1 hi
  have hm := getD_mem nl i hi'
  have hs : (nbrs (nl.getD i 0)).map ((fun nbr => tr' (φ (nl.getD i 0)) nbr * Vst.f (nl.length + idx' nbr)) ∘ φ)
      = (nbrs (nl.getD i 0)).map (fun nbr => tr (nl.getD i 0) nbr * Vst.f (nl.length + idx nbr)) := by
    apply List.map_congr_left
    intro v hv
    have hv' := H.closed _ hm v hv
    simp only [Function.comp, H.htr _ hm _ hv', H.hidx _ hv']
  simp only [getD_map φ nl i hi', H.hnbrs _ hm, H.hrr _ hm, List.map_map, hs]

/-- the index-level function is the labelled function on the instance `nodelist = range N`, `index_of_node = id` -/
theorem sisInd_range (Y : V) (N : Nat) (nbrs : Nat → List Nat) (tr : Nat → Nat → Rat) (rr : Nat → Rat) :
    GenL.dSIS_individual_basedL Y (List.range N) id nbrs tr rr = Gen.dSIS_individual_based Y N nbrs tr rr := by
  unfold GenL.dSIS_individual_basedL Gen.dSIS_individual_based
  simp only [List.length_range]
  congr 1
  apply foldl_congr_mem
  intro i hi st
  simp only [getD_range N i (List.mem_range.1 hi), id]

theorem sirInd_range (Vst : V) (N : Nat) (nbrs : Nat → List Nat) (tr : Nat → Nat → Rat) (rr : Nat → Rat) :
    GenL.dSIR_individual_basedL Vst (List.range N) id nbrs tr rr = Gen.dSIR_individual_based Vst N nbrs tr rr := by
  unfold GenL.dSIR_individual_basedL Gen.dSIR_individual_based
  simp only [List.length_range]
  refine congrArg (fun r : (Nat → Rat) × (Nat → Rat) => V.append ⟨N, r.1⟩ ⟨N, r.2⟩)
    (foldl_congr_mem _ _ _ ?_ _)
  intro i hi st
  simp only [getD_range N i (List.mem_range.1 hi), id]

end individual

/-! ## pair-based functions

The loop nests `sisLoop`, `sirLoop` of `Proofs/GenEqLoops2.lean` are written for labels and an index map; what they
read is given as a function of labels.  `onL idx a` is the array `a` read at the position of a label. -/

-- `A`, `M` are the TYPES `Nat → Rat`, `Nat → Nat → Rat` here (in `GenEqLoops`, `Props/C06b`, `EffDegAgg`, `A B` are array sizes)
open GenEqLoops2 (A M xinvG flat sisLoop sirLoop sisLoop_cells sirLoop_cells cells1 cells2 cells1_map cells2_map
  cells2_perm cells1_label cells2_label sisGY sisTXY sisTXX sirGX sirTXY triXY triXX sisGY_mor sirGX_mor sisTXY_mor
  sisTXX_mor sirTXY_mor triXX_mor)

def onL (idx : Nat → Nat) (a : A) : A := fun u => a (idx u)
def onL2 (idx : Nat → Nat) (m : M) : M := fun u v => m (idx u) (idx v)

/-- the generated labelled `_dSIS_pair_based_` IS the loop nest `sisLoop` (by unfolding) -/
theorem genL_sis_loop (Vst : V) (nl : List Nat) (idx : Nat → Nat) (nbrs : Nat → List Nat) (tr : Nat → Nat → Rat)
    (rr : Nat → Rat) :
    GenL.dSIS_pair_basedL Vst nl idx nbrs tr rr =
      (let N := nl.length
       let y : A := fun i => Vst.f (0 + i)
       let r := sisLoop idx nbrs tr rr (onL idx fun i => xinvG (1 - y i))
         (onL2 idx fun a b => Vst.f (N + (a * N + b))) (onL2 idx fun a b => Vst.f ((N + N * N) + (a * N + b))) nl
         (onL idx y)
       V.append ⟨N, r.1⟩ (V.append (flat N N r.2.1) (flat N N r.2.2))) := rfl

theorem genL_sir_loop (Vst : V) (nl : List Nat) (idx : Nat → Nat) (nbrs : Nat → List Nat) (tr : Nat → Nat → Rat)
    (rr : Nat → Rat) :
    GenL.dSIR_pair_basedL Vst nl idx nbrs tr rr =
      (let N := nl.length
       let r := sirLoop idx nbrs tr rr (onL idx fun i => xinvG (Vst.f (0 + i)))
         (onL2 idx fun a b => Vst.f ((2 * N) + (a * N + b)))
         (onL2 idx fun a b => Vst.f (((2 * N) + N * N) + (a * N + b))) nl (onL idx fun i => Vst.f (N + i))
       V.append ⟨N, r.2.1⟩ (V.append ⟨N, r.1⟩ (V.append (flat N N r.2.2.1) (flat N N r.2.2.2)))) := rfl

theorem sisPair_range (Vst : V) (N : Nat) (nbrs : Nat → List Nat) (tr : Nat → Nat → Rat) (rr : Nat → Rat) :
    GenL.dSIS_pair_basedL Vst (List.range N) id nbrs tr rr = Gen.dSIS_pair_based Vst N nbrs tr rr := by
  rw [genL_sis_loop, GenEqLoops2.gen_sis_loop]
  simp only [List.length_range]
  rfl

theorem sirPair_range (Vst : V) (N : Nat) (nbrs : Nat → List Nat) (tr : Nat → Nat → Rat) (rr : Nat → Rat) :
    GenL.dSIR_pair_basedL Vst (List.range N) id nbrs tr rr = Gen.dSIR_pair_based Vst N nbrs tr rr := by
  rw [genL_sir_loop, GenEqLoops2.gen_sir_loop]
  simp only [List.length_range]
  rfl

/-! ### the loop nests under a label morphism, a reordering of the neighbour lists, and for two listings of one graph -/

section mor
variable {φ : Nat → Nat} {nl : List Nat} {idx : Nat → Nat} {nbrs : Nat → List Nat} {tr : Nat → Nat → Rat}
  {rr : Nat → Rat} {idx' : Nat → Nat} {nbrs' : Nat → List Nat} {tr' : Nat → Nat → Rat} {rr' : Nat → Rat}
  (H : LabelMor φ nl idx nbrs tr rr idx' nbrs' tr' rr') (XI : A) (XY XX : M) (Y : A)
include H

theorem onL_mor (a : A) : ∀ u ∈ nl, onL idx' a (φ u) = onL idx a u := fun u hu => congrArg a (H.hidx u hu)

theorem onL2_mor (m : M) : ∀ u ∈ nl, ∀ v ∈ nl, onL2 idx' m (φ u) (φ v) = onL2 idx m u v :=
  fun u hu v hv => congrArg₂ m (H.hidx u hu) (H.hidx v hv)

theorem sisLoop_mor :
    sisLoop idx' nbrs' tr' rr' (onL idx' XI) (onL2 idx' XY) (onL2 idx' XX) (nl.map φ) (onL idx' Y)
      = sisLoop idx nbrs tr rr (onL idx XI) (onL2 idx XY) (onL2 idx XX) nl (onL idx Y) := by
  rw [sisLoop_cells, sisLoop_cells]
  refine Prod.ext ?_ (Prod.ext ?_ ?_)
  · exact cells1_map φ fun u hu =>
      ⟨H.hidx u hu, sisGY_mor H.closed H.hnbrs H.htr H.hrr (onL2_mor H XY) (onL_mor H Y) u hu⟩
  · exact cells2_map φ (fun u hu => ⟨H.hidx u hu, H.hnbrs u hu⟩) fun u hu v hv =>
      ⟨H.hidx v (H.closed u hu v hv),
       sisTXY_mor H.inj H.closed H.hnbrs H.htr H.hrr (onL_mor H XI) (onL2_mor H XY) (onL2_mor H XX) u v hu (H.closed u hu v hv)⟩
  · exact cells2_map φ (fun u hu => ⟨H.hidx u hu, H.hnbrs u hu⟩) fun u hu v hv =>
      ⟨H.hidx v (H.closed u hu v hv),
       sisTXX_mor H.inj H.closed H.hnbrs H.htr H.hrr (onL_mor H XI) (onL2_mor H XY) (onL2_mor H XX) u v hu (H.closed u hu v hv)⟩

theorem sirLoop_mor :
    sirLoop idx' nbrs' tr' rr' (onL idx' XI) (onL2 idx' XY) (onL2 idx' XX) (nl.map φ) (onL idx' Y)
      = sirLoop idx nbrs tr rr (onL idx XI) (onL2 idx XY) (onL2 idx XX) nl (onL idx Y) := by
  rw [sirLoop_cells, sirLoop_cells]
  refine Prod.ext ?_ (Prod.ext ?_ (Prod.ext ?_ ?_))
  · exact cells1_map φ fun u hu =>
      ⟨H.hidx u hu, sisGY_mor H.closed H.hnbrs H.htr H.hrr (onL2_mor H XY) (onL_mor H Y) u hu⟩
  · exact cells1_map φ fun u hu => ⟨H.hidx u hu, sirGX_mor H.closed H.hnbrs H.htr (onL2_mor H XY) u hu⟩
  · exact cells2_map φ (fun u hu => ⟨H.hidx u hu, H.hnbrs u hu⟩) fun u hu v hv =>
      ⟨H.hidx v (H.closed u hu v hv),
       sirTXY_mor H.inj H.closed H.hnbrs H.htr H.hrr (onL_mor H XI) (onL2_mor H XY) (onL2_mor H XX) u v hu (H.closed u hu v hv)⟩
  · exact cells2_map φ (fun u hu => ⟨H.hidx u hu, H.hnbrs u hu⟩) fun u hu v hv =>
      ⟨H.hidx v (H.closed u hu v hv),
       triXX_mor H.inj H.closed H.hnbrs H.htr (onL_mor H XI) (onL2_mor H XY) (onL2_mor H XX) u v hu (H.closed u hu v hv)⟩

theorem sisPair_mor (Vst : V) :
    GenL.dSIS_pair_basedL Vst (nl.map φ) idx' nbrs' tr' rr' = GenL.dSIS_pair_basedL Vst nl idx nbrs tr rr := by
  rw [genL_sis_loop, genL_sis_loop]
  simp only [List.length_map, sisLoop_mor H]

theorem sirPair_mor (Vst : V) :
    GenL.dSIR_pair_basedL Vst (nl.map φ) idx' nbrs' tr' rr' = GenL.dSIR_pair_basedL Vst nl idx nbrs tr rr := by
  rw [genL_sir_loop, genL_sir_loop]
  simp only [List.length_map, sirLoop_mor H]

end mor

section perm
variable (idx : Nat → Nat) {nbrs nbrs' : Nat → List Nat} (hp : ∀ u, (nbrs u).Perm (nbrs' u)) (tr : Nat → Nat → Rat)
  (rr : Nat → Rat) (xi : A) (xy xx : M)
include hp

theorem triXY_perm : triXY nbrs tr xi xy xx = triXY nbrs' tr xi xy xx := by
  funext u v
  unfold triXY
  rw [sumRat_perm (((hp v).filter _).map _), sumRat_perm (((hp u).filter _).map _)]

theorem triXX_perm : triXX nbrs tr xi xy xx = triXX nbrs' tr xi xy xx := by
  funext u v
  unfold triXX
  rw [sumRat_perm (((hp v).filter _).map _), sumRat_perm (((hp u).filter _).map _)]

theorem sisGY_perm (y : A) : sisGY nbrs tr rr xy y = sisGY nbrs' tr rr xy y := by
  funext u
  unfold sisGY
  rw [sumRat_perm ((hp u).map _)]

theorem sirGX_perm : sirGX nbrs tr xy = sirGX nbrs' tr xy := by
  funext u
  unfold sirGX
  rw [sumRat_perm ((hp u).map _)]

/-- every sum of the loop nest is over a neighbour list, hence independent of its order -/
theorem sisLoop_nbr_perm (nl : List Nat) (y : A) :
    sisLoop idx nbrs tr rr xi xy xx nl y = sisLoop idx nbrs' tr rr xi xy xx nl y := by
  rw [sisLoop_cells, sisLoop_cells, cells2_perm hp, cells2_perm hp, sisGY_perm hp]
  unfold sisTXY sisTXX
  rw [triXY_perm hp, triXX_perm hp]

theorem sirLoop_nbr_perm (nl : List Nat) (y : A) :
    sirLoop idx nbrs tr rr xi xy xx nl y = sirLoop idx nbrs' tr rr xi xy xx nl y := by
  rw [sirLoop_cells, sirLoop_cells, cells2_perm hp, cells2_perm hp, sisGY_perm hp, sirGX_perm hp]
  unfold sirTXY
  rw [triXY_perm hp, triXX_perm hp]

end perm

theorem cells1_listings {nl nl' : List Nat} {idx idx' : Nat → Nat} {nbrs : Nat → List Nat} (h : LabelOK nl idx nbrs)
    (h' : LabelOK nl' idx' nbrs) (hp : nl.Perm nl') {g g' : Nat → Rat} (hg : ∀ u ∈ nl, g' u = g u) (u : Nat)
    (hu : u ∈ nl) : cells1 idx' nl' g' (idx' u) = cells1 idx nl g (idx u) := by
  rw [cells1_label h'.1 h'.idx_inj g' u (hp.mem_iff.1 hu), cells1_label h.1 h.idx_inj g u hu, hg u hu]

theorem cells2_listings {nl nl' : List Nat} {idx idx' : Nat → Nat} {nbrs : Nat → List Nat} (h : LabelOK nl idx nbrs)
    (h' : LabelOK nl' idx' nbrs) (hp : nl.Perm nl') {T T' : Nat → Nat → Rat} (hT : ∀ u ∈ nl, ∀ v ∈ nl, T' u v = T u v)
    (u v : Nat) (hu : u ∈ nl) (hv : v ∈ nl) :
    cells2 idx' nl' nbrs T' (idx' u) (idx' v) = cells2 idx nl nbrs T (idx u) (idx v) := by
  rw [cells2_label h'.1 h'.idx_inj h'.2.2 T' u v (hp.mem_iff.1 hu) (hp.mem_iff.1 hv),
    cells2_label h.1 h.idx_inj h.2.2 T u v hu hv]
  apply sumRat_map_congr
  intro w hw
  rw [hT u hu w (h.2.2 u hu w hw)]

section listings
variable {nl nl' : List Nat} {idx idx' : Nat → Nat} {nbrs : Nat → List Nat} (h : LabelOK nl idx nbrs)
  (h' : LabelOK nl' idx' nbrs) (hp : nl.Perm nl') (tr : Nat → Nat → Rat) (rr : Nat → Rat) {xi xi' y y' : A}
  {xy xy' xx xx' : M} (hxi : ∀ u ∈ nl, xi' u = xi u) (hxy : ∀ u ∈ nl, ∀ v ∈ nl, xy' u v = xy u v)
  (hxx : ∀ u ∈ nl, ∀ v ∈ nl, xx' u v = xx u v) (hy : ∀ u ∈ nl, y' u = y u)
include h h' hp hxi hxy hxx hy

/-- listing the nodes in another order, with label-indexed data that agree on the listed labels, leaves the same
values in the cells of the labels -/
theorem sisLoop_listings :
    let r := sisLoop idx nbrs tr rr xi xy xx nl y
    let r' := sisLoop idx' nbrs tr rr xi' xy' xx' nl' y'
    (∀ u ∈ nl, r'.1 (idx' u) = r.1 (idx u)) ∧
    ∀ u ∈ nl, ∀ v ∈ nl, r'.2.1 (idx' u) (idx' v) = r.2.1 (idx u) (idx v) ∧
      r'.2.2 (idx' u) (idx' v) = r.2.2 (idx u) (idx v) := by
  have hid : ∀ u ∈ nl, nbrs (id u) = (nbrs u).map id := fun u _ => (List.map_id _).symm
  simp only [sisLoop_cells]
  exact ⟨cells1_listings h h' hp fun u hu =>
      sisGY_mor (φ := id) h.2.2 hid (fun _ _ _ _ => rfl) (fun _ _ => rfl) hxy hy u hu,
    fun u hu v hv => ⟨cells2_listings h h' hp (fun u hu v hv => sisTXY_mor (φ := id) (fun _ _ _ _ e => e) h.2.2 hid
        (fun _ _ _ _ => rfl) (fun _ _ => rfl) hxi hxy hxx u v hu hv) u v hu hv,
      cells2_listings h h' hp (fun u hu v hv => sisTXX_mor (φ := id) (fun _ _ _ _ e => e) h.2.2 hid
        (fun _ _ _ _ => rfl) (fun _ _ => rfl) hxi hxy hxx u v hu hv) u v hu hv⟩⟩

theorem sirLoop_listings :
    let r := sirLoop idx nbrs tr rr xi xy xx nl y
    let r' := sirLoop idx' nbrs tr rr xi' xy' xx' nl' y'
    (∀ u ∈ nl, r'.1 (idx' u) = r.1 (idx u) ∧ r'.2.1 (idx' u) = r.2.1 (idx u)) ∧
    ∀ u ∈ nl, ∀ v ∈ nl, r'.2.2.1 (idx' u) (idx' v) = r.2.2.1 (idx u) (idx v) ∧
      r'.2.2.2 (idx' u) (idx' v) = r.2.2.2 (idx u) (idx v) := by
  have hid : ∀ u ∈ nl, nbrs (id u) = (nbrs u).map id := fun u _ => (List.map_id _).symm
  simp only [sirLoop_cells]
  exact ⟨fun u hu => ⟨cells1_listings h h' hp (fun u hu =>
        sisGY_mor (φ := id) h.2.2 hid (fun _ _ _ _ => rfl) (fun _ _ => rfl) hxy hy u hu) u hu,
      cells1_listings h h' hp (fun u hu => sirGX_mor (φ := id) h.2.2 hid (fun _ _ _ _ => rfl) hxy u hu) u hu⟩,
    fun u hu v hv => ⟨cells2_listings h h' hp (fun u hu v hv => sirTXY_mor (φ := id) (fun _ _ _ _ e => e) h.2.2 hid
        (fun _ _ _ _ => rfl) (fun _ _ => rfl) hxi hxy hxx u v hu hv) u v hu hv,
      cells2_listings h h' hp (fun u hu v hv => triXX_mor (φ := id) (fun _ _ _ _ e => e) h.2.2 hid
        (fun _ _ _ _ => rfl) hxi hxy hxx u v hu hv) u v hu hv⟩⟩

end listings

/-! ## the entries of the individual-based functions -/

theorem sisIndL_entry (Y : V) (nl : List Nat) (idx : Nat → Nat) (nbrs : Nat → List Nat) (tr : Nat → Nat → Rat)
    (rr : Nat → Rat) (i : Nat) (hi : i < nl.length) :
    (GenL.dSIS_individual_basedL Y nl idx nbrs tr rr).f i
      = sumRat ((nbrs (nl.getD i 0)).map fun nbr => tr (nl.getD i 0) nbr * (1 - Y.f i) * Y.f (idx nbr))
        - rr (nl.getD i 0) * Y.f i := by
  unfold GenL.dSIS_individual_basedL
  dsimp only
  rw [GenEqLoops.foldl_upd1_range
    (fun index => sumRat ((nbrs (nl.getD index 0)).map fun nbr => tr (nl.getD index 0) nbr * (1 - Y.f index) * Y.f (idx nbr))
        - rr (nl.getD index 0) * Y.f index)]
  simp only [hi, if_true]

theorem sirIndL_entry (Vst : V) (nl : List Nat) (idx : Nat → Nat) (nbrs : Nat → List Nat) (tr : Nat → Nat → Rat)
    (rr : Nat → Rat) (i : Nat) (hi : i < nl.length) :
    (GenL.dSIR_individual_basedL Vst nl idx nbrs tr rr).f i
      = (-(Vst.f i)) * sumRat ((nbrs (nl.getD i 0)).map fun nbr => tr (nl.getD i 0) nbr * Vst.f (nl.length + idx nbr)) ∧
    (GenL.dSIR_individual_basedL Vst nl idx nbrs tr rr).f (nl.length + i)
      = (-((-(Vst.f i)) * sumRat ((nbrs (nl.getD i 0)).map fun nbr => tr (nl.getD i 0) nbr * Vst.f (nl.length + idx nbr))))
        - rr (nl.getD i 0) * Vst.f (nl.length + i) := by
  unfold GenL.dSIR_individual_basedL
  dsimp only
  have key := fun F => GenEqLoops.foldl_upd1_pair_dep F
    (fun i => (-(Vst.f i)) * sumRat ((nbrs (nl.getD i 0)).map fun nbr => tr (nl.getD i 0) nbr * Vst.f (nl.length + idx nbr)))
    (fun i d => -d - rr (nl.getD i 0) * Vst.f (nl.length + i)) nl.length
  constructor
  · rw [V.append_f_lt _ _ i hi]
    exact ((key _ (fun a b i hi => rfl) _ _).1 i).trans (if_pos hi)
  · rw [V.append_f_ge ⟨nl.length, _⟩ ⟨nl.length, _⟩ i]
    exact ((key _ (fun a b i hi => rfl) _ _).2 i).trans (if_pos hi)

/-! ## the erased instance satisfies the hypotheses of `Props/GenLoops2.lean` -/

theorem LabelOK.erase_nodup {nl : List Nat} {idx : Nat → Nat} {nbrs : Nat → List Nat} (h : LabelOK nl idx nbrs)
    (hn : ∀ u ∈ nl, (nbrs u).Nodup) : ∀ i, i < nl.length → (eraseNbrs nl idx nbrs i).Nodup := by
  intro i hi
  have hm := getD_mem nl i hi
  exact List.Nodup.map_on (fun a ha b hb e => h.idx_inj a (h.2.2 _ hm a ha) b (h.2.2 _ hm b hb) e) (hn _ hm)

theorem LabelOK.erase_bound {nl : List Nat} {idx : Nat → Nat} {nbrs : Nat → List Nat} (h : LabelOK nl idx nbrs) :
    ∀ i, i < nl.length → ∀ v ∈ eraseNbrs nl idx nbrs i, v < nl.length := by
  intro i hi v hv
  obtain ⟨w, hw, rfl⟩ := List.mem_map.1 hv
  exact h.idx_lt w (h.2.2 _ (getD_mem nl i hi) w hw)

end GenLabel
