import EoNVerif.Proofs.Simple
import EoNVerif.Proofs.Gillespie
import Mathlib.Tactic.Ring
import Mathlib.Tactic.Linarith
/-!
`Gillespie_simple_contagion`, continued: the invariant `Simple.Inv` holds after `init`, is preserved by `applyEvent` on
enabled events (the only ones `pick` returns), hence along `loop` and `run`, which therefore never raise `KeyError`
(`loop_safe`, `run_safe`); under the invariant the rate handed to `expovariate` is the total rate of the specified chain
(`clock_eq'`).
-/


namespace Simple
variable {σ : Type} [DecidableEq σ]

/-! ### applying an event -/

/-- not the `Core` lemma the sister files call `applyEvent_core`: that one is `applyEvent_coreT` in
`Proofs/SimpleTraj.lean` -/
theorem applyEvent_core (P : SCParams σ) (h : WF P) (s : SCState σ) (hs : Inv P s) (e : SCEvent) (t : Rat)
    (src : Option Node) (m : Node) (old new : σ) (hdec : decode P e = some (src, m, old, new))
    (hm : m ∈ P.nodes) (hold : s.status m = old) :
    ∃ s', applyEvent P s e t = some s' ∧ Inv P s' ∧ s'.status = fset s.status m new := by
  subst hold
  obtain ⟨ps, hps, hpsl, hpsq⟩ := mapPT_spec P.spont s.ptS (updSpontOne (s.status m) new m)
    (SpontOK (· ∈ P.nodes) s.status) (SpontOK (· ∈ P.nodes) (fset s.status m new)) hs.lenS
    (fun _ _ _ h1 h2 => hs.spontOK h1 h2)
    (fun tr ld htr hq => updSpontOne_spec P h s.status m hm new tr htr ld hq)
  obtain ⟨pi, hpi, hpil, hpiq⟩ := mapPT_spec P.ind s.ptI (updIndOne P (fset s.status m new) (s.status m) new m)
    (IndOK P (· ∈ P.nodes) s.status) (IndOK P (· ∈ P.nodes) (fset s.status m new)) hs.lenI
    (fun _ _ _ h1 h2 => hs.indOK h1 h2)
    (fun tr ld htr hq => updIndOne_spec P h s.status m hm new tr htr ld hq)
  simp only [applyEvent, hdec, Option.bind_eq_bind, Option.bind_some, hps, hpi]
  exact ⟨_, rfl, ⟨hpsl, hpil, fun i tr ld h1 h2 => spontOK_iff.1 (hpsq i tr ld h1 h2),
    fun i tr ld h1 h2 => indOK_iff.1 (hpiq i tr ld h1 h2),
    StatusCounts.data_step P.nodes h.nodup P.ret s.data s.status m hm new _ _ hs.counts⟩, rfl⟩

omit [DecidableEq σ] in
theorem decode_spont (P : SCParams σ) (i : Nat) (tr : SpontTr σ) (htr : P.spont[i]? = some tr) (u : Node) :
    decode P { idx := i, actor := [u] } = some (none, u, tr.src, tr.dst) := by
  unfold decode
  rw [if_pos (List.getElem?_eq_some_iff.1 htr).1, htr]

omit [DecidableEq σ] in
theorem decode_ind (P : SCParams σ) (i : Nat) (hge : P.spont.length ≤ i) (tr : IndTr σ)
    (htr : P.ind[i - P.spont.length]? = some tr) (u v : Node) :
    decode P { idx := i, actor := [u, v] } = some (some u, v, tr.b, tr.c) := by
  unfold decode
  rw [if_neg (Nat.not_lt.2 hge), htr]

theorem applyEvent_inv' (P : SCParams σ) (h : WF P) (s : SCState σ) (hs : Inv P s) (e : SCEvent) (t : Rat)
    (he : Enabled s e) :
    ∃ src m old new s', decode P e = some (src, m, old, new) ∧ s.status m = old ∧
      (∀ u, src = some u → m ∈ P.succ u ∧ ∃ tr, P.ind[e.idx - P.spont.length]? = some tr ∧ s.status u = tr.a) ∧
      applyEvent P s e t = some s' ∧ Inv P s' ∧ s'.status = fset s.status m new := by
  obtain ⟨ld, hld, hact⟩ := he
  rcases hs.cases hld with ⟨tr, htr, hld⟩ | ⟨tr, hge, htr, hld⟩
  · obtain ⟨-, -, hmem, -⟩ := hs.spont e.idx tr ld htr hld
    obtain ⟨u, hu, hun, hsu⟩ := (hmem e.actor).1 hact
    have hdec : decode P e = some (none, u, tr.src, tr.dst) := by
      rw [← decode_spont P e.idx tr htr u, ← hu]
    obtain ⟨s', h1, h2, h3⟩ := applyEvent_core P h s hs e t none u _ tr.dst hdec hun hsu
    exact ⟨none, u, _, _, s', hdec, hsu, (by intro u' hc; cases hc), h1, h2, h3⟩
  · obtain ⟨-, -, hmem, -⟩ := hs.ind _ tr ld htr hld
    obtain ⟨u, v, huv, hun, hvu, hsu, hsv⟩ := (hmem e.actor).1 hact
    have hdec : decode P e = some (some u, v, tr.b, tr.c) := by
      rw [← decode_ind P e.idx hge tr htr u v, ← huv]
    obtain ⟨s', h1, h2, h3⟩ := applyEvent_core P h s hs e t (some u) v _ tr.c hdec (h.succ_mem u hun v hvu) hsv
    refine ⟨some u, v, _, _, s', hdec, hsv, ?_, h1, h2, h3⟩
    intro u' hc
    obtain rfl : u = u' := Option.some.inj hc
    exact ⟨hvu, _, htr, hsu⟩

/-! ### the initial state -/

theorem initSpontOne_spec (P : SCParams σ) (h : WF P) (st : Node → σ) (u : Node) (D : Node → Prop) (hD : ¬ D u)
    (tr : SpontTr σ) (htr : tr ∈ P.spont) (ld : LD Actor) (hok : SpontOK D st tr ld) :
    ∃ ld', initSpontOne st u tr ld = some ld' ∧ SpontOK (fun x => D x ∨ x = u) st tr ld' := by
  have e : initSpontOne st u tr ld = ld.applyOps (B1 [u] False (st u = tr.src) (wS tr u)) := by
    rw [applyOps_B1, if_neg not_false]; rfl
  rw [e]
  exact spont_batch_spec P h D _ st st u (fun x => Iff.rfl) (fun _ _ => rfl) tr htr ld hok _ _
    ⟨False.elim, fun e => hD e.1⟩ Iff.rfl

def initOps (st : Node → σ) (u : Node) (tr : IndTr σ) (l : List Node) : List AOp :=
  l.flatMap fun v => B1 [u, v] False (st u = tr.a ∧ st v = tr.b) (wI tr u v)

theorem initIndNbrs_eq (st : Node → σ) (u : Node) (tr : IndTr σ) (l : List Node) (ld : LD Actor) :
    initIndNbrs st u tr l ld = ld.applyOps (initOps st u tr l) := by
  induction l generalizing ld with
  | nil => rfl
  | cons v rest ih =>
    unfold initOps at ih ⊢
    rw [List.flatMap_cons, initIndNbrs, LD.applyOps_append, applyOps_B1]
    rw [if_neg not_false, Option.bind_some]
    by_cases hc : st u = tr.a ∧ st v = tr.b
    · rw [if_pos hc, if_pos hc]
      cases ld.update [u, v] (wI tr u v) with
      | none => rfl
      | some ld1 => exact ih ld1
    · rw [if_neg hc, if_neg hc]
      exact ih ld

theorem initIndNbrs_spec (P : SCParams σ) (h : WF P) (st : Node → σ) (u : Node) (hu : u ∈ P.nodes)
    (D : Node → Prop) (hD : ¬ D u)
    (tr : IndTr σ) (htr : tr ∈ P.ind) (ld : LD Actor) (hok : IndOK P D st tr ld) :
    ∃ ld', initIndNbrs st u tr (P.succ u) ld = some ld' ∧ IndOK P (fun x => D x ∨ x = u) st tr ld' := by
  rw [initIndNbrs_eq]
  refine LD.Tracks.applyOps_local hok _ (fun a v hv => wI_nonneg P h tr htr _ _ v hv) _ ?_
    (fun a => ∃ v, v ∈ P.succ u ∧ a = [u, v]) (fun y w => ?_) (fun y => ?_) (fun y w => ?_) fun y hK => ?_
  · apply flatMap_pairwise _ (h.succ_nodup u hu)
    · intro v _; exact B1_pairwise _ _ _ _
    · intro v _ v' _ hne x hx y hy
      rw [key_of_mem_B1 _ _ _ _ x hx, key_of_mem_B1 _ _ _ _ y hy]
      simpa using hne
  · unfold initOps; simp only [List.mem_flatMap, mem_B1_ins, and_false, exists_false, not_false_eq_true]
  · -- nothing is removed: the pairs of `u` are not listed yet
    unfold initOps; simp only [List.mem_flatMap, mem_B1_rem, and_false, exists_false, false_iff]
    rintro ⟨⟨v, -, rfl⟩, hT⟩
    exact hD (IndT_pair.1 hT).1
  · unfold initOps; simp only [List.mem_flatMap, mem_B1_upd]
    constructor
    · rintro ⟨v, hv, rfl, ⟨h1, h2⟩, rfl⟩
      exact ⟨⟨v, hv, rfl⟩, IndT_pair.2 ⟨Or.inr rfl, hv, h1, h2⟩, rfl⟩
    · rintro ⟨⟨v, hv, rfl⟩, hT, rfl⟩
      obtain ⟨-, -, h1, h2⟩ := IndT_pair.1 hT
      exact ⟨v, hv, rfl, ⟨h1, h2⟩, rfl⟩
  · refine exists_congr fun u' => exists_congr fun v => and_congr_right fun e => ?_
    subst e
    refine and_congr_left fun hr => or_iff_left fun e => hK ⟨v, e ▸ hr.1, by rw [e]⟩

/-- the loop over the nodes: `D` are the nodes already processed, `D'` those processed at the end -/
theorem initNodes_spec (P : SCParams σ) (h : WF P) (st : Node → σ) (l : List Node) (hl : l.Nodup)
    (hln : ∀ u ∈ l, u ∈ P.nodes) (D D' : Node → Prop) (hD : ∀ u ∈ l, ¬ D u) (hD' : ∀ x, D' x ↔ D x ∨ x ∈ l)
    (ps pi : List (LD Actor)) (lenS : ps.length = P.spont.length) (lenI : pi.length = P.ind.length)
    (hS : ∀ (i : Nat) tr ld, P.spont[i]? = some tr → ps[i]? = some ld → SpontOK D st tr ld)
    (hI : ∀ (i : Nat) tr ld, P.ind[i]? = some tr → pi[i]? = some ld → IndOK P D st tr ld) :
    ∃ ps' pi', initNodes P st l ps pi = some (ps', pi') ∧ ps'.length = P.spont.length ∧
      pi'.length = P.ind.length ∧
      (∀ (i : Nat) tr ld, P.spont[i]? = some tr → ps'[i]? = some ld → SpontOK D' st tr ld) ∧
      (∀ (i : Nat) tr ld, P.ind[i]? = some tr → pi'[i]? = some ld → IndOK P D' st tr ld) := by
  induction l generalizing D ps pi with
  | nil =>
    obtain rfl : D = D' := funext fun x => propext (by simpa using (hD' x).symm)
    exact ⟨ps, pi, rfl, lenS, lenI, hS, hI⟩
  | cons u rest ih =>
    rw [List.nodup_cons] at hl
    have hDu : ¬ D u := hD u (by simp)
    obtain ⟨ps1, hps1, hpsl, hpsq⟩ := mapPT_spec P.spont ps (initSpontOne st u)
      (SpontOK D st) (SpontOK (fun x => D x ∨ x = u) st) lenS hS
      (fun tr ld htr hq => initSpontOne_spec P h st u D hDu tr htr ld hq)
    obtain ⟨pi1, hpi1, hpil, hpiq⟩ := mapPT_spec P.ind pi (fun tr ld => initIndNbrs st u tr (P.succ u) ld)
      (IndOK P D st) (IndOK P (fun x => D x ∨ x = u) st) lenI hI
      (fun tr ld htr hq => initIndNbrs_spec P h st u (hln u (by simp)) D hDu tr htr ld hq)
    simp only [initNodes, hps1, hpi1]
    refine ih hl.2 (fun x hx => hln x (by simp [hx])) (fun x => D x ∨ x = u) ?_ ?_ ps1 pi1 hpsl hpil hpsq hpiq
    · rintro x hx (h1 | rfl)
      · exact hD x (by simp [hx]) h1
      · exact hl.1 hx
    · intro x
      rw [hD', List.mem_cons, or_assoc]

theorem init_inv' (P : SCParams σ) (h : WF P) (ic : Node → σ) (tmin : Rat) :
    ∃ s, init P ic tmin = some s ∧ Inv P s ∧ s.status = ic := by
  obtain ⟨ps, pi, hinit, hl1, hl2, hS, hI⟩ := initNodes_spec P h ic P.nodes h.nodup (fun u hu => hu)
    (fun _ => False) (· ∈ P.nodes) (fun _ _ hc => hc) (by simp)
    (P.spont.map fun tr => LD.empty tr.w.isSome) (P.ind.map fun tr => LD.empty tr.w.isSome)
    (by simp) (by simp)
    (by
      intro i tr ld h1 h2
      rw [List.getElem?_map, h1] at h2
      obtain rfl := Option.some.inj h2
      exact spontOK_iff.2 ⟨LD.inv_empty _, rfl, by simp [LD.empty], by simp [LD.empty]⟩)
    (by
      intro i tr ld h1 h2
      rw [List.getElem?_map, h1] at h2
      obtain rfl := Option.some.inj h2
      exact indOK_iff.2 ⟨LD.inv_empty _, rfl, by simp [LD.empty], by simp [LD.empty]⟩)
  have e : init P ic tmin = some
      { status := ic, ptS := ps, ptI := pi, times := [tmin],
        data := (P.ret.map fun x => [countSt P ic x]), log := [] } := by
    simp only [init, hinit]
  refine ⟨_, e, ⟨hl1, hl2, fun i tr ld h1 h2 => spontOK_iff.1 (hS i tr ld h1 h2),
    fun i tr ld h1 h2 => indOK_iff.1 (hI i tr ld h1 h2), by simp, ?_⟩, rfl⟩
  intro i hi
  show ((P.ret.map fun x => [countSt P ic x]).getD i []).headD 0 = countSt P ic (P.ret.getD i (ic 0))
  rw [← List.getElem_eq_getD (h := by simpa using hi), ← List.getElem_eq_getD (h := hi)]
  simp

/-! ### selection, main loop -/

set_option linter.unusedSectionVars false in -- `Props/C03.pick_enabled` keeps `[DecidableEq σ]` in its statement
theorem safe_pick (P : SCParams σ) (s : SCState σ) (cfuel : Nat) : TM.Safe False (pick P s cfuel) (Enabled s) := by
  unfold pick
  refine .bind (TM.safe_popUnif False) fun r _ => ?_
  dsimp only
  cases hld : (s.ptS ++ s.ptI)[pickIdx ((rateList P s).map fun x => x / totalRate P s) r]? with
  | none => exact .fail (by simp)
  | some ld => exact .bind (Gillespie.safe_chooseTM False _ _ _) fun a ha => .pure ⟨ld, hld, ha⟩

/-- on every tape the loop, started in a state that satisfies the invariant, ends in such a state or raises something
other than the `KeyError` the model raises when `applyEvent` / `init` fail -/
theorem loop_safe (P : SCParams σ) (h : WF P) (tmax : ERat) (cfuel fuel : Nat) (s : SCState σ) (t : ERat)
    (hs : Inv P s) : TM.Safe False (loop P tmax cfuel fuel s t) (Inv P) := by
  induction fuel generalizing s t with
  | zero => rw [loop]; exact .fail (by simp)
  | succ fuel ih =>
    cases t with
    | none => rw [loop]; exact .pure hs
    | some tv =>
      rw [loop]
      dsimp only
      split
      · exact .pure hs
      · refine .bind (safe_pick P s cfuel) fun e he => ?_
        obtain ⟨_, _, _, _, s1, -, -, -, hs1, hinv1, -⟩ := applyEvent_inv' P h s hs e tv he
        rw [hs1]
        dsimp only
        split
        · exact .bind (TM.safe_popExpo False _) fun d _ => ih s1 _ hinv1
        · exact ih s1 _ hinv1

theorem run_safe (P : SCParams σ) (h : WF P) (ic : Node → σ) (tmin : Rat) (tmax : ERat) (fuel cfuel : Nat) :
    TM.Safe False (run P ic tmin tmax fuel cfuel) (Inv P) := by
  obtain ⟨s0, h0, hinv0, -⟩ := init_inv' P h ic tmin
  unfold run
  rw [h0]
  dsimp only
  split
  · exact .bind (TM.safe_popExpo False _) fun d _ => loop_safe P h tmax cfuel fuel s0 _ hinv0
  · exact loop_safe P h tmax cfuel fuel s0 _ hinv0

/-- no `KeyError` ever: the only place the model raises it is a failed `applyEvent` / `init` -/
theorem loop_no_keyerror (P : SCParams σ) (h : WF P) (tmax : ERat) (cfuel fuel : Nat) (s : SCState σ) (t : ERat)
    (ts : TapeSt) (hs : Inv P s) : loop P tmax cfuel fuel s t ts ≠ .error "KeyError" :=
  (loop_safe P h tmax cfuel fuel s t hs).ne_keyError ts

/-- at `Actor = List Nat` `o == some a` elaborates to `List`'s `BEq`; this rewrites it to the instance the `LD` law lemmas
are stated with (cf. `LD.eqSome`) -/
theorem beq_inst_eq (a : Actor) : (fun o : Option Actor => o == some a) =
    (fun o => @BEq.beq (Option Actor) (@Option.instBEq Actor instBEqOfDecidableEq) o (some a)) := by
  funext o; rw [Bool.eq_iff_iff]; simp

theorem actor_law' (ld : LD Actor) (hinv : LD.Inv ld) (a : Actor) (ha : a ∈ ld.items) (k : Nat) (hk : 0 < k)
    (hpos : ld.weighted = true → 0 < ld.weightSum) :
    Dist.mass (ld.chooseDist k) (fun o => o == some a) =
      if ld.weighted then ld.getW a / ld.weightSum * (1 - ld.rejProb ^ k) else 1 / (ld.items.length : Rat) := by
  rw [beq_inst_eq]
  cases hw : ld.weighted with
  | true =>
    simp only [if_true]
    exact LD.choose_law ld hinv hw (hpos hw) a ha k
  | false =>
    simp only [Bool.false_eq_true, if_false]
    obtain ⟨k', rfl⟩ : ∃ k', k = k' + 1 := ⟨k - 1, by omega⟩
    exact LD.choose_law_unweighted ld hinv hw a ha k'

theorem inv_of_getElem (P : SCParams σ) (s : SCState σ) (hs : Inv P s) (i : Nat) (ld : LD Actor)
    (hl : (s.ptS ++ s.ptI)[i]? = some ld) : LD.Inv ld := by
  rcases hs.cases hl with ⟨tr, h1, h2⟩ | ⟨tr, -, h1, h2⟩
  · exact (hs.spont i tr ld h1 h2).1
  · exact (hs.ind _ tr ld h1 h2).1

/-! ### the clock -/

theorem zipWith_sum {τ : Type} (trs : List τ) (pts : List (LD Actor)) (g : τ → LD Actor → Rat) (g' : τ → Rat)
    (hlen : pts.length = trs.length)
    (hh : ∀ (i : Nat) tr ld, trs[i]? = some tr → pts[i]? = some ld → g tr ld = g' tr) :
    sumRat (List.zipWith g trs pts) = sumRat (trs.map g') := by
  induction trs generalizing pts with
  | nil => simp
  | cons tr trs ih =>
    cases pts with
    | nil => simp at hlen
    | cons ld pts =>
      simp only [List.zipWith_cons_cons, List.map_cons, sumRat_cons]
      rw [hh 0 tr ld rfl rfl, ih pts (by simpa using hlen) (fun i tr' ld' h1 h2 => hh (i + 1) tr' ld' h1 h2)]

/-- the ordered neighbour pairs with statuses `(a, b)`, in the order in which `enabledI` lists them -/
def pairsI (P : SCParams σ) (st : Node → σ) (tr : IndTr σ) : List (Node × Node) :=
  P.nodes.flatMap fun u =>
    if st u = tr.a then ((P.succ u).filter fun v => st v = tr.b).map fun v => (u, v) else []

theorem mem_pairsI (P : SCParams σ) (st : Node → σ) (tr : IndTr σ) (u v : Node) :
    (u, v) ∈ pairsI P st tr ↔ u ∈ P.nodes ∧ v ∈ P.succ u ∧ st u = tr.a ∧ st v = tr.b := by
  unfold pairsI
  simp only [List.mem_flatMap]
  constructor
  · rintro ⟨u', h1, hp⟩
    split at hp
    · rename_i h3
      simp only [List.mem_map, List.mem_filter, decide_eq_true_eq, Prod.mk.injEq] at hp
      obtain ⟨v', ⟨h2, h4⟩, rfl, rfl⟩ := hp
      exact ⟨h1, h2, h3, h4⟩
    · cases hp
  · rintro ⟨h1, h2, h3, h4⟩
    refine ⟨u, h1, ?_⟩
    rw [if_pos h3]
    exact List.mem_map.2 ⟨v, List.mem_filter.2 ⟨h2, decide_eq_true h4⟩, rfl⟩

/-- pairs listed for different first nodes differ in the first component -/
theorem pairsI_nodup (P : SCParams σ) (h : WF P) (st : Node → σ) (tr : IndTr σ) : (pairsI P st tr).Nodup := by
  unfold pairsI
  rw [List.nodup_flatMap]
  have hfst : ∀ (x : Node) (p : Node × Node),
      p ∈ (if st x = tr.a then ((P.succ x).filter fun v => st v = tr.b).map fun v => (x, v) else []) →
      p.1 = x := by
    intro x p hp
    split at hp
    · obtain ⟨y, -, rfl⟩ := List.mem_map.1 hp
      rfl
    · cases hp
  constructor
  · intro x hx
    split
    · exact List.Nodup.map (fun a b hab => (Prod.mk.inj hab).2) ((h.succ_nodup x hx).filter _)
    · exact List.nodup_nil
  · refine h.nodup.pairwise_of_forall_ne ?_
    intro a _ b _ hab p hp1 hp2
    exact hab ((hfst a p hp1).symm.trans (hfst b p hp2))

/-- an enumeration built like `enabledI` is the image of `pairsI` -/
theorem flatMap_pairs {β : Type} (P : SCParams σ) (st : Node → σ) (tr : IndTr σ) (g : Node → Node → β) :
    (P.nodes.flatMap fun u =>
      if st u = tr.a then ((P.succ u).filter fun v => st v = tr.b).map fun v => g u v else []) =
      (pairsI P st tr).map fun p => g p.1 p.2 := by
  unfold pairsI
  rw [List.map_flatMap]
  congr 1
  funext u
  split
  · rw [List.map_map]; rfl
  · rfl

theorem spont_rate_eq (P : SCParams σ) (h : WF P) (st : Node → σ) (tr : SpontTr σ) (ld : LD Actor)
    (hok : SpontOK (· ∈ P.nodes) st tr ld) :
    tr.rate * ld.totalWeight = sumRat ((enabledS P st tr).map (·.2)) := by
  rw [LD.Tracks.mul_totalWeight hok ((P.nodes.filter fun u => st u = tr.src).map fun u => [u])
    ((h.nodup.filter _).map fun a b hab => by simpa using hab)
    (fun a => by
      simp only [SpontT, List.mem_map, List.mem_filter, decide_eq_true_eq]
      exact ⟨fun ⟨u, h1, h2⟩ => ⟨u, h2.symm, h1⟩, fun ⟨u, h2, h1⟩ => ⟨u, h1, h2.symm⟩⟩), enabledS]
  simp only [List.map_map]; rfl

theorem ind_rate_eq (P : SCParams σ) (h : WF P) (st : Node → σ) (tr : IndTr σ) (ld : LD Actor)
    (hok : IndOK P (· ∈ P.nodes) st tr ld) :
    tr.rate * ld.totalWeight = sumRat ((enabledI P st tr).map (·.2)) := by
  rw [LD.Tracks.mul_totalWeight hok ((pairsI P st tr).map fun p => [p.1, p.2])
    ((pairsI_nodup P h st tr).map fun a b hab => by
      obtain ⟨a1, a2⟩ := a; obtain ⟨b1, b2⟩ := b; simpa using hab)
    (fun a => by
      simp only [IndT, List.mem_map, Prod.exists, mem_pairsI]
      exact ⟨fun ⟨u, v, h1, h2⟩ => ⟨u, v, h2.symm, h1⟩, fun ⟨u, v, h2, h1⟩ => ⟨u, v, h1, h2.symm⟩⟩),
    enabledI, flatMap_pairs]
  simp only [List.map_map]; rfl

theorem clock_eq' (P : SCParams σ) (h : WF P) (s : SCState σ) (hs : Inv P s) :
    totalRate P s = specTotal P s.status := by
  unfold totalRate rateList specTotal
  rw [sumRat_append,
    zipWith_sum P.spont s.ptS _ (fun tr => sumRat ((enabledS P s.status tr).map (·.2))) hs.lenS
      (fun i tr ld h1 h2 => spont_rate_eq P h s.status tr ld (hs.spontOK h1 h2)),
    zipWith_sum P.ind s.ptI _ (fun tr => sumRat ((enabledI P s.status tr).map (·.2))) hs.lenI
      (fun i tr ld h1 h2 => ind_rate_eq P h s.status tr ld (hs.indOK h1 h2))]

end Simple
