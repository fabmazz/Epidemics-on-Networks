import EoNVerif.Model.Complex
import EoNVerif.Model.ListDictLaw
import EoNVerif.Proofs.ListDict
import EoNVerif.Proofs.Gillespie
import EoNVerif.Proofs.Rows
import Mathlib.Tactic.Ring
import Mathlib.Tactic.Linarith
import Mathlib.Algebra.Order.Field.Rat
import Mathlib.Data.List.Nodup
/-!
`Gillespie_complex_contagion` (C15): `_ListDict_.insert` with a weight replaces the weight (weight 0 removes:
`LD.insert_spec` in `Proofs/ListDict.lean`); a batch of such inserts makes the candidate structure right at every node it
lists (`insertAll_inv`), which is how `init` and one event establish the invariant `Inv`; `loop` and `run` keep it and raise no `KeyError` on any tape (`loop_safe`,
`run_safe`); under `Inv` the clock rate is the sum of the user rates and the selection law is rate / sum.
-/

namespace Complex

/-! ### batches of inserts -/
section Batches
variable {σ : Type}

/-- `insert(u, weight=rate(u))` for every `u` of a list (repetitions allowed): never fails; afterwards the listed
nodes are candidates iff their rate is non-zero, with weight = rate; the other nodes are untouched -/
theorem insertAll_spec (P : CCParams σ) (st : Node → σ) (hnn : ∀ u, 0 ≤ P.rate st u) (l : List Node)
    (ld : LD Node) (h : LD.Inv ld) (hwt : ld.weighted = true) :
    ∃ ld', insertAll P st l ld = some ld' ∧ LD.Inv ld' ∧ ld'.weighted = true ∧
      ∀ y, (y ∈ ld'.items ↔ if y ∈ l then P.rate st y ≠ 0 else y ∈ ld.items) ∧
        (y ∈ ld'.items → ld'.getW y = if y ∈ l then P.rate st y else ld.getW y) := by
  induction l generalizing ld with
  | nil => exact ⟨ld, rfl, h, hwt, fun y => by simp⟩
  | cons u rest ih =>
    obtain ⟨ld1, hs1, hinv1, hwt1, hmem1, hself1, hne1⟩ := LD.insert_spec ld h hwt u (P.rate st u) (hnn u)
    obtain ⟨ld', hs', hinv', hwt', hall'⟩ := ih ld1 hinv1 hwt1
    refine ⟨ld', by simp only [insertAll, hs1]; exact hs', hinv', hwt', fun y => ?_⟩
    obtain ⟨hm, hg⟩ := hall' y
    by_cases hr : y ∈ rest
    · simp only [List.mem_cons, hr, or_true, if_true] at hm hg ⊢
      exact ⟨hm, hg⟩
    · simp only [hr, if_false] at hm hg
      rcases eq_or_ne y u with rfl | hu
      · rw [hmem1, if_pos rfl] at hm
        simp only [List.mem_cons, true_or, if_true]
        exact ⟨hm, fun hy => (hg hy).trans (hself1 (hm.1 hy))⟩
      · rw [hmem1, if_neg hu] at hm
        simp only [List.mem_cons, hu, hr, or_self, if_false]
        exact ⟨hm, fun hy => (hg hy).trans (hne1 y hu)⟩

/-- the initial loop is the batch insert of the nodes of positive rate -/
theorem initLD_eq (P : CCParams σ) (st : Node → σ) (l : List Node) (ld : LD Node) :
    initLD P st l ld = insertAll P st (l.filter fun u => decide (P.rate st u > 0)) ld := by
  induction l generalizing ld with
  | nil => rfl
  | cons u rest ih =>
    by_cases hu : P.rate st u > 0
    · simp only [initLD, hu, if_true, List.filter_cons, decide_true, insertAll]
      cases ld.insert u (some (P.rate st u)) with
      | none => rfl
      | some ld1 => exact ih ld1
    · simp only [initLD, hu, if_false, List.filter_cons, decide_false]
      exact ih ld

/-- a batch that lists only nodes of the network and every node at which the structure is not yet right for the
statuses `st` makes it right everywhere: the candidate part of `Inv` -/
theorem insertAll_inv (P : CCParams σ) (st : Node → σ) (hnn : ∀ u, 0 ≤ P.rate st u) (l : List Node)
    (hl : ∀ x ∈ l, x ∈ P.nodes) (ld : LD Node) (hI : LD.Inv ld) (hwt : ld.weighted = true)
    (hmem : ∀ x ∈ ld.items, x ∈ P.nodes)
    (hpos : ∀ x ∈ P.nodes, x ∉ l → 0 < P.rate st x → x ∈ ld.items ∧ ld.getW x = P.rate st x)
    (hzero : ∀ x ∈ P.nodes, x ∉ l → P.rate st x = 0 → x ∉ ld.items) :
    ∃ ld', insertAll P st l ld = some ld' ∧ LD.Inv ld' ∧ ld'.weighted = true ∧ (∀ x ∈ ld'.items, x ∈ P.nodes) ∧
      (∀ x ∈ P.nodes, 0 < P.rate st x → x ∈ ld'.items ∧ ld'.getW x = P.rate st x) ∧
      (∀ x ∈ P.nodes, P.rate st x = 0 → x ∉ ld'.items) := by
  obtain ⟨ld', hld, hinv, hwt', hall⟩ := insertAll_spec P st hnn l ld hI hwt
  have hin : ∀ x ∈ l, (x ∈ ld'.items ↔ P.rate st x ≠ 0) ∧ (x ∈ ld'.items → ld'.getW x = P.rate st x) :=
    fun x hx => by simpa only [hx, if_true] using hall x
  have hout : ∀ x, x ∉ l → (x ∈ ld'.items ↔ x ∈ ld.items) ∧ (x ∈ ld'.items → ld'.getW x = ld.getW x) :=
    fun x hx => by simpa only [hx, if_false] using hall x
  refine ⟨ld', hld, hinv, hwt', fun x hx => ?_, fun x hx hp => ?_, fun x hx h0 hc => ?_⟩
  · by_cases hxl : x ∈ l
    · exact hl x hxl
    · exact hmem x ((hout x hxl).1.1 hx)
  · by_cases hxl : x ∈ l
    · have hc := (hin x hxl).1.2 (ne_of_gt hp)
      exact ⟨hc, (hin x hxl).2 hc⟩
    · obtain ⟨h1, h2⟩ := hpos x hx hxl hp
      have hc := (hout x hxl).1.2 h1
      exact ⟨hc, ((hout x hxl).2 hc).trans h2⟩
  · by_cases hxl : x ∈ l
    · exact (hin x hxl).1.1 hc h0
    · exact hzero x hx hxl h0 ((hout x hxl).1.1 hc)

end Batches

variable {σ : Type} [DecidableEq σ]

/-- the hypothesis of the property: the influence set (evaluated on the new statuses) covers every *other* node whose
rate changes when `u` changes status -/
def InfluenceCovers (P : CCParams σ) : Prop :=
  ∀ (st : Node → σ) (u : Node), ∀ x ∈ P.nodes, x ≠ u →
    P.rate (fset st u (P.choose st u)) x ≠ P.rate st x → x ∈ P.infl (fset st u (P.choose st u)) u

/-- `P.nodes` duplicate-free (otherwise a node would be counted twice in `Σ rates` but once in `nodes_by_rate`); rates
non-negative (`_ListDict_` needs non-negative weights); influence sets inside `P.nodes`; `covers`: the user's influence set
contains every *other* node whose rate changes (otherwise `nodes_by_rate` goes stale and neither the clock nor the selection
law hold) -/
structure WF (P : CCParams σ) : Prop where
  nodup : P.nodes.Nodup
  rate_nonneg : ∀ st u, 0 ≤ P.rate st u
  infl_mem : ∀ st u, ∀ x ∈ P.infl st u, x ∈ P.nodes
  covers : InfluenceCovers P

/-- the candidate structure holds exactly the nodes of positive rate, with weight = the rate function on the
*current* statuses (in `counts` the default `s.status 0` of `getD` is never used: `i < P.ret.length`) -/
structure Inv (P : CCParams σ) (s : CCState σ) : Prop where
  ldInv : LD.Inv s.ld
  weighted : s.ld.weighted = true
  items_mem : ∀ x ∈ s.ld.items, x ∈ P.nodes
  pos : ∀ x ∈ P.nodes, 0 < P.rate s.status x → x ∈ s.ld.items ∧ s.ld.getW x = P.rate s.status x
  zero : ∀ x ∈ P.nodes, P.rate s.status x = 0 → x ∉ s.ld.items
  counts : s.data.length = P.ret.length ∧
    ∀ i, i < P.ret.length → (s.data.getD i []).headD 0 = countSt P s.status (P.ret.getD i (s.status 0))

/-! ### `init` -/

theorem init_inv' (P : CCParams σ) (h : WF P) (ic : Node → σ) (tmin : Rat) :
    ∃ s, init P ic tmin = some s ∧ Inv P s ∧ s.status = ic := by
  obtain ⟨ld, hld, hinv, hwt, hmem, hpos, hzero⟩ := insertAll_inv P ic (h.rate_nonneg ic)
    (P.nodes.filter fun u => decide (P.rate ic u > 0)) (fun x hx => (List.mem_filter.1 hx).1)
    (LD.empty true) (LD.inv_empty true) rfl (fun x hx => (List.not_mem_nil hx).elim)
    (fun x hx hxl hp => absurd (List.mem_filter.2 ⟨hx, decide_eq_true hp⟩) hxl)
    (fun x _ _ _ hc => (List.not_mem_nil hc).elim)
  exact ⟨{ status := ic, ld := ld, times := [tmin], data := P.ret.map fun x => [countSt P ic x], log := [] },
    by simp only [init, initLD_eq, hld],
    ⟨hinv, hwt, hmem, hpos, hzero, by simp, fun i hi => by simp [List.getD_eq_getElem?_getD, hi]⟩, rfl⟩

/-! ### one event -/

theorem applyEvent_eq (P : CCParams σ) (s : CCState σ) (node : Node) (t : Rat) :
    applyEvent P s node t =
      (insertAll P (fset s.status node (P.choose s.status node))
        (node :: P.infl (fset s.status node (P.choose s.status node)) node) s.ld).map fun ld2 =>
        { status := fset s.status node (P.choose s.status node), ld := ld2, times := t :: s.times,
          data := (List.zip P.ret s.data).map fun (x, col) =>
            let v := col.headD 0
            let v := if s.status node = x then v - 1 else v
            let v := if P.choose s.status node = x then v + 1 else v
            v :: col,
          log := (t, node, P.choose s.status node) :: s.log } := by
  unfold applyEvent
  simp only [insertAll]
  cases s.ld.insert node (some (P.rate (fset s.status node (P.choose s.status node)) node)) with
  | none => rfl
  | some ld1 =>
    dsimp only
    cases insertAll P (fset s.status node (P.choose s.status node))
      (P.infl (fset s.status node (P.choose s.status node)) node) ld1 with
    | none => rfl
    | some ld2 => rfl

theorem applyEvent_inv' (P : CCParams σ) (h : WF P) (s : CCState σ) (hs : Inv P s) (node : Node) (t : Rat)
    (hn : node ∈ s.ld.items) :
    ∃ s', applyEvent P s node t = some s' ∧ Inv P s' ∧
      s'.status = fset s.status node (P.choose s.status node) := by
  have hnode : node ∈ P.nodes := hs.items_mem node hn
  -- outside the batch `node :: infl` no rate has changed (`covers`), so there the old structure is still right
  have hrate : ∀ x ∈ P.nodes, x ∉ node :: P.infl (fset s.status node (P.choose s.status node)) node →
      P.rate (fset s.status node (P.choose s.status node)) x = P.rate s.status x := by
    intro x hx hxl
    by_contra hc
    exact hxl (List.mem_cons_of_mem _ (h.covers s.status node x hx (fun e => hxl (e ▸ List.mem_cons_self)) hc))
  obtain ⟨ld2, hld, hinv, hwt, hmem, hpos, hzero⟩ := insertAll_inv P _ (h.rate_nonneg _)
    (node :: P.infl (fset s.status node (P.choose s.status node)) node)
    (fun x hx => (List.mem_cons.1 hx).elim (· ▸ hnode) (h.infl_mem _ _ x)) s.ld hs.ldInv hs.weighted hs.items_mem
    (fun x hx hxl hp => by rw [hrate x hx hxl] at hp ⊢; exact hs.pos x hx hp)
    (fun x hx hxl h0 => hs.zero x hx (hrate x hx hxl ▸ h0))
  rw [applyEvent_eq, hld]
  exact ⟨_, rfl, ⟨hinv, hwt, hmem, hpos, hzero,
    StatusCounts.data_step P.nodes h.nodup P.ret s.data s.status node hnode _ _ _ hs.counts⟩, rfl⟩

/-! ### the loop -/

/-- on every tape the loop, started in a state that satisfies the invariant, ends in such a state or raises something
other than `KeyError` -/
theorem loop_safe (P : CCParams σ) (h : WF P) (tmax : ERat) (cfuel fuel : Nat) (s : CCState σ) (t : ERat)
    (hs : Inv P s) : TM.Safe False (loop P tmax cfuel fuel s t) (Inv P) := by
  induction fuel generalizing s t with
  | zero => rw [loop]; exact .fail (by simp)
  | succ fuel ih =>
    cases t with
    | none => rw [loop]; exact .pure hs
    | some tv =>
      rw [loop]
      split
      · exact .pure hs
      · refine .bind (Gillespie.safe_chooseTM False _ _ _) fun node hn => ?_
        obtain ⟨s1, hs1, hinv1, -⟩ := applyEvent_inv' P h s hs node tv hn
        rw [hs1]
        dsimp only
        split
        · exact .bind (TM.safe_popExpo False _) fun d _ => ih s1 _ hinv1
        · exact ih s1 _ hinv1

theorem run_safe (P : CCParams σ) (h : WF P) (ic : Node → σ) (tmin : Rat) (tmax : ERat) (fuel cfuel : Nat) :
    TM.Safe False (run P ic tmin tmax fuel cfuel) (Inv P) := by
  obtain ⟨s0, h0, hinv0, -⟩ := init_inv' P h ic tmin
  unfold run
  rw [h0]
  dsimp only
  split
  · exact .bind (TM.safe_popExpo False _) fun d _ => loop_safe P h tmax cfuel fuel s0 _ hinv0
  · exact loop_safe P h tmax cfuel fuel s0 _ hinv0

/-- the loop never raises `KeyError` from a state satisfying the invariant -/
theorem loop_no_keyerror (P : CCParams σ) (h : WF P) (tmax : ERat) (cfuel fuel : Nat) (s : CCState σ) (t : ERat)
    (ts : TapeSt) (hs : Inv P s) : loop P tmax cfuel fuel s t ts ≠ .error "KeyError" :=
  (loop_safe P h tmax cfuel fuel s t hs).ne_keyError ts

/-! ### the clock, the guard and the selection law -/

/-- candidates are exactly the nodes of positive rate -/
theorem mem_items_iff (P : CCParams σ) (h : WF P) (s : CCState σ) (hs : Inv P s) (x : Node) :
    x ∈ s.ld.items ↔ (x ∈ P.nodes ∧ 0 < P.rate s.status x) := by
  constructor
  · intro hx
    have hxn := hs.items_mem x hx
    refine ⟨hxn, lt_of_le_of_ne (h.rate_nonneg _ _) ?_⟩
    intro h0; exact hs.zero x hxn h0.symm hx
  · rintro ⟨hxn, hp⟩; exact (hs.pos x hxn hp).1

theorem Inv.tracks {P : CCParams σ} {s : CCState σ} (hs : Inv P s) (h : WF P) :
    s.ld.Tracks (fun x => some (P.rate s.status x)) (fun x => x ∈ P.nodes ∧ 0 < P.rate s.status x) :=
  ⟨hs.ldInv, fun _ => hs.weighted.symm, mem_items_iff P h s hs,
    fun x _ hx hv => (hs.pos x hx.1 hx.2).2.trans (Option.some.inj hv)⟩

theorem clock_eq' (P : CCParams σ) (h : WF P) (s : CCState σ) (hs : Inv P s) :
    s.ld.totalWeight = sumRat (P.nodes.map (P.rate s.status)) := by
  have key := (hs.tracks h).mul_totalWeight (P.nodes.filter fun x => decide (0 < P.rate s.status x))
    (h.nodup.filter _) (fun x => by rw [List.mem_filter, decide_eq_true_eq]) 1
  simp only [one_mul, Option.getD_some] at key
  -- the nodes that are no candidates have rate 0
  have hz : sumRat ((P.nodes.filter fun c => !decide (0 < P.rate s.status c)).map (P.rate s.status)) = 0 :=
    sumRat_map_zero _ _ fun c hc => by
      rw [List.mem_filter, Bool.not_eq_true', decide_eq_false_iff_not] at hc
      exact le_antisymm (not_lt.1 hc.2) (h.rate_nonneg _ _)
  rw [key, sumRat_filter_split P.nodes (fun x => decide (0 < P.rate s.status x)) (P.rate s.status), hz, add_zero]

theorem next_node_law' (P : CCParams σ) (h : WF P) (s : CCState σ) (hs : Inv P s) (x : Node) (hx : x ∈ P.nodes)
    (hpos : 0 < P.rate s.status x) (k : Nat) :
    Dist.mass (s.ld.chooseDist k) (fun o => o == some x) =
      P.rate s.status x / sumRat (P.nodes.map (P.rate s.status)) * (1 - s.ld.rejProb ^ k) := by
  obtain ⟨hxi, hw⟩ := hs.pos x hx hpos
  have htw : s.ld.totalWeight = s.ld.weightSum := by
    rw [LD.totalWeight, if_pos hs.weighted, hs.ldInv.total hs.weighted]
  have hsum : 0 < s.ld.weightSum := by
    rw [← htw, clock_eq' P h s hs]
    exact sumRat_pos_of_mem _ _ (fun c _ => h.rate_nonneg _ _) x hx hpos
  rw [LD.choose_law s.ld hs.ldInv hs.weighted hsum x hxi k, hw, ← htw, clock_eq' P h s hs]

end Complex
