import EoNVerif.Gen.FastSISGen
import EoNVerif.Model.FastSIS
import EoNVerif.Proofs.FastSIS
import EoNVerif.Proofs.HeapPop
import EoNVerif.Proofs.EventLoop
import EoNVerif.Proofs.Rows
import EoNVerif.Proofs.AssocList
import EoNVerif.Proofs.ERat
/-!
The code generated statement by statement from `fast_SIS` / `_process_trans_SIS_Markov` / `_find_next_trans_SIS_Markov` /
`_process_rec_SIS_` / `myQueue` (`Gen/FastSISGen.lean`, namespace `GenFSIS`) refines the hand-written model
`Model/FastSIS.lean`, in lock step: each generated function stands in the relation `TM.RR Eq R` (`Proofs/TapeRel.lean`: the
same exception, or the same tape state and `R`-related values) to its model counterpart — the same `expovariate` calls with the same rates
in the same order, the same exceptions.  The related states (`Rel`) carry the Python output objects `times`, `S`, `I`,
`infection_times`, `recovery_times` as functions of the model's change log and `transmissions` as the model's `trans`.
The lemmas are in namespace `GenFS`, not the generated code's `GenFSIS`.  In this file and in C02d "forward" starts from a run
of the MODEL, the opposite of `GenESIR` / `GenNMSIS` and C11b / C13b.
-/
open PyTM GenFSIS

namespace GenFS

def conv : FEv → Ev
  | .trans s t => .trans s t
  | .recov u => .recov u

def ent (i : FItem) : ERat × Ev := (some i.time, conv i.ev)

def unc (x : ERat × Nat × Ev) : ERat × Ev := (x.1, x.2.2)

structure QRel (tmax : Rat) (q : MyQueue) (l : List FItem) : Prop where
  tmax_eq : q.tmax = some tmax
  sorted : q.q.Pairwise (fun a b => a.2.1 < b.2.1)
  below : ∀ x ∈ q.q, x.2.1 < q.counter
  ents : q.q.map unc = l.map ent

theorem QRel.init (tmax : Rat) : QRel tmax (MyQueue.init (some tmax)) [] :=
  ⟨rfl, List.Pairwise.nil, by simp [MyQueue.init], rfl⟩

theorem QRel.rep {tmax : Rat} {q : MyQueue} {l : List FItem} (h : QRel tmax q l) :
    HeapPop.Rep FItem.time (fun x => conv x.ev) q.q q.counter l :=
  ⟨h.ents, h.sorted, h.below⟩

theorem QRel.of_rep {tmax : Rat} {q : MyQueue} {l : List FItem} (ht : q.tmax = some tmax)
    (h : HeapPop.Rep FItem.time (fun x => conv x.ev) q.q q.counter l) : QRel tmax q l :=
  ⟨ht, h.sorted, h.below, h.ents⟩

theorem QRel.add {tmax : Rat} {q : MyQueue} {l : List FItem} (h : QRel tmax q l) (t : Rat) (e : FEv) :
    QRel tmax (q.add (some t) (conv e)) (FastSIS.qadd tmax l t e) := by
  unfold MyQueue.add FastSIS.qadd
  rw [h.tmax_eq, ERat.lt_some_some]
  by_cases ht : t < tmax
  · simp only [ht, decide_true, if_true]
    exact QRel.of_rep rfl (h.rep.push ⟨t, e⟩)
  · simp only [ht, decide_false, if_false]
    exact h

theorem before_isBefore : HeapPop.IsBefore MyQueue.before := HeapPop.isBefore_lex

theorem pop_nil : FastSIS.pop [] = none := rfl

theorem popMin_sim {tmax : Rat} {q : MyQueue} {l : List FItem} (h : QRel tmax q l) (hne : q.q ≠ []) :
    ∃ x l' c q', FastSIS.pop l = some (x, l') ∧ q.popMin = .ok ((some x.time, c, conv x.ev), q') ∧
      QRel tmax q' l' := by
  cases hq : q.q with
  | nil => exact absurd hq hne
  | cons x0 xs =>
    obtain ⟨x, l1, l2, c, hl, h1, h2, hm, hrep⟩ := HeapPop.Rep.pop before_isBefore (hq ▸ h.rep)
    refine ⟨x, l1 ++ l2, c, { q with q := (x0 :: xs).erase (some x.time, c, conv x.ev) },
      by rw [FastSIS.pop_eq]; exact EvQ.gpop_of_min _ hl h1 h2, ?_, QRel.of_rep h.tmax_eq hrep⟩
    unfold MyQueue.popMin
    rw [hq]
    simp only [hm]
    rfl

/-- the generated function leaves everything but the queue and the scratch locals unchanged -/
structure FrG (σ σ' : Loc) : Prop where
  status : σ'.status = σ.status
  rec_time : σ'.rec_time = σ.rec_time
  times : σ'.times = σ.times
  S : σ'.S = σ.S
  I : σ'.I = σ.I
  infection_times : σ'.infection_times = σ.infection_times
  recovery_times : σ'.recovery_times = σ.recovery_times
  transmissions : σ'.transmissions = σ.transmissions

structure FrM (s s' : FSState) : Prop where
  inf : s'.inf = s.inf
  recTime : s'.recTime = s.recTime
  log : s'.log = s.log
  trans : s'.trans = s.trans

theorem FrG.refl (σ : Loc) : FrG σ σ := ⟨rfl, rfl, rfl, rfl, rfl, rfl, rfl, rfl⟩
theorem FrM.refl (s : FSState) : FrM s s := ⟨rfl, rfl, rfl, rfl⟩
theorem FrG.comp {a b c : Loc} (h1 : FrG a b) (h2 : FrG b c) : FrG a c :=
  ⟨h2.status.trans h1.status, h2.rec_time.trans h1.rec_time, h2.times.trans h1.times, h2.S.trans h1.S,
    h2.I.trans h1.I, h2.infection_times.trans h1.infection_times, h2.recovery_times.trans h1.recovery_times,
    h2.transmissions.trans h1.transmissions⟩
theorem FrM.comp {a b c : FSState} (h1 : FrM a b) (h2 : FrM b c) : FrM a c :=
  ⟨h2.inf.trans h1.inf, h2.recTime.trans h1.recTime, h2.log.trans h1.log, h2.trans.trans h1.trans⟩
theorem FrG.upd {σ σ' : Loc} (h : FrG σ σ') (q : MyQueue) (r : Rat) (d tt : ERat) :
    FrG σ { σ' with Q := q, rec_rate := r, delay := d, transmission_time := tt } :=
  ⟨h.status, h.rec_time, h.times, h.S, h.I, h.infection_times, h.recovery_times, h.transmissions⟩
theorem FrM.upd {s s' : FSState} (h : FrM s s') (q : List FItem) : FrM s { s' with queue := q } :=
  ⟨h.inf, h.recTime, h.log, h.trans⟩

/-- the idiom `if r > 0: x = expovariate(r) elif r == 0: x = inf else: raise EoNError` of `_find_next_trans_SIS_Markov` and
`_process_trans_SIS_Markov`, followed by `G`, against the model's form, followed by `K`; `k x` is what the generated code
stores for the drawn `x` -/
theorem rate_draw_sim {Λ Γ β : Type} {R : Λ → ERat → Prop} {R' : Γ → β → Prop} {r r' : Rat} (hr : r = r') (time : Rat)
    (k : ERat → Λ) (hk : ∀ x, R (k x) (ERat.add (some time) x)) {G : Λ → TM Γ} {K : ERat → TM β} (ts : TapeSt)
    (hGK : ∀ σ1 t1 t, R σ1 t1 → TM.RR Eq R' (G σ1 t) (K t1 t)) :
    TM.RR Eq R'
      (((if decide (r > 0) = true then TM.popExpo r >>= fun d => pure (k (some d))
        else if decide (r = 0) = true then pure (k none) else TM.fail "EoNError" : TM Λ) >>= G) ts)
      ((if r' < 0 then TM.fail "EoNError" else
        (if r' > 0 then TM.popExpo r' >>= fun d => pure (some (time + d)) else pure none) >>= K) ts) := by
  subst hr
  rcases lt_trichotomy r 0 with h0 | h0 | h0
  · have h1 : ¬ r > 0 := not_lt.2 h0.le
    simp only [h1, ne_of_lt h0, h0, decide_false, if_true, if_false, Bool.false_eq_true]
    exact TM.RR.fail _ rfl
  · subst h0
    simp only [lt_irrefl, decide_false, decide_true, if_true, if_false, Bool.false_eq_true, pure_bind]
    exact hGK _ _ ts (hk none)
  · simp only [gt_iff_lt, h0, decide_true, if_true, not_lt.2 h0.le, if_false, bind_assoc, pure_bind]
    refine TM.RR.bind (TM.RR.refl (fun _ => rfl) _) ?_
    rintro d _ t rfl
    exact hGK _ _ t (hk (some d))

theorem find_sim (A : FArgs) (P : FSParams) (σ : Loc) (s : FSState) (hrec : σ.rec_time = s.recTime)
    (hQ : QRel P.tmax σ.Q s.queue) (time tau : Rat) (src tgt : Node) (ts : TapeSt) :
    TM.RR Eq (fun σ' s' => FrG σ σ' ∧ FrM s s' ∧ QRel P.tmax σ'.Q s'.queue)
      (find_next_trans A (some time) tau src tgt σ ts) (FastSIS.findNext P s time tau src tgt ts) := by
  unfold find_next_trans FastSIS.findNext
  by_cases hlt : ERat.lt (s.recTime tgt) (s.recTime src) = true
  · rw [if_pos (show ERat.lt (σ.rec_time tgt) (σ.rec_time src) = true by rw [hrec]; exact hlt), if_pos hlt]
    refine rate_draw_sim (R := fun σ1 t1 => FrG σ σ1 ∧ σ1.Q = σ.Q ∧ t1 = ERat.add (some time) σ1.delay) rfl time
      (fun x => { σ with delay := x }) (fun x => ⟨(FrG.refl σ).upd _ _ _ _, rfl, rfl⟩) ts ?_
    rintro σ1 t1 t ⟨hF, hQ1, ht1⟩
    dsimp only
    refine TM.RR.bind (R := fun σ2 t2 => FrG σ σ2 ∧ σ2.Q = σ.Q ∧ σ2.transmission_time = t2) ?_ ?_
    · have hcond : ERat.lt (ERat.add (some time) σ1.delay) (σ1.rec_time tgt) = ERat.lt t1 (s.recTime tgt) := by
        rw [← ht1, hF.rec_time, hrec]
      rw [hcond]
      by_cases hc : t1.lt (s.recTime tgt) = true
      · rw [if_pos hc, if_pos hc]
        refine TM.RR.bind (TM.RR.refl (fun _ => rfl) _) ?_
        rintro d _ t' rfl
        refine TM.RR.pure _ ⟨hF.upd _ _ _ _, hQ1, ?_⟩
        show (σ1.rec_time tgt).add (some d) = _
        rw [hF.rec_time, hrec]
      · rw [if_neg hc, if_neg hc]
        exact TM.RR.pure _ ⟨hF.upd _ _ _ _, hQ1, ht1.symm⟩
    · rintro σ2 t2 t' ⟨hF2, hQ2, htt⟩
      have hgc : (σ2.transmission_time.lt (σ2.rec_time src) && σ2.transmission_time.lt σ2.Q.tmax) =
          (ERat.lt t2 (s.recTime src) && ERat.lt t2 (some P.tmax)) := by
        rw [htt, hF2.rec_time, hrec, hQ2, hQ.tmax_eq]
      cases t2 with
      | none =>
        have hg : ¬ (σ2.transmission_time.lt (σ2.rec_time src) && σ2.transmission_time.lt σ2.Q.tmax) = true := by
          rw [hgc]; simp [ERat.lt_none]
        rw [if_neg hg]
        exact TM.RR.pure _ ⟨hF2, FrM.refl s, hQ2 ▸ hQ⟩
      | some tt =>
        by_cases hc : ERat.lt (some tt) (s.recTime src) = true ∧ tt < P.tmax
        · have hg : (σ2.transmission_time.lt (σ2.rec_time src) && σ2.transmission_time.lt σ2.Q.tmax) = true := by
            rw [hgc]; simp [ERat.lt_some_some, hc.1, hc.2]
          rw [if_pos hg]; dsimp only; rw [if_pos hc]
          refine TM.RR.pure _ ⟨hF2.upd _ _ _ _, (FrM.refl s).upd _, ?_⟩
          show QRel P.tmax (σ2.Q.add σ2.transmission_time (Ev.trans (some src) tgt)) _
          rw [hQ2, htt]
          exact hQ.add tt (FEv.trans (some src) tgt)
        · have hg : ¬ (σ2.transmission_time.lt (σ2.rec_time src) && σ2.transmission_time.lt σ2.Q.tmax) = true := by
            rw [hgc]; simpa [ERat.lt_some_some] using hc
          rw [if_neg hg]; dsimp only; rw [if_neg hc]
          exact TM.RR.pure _ ⟨hF2, FrM.refl s, hQ2 ▸ hQ⟩
  · rw [if_neg (show ¬ ERat.lt (σ.rec_time tgt) (σ.rec_time src) = true by rw [hrec]; exact hlt), if_neg hlt]
    exact TM.RR.pure _ ⟨FrG.refl σ, FrM.refl s, hQ⟩

theorem nbr_sim (A : FArgs) (P : FSParams) (htr : A.transRate = P.transRate) (time : Rat) (tgt : Node) (l : List Node)
    (σ : Loc) (s : FSState) (hrec : σ.rec_time = s.recTime) (hQ : QRel P.tmax σ.Q s.queue) (ts : TapeSt) :
    TM.RR Eq (fun σ' s' => FrG σ σ' ∧ FrM s s' ∧ QRel P.tmax σ'.Q s'.queue)
      (l.foldlM (fun (σ : Loc) (v : Node) => find_next_trans A (some time) (A.transRate tgt v) tgt v σ) σ ts)
      (FastSIS.nbrLoop P time tgt l s ts) := by
  induction l generalizing σ s ts with
  | nil => exact TM.RR.pure _ ⟨FrG.refl σ, FrM.refl s, hQ⟩
  | cons v rest ih =>
    rw [List.foldlM_cons, FastSIS.nbrLoop, htr]
    refine TM.RR.bind (find_sim A P σ s hrec hQ time _ tgt v ts) ?_
    rintro σ1 s1 t ⟨hF, hM, hQ1⟩
    rw [← htr]
    refine TM.RR.mono (ih σ1 s1 (by rw [hF.rec_time, hM.recTime, hrec]) hQ1 t) ?_
    rintro σ2 s2 ⟨hF2, hM2, hQ2⟩
    exact ⟨hF.comp hF2, hM.comp hM2, hQ2⟩

/-- infections minus recoveries in a change log (`= netI`, `icount_eq`; a recursion because the model's log grows at the head) -/
def icount : List (Rat × Node × Bool) → Int
  | [] => 0
  | e :: r => icount r + (if e.2.2 then 1 else -1)

/-- the `times` list: `tmin`, then the time of every status change -/
def Trows (tmin : Rat) : List (Rat × Node × Bool) → List ERat
  | [] => [some tmin]
  | e :: r => Trows tmin r ++ [some e.1]

/-- the `I` list: 0, then the running net count -/
def Irows : List (Rat × Node × Bool) → List Int
  | [] => [0]
  | e :: r => Irows r ++ [icount (e :: r)]

/-- the `S` list: `N`, then `N` minus the running net count -/
def Srows (N : Int) : List (Rat × Node × Bool) → List Int
  | [] => [N]
  | e :: r => Srows N r ++ [N - icount (e :: r)]

/-- the `infection_times` (`b = true`) / `recovery_times` (`b = false`) dictionaries -/
def ddOf (b : Bool) : List (Rat × Node × Bool) → List (Node × List ERat)
  | [] => []
  | e :: r => if e.2.2 = b then ddAppend (ddOf b r) e.2.1 (some e.1) else ddOf b r

def stOf (b : Bool) : St := if b then St.I else St.S

theorem listLast_Irows (log : List (Rat × Node × Bool)) : listLast (Irows log) = .ok (icount log) := by
  cases log with
  | nil => rfl
  | cons e r => exact listLast_concat _ _

theorem listLast_Srows (N : Int) (log : List (Rat × Node × Bool)) : listLast (Srows N log) = .ok (N - icount log) := by
  cases log with
  | nil => simp [Srows, icount, listLast]; rfl
  | cons e r => exact listLast_concat _ _

theorem liftE_ok {α : Type} (a : α) : liftE (.ok a : Except String α) = pure a := TM.liftE_ok a

structure Agree (A : FArgs) (P : FSParams) : Prop where
  nbrs : A.nbrs = P.nbrs
  order : A.order = P.nodes.length
  tmin : A.tmin = P.tmin
  tmax : A.tmax = some P.tmax
  transRate : A.transRate = P.transRate
  recRate : A.recRate = P.recRate

/-- everything but `infection_times` (which the generated code updates after the neighbour loop) -/
structure RelX (A : FArgs) (P : FSParams) (σ : Loc) (s : FSState) : Prop where
  status : ∀ u, σ.status u = stOf (s.inf u)
  rec_time : σ.rec_time = s.recTime
  queue : QRel P.tmax σ.Q s.queue
  times : σ.times = Trows P.tmin s.log
  S : σ.S = Srows (A.order : Int) s.log
  I : σ.I = Irows s.log
  trans : σ.transmissions = s.trans.reverse.map (fun e => ((some e.1 : ERat), e.2.1, e.2.2))
  recov : σ.recovery_times = ddOf false s.log

structure Rel (A : FArgs) (P : FSParams) (σ : Loc) (s : FSState) : Prop extends RelX A P σ s where
  infect : σ.infection_times = ddOf true s.log

theorem RelX.frame {A : FArgs} {P : FSParams} {σ σ' : Loc} {s s' : FSState} (h : RelX A P σ s)
    (hG : FrG σ σ') (hM : FrM s s') (hQ : QRel P.tmax σ'.Q s'.queue) : RelX A P σ' s' := by
  refine ⟨?_, ?_, hQ, ?_, ?_, ?_, ?_, ?_⟩
  · rw [hG.status, hM.inf]; exact h.status
  · rw [hG.rec_time, hM.recTime]; exact h.rec_time
  · rw [hG.times, hM.log]; exact h.times
  · rw [hG.S, hM.log]; exact h.S
  · rw [hG.I, hM.log]; exact h.I
  · rw [hG.transmissions, hM.trans]; exact h.trans
  · rw [hG.recovery_times, hM.log]; exact h.recov

theorem Rel.frame {A : FArgs} {P : FSParams} {σ σ' : Loc} {s s' : FSState} (h : Rel A P σ s)
    (hG : FrG σ σ') (hM : FrM s s') (hQ : QRel P.tmax σ'.Q s'.queue) : Rel A P σ' s' :=
  ⟨h.toRelX.frame hG hM hQ, by rw [hG.infection_times, hM.log]; exact h.infect⟩

/-- `_process_rec_SIS_` -/
theorem prec_sim (A : FArgs) (P : FSParams) (σ : Loc) (s : FSState) (h : Rel A P σ s) (time : Rat) (u : Node)
    (ts : TapeSt) :
    TM.RR Eq (Rel A P) (process_rec A (some time) u σ ts) ((pure (FastSIS.processRec s time u) : TM FSState) ts) := by
  have hI := listLast_Irows s.log
  have hS := listLast_Srows (A.order : Int) s.log
  rw [← h.I] at hI
  rw [← h.S] at hS
  unfold process_rec
  simp only [hI, hS, liftE_ok, pure_bind]
  refine TM.RR.pure _ ⟨⟨?_, h.rec_time, h.queue, ?_, ?_, ?_, h.trans, ?_⟩, ?_⟩
  · intro w
    show fset σ.status u St.S w = stOf (fset s.inf u false w)
    unfold fset
    split
    · rfl
    · exact h.status w
  · show σ.times ++ [some time] = Trows P.tmin ((time, u, false) :: s.log)
    rw [h.times]; rfl
  · show σ.S ++ [(A.order : Int) - icount s.log + 1] = Srows _ ((time, u, false) :: s.log)
    rw [h.S]
    simp only [Srows, icount]
    congr 2
    simp only [Bool.false_eq_true, if_false]
    omega
  · show σ.I ++ [icount s.log - 1] = Irows ((time, u, false) :: s.log)
    rw [h.I]
    simp only [Irows, icount]
    congr 2
  · show ddAppend σ.recovery_times u (some time) = ddOf false ((time, u, false) :: s.log)
    rw [h.recov]
    simp [ddOf]
  · show σ.infection_times = ddOf true ((time, u, false) :: s.log)
    rw [h.infect]
    simp [ddOf]

/-- the generated state after the bookkeeping of an infection of `tgt` (before the recovery event is queued) -/
def gInf (A : FArgs) (σ : Loc) (time : Rat) (src : Option Node) (tgt : Node) (ic : Int) (recT : ERat) : Loc :=
  { σ with status := fset σ.status tgt St.I, rec_time := fset σ.rec_time tgt recT, times := σ.times ++ [some time],
           S := σ.S ++ [(A.order : Int) - ic - 1], I := σ.I ++ [ic + 1],
           transmissions := σ.transmissions ++ [(some time, src, tgt)], rec_rate := A.recRate tgt }

/-- the model state after the bookkeeping of an infection of `tgt`, with queue `q` -/
def mInf (s : FSState) (time : Rat) (src : Option Node) (tgt : Node) (recT : ERat) (q : List FItem) : FSState :=
  { inf := fset s.inf tgt true, recTime := fset s.recTime tgt recT, queue := q,
    log := (time, tgt, true) :: s.log, trans := (time, src, tgt) :: s.trans }

theorem relX_infect {A : FArgs} {P : FSParams} {σ : Loc} {s : FSState} (h : Rel A P σ s) (time : Rat)
    (src : Option Node) (tgt : Node) (recT : ERat) (q : MyQueue) (l : List FItem) (hQ : QRel P.tmax q l) :
    RelX A P { gInf A σ time src tgt (icount s.log) recT with Q := q } (mInf s time src tgt recT l) := by
  refine ⟨?_, ?_, hQ, ?_, ?_, ?_, ?_, ?_⟩
  · intro w
    show fset σ.status tgt St.I w = stOf (fset s.inf tgt true w)
    unfold fset
    split
    · rfl
    · exact h.status w
  · show fset σ.rec_time tgt recT = fset s.recTime tgt recT
    rw [h.rec_time]
  · show σ.times ++ [some time] = Trows P.tmin ((time, tgt, true) :: s.log)
    rw [h.times]; rfl
  · show σ.S ++ [(A.order : Int) - icount s.log - 1] = Srows _ ((time, tgt, true) :: s.log)
    rw [h.S]
    simp only [Srows, icount]
    congr 2
    simp only [if_true]
    omega
  · show σ.I ++ [icount s.log + 1] = Irows ((time, tgt, true) :: s.log)
    rw [h.I]
    simp only [Irows, icount]
    congr 2
  · show σ.transmissions ++ [(some time, src, tgt)] = _
    rw [h.trans]
    simp [mInf]
  · show σ.recovery_times = ddOf false ((time, tgt, true) :: s.log)
    rw [h.recov]
    simp [ddOf]

/-- the neighbour loop and the final `infection_times` update -/
theorem ptrans_tailQ (A : FArgs) (P : FSParams) (hA : Agree A P) (s : FSState) (time : Rat) (tgt : Node)
    (σ8 : Loc) (sQ : FSState) (t : TapeSt) (hX : RelX A P σ8 sQ) (hit : σ8.infection_times = ddOf true s.log)
    (hlog : sQ.log = (time, tgt, true) :: s.log) :
    TM.RR Eq (Rel A P)
      ((List.foldlM (fun σ v => find_next_trans A (some time) (A.transRate tgt v) tgt v σ) σ8 (A.nbrs tgt) >>=
        fun σ => pure { σ with infection_times := ddAppend σ.infection_times tgt (some time) }) t)
      (FastSIS.nbrLoop P time tgt (P.nbrs tgt) sQ t) := by
  rw [hA.nbrs]
  refine TM.RR.map_left (nbr_sim A P hA.transRate time tgt (P.nbrs tgt) σ8 sQ hX.rec_time hX.queue t) ?_
  rintro σ9 s9 ⟨hG, hM, hQ9⟩
  have hX9 := hX.frame hG hM hQ9
  refine ⟨⟨hX9.status, hX9.rec_time, hX9.queue, hX9.times, hX9.S, hX9.I, hX9.trans, hX9.recov⟩, ?_⟩
  show ddAppend σ9.infection_times tgt (some time) = ddOf true s9.log
  rw [hG.infection_times, hit, hM.log, hlog]
  simp [ddOf]

/-- `_process_trans_SIS_Markov`.  `infection_times` is updated only after the neighbour loop, which is why `RelX`, `Rel` without
that field, exists. -/
theorem ptrans_sim (A : FArgs) (P : FSParams) (hA : Agree A P) (σ : Loc) (s : FSState) (h : Rel A P σ s) (time : Rat)
    (src : Option Node) (tgt : Node) (ts : TapeSt) :
    TM.RR Eq (Rel A P) (process_trans A (some time) src tgt σ ts) (FastSIS.processTrans P s time src tgt ts) := by
  have hI := listLast_Irows s.log
  have hS := listLast_Srows (A.order : Int) s.log
  rw [← h.I] at hI
  rw [← h.S] at hS
  unfold process_trans FastSIS.processTrans
  refine TM.RR.bind (R := Rel A P) ?_ ?_
  · by_cases hinf : s.inf tgt = true
    · have hst : ¬ σ.status tgt = St.S := by rw [h.status, hinf]; simp [stOf]
      simp only [hst, decide_false, hinf, Bool.not_true, Bool.false_eq_true, if_false]
      exact TM.RR.pure _ h
    · have hinf' : s.inf tgt = false := by simpa using hinf
      have hst : σ.status tgt = St.S := by rw [h.status, hinf']; rfl
      simp only [hst, decide_true, if_true, hinf', Bool.not_false, hI, hS, liftE_ok, pure_bind]
      refine rate_draw_sim (R := fun σ7 recT => σ7 = gInf A σ time src tgt (icount s.log) recT)
        (congrFun hA.recRate tgt) time (fun x => gInf A σ time src tgt (icount s.log) (ERat.add (some time) x))
        (fun _ => rfl) ts ?_
      rintro σ7 recT t rfl
      have hrt : (gInf A σ time src tgt (icount s.log) recT).rec_time tgt = recT := fset_self _ _ _
      have hqq : (gInf A σ time src tgt (icount s.log) recT).Q = σ.Q := rfl
      show TM.RR Eq (Rel A P) (((_ : TM Loc) >>= _) t) _
      cases recT with
      | none =>
        rw [hrt, if_neg (by rw [ERat.lt_none]; simp), pure_bind]
        exact ptrans_tailQ A P hA s time tgt _ _ t (relX_infect h time src tgt none σ.Q s.queue h.queue) h.infect rfl
      | some rt =>
        have hq8 := relX_infect h time src tgt (some rt) _ _ (h.queue.add rt (FEv.recov tgt))
        by_cases hc : ERat.lt (some rt) σ.Q.tmax = true
        · rw [hrt, hqq, if_pos hc, pure_bind]
          exact ptrans_tailQ A P hA s time tgt _ _ t hq8 h.infect rfl
        · rw [hrt, hqq, if_neg hc, pure_bind]
          have : σ.Q.add (some rt) (conv (FEv.recov tgt)) = σ.Q := by
            unfold MyQueue.add; rw [if_neg hc]
          rw [this] at hq8
          exact ptrans_tailQ A P hA s time tgt _ _ t hq8 h.infect rfl
  · rintro σ1 s1 t h1
    cases src with
    | none => exact TM.RR.pure _ h1
    | some u =>
      show TM.RR Eq (Rel A P) (find_next_trans A (some time) (A.transRate u tgt) u tgt σ1 t) _
      rw [hA.transRate]
      exact TM.RR.mono (find_sim A P σ1 s1 h1.rec_time h1.queue time _ u tgt t)
        (fun σ2 s2 ⟨hG, hM, hQ⟩ => h1.frame hG hM hQ)

theorem Rel.setQ {A : FArgs} {P : FSParams} {σ : Loc} {s : FSState} (h : Rel A P σ s) (q : MyQueue) (l : List FItem)
    (hQ : QRel P.tmax q l) : Rel A P { σ with Q := q } { s with queue := l } :=
  h.frame ((FrG.refl σ).upd _ _ _ _) ((FrM.refl s).upd _) hQ

/- The generated loop is `TM.evLoop` (`Proofs/EventLoop.lean`); the proof follows the text the translator prints for
`while Q: Q.pop_and_run()` (the same bridge in GenEventSIR, GenEventSIS). -/
theorem loop_eq (A : FArgs) : GenFSIS.loop A = TM.evLoop (fun σ => decide (σ.Q.len > 0)) (pop_and_run A) := by
  funext fuel
  induction fuel with
  | zero => rfl
  | succ fuel ih => funext σ; rw [GenFSIS.loop, TM.evLoop, ih]

def mstep (P : FSParams) (s : FSState) : TM FSState :=
  match FastSIS.pop s.queue with
  | none => pure s
  | some (x, q) =>
    match x.ev with
    | .trans src tgt => FastSIS.processTrans P { s with queue := q } x.time src tgt
    | .recov u => pure (FastSIS.processRec { s with queue := q } x.time u)

theorem model_loop_eq (P : FSParams) :
    FastSIS.loop P = TM.evLoop (fun s => (FastSIS.pop s.queue).isSome) (mstep P) := by
  funext fuel
  induction fuel with
  | zero => rfl
  | succ fuel ih =>
    funext s
    rw [FastSIS.loop, TM.evLoop, ← ih, mstep]
    cases FastSIS.pop s.queue <;> rfl

theorem loop_sim (A : FArgs) (P : FSParams) (hA : Agree A P) (fuel : Nat) (σ : Loc) (s : FSState) (h : Rel A P σ s)
    (ts : TapeSt) : TM.RR Eq (Rel A P) (GenFSIS.loop A fuel σ ts) (FastSIS.loop P fuel s ts) := by
  rw [loop_eq, model_loop_eq]
  refine TM.evLoop_RR rfl (fun σ s ts h => ?_) fuel σ s ts h
  by_cases hq : σ.Q.q = []
  · exact Or.inl ⟨by simp [MyQueue.len, hq], by rw [h.queue.rep.nil_iff.1 hq]; rfl⟩
  · obtain ⟨x, l', c, q', hpop, hpm, hQ'⟩ := popMin_sim h.queue hq
    refine Or.inr ⟨decide_eq_true (List.length_pos_of_ne_nil hq), by rw [hpop]; rfl, ?_⟩
    simp only [pop_and_run, mstep, hpop, hpm, liftE_ok, pure_bind]
    have h0 := h.setQ q' l' hQ'
    cases hx : x.ev with
    | trans src tgt => exact ptrans_sim A P hA _ _ h0 x.time src tgt ts
    | recov u => exact prec_sim A P _ _ h0 x.time u ts

/-- the final `times = times[len(initial_infecteds):]` (same for `S`, `I`) of `fast_SIS` -/
def dropRows (n : Nat) (σ : Loc) : Loc := { σ with times := σ.times.drop n, S := σ.S.drop n, I := σ.I.drop n }

theorem init_fold_rel (A : FArgs) (P : FSParams) (hA : Agree A P) (infs : List Node) (σ : Loc) (s : FSState)
    (h : Rel A P σ s) :
    Rel A P (infs.foldl (fun (σ : Loc) (u : Node) => { σ with Q := σ.Q.add (some A.tmin) (Ev.trans none u) }) σ)
      { s with queue := infs.foldl (fun q u => FastSIS.qadd P.tmax q P.tmin (FEv.trans none u)) s.queue } := by
  induction infs generalizing σ s with
  | nil => exact h
  | cons u rest ih =>
    rw [List.foldl_cons, List.foldl_cons]
    have h1 := h.setQ _ _ (h.queue.add P.tmin (FEv.trans none u))
    rw [← hA.tmin] at h1
    have := ih _ _ h1
    rw [hA.tmin] at this ⊢
    exact this

theorem init_rel (A : FArgs) (P : FSParams) (hA : Agree A P) :
    Rel A P { Loc.init with times := [some A.tmin], S := [(A.order : Int)], I := [0], Q := MyQueue.init A.tmax,
                            status := fun _ => St.S, rec_time := fun _ => some (A.tmin - 1), infection_times := [],
                            recovery_times := [], transmissions := [] }
      { inf := fun _ => false, recTime := fun _ => some (P.tmin - 1), queue := [], log := [], trans := [] } := by
  refine ⟨⟨fun u => rfl, ?_, ?_, ?_, rfl, rfl, rfl, rfl⟩, rfl⟩
  · show (fun _ => some (A.tmin - 1)) = fun _ => some (P.tmin - 1)
    rw [hA.tmin]
  · show QRel P.tmax (MyQueue.init A.tmax) []
    rw [hA.tmax]; exact QRel.init _
  · show [some A.tmin] = Trows P.tmin []
    rw [hA.tmin]; rfl

/-- **lock-step refinement**: on every tape the generated `fast_SIS` and the model either both fail with the same
exception or both succeed with the same remaining tape and call trace, in related states -/
theorem run_sim (A : FArgs) (P : FSParams) (hA : Agree A P) (infs : List Node) (fuel : Nat) (ts : TapeSt) :
    TM.RR Eq (fun σ s => ∃ σ0, Rel A P σ0 s ∧ σ = dropRows infs.length σ0)
      (GenFSIS.run A infs fuel ts) (FastSIS.run P infs fuel ts) := by
  unfold GenFSIS.run FastSIS.run
  simp only [List.foldlM_pure, pure_bind]
  rw [← bind_pure (FastSIS.loop P fuel (FastSIS.init P infs))]
  refine TM.RR.bind (loop_sim A P hA fuel _ _ (init_fold_rel A P hA infs _ _ (init_rel A P hA)) ts) ?_
  intro σ0 s t h
  exact TM.RR.pure _ ⟨σ0, h, rfl⟩

/-- net number of infections in a list of status changes (any order) -/
def netI (L : List (Rat × Node × Bool)) : Int :=
  ((L.filter (fun e => e.2.2)).length : Int) - ((L.filter (fun e => !e.2.2)).length : Int)

theorem netI_cons (e : Rat × Node × Bool) (L : List (Rat × Node × Bool)) :
    netI (e :: L) = netI L + (if e.2.2 then 1 else -1) := by
  unfold netI
  cases h : e.2.2 <;> simp [h] <;> omega

theorem netI_reverse (L : List (Rat × Node × Bool)) : netI L.reverse = netI L := by
  unfold netI; simp [List.filter_reverse]

theorem icount_eq (log : List (Rat × Node × Bool)) : icount log = netI log := by
  induction log with
  | nil => rfl
  | cons e r ih => rw [netI_cons, icount, ih]

theorem Trows_eq (tmin : Rat) (log : List (Rat × Node × Bool)) :
    Trows tmin log = some tmin :: log.reverse.map (fun e => (some e.1 : ERat)) := by
  induction log with
  | nil => rfl
  | cons e r ih => simp [Trows, ih]

theorem Irows_eq (log : List (Rat × Node × Bool)) :
    Irows log = (List.range (log.length + 1)).map (fun k => netI (log.reverse.take k)) := by
  induction log with
  | nil => rfl
  | cons e r ih =>
    rw [Irows, ih, List.length_cons, List.range_succ (n := r.length + 1), List.map_append]
    congr 1
    · apply List.map_congr_left
      intro k hk
      have hk' : k ≤ r.reverse.length := by simp at hk ⊢; omega
      rw [List.reverse_cons, List.take_append_of_le_length hk']
    · simp only [List.map_cons, List.map_nil]
      rw [icount_eq, ← netI_reverse, List.take_of_length_le (by simp)]

theorem Srows_eq_map (N : Int) (log : List (Rat × Node × Bool)) : Srows N log = (Irows log).map (fun i => N - i) := by
  induction log with
  | nil => simp [Srows, Irows]
  | cons e r ih => simp [Srows, Irows, ih]

theorem Srows_eq (N : Int) (log : List (Rat × Node × Bool)) :
    Srows N log = (List.range (log.length + 1)).map (fun k => N - netI (log.reverse.take k)) := by
  rw [Srows_eq_map, Irows_eq, List.map_map]; rfl

theorem alGet_ddOf (b : Bool) (log : List (Rat × Node × Bool)) (u : Node) :
    alGet (ddOf b log) [] u =
      (log.reverse.filter (fun e => e.2.1 == u && e.2.2 == b)).map (fun e => (some e.1 : ERat)) := by
  induction log with
  | nil => rfl
  | cons e r ih =>
    rw [ddOf, List.reverse_cons, List.filter_append, List.map_append, ← ih]
    by_cases hb : e.2.2 = b
    · rw [if_pos hb, ddAppend]
      by_cases hu : e.2.1 = u
      · subst hu
        rw [alGet_alSet_self]
        simp [hb]
      · rw [alGet_alSet_ne _ _ _ _ _ (Ne.symm hu)]
        simp [hu]
    · rw [if_neg hb]
      simp [hb]

structure RelOut (A : FArgs) (P : FSParams) (n : Nat) (σ : Loc) (s : FSState) : Prop where
  status : ∀ u, σ.status u = if s.inf u then St.I else St.S
  rec_time : σ.rec_time = s.recTime
  queue : QRel P.tmax σ.Q s.queue
  times : σ.times = (some P.tmin :: s.log.reverse.map (fun e => (some e.1 : ERat))).drop n
  S : σ.S = ((List.range (s.log.length + 1)).map (fun k => (A.order : Int) - netI (s.log.reverse.take k))).drop n
  I : σ.I = ((List.range (s.log.length + 1)).map (fun k => netI (s.log.reverse.take k))).drop n
  trans : σ.transmissions = s.trans.reverse.map (fun e => ((some e.1 : ERat), e.2.1, e.2.2))
  infect : σ.infection_times = ddOf true s.log
  recov : σ.recovery_times = ddOf false s.log
  infect_get : ∀ u, alGet σ.infection_times [] u =
    (s.log.reverse.filter (fun e => e.2.1 == u && e.2.2 == true)).map (fun e => (some e.1 : ERat))
  recov_get : ∀ u, alGet σ.recovery_times [] u =
    (s.log.reverse.filter (fun e => e.2.1 == u && e.2.2 == false)).map (fun e => (some e.1 : ERat))

theorem Rel.out {A : FArgs} {P : FSParams} {σ0 : Loc} {s : FSState} (h : Rel A P σ0 s) (n : Nat) :
    RelOut A P n (dropRows n σ0) s where
  status := h.status
  rec_time := h.rec_time
  queue := h.queue
  times := by show σ0.times.drop n = _; rw [h.times, Trows_eq]
  S := by show σ0.S.drop n = _; rw [h.S, Srows_eq]
  I := by show σ0.I.drop n = _; rw [h.I, Irows_eq]
  trans := h.trans
  infect := h.infect
  recov := h.recov
  infect_get := fun u => by show alGet σ0.infection_times [] u = _; rw [h.infect, alGet_ddOf]
  recov_get := fun u => by show alGet σ0.recovery_times [] u = _; rw [h.recov, alGet_ddOf]

theorem run_sim_out (A : FArgs) (P : FSParams) (hA : Agree A P) (infs : List Node) (fuel : Nat) (ts : TapeSt) :
    TM.RR Eq (RelOut A P infs.length) (GenFSIS.run A infs fuel ts) (FastSIS.run P infs fuel ts) :=
  TM.RR.mono (run_sim A P hA infs fuel ts) (by rintro σ s ⟨σ0, h, rfl⟩; exact h.out _)

/-- **forward refinement** (from the MODEL's run; C11b / C13b use "forward" for the other direction): every successful run of
the model is a run of the generated code on the same tape, with the same remaining tape / call trace, ending in a related
state -/
theorem gen_run_refines (A : FArgs) (P : FSParams) (hA : Agree A P) (infs : List Node) (fuel : Nat) (ts ts' : TapeSt)
    (s : FSState) (hr : FastSIS.run P infs fuel ts = .ok (s, ts')) :
    ∃ σ, GenFSIS.run A infs fuel ts = .ok (σ, ts') ∧ RelOut A P infs.length σ s := by
  have := run_sim_out A P hA infs fuel ts
  rw [hr] at this
  exact this.fwd rfl

/-- the generated code and the model raise the same exceptions on the same tapes -/
theorem gen_run_error_iff (A : FArgs) (P : FSParams) (hA : Agree A P) (infs : List Node) (fuel : Nat) (ts : TapeSt)
    (e : String) : GenFSIS.run A infs fuel ts = .error e ↔ FastSIS.run P infs fuel ts = .error e :=
  (run_sim_out A P hA infs fuel ts).error_iff e

theorem count_update (nodes : List Node) (hn : nodes.Nodup) (f g : Node → Bool) (v : Node) (b : Bool) (hv : v ∈ nodes)
    (hfv : f v = !b) (hgv : g v = b) (hg : ∀ u, u ≠ v → g u = f u) :
    ((nodes.filter g).length : Int) = (nodes.filter f).length + (if b then 1 else -1) := by
  have hgf : g = fset f v b := funext fun u => by
    by_cases h : u = v
    · rw [h, hgv]; exact (if_pos rfl).symm
    · rw [hg u h]; exact (if_neg h).symm
  have hd : ∀ h : Node → Bool, (fun u => decide (h u = true)) = h := fun h => funext fun u => by simp
  have := Rows.countP_fset f v b true nodes hn
  rw [hd, hd] at this
  simp only [hv, true_and, hfv] at this
  rw [hgf, ← List.countP_eq_length_filter, ← List.countP_eq_length_filter]
  cases b <;> simp at this ⊢ <;> omega

theorem netI_eq_count (P : FSParams) (l : List (Rat × Node × Bool)) (hL : FastSIS.Legal P l) (nodes : List Node)
    (hn : nodes.Nodup) (hmem : ∀ e ∈ l, e.2.1 ∈ nodes) :
    netI l = ((nodes.filter (fun u => FastSIS.cur l u)).length : Int) := by
  induction l with
  | nil => simp [netI, FastSIS.cur]
  | cons e rest ih =>
    obtain ⟨h1, h2, _⟩ := hL
    rw [netI_cons, ih h1 (fun e' he' => hmem e' (List.mem_cons_of_mem _ he'))]
    symm
    apply count_update nodes hn _ _ e.2.1 e.2.2 (hmem e List.mem_cons_self) h2
    · simp [FastSIS.cur]
    · intro u hu
      simp [FastSIS.cur, Ne.symm hu]

theorem netI_take_eq_count (P : FSParams) (l : List (Rat × Node × Bool)) (hL : FastSIS.Legal P l) (nodes : List Node)
    (hn : nodes.Nodup) (hmem : ∀ e ∈ l.reverse, e.2.1 ∈ nodes) (k : Nat) (hk : k ≤ l.reverse.length) :
    netI (l.reverse.take k) = ((nodes.filter (fun u => FastSIS.statusAfter l.reverse k u)).length : Int) := by
  rw [List.length_reverse] at hk
  have hsplit : l = l.take (l.length - k) ++ l.drop (l.length - k) := (List.take_append_drop _ _).symm
  generalize hpre : l.drop (l.length - k) = pre at hsplit
  generalize l.take (l.length - k) = post at hsplit
  have hlen : pre.length = k := by rw [← hpre, List.length_drop]; omega
  subst hsplit
  have htake : (post ++ pre).reverse.take k = pre.reverse := by
    rw [List.reverse_append, List.take_append_of_le_length (by simp [hlen]), List.take_of_length_le (by simp [hlen])]
  have hst : ∀ u, FastSIS.statusAfter (post ++ pre).reverse k u = FastSIS.cur pre u := by
    intro u
    rw [List.reverse_append, ← hlen]
    exact FastSIS.statusAfter_eq_cur pre post.reverse u
  rw [htake, netI_reverse]
  simp only [hst]
  apply netI_eq_count P pre (FastSIS.Legal.suffix post pre hL) nodes hn
  intro e he
  exact hmem e (by simp [he])

theorem run_log_nodes (P : FSParams) (infs : List Node) (hWF : FastSIS.WF P infs) (fuel : Nat) (ts ts' : TapeSt)
    (hts : FastSIS.TapeNonneg ts) (s : FSState) (hr : FastSIS.run P infs fuel ts = .ok (s, ts')) :
    ∀ e ∈ s.log, e.2.1 ∈ P.nodes := by
  obtain ⟨_, _, _, h⟩ := FastSIS.loop_inv_nodes P infs fuel _ _ ts ts' s (FastSIS.Inv_init P infs hWF.horizon) hts hr
  exact h hWF (by simp [FastSIS.init])

end GenFS
