import EoNVerif.Proofs.Discrete
import EoNVerif.Model.Perc
/-!
Relabelling the nodes by an injective `σ` with a left inverse `σ'` (`hl : ∀ i, σ' (σ i) = i`; nothing here needs
`σ (σ' i) = i`, which Props/C14 adds to its statements) transports every per-node quantity of the discrete-time
simulator and of the reachability model along `σ` and leaves every aggregate unchanged.  Everything reduces to three
facts about `List.map σ` for injective `σ` (`Relabel.contains_map`, `filter_map`, `any_map`).
-/

namespace Relabel
variable {σ σ' : Nat → Nat}

theorem inj (hl : ∀ i, σ' (σ i) = i) : Function.Injective σ := by
  intro a b h
  have := congrArg σ' h
  rwa [hl, hl] at this

theorem contains_map (hl : ∀ i, σ' (σ i) = i) (l : List Nat) (v : Nat) :
    (l.map σ).contains (σ v) = l.contains v := by
  induction l with
  | nil => rfl
  | cons a t ih =>
    rw [List.map_cons, List.contains_cons, List.contains_cons, ih]
    congr 1
    rw [Bool.eq_iff_iff]
    simp only [beq_iff_eq]
    exact ⟨fun h => inj hl h, fun h => congrArg σ h⟩

theorem filter_map (l : List Nat) (p : Nat → Bool) :
    (l.map σ).filter p = (l.filter fun x => p (σ x)).map σ := by
  rw [List.filter_map]; rfl

theorem any_map (l : List Nat) (p : Nat → Bool) : (l.map σ).any p = l.any fun x => p (σ x) := by
  rw [List.any_map]; rfl

end Relabel

namespace Discrete

/-- transport of the parameters along `σ`; `σ'` reads the old name of a new node -/
def relabel (σ σ' : Node → Node) (P : DParams) : DParams :=
  { nodes := P.nodes.map σ, nbrs := fun a => (P.nbrs (σ' a)).map σ, rule := fun a x y => P.rule a (σ' x) (σ' y),
    recSteps := P.recSteps.map fun k a => k (σ' a), tmin := P.tmin, tmax := P.tmax }

def recovered (P : DParams) (s : DState) : Int :=
  match P.recSteps with
  | none => (s.inf.length : Int)
  | some _ => ((s.inf.length - (stay P s).length : Nat) : Int)

theorem step_rl (P : DParams) (s : DState) :
    (step P s).inf = (P.nodes.filter fun v => (newInf P s).contains v || (stay P s).contains v) ∧
    (step P s).S = (s.nS - ((newInf P s).length : Int)) :: s.S ∧
    (step P s).I = (((step P s).inf.length : Nat) : Int) :: s.I ∧
    (step P s).R = (s.totR + recovered P s) :: s.R ∧
    (step P s).infTime = s.infTime ++ (newInf P s).map fun v => (v, s.t.headD P.tmin + 1) := by
  obtain ⟨nodes, nbrs, rule, recSteps, tmin, tmax⟩ := P
  cases recSteps <;> exact ⟨rfl, rfl, rfl, rfl, rfl⟩

/-- the relabelled state (only the fields `step` reads through node names are transported) -/
def relabelSt (σ σ' : Node → Node) (s : DState) : DState :=
  { s with sus := fun a => s.sus (σ' a), inf := s.inf.map σ, age := fun a => s.age (σ' a),
           infTime := s.infTime.map fun e => (σ e.1, e.2),
           infectors := s.infectors.map fun e => (σ e.1, e.2.1, e.2.2.map σ) }

variable (σ σ' : Node → Node) (hl : ∀ i, σ' (σ i) = i)
include hl

theorem contact_relabel (P : DParams) (a : Nat) (u v : Node) :
    (((relabel σ σ' P).nbrs (σ u)).contains (σ v) && (relabel σ σ' P).rule a (σ u) (σ v)) =
    ((P.nbrs u).contains v && P.rule a u v) := by
  show (((P.nbrs (σ' (σ u))).map σ).contains (σ v) && P.rule a (σ' (σ u)) (σ' (σ v))) = _
  rw [hl, hl, Relabel.contains_map hl]

theorem ball_relabel' (P : DParams) (infs recs : List Node) (k : Nat) :
    ball (relabel σ σ' P) (infs.map σ) (recs.map σ) k = (ball P infs recs k).map σ := by
  induction k with
  | zero =>
    show ((P.nodes.map σ).filter fun v => (infs.map σ).contains v && !(recs.map σ).contains v) = _
    rw [Relabel.filter_map]
    simp only [Relabel.contains_map hl]
    rfl
  | succ k ih =>
    rw [ball, ih]
    show ((P.nodes.map σ).filter _) = _
    rw [Relabel.filter_map]
    simp only [Relabel.contains_map hl, Relabel.any_map, contact_relabel σ σ' hl]
    rfl

theorem newInf_relabel (P : DParams) (s : DState) :
    newInf (relabel σ σ' P) (relabelSt σ σ' s) = (newInf P s).map σ := by
  show ((P.nodes.map σ).filter fun v => s.sus (σ' v) && (s.inf.map σ).any fun u =>
    ((relabel σ σ' P).nbrs u).contains v && (relabel σ σ' P).rule (s.age (σ' u)) u v) = _
  rw [Relabel.filter_map]
  simp only [Relabel.any_map, contact_relabel σ σ' hl, hl]
  rfl

theorem stay_relabel (P : DParams) (s : DState) :
    stay (relabel σ σ' P) (relabelSt σ σ' s) = (stay P s).map σ := by
  obtain ⟨nodes, nbrs, rule, recSteps, tmin, tmax⟩ := P
  cases recSteps with
  | none => rfl
  | some k =>
    show ((s.inf.map σ).filter fun u => decide (s.age (σ' u) + 1 < k (σ' u))) = _
    rw [Relabel.filter_map]
    simp only [hl]
    rfl

theorem recovered_relabel (P : DParams) (s : DState) :
    recovered (relabel σ σ' P) (relabelSt σ σ' s) = recovered P s := by
  have hs := stay_relabel σ σ' hl P s
  obtain ⟨nodes, nbrs, rule, recSteps, tmin, tmax⟩ := P
  cases recSteps with
  | none => show (((s.inf.map σ).length : Nat) : Int) = _; rw [List.length_map]; rfl
  | some k =>
    show ((((s.inf.map σ).length - (stay _ _).length : Nat)) : Int) = _
    rw [hs, List.length_map, List.length_map]; rfl

theorem step_relabel' (P : DParams) (s : DState) :
    (step (relabel σ σ' P) (relabelSt σ σ' s)).inf = (step P s).inf.map σ ∧
    (step (relabel σ σ' P) (relabelSt σ σ' s)).S = (step P s).S ∧
    (step (relabel σ σ' P) (relabelSt σ σ' s)).I = (step P s).I ∧
    (step (relabel σ σ' P) (relabelSt σ σ' s)).R = (step P s).R ∧
    (step (relabel σ σ' P) (relabelSt σ σ' s)).infTime = (step P s).infTime.map fun e => (σ e.1, e.2) := by
  obtain ⟨a1, a2, a3, a4, a5⟩ := step_rl (relabel σ σ' P) (relabelSt σ σ' s)
  obtain ⟨b1, b2, b3, b4, b5⟩ := step_rl P s
  have hinf : (step (relabel σ σ' P) (relabelSt σ σ' s)).inf = (step P s).inf.map σ := by
    rw [a1, b1, newInf_relabel σ σ' hl, stay_relabel σ σ' hl]
    show ((P.nodes.map σ).filter _) = _
    rw [Relabel.filter_map]
    simp only [Relabel.contains_map hl]
  refine ⟨hinf, ?_, ?_, ?_, ?_⟩
  · rw [a2, b2, newInf_relabel σ σ' hl, List.length_map]; rfl
  · rw [a3, b3, hinf, List.length_map]; rfl
  · rw [a4, b4, recovered_relabel σ σ' hl]; rfl
  · rw [a5, b5, newInf_relabel σ σ' hl, List.map_append, List.map_map, List.map_map]
    rfl

end Discrete

namespace Perc

theorem iter_map {α β : Type} (h : α → β) (f : α → α) (g : β → β) (hc : ∀ x, g (h x) = h (f x)) (n : Nat) (x : α) :
    iter g n (h x) = h (iter f n x) := by
  induction n generalizing x with
  | zero => rfl
  | succ n ih => rw [iter, iter, hc, ih]

variable (σ σ' : Node → Node) (hl : ∀ i, σ' (σ i) = i) (nodes : List Node) (succ : Node → List Node)
include hl

theorem reachFrom_relabel' (src : List Node) :
    reachFrom (nodes.map σ) (fun a => (succ (σ' a)).map σ) (src.map σ) = (reachFrom nodes succ src).map σ := by
  unfold reachFrom
  rw [List.length_map, Relabel.filter_map]
  simp only [Relabel.contains_map hl]
  apply iter_map (List.map σ)
  intro cur
  rw [Relabel.filter_map]
  simp only [Relabel.contains_map hl, Relabel.any_map, hl]

theorem reach_relabel (u v : Node) :
    reach (nodes.map σ) (fun a => (succ (σ' a)).map σ) (σ u) (σ v) = reach nodes succ u v := by
  unfold reach
  have := reachFrom_relabel' σ σ' hl nodes succ [u]
  rw [List.map_cons, List.map_nil] at this
  rw [this, Relabel.contains_map hl]

theorem outC_relabel (u : Node) :
    outC (nodes.map σ) (fun a => (succ (σ' a)).map σ) (σ u) = (outC nodes succ u).map σ := by
  unfold outC
  rw [Relabel.filter_map]
  simp only [reach_relabel σ σ' hl]

theorem inC_relabel (u : Node) :
    inC (nodes.map σ) (fun a => (succ (σ' a)).map σ) (σ u) = (inC nodes succ u).map σ := by
  unfold inC
  rw [Relabel.filter_map]
  simp only [reach_relabel σ σ' hl]

theorem scc_relabel (u : Node) :
    scc (nodes.map σ) (fun a => (succ (σ' a)).map σ) (σ u) = (scc nodes succ u).map σ := by
  unfold scc
  rw [Relabel.filter_map]
  simp only [reach_relabel σ σ' hl]

theorem maxSccSize_relabel :
    maxSccSize (nodes.map σ) (fun a => (succ (σ' a)).map σ) = maxSccSize nodes succ := by
  unfold maxSccSize
  rw [List.map_map]
  simp only [Function.comp_def, scc_relabel σ σ' hl, List.length_map]

end Perc
