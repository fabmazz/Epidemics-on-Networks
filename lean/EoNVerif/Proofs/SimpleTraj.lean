import EoNVerif.Proofs.Simple2
import EoNVerif.Proofs.TrajLaw
/-!
Induction over events for `Gillespie_simple_contagion`: the one-step laws (`clock_eq'`, `LD.Tracks.share_law`,
`applyEvent_inv'`; the index law `idxDist` is tied to `pickIdx` by `pickIdx_eq_iff`) lifted to the law of finite histories.  Definitions
(`Simple.Spec.events`, `Simple.Spec.evRate`, `Simple.Spec.jumpDist`, `Simple.idxDist`, `Simple.pickDist`,
`Simple.trajDist`, `Simple.accProd`, …), the one-step facts in the form `TrajLaw.Sim` asks for (`Simple.sim`), and with
it the trajectory law as an instance of `Proofs/TrajLaw.lean`; property statements in `Props/C03c.lean`.
`Spec.jumpDist`, `Spec.applyHist`, `Spec.Legal`, `trajDist`, `accProd`, `defectSum`, `applyHist`, `trajDistT` restate
`TrajLaw.Chain.jump` … `TrajLaw.Model.trajT` for this simulator: the statements of `Props/C03c` are written with them, and
`jumpDist_eq` … `trajDistT_gen` tie each to the general one; a further law is stated with the `TrajLaw` definitions.
-/

theorem sumRat_flatMap {γ : Type} (l : List γ) (f : γ → List Rat) :
    sumRat (l.flatMap f) = sumRat (l.map fun x => sumRat (f x)) := by
  induction l with
  | nil => rfl
  | cons a t ih => simp [List.flatMap_cons, sumRat_append, ih]

namespace Simple
variable {σ : Type} [DecidableEq σ]

/-! ### the jump chain of the specification -/
namespace Spec

/-- rate of the event "transition `e.idx` (index into `spont ++ ind`) fires with actor `e.actor`": the transition's
rate × the actor's weight (`1` if the transition is unweighted); `0` for ill-formed events -/
def evRate (P : SCParams σ) (e : SCEvent) : Rat :=
  if e.idx < P.spont.length then
    match P.spont[e.idx]?, e.actor with
    | some tr, [u] => tr.rate * (wS tr u).getD 1
    | _, _ => 0
  else
    match P.ind[e.idx - P.spont.length]?, e.actor with
    | some tr, [u, v] => tr.rate * (wI tr u v).getD 1
    | _, _ => 0

/-- the events of spontaneous transition number `j`: one per node with the source status -/
def eventsS (P : SCParams σ) (st : Node → σ) (j : Nat) (tr : SpontTr σ) : List SCEvent :=
  (P.nodes.filter fun u => st u = tr.src).map fun u => { idx := j, actor := [u] }

/-- the events of induced transition number `j`: one per ordered pair `(u, v)`, `v ∈ succ u`, statuses `(a, b)` -/
def eventsI (P : SCParams σ) (st : Node → σ) (j : Nat) (tr : IndTr σ) : List SCEvent :=
  P.nodes.flatMap fun u =>
    if st u = tr.a then ((P.succ u).filter fun v => st v = tr.b).map fun v => { idx := j, actor := [u, v] }
    else []

/-- the argument is `P.spont[j]?` (hence the `Option`); `blockI` likewise -/
def blockS (P : SCParams σ) (st : Node → σ) (j : Nat) : Option (SpontTr σ) → List SCEvent
  | some tr => eventsS P st j tr
  | none => []

def blockI (P : SCParams σ) (st : Node → σ) (j : Nat) : Option (IndTr σ) → List SCEvent
  | some tr => eventsI P st j tr
  | none => []

/-- the enabled (transition, actor) pairs in status `st` — the same enumeration as `Simple.enabledS`/`enabledI` of
the model file (whose rates sum to `Simple.specTotal`), labelled with the index of the transition -/
def events (P : SCParams σ) (st : Node → σ) : List SCEvent :=
  ((List.range P.spont.length).flatMap fun j => blockS P st j P.spont[j]?) ++
  ((List.range P.ind.length).flatMap fun j => blockI P st (P.spont.length + j) P.ind[j]?)

def Enabled (P : SCParams σ) (st : Node → σ) (e : SCEvent) : Prop :=
  (∃ tr u, P.spont[e.idx]? = some tr ∧ e.actor = [u] ∧ u ∈ P.nodes ∧ st u = tr.src) ∨
  (∃ tr u v, P.spont.length ≤ e.idx ∧ P.ind[e.idx - P.spont.length]? = some tr ∧ e.actor = [u, v] ∧
    u ∈ P.nodes ∧ v ∈ P.succ u ∧ st u = tr.a ∧ st v = tr.b)

/-- the status after event `e`: the modified node (the actor of a spontaneous transition, the second node of an
induced one) takes the transition's to-status -/
def apply (P : SCParams σ) (st : Node → σ) (e : SCEvent) : Node → σ :=
  match decode P e with
  | some (_, m, _, new) => fset st m new
  | none => st

/-- **jump chain of the specified CTMC**, first `n` jumps, as a law on histories of (event, total rate before the
event): if the total rate `specTotal` is `0` the history ends; otherwise the enabled event `e` is next with
probability `evRate e / specTotal`, `(e, specTotal)` is recorded, and the chain continues from `apply st e`. -/
def jumpDist (P : SCParams σ) : Nat → (Node → σ) → Dist (List (SCEvent × Rat))
  | 0, _ => Dist.pure []
  | n + 1, st =>
    if specTotal P st = 0 then Dist.pure []
    else
      Dist.bind ((events P st).map fun e => (e, evRate P e / specTotal P st)) fun e =>
        Dist.push (fun h => (e, specTotal P st) :: h) (jumpDist P n (apply P st e))

def applyHist (P : SCParams σ) : (Node → σ) → List (SCEvent × Rat) → (Node → σ)
  | st, [] => st
  | st, (e, _) :: h => applyHist P (apply P st e) h

/-- `h` is a legal path of the chain from `st`: every event is an enabled transition of the specification, with a
positive rate, in the status reached by its predecessors; the recorded rate is the total rate of that status -/
def Legal (P : SCParams σ) : (Node → σ) → List (SCEvent × Rat) → Prop
  | _, [] => True
  | st, (e, r) :: h =>
    Enabled P st e ∧ 0 < evRate P e ∧ r = specTotal P st ∧ 0 < specTotal P st ∧ Legal P (apply P st e) h

end Spec

/-! ### the enumeration of the enabled events -/

theorem mem_eventsS (P : SCParams σ) (st : Node → σ) (j : Nat) (tr : SpontTr σ) (e : SCEvent) :
    e ∈ Spec.eventsS P st j tr ↔ ∃ u, u ∈ P.nodes ∧ st u = tr.src ∧ e = { idx := j, actor := [u] } := by
  unfold Spec.eventsS
  simp only [List.mem_map, List.mem_filter, decide_eq_true_eq]
  constructor
  · rintro ⟨u, ⟨h1, h2⟩, rfl⟩; exact ⟨u, h1, h2, rfl⟩
  · rintro ⟨u, h1, h2, rfl⟩; exact ⟨u, ⟨h1, h2⟩, rfl⟩

theorem eventsI_eq (P : SCParams σ) (st : Node → σ) (j : Nat) (tr : IndTr σ) :
    Spec.eventsI P st j tr = (pairsI P st tr).map fun p => ({ idx := j, actor := [p.1, p.2] } : SCEvent) :=
  flatMap_pairs P st tr fun u v => ({ idx := j, actor := [u, v] } : SCEvent)

theorem mem_eventsI (P : SCParams σ) (st : Node → σ) (j : Nat) (tr : IndTr σ) (e : SCEvent) :
    e ∈ Spec.eventsI P st j tr ↔
      ∃ u v, u ∈ P.nodes ∧ v ∈ P.succ u ∧ st u = tr.a ∧ st v = tr.b ∧ e = { idx := j, actor := [u, v] } := by
  rw [eventsI_eq, List.mem_map]
  constructor
  · rintro ⟨⟨u, v⟩, hp, rfl⟩
    obtain ⟨h1, h2, h3, h4⟩ := (mem_pairsI P st tr u v).1 hp
    exact ⟨u, v, h1, h2, h3, h4, rfl⟩
  · rintro ⟨u, v, h1, h2, h3, h4, rfl⟩
    exact ⟨(u, v), (mem_pairsI P st tr u v).2 ⟨h1, h2, h3, h4⟩, rfl⟩

theorem mem_events (P : SCParams σ) (st : Node → σ) (e : SCEvent) :
    e ∈ Spec.events P st ↔ Spec.Enabled P st e := by
  unfold Spec.events Spec.Enabled
  rw [List.mem_append]
  apply or_congr
  · simp only [List.mem_flatMap, List.mem_range]
    constructor
    · rintro ⟨j, _, he⟩
      cases htr : P.spont[j]? with
      | none => rw [htr] at he; cases he
      | some tr =>
        rw [htr] at he
        obtain ⟨u, h1, h2, rfl⟩ := (mem_eventsS P st j tr e).1 he
        exact ⟨tr, u, htr, rfl, h1, h2⟩
    · rintro ⟨tr, u, htr, hact, h1, h2⟩
      refine ⟨e.idx, (List.getElem?_eq_some_iff.1 htr).1, ?_⟩
      rw [htr]
      refine (mem_eventsS P st e.idx tr e).2 ⟨u, h1, h2, ?_⟩
      cases e; simp only at hact; rw [hact]
  · simp only [List.mem_flatMap, List.mem_range]
    constructor
    · rintro ⟨j, _, he⟩
      cases htr : P.ind[j]? with
      | none => rw [htr] at he; cases he
      | some tr =>
        rw [htr] at he
        obtain ⟨u, v, h1, h2, h3, h4, rfl⟩ := (mem_eventsI P st _ tr e).1 he
        refine ⟨tr, u, v, Nat.le_add_right _ _, ?_, rfl, h1, h2, h3, h4⟩
        simp only [Nat.add_sub_cancel_left]; exact htr
    · rintro ⟨tr, u, v, hle, htr, hact, h1, h2, h3, h4⟩
      refine ⟨e.idx - P.spont.length, (List.getElem?_eq_some_iff.1 htr).1, ?_⟩
      rw [htr]
      refine (mem_eventsI P st _ tr e).2 ⟨u, v, h1, h2, h3, h4, ?_⟩
      cases e; simp only at hact hle ⊢; rw [hact]
      congr 1; omega

theorem idx_of_mem_blockS (P : SCParams σ) (st : Node → σ) (j : Nat) (o : Option (SpontTr σ)) (e : SCEvent)
    (he : e ∈ Spec.blockS P st j o) : e.idx = j := by
  cases o with
  | none => cases he
  | some tr => obtain ⟨u, -, -, rfl⟩ := (mem_eventsS P st j tr e).1 he; rfl

theorem idx_of_mem_blockI (P : SCParams σ) (st : Node → σ) (j : Nat) (o : Option (IndTr σ)) (e : SCEvent)
    (he : e ∈ Spec.blockI P st j o) : e.idx = j := by
  cases o with
  | none => cases he
  | some tr => obtain ⟨u, v, -, -, -, -, rfl⟩ := (mem_eventsI P st j tr e).1 he; rfl

theorem eventsS_nodup (P : SCParams σ) (h : WF P) (st : Node → σ) (j : Nat) (tr : SpontTr σ) :
    (Spec.eventsS P st j tr).Nodup := by
  refine List.Nodup.map ?_ (h.nodup.filter _)
  intro a b hab
  simpa using hab

theorem eventsI_nodup (P : SCParams σ) (h : WF P) (st : Node → σ) (j : Nat) (tr : IndTr σ) :
    (Spec.eventsI P st j tr).Nodup := by
  rw [eventsI_eq]
  refine List.Nodup.map ?_ (pairsI_nodup P h st tr)
  rintro ⟨a, b⟩ ⟨c, d⟩ hab
  simpa using hab

theorem events_nodup (P : SCParams σ) (h : WF P) (st : Node → σ) : (Spec.events P st).Nodup := by
  unfold Spec.events
  apply List.Nodup.append
  · rw [List.nodup_flatMap]
    constructor
    · intro j _
      cases P.spont[j]? with
      | none => exact List.nodup_nil
      | some tr => exact eventsS_nodup P h st j tr
    · refine List.nodup_range.pairwise_of_forall_ne ?_
      intro a _ b _ hab p hp1 hp2
      exact hab ((idx_of_mem_blockS P st a _ p hp1).symm.trans (idx_of_mem_blockS P st b _ p hp2))
  · rw [List.nodup_flatMap]
    constructor
    · intro j _
      cases P.ind[j]? with
      | none => exact List.nodup_nil
      | some tr => exact eventsI_nodup P h st _ tr
    · refine List.nodup_range.pairwise_of_forall_ne ?_
      intro a _ b _ hab p hp1 hp2
      have := (idx_of_mem_blockI P st _ _ p hp1).symm.trans (idx_of_mem_blockI P st _ _ p hp2)
      exact hab (by omega)
  · intro e h1 h2
    simp only [List.mem_flatMap, List.mem_range] at h1 h2
    obtain ⟨j, hj, he⟩ := h1
    obtain ⟨j', _, he'⟩ := h2
    have e1 := idx_of_mem_blockS P st j _ e he
    have e2 := idx_of_mem_blockI P st _ _ e he'
    omega

/-! ### the rates of the enumerated events sum to `specTotal` -/

omit [DecidableEq σ] in
theorem evRate_spont (P : SCParams σ) (j : Nat) (tr : SpontTr σ) (htr : P.spont[j]? = some tr) (u : Node) :
    Spec.evRate P { idx := j, actor := [u] } = tr.rate * (wS tr u).getD 1 := by
  unfold Spec.evRate
  have hj : j < P.spont.length := (List.getElem?_eq_some_iff.1 htr).1
  simp only [hj, if_true, htr]

omit [DecidableEq σ] in
theorem evRate_ind (P : SCParams σ) (i : Nat) (hi : P.spont.length ≤ i) (tr : IndTr σ)
    (htr : P.ind[i - P.spont.length]? = some tr) (u v : Node) :
    Spec.evRate P { idx := i, actor := [u, v] } = tr.rate * (wI tr u v).getD 1 := by
  unfold Spec.evRate
  rw [if_neg (Nat.not_lt.2 hi), htr]

theorem sum_blockS (P : SCParams σ) (st : Node → σ) (j : Nat) (tr : SpontTr σ) (htr : P.spont[j]? = some tr) :
    sumRat ((Spec.eventsS P st j tr).map (Spec.evRate P)) = sumRat ((enabledS P st tr).map (·.2)) := by
  unfold Spec.eventsS enabledS
  rw [List.map_map, List.map_map]
  apply sumRat_map_congr
  intro u _
  simp only [Function.comp]
  exact evRate_spont P j tr htr u

theorem sum_blockI (P : SCParams σ) (st : Node → σ) (j : Nat) (tr : IndTr σ) (htr : P.ind[j]? = some tr) :
    sumRat ((Spec.eventsI P st (P.spont.length + j) tr).map (Spec.evRate P)) =
      sumRat ((enabledI P st tr).map (·.2)) := by
  unfold enabledI
  rw [eventsI_eq, flatMap_pairs, List.map_map, List.map_map]
  apply sumRat_map_congr
  intro p _
  exact evRate_ind P _ (Nat.le_add_right _ _) tr (by rw [Nat.add_sub_cancel_left]; exact htr) p.1 p.2

theorem sum_rates (P : SCParams σ) (st : Node → σ) :
    sumRat ((Spec.events P st).map (Spec.evRate P)) = specTotal P st := by
  unfold Spec.events specTotal
  rw [List.map_append, sumRat_append, List.map_flatMap, List.map_flatMap, sumRat_flatMap, sumRat_flatMap]
  congr 1
  · rw [← sumRat_range_getElem? P.spont (fun o => match o with
      | some tr => sumRat ((enabledS P st tr).map (·.2))
      | none => 0)]
    apply sumRat_map_congr
    intro j _
    cases htr : P.spont[j]? with
    | none => rfl
    | some tr => exact sum_blockS P st j tr htr
  · rw [← sumRat_range_getElem? P.ind (fun o => match o with
      | some tr => sumRat ((enabledI P st tr).map (·.2))
      | none => 0)]
    apply sumRat_map_congr
    intro j _
    cases htr : P.ind[j]? with
    | none => rfl
    | some tr => exact sum_blockI P st j tr htr

/-! ### the model's law -/
open Dist

/-- the `while` test of `Simple.loop` with no time horizon (`tmax = ∞`): the loop stops when `total_rate > 0`
fails (the next event time is `inf` exactly in that case, see `SimpleTraj.loop_stops`) -/
def halted (P : SCParams σ) (s : SCState σ) : Prop := ¬ (totalRate P s > 0)

instance (P : SCParams σ) (s : SCState σ) : Decidable (halted P s) :=
  inferInstanceAs (Decidable (¬ (totalRate P s > 0)))

/-- **law of the transition index** chosen by `r = random(); for tr: r -= share; if r < 0: break`: by
`pickIdx_eq_iff` the index `i` is returned exactly when the uniform draw falls in the `i`-th cumulative-share
interval, whose length is `share_i = rate_i·total_weight_i / total_rate` (the same expressions the tape model
`pick` hands to `pickIdx`) -/
def idxDist (P : SCParams σ) (s : SCState σ) : Dist Nat :=
  (List.range (rateList P s).length).map fun i => (i, (rateList P s).getD i 0 / totalRate P s)

/-- law interpretation of `Simple.pick`: transition index by cumulative share, then the `k`-round sampler of that
transition's candidate list.  `none` = sampler out of rounds; an out-of-range index (IndexError in the tape model)
contributes no outcome (unreachable: `idxDist` only lists indices of `rateList`). -/
def pickDist (P : SCParams σ) (s : SCState σ) (k : Nat) : Dist (Option SCEvent) :=
  Dist.bind (idxDist P s) fun i =>
    match (s.ptS ++ s.ptI)[i]? with
    | none => []
    | some ld => Dist.push (fun o => o.map fun a => ({ idx := i, actor := a } : SCEvent)) (ld.chooseDist k)

/-- **law of the first `n` events of the model's loop** (histories of (event, rate handed to `expovariate` before
the event)).  Mirrors `Simple.loop`: stop test `halted`; selection `pickDist`; `none` (sampler out of fuel: an error
of the tape model, not a stop) and `applyEvent = none` (KeyError, unreachable) contribute no history.  The event
time passed to `applyEvent` is `0`: it is only recorded (`trajDistT_eq'`). -/
def trajDist (P : SCParams σ) (k : Nat) : Nat → SCState σ → Dist (List (SCEvent × Rat))
  | 0, _ => Dist.pure []
  | n + 1, s =>
    if halted P s then Dist.pure []
    else
      Dist.bind (pickDist P s k) fun o =>
        match o with
        | none => []
        | some e =>
          match applyEvent P s e 0 with
          | none => []
          | some s' => Dist.push (fun h => (e, totalRate P s) :: h) (trajDist P k n s')

instance (s : SCState σ) (e : SCEvent) : Decidable (Enabled s e) :=
  match h : (s.ptS ++ s.ptI)[e.idx]? with
  | some ld =>
    if ha : e.actor ∈ ld.items then isTrue ⟨ld, h, ha⟩
    else isFalse (by rintro ⟨ld', h1, h2⟩; rw [h] at h1; cases h1; exact ha h2)
  | none => isFalse (by rintro ⟨ld', h1, _⟩; rw [h] at h1; cases h1)

/-- acceptance factor of the candidate list used by event `e` in state `s`: `1 - ρ^k` if it is weighted (rejection
sampling), `1` otherwise: the `some` branch is `ld.factor k` (`LD.factor`) written out -/
def stepFactor (s : SCState σ) (k : Nat) (e : SCEvent) : Rat :=
  match (s.ptS ++ s.ptI)[e.idx]? with
  | some ld => if ld.weighted then 1 - ld.rejProb ^ k else 1
  | none => 1

def stepDefect (s : SCState σ) (k : Nat) (e : SCEvent) : Rat :=
  match (s.ptS ++ s.ptI)[e.idx]? with
  | some ld => ld.defect k
  | none => 0

/-- `Π_i c_i`: product of the acceptance factors of the lists used along the model's path through `h` -/
def accProd (P : SCParams σ) (k : Nat) : SCState σ → List (SCEvent × Rat) → Rat
  | _, [] => 1
  | s, (e, _) :: h =>
    if Enabled s e then
      match applyEvent P s e 0 with
      | some s' => stepFactor s k e * accProd P k s' h
      | none => 1
    else 1

def defectSum (P : SCParams σ) (k : Nat) : SCState σ → List (SCEvent × Rat) → Rat
  | _, [] => 0
  | s, (e, _) :: h =>
    if Enabled s e then
      match applyEvent P s e 0 with
      | some s' => stepDefect s k e + defectSum P k s' h
      | none => 0
    else 0

def applyHist (P : SCParams σ) : SCState σ → List (SCEvent × Rat) → Option (SCState σ)
  | s, [] => some s
  | s, (e, _) :: h =>
    match applyEvent P s e 0 with
    | some s' => applyHist P s' h
    | none => none

/-! ### the stop test -/

omit [DecidableEq σ] in
theorem evRate_nonneg (P : SCParams σ) (h : WF P) (e : SCEvent) : 0 ≤ Spec.evRate P e := by
  unfold Spec.evRate
  split
  · split
    · rename_i tr u htr _
      have hm : tr ∈ P.spont := List.mem_of_getElem? htr
      refine mul_nonneg (h.rate_nonneg.1 tr hm) ?_
      cases hw : wS tr u with
      | none => simp
      | some x => exact wS_nonneg P h tr hm u x hw
    · exact le_refl 0
  · split
    · rename_i tr u v htr _
      have hm : tr ∈ P.ind := List.mem_of_getElem? htr
      refine mul_nonneg (h.rate_nonneg.2 tr hm) ?_
      cases hw : wI tr u v with
      | none => simp
      | some x => exact wI_nonneg P h tr hm u v x hw
    · exact le_refl 0

theorem specTotal_nonneg (P : SCParams σ) (h : WF P) (st : Node → σ) : 0 ≤ specTotal P st := by
  rw [← sum_rates]
  exact sumRat_map_nonneg _ _ (fun e _ => evRate_nonneg P h e)

theorem halted_iff (P : SCParams σ) (h : WF P) (s : SCState σ) (hs : Inv P s) :
    halted P s ↔ specTotal P s.status = 0 := by
  unfold halted
  rw [clock_eq' P h s hs]
  have := specTotal_nonneg P h s.status
  constructor
  · intro hn; exact le_antisymm (not_lt.1 hn) this
  · intro h0; rw [h0]; exact lt_irrefl 0

/-! ### one step of the model's law -/

theorem enabled_data (P : SCParams σ) (s : SCState σ) (hs : Inv P s) (e : SCEvent) (ld : LD Actor)
    (hld : (s.ptS ++ s.ptI)[e.idx]? = some ld) (ha : e.actor ∈ ld.items) :
    ∃ r W T, ld.Tracks W T ∧ T e.actor ∧ (rateList P s)[e.idx]? = some (r * ld.totalWeight) ∧
      Spec.evRate P e = r * (W e.actor).getD 1 ∧ Spec.Enabled P s.status e := by
  obtain ⟨i, act⟩ := e
  dsimp only at hld ha ⊢
  rcases hs.cases hld with ⟨tr, htr, hld⟩ | ⟨tr, hge, htr, hld⟩
  · have hok := hs.spontOK htr hld
    obtain ⟨u, rfl, hun, hsu⟩ := (hok.mem act).1 ha
    refine ⟨tr.rate, _, _, hok, ⟨u, rfl, hun, hsu⟩, ?_, evRate_spont P i tr htr u, Or.inl ⟨tr, u, htr, rfl, hun, hsu⟩⟩
    unfold rateList
    have hz : (List.zipWith (fun (tr : SpontTr σ) ld => tr.rate * ld.totalWeight) P.spont s.ptS)[i]? =
        some (tr.rate * ld.totalWeight) := List.getElem?_zipWith_eq_some.2 ⟨tr, ld, htr, hld, rfl⟩
    rw [List.getElem?_append_left (List.getElem?_eq_some_iff.1 hz).1]
    exact hz
  · have hok := hs.indOK htr hld
    obtain ⟨u, v, rfl, hun, hvu, hsu, hsv⟩ := (hok.mem act).1 ha
    refine ⟨tr.rate, _, _, hok, ⟨u, v, rfl, hun, hvu, hsu, hsv⟩, ?_, evRate_ind P i hge tr htr u v,
      Or.inr ⟨tr, u, v, hge, htr, rfl, hun, hvu, hsu, hsv⟩⟩
    unfold rateList
    have hz : (List.zipWith (fun (tr : IndTr σ) ld => tr.rate * ld.totalWeight) P.ind s.ptI)[i - P.spont.length]? =
        some (tr.rate * ld.totalWeight) := List.getElem?_zipWith_eq_some.2 ⟨tr, ld, htr, hld, rfl⟩
    have hl1 : (List.zipWith (fun (tr : SpontTr σ) ld => tr.rate * ld.totalWeight) P.spont s.ptS).length =
        P.spont.length := by rw [List.length_zipWith, hs.lenS]; simp
    rw [List.getElem?_append_right (by rw [hl1]; exact hge), hl1]
    exact hz

theorem enabled_iff_spec (P : SCParams σ) (s : SCState σ) (hs : Inv P s) (e : SCEvent) :
    Enabled s e ↔ Spec.Enabled P s.status e := by
  constructor
  · rintro ⟨ld, hld, ha⟩
    obtain ⟨_, _, _, _, _, _, _, h3⟩ := enabled_data P s hs e ld hld ha
    exact h3
  · rintro (⟨tr, u, htr, hact, hun, hsu⟩ | ⟨tr, u, v, hle, htr, hact, hun, hvu, hsu, hsv⟩)
    · have hlt : e.idx < P.spont.length := (List.getElem?_eq_some_iff.1 htr).1
      have hlt' : e.idx < s.ptS.length := by rw [hs.lenS]; exact hlt
      have hld : s.ptS[e.idx]? = some s.ptS[e.idx] := List.getElem?_eq_getElem hlt'
      obtain ⟨-, -, hmem, -⟩ := hs.spont e.idx tr _ htr hld
      refine ⟨s.ptS[e.idx], by rw [List.getElem?_append_left hlt']; exact hld, ?_⟩
      exact (hmem e.actor).2 ⟨u, hact, hun, hsu⟩
    · have hlt2 : e.idx - P.spont.length < P.ind.length := (List.getElem?_eq_some_iff.1 htr).1
      have hlt' : e.idx - P.spont.length < s.ptI.length := by rw [hs.lenI]; exact hlt2
      have hld : s.ptI[e.idx - P.spont.length]? = some s.ptI[e.idx - P.spont.length] :=
        List.getElem?_eq_getElem hlt'
      obtain ⟨-, -, hmem, -⟩ := hs.ind _ tr _ htr hld
      refine ⟨s.ptI[e.idx - P.spont.length], ?_, (hmem e.actor).2 ⟨u, v, hact, hun, hvu, hsu, hsv⟩⟩
      rw [List.getElem?_append_right (by rw [hs.lenS]; exact hle), hs.lenS]; exact hld

theorem enabled_iff_chain (P : SCParams σ) (s : SCState σ) (hs : Inv P s) (e : SCEvent) :
    Enabled s e ↔ e ∈ Spec.events P s.status := by
  rw [mem_events]; exact enabled_iff_spec P s hs e

omit [DecidableEq σ] in
/-- mass of an event under `pickDist`, whatever the state: share of its transition × law of the sampler of that
transition's list -/
theorem pick_mass (P : SCParams σ) (s : SCState σ) (k : Nat) (e : SCEvent) :
    mass (pickDist P s k) (fun o => o == some e) =
      (if e.idx ∈ List.range (rateList P s).length then (rateList P s).getD e.idx 0 / totalRate P s else 0) *
        (match (s.ptS ++ s.ptI)[e.idx]? with
         | some ld => mass (ld.chooseDist k) (fun o => o == some e.actor)
         | none => 0) := by
  unfold pickDist idxDist
  rw [← mass_map_point (List.range (rateList P s).length)
    (fun i => (rateList P s).getD i 0 / totalRate P s) e.idx List.nodup_range]
  apply mass_bind_indicator
  rintro ⟨i, p⟩ _
  dsimp only
  by_cases hi : i = e.idx
  · subst hi
    simp only [decide_true, if_true]
    cases (s.ptS ++ s.ptI)[e.idx]? with
    | none => rfl
    | some ld =>
      dsimp only
      rw [mass_push]
      congr 1
      funext o
      rw [Bool.eq_iff_iff]
      cases o with
      | none => simp
      | some a =>
        obtain ⟨j, b⟩ := e
        simp
  · simp only [hi, decide_false, Bool.false_eq_true, if_false]
    cases (s.ptS ++ s.ptI)[i]? with
    | none => rfl
    | some ld =>
      dsimp only
      rw [mass_push]
      have : (fun o : Option Actor => (o.map fun a => ({ idx := i, actor := a } : SCEvent)) == some e) =
          fun _ => false := by
        funext o
        cases o with
        | none => simp
        | some a =>
          obtain ⟨j, b⟩ := e
          simp only at hi
          simp [hi]
      rw [this, mass_false]

/-- **one-step jump law**: an enabled event is selected with probability `evRate / specTotal`, times the
acceptance factor of its list -/
theorem jump_law_event (P : SCParams σ) (h : WF P) (s : SCState σ) (hs : Inv P s) (e : SCEvent)
    (he : Enabled s e) (k : Nat) (hk : 0 < k) :
    mass (pickDist P s k) (fun o => o == some e) =
      Spec.evRate P e / specTotal P s.status * stepFactor s k e := by
  obtain ⟨ld, hld, ha⟩ := he
  obtain ⟨r, W, T, hT, hTa, h1, h2, -⟩ := enabled_data P s hs e ld hld ha
  have hlt : e.idx < (rateList P s).length := (List.getElem?_eq_some_iff.1 h1).1
  have hget : (rateList P s).getD e.idx 0 = r * ld.totalWeight := by
    rw [List.getD_eq_getElem?_getD, h1]; rfl
  rw [pick_mass, if_pos (List.mem_range.2 hlt), hld, hget, clock_eq' P h s hs]
  dsimp only
  rw [beq_inst_eq, hT.share_law e.actor hTa k hk, h2]
  unfold stepFactor
  rw [hld]
  rfl

omit [DecidableEq σ] in
theorem jump_law_support (P : SCParams σ) (s : SCState σ) (k : Nat) (e : SCEvent) (he : ¬ Enabled s e) :
    mass (pickDist P s k) (fun o => o == some e) = 0 := by
  rw [pick_mass]
  cases hld : (s.ptS ++ s.ptI)[e.idx]? with
  | none => simp
  | some ld =>
    dsimp only
    have ha : e.actor ∉ ld.items := fun hc => he ⟨ld, hld, hc⟩
    have : mass (ld.chooseDist k) (fun o => o == some e.actor) = 0 := by
      rw [beq_inst_eq]
      exact LD.chooseDist_not_mem ld e.actor ha k
    rw [this]; ring

theorem applyEvent_spec (P : SCParams σ) (h : WF P) (s : SCState σ) (hs : Inv P s) (e : SCEvent) (t : Rat)
    (he : Enabled s e) :
    ∃ s', applyEvent P s e t = some s' ∧ Inv P s' ∧ s'.status = Spec.apply P s.status e := by
  obtain ⟨src, m, old, new, s', hdec, -, -, h1, h2, h3⟩ := applyEvent_inv' P h s hs e t he
  refine ⟨s', h1, h2, ?_⟩
  rw [h3]; unfold Spec.apply; rw [hdec]

/-! ### one acceptance factor -/

theorem stepDefect_unit (P : SCParams σ) (s : SCState σ) (hs : Inv P s) (k : Nat) (e : SCEvent) :
    0 ≤ stepDefect s k e ∧ stepDefect s k e ≤ 1 := by
  unfold stepDefect
  cases hld : (s.ptS ++ s.ptI)[e.idx]? with
  | none => exact ⟨le_refl 0, zero_le_one⟩
  | some ld =>
    exact ld.defect_unit (inv_of_getElem P s hs e.idx ld hld) k

omit [DecidableEq σ] in
theorem stepFactor_eq (s : SCState σ) (k : Nat) (e : SCEvent) : stepFactor s k e = 1 - stepDefect s k e := by
  unfold stepFactor stepDefect
  cases (s.ptS ++ s.ptI)[e.idx]? with
  | none => simp
  | some ld => exact ld.factor_eq k

/-- if every transition is unweighted (no `get_weight`), no rejection sampling ever happens -/
theorem accProd_unweighted (P : SCParams σ) (h : WF P) (k : Nat) (s : SCState σ) (hs : Inv P s)
    (hS : ∀ tr ∈ P.spont, tr.w = none) (hI : ∀ tr ∈ P.ind, tr.w = none) (hist : List (SCEvent × Rat)) :
    accProd P k s hist = 1 := by
  induction hist generalizing s with
  | nil => rfl
  | cons a t ih =>
    obtain ⟨e, r⟩ := a
    by_cases he : Enabled s e
    · obtain ⟨s', h1, h2, -⟩ := applyEvent_spec P h s hs e 0 he
      rw [accProd, if_pos he, h1]
      dsimp only
      rw [ih s' h2, mul_one]
      obtain ⟨ld, hld, ha⟩ := he
      unfold stepFactor
      rw [hld]
      dsimp only
      have hw : ld.weighted = false := by
        rcases hs.cases hld with ⟨tr, htr, hld⟩ | ⟨tr, -, htr, hld⟩
        · rw [(hs.spont e.idx tr ld htr hld).2.1, hS tr (List.mem_of_getElem? htr)]; rfl
        · rw [(hs.ind _ tr ld htr hld).2.1, hI tr (List.mem_of_getElem? htr)]; rfl
      rw [hw]; rfl
    · rw [accProd, if_neg he]

/-! ### one defect vanishes as the budget of rejection rounds grows -/

/-- a candidate with a positive rate makes its list's weight sum positive, hence `ρ < 1` (C16) -/
theorem stepDefect_small (P : SCParams σ) (s : SCState σ) (hs : Inv P s) (e : SCEvent) (he : Enabled s e)
    (hr : 0 < Spec.evRate P e) (ε : Rat) (hε : 0 < ε) : ∃ K : Nat, ∀ k, K ≤ k → stepDefect s k e ≤ ε := by
  obtain ⟨ld, hld, ha⟩ := he
  obtain ⟨r, W, T, hT, hTa, -, h2, -⟩ := enabled_data P s hs e ld hld ha
  have hinv := hT.inv
  have hpos : ld.weighted = true → 0 < ld.getW e.actor := fun hw => by
    rw [h2, hT.getD_weight _ hTa, if_pos hw] at hr
    exact lt_of_le_of_ne (hinv.nonneg hw _ ha) fun h0 => by rw [← h0] at hr; simp at hr
  obtain ⟨K, hK⟩ := ld.defect_small hinv e.actor ha hpos ε hε
  exact ⟨K, fun k hk => by unfold stepDefect; rw [hld]; exact hK k hk⟩

/-! ### `Gillespie_simple_contagion` as an instance of `TrajLaw` -/

omit [DecidableEq σ] in
def chain (P : SCParams σ) : TrajLaw.Chain (Node → σ) SCEvent :=
  { enabled := Spec.events P, rate := fun _ => Spec.evRate P, apply := Spec.apply P }

/-- one iteration of `Simple.loop` (event times recorded as 0) -/
def model (P : SCParams σ) : TrajLaw.Model (SCState σ) SCEvent :=
  { halted := halted P, decHalted := fun _ => inferInstance, select := fun k s => pickDist P s k,
    step := fun s e => applyEvent P s e 0, clock := totalRate P, en := Enabled, decEn := fun _ _ => inferInstance,
    factor := fun k s e => stepFactor s k e, defect := fun k s e => stepDefect s k e }

theorem chain_total (P : SCParams σ) (st : Node → σ) : (chain P).total st = specTotal P st := sum_rates P st

theorem chain_wf (P : SCParams σ) (h : WF P) : (chain P).WF :=
  ⟨events_nodup P h, fun _ e _ => evRate_nonneg P h e⟩

theorem jumpDist_eq (P : SCParams σ) (n : Nat) (st : Node → σ) : Spec.jumpDist P n st = (chain P).jump n st := by
  induction n generalizing st with
  | zero => rfl
  | succ n ih => simp only [Spec.jumpDist, TrajLaw.Chain.jump, ih, chain_total]; rfl

theorem spec_applyHist_eq (P : SCParams σ) (st : Node → σ) (hist : List (SCEvent × Rat)) :
    Spec.applyHist P st hist = (chain P).applyHist st hist := by
  induction hist generalizing st with
  | nil => rfl
  | cons a t ih => exact ih _

theorem legal_iff (P : SCParams σ) (st : Node → σ) (hist : List (SCEvent × Rat)) :
    Spec.Legal P st hist ↔ (chain P).Legal st hist := by
  induction hist generalizing st with
  | nil => exact Iff.rfl
  | cons a t ih =>
    simp only [Spec.Legal, TrajLaw.Chain.Legal, chain_total, ih]
    exact and_congr_left' (mem_events P st a.1).symm

theorem trajDist_eq (P : SCParams σ) (k n : Nat) (s : SCState σ) : trajDist P k n s = (model P).traj k n s := by
  induction n generalizing s with
  | zero => rfl
  | succ n ih =>
    rw [trajDist, TrajLaw.Model.traj]
    refine if_congr Iff.rfl rfl (congrArg _ (funext fun o => ?_))
    cases o with
    | none => rfl
    | some e =>
      simp only [model]
      cases applyEvent P s e 0 with
      | none => rfl
      | some s' => exact congrArg _ (ih s')

theorem accProd_eq (P : SCParams σ) (k : Nat) (s : SCState σ) (hist : List (SCEvent × Rat)) :
    accProd P k s hist = (model P).accProd k s hist := by
  induction hist generalizing s with
  | nil => rfl
  | cons a t ih =>
    simp only [accProd, TrajLaw.Model.accProd, ih, model]
    refine if_congr Iff.rfl ?_ rfl
    cases applyEvent P s a.1 0 <;> rfl

theorem defectSum_eq (P : SCParams σ) (k : Nat) (s : SCState σ) (hist : List (SCEvent × Rat)) :
    defectSum P k s hist = (model P).defectSum k s hist := by
  induction hist generalizing s with
  | nil => rfl
  | cons a t ih =>
    simp only [defectSum, TrajLaw.Model.defectSum, ih, model]
    refine if_congr Iff.rfl ?_ rfl
    cases applyEvent P s a.1 0 <;> rfl

theorem applyHist_eq (P : SCParams σ) (s : SCState σ) (hist : List (SCEvent × Rat)) :
    applyHist P s hist = (model P).applyHist s hist := by
  induction hist generalizing s with
  | nil => rfl
  | cons a t ih =>
    simp only [applyHist, TrajLaw.Model.applyHist, ih, model]
    cases applyEvent P s a.1 0 <;> rfl

/-- C03 (`Proofs/Simple2.lean`) says that the loop follows the chain: stop test, clock, jump law, state change; the
selection law needs one round of the sampler (`0 < k`) -/
theorem sim (P : SCParams σ) (h : WF P) : TrajLaw.Sim (chain P) (model P) (Inv P) (·.status) (fun k => 0 < k) where
  wf := chain_wf P h
  kOK_pos := fun _ hk => hk
  halted_iff := fun s hs => by rw [chain_total]; exact halted_iff P h s hs
  clock_eq := fun s hs => by rw [chain_total]; exact clock_eq' P h s hs
  select_en := fun k s e hk hs _ he => ⟨(enabled_iff_chain P s hs e).1 he, by
    rw [chain_total]; exact jump_law_event P h s hs e he k hk⟩
  select_not := fun k s e hs he => ⟨jump_law_support P s k e he, fun hc =>
    absurd ((enabled_iff_chain P s hs e).2 hc) he⟩
  step_en := fun s e hs he => applyEvent_spec P h s hs e 0 he
  factor_eq := fun k s e => stepFactor_eq s k e
  defect_unit := fun k s e hs _ => stepDefect_unit P s hs k e
  defect_small := fun s e hs he hr => stepDefect_small P s hs e he hr

/-- **trajectory law**: mass of a history under the model's `n`-event law = its mass under the jump chain × the
product of the acceptance factors of the lists used along it -/
theorem traj_law (P : SCParams σ) (h : WF P) (k : Nat) (hk : 0 < k) (n : Nat) (s : SCState σ) (hs : Inv P s)
    (hist : List (SCEvent × Rat)) :
    mass (trajDist P k n s) (fun y => y == hist) =
      mass (Spec.jumpDist P n s.status) (fun y => y == hist) * accProd P k s hist := by
  rw [trajDist_eq, jumpDist_eq, accProd_eq]
  exact TrajLaw.traj_law (sim P h) k hk n s hs hist

/-! ### recorded times do not influence the law -/

/-- the part of the state that selection and bookkeeping read: everything except the recorded times and the log -/
def Core (a b : SCState σ) : Prop := a.status = b.status ∧ a.ptS = b.ptS ∧ a.ptI = b.ptI ∧ a.data = b.data

omit [DecidableEq σ] in
theorem core_refl (a : SCState σ) : Core a a := ⟨rfl, rfl, rfl, rfl⟩

theorem applyEvent_coreT (P : SCParams σ) (a b : SCState σ) (hc : Core a b) (e : SCEvent) (t t' : Rat) :
    match applyEvent P a e t, applyEvent P b e t' with
    | some a', some b' => Core a' b'
    | none, none => True
    | _, _ => False := by
  rcases a with ⟨st, ps, pi, tm, dt, lg⟩
  rcases b with ⟨st', ps', pi', tm', dt', lg'⟩
  obtain ⟨h1, h2, h3, h4⟩ := hc
  dsimp only at h1 h2 h3 h4
  subst h1 h2 h3 h4
  unfold applyEvent
  simp only [Option.bind_eq_bind, Option.pure_def]
  cases decode P e with
  | none => trivial
  | some q =>
    obtain ⟨src, m, old, new⟩ := q
    simp only [Option.bind_some]
    cases mapPT P.spont ps (updSpontOne old new m) with
    | none => trivial
    | some ps1 =>
      simp only [Option.bind_some]
      cases mapPT P.ind pi (updIndOne P (fset st m new) old new m) with
      | none => trivial
      | some pi1 => exact ⟨rfl, rfl, rfl, rfl⟩

def trajDistT (P : SCParams σ) (k : Nat) : List Rat → SCState σ → Dist (List (SCEvent × Rat))
  | [], _ => Dist.pure []
  | t :: ts, s =>
    if halted P s then Dist.pure []
    else
      Dist.bind (pickDist P s k) fun o =>
        match o with
        | none => []
        | some e =>
          match applyEvent P s e t with
          | none => []
          | some s' => Dist.push (fun h => (e, totalRate P s) :: h) (trajDistT P k ts s')

theorem trajDistT_gen (P : SCParams σ) (k : Nat) (ts : List Rat) (s : SCState σ) :
    trajDistT P k ts s = (model P).trajT (applyEvent P) k ts s := by
  induction ts generalizing s with
  | nil => rfl
  | cons t ts ih =>
    rw [trajDistT, TrajLaw.Model.trajT]
    refine if_congr Iff.rfl rfl (congrArg _ (funext fun o => ?_))
    cases o with
    | none => rfl
    | some e =>
      simp only [model]
      cases applyEvent P s e t with
      | none => rfl
      | some s' => exact congrArg _ (ih s')

theorem trajDistT_eq' (P : SCParams σ) (k : Nat) (ts : List Rat) (a b : SCState σ) (hc : Core a b) :
    trajDistT P k ts a = trajDist P k ts.length b := by
  rw [trajDistT_gen, trajDist_eq]
  -- stop test, selection and clock read the candidate lists only
  refine (model P).trajT_eq (applyEvent P) Core k (fun a b hc => ?_) (fun a b hc e t => ?_) ts a b hc
  swap
  · have := applyEvent_coreT P a b hc e t 0
    revert this
    simp only [model]
    cases applyEvent P a e t <;> cases applyEvent P b e 0 <;> exact id
  obtain ⟨-, c2, c3, -⟩ := hc
  have e0 : rateList P a = rateList P b := by unfold rateList; rw [c2, c3]
  have e1 : totalRate P a = totalRate P b := by unfold totalRate; rw [e0]
  exact ⟨by simp only [model, halted, e1], by simp only [model, pickDist, idxDist, e0, e1, c2, c3], e1⟩

/-! ### `pickIdx` returns `i` exactly on the `i`-th cumulative-share interval -/

theorem take_sum_mono (l : List Rat) (hn : ∀ x ∈ l, 0 ≤ x) (i j : Nat) (hij : i ≤ j) :
    sumRat (l.take i) ≤ sumRat (l.take j) := by
  induction l generalizing i j with
  | nil => simp
  | cons a t ih =>
    cases i with
    | zero =>
      have := sumRat_map_nonneg ((a :: t).take j) id (fun c hc => hn c (List.mem_of_mem_take hc))
      simpa using this
    | succ i =>
      cases j with
      | zero => omega
      | succ j =>
        simp only [List.take_succ_cons, sumRat_cons]
        have := ih (fun x hx => hn x (by simp [hx])) i j (by omega)
        linarith

theorem pickIdx_eq_iff (shares : List Rat) (hn : ∀ x ∈ shares, 0 ≤ x) (r : Rat) (h0 : 0 ≤ r)
    (hr : r < sumRat shares) (i : Nat) :
    pickIdx shares r = i ↔
      (i < shares.length ∧ sumRat (shares.take i) ≤ r ∧ r < sumRat (shares.take (i + 1))) := by
  obtain ⟨p1, p2, p3⟩ := pickIdx_interval' shares hn r h0 hr
  constructor
  · rintro rfl; exact ⟨p1, p2, p3⟩
  · rintro ⟨_, q2, q3⟩
    by_contra hne
    rcases Nat.lt_or_gt_of_ne hne with hlt | hgt
    · have := take_sum_mono shares hn (pickIdx shares r + 1) i hlt
      linarith
    · have := take_sum_mono shares hn (i + 1) (pickIdx shares r) hgt
      linarith

theorem rateList_nonneg (P : SCParams σ) (h : WF P) (s : SCState σ) (hs : Inv P s) :
    ∀ x ∈ rateList P s, 0 ≤ x := by
  intro x hx
  unfold rateList at hx
  rcases List.mem_append.1 hx with hx | hx
  · obtain ⟨i, hi⟩ := List.mem_iff_getElem?.1 hx
    obtain ⟨tr, ld, h1, h2, rfl⟩ := List.getElem?_zipWith_eq_some.1 hi
    exact mul_nonneg (h.rate_nonneg.1 tr (List.mem_of_getElem? h1)) (ld.totalWeight_nonneg (hs.spont i tr ld h1 h2).1)
  · obtain ⟨i, hi⟩ := List.mem_iff_getElem?.1 hx
    obtain ⟨tr, ld, h1, h2, rfl⟩ := List.getElem?_zipWith_eq_some.1 hi
    exact mul_nonneg (h.rate_nonneg.2 tr (List.mem_of_getElem? h1)) (ld.totalWeight_nonneg (hs.ind i tr ld h1 h2).1)

end Simple
