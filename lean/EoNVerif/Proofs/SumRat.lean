import EoNVerif.Basic
import EoNVerif.Rand.Dist
import Mathlib.Tactic.Ring
import Mathlib.Tactic.Linarith
import Mathlib.Algebra.Order.Field.Rat
import Mathlib.Algebra.BigOperators.Group.Finset.Basic
/-!
Sums of rationals over lists (`sumRat`, as the models write them), the rule for loops that accumulate (`foldl_acc`) and
the algebra of `Dist.mass`: what every file that adds up rates, weights or probabilities rests on.
-/

/-! ### sums -/

theorem sumRat_append (l m : List Rat) : sumRat (l ++ m) = sumRat l + sumRat m := by
  induction l with
  | nil => simp
  | cons a t ih => simp [ih]; ring

theorem sumRat_perm {l m : List Rat} (h : l.Perm m) : sumRat l = sumRat m := by
  induction h with
  | nil => rfl
  | cons a _ ih => simp [ih]
  | swap a b l => simp; ring
  | trans _ _ ih1 ih2 => exact ih1.trans ih2

theorem sumRat_map_congr {γ : Type} (l : List γ) (f g : γ → Rat) (h : ∀ c ∈ l, f c = g c) :
    sumRat (l.map f) = sumRat (l.map g) := by
  induction l with
  | nil => rfl
  | cons a t ih =>
    simp only [List.map_cons, sumRat_cons]
    rw [h a (by simp), ih (fun c hc => h c (by simp [hc]))]

theorem sumRat_map_add {γ : Type} (l : List γ) (f g : γ → Rat) :
    sumRat (l.map fun c => f c + g c) = sumRat (l.map f) + sumRat (l.map g) := by
  induction l with
  | nil => simp
  | cons a t ih => simp [ih]; ring

theorem sumRat_map_mul_right {γ : Type} (l : List γ) (f : γ → Rat) (c : Rat) :
    sumRat (l.map fun i => f i * c) = sumRat (l.map f) * c := by
  induction l with
  | nil => simp
  | cons a t ih => simp [ih]; ring

theorem sumRat_map_mul_left {γ : Type} (l : List γ) (f : γ → Rat) (c : Rat) :
    sumRat (l.map fun i => c * f i) = c * sumRat (l.map f) := by
  induction l with
  | nil => simp
  | cons a t ih => simp [ih]; ring

theorem sumRat_map_const {γ : Type} (l : List γ) (c : Rat) :
    sumRat (l.map fun _ => c) = (l.length : Rat) * c := by
  induction l with
  | nil => simp
  | cons a t ih =>
    simp only [List.map_cons, sumRat_cons, ih, List.length_cons, Nat.cast_succ]; ring

theorem sumRat_map_zero {γ : Type} (l : List γ) (f : γ → Rat) (h : ∀ c ∈ l, f c = 0) :
    sumRat (l.map f) = 0 := by
  rw [sumRat_map_congr l f (fun _ => 0) h, sumRat_map_const]; ring

theorem sumRat_map_le {γ : Type} (l : List γ) (f g : γ → Rat) (h : ∀ c ∈ l, f c ≤ g c) :
    sumRat (l.map f) ≤ sumRat (l.map g) := by
  induction l with
  | nil => simp
  | cons a t ih =>
    simp only [List.map_cons, sumRat_cons]
    have h1 := h a (by simp)
    have h2 := ih (fun c hc => h c (by simp [hc]))
    linarith

theorem sumRat_map_nonneg {γ : Type} (l : List γ) (f : γ → Rat) (h : ∀ c ∈ l, 0 ≤ f c) :
    0 ≤ sumRat (l.map f) :=
  sumRat_map_zero l (fun _ => 0) (fun _ _ => rfl) ▸ sumRat_map_le l (fun _ => 0) f h

theorem sumRat_map_pos {γ : Type} (l : List γ) (f : γ → Rat) (hne : l ≠ []) (h : ∀ c ∈ l, 0 < f c) :
    0 < sumRat (l.map f) := by
  induction l with
  | nil => exact absurd rfl hne
  | cons a t ih =>
    rw [List.map_cons, sumRat_cons]
    have ha := h a List.mem_cons_self
    have ht : 0 ≤ sumRat (t.map f) :=
      sumRat_map_nonneg _ _ fun c hc => le_of_lt (h c (List.mem_cons_of_mem _ hc))
    linarith

theorem sumRat_indicator {γ : Type} [DecidableEq γ] (l : List γ) (x : γ) (f : γ → Rat)
    (hn : l.Nodup) (hx : x ∈ l) :
    sumRat (l.map fun c => f c * (if c = x then 1 else 0)) = f x := by
  induction l with
  | nil => simp at hx
  | cons a t ih =>
    simp only [List.map_cons, sumRat_cons]
    rw [List.nodup_cons] at hn
    by_cases ha : a = x
    · subst ha
      rw [sumRat_map_zero]
      · simp
      · intro c hc
        have : c ≠ a := fun h => hn.1 (h ▸ hc)
        simp [this]
    · have hx' : x ∈ t := by
        rcases List.mem_cons.1 hx with h | h
        · exact absurd h.symm ha
        · exact h
      rw [ih hn.2 hx']; simp [ha]

theorem sumRat_map_neg {γ : Type} (l : List γ) (f : γ → Rat) :
    sumRat (l.map fun c => -f c) = -sumRat (l.map f) := by
  induction l with
  | nil => simp
  | cons a t ih => simp [ih]; ring

theorem sumRat_skip (l : List Nat) (s : Nat) (f : Nat → Rat) :
    sumRat (l.map fun w => if w = s then 0 else f w) = sumRat ((l.filter fun w => w ≠ s).map f) := by
  induction l with
  | nil => simp
  | cons a t ih =>
    by_cases h : a = s
    · simp [h, ih]
    · simp [h, ih]

theorem sumRat_guard (l : List Nat) (c : Prop) [Decidable c] (f : Nat → Rat) :
    sumRat (l.map fun v => if c then f v else 0) = if c then sumRat (l.map f) else 0 := by
  by_cases h : c
  · simp [h]
  · simp only [h, if_false]; exact sumRat_map_zero _ _ (fun _ _ => rfl)

theorem sumRat_pick (l : List Nat) (x : Nat) (f : Nat → Rat) (hn : l.Nodup) :
    sumRat (l.map fun v => if x = v then f v else 0) = if x ∈ l then f x else 0 := by
  by_cases hx : x ∈ l
  · rw [if_pos hx, ← sumRat_indicator l x f hn hx]
    refine sumRat_map_congr _ _ _ fun c _ => ?_
    by_cases h : c = x
    · subst h; simp
    · have : ¬ x = c := fun e => h e.symm
      simp [h, this]
  · rw [if_neg hx]
    exact sumRat_map_zero _ _ fun c hc => if_neg fun h => hx (by rw [h]; exact hc)

theorem sumRat_pick_range (N x : Nat) (f : Nat → Rat) :
    sumRat ((List.range N).map fun v => if x = v then f v else 0) = if x < N then f x else 0 := by
  rw [sumRat_pick _ _ _ List.nodup_range]; simp

theorem exists_pos_of_sumRat_pos {γ : Type} (l : List γ) (f : γ → Rat) (h : 0 < sumRat (l.map f)) :
    ∃ c ∈ l, 0 < f c := by
  induction l with
  | nil => simp at h
  | cons a t ih =>
    simp only [List.map_cons, sumRat_cons] at h
    by_cases ha : 0 < f a
    · exact ⟨a, by simp, ha⟩
    · have : 0 < sumRat (t.map f) := by linarith
      obtain ⟨c, hc, hp⟩ := ih this
      exact ⟨c, by simp [hc], hp⟩

theorem sumRat_ge_mem {γ : Type} (l : List γ) (f : γ → Rat) (hf : ∀ c ∈ l, 0 ≤ f c) (x : γ) (hx : x ∈ l) :
    f x ≤ sumRat (l.map f) := by
  induction l with
  | nil => simp at hx
  | cons a t ih =>
    simp only [List.map_cons, sumRat_cons]
    have ha := hf a (by simp)
    have ht := sumRat_map_nonneg t f (fun c hc => hf c (by simp [hc]))
    rcases List.mem_cons.1 hx with rfl | hx'
    · linarith
    · have := ih (fun c hc => hf c (by simp [hc])) hx'
      linarith

theorem sumRat_filter_split {γ : Type} (l : List γ) (p : γ → Bool) (f : γ → Rat) :
    sumRat (l.map f) = sumRat ((l.filter p).map f) + sumRat ((l.filter fun c => !p c).map f) := by
  induction l with
  | nil => simp
  | cons a t ih =>
    rw [List.map_cons, sumRat_cons, ih]
    cases hp : p a
    · simp only [List.filter_cons, hp, Bool.not_false, Bool.false_eq_true, if_false, if_true, List.map_cons,
        sumRat_cons]
      exact add_left_comm _ _ _
    · simp only [List.filter_cons, hp, Bool.not_true, Bool.false_eq_true, if_false, if_true, List.map_cons,
        sumRat_cons]
      exact (add_assoc _ _ _).symm

theorem sumRat_pos_of_mem {γ : Type} (l : List γ) (f : γ → Rat) (hnn : ∀ c ∈ l, 0 ≤ f c)
    (x : γ) (hx : x ∈ l) (hp : 0 < f x) : 0 < sumRat (l.map f) :=
  lt_of_lt_of_le hp (sumRat_ge_mem l f hnn x hx)

theorem sumRat_range_getElem? {γ : Type} (l : List γ) (F : Option γ → Rat) :
    sumRat ((List.range l.length).map fun i => F l[i]?) = sumRat (l.map fun c => F (some c)) := by
  congr 1
  apply List.ext_getElem
  · simp
  · intro i h1 h2
    simp at h1
    simp [List.getElem?_eq_getElem h1]

theorem sumRat_eq_sum (l : List Rat) : sumRat l = l.sum := by
  induction l with
  | nil => rfl
  | cons a t ih => rw [sumRat_cons, List.sum_cons, ih]

theorem sumRat_cast_nat (l : List Nat) : sumRat (l.map fun k => ((k : Nat) : Rat)) = ((l.sum : Nat) : Rat) := by
  induction l with
  | nil => simp
  | cons a t ih => simp [ih]

theorem sumRat_range_eq_sum (n : Nat) (f : Nat → Rat) :
    sumRat ((List.range n).map f) = ∑ i ∈ Finset.range n, f i := by
  induction n with
  | zero => simp
  | succ n ih => rw [List.range_succ, List.map_append, sumRat_append, ih, Finset.sum_range_succ]; simp

/-- the rule for `for v in l: x += f v`: a part `p` of the loop state that every iteration increases by `f v` ends at
its initial value plus the sum of the increments, whatever else the loop body does -/
theorem foldl_acc {σ α M : Type} [AddCommMonoid M] (p : σ → M) (step : σ → α → σ) (f : α → M) (l : List α)
    (h : ∀ s, ∀ v ∈ l, p (step s v) = p s + f v) (s0 : σ) :
    p (l.foldl step s0) = p s0 + (l.map f).sum := by
  induction l generalizing s0 with
  | nil => simp
  | cons a t ih =>
    rw [List.foldl_cons, ih (fun s v hv => h s v (List.mem_cons_of_mem _ hv)), h s0 a List.mem_cons_self,
      List.map_cons, List.sum_cons, add_assoc]

theorem foldl_acc_sumRat {σ α : Type} (p : σ → Rat) (step : σ → α → σ) (f : α → Rat) (l : List α)
    (h : ∀ s, ∀ v ∈ l, p (step s v) = p s + f v) (s0 : σ) :
    p (l.foldl step s0) = p s0 + sumRat (l.map f) := by
  rw [foldl_acc p step f l h s0, sumRat_eq_sum]

/-! ### finite distributions -/
namespace Dist
variable {α β : Type}

theorem mass_nil (P : α → Bool) : mass ([] : Dist α) P = 0 := rfl

theorem mass_cons (a : α) (p : Rat) (d : Dist α) (P : α → Bool) :
    mass ((a, p) :: d) P = (if P a then p else 0) + mass d P := rfl

theorem mass_append (d e : Dist α) (P : α → Bool) : mass (d ++ e) P = mass d P + mass e P := by
  simp [mass, sumRat_append]

theorem mass_scale (d : Dist β) (p : Rat) (P : β → Bool) :
    mass (d.map fun (b, q) => (b, p * q)) P = p * mass d P := by
  induction d with
  | nil => simp [mass]
  | cons x xs ih =>
    obtain ⟨b, q⟩ := x
    simp only [List.map_cons, mass_cons, ih]
    split
    · ring
    · ring

theorem bind_cons (a : α) (p : Rat) (xs : Dist α) (f : α → Dist β) :
    Dist.bind ((a, p) :: xs) f = ((f a).map fun (b, q) => (b, p * q)) ++ Dist.bind xs f := by
  simp [Dist.bind]

theorem mass_bind (d : Dist α) (f : α → Dist β) (P : β → Bool) :
    mass (Dist.bind d f) P = sumRat (d.map fun (a, p) => p * mass (f a) P) := by
  induction d with
  | nil => simp [Dist.bind, mass]
  | cons x xs ih =>
    obtain ⟨a, p⟩ := x
    rw [bind_cons, mass_append, mass_scale, ih]; simp

theorem mass_pure (a : α) (P : α → Bool) : mass (Dist.pure a) P = if P a then 1 else 0 := by
  simp [Dist.pure, mass]

theorem mass_bern_bind (p : Rat) (f : Bool → Dist β) (P : β → Bool) :
    mass (Dist.bind (bern p) f) P = p * mass (f true) P + (1 - p) * mass (f false) P := by
  rw [mass_bind]; simp [bern]

theorem mass_uniformIdx_bind (n : Nat) (f : Nat → Dist β) (P : β → Bool) :
    mass (Dist.bind (uniformIdx n) f) P
      = sumRat ((List.range n).map fun i => (1 / (n : Rat)) * mass (f i) P) := by
  rw [mass_bind]; simp [uniformIdx, List.map_map, Function.comp_def]

theorem mass_push (g : α → β) (d : Dist α) (Q : β → Bool) :
    mass (Dist.push g d) Q = mass d (fun a => Q (g a)) := by
  induction d with
  | nil => rfl
  | cons x xs ih =>
    obtain ⟨a, p⟩ := x
    have : Dist.push g ((a, p) :: xs) = (g a, p) :: Dist.push g xs := rfl
    rw [this, mass_cons, mass_cons, ih]

theorem mass_false (d : Dist α) : mass d (fun _ => false) = 0 := by
  induction d with
  | nil => rfl
  | cons x xs ih =>
    obtain ⟨a, p⟩ := x
    rw [mass_cons, ih]; simp


def NonNeg (d : Dist α) : Prop := ∀ x ∈ d, 0 ≤ x.2

theorem mass_nonneg (d : Dist α) (h : NonNeg d) (Q : α → Bool) : 0 ≤ mass d Q := by
  unfold mass
  apply sumRat_map_nonneg
  intro x hx
  obtain ⟨a, p⟩ := x
  have := h _ hx
  dsimp only at this ⊢
  split <;> simp [this]

theorem mass_eq_zero (d : Dist α) (Q : α → Bool) (h : ∀ x ∈ d, Q x.1 = false) : mass d Q = 0 := by
  induction d with
  | nil => rfl
  | cons x xs ih =>
    obtain ⟨a, q⟩ := x
    rw [mass_cons, ih (fun y hy => h y (List.mem_cons_of_mem _ hy))]
    have := h (a, q) List.mem_cons_self
    simp only at this
    simp [this]

theorem mass_congr (d : Dist α) (Q R : α → Bool) (h : ∀ x ∈ d, Q x.1 = R x.1) : mass d Q = mass d R := by
  induction d with
  | nil => rfl
  | cons x xs ih =>
    obtain ⟨a, q⟩ := x
    rw [mass_cons, mass_cons, ih (fun y hy => h y (List.mem_cons_of_mem _ hy))]
    have := h (a, q) List.mem_cons_self
    simp only at this
    rw [this]

theorem nonneg_pure (a : α) : NonNeg (Dist.pure a) := by
  intro x hx
  simp only [Dist.pure, List.mem_singleton] at hx
  subst hx; exact zero_le_one

theorem nonneg_nil : NonNeg ([] : Dist α) := by intro x hx; simp at hx

theorem nonneg_push (g : α → β) (d : Dist α) (h : NonNeg d) : NonNeg (Dist.push g d) := by
  intro x hx
  obtain ⟨y, hy, rfl⟩ := List.mem_map.1 hx
  exact h y hy

theorem nonneg_bind (d : Dist α) (f : α → Dist β) (h : NonNeg d) (hf : ∀ x ∈ d, NonNeg (f x.1)) :
    NonNeg (Dist.bind d f) := by
  intro x hx
  simp only [Dist.bind, List.mem_flatMap, List.mem_map] at hx
  obtain ⟨⟨a, p⟩, hy, ⟨b, q⟩, hz, rfl⟩ := hx
  exact mul_nonneg (h _ hy) (hf _ hy _ hz)

theorem mass_bind_indicator (d : Dist α) (f : α → Dist β) (Q : β → Bool) (R : α → Bool) (c : Rat)
    (hf : ∀ x ∈ d, mass (f x.1) Q = if R x.1 then c else 0) :
    mass (Dist.bind d f) Q = mass d R * c := by
  rw [mass_bind]
  induction d with
  | nil => simp [mass]
  | cons x xs ih =>
    obtain ⟨a, p⟩ := x
    have h1 := hf (a, p) (by simp)
    dsimp only at h1
    rw [mass_cons, List.map_cons, sumRat_cons, ih (fun y hy => hf y (by simp [hy]))]
    dsimp only
    rw [h1]
    split <;> ring

theorem mass_bind_zero (d : Dist α) (f : α → Dist β) (Q : β → Bool)
    (hf : ∀ x ∈ d, mass (f x.1) Q = 0) : mass (Dist.bind d f) Q = 0 := by
  have := mass_bind_indicator d f Q (fun _ => false) 0 (by intro x hx; simp [hf x hx])
  rw [this]; ring

theorem mass_map_point {γ : Type} [DecidableEq γ] (l : List γ) (w : γ → Rat) (x : γ) (hn : l.Nodup) :
    mass (l.map fun e => (e, w e)) (fun e => decide (e = x)) = if x ∈ l then w x else 0 := by
  unfold mass
  rw [List.map_map]
  by_cases hx : x ∈ l
  · rw [if_pos hx, ← sumRat_indicator l x w hn hx]
    apply sumRat_map_congr
    intro c _
    by_cases hc : c = x <;> simp [hc]
  · rw [if_neg hx]
    apply sumRat_map_zero
    intro c hc
    have : c ≠ x := fun h => hx (h ▸ hc)
    simp [this]

variable {γ : Type}

theorem bind_append (d e : Dist α) (f : α → Dist β) :
    Dist.bind (d ++ e) f = Dist.bind d f ++ Dist.bind e f := by
  simp [Dist.bind]

theorem mass_pure_bind (a : α) (f : α → Dist β) (P : β → Bool) :
    mass (Dist.bind (Dist.pure a) f) P = mass (f a) P := by
  rw [mass_bind]; simp [Dist.pure]

theorem mass_bind_scale (d : Dist α) (p : Rat) (g : α → Dist β) (P : β → Bool) :
    mass (Dist.bind (d.map fun (b, q) => (b, p * q)) g) P = p * mass (Dist.bind d g) P := by
  induction d with
  | nil => simp [Dist.bind, mass]
  | cons x xs ih =>
    obtain ⟨b, q⟩ := x
    simp only [List.map_cons]
    rw [bind_cons, bind_cons, mass_append, mass_append, ih, mass_scale, mass_scale]
    ring

theorem mass_bind_assoc (d : Dist α) (f : α → Dist β) (g : β → Dist γ) (P : γ → Bool) :
    mass (Dist.bind (Dist.bind d f) g) P = mass (Dist.bind d fun a => Dist.bind (f a) g) P := by
  induction d with
  | nil => simp [Dist.bind]
  | cons x xs ih =>
    obtain ⟨a, p⟩ := x
    rw [bind_cons, bind_cons, bind_append, mass_append, mass_append, ih, mass_bind_scale, mass_scale]

theorem mass_bind_congr (d : Dist α) (f g : α → Dist β) (P Q : β → Bool)
    (h : ∀ a, mass (f a) P = mass (g a) Q) :
    mass (Dist.bind d f) P = mass (Dist.bind d g) Q := by
  rw [mass_bind, mass_bind]
  apply sumRat_map_congr
  intro c _
  obtain ⟨a, p⟩ := c
  simp only
  rw [h a]

end Dist
