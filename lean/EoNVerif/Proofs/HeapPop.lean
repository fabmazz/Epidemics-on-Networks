import EoNVerif.Basic
import Mathlib.Algebra.Order.Field.Rat
/-!
`heapq.heappop` on the entries `(time, counter, tag)` of a `myQueue` object, as the generated code models it (a fold
that keeps the smaller entry in the order on `(time, counter)`), against a model queue that is a list in insertion
order: when the counters increase along the list, the fold takes out the first entry of minimal time.  Every generated
simulator has its own copy of the class `myQueue` and every model its own `pop`, so the tag type `ε`, the comparison
`bf` and the model's item type are parameters, and the popped model item is given by its position: `Rep.pop` concludes
`l = l1 ++ i :: l2` with `i` strictly earlier than all of `l1` and no later than any of `l2`, which are the hypotheses
of `EvQ.gpop_of_min` (`Proofs/EventQueue.lean`) about the models' own `pop`; the refinement proofs of the event-driven
simulators join the generated queue to the model's by this pair.
-/
namespace HeapPop

variable {ε : Type}

def tmE (e : ERat × Nat × ε) : Rat := e.1.getD 0

/-- what the generated `before` says about two entries with finite times -/
def IsBefore (bf : ERat × Nat × ε → ERat × Nat × ε → Bool) : Prop :=
  ∀ a b, a.1 = some (tmE a) → b.1 = some (tmE b) →
    (bf a b = true ↔ tmE a < tmE b ∨ (tmE a = tmE b ∧ a.2.1 < b.2.1))

/-- the tuple order on `(time, counter)`, as every generated copy of `myQueue` writes it -/
theorem isBefore_lex :
    IsBefore fun a b : ERat × Nat × ε => ERat.lt a.1 b.1 || (a.1 == b.1 && decide (a.2.1 < b.2.1)) := by
  intro a b ha hb
  show (ERat.lt a.1 b.1 || (a.1 == b.1 && decide (a.2.1 < b.2.1))) = true ↔ _
  rw [ha, hb]
  simp [ERat.lt]

/-- The fold over `xs`, started at `m` standing between `pre` and `post`, ends at the first entry of minimal time:
later entries have larger counters, so one of them replaces the current minimum only if its time is strictly smaller. -/
theorem foldl_min_spec {bf : ERat × Nat × ε → ERat × Nat × ε → Bool} (hbf : IsBefore bf) (xs : List (ERat × Nat × ε)) :
    ∀ (pre post : List (ERat × Nat × ε)) (m : ERat × Nat × ε),
      (∀ y ∈ pre, tmE m < tmE y) → (∀ y ∈ post, tmE m ≤ tmE y) →
      m.1 = some (tmE m) → (∀ y ∈ xs, y.1 = some (tmE y)) → (m :: xs).Pairwise (fun a b => a.2.1 < b.2.1) →
      ∃ a b, pre ++ m :: post ++ xs = a ++ (xs.foldl (fun m y => if bf y m then y else m) m) :: b ∧
        (∀ y ∈ a, tmE (xs.foldl (fun m y => if bf y m then y else m) m) < tmE y) ∧
        (∀ y ∈ b, tmE (xs.foldl (fun m y => if bf y m then y else m) m) ≤ tmE y) := by
  induction xs with
  | nil =>
    intro pre post m h1 h2 _ _ _
    exact ⟨pre, post, by simp, h1, h2⟩
  | cons y xs ih =>
    intro pre post m h1 h2 hm hfin hc
    have hy : y.1 = some (tmE y) := hfin y (by simp)
    have hfin' : ∀ z ∈ xs, z.1 = some (tmE z) := fun z hz => hfin z (by simp [hz])
    obtain ⟨hcm, hcy⟩ := List.pairwise_cons.1 hc
    rw [List.foldl_cons]
    by_cases hlt : tmE y < tmE m
    · rw [if_pos ((hbf y m hy hm).2 (Or.inl hlt))]
      obtain ⟨a, b, e1, e2, e3⟩ := ih (pre ++ m :: post) [] y
        (by
          intro z hz
          rcases List.mem_append.1 hz with hz | hz
          · exact lt_trans hlt (h1 z hz)
          · rcases List.mem_cons.1 hz with rfl | hz
            · exact hlt
            · exact lt_of_lt_of_le hlt (h2 z hz))
        (by simp) hy hfin' hcy
      exact ⟨a, b, by rw [← e1]; simp, e2, e3⟩
    · rw [if_neg (fun h => ((hbf y m hy hm).1 h).elim hlt (fun h' => absurd (hcm y (by simp)) (Nat.lt_asymm h'.2)))]
      obtain ⟨a, b, e1, e2, e3⟩ := ih pre (post ++ [y]) m h1
        (by
          intro z hz
          rcases List.mem_append.1 hz with hz | hz
          · exact h2 z hz
          · rw [List.mem_singleton.1 hz]; exact not_lt.1 hlt)
        hm hfin' (hc.sublist (by simp))
      exact ⟨a, b, by rw [← e1]; simp, e2, e3⟩

/-- The stored entries `q` (next counter `n`) represent the model list `l`: the same `(time, tag)` columns in
insertion order, increasing counters below `n`. -/
structure Rep {ι : Type} (tm : ι → Rat) (tag : ι → ε) (q : List (ERat × Nat × ε)) (n : Nat) (l : List ι) : Prop where
  ents : q.map (fun e => (e.1, e.2.2)) = l.map (fun i => (some (tm i), tag i))
  sorted : q.Pairwise (fun a b => a.2.1 < b.2.1)
  below : ∀ e ∈ q, e.2.1 < n

theorem Rep.nil_iff {ι : Type} {tm : ι → Rat} {tag : ι → ε} {q : List (ERat × Nat × ε)} {n : Nat} {l : List ι}
    (h : Rep tm tag q n l) : q = [] ↔ l = [] := by
  have := congrArg List.length h.ents
  rw [List.length_map, List.length_map] at this
  rw [← List.length_eq_zero_iff, ← List.length_eq_zero_iff (l := l), this]

theorem Rep.push {ι : Type} {tm : ι → Rat} {tag : ι → ε} {q : List (ERat × Nat × ε)} {n : Nat} {l : List ι}
    (h : Rep tm tag q n l) (i : ι) : Rep tm tag (q ++ [(some (tm i), n, tag i)]) (n + 1) (l ++ [i]) where
  ents := by rw [List.map_append, List.map_append, h.ents]; rfl
  sorted := List.pairwise_append.2 ⟨h.sorted, List.pairwise_singleton _ _,
    fun a ha b hb => by rw [List.mem_singleton.1 hb]; exact h.below a ha⟩
  below := fun e he => by
    rcases List.mem_append.1 he with he | he
    · exact Nat.lt_succ_of_lt (h.below e he)
    · rw [List.mem_singleton.1 he]; exact Nat.lt_succ_self n

/-- `heappop`: the entry found by the fold stands for the first model item of minimal time, and erasing it leaves a
representation of the model list without that item. -/
theorem Rep.pop {ι : Type} [BEq (ERat × Nat × ε)] [LawfulBEq (ERat × Nat × ε)]
    {bf : ERat × Nat × ε → ERat × Nat × ε → Bool} (hbf : IsBefore bf) {tm : ι → Rat} {tag : ι → ε}
    {x0 : ERat × Nat × ε} {xs : List (ERat × Nat × ε)} {n : Nat} {l : List ι} (h : Rep tm tag (x0 :: xs) n l) :
    ∃ i l1 l2 c, l = l1 ++ i :: l2 ∧ (∀ y ∈ l1, tm i < tm y) ∧ (∀ y ∈ l2, tm i ≤ tm y) ∧
      xs.foldl (fun m y => if bf y m then y else m) x0 = (some (tm i), c, tag i) ∧
      Rep tm tag ((x0 :: xs).erase (some (tm i), c, tag i)) n (l1 ++ l2) := by
  obtain ⟨hents, hsorted, hbelow⟩ := h
  have htm : ∀ (e : ERat × Nat × ε) (i : ι), (e.1, e.2.2) = (some (tm i), tag i) → e.1 = some (tmE e) ∧ tmE e = tm i := by
    intro e i h
    have h1 : e.1 = some (tm i) := congrArg Prod.fst h
    exact ⟨by rw [tmE, h1]; rfl, by rw [tmE, h1]; rfl⟩
  have hfin : ∀ e ∈ x0 :: xs, e.1 = some (tmE e) := by
    intro e he
    have : (e.1, e.2.2) ∈ l.map (fun i => (some (tm i), tag i)) := by
      rw [← hents]; exact List.mem_map.2 ⟨e, he, rfl⟩
    obtain ⟨i, _, hi⟩ := List.mem_map.1 this
    exact (htm e i hi.symm).1
  obtain ⟨a, b, e1, e2, e3⟩ := foldl_min_spec hbf xs [] [] x0 (by simp) (by simp) (hfin x0 (by simp))
    (fun y hy => hfin y (by simp [hy])) hsorted
  simp only [List.nil_append, List.cons_append] at e1
  generalize xs.foldl (fun m y => if bf y m then y else m) x0 = m at e1 e2 e3 ⊢
  rw [e1] at hents hsorted hbelow ⊢
  have hma : m ∉ a := fun h => Nat.lt_irrefl _ ((List.pairwise_append.1 hsorted).2.2 m h m (by simp))
  rw [List.map_append, List.map_cons] at hents
  obtain ⟨l1, lr, rfl, hl1, hlr⟩ := List.append_eq_map_iff.1 hents
  obtain ⟨i, l2, rfl, hi, hl2⟩ := List.map_eq_cons_iff.1 hlr
  obtain ⟨mt, mc, me⟩ := m
  have hmi := (htm _ i hi.symm).2
  simp only [Prod.mk.injEq] at hi
  obtain ⟨rfl, rfl⟩ := hi
  -- the time bounds of the fold carry over to the model list through the equal columns
  have hbound : ∀ (c : List (ERat × Nat × ε)) (k : List ι),
      k.map (fun i => ((some (tm i) : ERat), tag i)) = c.map (fun e => (e.1, e.2.2)) →
      ∀ y ∈ k, ∃ e ∈ c, tmE e = tm y := by
    intro c k hck y hy
    have : (some (tm y), tag y) ∈ c.map (fun e => (e.1, e.2.2)) := by rw [← hck]; exact List.mem_map.2 ⟨y, hy, rfl⟩
    obtain ⟨e, he, hey⟩ := List.mem_map.1 this
    exact ⟨e, he, (htm e y hey).2⟩
  refine ⟨i, l1, l2, mc, rfl, ?_, ?_, rfl, ?_, hsorted.sublist List.erase_sublist,
    fun e he => hbelow e (List.mem_of_mem_erase he)⟩
  · intro y hy
    obtain ⟨e, he, hey⟩ := hbound a l1 hl1 y hy
    rw [← hey, ← hmi]; exact e2 e he
  · intro y hy
    obtain ⟨e, he, hey⟩ := hbound b l2 hl2 y hy
    rw [← hey, ← hmi]; exact e3 e he
  · rw [List.erase_append_right _ hma, List.erase_cons_head, List.map_append, List.map_append, hl1, hl2]

end HeapPop
