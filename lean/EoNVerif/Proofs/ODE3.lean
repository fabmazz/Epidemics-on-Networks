import EoNVerif.Proofs.ODE2
import EoNVerif.Proofs.ODESemi
import Mathlib.Tactic.LinearCombination
/-!
Helper lemmas for C07b (reductions between the ODE models of `EoN.analytic`): single-class pair arrays (`only2`),
binomial moments in the `sumTo` form, and the change of variables EBCM → SIR compact effective degree (`Skappa`,
`dSkappa`) with the term-by-term identities behind its semiconjugacy.
-/
namespace ODE

/-! ## single-class pair arrays -/

/-- all pair mass in the degree-class pair `(m, m)` -/
def only2 (m : Nat) (x : Rat) : Nat → Nat → Rat := fun k l => if k = m ∧ l = m then x else 0

theorem only2_self (m : Nat) (x : Rat) : only2 m x m m = x := by simp [only2]

theorem only2_off (m : Nat) (x : Rat) (k l : Nat) (h : ¬ (k = m ∧ l = m)) : only2 m x k l = 0 := by
  simp only [only2, if_neg h]

theorem sumTo_only2_row (K m : Nat) (hm : m < K) (x : Rat) (k : Nat) :
    sumTo K (fun l => only2 m x k l) = only m x k := by
  by_cases hk : k = m
  · subst hk
    rw [sumTo_single K k hm _ (fun l hl => only2_off k x k l (fun h => hl h.2)), only2_self, only_self]
  · rw [sumTo_congr K _ (fun _ => 0) (fun l _ => only2_off m x k l (fun h => hk h.1)), sumTo_const_zero,
      only_off m x k hk]

/-! ## binomial moments -/
section Binomial
open Finset

/-- binomial weight `C(n,i) x^i y^(n-i)`; `bw_M0`, `bw_M1`, `bw_M2` are its zeroth, first and second factorial moments -/
def bw (x y : Rat) (n i : Nat) : Rat := (Nat.choose n i : Rat) * x ^ i * y ^ (n - i)

theorem bw_M0 (x y : Rat) (n : Nat) : ∑ i ∈ range (n + 1), bw x y n i = (x + y) ^ n := by
  rw [add_pow]
  apply sum_congr rfl; intro i _; unfold bw; ring

theorem bw_succ (x y : Rat) (n i : Nat) :
    ((i : Rat) + 1) * bw x y (n + 1) (i + 1) = ((n : Rat) + 1) * x * bw x y n i := by
  unfold bw
  have h : ((n + 1 : Nat) : Rat) * (Nat.choose n i : Rat) = (Nat.choose (n + 1) (i + 1) : Rat) * ((i + 1 : Nat) : Rat) := by
    exact_mod_cast Nat.add_one_mul_choose_eq n i
  push_cast at h
  rw [Nat.add_sub_add_right, pow_succ]
  linear_combination (-(x ^ i * x * y ^ (n - i))) * h

theorem bw_M1 (x y : Rat) (n : Nat) :
    ∑ i ∈ range (n + 1), (i : Rat) * bw x y n i = n * x * (x + y) ^ (n - 1) := by
  cases n with
  | zero => simp
  | succ n =>
    rw [sum_range_succ']
    simp only [Nat.cast_zero, zero_mul, add_zero, Nat.add_sub_cancel, Nat.cast_add, Nat.cast_one]
    rw [sum_congr rfl (fun i _ => bw_succ x y n i), ← mul_sum, bw_M0]

theorem bw_M2 (x y : Rat) (n : Nat) :
    ∑ i ∈ range (n + 1), ((i : Rat) * ((i : Rat) - 1)) * bw x y n i = n * ((n : Rat) - 1) * x ^ 2 * (x + y) ^ (n - 2) := by
  cases n with
  | zero => simp
  | succ n =>
    rw [sum_range_succ']
    simp only [Nat.cast_zero, zero_mul, add_zero, Nat.cast_add, Nat.cast_one]
    have e : ∀ i ∈ range (n + 1), (((i : Rat) + 1) * ((i : Rat) + 1 - 1)) * bw x y (n + 1) (i + 1)
        = (((n : Rat) + 1) * x) * ((i : Rat) * bw x y n i) := by
      intro i _
      linear_combination (i : Rat) * bw_succ x y n i
    rw [sum_congr rfl e, ← mul_sum, bw_M1, show n + 1 - 2 = n - 1 by omega]
    ring

theorem sumTo_mul_bw (K k : Nat) (hk : k < K) (w : Nat → Rat) (x y : Rat) :
    sumTo K (fun κ => w κ * bw x y k κ) = ∑ κ ∈ range (k + 1), w κ * bw x y k κ := by
  rw [sumTo_eq_sum]
  refine (sum_subset (fun κ hκ => ?_) (fun κ _ hκ => ?_)).symm
  · simp only [mem_range] at hκ ⊢; omega
  · simp only [mem_range, not_lt] at hκ
    simp [bw, Nat.choose_eq_zero_of_lt hκ]

end Binomial

theorem sumTo_binom (K k : Nat) (hk : k < K) (z r : Rat) :
    sumTo K (fun κ => (Nat.choose k κ : Rat) * z ^ κ * r ^ (k - κ)) = (z + r) ^ k := by
  have h := sumTo_mul_bw K k hk (fun _ => 1) z r
  simp only [one_mul] at h
  exact h.trans (bw_M0 z r k)

theorem sumTo_binom1 (K k : Nat) (hk : k < K) (z r : Rat) :
    sumTo K (fun κ => kf κ * ((Nat.choose k κ : Rat) * z ^ κ * r ^ (k - κ))) = kf k * z * (z + r) ^ (k - 1) :=
  (sumTo_mul_bw K k hk kf z r).trans (bw_M1 z r k)

theorem sumTo_binom2 (K k : Nat) (hk : k < K) (z r : Rat) :
    sumTo K (fun κ => kf κ * (kf κ - 1) * ((Nat.choose k κ : Rat) * z ^ κ * r ^ (k - κ)))
      = kf k * (kf k - 1) * z ^ 2 * (z + r) ^ (k - 2) :=
  (sumTo_mul_bw K k hk (fun κ => kf κ * (kf κ - 1)) z r).trans (bw_M2 z r k)

/-! ## EBCM → SIR compact effective degree: the change of variables -/
section CompactED
variable (K : Nat) (c : Nat → Rat) (N tau gamma phiS0 phiR0 : Rat)

/-- probability that a neighbour of a test node has not transmitted to it and is not recovered: `ζ = θ - φ_R = φ_S + φ_I` -/
def zetaOf (theta : Rat) : Rat := theta - phiR tau gamma phiR0 theta

/-- number of susceptible nodes with `κ` non-recovered neighbours, as a function of θ: a degree-`k` node is
susceptible with probability `θ^k`, and then each neighbour is independently non-recovered with probability `ζ/θ`
and recovered with probability `φ_R/θ`:  `S_κ = N Σ_k c_k C(k,κ) ζ^κ φ_R^(k-κ)` -/
def Skappa (theta : Rat) (κ : Nat) : Rat :=
  N * sumTo K (fun k => c k * ((Nat.choose k κ : Rat) * zetaOf tau gamma phiR0 theta ^ κ
                                * phiR tau gamma phiR0 theta ^ (k - κ)))

/-- the θ-derivative of `Skappa` (`dζ/dθ = 1 + γ/τ`, `dφ_R/dθ = -γ/τ`; justified by `Skappa_isDeriv`, Props/C07b.lean) -/
def dSkappa (theta : Rat) (κ : Nat) : Rat :=
  N * sumTo K (fun k => c k * ((Nat.choose k κ : Rat)
        * (kf κ * zetaOf tau gamma phiR0 theta ^ (κ - 1) * (1 + gamma / tau) * phiR tau gamma phiR0 theta ^ (k - κ)
           + zetaOf tau gamma phiR0 theta ^ κ
              * (kf (k - κ) * phiR tau gamma phiR0 theta ^ (k - κ - 1) * (-(gamma / tau))))))

theorem zeta_add_phiR (theta : Rat) : zetaOf tau gamma phiR0 theta + phiR tau gamma phiR0 theta = theta := by
  simp only [zetaOf]; ring

theorem sumTo_Skappa_weight (w : Nat → Rat) (theta : Rat) :
    sumTo K (fun κ => w κ * Skappa K c N tau gamma phiR0 theta κ)
      = N * sumTo K (fun k => c k * sumTo K (fun κ => w κ * ((Nat.choose k κ : Rat)
          * zetaOf tau gamma phiR0 theta ^ κ * phiR tau gamma phiR0 theta ^ (k - κ)))) := by
  have e1 : ∀ κ, κ < K → w κ * Skappa K c N tau gamma phiR0 theta κ
      = N * sumTo K (fun k => c k * (w κ * ((Nat.choose k κ : Rat)
          * zetaOf tau gamma phiR0 theta ^ κ * phiR tau gamma phiR0 theta ^ (k - κ)))) := by
    intro κ _
    unfold Skappa
    rw [← mul_assoc, mul_comm (w κ) N, mul_assoc, ← sumTo_mul_left]
    congr 1
    apply sumTo_congr; intro k _; ring
  rw [sumTo_congr K _ _ e1, sumTo_mul_left]
  congr 1
  have e2 := sum2_swap K K (fun κ k => c k * (w κ * ((Nat.choose k κ : Rat)
          * zetaOf tau gamma phiR0 theta ^ κ * phiR tau gamma phiR0 theta ^ (k - κ))))
  unfold sum2 at e2
  rw [e2]
  apply sumTo_congr; intro k _
  exact sumTo_mul_left K _ (c k)

/-- the term-by-term identity behind the `S_κ` equation (`ck = c_k`, `z = ζ`, `r = φ_R`, `pI = φ_I`) -/
theorem Skappa_term (k κ : Nat) (ck z r pI : Rat) (ht : tau ≠ 0) (hz : z ≠ 0) :
    pI / z * (-(tau + gamma) * kf κ * (ck * ((Nat.choose k κ : Rat) * z ^ κ * r ^ (k - κ)))
               + gamma * (kf (κ + 1) * (ck * ((Nat.choose k (κ + 1) : Rat) * z ^ (κ + 1) * r ^ (k - (κ + 1))))))
      = ck * ((Nat.choose k κ : Rat)
          * (kf κ * z ^ (κ - 1) * (1 + gamma / tau) * r ^ (k - κ)
             + z ^ κ * (kf (k - κ) * r ^ (k - κ - 1) * (-(gamma / tau))))) * (-tau * pI) := by
  -- Pascal: `C(k,κ+1)(κ+1) = C(k,κ)(k-κ)`; then only `z/z`, `τ/τ` and `κ z^(κ-1) z = κ z^κ` are used
  have hc : (Nat.choose k (κ + 1) : Rat) * kf (κ + 1) = (Nat.choose k κ : Rat) * kf (k - κ) := by
    simp only [kf]
    exact_mod_cast Nat.choose_succ_right_eq k κ
  have hκ := kf_pow_pred κ z
  have ez : z * z⁻¹ = 1 := mul_inv_cancel₀ hz
  have et : tau * tau⁻¹ = 1 := mul_inv_cancel₀ ht
  rw [Nat.sub_sub, pow_succ]
  linear_combination ((tau + gamma) * pI * ck * (Nat.choose k κ : Rat) * r ^ (k - κ) * z⁻¹) * hκ
    + (-(tau + gamma) * pI * ck * (Nat.choose k κ : Rat) * r ^ (k - κ) * kf κ * z ^ (κ - 1)
        + gamma * pI * ck * z ^ κ * r ^ (k - (κ + 1)) * (Nat.choose k κ : Rat) * kf (k - κ)) * ez
    + (gamma * pI * ck * (Nat.choose k κ : Rat) * r ^ (k - κ) * kf κ * z ^ (κ - 1)
        - gamma * pI * ck * z ^ κ * r ^ (k - (κ + 1)) * (Nat.choose k κ : Rat) * kf (k - κ)) * et
    + (gamma * pI * ck * z ^ κ * r ^ (k - (κ + 1)) * (z * z⁻¹)) * hc

theorem Skappa_top (theta : Rat) (κ : Nat) (hκ : K ≤ κ) : Skappa K c N tau gamma phiR0 theta κ = 0 := by
  unfold Skappa
  rw [sumTo_congr K _ (fun _ => 0), sumTo_const_zero, mul_zero]
  intro k hk
  rw [Nat.choose_eq_zero_of_lt (by omega)]
  simp

theorem sumTo_lin2 (a b d e M : Rat) (f g : Nat → Rat) :
    a * (b * (M * sumTo K f) + d * (e * (M * sumTo K g))) = M * sumTo K (fun k => a * (b * f k + d * (e * g k))) := by
  rw [sumTo_mul_left, sumTo_add, sumTo_mul_left, sumTo_mul_left, sumTo_mul_left]
  ring

/-- the `S_κ` equation of the compact effective-degree model holds along EBCM (`pI = φ_I`, `θ' = -τ φ_I`) -/
theorem Skappa_eq (theta pI : Rat) (κ : Nat) (ht : tau ≠ 0) (hz : zetaOf tau gamma phiR0 theta ≠ 0) :
    pI / zetaOf tau gamma phiR0 theta
        * (-(tau + gamma) * kf κ * Skappa K c N tau gamma phiR0 theta κ
           + gamma * (if κ + 1 < K then kf (κ + 1) * Skappa K c N tau gamma phiR0 theta (κ + 1) else 0))
      = dSkappa K c N tau gamma phiR0 theta κ * (-tau * pI) := by
  have hif : (if κ + 1 < K then kf (κ + 1) * Skappa K c N tau gamma phiR0 theta (κ + 1) else 0)
      = kf (κ + 1) * Skappa K c N tau gamma phiR0 theta (κ + 1) := by
    split
    · rfl
    · rw [Skappa_top K c N tau gamma phiR0 theta (κ + 1) (by omega), mul_zero]
  rw [hif]
  unfold Skappa dSkappa
  rw [sumTo_lin2, mul_assoc, ← sumTo_mul_right]
  congr 1
  apply sumTo_congr; intro k _
  exact Skappa_term tau gamma k κ (c k) _ _ pI ht hz

/-- `⟨I⟩ = [SI] / Σ_κ κ S_κ = φ_I / ζ` -/
theorem effI_eq (theta : Rat) (hN : N ≠ 0) (hz : zetaOf tau gamma phiR0 theta ≠ 0) (hp : psiHP K c theta ≠ 0) :
    SIof K c N tau gamma phiS0 phiR0 theta / (N * zetaOf tau gamma phiR0 theta * psiHP K c theta)
      = phiI K c tau gamma phiS0 phiR0 theta / zetaOf tau gamma phiR0 theta := by
  unfold SIof
  field_simp

/-! ### `φ_R`, `ζ` and `Skappa` as polynomials in θ -/
open Polynomial

/-- `φ_R(θ) = phiR0 + γ(1-θ)/τ` as a polynomial in θ -/
noncomputable def phiRPoly : ℚ[X] := C (phiR0 + gamma / tau) - C (gamma / tau) * X
noncomputable def zetaPoly : ℚ[X] := X - phiRPoly tau gamma phiR0
noncomputable def SkappaPoly (κ : Nat) : ℚ[X] :=
  C N * ((List.range K).map fun k => C (c k * (Nat.choose k κ : ℚ)) * zetaPoly tau gamma phiR0 ^ κ
                                        * phiRPoly tau gamma phiR0 ^ (k - κ)).sum

theorem phiRPoly_eval (theta : Rat) : (phiRPoly tau gamma phiR0).eval theta = phiR tau gamma phiR0 theta := by
  simp only [phiRPoly, phiR, eval_sub, eval_mul, eval_C, eval_X]
  ring

theorem zetaPoly_eval (theta : Rat) : (zetaPoly tau gamma phiR0).eval theta = zetaOf tau gamma phiR0 theta := by
  simp only [zetaPoly, zetaOf, eval_sub, eval_X, phiRPoly_eval]

theorem phiRPoly_deriv : derivative (phiRPoly tau gamma phiR0) = C (-(gamma / tau)) := by
  simp only [phiRPoly, derivative_sub, derivative_C, derivative_mul, derivative_X, zero_mul, zero_add, mul_one,
    zero_sub, C_neg]

theorem zetaPoly_deriv : derivative (zetaPoly tau gamma phiR0) = C (1 + gamma / tau) := by
  simp only [zetaPoly, derivative_sub, derivative_X, phiRPoly_deriv, C_neg, sub_neg_eq_add, C_add, C_1]

end CompactED

end ODE
