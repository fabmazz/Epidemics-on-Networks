import Mathlib.Tactic.Linarith
import Mathlib.Algebra.Order.Field.Rat
import Mathlib.Data.List.Basic
/-!
The queue of the event-driven simulators (`fast_nonMarkov_SIR`, `fast_nonMarkov_SIS` and its reference agenda, `fast_SIS`): a
list in insertion order.  `gpop` takes out the first entry of minimal time, for any item type with a time `tm`: the `pop` of
`EventSIS`, of its agenda and of `FastSIS` are instances, and so is `EventSIR.pop 0`, `heapq`'s choice (`EventSIR.pop sel` chooses
among the minimal entries).  Taking one entry out (`l1 ++ x :: l2` becomes `l1 ++ l2`) and what that does to
membership and counts.  At the end `TM.optLoop`, the loop of a pure model over such a queue.
-/
namespace EvQ

section Generic
variable {α : Type} (tm : α → Rat)

def gminTime : List α → Option Rat
  | [] => none
  | x :: xs => match gminTime xs with
    | none => some (tm x)
    | some m => some (if tm x ≤ m then tm x else m)

def gpop (q : List α) : Option (α × List α) :=
  match gminTime tm q with
  | none => none
  | some m =>
    match q.findIdx? (fun x => tm x == m) with
    | none => none
    | some i => match q[i]? with
      | some x => some (x, q.eraseIdx i)
      | none => none

/-- a model's own `minTime`, written by the same two equations, is `gminTime` -/
theorem gminTime_of_rec {mt : List α → Option Rat} (h0 : mt [] = none)
    (h1 : ∀ x xs, mt (x :: xs) = match mt xs with
      | none => some (tm x)
      | some m => some (if tm x ≤ m then tm x else m)) (q : List α) : mt q = gminTime tm q := by
  induction q with
  | nil => exact h0
  | cons x xs ih => rw [h1, ih]; rfl

theorem gminTime_none {q : List α} (h : gminTime tm q = none) : q = [] := by
  cases q with
  | nil => rfl
  | cons x xs => simp only [gminTime] at h; split at h <;> simp at h

theorem gminTime_spec {q : List α} {m : Rat} (h : gminTime tm q = some m) :
    (∃ x ∈ q, tm x = m) ∧ ∀ y ∈ q, m ≤ tm y := by
  induction q generalizing m with
  | nil => simp [gminTime] at h
  | cons x xs ih =>
    simp only [gminTime] at h
    split at h
    · rename_i h0
      have := gminTime_none tm h0
      subst this
      simp at h
      subst h
      simp
    · rename_i m' h0
      obtain ⟨⟨y, hy, hym⟩, hle⟩ := ih h0
      simp at h
      split at h
      · subst h
        refine ⟨⟨x, by simp, rfl⟩, ?_⟩
        intro z hz
        rcases List.mem_cons.1 hz with rfl | hz
        · exact le_refl _
        · exact le_trans ‹_› (hle z hz)
      · subst h
        refine ⟨⟨y, by simp [hy], hym⟩, ?_⟩
        intro z hz
        rcases List.mem_cons.1 hz with rfl | hz
        · linarith
        · exact hle z hz

theorem gpop_none {q : List α} (h : gpop tm q = none) : q = [] := by
  unfold gpop at h
  split at h
  · rename_i h0; exact gminTime_none tm h0
  · rename_i m h0
    obtain ⟨⟨x, hx, hxm⟩, _⟩ := gminTime_spec tm h0
    split at h
    · rename_i h1
      rw [List.findIdx?_eq_none_iff] at h1
      have := h1 x hx
      simp [hxm] at this
    · rename_i i h1
      have := List.findIdx?_eq_some_iff_getElem.1 h1
      obtain ⟨hi, _⟩ := this
      split at h
      · simp at h
      · rename_i h2
        simp at h2
        omega

theorem gpop_some {q : List α} {x : α} {q' : List α} (h : gpop tm q = some (x, q')) :
    ∃ l1 l2, q = l1 ++ x :: l2 ∧ q' = l1 ++ l2 ∧ (∀ y ∈ l1, tm x < tm y) ∧ (∀ y ∈ l2, tm x ≤ tm y) := by
  unfold gpop at h
  split at h
  · simp at h
  · rename_i m h0
    obtain ⟨_, hle⟩ := gminTime_spec tm h0
    split at h
    · simp at h
    · rename_i i h1
      obtain ⟨hi, hxi, hlt⟩ := List.findIdx?_eq_some_iff_getElem.1 h1
      split at h
      · rename_i y h2
        simp at h
        obtain ⟨rfl, rfl⟩ := h
        have hy : q[i] = y := by
          have := List.getElem?_eq_getElem hi
          rw [this] at h2; simpa using h2
        subst hy
        simp at hxi
        refine ⟨q.take i, q.drop (i + 1), ?_, ?_, ?_, ?_⟩
        · simp
        · exact List.eraseIdx_eq_take_drop_succ q i
        · intro z hz
          obtain ⟨j, hj, rfl⟩ := List.mem_iff_getElem.1 hz
          simp at hj
          have h3 := hlt j hj.1
          simp at h3
          have h4 := hle ((q.take i)[j]) (List.mem_of_mem_take (List.getElem_mem _))
          rw [hxi]
          rw [List.getElem_take] at h4 ⊢
          exact lt_of_le_of_ne h4 (fun h => h3 h.symm)
        · intro z hz
          rw [hxi]
          exact hle z (List.mem_of_mem_drop hz)
      · simp at h

theorem gpop_of_min {q l1 l2 : List α} {x : α} (hq : q = l1 ++ x :: l2)
    (h1 : ∀ y ∈ l1, tm x < tm y) (h2 : ∀ y ∈ l2, tm x ≤ tm y) : gpop tm q = some (x, l1 ++ l2) := by
  cases h0 : gpop tm q with
  | none => have := gpop_none tm h0; subst this; simp at hq
  | some p =>
    obtain ⟨x', q'⟩ := p
    obtain ⟨l1', l2', g0, g1, g2, g3⟩ := gpop_some tm h0
    have heq : l1 ++ x :: l2 = l1' ++ x' :: l2' := by rw [← hq, ← g0]
    rcases List.append_eq_append_iff.1 heq with ⟨a', ha1, ha2⟩ | ⟨c', hc1, hc2⟩
    · -- l1' = l1 ++ a'
      cases a' with
      | nil =>
        simp at ha1 ha2
        obtain ⟨rfl, rfl⟩ := ha2
        subst ha1 g1; rfl
      | cons z a' =>
        simp at ha2
        obtain ⟨rfl, rfl⟩ := ha2
        have ha := g2 x (by rw [ha1]; simp)
        have hb := h2 x' (by simp)
        linarith
    · cases c' with
      | nil =>
        simp at hc1 hc2
        obtain ⟨rfl, rfl⟩ := hc2
        subst hc1 g1; rfl
      | cons z c' =>
        simp at hc2
        obtain ⟨rfl, rfl⟩ := hc2
        have ha := h1 x' (by rw [hc1]; simp)
        have hb := g3 x (by simp)
        linarith

theorem gpop_head {x : α} {xs : List α} (h : ∀ y ∈ xs, tm x ≤ tm y) : gpop tm (x :: xs) = some (x, xs) :=
  gpop_of_min tm (l1 := []) rfl (fun _ hy => absurd hy List.not_mem_nil) h

end Generic

theorem mem_mid {α : Type} {l1 l2 : List α} {x y : α} (h : y ∈ l1 ++ l2) : y ∈ l1 ++ x :: l2 :=
  (List.mem_append.1 h).elim (List.mem_append_left _) fun h => List.mem_append_right _ (List.mem_cons_of_mem _ h)

theorem mem_of_mid {α : Type} {l1 l2 : List α} {x y : α} (h : y ∈ l1 ++ x :: l2) (hne : y ≠ x) : y ∈ l1 ++ l2 :=
  (List.mem_append.1 h).elim (List.mem_append_left _) fun h =>
    List.mem_append_right _ ((List.mem_cons.1 h).resolve_left hne)

theorem count_mid {α : Type} [DecidableEq α] (l1 l2 : List α) (x a : α) :
    (l1 ++ x :: l2).count a = (l1 ++ l2).count a + if x = a then 1 else 0 := by
  simp only [List.count_append, List.count_cons, beq_iff_eq]; omega

theorem countP_mid_le {α : Type} (p : α → Bool) (l1 l2 : List α) (x : α) :
    (l1 ++ l2).countP p ≤ (l1 ++ x :: l2).countP p :=
  ((List.Sublist.refl l1).append (List.sublist_cons_self x l2)).countP_le

theorem getElem?_snoc_cases {α : Type} {l : List α} {a c : α} {i : Nat} (h : (l ++ [a])[i]? = some c) :
    (i < l.length ∧ l[i]? = some c) ∨ (i = l.length ∧ c = a) := by
  rcases Nat.lt_trichotomy i l.length with hi | rfl | hi
  · exact Or.inl ⟨hi, by rwa [List.getElem?_append_left hi] at h⟩
  · exact Or.inr ⟨rfl, by simpa using h.symm⟩
  · rw [List.getElem?_eq_none (by simp; omega)] at h; cases h

/-- the initial queue: `l.foldl (fun q u => qadd tmax q t (f u)) q0` for each model's `qadd`, once its `qadd_eq` is applied -/
theorem foldl_add {α ι : Type} (c : Prop) [Decidable c] (f : α → ι) (l : List α) (q0 : List ι) :
    l.foldl (fun q u => q ++ (if c then [f u] else [])) q0 = q0 ++ (if c then l.map f else []) := by
  induction l generalizing q0 with
  | nil => split <;> simp
  | cons u l ih => rw [List.foldl_cons, ih]; split <;> simp

end EvQ

namespace TM
variable {M : Type}

/-- `while Q: Q.pop_and_run()` for a pure model whose step is a partial function (it stands here, below the tape monad's
files, so that a hand model can use it) -/
def optLoop (f : M → Option M) : Nat → M → M
  | 0, s => s
  | n + 1, s => match f s with
    | none => s
    | some s' => optLoop f n s'

theorem optLoop_none {f : M → Option M} {s : M} (h : f s = none) (n : Nat) : optLoop f n s = s := by
  cases n with
  | zero => rfl
  | succ n => rw [optLoop, h]

theorem optLoop_stable {f : M → Option M} : ∀ (n m : Nat) (s : M), f (optLoop f n s) = none →
    optLoop f (n + m) s = optLoop f n s := by
  intro n
  induction n with
  | zero => intro m s h; rw [Nat.zero_add]; exact optLoop_none h m
  | succ n ih =>
    intro m s h
    rw [Nat.add_right_comm, optLoop, optLoop]
    rw [optLoop] at h
    cases hs : f s with
    | none => rfl
    | some s' => rw [hs] at h; exact ih m s' h

end TM
