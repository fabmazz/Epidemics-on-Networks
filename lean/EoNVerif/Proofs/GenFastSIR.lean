import EoNVerif.Gen.FastSIRGen
import EoNVerif.Proofs.GenEventSIR
import EoNVerif.Proofs.FastSIRLaw2
import EoNVerif.Proofs.Takes
import EoNVerif.Proofs.AssocList
/-!
The code generated from `fast_SIR`'s own part (`EoNVerif/Gen/FastSIRGen.lean`) against the scripted random tape —
`_truncated_exponential_`, `_get_rate_functions_`, the constant-`tau` rule, the per-edge rule and the dispatch: what each
returns on a tape of the right shape, and what a successful call has returned on any tape — and the tape determinisation
of `fast_nonMarkov_SIR` (`GenESIR.run`) for an arbitrary effectful rule.  The target statements are collected in
`EoNVerif/Props/C01f.lean`.
Helpers are in namespace `GenFSIRProofs`; the statements C01f quotes are declared `_root_.GenFSIR.…` from inside it.  Unqualified
`run`, `loop`, `process_trans`, `Loc` are `GenESIR.…` (the generated `fast_nonMarkov_SIR`, which `fast_SIR` calls), `WF`, `isFPP`,
`Inv` are `EventSIR.…` (its hand model).  The parameter `exp : Rat → Rat` stands for `np.exp` in `trans_prob = 1-np.exp(-tau*duration)`,
uninterpreted: the logged `binomial(n, 1 - exp (-tau * d))` says as much as the caller's `exp`.
-/

open GenFSIR PyFS GenESIR EventSIR

namespace GenFSIRProofs
open TM (popExpo_inv popBinom_inv popSample_inv liftE_bind)

theorem popExpo_zero (ts : TapeSt) : TM.popExpo 0 ts = .error "ZeroDivisionError" := by
  simp only [TM.popExpo, if_true]

theorem popExpo_nil {rate : Rat} (h : rate ≠ 0) (tr : Array Call) :
    TM.popExpo rate ⟨[], tr⟩ = .error "tape-exhausted" := by
  simp only [TM.popExpo, h, if_false]

theorem popExpo_kind {rate : Rat} (h : rate ≠ 0) (x : Draw) (hx : ∀ d, x ≠ Draw.expo d) (rest : List Draw)
    (tr : Array Call) : TM.popExpo rate ⟨x :: rest, tr⟩ = .error "tape-kind-mismatch:expo" := by
  cases x with
  | expo d => exact absurd rfl (hx d)
  | _ => simp only [TM.popExpo, h, if_false]

theorem append_push (tr : Array Call) (l : List Call) (a : Call) :
    (tr ++ l.toArray).push a = tr ++ (l ++ [a]).toArray := by
  rw [Array.push_append, List.push_toArray]

/-! ### `_truncated_exponential_` -/

/-- `t - int(t/T)*T` on rationals -/
def truncMod (t T : Rat) : Rat := t - ((PyFS.intTrunc (t / T) : Int) : Rat) * T

theorem intTrunc_of_nonneg {x : Rat} (h : 0 ≤ x) : PyFS.intTrunc x = ⌊x⌋ := by
  unfold PyFS.intTrunc
  rw [if_neg (not_lt.2 h)]
  rfl

theorem intTrunc_of_neg {x : Rat} (h : x < 0) : PyFS.intTrunc x = ⌈x⌉ := by
  unfold PyFS.intTrunc
  rw [if_pos h]
  show -⌊-x⌋ = ⌈x⌉
  rw [Int.floor_neg, neg_neg]

/-- on a tape starting with an `expovariate` draw `t` the function returns `t - int(t/T)*T`, consumes that draw and
logs the call `expovariate(rate)` -/
theorem _root_.GenFSIR.truncated_exponential_spec {rate T : Rat} (hr : rate ≠ 0) (hT : T ≠ 0) (t : Rat) (rest : List Draw)
    (tr : Array Call) :
    truncated_exponential rate T ⟨Draw.expo t :: rest, tr⟩ =
      .ok (t - ((PyFS.intTrunc (t / T) : Int) : Rat) * T, ⟨rest, tr.push (.expo rate)⟩) := by
  unfold truncated_exponential
  rw [TM.bind_ok (TM.popExpo_eval rate t rest ⟨_, tr⟩ hr rfl)]
  simp only [PyTM.fdiv, hT, if_false]
  rfl

/-- the error cases: `expovariate(0)`, `t/0`, a draw of the wrong kind, an exhausted tape -/
theorem _root_.GenFSIR.truncated_exponential_errors :
    (∀ T ts, truncated_exponential 0 T ts = .error "ZeroDivisionError") ∧
    (∀ rate, rate ≠ 0 → ∀ t rest tr,
      truncated_exponential rate 0 ⟨Draw.expo t :: rest, tr⟩ = .error "ZeroDivisionError") ∧
    (∀ rate, rate ≠ 0 → ∀ T x, (∀ d, x ≠ Draw.expo d) → ∀ rest tr,
      truncated_exponential rate T ⟨x :: rest, tr⟩ = .error "tape-kind-mismatch:expo") ∧
    (∀ rate, rate ≠ 0 → ∀ T tr, truncated_exponential rate T ⟨[], tr⟩ = .error "tape-exhausted") := by
  refine ⟨fun T ts => ?_, fun rate hr t rest tr => ?_, fun rate hr T x hx rest tr => ?_, fun rate hr T tr => ?_⟩ <;>
    unfold truncated_exponential
  · rw [TM.bind_err (popExpo_zero ts)]
  · rw [TM.bind_ok (TM.popExpo_eval rate t rest ⟨_, tr⟩ hr rfl)]
    simp only [PyTM.fdiv, if_true]
    rfl
  · rw [TM.bind_err (popExpo_kind hr x hx rest tr)]
  · rw [TM.bind_err (popExpo_nil hr tr)]

theorem truncMod_eq_floor {t T : Rat} (ht : 0 ≤ t) (hT : 0 < T) : truncMod t T = t - (⌊t / T⌋ : Rat) * T := by
  unfold truncMod
  rw [intTrunc_of_nonneg (div_nonneg ht hT.le)]

theorem truncMod_range {t T : Rat} (ht : 0 ≤ t) (hT : 0 < T) : 0 ≤ truncMod t T ∧ truncMod t T < T := by
  rw [truncMod_eq_floor ht hT]
  have h1 : (⌊t / T⌋ : Rat) * T ≤ t := (le_div_iff₀ hT).1 (Int.floor_le _)
  have h2 : t < ((⌊t / T⌋ : Rat) + 1) * T := (div_lt_iff₀ hT).1 (Int.lt_floor_add_one _)
  exact ⟨sub_nonneg.2 h1, by linarith⟩

theorem truncMod_decomp {t T : Rat} (ht : 0 ≤ t) (hT : 0 < T) : ∃ k : Nat, t = truncMod t T + (k : Rat) * T := by
  refine ⟨⌊t / T⌋.toNat, ?_⟩
  rw [truncMod_eq_floor ht hT]
  have h0 : 0 ≤ ⌊t / T⌋ := Int.floor_nonneg.2 (div_nonneg ht hT.le)
  have : ((⌊t / T⌋.toNat : Nat) : Rat) = ((⌊t / T⌋ : Int) : Rat) := by
    have := Int.toNat_of_nonneg h0
    exact_mod_cast congrArg (fun z : Int => (z : Rat)) this
  rw [this]; ring

/-- **link to C01c**: the rational value is the real folding function `FastSIRLaw.reduceMod` (the body of
`_truncated_exponential_` after the draw, `Proofs/FastSIRLaw2.lean`) at the same draw — for every `t`, `T` -/
theorem _root_.GenFSIR.truncated_exponential_real (t T : Rat) :
    ((truncMod t T : Rat) : ℝ) = FastSIRLaw.reduceMod (T : ℝ) (t : ℝ) := by
  unfold truncMod FastSIRLaw.reduceMod FastSIRLaw.pyInt
  have hc : ((t : ℝ) / (T : ℝ)) = ((t / T : Rat) : ℝ) := by push_cast; rfl
  rw [hc]
  by_cases h : 0 ≤ t / T
  · have h' : (0 : ℝ) ≤ ((t / T : Rat) : ℝ) := by exact_mod_cast h
    rw [intTrunc_of_nonneg h, if_pos h', Rat.floor_cast]
    push_cast; rfl
  · have h' : ¬ (0 : ℝ) ≤ ((t / T : Rat) : ℝ) := by
      intro hh; apply h; exact_mod_cast hh
    rw [intTrunc_of_neg (not_le.1 h), if_neg h', Rat.ceil_cast]
    push_cast; rfl

/-! ### `_get_rate_functions_` -/

theorem get_rate_functions_none_none (tau gamma : Rat) (x y : Node) :
    (get_rate_functions tau gamma none none).1 x y = .ok tau ∧
    (get_rate_functions tau gamma none none).2 x = .ok gamma := ⟨rfl, rfl⟩

theorem get_rate_functions_trans_none (tau gamma : Rat) (rw : Option Rate1) (x y : Node) :
    (get_rate_functions tau gamma none rw).1 x y = .ok tau := rfl

theorem get_rate_functions_rec_none (tau gamma : Rat) (tw : Option Rate2) (x : Node) :
    (get_rate_functions tau gamma tw none).2 x = .ok gamma := rfl

theorem get_rate_functions_trans_some (tau gamma : Rat) (tw : Rate2) (rw : Option Rate1) (x y : Node) :
    (get_rate_functions tau gamma (some tw) rw).1 x y = (tw x y).map (tau * ·) := by
  show (do let w_ ← tw x y; pure (tau * w_)) = _
  cases tw x y <;> rfl

theorem get_rate_functions_rec_some (tau gamma : Rat) (tw : Option Rate2) (rw : Rate1) (x : Node) :
    (get_rate_functions tau gamma tw (some rw)).2 x = (rw x).map (gamma * ·) := by
  show (do let w_ ← rw x; pure (gamma * w_)) = _
  cases rw x <;> rfl

/-! ### `_trans_and_rec_time_Markovian_const_trans_` -/

theorem sample_takes (sus : List Node) {k : Nat} (hk : k ≤ sus.length) (idx : List Nat) (hl : idx.length = k)
    (hlt : ∀ i ∈ idx, i < sus.length) (hnd : idx.Nodup) :
    TM.Takes₀ (PyFS.sample sus k) [Draw.sample idx] [Call.sample sus.length k] (idx.map (sus.getD · 0)) := by
  refine (TM.popSample_takes hk idx hl hlt hnd).bind ?_
  rw [PyRT.mapM_listChoice sus 0 idx hlt]
  exact TM.Takes₀.pure _

/-- the dict built by the loop `for v in transmission_recipients: trans_delay[v] = …` from the values `xs` -/
def dictOf (acc : List (Node × ERat)) : List Node → List ERat → List (Node × ERat)
  | v :: vs, x :: xs => dictOf (alSet acc v x) vs xs
  | _, _ => acc

def ctBody (tau d : Rat) (acc : List (Node × ERat)) (v : Node) : TM (List (Node × ERat)) :=
  truncated_exponential tau d >>= fun t_1 => pure (alSet acc v (some t_1))

theorem truncated_exponential_takes {rate T : Rat} (hr : rate ≠ 0) (hT : T ≠ 0) (t : Rat) :
    TM.Takes₀ (truncated_exponential rate T) [Draw.expo t] [Call.expo rate] (truncMod t T) :=
  fun rest tr => GenFSIR.truncated_exponential_spec hr hT t rest tr

theorem ct_loop {tau d : Rat} (htau : tau ≠ 0) (hd : d ≠ 0) : ∀ (vs : List Node) (ts : List Rat)
    (acc : List (Node × ERat)), vs.length = ts.length →
    TM.Takes₀ (vs.foldlM (ctBody tau d) acc) (ts.map Draw.expo) (List.replicate ts.length (Call.expo tau))
      (dictOf acc vs (ts.map fun t => some (truncMod t d)))
  | [], [], acc, _ => TM.Takes₀.pure acc
  | v :: vs, t :: ts, acc, h => by
    have hb : TM.Takes₀ (ctBody tau d acc v) [Draw.expo t] [Call.expo tau] (alSet acc v (some (truncMod t d))) :=
      (truncated_exponential_takes htau hd t).map _
    rw [List.foldlM_cons]
    exact hb.bind (ct_loop htau hd vs ts _ (Nat.succ.inj h))

/-- on a tape `expo d :: binom k :: sample idx :: k expo draws ++ rest` (with `k ≤ len(sus)`, `idx` a valid sample)
the run succeeds, leaves `rest`, logs exactly `expovariate(r)`, `binomial(len(sus), 1 - exp(-tau d))`,
`sample(sus, k)` and `k` times `expovariate(tau)`; the duration is `d`, the dict maps the sampled recipients (in
sample order, through `dict` assignment) to the draws reduced modulo `d` -/
theorem _root_.GenFSIR.const_trans_spec (exp : Rat → Rat) (node : Node) (sus : List Node) {tau : Rat} (rec_rate_fxn : Rate1) {r : Rat}
    (hr : rec_rate_fxn node = .ok r) (hr0 : r ≠ 0) (htau : tau ≠ 0) {d : Rat} (hd : d ≠ 0) {k : Nat}
    (hk : k ≤ sus.length) (idx : List Nat) (hl : idx.length = k) (hlt : ∀ i ∈ idx, i < sus.length) (hnd : idx.Nodup)
    (ts : List Rat) (hts : ts.length = k) (rest : List Draw) (tr : Array Call) :
    const_trans exp node sus tau rec_rate_fxn
        ⟨Draw.expo d :: Draw.binom k :: Draw.sample idx :: (ts.map Draw.expo ++ rest), tr⟩ =
      .ok ((dictOf [] (idx.map (sus.getD · 0)) (ts.map fun t => some (truncMod t d)), some d),
        ⟨rest, tr ++ ([Call.expo r, Call.binom sus.length (1 - exp (-tau * d)), Call.sample sus.length k]
                ++ List.replicate k (Call.expo tau)).toArray⟩) := by
  subst hts
  have h : TM.Takes₀ (const_trans exp node sus tau rec_rate_fxn)
      ([Draw.expo d] ++ ([Draw.binom ts.length] ++ ([Draw.sample idx] ++ ts.map Draw.expo)))
      ([Call.expo r] ++ ([Call.binom sus.length (1 - exp (-tau * d))] ++ ([Call.sample sus.length ts.length] ++
        List.replicate ts.length (Call.expo tau))))
      (dictOf [] (idx.map (sus.getD · 0)) (ts.map fun t => some (truncMod t d)), some d) := by
    unfold const_trans
    rw [hr, TM.liftE_ok, pure_bind]
    exact (TM.popExpo_takes hr0 d).bind ((TM.popBinom_takes hk _).bind ((sample_takes sus hk idx hl hlt hnd).bind
      ((ct_loop htau hd _ ts [] (by rw [List.length_map, hl])).map _)))
  rw [TM.arr_app_toArray]
  exact h rest tr

/-- with `k = 0` no `expovariate(tau)` is drawn and the dict is empty (no assumption on `tau`) -/
theorem _root_.GenFSIR.const_trans_none_infected (exp : Rat → Rat) (node : Node) (sus : List Node) (tau : Rat) (rec_rate_fxn : Rate1)
    {r : Rat} (hr : rec_rate_fxn node = .ok r) (hr0 : r ≠ 0) (d : Rat) (rest : List Draw) (tr : Array Call) :
    const_trans exp node sus tau rec_rate_fxn ⟨Draw.expo d :: Draw.binom 0 :: Draw.sample [] :: rest, tr⟩ =
      .ok (([], some d),
        ⟨rest, tr ++ [Call.expo r, Call.binom sus.length (1 - exp (-tau * d)), Call.sample sus.length 0].toArray⟩) := by
  have h : TM.Takes₀ (const_trans exp node sus tau rec_rate_fxn) ([Draw.expo d] ++ ([Draw.binom 0] ++ [Draw.sample []]))
      ([Call.expo r] ++ ([Call.binom sus.length (1 - exp (-tau * d))] ++ [Call.sample sus.length 0])) ([], some d) := by
    unfold const_trans
    rw [hr, TM.liftE_ok, pure_bind]
    exact (TM.popExpo_takes hr0 d).bind ((TM.popBinom_takes (Nat.zero_le _) _).bind
      ((sample_takes sus (Nat.zero_le _) [] rfl (by intro i hi; cases hi) List.nodup_nil).bind (TM.Takes₀.pure _)))
  rw [TM.arr_app_toArray]
  exact h rest tr

/-- a zero recovery rate raises `ZeroDivisionError` (`random.expovariate(0)`), a missing weight its `KeyError` -/
theorem _root_.GenFSIR.const_trans_errors (exp : Rat → Rat) (node : Node) (sus : List Node) (tau : Rat) (rec_rate_fxn : Rate1)
    (ts : TapeSt) :
    (rec_rate_fxn node = .ok 0 → const_trans exp node sus tau rec_rate_fxn ts = .error "ZeroDivisionError") ∧
    (∀ e, rec_rate_fxn node = .error e → const_trans exp node sus tau rec_rate_fxn ts = .error e) := by
  refine ⟨fun hr => ?_, fun e hr => ?_⟩ <;> unfold const_trans
  · rw [hr, TM.liftE_ok, pure_bind, TM.bind_err (popExpo_zero ts)]
  · rw [hr, TM.bind_err (TM.liftE_error e ts)]

theorem dictOf_nodup : ∀ (vs : List Node) (xs : List ERat) (acc : List (Node × ERat)), vs.length = xs.length →
    vs.Nodup → (∀ v ∈ vs, v ∉ acc.map (·.1)) → dictOf acc vs xs = acc ++ vs.zip xs := by
  intro vs
  induction vs with
  | nil => intro xs acc _ _ _; simp [dictOf]
  | cons v vs ih =>
    intro xs acc hl hn hd
    cases xs with
    | nil => cases hl
    | cons x xs =>
      rw [List.nodup_cons] at hn
      unfold dictOf
      rw [alSet_of_not_mem acc v x (hd v (List.mem_cons_self ..)), ih xs _ (by simpa using hl) hn.2 ?_]
      · simp
      · intro w hw
        rw [List.map_append, List.mem_append, not_or]
        refine ⟨hd w (List.mem_cons_of_mem _ hw), ?_⟩
        simp only [List.map_cons, List.map_nil, List.mem_singleton]
        rintro rfl
        exact hn.1 hw

theorem dictOf_nil_nodup (vs : List Node) (xs : List ERat) (hl : vs.length = xs.length) (hn : vs.Nodup) :
    dictOf [] vs xs = vs.zip xs := by
  rw [dictOf_nodup vs xs [] hl hn (by intro v _ h; cases h)]
  rfl

theorem mem_dictOf : ∀ (vs : List Node) (xs : List ERat) (acc : List (Node × ERat)) (p : Node × ERat),
    p ∈ dictOf acc vs xs → p ∈ acc ∨ (p.1 ∈ vs ∧ p.2 ∈ xs) := by
  intro vs
  induction vs with
  | nil => intro xs acc p h; left; simpa [dictOf] using h
  | cons v vs ih =>
    intro xs acc p h
    cases xs with
    | nil => left; simpa [dictOf] using h
    | cons x xs =>
      unfold dictOf at h
      rcases ih xs _ p h with h | ⟨h1, h2⟩
      · rcases mem_alSet h with h | h
        · left; exact h
        · right; rw [h]; exact ⟨List.mem_cons_self .., List.mem_cons_self ..⟩
      · right; exact ⟨List.mem_cons_of_mem _ h1, List.mem_cons_of_mem _ h2⟩

theorem recipients_nodup {sus : List Node} (hs : sus.Nodup) {idx : List Nat} (hlt : ∀ i ∈ idx, i < sus.length)
    (hnd : idx.Nodup) : (idx.map (sus.getD · 0)).Nodup := by
  refine List.Nodup.map_on ?_ hnd
  intro i hi j hj h
  have h1 := hlt i hi
  have h2 := hlt j hj
  rw [List.getD_eq_getElem?_getD, List.getD_eq_getElem?_getD, List.getElem?_eq_getElem h1,
    List.getElem?_eq_getElem h2] at h
  exact (List.Nodup.getElem_inj_iff hs).1 (by simpa using h)

theorem alGet_zip {vs : List Node} (hn : vs.Nodup) (xs : List ERat) (hl : vs.length = xs.length) (i : Nat)
    (h1 : i < vs.length) (h2 : i < xs.length) : alGet (vs.zip xs) none vs[i] = xs[i] := by
  rw [List.getElem_of_eq (map_alGet_zip vs xs none hn hl).symm h2, List.getElem_map]

theorem alGet_zip_not_mem {vs : List Node} {v : Node} (h : v ∉ vs) (xs : List ERat) : alGet (vs.zip xs) none v = none :=
  alGet_of_not_key _ _ _ fun hm => by
    obtain ⟨p, hp, rfl⟩ := List.mem_map.1 hm
    exact h (List.of_mem_zip hp).1

/-! ### the dispatch of `fast_SIR` and the per-edge rule -/

/-- the nested time functions of `fast_SIR` (`trans_time_fxn`, `rec_time_fxn`, defined inside `fast_SIR` just before it calls
`fast_nonMarkov_SIR`; not the functions of the same names in the docstring example of `fast_nonMarkov_SIR`) have the
same body: `rate = …; if rate > 0: return random.expovariate(rate) else: return float('Inf')` -/
def timeOfRate (e : Except String Rat) : TM ERat := do
  let r_1 ← PyTM.liftE e
  if decide (r_1 > 0) then do
    let d_1 ← TM.popExpo r_1
    pure (some d_1)
  else do
    pure (none : ERat)

/-- the rule `fast_SIR` builds from separate time functions -/
def perEdgeRule (tau gamma : Rat) (tw : Option Rate2) (rw : Option Rate1) :
    Node → List Node → TM (List (Node × ERat) × ERat) :=
  fun node sus => find_trans_and_rec_delays_SIR node sus
    (fun u v => timeOfRate ((get_rate_functions tau gamma tw rw).1 u v))
    (fun u => timeOfRate ((get_rate_functions tau gamma tw rw).2 u))

def constRule (exp : Rat → Rat) (tau gamma : Rat) (tw : Option Rate2) (rw : Option Rate1) :
    Node → List Node → TM (List (Node × ERat) × ERat) :=
  fun node sus => const_trans exp node sus tau (get_rate_functions tau gamma tw rw).2

theorem fast_SIR_rule_eq (exp : Rat → Rat) (tau gamma : Rat) (tw : Option Rate2) (rw : Option Rate1) :
    fast_SIR_rule exp tau gamma tw rw =
      if tw = none ∧ tau * gamma ≠ 0 then constRule exp tau gamma tw rw else perEdgeRule tau gamma tw rw := by
  unfold fast_SIR_rule
  cases tw with
  | some w => simp only [Option.isSome_some, Bool.true_or, if_true, reduceCtorEq, false_and, if_false]; rfl
  | none =>
    by_cases h : tau * gamma = 0
    · simp only [h, Option.isSome_none, decide_true, Bool.or_true, if_true, ne_eq, not_true_eq_false, and_false,
        if_false]; rfl
    · simp only [h, Option.isSome_none, decide_false, Bool.or_false, ne_eq, not_false_eq_true, and_self, if_true]
      rfl

/-- `x` is what a time function returns at rate `r`: a drawn value iff `r > 0`, else `∞` -/
def Fits (r : Rat) (x : ERat) : Prop := (0 < r ↔ x.isSome = true)

/-- the draws consumed for the returned values `xs` (`∞` is not drawn) -/
def drawsOf (xs : List ERat) : List Draw := xs.filterMap fun x => x.map Draw.expo

/-- the calls logged for the rates `rs` (only positive rates are passed to `random.expovariate`) -/
def callsOf (rs : List Rat) : List Call := (rs.filter fun r => decide (0 < r)).map Call.expo

theorem timeOfRate_takes {r : Rat} {x : ERat} (h : Fits r x) :
    TM.Takes₀ (timeOfRate (.ok r)) (drawsOf [x]) (callsOf [r]) x := by
  unfold timeOfRate
  rw [TM.liftE_ok, pure_bind]
  unfold Fits at h
  cases x with
  | none =>
    have hr : ¬ 0 < r := by intro h'; have := h.1 h'; simp at this
    simp only [gt_iff_lt, hr, decide_false, Bool.false_eq_true, if_false, drawsOf, callsOf, List.filterMap_cons,
      List.filterMap_nil, Option.map_none, List.filter_cons, List.filter_nil, List.map_nil]
    exact TM.Takes₀.pure none
  | some d =>
    have hr : 0 < r := h.2 rfl
    simp only [gt_iff_lt, hr, decide_true, if_true, callsOf, List.filter_cons, List.filter_nil, List.map_cons, List.map_nil]
    exact (TM.popExpo_takes (ne_of_gt hr) d).map some

theorem timeOfRate_error (e : String) (ts : TapeSt) : timeOfRate (.error e) ts = .error e := by
  unfold timeOfRate
  rw [TM.bind_err (TM.liftE_error e ts)]

theorem timeOfRate_nonpos {r : Rat} (h : ¬ 0 < r) (ts : TapeSt) : timeOfRate (.ok r) ts = .ok (none, ts) := by
  unfold timeOfRate
  rw [TM.liftE_ok, pure_bind]
  simp [h, TM.pure_apply]

theorem timeOfRate_pos {r : Rat} (h : 0 < r) (d : Rat) (rest : List Draw) (tr : Array Call) :
    timeOfRate (.ok r) ⟨Draw.expo d :: rest, tr⟩ = .ok (some d, ⟨rest, tr.push (.expo r)⟩) := by
  have := timeOfRate_takes (r := r) (x := some d) (by simp [Fits, h]) rest tr
  rwa [show callsOf [r] = [Call.expo r] by simp [callsOf, h]] at this

theorem drawsOf_cons (x : ERat) (xs : List ERat) : drawsOf (x :: xs) = drawsOf [x] ++ drawsOf xs := by
  cases x <;> simp [drawsOf]

theorem callsOf_cons (r : Rat) (rs : List Rat) : callsOf (r :: rs) = callsOf [r] ++ callsOf rs := by
  unfold callsOf
  by_cases h : 0 < r <;> simp [h]

/-- the body of the loop `for target in sus_neighbors: trans_delay[target] = trans_time_fxn(node, target)` -/
def feBody (trf : Rate2) (u : Node) (acc : List (Node × ERat)) (v : Node) : TM (List (Node × ERat)) :=
  timeOfRate (trf u v) >>= fun x_1 => pure (alSet acc v x_1)

theorem fe_loop (trf : Rate2) (u : Node) {sus : List Node} {rs : List Rat} {xs : List ERat}
    (h1 : List.Forall₂ (fun v r => trf u v = .ok r) sus rs) (h2 : List.Forall₂ Fits rs xs) :
    ∀ acc, TM.Takes₀ (sus.foldlM (feBody trf u) acc) (drawsOf xs) (callsOf rs) (dictOf acc sus xs) := by
  induction h1 generalizing xs with
  | nil => cases h2; exact fun acc => TM.Takes₀.pure acc
  | @cons v r sus rs hr _ ih =>
    cases h2 with
    | @cons _ x _ xs hx h2 =>
      intro acc
      have hb : TM.Takes₀ (feBody trf u acc v) (drawsOf [x]) (callsOf [r]) (alSet acc v x) := by
        unfold feBody; rw [hr]; exact (timeOfRate_takes hx).map _
      rw [List.foldlM_cons, drawsOf_cons, callsOf_cons]
      exact hb.bind (ih h2 _)

/-- **the per-edge rule** for node `u` with recovery rate `ru` and transmission rates `rs` (one per susceptible
neighbour): given values `dur`, `xs` that fit the rates (`some` iff the rate is positive), on the tape made of the
finite ones among `dur :: xs` (in this order) followed by `rest` it returns the dict built from `sus` and `xs` and the
duration `dur`, leaves `rest`, and logs one `expovariate` per positive rate, in the same order -/
theorem _root_.GenFSIR.find_trans_and_rec_delays_SIR_spec (trans_rate_fxn : Rate2) (rec_rate_fxn : Rate1) (u : Node) (sus : List Node)
    {ru : Rat} (hru : rec_rate_fxn u = .ok ru) (rs : List Rat)
    (hrs : List.Forall₂ (fun v r => trans_rate_fxn u v = .ok r) sus rs) {dur : ERat} (hdur : Fits ru dur)
    (xs : List ERat) (hxs : List.Forall₂ Fits rs xs) (rest : List Draw) (tr : Array Call) :
    find_trans_and_rec_delays_SIR u sus (fun a b => timeOfRate (trans_rate_fxn a b))
        (fun a => timeOfRate (rec_rate_fxn a)) ⟨drawsOf (dur :: xs) ++ rest, tr⟩ =
      .ok ((dictOf [] sus xs, dur), ⟨rest, tr ++ (callsOf (ru :: rs)).toArray⟩) := by
  unfold find_trans_and_rec_delays_SIR
  dsimp only
  rw [hru, drawsOf_cons, callsOf_cons ru rs, TM.arr_app_toArray]
  exact (timeOfRate_takes hdur).bind ((fe_loop trans_rate_fxn u hrs hxs []).map fun t => (t, dur)) rest tr

theorem perEdgeRule_ok (tau gamma : Rat) (tw : Option Rate2) (rw : Option Rate1) (u : Node) (sus : List Node)
    {ru : Rat} (hru : (get_rate_functions tau gamma tw rw).2 u = .ok ru) (rs : List Rat)
    (hrs : List.Forall₂ (fun v r => (get_rate_functions tau gamma tw rw).1 u v = .ok r) sus rs)
    {dur : ERat} (hdur : Fits ru dur) (xs : List ERat) (hxs : List.Forall₂ Fits rs xs) (rest : List Draw)
    (tr : Array Call) :
    perEdgeRule tau gamma tw rw u sus ⟨drawsOf (dur :: xs) ++ rest, tr⟩ =
      .ok ((dictOf [] sus xs, dur), ⟨rest, tr ++ (callsOf (ru :: rs)).toArray⟩) :=
  GenFSIR.find_trans_and_rec_delays_SIR_spec _ _ u sus hru rs hrs hdur xs hxs rest tr

/-- the recovery weight's `KeyError` is raised before anything is drawn -/
theorem _root_.GenFSIR.find_trans_and_rec_delays_SIR_error (trans_rate_fxn : Rate2) (rec_rate_fxn : Rate1) (u : Node)
    (sus : List Node) {e : String} (hru : rec_rate_fxn u = .error e) (ts : TapeSt) :
    find_trans_and_rec_delays_SIR u sus (fun a b => timeOfRate (trans_rate_fxn a b))
      (fun a => timeOfRate (rec_rate_fxn a)) ts = .error e := by
  unfold find_trans_and_rec_delays_SIR
  dsimp only
  rw [hru, TM.bind_err (timeOfRate_error e ts)]

/-! ### tape determinisation -/

abbrev Res := List (Node × ERat) × ERat

/-- a computation in the tape monad which does not look at the tape -/
def Indep {α : Type} (x : TM α) : Prop := ∃ e : Except String α, x = PyTM.liftE e

theorem indep_pure {α : Type} (a : α) : Indep (pure a : TM α) := ⟨.ok a, rfl⟩

theorem indep_liftE {α : Type} (e : Except String α) : Indep (PyTM.liftE e) := ⟨e, rfl⟩

theorem indep_bind {α β : Type} {x : TM α} {f : α → TM β} (hx : Indep x) (hf : ∀ a, Indep (f a)) :
    Indep (x >>= f) := by
  obtain ⟨e, rfl⟩ := hx
  cases e with
  | error m => exact ⟨.error m, rfl⟩
  | ok a =>
    obtain ⟨e', he'⟩ := hf a
    exact ⟨e', by rw [TM.liftE_ok, pure_bind, he']⟩

theorem indep_ite {α : Type} {c : Prop} [Decidable c] {x y : TM α} (hx : Indep x) (hy : Indep y) :
    Indep (if c then x else y) := by
  split
  · exact hx
  · exact hy

theorem indep_foldlM {α β : Type} {f : β → α → TM β} (hf : ∀ b a, Indep (f b a)) :
    ∀ (l : List α) (b : β), Indep (l.foldlM f b) := by
  intro l
  induction l with
  | nil => intro b; exact indep_pure b
  | cons a l ih =>
    intro b
    rw [List.foldlM_cons]
    exact indep_bind (hf b a) ih

theorem Indep.elim {α : Type} {x : TM α} (h : Indep x) {ts ts' : TapeSt} {a : α} (hx : x ts = .ok (a, ts')) :
    ts' = ts ∧ ∀ ts0, x ts0 = .ok (a, ts0) := by
  obtain ⟨e, rfl⟩ := h
  cases e with
  | error m => cases hx
  | ok b =>
    injection hx with hx
    injection hx with h1 h2
    subst h1 h2
    exact ⟨rfl, fun _ => rfl⟩

theorem foldlM_inv {α β : Type} {f : β → α → TM β} (P : β → TapeSt → Prop) :
    ∀ (l : List α), (∀ b a ts b' ts', a ∈ l → f b a ts = .ok (b', ts') → P b ts → P b' ts') →
    ∀ (b : β) (ts : TapeSt) (b' : β) (ts' : TapeSt), l.foldlM f b ts = .ok (b', ts') → P b ts → P b' ts' := by
  intro l
  induction l with
  | nil =>
    intro _ b ts b' ts' h hb
    cases h; exact hb
  | cons a l ih =>
    intro hf b ts b' ts' h hb
    rw [List.foldlM_cons] at h
    obtain ⟨b1, t1, h1, h⟩ := TM.bind_inv h
    exact ih (fun b a' ts b' ts' ha => hf b a' ts b' ts' (List.mem_cons_of_mem _ ha)) b1 t1 b' ts' h
      (hf b a ts b1 t1 (List.mem_cons_self ..) h1 hb)

/-- the part of `_process_trans_SIR_` before the rule is called (bookkeeping; `IndexError` only).  `preRule` and `postRule` are
copied from the generated `process_trans`; `process_trans_eq` is the check that the copy is still the generated text. -/
def preRule (time : ERat) (source : Option Node) (target : Node) (σ : Loc) : Except String Loc := do
  let σ := { σ with status := fset σ.status target St.I }
  let σ := { σ with times := σ.times ++ [time] }
  let σ := { σ with transmissions := σ.transmissions ++ [(time, source, target)] }
  let v_1 ← PyTM.listLast σ.S
  let σ := { σ with S := σ.S ++ [(v_1 - 1)] }
  let v_2 ← PyTM.listLast σ.I
  let σ := { σ with I := σ.I ++ [(v_2 + 1)] }
  let v_3 ← PyTM.listLast σ.R
  let σ := { σ with R := σ.R ++ [v_3] }
  pure σ

/-- the part after the rule has returned `jr`: the recovery and the transmissions are queued -/
def postRule (time : ERat) (target : Node) (σ : Loc) (jr : Res) : TM Loc := do
  let (trans_delay, rec_delay) := jr
  let σ := { σ with rec_time := fset σ.rec_time target (ERat.add time rec_delay) }
  let σ ← (if (ERat.le (σ.rec_time target) σ.Q.tmax) then do
    let σ := { σ with Q := MyQueue.add σ.Q (σ.rec_time target) (Ev.recov target) }
    pure σ
  else do
    pure σ)
  let σ ← (trans_delay.map (·.1)).foldlM (fun (σ : Loc) (v : Node) => do
    let dl_5 ← PyTM.liftE (PyRT.dictGet trans_delay v)
    let inf_time := (ERat.add time dl_5)
    let σ ← (if ((ERat.le inf_time (σ.rec_time target)) && (ERat.lt inf_time (σ.pred_inf_time v)) && (ERat.le inf_time σ.Q.tmax)) then do
      let σ := { σ with Q := MyQueue.add σ.Q inf_time (Ev.trans (some target) v) }
      let σ := { σ with pred_inf_time := fset σ.pred_inf_time v inf_time }
      pure σ
    else do
      pure σ)
    pure σ) σ
  pure σ

def susOf (A : EArgs) (target : Node) (σ : Loc) : List Node :=
  (A.nbrs target).filter (fun v => decide (σ.status v = St.S))

theorem process_trans_eq (A : EArgs) (time : ERat) (source : Option Node) (target : Node) (σ : Loc) :
    process_trans A time source target σ =
      if σ.status target = St.S then
        PyTM.liftE (preRule time source target σ) >>= fun σ1 =>
          A.transRec target (susOf A target σ1) >>= fun jr => postRule time target σ1 jr
      else pure σ := by
  unfold process_trans
  by_cases h : σ.status target = St.S
  · simp only [h, decide_true, if_true, preRule, liftE_bind, bind_assoc, GenESIR.liftE_pure, pure_bind]
    rfl
  · simp only [h, decide_false, if_false]
    rfl

theorem indep_postRule (time : ERat) (target : Node) (σ : Loc) (jr : Res) : Indep (postRule time target σ jr) := by
  obtain ⟨td, rd⟩ := jr
  unfold postRule
  dsimp only
  refine indep_bind (indep_ite (indep_pure _) (indep_pure _)) ?_
  intro σ1
  refine indep_foldlM ?_ _ _
  intro σ2 v
  refine indep_bind (indep_liftE _) ?_
  intro dl
  exact indep_ite (indep_pure _) (indep_pure _)

theorem postRule_status {time : ERat} {target : Node} {σ : Loc} {jr : Res} {ts : TapeSt} {σ' : Loc} {ts' : TapeSt}
    (h : postRule time target σ jr ts = .ok (σ', ts')) : σ'.status = σ.status := by
  obtain ⟨td, rd⟩ := jr
  unfold postRule at h
  dsimp only at h
  split at h
  all_goals
    rw [pure_bind] at h
    refine foldlM_inv (fun (τ : Loc) _ => τ.status = σ.status) _ ?_ _ _ _ _ h rfl
    intro b a t b' t' _ hb hP
    cases hd : PyRT.dictGet td a with
    | error e => rw [hd, TM.bind_err (TM.liftE_error e t)] at hb; cases hb
    | ok dl =>
      rw [hd, TM.liftE_ok, pure_bind] at hb
      try dsimp only at hb
      split at hb
      all_goals
        injection hb with hb; injection hb with h1 h2; subst h1; exact hP

theorem preRule_status {time : ERat} {source : Option Node} {target : Node} {σ σ1 : Loc}
    (h : preRule time source target σ = .ok σ1) : σ1.status = fset σ.status target St.I := by
  unfold preRule at h
  dsimp only at h
  cases h1 : PyTM.listLast σ.S with
  | error e => rw [h1] at h; cases h
  | ok v1 =>
    cases h2 : PyTM.listLast σ.I with
    | error e => rw [h1, h2] at h; cases h
    | ok v2 =>
      cases h3 : PyTM.listLast σ.R with
      | error e => rw [h1, h2, h3] at h; cases h
      | ok v3 =>
        rw [h1, h2, h3] at h
        injection h with h
        subst h
        rfl

/-- one call of the rule: node, argument, returned value -/
abbrev RuleCall := Node × List Node × Res

/-- the rule `R` was called successively with these arguments and returned these values; the tape is threaded through
the calls and nothing else touches it -/
def Chain (R : Node → List Node → TM Res) : TapeSt → List RuleCall → TapeSt → Prop
  | ts, [], ts' => ts' = ts
  | ts, c :: cs, ts' => ∃ t1, R c.1 c.2.1 ts = .ok (c.2.2, t1) ∧ Chain R t1 cs ts'

theorem Chain.append {R : Node → List Node → TM Res} : ∀ {cs : List RuleCall} {ts t1 : TapeSt} {cs' : List RuleCall}
    {ts' : TapeSt}, Chain R ts cs t1 → Chain R t1 cs' ts' → Chain R ts (cs ++ cs') ts' := by
  intro cs
  induction cs with
  | nil => intro ts t1 cs' ts' h1 h2; cases h1; exact h2
  | cons c cs ih =>
    intro ts t1 cs' ts' h1 h2
    obtain ⟨t, e, h1⟩ := h1
    exact ⟨t, e, ih h1 h2⟩

def withRule (A : EArgs) (R : Node → List Node → TM Res) : EArgs := { A with transRec := R }

def pureRule (J : Node → List Node → Res) : Node → List Node → TM Res := fun u sus => pure (J u sus)

structure StepDet (A : EArgs) (σ : Loc) (ts : TapeSt) (σ' : Loc) (ts' : TapeSt) (calls : List RuleCall) : Prop where
  chain : Chain A.transRec ts calls ts'
  len : calls.length ≤ 1
  called : ∀ c ∈ calls, σ.status c.1 = St.S ∧ σ'.status c.1 ≠ St.S ∧ ∃ p, c.2.1 = (A.nbrs c.1).filter p
  mono : ∀ v, σ'.status v = St.S → σ.status v = St.S

/-- **one-step determinisation**: a call of `_process_trans_SIR_` with an effectful rule equals the call with any pure
rule that returns the drawn value at the (at most one) argument the rule was called with -/
theorem process_trans_det (A : EArgs) (time : ERat) (source : Option Node) (target : Node) (σ : Loc) (ts : TapeSt)
    (σ' : Loc) (ts' : TapeSt) (h : process_trans A time source target σ ts = .ok (σ', ts')) :
    ∃ calls, (StepDet A σ ts σ' ts' calls ∧ ∀ c ∈ calls, c.1 = target) ∧
      ∀ J, (∀ c ∈ calls, J c.1 c.2.1 = c.2.2) → ∀ ts0,
        process_trans (withRule A (pureRule J)) time source target σ ts0 = .ok (σ', ts0) := by
  rw [process_trans_eq] at h
  by_cases hst : σ.status target = St.S
  · rw [if_pos hst] at h
    obtain ⟨σ1, hp, h⟩ := TM.liftE_bind_inv h
    obtain ⟨jr, t1, hr, h⟩ := TM.bind_inv h
    obtain ⟨e1, e2⟩ := (indep_postRule time target σ1 jr).elim h
    subst e1
    have hs1 := preRule_status hp
    have hs' := postRule_status h
    refine ⟨[(target, susOf A target σ1, jr)], ⟨⟨⟨_, hr, rfl⟩, le_refl _, ?_, ?_⟩,
      fun c hc => by rw [List.mem_singleton.1 hc]⟩, ?_⟩
    · intro c hc
      rw [List.mem_singleton] at hc
      subst hc
      refine ⟨hst, ?_, _, rfl⟩
      rw [hs', hs1]; simp [fset]
    · intro v hv
      rw [hs', hs1] at hv
      exact (fset_ne_of_eq (fun h => by cases h) hv).2
    · intro J hJ ts0
      have hJ' : J target (susOf A target σ1) = jr := hJ _ (List.mem_singleton.2 rfl)
      rw [process_trans_eq, if_pos hst, hp, TM.liftE_ok, pure_bind]
      show (pureRule J target (susOf A target σ1) >>= fun jr => postRule time target σ1 jr) ts0 = _
      unfold pureRule
      rw [pure_bind, hJ']
      exact e2 ts0
  · rw [if_neg hst] at h
    cases h
    refine ⟨[], ⟨⟨rfl, Nat.zero_le _, ?_, fun v hv => hv⟩, fun c hc => by cases hc⟩, ?_⟩
    · intro c hc; cases hc
    · intro J _ ts0
      rw [process_trans_eq, if_neg hst]
      rfl

theorem indep_process_rec (A : EArgs) (time : ERat) (node : Node) (σ : Loc) : Indep (process_rec A time node σ) := by
  unfold process_rec
  dsimp only
  refine indep_bind (indep_liftE _) fun v1 => indep_bind (indep_liftE _) fun v2 => indep_bind (indep_liftE _) fun v3 => ?_
  exact indep_pure _

theorem process_rec_status {A : EArgs} {time : ERat} {node : Node} {σ : Loc} {ts : TapeSt} {σ' : Loc} {ts' : TapeSt}
    (h : process_rec A time node σ ts = .ok (σ', ts')) : σ'.status = fset σ.status node St.R := by
  unfold process_rec at h
  obtain ⟨v1, t1, _, h⟩ := TM.bind_inv h
  obtain ⟨v2, t2, _, h⟩ := TM.bind_inv h
  obtain ⟨v3, t3, _, h⟩ := TM.bind_inv h
  injection h with h; injection h with h1 h2
  subst h1
  rfl

theorem pop_and_run_det (A : EArgs) (σ : Loc) (ts : TapeSt) (σ' : Loc) (ts' : TapeSt)
    (h : pop_and_run A σ ts = .ok (σ', ts')) :
    ∃ calls, StepDet A σ ts σ' ts' calls ∧
      ∀ J, (∀ c ∈ calls, J c.1 c.2.1 = c.2.2) → ∀ ts0,
        pop_and_run (withRule A (pureRule J)) σ ts0 = .ok (σ', ts0) := by
  unfold pop_and_run at h
  obtain ⟨⟨m, q⟩, hp, h⟩ := TM.liftE_bind_inv h
  dsimp only at h
  cases hev : m.2.2 with
  | trans source target =>
    rw [hev] at h
    dsimp only at h
    obtain ⟨calls, ⟨hS, _⟩, hJ⟩ := process_trans_det A m.1 source target { σ with Q := q } ts σ' ts' h
    refine ⟨calls, ⟨hS.chain, hS.len, hS.called, hS.mono⟩, ?_⟩
    intro J hJ' ts0
    unfold pop_and_run
    rw [hp, TM.liftE_ok, pure_bind]
    dsimp only
    rw [hev]
    exact hJ J hJ' ts0
  | recov node =>
    rw [hev] at h
    dsimp only at h
    obtain ⟨e1, e2⟩ := (indep_process_rec A m.1 node { σ with Q := q }).elim h
    subst e1
    have hs := process_rec_status h
    refine ⟨[], ⟨rfl, Nat.zero_le _, ?_, ?_⟩, ?_⟩
    · intro c hc; cases hc
    · intro v hv
      rw [hs] at hv
      exact (fset_ne_of_eq (fun h => by cases h) hv).2
    · intro J _ ts0
      unfold pop_and_run
      rw [hp, TM.liftE_ok, pure_bind]
      dsimp only
      rw [hev]
      exact e2 ts0

/-- Induction over the events (`TM.evLoop_ok`): `called` of the first event and `mono` of the rest give `Nodup` of the called
nodes — the rule is asked at most once per node, which is what makes a table `Node → Res` (`tableOf`) a faithful replacement. -/
theorem loop_det (A : EArgs) : ∀ (fuel : Nat) (σ : Loc) (ts : TapeSt) (σ' : Loc) (ts' : TapeSt),
    loop A fuel σ ts = .ok (σ', ts') →
    ∃ calls, Chain A.transRec ts calls ts' ∧ (calls.map (·.1)).Nodup ∧
      (∀ c ∈ calls, σ.status c.1 = St.S ∧ ∃ p, c.2.1 = (A.nbrs c.1).filter p) ∧
      ∀ J, (∀ c ∈ calls, J c.1 c.2.1 = c.2.2) → ∀ ts0,
        loop (withRule A (pureRule J)) fuel σ ts0 = .ok (σ', ts0) := by
  rw [loop_eq]
  refine TM.evLoop_ok (fun n σ ts hm => ?_) (fun n σ ts σ1 t1 σ' ts' hm hp ih => ?_)
  · refine ⟨[], rfl, List.nodup_nil, (by intro c hc; cases hc), fun J _ ts0 => ?_⟩
    rw [loop_eq, TM.evLoop, hm]
    rfl
  · obtain ⟨c1, hS, hJ1⟩ := pop_and_run_det A σ ts σ1 t1 hp
    obtain ⟨c2, hC2, hN2, hP2, hJ2⟩ := ih
    refine ⟨c1 ++ c2, hS.chain.append hC2, ?_, ?_, fun J hJ ts0 => ?_⟩
    · rw [List.map_append, List.nodup_append]
      refine ⟨?_, hN2, ?_⟩
      · have := hS.len
        match c1, this with
        | [], _ => exact List.nodup_nil
        | [c], _ => simp
      · intro a ha b hb hab
        obtain ⟨ca, hca, rfl⟩ := List.mem_map.1 ha
        obtain ⟨cb, hcb, rfl⟩ := List.mem_map.1 hb
        have h1 := (hS.called ca hca).2.1
        have h2 := (hP2 cb hcb).1
        rw [hab] at h1
        exact h1 h2
    · intro c hc
      rcases List.mem_append.1 hc with hc | hc
      · exact ⟨(hS.called c hc).1, (hS.called c hc).2.2⟩
      · exact ⟨hS.mono _ (hP2 c hc).1, (hP2 c hc).2⟩
    · rw [loop_eq, TM.evLoop, hm, if_pos rfl,
        TM.bind_ok (hJ1 J (fun c hc => hJ c (List.mem_append_left _ hc)) ts0), ← loop_eq]
      exact hJ2 J (fun c hc => hJ c (List.mem_append_right _ hc)) ts0

/-- **tape determinisation of `fast_nonMarkov_SIR`** for an arbitrary effectful rule: a successful run called the rule
at most once per node; the calls consumed the tape one after the other (`Chain`) and nothing else touched it; the run
with any PURE rule that returns the drawn values at the arguments of these calls returns the same objects, on any tape -/
theorem run_det (A : EArgs) (infs recs : List Node) (fuel : Nat) (ts : TapeSt) (σ : Loc) (ts' : TapeSt)
    (h : run A infs recs fuel ts = .ok (σ, ts')) :
    ∃ calls, Chain A.transRec ts calls ts' ∧ (calls.map (·.1)).Nodup ∧
      (∀ c ∈ calls, ∃ p, c.2.1 = (A.nbrs c.1).filter p) ∧
      ∀ J, (∀ c ∈ calls, J c.1 c.2.1 = c.2.2) → ∀ ts0,
        run (withRule A (pureRule J)) infs recs fuel ts0 = .ok (σ, ts0) := by
  rw [run_eq] at h
  obtain ⟨σ1, t1, hl, h⟩ := TM.bind_inv h
  cases h
  obtain ⟨calls, hC, hN, hP, hJ⟩ := loop_det A fuel _ ts _ _ hl
  refine ⟨calls, hC, hN, fun c hc => (hP c hc).2, ?_⟩
  intro J hJ' ts0
  rw [run_eq]
  have : genInit (withRule A (pureRule J)) infs recs = genInit A infs recs := rfl
  rw [this, TM.bind_ok (hJ J hJ' ts0)]
  rfl

/-- the drawn values organised into a table indexed by the node -/
def tableOf (calls : List RuleCall) (u : Node) : Res :=
  match calls.find? (fun c => c.1 == u) with
  | some c => c.2.2
  | none => ([], none)

theorem tableOf_agrees : ∀ (calls : List RuleCall), (calls.map (·.1)).Nodup → ∀ c ∈ calls, tableOf calls c.1 = c.2.2 := by
  intro calls
  induction calls with
  | nil => intro _ c hc; cases hc
  | cons a calls ih =>
    intro hn c hc
    rw [List.map_cons, List.nodup_cons] at hn
    unfold tableOf
    rw [List.find?_cons]
    rcases List.mem_cons.1 hc with rfl | hc
    · simp
    · have hne : a.1 ≠ c.1 := by
        intro h; apply hn.1; rw [h]; exact List.mem_map.2 ⟨c, hc, rfl⟩
      have : (a.1 == c.1) = false := by simpa using hne
      rw [this]
      exact ih hn.2 c hc

theorem tableOf_cases (calls : List RuleCall) (u : Node) :
    tableOf calls u = ([], none) ∨ ∃ c ∈ calls, c.1 = u ∧ tableOf calls u = c.2.2 := by
  unfold tableOf
  cases hf : calls.find? (fun c => c.1 == u) with
  | none => exact Or.inl rfl
  | some c => exact Or.inr ⟨c, List.mem_of_find?_eq_some hf, by simpa using List.find?_some hf, rfl⟩

/-- the run depends on the rule only through a table `Node → Res` of the values it drew -/
theorem run_det_table (A : EArgs) (infs recs : List Node) (fuel : Nat) (ts : TapeSt) (σ : Loc) (ts' : TapeSt)
    (h : run A infs recs fuel ts = .ok (σ, ts')) :
    ∃ calls, Chain A.transRec ts calls ts' ∧ (calls.map (·.1)).Nodup ∧
      (∀ c ∈ calls, ∃ p, c.2.1 = (A.nbrs c.1).filter p) ∧
      ∀ ts0, run (withRule A (pureRule fun u _ => tableOf calls u)) infs recs fuel ts0 = .ok (σ, ts0) := by
  obtain ⟨calls, hC, hN, hP, hJ⟩ := run_det A infs recs fuel ts σ ts' h
  exact ⟨calls, hC, hN, hP, hJ _ (tableOf_agrees calls hN)⟩

/-! ### what a successful call of the per-edge rule returned (no assumption on the shape of the tape) -/

theorem timeOfRate_inv {e : Except String Rat} {ts : TapeSt} {x : ERat} {ts' : TapeSt}
    (h : timeOfRate e ts = .ok (x, ts')) :
    (∀ d, x = some d → Draw.expo d ∈ ts.tape) ∧ ∀ y ∈ ts'.tape, y ∈ ts.tape := by
  unfold timeOfRate at h
  obtain ⟨r, _, h⟩ := TM.liftE_bind_inv h
  split at h
  · obtain ⟨d, t1, hd, h⟩ := TM.bind_inv h
    cases h
    obtain ⟨h1, h2⟩ := TM.popExpo_tape _ _ _ _ hd
    exact ⟨fun d' hd' => by injection hd' with hd'; subst hd'; exact h1, h2⟩
  · cases h
    exact ⟨fun d hd => (by cases hd), fun y hy => hy⟩

theorem fe_loop_inv (trf : Rate2) (u : Node) : ∀ (sus : List Node) (acc : List (Node × ERat)) (ts : TapeSt)
    (res : List (Node × ERat)) (ts' : TapeSt), sus.foldlM (feBody trf u) acc ts = .ok (res, ts') →
    ∃ xs : List ERat, xs.length = sus.length ∧ res = dictOf acc sus xs ∧
      (∀ d, some d ∈ xs → Draw.expo d ∈ ts.tape) ∧ ∀ y ∈ ts'.tape, y ∈ ts.tape := by
  intro sus
  induction sus with
  | nil =>
    intro acc ts res ts' h
    cases h
    exact ⟨[], rfl, rfl, (by intro d hd; cases hd), fun y hy => hy⟩
  | cons v sus ih =>
    intro acc ts res ts' h
    rw [List.foldlM_cons] at h
    obtain ⟨acc1, t1, hb, h⟩ := TM.bind_inv h
    obtain ⟨x, t0, ht, hb⟩ := TM.bind_inv hb
    cases hb
    obtain ⟨xs, h1, h2, h3, h4⟩ := ih _ _ res ts' h
    obtain ⟨g1, g2⟩ := timeOfRate_inv ht
    refine ⟨x :: xs, by simp [h1], by rw [h2]; rfl, ?_, fun y hy => g2 y (h4 y hy)⟩
    intro d hd
    rcases List.mem_cons.1 hd with hd | hd
    · exact g1 d hd.symm
    · exact g2 _ (h3 d hd)

/-- whatever the tape: a successful call returned `sus` paired (through `dict` assignment) with values that are `∞`
or `expovariate` draws of the tape, a duration of the same kind, and left a part of the tape -/
theorem _root_.GenFSIR.find_trans_and_rec_delays_SIR_inv {trans_rate_fxn : Rate2} {rec_rate_fxn : Rate1} {u : Node} {sus : List Node}
    {ts : TapeSt} {r : List (Node × ERat) × ERat} {ts' : TapeSt}
    (h : find_trans_and_rec_delays_SIR u sus (fun a b => timeOfRate (trans_rate_fxn a b))
      (fun a => timeOfRate (rec_rate_fxn a)) ts = .ok (r, ts')) :
    ∃ xs : List ERat, xs.length = sus.length ∧ r.1 = dictOf [] sus xs ∧
      (∀ d, some d ∈ r.2 :: xs → Draw.expo d ∈ ts.tape) ∧ ∀ y ∈ ts'.tape, y ∈ ts.tape := by
  unfold find_trans_and_rec_delays_SIR at h
  dsimp only at h
  obtain ⟨x0, t1, ht, h⟩ := TM.bind_inv h
  obtain ⟨res, t2, hl, h⟩ := TM.bind_inv h
  cases h
  obtain ⟨xs, h1, h2, h3, h4⟩ := fe_loop_inv trans_rate_fxn u sus [] t1 _ _ hl
  obtain ⟨k1, k2⟩ := timeOfRate_inv ht
  refine ⟨xs, h1, h2, ?_, fun y hy => k2 y (h4 y hy)⟩
  intro d hd
  rcases List.mem_cons.1 hd with hd | hd
  · exact k1 d hd.symm
  · exact k2 _ (h3 d hd)

theorem map_pair_alGet_zip (vs : List Node) (xs : List ERat) (hn : vs.Nodup) (hl : vs.length = xs.length) :
    vs.map (fun v => (v, alGet (vs.zip xs) none v)) = vs.zip xs := by
  conv_rhs => rw [← map_alGet_zip vs xs none hn hl]
  simpa using (List.zip_map' (f := id) (g := alGet (vs.zip xs) none) (l := vs)).symm

/-- the values in the tape are non-negative (as `random.expovariate` guarantees).  Says the same as `Gillespie.TapeNonneg`
(`Proofs/TapeStep.lean`) = `FastSIS.TapeNonneg`, with the equation `d = Draw.expo x` substituted (`tapeNonneg_iff`). -/
def TapeNonneg (ts : TapeSt) : Prop := ∀ d, Draw.expo d ∈ ts.tape → 0 ≤ d

theorem tapeNonneg_iff (ts : TapeSt) : TapeNonneg ts ↔ Gillespie.TapeNonneg ts :=
  ⟨fun h _ hd x e => h x (e ▸ hd), fun h d hd => h _ hd d rfl⟩

theorem TapeNonneg.tail {ts ts' : TapeSt} {x : Draw} (h : TapeNonneg ts) (e : ts.tape = x :: ts'.tape) :
    TapeNonneg ts' :=
  fun d hd => h d (by rw [e]; exact List.mem_cons_of_mem _ hd)

/-- for a closed tape: by evaluation -/
theorem TapeNonneg.of_all {ts : TapeSt}
    (h : (ts.tape.all fun x => match x with | .expo d => decide (0 ≤ d) | _ => true) = true) : TapeNonneg ts := by
  intro d hd
  simpa using List.all_eq_true.1 h _ hd

theorem perEdge_row {tau gamma : Rat} {tw : Option Rate2} {rw : Option Rate1} {u : Node} {sus : List Node}
    {ts : TapeSt} {r : Res} {ts' : TapeSt} (h : perEdgeRule tau gamma tw rw u sus ts = .ok (r, ts'))
    (hs : sus.Nodup) : r.1 = sus.map (fun v => (v, alGet r.1 none v)) := by
  obtain ⟨xs, h1, h2, _, _⟩ := GenFSIR.find_trans_and_rec_delays_SIR_inv h
  rw [h2, dictOf_nil_nodup sus xs h1.symm hs, map_pair_alGet_zip sus xs hs h1.symm]

theorem Chain.forall {R : Node → List Node → TM Res} {I : TapeSt → Prop} {Pre Q : RuleCall → Prop}
    (hR : ∀ u sus ts r ts', I ts → Pre (u, sus, r) → R u sus ts = .ok (r, ts') → I ts' ∧ Q (u, sus, r)) :
    ∀ {calls : List RuleCall} {ts ts' : TapeSt}, Chain R ts calls ts' → I ts → (∀ c ∈ calls, Pre c) →
      I ts' ∧ ∀ c ∈ calls, Q c := by
  intro calls
  induction calls with
  | nil => intro ts ts' h hI _; cases h; exact ⟨hI, by intro c hc; cases hc⟩
  | cons c calls ih =>
    intro ts ts' h hI hP
    obtain ⟨t1, e, h⟩ := h
    obtain ⟨u, sus, r⟩ := c
    obtain ⟨hI1, hQ⟩ := hR u sus ts r t1 hI (hP _ (List.mem_cons_self ..)) e
    obtain ⟨hI', hQ'⟩ := ih h hI1 (fun c hc => hP c (List.mem_cons_of_mem _ hc))
    refine ⟨hI', ?_⟩
    intro c hc
    rcases List.mem_cons.1 hc with rfl | hc
    · exact hQ
    · exact hQ' c hc

/-- determinisation together with what is known of every row the rule returned: `I` is an invariant of the tape
threaded through the calls, `Q` what a call establishes about its argument and its result -/
theorem run_rows (A : EArgs) {I : TapeSt → Prop} {Q : RuleCall → Prop}
    (hR : ∀ u sus ts r ts', I ts → A.transRec u sus ts = .ok (r, ts') → I ts' ∧ Q (u, sus, r))
    (infs recs : List Node) (fuel : Nat) (ts : TapeSt) (hts : I ts) (σ : Loc) (ts' : TapeSt)
    (h : run A infs recs fuel ts = .ok (σ, ts')) :
    ∃ calls, Chain A.transRec ts calls ts' ∧ (calls.map (·.1)).Nodup ∧ (∀ c ∈ calls, Q c) ∧ I ts' ∧
      (∀ c ∈ calls, ∃ p, c.2.1 = (A.nbrs c.1).filter p) ∧
      ∀ J, (∀ c ∈ calls, J c.1 c.2.1 = c.2.2) → ∀ ts0,
        run (withRule A (pureRule J)) infs recs fuel ts0 = .ok (σ, ts0) := by
  obtain ⟨calls, hC, hNd, hP, hJ⟩ := run_det A infs recs fuel ts σ ts' h
  obtain ⟨hn', hrow⟩ := Chain.forall (Pre := fun _ => True) (fun u sus t r t' hI _ e => hR u sus t r t' hI e) hC hts
    (fun _ _ => trivial)
  exact ⟨calls, hC, hNd, hrow, hn', hP, hJ⟩

/-- the delay table read off the rule-call log (`∞` where the rule was not asked) -/
def delayOf (calls : List RuleCall) (u v : Node) : ERat := alGet (tableOf calls u).1 none v

def durOf (calls : List RuleCall) (u : Node) : ERat := (tableOf calls u).2

theorem jointOfTables_agrees {calls : List RuleCall} (hN : (calls.map (·.1)).Nodup)
    (hrow : ∀ c ∈ calls, c.2.2.1 = c.2.1.map (fun v => (v, alGet c.2.2.1 none v))) :
    ∀ c ∈ calls, jointOfTables (delayOf calls) (durOf calls) c.1 c.2.1 = c.2.2 := by
  intro c hc
  unfold jointOfTables delayOf durOf
  rw [tableOf_agrees calls hN c hc, ← hrow c hc]

/-- the arguments `fast_SIR` hands to `fast_nonMarkov_SIR` -/
def fsirArgs (exp : Rat → Rat) (nbrs : Node → List Node) (n : Nat) (tmin : Rat) (tmax : ERat) (tau gamma : Rat)
    (tw : Option Rate2) (rw : Option Rate1) : EArgs :=
  { nbrs := nbrs, order := n, tmin := tmin, tmax := tmax, transRec := fast_SIR_rule exp tau gamma tw rw }

theorem fast_SIR_eq (exp : Rat → Rat) (nbrs : Node → List Node) (n : Nat) (tmin : Rat) (tmax : ERat) (tau gamma : Rat)
    (tw : Option Rate2) (rw : Option Rate1) (infs recs : List Node) (fuel : Nat) :
    fast_SIR exp nbrs n tmin tmax tau gamma tw rw infs recs fuel =
      run (fsirArgs exp nbrs n tmin tmax tau gamma tw rw) infs recs fuel := rfl

theorem dictOf_keys_nodup : ∀ (vs : List Node) (xs : List ERat) (acc : List (Node × ERat)),
    (acc.map (·.1)).Nodup → ((dictOf acc vs xs).map (·.1)).Nodup := by
  intro vs
  induction vs with
  | nil => intro xs acc h; simpa [dictOf] using h
  | cons v vs ih =>
    intro xs acc h
    cases xs with
    | nil => simpa [dictOf] using h
    | cons x xs =>
      unfold dictOf
      exact ih xs _ (alSet_keys_nodup acc v x h)

/-- both rules of `fast_SIR` return a proper Python `dict` (every key once) -/
theorem fast_SIR_rule_keys (exp : Rat → Rat) (tau gamma : Rat) (tw : Option Rate2) (rw : Option Rate1) (u : Node)
    (sus : List Node) (ts : TapeSt) (r : Res) (ts' : TapeSt)
    (h : fast_SIR_rule exp tau gamma tw rw u sus ts = .ok (r, ts')) : (r.1.map (·.1)).Nodup := by
  rw [fast_SIR_rule_eq] at h
  split at h
  · -- the constant-tau rule
    unfold constRule const_trans at h
    obtain ⟨r1, t1, _, h⟩ := TM.bind_inv h
    obtain ⟨d2, t2, _, h⟩ := TM.bind_inv h
    dsimp only at h
    obtain ⟨k, t3, _, h⟩ := TM.bind_inv h
    obtain ⟨s, t4, _, h⟩ := TM.bind_inv h
    obtain ⟨td, t5, hl, h⟩ := TM.bind_inv h
    injection h with h; injection h with h1 h2
    subst h1
    refine foldlM_inv (fun (acc : List (Node × ERat)) _ => (acc.map (·.1)).Nodup) _ ?_ _ _ _ _ hl List.nodup_nil
    intro b a t b' t' _ hb hP
    obtain ⟨x, t1', _, hb⟩ := TM.bind_inv hb
    injection hb with hb; injection hb with g1 g2
    subst g1
    exact alSet_keys_nodup b a _ hP
  · obtain ⟨xs, _, h2, _, _⟩ := GenFSIR.find_trans_and_rec_delays_SIR_inv h
    rw [h2]
    exact dictOf_keys_nodup sus xs [] List.nodup_nil

/-- the model parameters whose rule is the table of drawn values -/
def drawnParams (nodes : List Node) (nbrs : Node → List Node) (tmin : Rat) (tmax : ERat) (calls : List RuleCall) :
    ESParams :=
  { nodes := nodes, nbrs := nbrs, joint := fun u _ => tableOf calls u, tmin := tmin, tmax := tmax }

theorem drawnParams_WFJ (nodes : List Node) (nbrs : Node → List Node) (tmin : Rat) (tmax : ERat)
    (calls : List RuleCall) (hk : ∀ c ∈ calls, (c.2.2.1.map (·.1)).Nodup) :
    WFJ (drawnParams nodes nbrs tmin tmax calls) := by
  intro u p
  show ((tableOf calls u).1.map (·.1)).Nodup
  rcases (tableOf_cases calls u).symm with ⟨c, hc, _, e⟩ | e0
  · rw [e]; exact hk c hc
  · rw [e0]; exact List.nodup_nil

/-! ### what a successful call of the constant-`tau` rule returned (no assumption on the shape of the tape) -/

theorem mapM_listChoice_mem (sus : List Node) : ∀ (idx : List Nat) (s : List Node),
    idx.mapM (fun i => PyRT.listChoice sus i) = .ok s → ∀ v ∈ s, v ∈ sus := by
  intro idx
  induction idx with
  | nil =>
    intro s h v hv
    have : s = [] := by injection h with h; exact h.symm
    subst this; cases hv
  | cons i idx ih =>
    intro s h v hv
    rw [List.mapM_cons] at h
    cases h1 : PyRT.listChoice sus i with
    | error e => rw [h1] at h; cases h
    | ok x =>
      cases h2 : idx.mapM (fun i => PyRT.listChoice sus i) with
      | error e => rw [h1, h2] at h; cases h
      | ok xs =>
        rw [h1, h2] at h
        have hs : s = x :: xs := by injection h with h; exact h.symm
        subst hs
        rcases List.mem_cons.1 hv with rfl | hv
        · unfold PyRT.listChoice at h1
          cases h3 : sus[i]? with
          | none => rw [h3] at h1; cases h1
          | some y =>
            rw [h3] at h1
            have : y = v := by injection h1
            subst this
            exact List.mem_of_getElem? h3
        · exact ih xs h2 v hv

theorem sample_inv {sus : List Node} {k : Nat} {ts : TapeSt} {s : List Node} {ts' : TapeSt}
    (h : PyFS.sample sus k ts = .ok (s, ts')) : (∀ v ∈ s, v ∈ sus) ∧ ∀ y ∈ ts'.tape, y ∈ ts.tape := by
  unfold PyFS.sample at h
  obtain ⟨idx, t1, h1, h⟩ := TM.bind_inv h
  have ht := popSample_inv h1
  cases hm : idx.mapM (fun i => PyRT.listChoice sus i) with
  | error e => rw [hm] at h; cases h
  | ok s' =>
    rw [hm] at h
    cases h
    exact ⟨mapM_listChoice_mem sus idx _ hm, fun y hy => by rw [ht]; exact List.mem_cons_of_mem _ hy⟩

theorem truncated_exponential_inv {rate T : Rat} {ts : TapeSt} {x : Rat} {ts' : TapeSt}
    (h : truncated_exponential rate T ts = .ok (x, ts')) :
    ∃ t, ts.tape = Draw.expo t :: ts'.tape ∧ T ≠ 0 ∧ x = truncMod t T := by
  unfold truncated_exponential at h
  obtain ⟨t, t1, h1, h⟩ := TM.bind_inv h
  obtain ⟨_, ht⟩ := popExpo_inv h1
  by_cases hT : T = 0
  · subst hT
    simp only [PyTM.fdiv, if_true] at h
    cases h
  · simp only [PyTM.fdiv, hT, if_false] at h
    injection h with h; injection h with g1 g2
    subst g2
    exact ⟨t, ht, hT, g1.symm⟩

/-- a value returned by the constant-`tau` rule: finite non-negative duration, distinct keys among the argument,
finite non-negative delays strictly below the duration -/
def ConstRowOK (c : RuleCall) : Prop :=
  (∃ d, c.2.2.2 = some d ∧ 0 ≤ d) ∧ (c.2.2.1.map (·.1)).Nodup ∧
    ∀ p ∈ c.2.2.1, p.1 ∈ c.2.1 ∧ ∃ x, p.2 = some x ∧ 0 ≤ x ∧ ERat.lt p.2 c.2.2.2 = true

theorem const_trans_inv {exp : Rat → Rat} {node : Node} {sus : List Node} {tau : Rat} {rrf : Rate1} {ts : TapeSt}
    {r : Res} {ts' : TapeSt} (h : const_trans exp node sus tau rrf ts = .ok (r, ts')) (hn : TapeNonneg ts) :
    TapeNonneg ts' ∧ ConstRowOK (node, sus, r) := by
  unfold const_trans at h
  obtain ⟨r1, _, ha⟩ := TM.liftE_bind_inv h
  obtain ⟨d, t2, h2, hb⟩ := TM.bind_inv ha
  dsimp only at hb
  obtain ⟨hm, hsub⟩ := TM.popExpo_tape _ _ _ _ h2
  have hd0 : 0 ≤ d := hn d hm
  have hn2 : TapeNonneg t2 := fun x hx => hn x (hsub _ hx)
  obtain ⟨k, t3, h3, hc⟩ := TM.bind_inv hb
  have hn3 : TapeNonneg t3 := hn2.tail (popBinom_inv h3)
  obtain ⟨s, t4, h4, hd⟩ := TM.bind_inv hc
  obtain ⟨hs, ht4⟩ := sample_inv h4
  have hn4 : TapeNonneg t4 := fun x hx => hn3 x (ht4 _ hx)
  obtain ⟨td, t5, hl, he⟩ := TM.bind_inv hd
  cases he
  have hinv := foldlM_inv
    (fun (acc : List (Node × ERat)) (t : TapeSt) => TapeNonneg t ∧ (acc.map (·.1)).Nodup ∧
      ∀ p ∈ acc, p.1 ∈ s ∧ ∃ x, p.2 = some x ∧ 0 ≤ x ∧ x < d) s ?_ _ _ _ _ hl
    ⟨hn4, List.nodup_nil, by intro p hp; cases hp⟩
  · obtain ⟨g1, g2, g3⟩ := hinv
    refine ⟨g1, ⟨d, rfl, hd0⟩, g2, ?_⟩
    intro p hp
    obtain ⟨q1, x, q2, q3, q4⟩ := g3 p hp
    refine ⟨hs _ q1, x, q2, q3, ?_⟩
    rw [q2]; simpa [ERat.lt] using q4
  · intro b a t b' t' hmem hb ⟨hP1, hP2, hP3⟩
    obtain ⟨x, t1', hx, hb⟩ := TM.bind_inv hb
    cases hb
    obtain ⟨t0, ht0, hT, hx'⟩ := truncated_exponential_inv hx
    have ht0n : 0 ≤ t0 := hP1 t0 (by rw [ht0]; exact List.mem_cons_self ..)
    have hdpos : 0 < d := lt_of_le_of_ne hd0 (Ne.symm hT)
    refine ⟨hP1.tail ht0, alSet_keys_nodup b a _ hP2, ?_⟩
    intro p hp
    rcases mem_alSet hp with hp | hp
    · exact hP3 p hp
    · subst hp
      refine ⟨?_, x, rfl, ?_, ?_⟩
      · exact hmem
      · rw [hx']; exact (truncMod_range ht0n hdpos).1
      · rw [hx']; exact (truncMod_range ht0n hdpos).2

theorem alGet_some_mem {v : Node} {d : Rat} : ∀ (l : List (Node × ERat)), alGet l none v = some d → (v, some d) ∈ l := by
  intro l
  induction l with
  | nil => intro h; cases h
  | cons a l ih =>
    intro h
    obtain ⟨k, w⟩ := a
    unfold alGet at h
    split at h
    · rename_i hk; rw [hk, h]; exact List.mem_cons_self ..
    · exact List.mem_cons_of_mem _ (ih h)

theorem fast_SIR_const_rows (exp : Rat → Rat) (nbrs : Node → List Node) (n : Nat) (tmin : Rat) (tmax : ERat)
    (tau gamma : Rat) (tw : Option Rate2) (rw : Option Rate1) (hbranch : tw = none ∧ tau * gamma ≠ 0)
    (infs recs : List Node) (fuel : Nat) (ts : TapeSt) (hts : TapeNonneg ts) (σ : Loc)
    (ts' : TapeSt) (h : fast_SIR exp nbrs n tmin tmax tau gamma tw rw infs recs fuel ts = .ok (σ, ts')) :
    ∃ calls, Chain (constRule exp tau gamma tw rw) ts calls ts' ∧ (calls.map (·.1)).Nodup ∧
      (∀ c ∈ calls, ConstRowOK c) ∧ TapeNonneg ts' ∧ (∀ c ∈ calls, ∃ p, c.2.1 = (nbrs c.1).filter p) ∧
      ∀ J, (∀ c ∈ calls, J c.1 c.2.1 = c.2.2) → ∀ ts0,
        run { nbrs := nbrs, order := n, tmin := tmin, tmax := tmax, transRec := pureRule J } infs recs fuel ts0 =
          .ok (σ, ts0) := by
  have hrule : (fsirArgs exp nbrs n tmin tmax tau gamma tw rw).transRec = constRule exp tau gamma tw rw := by
    show fast_SIR_rule exp tau gamma tw rw = _
    rw [fast_SIR_rule_eq, if_pos hbranch]
  have := run_rows (fsirArgs exp nbrs n tmin tmax tau gamma tw rw) (I := TapeNonneg) (Q := ConstRowOK)
    (fun u sus t r t' hI e => const_trans_inv (exp := exp) (by rwa [hrule] at e) hI) infs recs fuel ts hts σ ts' h
  rwa [hrule] at this

/-- in the tables read off the constant-`tau` calls every finite delay is non-negative and strictly below the (finite)
duration of its source: every edge with a finite delay is a kept edge -/
theorem const_tables_kept {calls : List RuleCall} (hrow : ∀ c ∈ calls, ConstRowOK c) (u v : Node)
    (h : delayOf calls u v ≠ none) :
    (∃ x, delayOf calls u v = some x ∧ 0 ≤ x) ∧ (∃ d, durOf calls u = some d ∧ 0 ≤ d) ∧
      ERat.lt (delayOf calls u v) (durOf calls u) = true := by
  rcases (tableOf_cases calls u).symm with ⟨c, hc, _, e⟩ | e0
  · obtain ⟨g1, _, g3⟩ := hrow c hc
    cases hx : delayOf calls u v with
    | none => exact absurd hx h
    | some x =>
      have hx' := hx
      unfold delayOf at hx'
      rw [e] at hx'
      obtain ⟨_, y, q2, q3, q4⟩ := g3 _ (alGet_some_mem _ hx')
      have : y = x := by injection q2 with q2; exact q2.symm
      subst this
      refine ⟨⟨y, rfl, q3⟩, ?_, ?_⟩
      · unfold durOf; rw [e]; exact g1
      · unfold durOf; rw [e]; exact q4
  · exfalso; apply h
    unfold delayOf
    rw [e0]; rfl

/-- a value returned by either rule of `fast_SIR` on a tape of non-negative draws: distinct keys among the argument,
non-negative finite delays, a non-negative finite or infinite duration -/
def DrawnRowOK (c : RuleCall) : Prop :=
  (c.2.2.1.map (·.1)).Nodup ∧ (∀ p ∈ c.2.2.1, p.1 ∈ c.2.1 ∧ ∀ d, p.2 = some d → 0 ≤ d) ∧
    ∀ d, c.2.2.2 = some d → 0 ≤ d

theorem ConstRowOK.toDrawn {c : RuleCall} (h : ConstRowOK c) : DrawnRowOK c := by
  obtain ⟨⟨d, g1, g2⟩, g3, g4⟩ := h
  refine ⟨g3, ?_, ?_⟩
  · intro p hp
    obtain ⟨q1, x, q2, q3, _⟩ := g4 p hp
    refine ⟨q1, ?_⟩
    intro d' hd'
    rw [q2] at hd'; injection hd' with hd'; rw [← hd']; exact q3
  · intro d' hd'
    rw [g1] at hd'; injection hd' with hd'; rw [← hd']; exact g2

theorem fast_SIR_rule_drawnRowOK (exp : Rat → Rat) (tau gamma : Rat) (tw : Option Rate2) (rw : Option Rate1) (u : Node)
    (sus : List Node) (ts : TapeSt) (r : Res) (ts' : TapeSt)
    (h : fast_SIR_rule exp tau gamma tw rw u sus ts = .ok (r, ts')) (hn : TapeNonneg ts) :
    TapeNonneg ts' ∧ DrawnRowOK (u, sus, r) := by
  rw [fast_SIR_rule_eq] at h
  split at h
  · obtain ⟨g1, g2⟩ := const_trans_inv h hn
    exact ⟨g1, g2.toDrawn⟩
  · obtain ⟨xs, h1, h2, h3, h4⟩ := GenFSIR.find_trans_and_rec_delays_SIR_inv h
    refine ⟨fun d hd => hn d (h4 _ hd), ?_, ?_, ?_⟩
    · show (r.1.map (·.1)).Nodup
      rw [h2]; exact dictOf_keys_nodup sus xs [] List.nodup_nil
    · intro p hp
      have hp' : p ∈ dictOf [] sus xs := by rw [← h2]; exact hp
      rcases mem_dictOf sus xs [] p hp' with hp' | ⟨q1, q2⟩
      · cases hp'
      · refine ⟨q1, ?_⟩
        intro d hd
        rw [hd] at q2
        exact hn d (h3 d (List.mem_cons_of_mem _ q2))
    · intro d hd
      exact hn d (h3 d (by rw [show r.2 = some d from hd]; exact List.mem_cons_self ..))

/-- the table of drawn rows, as a rule, returns rows of the tables read off it: the order of a row is the order in which
the rule listed the recipients, which decides nothing but the order of simultaneous events -/
theorem drawn_ruleFits {nbrs : Node → List Node} {calls : List RuleCall} (hrow : ∀ c ∈ calls, DrawnRowOK c)
    (hP : ∀ c ∈ calls, ∃ p, c.2.1 = (nbrs c.1).filter p) :
    RuleFits nbrs (delayOf calls) (durOf calls) (fun u _ => tableOf calls u) := by
  intro st u
  refine ⟨rfl, ?_, fun v d _ _ _ h => alGet_some_mem _ h⟩
  intro v d hm
  rcases (tableOf_cases calls u).symm with ⟨c, hc, hcu, e⟩ | e0
  · obtain ⟨g2, g3, _⟩ := hrow c hc
    simp only [e] at hm
    refine ⟨?_, ?_⟩
    · obtain ⟨p, hp⟩ := hP c hc
      have hv := (g3 _ hm).1
      rw [hp, hcu] at hv
      exact (List.mem_filter.1 hv).1
    · unfold delayOf
      rw [e]
      exact (alGet_of_mem_nodup _ g2 hm).symm
  · simp only [e0] at hm
    cases hm

theorem drawn_delay_nonneg {calls : List RuleCall} (hrow : ∀ c ∈ calls, DrawnRowOK c) (u v : Node) (d : Rat)
    (h : delayOf calls u v = some d) : 0 ≤ d := by
  unfold delayOf at h
  rcases (tableOf_cases calls u).symm with ⟨c, hc, _, e⟩ | e0
  · rw [e] at h
    exact ((hrow c hc).2.1 _ (alGet_some_mem _ h)).2 d rfl
  · rw [e0] at h
    cases h

theorem drawn_dur_nonneg {calls : List RuleCall} (hrow : ∀ c ∈ calls, DrawnRowOK c) (u : Node) (d : Rat)
    (h : durOf calls u = some d) : 0 ≤ d := by
  unfold durOf at h
  rcases (tableOf_cases calls u).symm with ⟨c, hc, _, e⟩ | e0
  · rw [e] at h
    exact (hrow c hc).2.2 d h
  · rw [e0] at h
    cases h

/-- a run that every pure rule returning the drawn rows reproduces is the run of the event-queue model (with `heapq`'s
tie-breaking) whose rule is the table of these rows -/
theorem drawn_refines {nodes : List Node} {nbrs : Node → List Node} {tmin : Rat} {tmax : ERat} {calls : List RuleCall}
    {infs recs : List Node} {fuel : Nat} {σ : Loc} (hN : (calls.map (·.1)).Nodup)
    (hk : ∀ c ∈ calls, (c.2.2.1.map (·.1)).Nodup)
    (hJ : ∀ J, (∀ c ∈ calls, J c.1 c.2.1 = c.2.2) → ∀ ts0,
      run { nbrs := nbrs, order := nodes.length, tmin := tmin, tmax := tmax, transRec := pureRule J } infs recs fuel
        ts0 = .ok (σ, ts0)) :
    (EventSIR.run (drawnParams nodes nbrs tmin tmax calls) (fun _ => 0) infs recs fuel).queue = [] ∧
      OutRel infs.length σ (EventSIR.run (drawnParams nodes nbrs tmin tmax calls) (fun _ => 0) infs recs fuel) := by
  have hA : Agree (EArgs.mk nbrs nodes.length tmin tmax (pureRule (fun u _ => tableOf calls u)))
      (drawnParams nodes nbrs tmin tmax calls) :=
    ⟨rfl, rfl, rfl, rfl, fun _ _ => rfl⟩
  exact (run_refines hA (StepInv.ofWFJ (drawnParams_WFJ nodes nbrs tmin tmax calls hk)) infs recs trivial fuel
    ⟨[], #[]⟩ σ _ (hJ _ (tableOf_agrees calls hN) _)).2

theorem drawn_WF {nodes : List Node} {nbrs : Node → List Node} {infs recs : List Node} {calls : List RuleCall}
    (hG : WF nodes nbrs (fun _ _ => none) (fun _ => none) infs recs) (hrow : ∀ c ∈ calls, DrawnRowOK c) :
    WF nodes nbrs (delayOf calls) (durOf calls) infs recs :=
  { nodup := hG.nodup, nbr_nodup := hG.nbr_nodup, nbr_mem := hG.nbr_mem,
    delay_nonneg := drawn_delay_nonneg hrow, dur_nonneg := drawn_dur_nonneg hrow,
    infs_nodup := hG.infs_nodup, infs_mem := hG.infs_mem, recs_mem := hG.recs_mem, disjoint := hG.disjoint }

/-- the output of such a run is first-passage percolation of the drawn delays and durations: the invariant of the
event loop holds for every rule that returns rows of the tables, in any order -/
theorem drawn_fpp {nodes : List Node} {nbrs : Node → List Node} {tmin : Rat} {tmax : ERat} {calls : List RuleCall}
    {infs recs : List Node} {fuel : Nat} {σ : Loc}
    (hG : WF nodes nbrs (fun _ _ => none) (fun _ => none) infs recs) (hrow : ∀ c ∈ calls, DrawnRowOK c)
    (hP : ∀ c ∈ calls, ∃ p, c.2.1 = (nbrs c.1).filter p)
    (hq : (EventSIR.run (drawnParams nodes nbrs tmin tmax calls) (fun _ => 0) infs recs fuel).queue = [])
    (hO : OutRel infs.length σ (EventSIR.run (drawnParams nodes nbrs tmin tmax calls) (fun _ => 0) infs recs fuel)) :
    isFPP nodes nbrs (delayOf calls) (durOf calls) tmin tmax infs recs (genTrans σ) (genRecov nodes recs σ) = true := by
  rw [hO.genTrans_eq, hO.genRecov_eq]
  exact (Inv.run (drawn_WF hG hrow) (drawn_ruleFits hrow hP) (fun _ => 0) fuel).isFPP (drawn_WF hG hrow) hq

/-! ### reading results in closed examples (`TapeSt` holds an `Array`, compare lists) -/

/-- the returned value, the tape left over and the calls logged -/
def view {α : Type} (r : Except String (α × TapeSt)) : Except String (α × List Draw × List Call) :=
  match r with
  | .ok (a, ts) => .ok (a, ts.tape, ts.trace.toList)
  | .error e => .error e

end GenFSIRProofs

/-! ### data of the closed examples of `Props/C01f.lean` -/

/-- the path 0 – 1 – 2 -/
def c01fNb (u : Node) : List Node := match u with | 0 => [1] | 1 => [0, 2] | 2 => [1] | _ => []
def c01fTape : TapeSt :=
  ⟨[Draw.expo 2, Draw.expo 1, Draw.expo 3, Draw.expo (1/2), Draw.expo 1], #[]⟩
/-- the tables the run draws: node 0 lasts 2 and reaches 1 after 1; node 1 lasts 3 and reaches 2 after 1/2; node 2
lasts 1 and has no susceptible neighbour left -/
def c01fDelay (u v : Node) : ERat := if u = 0 ∧ v = 1 then some 1 else if u = 1 ∧ v = 2 then some (1/2) else none
def c01fDur (u : Node) : ERat := if u = 0 then some 2 else if u = 1 then some 3 else if u = 2 then some 1 else none

theorem c01fWF : WF [0, 1, 2] c01fNb (fun _ _ => none) (fun _ => none) [0] [] where
  nodup := by decide
  nbr_nodup := by decide
  nbr_mem := by decide
  delay_nonneg := by intro u v d h; cases h
  dur_nonneg := by intro u d h; cases h
  infs_nodup := by decide
  infs_mem := by decide
  recs_mem := by decide
  disjoint := by decide

theorem c01fNb_nodup : ∀ u, (c01fNb u).Nodup := by
  intro u; unfold c01fNb; split <;> decide

/-- the star 0 – {1, 2} -/
def c01fStar (u : Node) : List Node := match u with | 0 => [1, 2] | 1 => [0] | 2 => [0] | _ => []
def c01fStarTape : TapeSt :=
  ⟨[Draw.expo 2, Draw.binom 2, Draw.sample [1, 0], Draw.expo 1, Draw.expo 1,
    Draw.expo 1, Draw.binom 0, Draw.sample [], Draw.expo 1, Draw.binom 0, Draw.sample []], #[]⟩

theorem c01fStarWF : WF [0, 1, 2] c01fStar (fun _ _ => none) (fun _ => none) [0] [] where
  nodup := by decide
  nbr_nodup := by decide
  nbr_mem := by decide
  delay_nonneg := by intro u v d h; cases h
  dur_nonneg := by intro u d h; cases h
  infs_nodup := by decide
  infs_mem := by decide
  recs_mem := by decide
  disjoint := by decide
