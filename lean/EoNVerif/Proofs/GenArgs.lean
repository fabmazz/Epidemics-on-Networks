import EoNVerif.Gen.ArgsGen
import EoNVerif.Model.InitArgs
import EoNVerif.Proofs.InitHist
import EoNVerif.Proofs.TapeStep
import Mathlib.Data.List.Nodup
/-!
Helper lemmas for C05c: the generated argument normalisations (`Gen/ArgsGen.lean`, namespace `GenArgs`) against the hand
model `InitArgs.normInit`.

Six of the seven generated bodies are textually the same: `normCommon` below is that body, every `norm_X` is `rfl`-equal to
it; `norm_fast_nonMarkov_SIR` has one more guard.
-/
-- `PyPM` (the percolation runtime) supplies `Src = Node ⊕ List Node`, `PyArgs` the record `NArgs`, `sample`, `intRound`
open PyPM PyArgs

namespace GenArgsProofs

/-- the body shared by six of the seven generated functions (a copy of the generated text, tied to Gen/ArgsGen.lean by the
six `…_eq : … := rfl` below) -/
def normCommon (A : NArgs) (rho : Option Rat) (initial_infecteds : Option Src) : TM (List Node) := do
  if (rho.isSome && initial_infecteds.isSome) then TM.fail "EoNError" else
  let initial_infecteds ← (match initial_infecteds with
    | none => do
      let initial_number : Int := (match rho with | none => (1 : Int) | some rho => (PyArgs.intRound (((A.order : Int) : Rat) * rho)))
      let s_ ← PyArgs.sample A.nodes initial_number
      pure s_
    | some initial_infecteds => do
      if A.hasNodeS initial_infecteds then do
        let l_ ← PyTM.liftE (PyArgs.listOf initial_infecteds)
        pure l_
      else PyTM.liftE (PyArgs.asIterable initial_infecteds))
  pure initial_infecteds

theorem discrete_SIR_eq (A : NArgs) (rho : Option Rat) (ii recs : Option Src) :
    GenArgs.norm_discrete_SIR A rho ii recs = normCommon A rho ii := rfl
theorem basic_discrete_SIS_eq (A : NArgs) (rho : Option Rat) (ii recs : Option Src) :
    GenArgs.norm_basic_discrete_SIS A rho ii recs = normCommon A rho ii := rfl
theorem fast_SIS_eq (A : NArgs) (rho : Option Rat) (ii recs : Option Src) :
    GenArgs.norm_fast_SIS A rho ii recs = normCommon A rho ii := rfl
theorem fast_nonMarkov_SIS_eq (A : NArgs) (rho : Option Rat) (ii recs : Option Src) :
    GenArgs.norm_fast_nonMarkov_SIS A rho ii recs = normCommon A rho ii := rfl
theorem Gillespie_SIR_eq (A : NArgs) (rho : Option Rat) (ii recs : Option Src) :
    GenArgs.norm_Gillespie_SIR A rho ii recs = normCommon A rho ii := rfl
theorem Gillespie_SIS_eq (A : NArgs) (rho : Option Rat) (ii recs : Option Src) :
    GenArgs.norm_Gillespie_SIS A rho ii recs = normCommon A rho ii := rfl

theorem fast_nonMarkov_SIR_eq (A : NArgs) (rho : Option Rat) (ii recs : Option Src) :
    GenArgs.norm_fast_nonMarkov_SIR A rho ii recs =
      if (rho.isSome && recs.isSome) = true ∧ ii = none then TM.fail "EoNError" else normCommon A rho ii := by
  cases rho <;> cases ii <;> cases recs <;> rfl

theorem fast_nonMarkov_SIR_recs_none (A : NArgs) (rho : Option Rat) (ii : Option Src) :
    GenArgs.norm_fast_nonMarkov_SIR A rho ii none = normCommon A rho ii := by
  cases rho <;> cases ii <;> rfl

theorem fast_nonMarkov_SIR_rho_none (A : NArgs) (ii recs : Option Src) :
    GenArgs.norm_fast_nonMarkov_SIR A none ii recs = normCommon A none ii := rfl

theorem map_getD_range_self (n : Nat) (idx : List Nat) (h : ∀ i ∈ idx, i < n) :
    (idx.map fun i => (List.range n).getD i 0) = idx := by
  induction idx with
  | nil => rfl
  | cons a t ih =>
    have ha : a < n := h a (List.mem_cons_self)
    rw [List.map_cons, ih (fun i hi => h i (List.mem_cons_of_mem _ hi))]
    simp [List.getD_eq_getElem?_getD, ha]

/-- `random.sample(population, k)`: the scripted indices, then the items at them -/
theorem sample_eq (pop : List Node) (k : Int) (ts : TapeSt) :
    PyArgs.sample pop k ts =
      if k < 0 then .error "ValueError" else
      match TM.popSample pop.length k.toNat ts with
      | .ok (idx, ts') => .ok (idx.map (fun i => pop.getD i 0), ts')
      | .error e => .error e := by
  unfold PyArgs.sample
  by_cases hk : k < 0
  · simp only [hk, if_true]; rfl
  · simp only [hk, if_false]
    show (TM.popSample pop.length k.toNat >>= fun idx =>
      PyTM.liftE (idx.mapM fun i => PyRT.listChoice pop i)) ts = _
    simp only [bind, StateT.bind, Except.bind]
    cases hp : TM.popSample pop.length k.toNat ts with
    | error e => rfl
    | ok p =>
      obtain ⟨idx, ts'⟩ := p
      have h3 := (InitArgs.popSample_ok _ _ _ _ _ hp).2.2
      simp only [PyTM.liftE, PyRT.mapM_listChoice pop 0 idx h3]

theorem sample_range (n : Nat) (k : Int) (ts : TapeSt) :
    PyArgs.sample (List.range n) k ts =
      if k < 0 then .error "ValueError" else TM.popSample n k.toNat ts := by
  rw [sample_eq]
  by_cases hk : k < 0
  · simp only [hk, if_true]
  · simp only [hk, if_false, List.length_range]
    cases hp : TM.popSample n k.toNat ts with
    | error e => rfl
    | ok p =>
      obtain ⟨idx, ts'⟩ := p
      have h3 := (InitArgs.popSample_ok _ _ _ _ _ hp).2.2
      simp only [map_getD_range_self n idx h3]

theorem sample_ok (pop : List Node) (k : Int) (ts ts' : TapeSt) (l : List Node)
    (h : PyArgs.sample pop k ts = .ok (l, ts')) :
    0 ≤ k ∧ k ≤ pop.length ∧
    ∃ idx, TM.popSample pop.length k.toNat ts = .ok (idx, ts') ∧ l = idx.map (fun i => pop.getD i 0) ∧
      idx.length = k.toNat ∧ idx.Nodup ∧ (∀ i ∈ idx, i < pop.length) ∧
      (l.length : Int) = k ∧ (∀ u ∈ l, u ∈ pop) ∧ (pop.Nodup → l.Nodup) := by
  rw [sample_eq] at h
  split at h
  · cases h
  · rename_i hk
    have hk0 : 0 ≤ k := by omega
    split at h
    · rename_i idx ts1 hp
      cases h
      obtain ⟨h1, h2, h3⟩ := InitArgs.popSample_ok _ _ _ _ _ hp
      have hle : k ≤ pop.length := by
        unfold TM.popSample at hp
        split at hp
        · cases hp
        · omega
      refine ⟨hk0, hle, idx, hp, rfl, h1, h2, h3, ?_, ?_, ?_⟩
      · rw [List.length_map, h1]; omega
      · intro u hu
        obtain ⟨i, hi, rfl⟩ := List.mem_map.mp hu
        have := h3 i hi
        simp [List.getD_eq_getElem?_getD, this]
      · intro hnd
        refine List.Nodup.map_on ?_ h2
        intro i hi j hj hij
        have hi' := h3 i hi
        have hj' := h3 j hj
        simp only [List.getD_eq_getElem?_getD, List.getElem?_eq_getElem hi', List.getElem?_eq_getElem hj',
          Option.getD_some] at hij
        exact (List.Nodup.getElem_inj_iff hnd).mp hij
    · cases h

theorem sample_big (pop : List Node) (k : Int) (ts : TapeSt) (h : (pop.length : Int) < k) :
    PyArgs.sample pop k ts = .error "ValueError" := by
  rw [sample_eq, if_neg (by omega)]
  have : k.toNat > pop.length := by omega
  simp only [TM.popSample, this, if_true]

theorem popSample_ne_EoNError (n k : Nat) (ts : TapeSt) : TM.popSample n k ts ≠ .error "EoNError" := by
  have ne : ∀ {e : String}, e ≠ "EoNError" → (Except.error e : Except String (List Nat × TapeSt)) ≠ .error "EoNError" :=
    fun hne h => hne (Except.error.inj h)
  unfold TM.popSample
  split
  · exact ne (by decide)
  · split
    · split
      · exact fun h => nomatch h
      · exact ne (by decide)
    · exact ne (by decide)
    · exact ne (by decide)

theorem sample_ne_EoNError (pop : List Node) (k : Int) (ts : TapeSt) :
    PyArgs.sample pop k ts ≠ .error "EoNError" := by
  rw [sample_eq]
  intro h
  split at h
  · injection h with h; revert h; decide
  · split at h
    · cases h
    · rename_i e he
      injection h with h
      subst h
      exact popSample_ne_EoNError _ _ _ he

theorem normCommon_both (A : NArgs) (r : Rat) (x : Src) (ts : TapeSt) :
    normCommon A (some r) (some x) ts = .error "EoNError" := rfl

theorem normCommon_nodes (A : NArgs) (l : List Node) (ts : TapeSt) :
    normCommon A none (some (.inr l)) ts = .ok (l, ts) := rfl

/-- a scalar: the one-element list if it is a node of the graph, otherwise it is not iterable -/
theorem normCommon_scalar (A : NArgs) (u : Node) (ts : TapeSt) :
    normCommon A none (some (.inl u)) ts = if u ∈ A.nodes then .ok ([u], ts) else .error "TypeError" := by
  unfold normCommon
  by_cases h : u ∈ A.nodes
  · simp only [Option.isSome_none, Bool.false_and, NArgs.hasNodeS, List.contains_eq_mem, h, decide_true, if_true]
    rfl
  · simp only [Option.isSome_none, Bool.false_and, NArgs.hasNodeS, List.contains_eq_mem, h, decide_false, if_false]
    rfl

/-- `initial_number`: 1, or `int(round(G.order()*rho))` -/
def initialNumber (N : Nat) : Option Rat → Int
  | none => 1
  | some r => PyArgs.intRound ((N : Rat) * r)

/-- `initial_infecteds` not given: `random.sample(list(G), initial_number)` -/
theorem normCommon_sample (A : NArgs) (rho : Option Rat) (ts : TapeSt) :
    normCommon A rho none ts = PyArgs.sample A.nodes (initialNumber A.nodes.length rho) ts := by
  unfold normCommon
  cases rho with
  | none => rfl
  | some r =>
    simp only [Option.isSome_none, Bool.and_false, initialNumber, NArgs.order, Int.cast_natCast]
    rfl

/-- the ten simulators with a generated argument normalisation (seven bodies, three forwarding wrappers) -/
inductive Sim
  | discrete_SIR | basic_discrete_SIS | fast_nonMarkov_SIR | fast_SIS | fast_nonMarkov_SIS | Gillespie_SIR | Gillespie_SIS
  | fast_SIR | basic_discrete_SIR | percolation_based_discrete_SIR
deriving DecidableEq, Repr

def Sim.norm : Sim → NArgs → Option Rat → Option Src → Option Src → TM (List Node)
  | .discrete_SIR => GenArgs.norm_discrete_SIR
  | .basic_discrete_SIS => GenArgs.norm_basic_discrete_SIS
  | .fast_nonMarkov_SIR => GenArgs.norm_fast_nonMarkov_SIR
  | .fast_SIS => GenArgs.norm_fast_SIS
  | .fast_nonMarkov_SIS => GenArgs.norm_fast_nonMarkov_SIS
  | .Gillespie_SIR => GenArgs.norm_Gillespie_SIR
  | .Gillespie_SIS => GenArgs.norm_Gillespie_SIS
  | .fast_SIR => GenArgs.norm_fast_SIR
  | .basic_discrete_SIR => GenArgs.norm_basic_discrete_SIR
  | .percolation_based_discrete_SIR => GenArgs.norm_percolation_based_discrete_SIR

/-- the simulators that also reject `rho` together with `initial_recovereds` (`fast_nonMarkov_SIR` and its wrapper) -/
def Sim.guardsRecs : Sim → Bool
  | .fast_nonMarkov_SIR => true
  | .fast_SIR => true
  | _ => false

theorem Sim.guardsRecs_iff (X : Sim) : X.guardsRecs = true ↔ X = .fast_nonMarkov_SIR ∨ X = .fast_SIR := by
  cases X <;> decide

theorem Sim.norm_unguarded (X : Sim) (h : X.guardsRecs = false) (A : NArgs) (rho : Option Rat) (ii recs : Option Src) :
    X.norm A rho ii recs = normCommon A rho ii := by
  cases X <;> first | rfl | cases h

theorem Sim.norm_guarded (X : Sim) (h : X.guardsRecs = true) (A : NArgs) (rho : Option Rat) (ii recs : Option Src) :
    X.norm A rho ii recs =
      if (rho.isSome && recs.isSome) = true ∧ ii = none then TM.fail "EoNError" else normCommon A rho ii := by
  rcases X.guardsRecs_iff.mp h with rfl | rfl <;> exact fast_nonMarkov_SIR_eq A rho ii recs

theorem Sim.norm_eq (X : Sim) (A : NArgs) (rho : Option Rat) (ii recs : Option Src)
    (h : X.guardsRecs = true → rho = none ∨ recs = none ∨ ii.isSome = true) :
    X.norm A rho ii recs = normCommon A rho ii := by
  cases hg : X.guardsRecs with
  | false => exact X.norm_unguarded hg A rho ii recs
  | true =>
    rw [X.norm_guarded hg, if_neg]
    rintro ⟨h1, h2⟩
    rcases h hg with h | h | h
    · subst h; simp at h1
    · subst h; simp at h1
    · subst h2; simp at h

end GenArgsProofs
