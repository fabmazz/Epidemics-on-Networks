import EoNVerif.Gen.GillespieGen
import EoNVerif.Proofs.GenChoose
import EoNVerif.Proofs.Gillespie
/-!
Refinement (C01e / C02c): the Lean code GENERATED statement by statement from the Python functions `Gillespie_SIR` /
`Gillespie_SIS` (`EoNVerif/Gen/GillespieGen.lean`) and the hand-written model (`EoNVerif/Model/Gillespie.lean`) simulate
each other on every tape: same final tape state (same logged RNG calls), related final states; and the generated code
never raises `KeyError`.

The two generated functions have different locals (`GenGSIR.Loc` has an `R` row) but the same shape.  What does not
depend on the locals is stated once, over an arbitrary type `Λ` of locals, in `GenGillespie`; each function then
supplies its own pieces.
-/

/-! ### the model's loop, regrouped like the generated code (draw; event branch; clock) -/
namespace Gillespie
open TM

def mRec (P : GParams) (s : GState) (cfuel : Nat) (tv : Rat) : TM GState :=
  chooseTM encNode s.inf cfuel >>= fun u => ofOpt (applyRec P s u tv)

def mTrans (P : GParams) (s : GState) (cfuel : Nat) (tv : Rat) : TM GState :=
  chooseTM encLink s.links cfuel >>= fun p => ofOpt (applyTrans P s p.1 p.2 tv)

def mTail (P : GParams) (tv : Rat) (k : GState → ERat → TM GState) (s' : GState) : TM GState :=
  if totalRate P s' > 0 then TM.popExpo (totalRate P s') >>= fun d => k s' (some (tv + d)) else k s' none

theorem ofOpt_bind {α β : Type} (o : Option α) (k : α → TM β) :
    (ofOpt o >>= k) = match o with
      | none => TM.fail "KeyError"
      | some a => k a := by
  cases o <;> rfl

/-- the generated test `len(infecteds) > 0 and t < tmax` against the model's exit condition -/
theorem guard_iff {α : Type} (l : List α) (b : Bool) :
    (decide (l.length > 0) && b) = true ↔ ¬ (l.isEmpty ∨ (!b) = true) := by
  cases l <;> cases b <;> simp

theorem loop_succ_some (P : GParams) (tmax : ERat) (cfuel fuel : Nat) (s : GState) (tv : Rat) :
    loop P tmax cfuel (fuel + 1) s (some tv) =
      if (decide (s.inf.items.length > 0) && ERat.lt (some tv) tmax) = true then
        TM.popUnif >>= fun r =>
          (if r < recThr P s then mRec P s cfuel tv else mTrans P s cfuel tv) >>=
            mTail P tv (loop P tmax cfuel fuel)
      else pure s := by
  rw [loop]
  split
  · rw [if_neg (fun h => (guard_iff _ _).1 h ‹_›)]
  · rw [if_pos ((guard_iff _ _).2 ‹_›)]
    unfold pick
    rw [bind_assoc]
    congr 1
    funext r
    split
    · unfold mRec
      rw [bind_assoc, bind_assoc]
      congr 1
      funext u
      rw [pure_bind, ofOpt_bind]
      simp only [applyEvent]
      cases applyRec P s u tv <;> rfl
    · unfold mTrans
      rw [bind_assoc, bind_assoc]
      congr 1
      funext p
      obtain ⟨u, v⟩ := p
      rw [pure_bind, ofOpt_bind]
      simp only [applyEvent]
      cases applyTrans P s u v tv <;> rfl

/-- after an event the log has one more entry and the rows are still non-empty (so that the generated `S[-1]`, `I[-1]`,
`R[-1]` do not raise) -/
theorem applyRec_rows (P : GParams) (s s' : GState) (u : Node) (t : Rat) (h : applyRec P s u t = some s') :
    s'.log = (t, .recover u) :: s.log ∧ s'.S ≠ [] ∧ s'.I ≠ [] ∧ (s.R ≠ [] → s'.R ≠ []) := by
  obtain ⟨-, -, hS, hI, hR, hlog⟩ := applyRec_shape P s s' u t h
  refine ⟨hlog, hS ▸ List.cons_ne_nil _ _, hI ▸ List.cons_ne_nil _ _, fun h0 => ?_⟩
  rw [hR]; split
  · exact h0
  · exact List.cons_ne_nil _ _

theorem applyTrans_rows (P : GParams) (s s' : GState) (u v : Node) (t : Rat) (h : applyTrans P s u v t = some s') :
    s'.log = (t, .transmit u v) :: s.log ∧ s'.S ≠ [] ∧ s'.I ≠ [] ∧ (s.R ≠ [] → s'.R ≠ []) := by
  obtain ⟨-, -, hS, hI, hR, hlog⟩ := applyTrans_shape P s s' u v t h
  refine ⟨hlog, hS ▸ List.cons_ne_nil _ _, hI ▸ List.cons_ne_nil _ _, fun h0 => ?_⟩
  rw [hR]; split
  · exact h0
  · exact List.cons_ne_nil _ _

end Gillespie

namespace GenGillespie
open Gillespie TM

/-- where the locals `Λ` of a generated function keep the statuses and the structure `IS_links` -/
structure Links (Λ : Type) where
  status : Λ → Node → St
  get : Λ → GenLD.PyLD (Node × Node)
  set : Λ → GenLD.PyLD (Node × Node) → Λ
  status_set : ∀ σ p, status (set σ p) = status σ
  get_set : ∀ σ p, get (set σ p) = p
  set_set : ∀ σ a b, set (set σ a) b = set σ b
  set_get : ∀ σ, set σ (get σ) = σ

/-- one pass through the body of a neighbour loop: at most one `_ListDict_` operation on the link structure -/
def Links.step {Λ : Type} (L : Links Λ) (σ : Λ) : Option LOp → TM Λ
  | none => pure σ
  | some o => PyTM.liftE (GenLD.applyOp (L.get σ) o) >>= fun p => pure (L.set σ p)

/-- **neighbour loops.**  A generated `for nbr in G.neighbors(u)` loop whose body performs the operation `g status nbr`
on the link structure, chosen by the statuses only, does what the hand model does with the batch of those operations:
from locals with statuses `st` and link structure `p0` it returns normally, having changed only the link structure, to
a related one `p'`. -/
theorem ops_fold {Λ : Type} (L : Links Λ) (g : (Node → St) → Node → Option LOp) (body : Λ → Node → TM Λ)
    (hb : ∀ σ n, body σ n = L.step σ (g (L.status σ) n)) (st : Node → St) (l : List Node)
    (hw : ∀ o ∈ l.filterMap (g st), o.nonneg) (p0 : GenLD.PyLD (Node × Node)) (links links' : LD (Node × Node))
    (hR : GenLD.R p0 links) (hI : LD.Inv links) (h : links.applyOps (l.filterMap (g st)) = some links') :
    ∃ p', GenLD.R p' links' ∧
      ∀ σ : Λ, L.status σ = st → L.get σ = p0 → l.foldlM body σ = pure (L.set σ p') := by
  obtain ⟨p', hp', hR'⟩ := GenLD.applyOps_sim_from p0 links links' _ hR hI hw h
  refine ⟨p', hR', fun σ hst hσ => ?_⟩
  subst hσ
  clear hR' hR hI h hw
  induction l generalizing σ with
  | nil =>
    obtain rfl := Except.ok.inj hp'
    rw [L.set_get]; rfl
  | cons n rest ih =>
    rw [List.foldlM_cons, hb, hst]
    rw [List.filterMap_cons] at hp'
    cases hgn : g st n with
    | none =>
      rw [hgn] at hp'
      exact (pure_bind _ _).trans (ih σ hst hp')
    | some o =>
      rw [hgn] at hp'
      simp only [GenLD.applyOps] at hp'
      cases happ : GenLD.applyOp (L.get σ) o with
      | error e => rw [happ] at hp'; cases hp'
      | ok p1 =>
        rw [happ] at hp'
        simp only [Links.step, happ, TM.liftE_ok_bind, pure_bind]
        rw [ih (L.set σ p1) ((L.status_set σ p1).trans hst) (by rw [L.get_set]; exact hp'), L.set_set]

/-- every weight the neighbour loops pass to `update` is an edge weight, hence non-negative -/
theorem upd_edgeW_nonneg {P : GParams} (hwf : WF P) (p : Node × Node) (a b : Node) :
    (LD.Op.upd p (edgeW P a b)).nonneg := by
  cases hw : edgeW P a b with
  | none => trivial
  | some x => exact edgeW_nonneg P hwf a b x hw

theorem initLinksOps_nonneg {P : GParams} (hwf : WF P) (st : Node → St) (v : Node) (l : List Node) :
    ∀ o ∈ initLinksOps P st v l, o.nonneg := by
  intro o ho
  obtain ⟨n, -, hg⟩ := List.mem_filterMap.1 ho
  unfold initOp at hg
  split at hg <;> cases hg
  exact upd_edgeW_nonneg hwf _ _ _

theorem recSIROps_nonneg (st : Node → St) (u : Node) (l : List Node) : ∀ o ∈ recSIROps st u l, o.nonneg := by
  intro o ho
  obtain ⟨n, -, hg⟩ := List.mem_filterMap.1 ho
  unfold recSIROp at hg
  split at hg <;> cases hg
  trivial

theorem recSISOps_nonneg {P : GParams} (hwf : WF P) (st : Node → St) (u : Node) (l : List Node) :
    ∀ o ∈ recSISOps P st u l, o.nonneg := by
  intro o ho
  obtain ⟨n, -, hg⟩ := List.mem_filterMap.1 ho
  unfold recSISOp at hg
  split at hg
  · cases hg
  · split at hg <;> cases hg
    · trivial
    · exact upd_edgeW_nonneg hwf _ _ _

theorem transOps_nonneg {P : GParams} (hwf : WF P) (st : Node → St) (v : Node) (l : List Node) :
    ∀ o ∈ transOps P st v l, o.nonneg := by
  intro o ho
  obtain ⟨n, -, hg⟩ := List.mem_filterMap.1 ho
  unfold transOp at hg
  split at hg
  · cases hg
    exact upd_edgeW_nonneg hwf _ _ _
  · split at hg <;> cases hg
    trivial

/-- the arguments `A` read by the generated code describe the same network / rates / options as the model's `P` -/
structure Agree (A : PyTM.GArgs) (P : GParams) (tmin : Rat) (tmax : ERat) (cfuel : Nat) : Prop where
  nbrs : A.nbrs = P.nbrs
  order : A.order = P.nodes.length
  tau : A.tau = P.tau
  gamma : A.gamma = P.gamma
  tmin : A.tmin = tmin
  tmax : A.tmax = tmax
  cfuel : A.cfuel = cfuel
  hasTW : A.hasTW = P.ew.isSome
  hasRW : A.hasRW = P.nw.isSome
  adjw : ∀ f, P.ew = some f → A.adjw = f
  nodew : ∀ f, P.nw = some f → A.nodew = f

variable {A : PyTM.GArgs} {P : GParams} {tmin : Rat} {tmax : ERat} {cfuel : Nat}

theorem Agree.edgeweight_sir (h : Agree A P tmin tmax cfuel) (u v : Node) :
    GenGSIR.edgeweight A u v = edgeW P u v := by
  unfold GenGSIR.edgeweight edgeW
  rw [h.hasTW]
  cases hf : P.ew with
  | none => rfl
  | some f => simp [h.adjw f hf]

theorem Agree.nodeweight_sir (h : Agree A P tmin tmax cfuel) (u : Node) :
    GenGSIR.nodeweight A u = nodeW P u := by
  unfold GenGSIR.nodeweight nodeW
  rw [h.hasRW]
  cases hf : P.nw with
  | none => rfl
  | some f => simp [h.nodew f hf]

theorem Agree.edgeweight_sis (h : Agree A P tmin tmax cfuel) (u v : Node) :
    GenGSIS.edgeweight A u v = edgeW P u v := h.edgeweight_sir u v

theorem Agree.nodeweight_sis (h : Agree A P tmin tmax cfuel) (u : Node) :
    GenGSIS.nodeweight A u = nodeW P u := h.nodeweight_sir u

theorem Agree.totalRate (h : Agree A P tmin tmax cfuel) (s : GState) :
    A.gamma * s.inf.totalWeight + A.tau * s.links.totalWeight = totalRate P s := by
  rw [h.gamma, h.tau]; rfl

/-- the `transmissions` entries appended for the model's logged events, oldest first (`s.log` is newest-first) -/
def transLog (log : List (Rat × GEvent)) : List (ERat × Option Node × Node) :=
  log.reverse.filterMap fun x =>
    match x.2 with
    | .transmit u v => some (some x.1, some u, v)
    | .recover _ => none

/-- the entries written for the initial infecteds -/
def initTrans (tmin : Rat) (infs : List Node) : List (ERat × Option Node × Node) :=
  infs.map fun n => (some tmin, none, n)

theorem transLog_nil : transLog [] = [] := rfl

theorem transLog_rec (t : Rat) (u : Node) (log : List (Rat × GEvent)) :
    transLog ((t, .recover u) :: log) = transLog log := by
  simp [transLog, List.filterMap_append]

theorem transLog_trans (t : Rat) (u v : Node) (log : List (Rat × GEvent)) :
    transLog ((t, .transmit u v) :: log) = transLog log ++ [(some t, some u, v)] := by
  simp [transLog, List.filterMap_append]

/-- between two pairs of states, `transmissions` stayed `(some prefix) ++ (entries of the model's logged
transmissions)`; this is how the full-data bookkeeping is carried through the loop from wherever it starts -/
def TrStep (full : Bool) (tr : List (ERat × Option Node × Node)) (s : GState)
    (tr' : List (ERat × Option Node × Node)) (s' : GState) : Prop :=
  full = true → ∀ tr0, tr = tr0 ++ transLog s.log → tr' = tr0 ++ transLog s'.log

theorem TrStep.trans {full : Bool} {t1 t2 t3 : List (ERat × Option Node × Node)} {s1 s2 s3 : GState}
    (h1 : TrStep full t1 s1 t2 s2) (h2 : TrStep full t2 s2 t3 s3) : TrStep full t1 s1 t3 s3 :=
  fun hf tr0 h0 => h2 hf tr0 (h1 hf tr0 h0)

theorem initStatus_eq (infs recs : List Node) :
    recs.foldl (fun st n => fset st n St.R) (infs.foldl (fun st n => fset st n St.I) (fun _ => St.S)) =
      Gillespie.initStatus infs recs := by
  funext v
  rw [foldl_fset, foldl_fset]
  rfl

/-! #### the output rows: the generated code appends, the model conses -/

theorem getLast_row {row mrow : List Int} (h : row = mrow.reverse) (hne : mrow ≠ []) :
    row.getLast? = some (hd mrow) := by
  obtain ⟨a, r, rfl⟩ := List.exists_cons_of_ne_nil hne
  simp [h, hd]

/-- `S[-1]` etc. -/
theorem listLast_row {row mrow : List Int} (h : row = mrow.reverse) (hne : mrow ≠ []) :
    PyTM.listLast row = .ok (hd mrow) :=
  PyTM.listLast_of_getLast? (getLast_row h hne)

theorem row_append {β : Type} {row mrow : List β} (h : row = mrow.reverse) (x : β) :
    row ++ [x] = (x :: mrow).reverse := by
  rw [h, List.reverse_cons]

theorem times_append {times : List ERat} {mt : List Rat} (h : times = mt.reverse.map some) {t : ERat} {tv : Rat}
    (ht : t = some tv) : times ++ [t] = (tv :: mt).reverse.map some := by
  rw [h, ht, List.reverse_cons, List.map_append]; rfl

section Choose
variable {α : Type} [DecidableEq α]

/-- **an event**: the selection, then statements `K` that only compute, against the model's selection and its pure
step `app` -/
theorem event_bisim {Λ : Type} (enc : α → List Nat) {p : GenLD.PyLD α} {l : LD α} (hR : GenLD.R p l) (hI : LD.Inv l)
    (fuel : Nat) (K : GenLD.PyLD α × α → TM Λ) (app : α → Option GState) (Q : Λ → GState → Prop)
    (h : ∀ c ∈ l.items, ∃ σ' s', K (p, c) = pure σ' ∧ app c = some s' ∧ Q σ' s') :
    Bisim (GenLD.choose_random_tm enc p fuel >>= K) (chooseTM enc l fuel >>= fun c => ofOpt (app c)) Q := by
  refine (GenLD.choose_bisim enc p l hR hI fuel).bind ?_
  rintro _ c ⟨rfl, hmem⟩
  obtain ⟨σ', s', hK, happ, hQ⟩ := h c hmem
  rw [hK, happ]
  exact .pure hQ

end Choose

/-- **clock draw**: with the model's total rate, the generated `if total_rate > 0: delay = expovariate(total_rate)
else: delay = inf` draws what the model draws; `c d` are the locals after the draw `d` -/
theorem clock_bisim {Λ : Type} (s : GState) (tv : Rat) (c : ERat → Λ) (k : Λ → TM Λ)
    (k' : GState → ERat → TM GState) (Q : Λ → GState → Prop)
    (hk : ∀ d : ERat, (∀ tv', ERat.add (some tv) d = some tv' → 0 < totalRate P s) →
      Bisim (k (c d)) (k' s (ERat.add (some tv) d)) Q) :
    Bisim (if decide (totalRate P s > 0) = true then TM.popExpo (totalRate P s) >>= fun d => k (c (some d))
      else k (c none)) (mTail P tv k' s) Q := by
  unfold mTail
  by_cases hpos : totalRate P s > 0
  · rw [if_pos (decide_eq_true hpos), if_pos hpos]
    refine Bisim.bind (Bisim.same (NoKE.popExpo _)) ?_
    rintro d _ rfl
    exact hk (some d) (fun _ _ => hpos)
  · rw [if_neg (fun h => hpos (of_decide_eq_true h)), if_neg hpos]
    exact hk none (fun _ h => by cases h)

/-- **the `while` loop of both generated functions**, given by its unfolding `hs`: the test `go`; a uniform draw compared
with `thr`; `infecteds.random_removal()` and the recovery statements `recRest`, or `IS_links.choose_random()` and the
transmission statements `transRest`; then the clock statements `clock` around the next iteration.  If the pieces match
the model's under an invariant (`L` before the test, `M tv` after an event at time `tv`; `hrec`, `htrans`, `hclock` have
the form of the lemmas each function proves about its pieces), the two loops simulate each other, the generated one
raises no `KeyError`, and the `transmissions` list `tr` follows the model's log. -/
theorem while_bisim {Λ : Type} (loopΛ : Nat → Λ → TM Λ) (inf : Λ → GenLD.PyLD Node)
    (lk : Λ → GenLD.PyLD (Node × Node)) (tr : Λ → List (ERat × Option Node × Node)) (full : Bool) (cf : Nat)
    (go : Λ → Bool) (thr : Λ → Except String Rat) (recRest : Λ → GenLD.PyLD Node → Node → TM Λ)
    (transRest : Λ → GenLD.PyLD (Node × Node) → Node × Node → TM Λ) (clock : (Λ → TM Λ) → Λ → TM Λ)
    (h0 : ∀ σ, loopΛ 0 σ = TM.fail "fuel")
    (hs : ∀ fuel σ, loopΛ (fuel + 1) σ =
      if go σ = true then
        TM.popUnif >>= fun u => PyTM.liftE (thr σ) >>= fun q =>
          (if decide (u < q) = true then
            GenLD.random_removal_tm PyTM.encNode (inf σ) cf >>= fun x => recRest σ x.1 x.2
          else GenLD.choose_random_tm PyTM.encLink (lk σ) cf >>= fun x => transRest σ x.1 x.2) >>=
            clock (loopΛ fuel)
      else pure σ)
    (hcf : cf = cfuel) (L : Λ → GState → ERat → Prop) (M : Rat → Λ → GState → Prop)
    (hL : ∀ σ s t, L σ s t → GenLD.R (inf σ) s.inf ∧ GenLD.R (lk σ) s.links ∧ Gillespie.Inv P s)
    (hgo : ∀ σ s t, L σ s t → go σ = (decide (s.inf.items.length > 0) && ERat.lt t tmax))
    (hthr : ∀ σ s tv, L σ s (some tv) → thr σ = .ok (recThr P s))
    (hrec : ∀ σ s tv, L σ s (some tv) → ∀ u ∈ s.inf.items, ∃ l σ' s', GenLD.remove (inf σ) u = .ok l ∧
      recRest σ l u = pure σ' ∧ applyRec P s u tv = some s' ∧ M tv σ' s' ∧ TrStep full (tr σ) s (tr σ') s')
    (htrans : ∀ σ s tv, L σ s (some tv) → ∀ u v, (u, v) ∈ s.links.items → ∃ σ' s',
      transRest σ (lk σ) (u, v) = pure σ' ∧ applyTrans P s u v tv = some s' ∧ M tv σ' s' ∧
        TrStep full (tr σ) s (tr σ') s')
    (hclock : ∀ σ s tv, M tv σ s → ∀ (k : Λ → TM Λ) (k' : GState → ERat → TM GState) (Q : Λ → GState → Prop),
      (∀ σ' t', L σ' s t' → tr σ' = tr σ → Bisim (k σ') (k' s t') Q) → Bisim (clock k σ) (mTail P tv k' s) Q)
    (fuel : Nat) (σ₀ : Λ) (s₀ : GState) :
    ∀ σ s t, L σ s t → TrStep full (tr σ₀) s₀ (tr σ) s →
      Bisim (loopΛ fuel σ) (Gillespie.loop P tmax cfuel fuel s t)
        fun σ' s' => (∃ t', L σ' s' t') ∧ TrStep full (tr σ₀) s₀ (tr σ') s' := by
  subst hcf
  induction fuel with
  | zero =>
    intro σ s t _ _
    rw [h0, Gillespie.loop]
    exact Bisim.of_fails (.fail _ (by decide)) (.fail _ (by decide))
  | succ fuel ih =>
    intro σ s t h htr
    rw [hs, hgo σ s t h]
    cases t with
    | none =>
      rw [Gillespie.loop, if_neg (by simp [ERat.lt])]
      exact Bisim.pure ⟨⟨none, h⟩, htr⟩
    | some tv =>
      obtain ⟨hRi, hRl, hinv⟩ := hL σ s _ h
      rw [loop_succ_some]
      refine Bisim.ite (fun _ => ?_) (fun _ => Bisim.pure ⟨⟨some tv, h⟩, htr⟩)
      refine Bisim.bind (Bisim.same NoKE.popUnif) ?_
      rintro r _ rfl
      rw [hthr σ s tv h, TM.liftE_ok_bind]
      refine Bisim.bind (Q := fun σ1 s1 => M tv σ1 s1 ∧ TrStep full (tr σ₀) s₀ (tr σ1) s1) ?_ fun σ1 s1 hm =>
        hclock σ1 s1 tv hm.1 _ _ _ fun σ2 t2 h2 he => ih σ2 s1 t2 h2 (he ▸ hm.2)
      simp only [decide_eq_true_eq]
      refine Bisim.ite (fun _ => ?_) (fun _ => ?_)
      · -- `random_removal()` is `choose_random()` followed by `remove`
        unfold GenLD.random_removal_tm mRec
        rw [bind_assoc]
        refine event_bisim PyTM.encNode hRi hinv.infInv cf _ _ _ fun u hmem => ?_
        obtain ⟨l, σ', s', hl, hσ', happ, hm, hstep⟩ := hrec σ s tv h u hmem
        exact ⟨σ', s', by dsimp only; rw [bind_assoc, hl, TM.liftE_ok_bind, pure_bind, hσ'], happ, hm,
          htr.trans hstep⟩
      · refine event_bisim PyTM.encLink hRl hinv.linkInv cf _ _ _ fun ⟨u, v⟩ hmem => ?_
        obtain ⟨σ', s', hσ', happ, hm, hstep⟩ := htrans σ s tv h u v hmem
        exact ⟨σ', s', hσ', happ, hm, htr.trans hstep⟩

end GenGillespie

/-! ### the generated `Gillespie_SIR` cut into named parts (each is the generated text, verbatim: a change of the generated
text is caught by `loop_succ` and `run_eq`, which are proved by `rfl`) -/
namespace GenGSIR
open PyTM

def recBody (recovering_node : Node) : Loc → Node → TM Loc := fun (σ : Loc) (nbr : Node) => do
          let σ ← (if (decide ((σ.status nbr) = St.S)) then do
            let l_14 ← PyTM.liftE (GenLD.remove σ.IS_links (recovering_node, nbr))
            let σ := { σ with IS_links := l_14 }
            pure σ
          else do
            pure σ)
          pure σ

def transBody (P : PyTM.GArgs) (recipient : Node) : Loc → Node → TM Loc := fun (σ : Loc) (nbr : Node) => do
          let σ ← (if (decide ((σ.status nbr) = St.S)) then do
            let l_21 ← PyTM.liftE (GenLD.update σ.IS_links (recipient, nbr) (edgeweight P recipient nbr))
            let σ := { σ with IS_links := l_21 }
            pure σ
          else do
            let σ ← (if ((decide ((σ.status nbr) = St.I)) && (decide (nbr ≠ recipient))) then do
              let l_22 ← PyTM.liftE (GenLD.remove σ.IS_links (nbr, recipient))
              let σ := { σ with IS_links := l_22 }
              pure σ
            else do
              pure σ)
            pure σ)
          pure σ

/-- the recovery branch after `infecteds.random_removal()` returned `(l_13, c_12)` -/
def recRest (P : PyTM.GArgs) (σ : Loc) (l_13 : GenLD.PyLD Node) (c_12 : Node) : TM Loc := do
        let σ := { σ with infecteds := l_13 }
        let recovering_node := c_12
        let σ := { σ with status := fset σ.status recovering_node St.R }
        let σ ← (if P.full then do
          let σ := { σ with recovery_times := PyTM.ddAppend σ.recovery_times recovering_node σ.t }
          pure σ
        else do
          pure σ)
        let σ ← (P.nbrs recovering_node).foldlM (recBody recovering_node) σ
        let σ := { σ with times := σ.times ++ [σ.t] }
        let v_15 ← PyTM.liftE (PyTM.listLast σ.S)
        let σ := { σ with S := σ.S ++ [v_15] }
        let v_16 ← PyTM.liftE (PyTM.listLast σ.I)
        let σ := { σ with I := σ.I ++ [(v_16 - 1)] }
        let v_17 ← PyTM.liftE (PyTM.listLast σ.R)
        let σ := { σ with R := σ.R ++ [(v_17 + 1)] }
        pure σ

/-- the transmission branch after `IS_links.choose_random()` returned `(l_19, c_18)` -/
def transRest (P : PyTM.GArgs) (σ : Loc) (l_19 : GenLD.PyLD (Node × Node)) (c_18 : Node × Node) : TM Loc := do
        let σ := { σ with IS_links := l_19 }
        let (transmitter, recipient) := c_18
        let σ := { σ with status := fset σ.status recipient St.I }
        let σ ← (if P.full then do
          let σ := { σ with transmissions := σ.transmissions ++ [(σ.t, some transmitter, recipient)] }
          let σ := { σ with infection_times := PyTM.ddAppend σ.infection_times recipient σ.t }
          pure σ
        else do
          pure σ)
        let l_20 ← PyTM.liftE (GenLD.update σ.infecteds recipient (nodeweight P recipient))
        let σ := { σ with infecteds := l_20 }
        let σ ← (P.nbrs recipient).foldlM (transBody P recipient) σ
        let σ := { σ with times := σ.times ++ [σ.t] }
        let v_23 ← PyTM.liftE (PyTM.listLast σ.S)
        let σ := { σ with S := σ.S ++ [(v_23 - 1)] }
        let v_24 ← PyTM.liftE (PyTM.listLast σ.I)
        let σ := { σ with I := σ.I ++ [(v_24 + 1)] }
        let v_25 ← PyTM.liftE (PyTM.listLast σ.R)
        let σ := { σ with R := σ.R ++ [v_25] }
        pure σ

/-- the statements after the event: both `total_weight()` calls, the clock draw, the new time; then `k` -/
def tail (P : PyTM.GArgs) (k : Loc → TM Loc) (σ : Loc) : TM Loc := do
      let (l_27, w_26) ← PyTM.liftE (GenLD.total_weight σ.infecteds)
      let σ := { σ with infecteds := l_27 }
      let σ := { σ with total_recovery_rate := (P.gamma * w_26) }
      let (l_29, w_28) ← PyTM.liftE (GenLD.total_weight σ.IS_links)
      let σ := { σ with IS_links := l_29 }
      let σ := { σ with total_transmission_rate := (P.tau * w_28) }
      let σ := { σ with total_rate := (σ.total_recovery_rate + σ.total_transmission_rate) }
      let σ ← (if (decide (σ.total_rate > (0 : Rat))) then do
        let d_30 ← TM.popExpo σ.total_rate
        let σ := { σ with delay := (some d_30) }
        pure σ
      else do
        let σ := { σ with delay := none }
        pure σ)
      let σ := { σ with t := (ERat.add σ.t σ.delay) }
      k σ

theorem loop_succ (P : PyTM.GArgs) (fuel : Nat) (σ : Loc) :
    loop P (fuel + 1) σ =
      if ((decide (GenLD.len__ σ.infecteds > 0)) && (ERat.lt σ.t P.tmax)) = true then
        TM.popUnif >>= fun u => PyTM.liftE (PyTM.fdiv σ.total_recovery_rate σ.total_rate) >>= fun q =>
          (if decide (u < q) = true then
            GenLD.random_removal_tm PyTM.encNode σ.infecteds P.cfuel >>= fun x => recRest P σ x.1 x.2
          else GenLD.choose_random_tm PyTM.encLink σ.IS_links P.cfuel >>= fun x => transRest P σ x.1 x.2) >>=
            tail P (loop P fuel)
      else pure σ := by
  rw [loop]
  rfl

def stBodyI (P : PyTM.GArgs) : Loc → Node → TM Loc := fun (σ : Loc) (node : Node) => do
    let σ := { σ with status := fset σ.status node St.I }
    let σ ← (if P.full then do
      let σ := { σ with infection_times := PyTM.ddAppend σ.infection_times node σ.t }
      let σ := { σ with transmissions := σ.transmissions ++ [(σ.t, none, node)] }
      pure σ
    else do
      pure σ)
    pure σ

def stBodyR (P : PyTM.GArgs) : Loc → Node → TM Loc := fun (σ : Loc) (node : Node) => do
    let σ := { σ with status := fset σ.status node St.R }
    let σ ← (if P.full then do
      let σ := { σ with recovery_times := PyTM.ddAppend σ.recovery_times node σ.t }
      pure σ
    else do
      pure σ)
    pure σ

def initInner (P : PyTM.GArgs) (node : Node) : Loc → Node → TM Loc := fun (σ : Loc) (nbr : Node) => do
      let σ ← (if (decide ((σ.status nbr) = St.S)) then do
        let l_4 ← PyTM.liftE (GenLD.update σ.IS_links (node, nbr) (edgeweight P node nbr))
        let σ := { σ with IS_links := l_4 }
        pure σ
      else do
        pure σ)
      pure σ

def initBody (P : PyTM.GArgs) : Loc → Node → TM Loc := fun (σ : Loc) (node : Node) => do
    let l_3 ← PyTM.liftE (GenLD.update σ.infecteds node (nodeweight P node))
    let σ := { σ with infecteds := l_3 }
    let σ ← (P.nbrs node).foldlM (initInner P node) σ
    pure σ

/-- the set-up statements of `Gillespie_SIR` up to (not including) the first `total_weight()`; then `k` -/
def initK (P : PyTM.GArgs) (initial_infecteds initial_recovereds : List Node) (k : Loc → TM Loc) : TM Loc := do
  let σ : Loc := Loc.init
  let σ := { σ with I := [(initial_infecteds.length : Int)] }
  let σ := { σ with R := [(initial_recovereds.length : Int)] }
  let v_1 ← PyTM.liftE (PyTM.listGet σ.I 0)
  let v_2 ← PyTM.liftE (PyTM.listGet σ.R 0)
  let σ := { σ with S := [(((P.order : Int) - v_1) - v_2)] }
  let σ := { σ with times := [some P.tmin] }
  let σ := { σ with transmissions := [] }
  let σ := { σ with t := (some P.tmin) }
  let σ := { σ with status := (fun _ => St.S) }
  let σ ← initial_infecteds.foldlM (stBodyI P) σ
  let σ ← initial_recovereds.foldlM (stBodyR P) σ
  let σ ← (if P.hasRW then do
    let σ := { σ with infecteds := (GenLD.init true) }
    pure σ
  else do
    let σ := { σ with infecteds := (GenLD.init false) }
    pure σ)
  let σ ← (if P.hasTW then do
    let σ := { σ with IS_links := (GenLD.init true) }
    pure σ
  else do
    let σ := { σ with IS_links := (GenLD.init false) }
    pure σ)
  let σ ← initial_infecteds.foldlM (initBody P) σ
  k σ

theorem run_eq (P : PyTM.GArgs) (infs recs : List Node) (fuel : Nat) :
    run P infs recs fuel = initK P infs recs (tail P (loop P fuel)) := rfl

open Gillespie GenGillespie TM PyTM
variable {A : PyTM.GArgs} {P : GParams} {tmin : Rat} {tmax : ERat} {cfuel : Nat}

/-- **simulation relation** between the locals of the generated `Gillespie_SIR` and the model state.  (The hand model
keeps the output rows newest-first, Python appends.) -/
structure Rel (σ : Loc) (s : GState) : Prop where
  status : σ.status = s.status
  inf : GenLD.R σ.infecteds s.inf
  links : GenLD.R σ.IS_links s.links
  times : σ.times = s.times.reverse.map some
  S : σ.S = s.S.reverse
  I : σ.I = s.I.reverse
  R : σ.R = s.R.reverse

/-- the invariant of the two `while` loops: related states, the model's bookkeeping invariant, the same next event
time, the rate variables of the generated code hold the model's rates, and a finite next event time was drawn with a
positive total rate -/
structure LRel (A : PyTM.GArgs) (P : GParams) (σ : Loc) (s : GState) (t : ERat) : Prop where
  rel : Rel σ s
  inv : Gillespie.Inv P s
  ht : σ.t = t
  rr : σ.total_recovery_rate = recRate P s
  tr : σ.total_transmission_rate = transRate P s
  tot : σ.total_rate = totalRate P s
  pos : ∀ tv, t = some tv → 0 < totalRate P s
  hS : s.S ≠ []
  hI : s.I ≠ []
  hR : s.R ≠ []

/-- the state after an event, before the clock statements -/
structure MidRel (P : GParams) (tv : Rat) (σ : Loc) (s : GState) : Prop where
  rel : Rel σ s
  inv : Gillespie.Inv P s
  ht : σ.t = some tv
  hS : s.S ≠ []
  hI : s.I ≠ []
  hR : s.R ≠ []

def links : Links Loc :=
  ⟨(·.status), (·.IS_links), fun σ p => { σ with IS_links := p }, fun _ _ => rfl, fun _ _ => rfl, fun _ _ _ => rfl,
    fun _ => rfl⟩


theorem recBody_eq (u : Node) (σ : Loc) (n : Node) : recBody u σ n = links.step σ (recSIROp u σ.status n) := by
  unfold recBody recSIROp
  by_cases h : σ.status n = St.S
  · simp only [h, decide_true, if_true]; rfl
  · simp only [h, decide_false, if_false, Bool.false_eq_true]; rfl

theorem transBody_eq (hag : Agree A P tmin tmax cfuel) (hsir : P.sis = false) (v : Node) (σ : Loc) (n : Node) :
    transBody A v σ n = links.step σ (transOp P v σ.status n) := by
  unfold transBody transOp
  rw [hag.edgeweight_sir, hsir]
  by_cases h : σ.status n = St.S
  · simp only [h, decide_true, if_true]; rfl
  · by_cases h2 : σ.status n = St.I ∧ n ≠ v
    · simp only [h2, decide_true, if_true, Bool.and_self, Bool.false_eq_true, false_or, and_self, ne_eq,
        not_false_eq_true]; rfl
    · have h3 : (decide (σ.status n = St.I) && decide (n ≠ v)) = false := by simpa using h2
      simp only [h, h2, h3, if_false, Bool.false_eq_true, false_or]; rfl

/-- **recovery**: when `infecteds.random_removal()` has chosen the listed node `u`, its removal and the statements after
it (new status, the loop over the neighbours, the new row) only compute, and arrive where the model's `applyRec`
arrives -/
theorem rec_event (hag : Agree A P tmin tmax cfuel) (hwf : WF P) (hsir : P.sis = false) (σ : Loc) (s : GState)
    (tv : Rat) (h : LRel A P σ s (some tv)) (u : Node) (hmem : u ∈ s.inf.items) :
    ∃ l13 σ' s', GenLD.remove σ.infecteds u = .ok l13 ∧ recRest A σ l13 u = pure σ' ∧
      applyRec P s u tv = some s' ∧ MidRel P tv σ' s' ∧ TrStep A.full σ.transmissions s σ'.transmissions s' := by
  obtain ⟨s', happ, hinv', -⟩ := applyRec_inv' P hwf s h.inv u tv hmem
  obtain ⟨hlog, n1, n2, n3⟩ := applyRec_rows P s s' u tv happ
  obtain ⟨inf', hrem, -⟩ := LD.remove_shape s.inf u hmem
  obtain ⟨l13, hl13, hR13⟩ := GenLD.remove_sim σ.infecteds s.inf inf' u h.rel.inf h.inv.infInv hrem
  have hs' := happ
  simp only [applyRec, hrem, hsir, Bool.false_eq_true, if_false, bind, Option.bind] at hs'
  cases hl : recLoopSIR (fset s.status u St.R) u s.links (P.nbrs u) with
  | none => rw [hl] at hs'; simp at hs'
  | some links' =>
    rw [hl] at hs'
    simp only [pure, Option.some.injEq] at hs'
    subst hs'
    obtain ⟨p', hRp, hp'⟩ := ops_fold links (recSIROp u) (recBody u) (recBody_eq u) (fset σ.status u St.R) (A.nbrs u)
      (recSIROps_nonneg _ u _) σ.IS_links s.links links' h.rel.links h.inv.linkInv
      (by rw [hag.nbrs, h.rel.status]; exact (recLoopSIR_eq _ u _ _).symm.trans hl)
    have hfold := fun rt =>
      hp' { σ with infecteds := l13, status := fset σ.status u St.R, recovery_times := rt } rfl rfl
    refine ⟨l13,
      ({ σ with infecteds := l13, status := fset σ.status u St.R, IS_links := p',
                recovery_times := if A.full then PyTM.ddAppend σ.recovery_times u σ.t else σ.recovery_times,
                times := σ.times ++ [σ.t], S := σ.S ++ [hd s.S], I := σ.I ++ [hd s.I - 1],
                R := σ.R ++ [hd s.R + 1] } : Loc),
      _, hl13, ?_, happ,
      ⟨⟨congrArg (fset · u St.R) h.rel.status, hR13, hRp, times_append h.rel.times h.ht, row_append h.rel.S _,
        row_append h.rel.I _, row_append h.rel.R _⟩, hinv', h.ht, n1, n2, n3 h.hR⟩,
      fun _ tr0 h0 => by rw [hlog, transLog_rec]; exact h0⟩
    unfold recRest
    cases A.full <;>
      simp only [Bool.false_eq_true, if_false, if_true, pure_bind, hfold, links, listLast_row h.rel.S h.hS,
        listLast_row h.rel.I h.hI, listLast_row h.rel.R h.hR, TM.liftE_ok_bind]

/-- **transmission**: when `IS_links.choose_random()` has chosen the listed edge `(u, v)`, the statements after it (new
status, `infecteds.update`, the loop over the neighbours of `v`, the new row) only compute, and arrive where the model's
`applyTrans` arrives -/
theorem trans_event (hag : Agree A P tmin tmax cfuel) (hwf : WF P) (hsir : P.sis = false) (σ : Loc) (s : GState)
    (tv : Rat) (h : LRel A P σ s (some tv)) (u v : Node) (hmem : (u, v) ∈ s.links.items) :
    ∃ σ' s', transRest A σ σ.IS_links (u, v) = pure σ' ∧ applyTrans P s u v tv = some s' ∧
      MidRel P tv σ' s' ∧ TrStep A.full σ.transmissions s σ'.transmissions s' := by
  obtain ⟨s', happ, hinv', -⟩ := applyTrans_inv' P hwf s h.inv u v tv hmem
  obtain ⟨hlog, n1, n2, n3⟩ := applyTrans_rows P s s' u v tv happ
  have hs' := happ
  simp only [applyTrans, hsir, Bool.false_eq_true, if_false, bind, Option.bind] at hs'
  cases hu : s.inf.update v (nodeW P v) with
  | none => rw [hu] at hs'; simp at hs'
  | some inf' =>
  rw [hu] at hs'
  dsimp only at hs'
  cases hl : transLoop P (fset s.status v St.I) v s.links (P.nbrs v) with
  | none => rw [hl] at hs'; simp at hs'
  | some links' =>
    rw [hl] at hs'
    simp only [pure, Option.some.injEq] at hs'
    subst hs'
    obtain ⟨l20, hl20, hR20⟩ := GenLD.update_sim σ.infecteds s.inf inf' v (nodeW P v) h.rel.inf hu
    rw [← hag.nodeweight_sir] at hl20
    obtain ⟨p', hRp, hp'⟩ := ops_fold links (transOp P v) (transBody A v) (transBody_eq hag hsir v)
      (fset σ.status v St.I) (A.nbrs v) (transOps_nonneg hwf _ v _) σ.IS_links s.links links' h.rel.links
      h.inv.linkInv (by rw [hag.nbrs, h.rel.status]; exact (transLoop_eq P _ v _ _).symm.trans hl)
    have hfold := fun tr it =>
      hp' { σ with status := fset σ.status v St.I, infecteds := l20, transmissions := tr, infection_times := it }
        rfl rfl
    refine ⟨({ σ with status := fset σ.status v St.I, infecteds := l20, IS_links := p',
                      transmissions := if A.full then σ.transmissions ++ [(σ.t, some u, v)] else σ.transmissions,
                      infection_times :=
                        if A.full then PyTM.ddAppend σ.infection_times v σ.t else σ.infection_times,
                      times := σ.times ++ [σ.t], S := σ.S ++ [hd s.S - 1], I := σ.I ++ [hd s.I + 1],
                      R := σ.R ++ [hd s.R] } : Loc),
      _, ?_, happ,
      ⟨⟨congrArg (fset · v St.I) h.rel.status, hR20, hRp, times_append h.rel.times h.ht, row_append h.rel.S _,
        row_append h.rel.I _, row_append h.rel.R _⟩, hinv', h.ht, n1, n2, n3 h.hR⟩,
      fun hf tr0 h0 => ?_⟩
    · unfold transRest
      cases A.full <;>
        simp only [Bool.false_eq_true, if_false, if_true, pure_bind, hl20, TM.liftE_ok_bind, hfold, links,
          listLast_row h.rel.S h.hS, listLast_row h.rel.I h.hI, listLast_row h.rel.R h.hR]
    · show (if A.full = true then σ.transmissions ++ [(σ.t, some u, v)] else σ.transmissions) = _
      rw [if_pos hf, h.ht, h0, hlog, transLog_trans, List.append_assoc]

/-- the locals after the clock statements: the two rates computed from `total_weight()`, and the draw `d` (`none`:
the total rate is 0 and nothing is drawn) -/
def clocked (σ : Loc) (rr tr : Rat) (d : ERat) : Loc :=
  { σ with total_recovery_rate := rr, total_transmission_rate := tr, total_rate := rr + tr, delay := d,
           t := ERat.add σ.t d }

/-- **clock statements, evaluated**: both `total_weight()` calls return the model's totals and leave the structures
unchanged, so that the statements amount to the draw -/
theorem tail_eq (A : PyTM.GArgs) (k : Loc → TM Loc) (σ : Loc) (inf : LD Node) (ls : LD (Node × Node))
    (h1 : GenLD.R σ.infecteds inf) (h2 : GenLD.R σ.IS_links ls) :
    tail A k σ =
      if decide (A.gamma * inf.totalWeight + A.tau * ls.totalWeight > 0) = true then
        TM.popExpo (A.gamma * inf.totalWeight + A.tau * ls.totalWeight) >>= fun d =>
          k (clocked σ (A.gamma * inf.totalWeight) (A.tau * ls.totalWeight) (some d))
      else k (clocked σ (A.gamma * inf.totalWeight) (A.tau * ls.totalWeight) none) := by
  simp only [tail, GenLD.total_weight_sim _ _ h1, GenLD.total_weight_sim _ _ h2, TM.liftE_ok_bind]
  split <;> simp only [bind_assoc, pure_bind] <;> rfl

/-- **clock**: the statements from `total_recovery_rate = gamma*infecteds.total_weight()` to the new `t` draw
`expovariate` with the model's total rate, and re-establish the loop invariant -/
theorem tail_bisim (hag : Agree A P tmin tmax cfuel) (σ : Loc) (s : GState) (tv : Rat) (h : MidRel P tv σ s)
    (k : Loc → TM Loc) (k' : GState → ERat → TM GState) (Q : Loc → GState → Prop)
    (hk : ∀ σ' t', LRel A P σ' s t' → σ'.transmissions = σ.transmissions → Bisim (k σ') (k' s t') Q) :
    Bisim (tail A k σ) (mTail P tv k' s) Q := by
  rw [tail_eq A k σ s.inf s.links h.rel.inf h.rel.links, hag.totalRate]
  refine clock_bisim s tv _ k k' Q fun d hd => hk _ _ ?_ rfl
  exact ⟨⟨h.rel.status, h.rel.inf, h.rel.links, h.rel.times, h.rel.S, h.rel.I, h.rel.R⟩, h.inv,
    congrArg (ERat.add · d) h.ht, congrArg (· * _) hag.gamma, congrArg (· * _) hag.tau, hag.totalRate s, hd,
    h.hS, h.hI, h.hR⟩

theorem applyRec_none_of_not_mem (P : GParams) (s : GState) (u : Node) (t : Rat) (hu : u ∉ s.inf.items) :
    applyRec P s u t = none := by
  have : s.inf.remove u = none := by unfold LD.remove; rw [if_neg hu]
  simp [applyRec, this]

/-- **the `while` loop**: from related states the generated loop and the model loop simulate each other, the generated
one raises no `KeyError`, and `transmissions` follows the model's log -/
theorem loop_bisim (hag : Agree A P tmin tmax cfuel) (hwf : WF P) (hsir : P.sis = false) (fuel : Nat)
    (σ₀ : Loc) (s₀ : GState) (t₀ : ERat) (h₀ : LRel A P σ₀ s₀ t₀) :
    Bisim (loop A fuel σ₀) (Gillespie.loop P tmax cfuel fuel s₀ t₀)
      (fun σ' s' => (∃ t', LRel A P σ' s' t') ∧ TrStep A.full σ₀.transmissions s₀ σ'.transmissions s') :=
  while_bisim (loop A) (·.infecteds) (·.IS_links) (·.transmissions) A.full A.cfuel _ _ (recRest A) (transRest A)
    (tail A) (fun _ => rfl) (loop_succ A) hag.cfuel (LRel A P) (MidRel P)
    (fun _ _ _ h => ⟨h.rel.inf, h.rel.links, h.inv⟩)
    (fun σ s t h => by rw [GenLD.len__, h.rel.inf.items, h.ht, hag.tmax])
    (fun σ s tv h => by rw [h.rr, h.tot, PyTM.fdiv_ok _ _ (ne_of_gt (h.pos tv rfl))]; rfl)
    (rec_event hag hwf hsir) (trans_event hag hwf hsir) (tail_bisim hag) fuel σ₀ s₀ σ₀ s₀ t₀ h₀ fun _ _ h => h

/-- the loop `for node in initial_infecteds: status[node] = 'I' …` in closed form -/
theorem stI_fold (P : PyTM.GArgs) (l : List Node) (σ : Loc) :
    l.foldlM (stBodyI P) σ = pure { σ with
      status := l.foldl (fun st n => fset st n St.I) σ.status
      infection_times :=
        if P.full then l.foldl (fun m n => PyTM.ddAppend m n σ.t) σ.infection_times else σ.infection_times
      transmissions := if P.full then σ.transmissions ++ l.map (fun n => (σ.t, none, n)) else σ.transmissions } := by
  induction l generalizing σ with
  | nil => cases P.full <;> simp
  | cons n rest ih =>
    rw [List.foldlM_cons, stBodyI]
    cases hf : P.full <;> simp only [hf, if_true, if_false, Bool.false_eq_true, pure_bind, ih] <;> simp

/-- the loop `for node in initial_recovereds: status[node] = 'R' …` in closed form -/
theorem stR_fold (P : PyTM.GArgs) (l : List Node) (σ : Loc) :
    l.foldlM (stBodyR P) σ = pure { σ with
      status := l.foldl (fun st n => fset st n St.R) σ.status
      recovery_times :=
        if P.full then l.foldl (fun m n => PyTM.ddAppend m n σ.t) σ.recovery_times else σ.recovery_times } := by
  induction l generalizing σ with
  | nil => cases P.full <;> simp
  | cons n rest ih =>
    rw [List.foldlM_cons, stBodyR]
    cases hf : P.full <;> simp only [hf, if_true, if_false, Bool.false_eq_true, pure_bind, ih] <;> simp

theorem initInner_eq (hag : Agree A P tmin tmax cfuel) (node : Node) (σ : Loc) (n : Node) :
    initInner A node σ n = links.step σ (initOp P node σ.status n) := by
  unfold initInner initOp
  rw [hag.edgeweight_sir]
  by_cases h : σ.status n = St.S
  · simp only [h, decide_true, if_true]; rfl
  · simp only [h, decide_false, if_false, Bool.false_eq_true]; rfl

/-- the set-up loop `for node in initial_infecteds: infecteds.update(...); for nbr ...: IS_links.update(...)` -/
theorem init_fold (hag : Agree A P tmin tmax cfuel) (hwf : WF P) (l : List Node) :
    ∀ (σ : Loc) (inf inf' : LD Node) (ls ls' : LD (Node × Node)),
      GenLD.R σ.infecteds inf → GenLD.R σ.IS_links ls → LD.Inv inf → LD.Inv ls →
      initLoop P σ.status l inf ls = some (inf', ls') →
      ∃ p1 p2, l.foldlM (initBody A) σ = pure { σ with infecteds := p1, IS_links := p2 } ∧
        GenLD.R p1 inf' ∧ GenLD.R p2 ls' := by
  induction l with
  | nil =>
    intro σ inf inf' ls ls' h1 h2 _ _ h
    simp only [initLoop, Option.some.injEq, Prod.mk.injEq] at h
    obtain ⟨rfl, rfl⟩ := h
    exact ⟨σ.infecteds, σ.IS_links, rfl, h1, h2⟩
  | cons node rest ih =>
    intro σ inf inf' ls ls' h1 h2 hI1 hI2 h
    rw [initLoop] at h
    cases hu : inf.update node (nodeW P node) with
    | none => rw [hu] at h; simp at h
    | some inf1 =>
      rw [hu] at h
      dsimp only at h
      cases hl : initLinks P σ.status node ls (P.nbrs node) with
      | none => rw [hl] at h; simp at h
      | some ls1 =>
        rw [hl] at h
        dsimp only at h
        obtain ⟨l3, hl3, hR3⟩ := GenLD.update_sim σ.infecteds inf inf1 node (nodeW P node) h1 hu
        rw [← hag.nodeweight_sir] at hl3
        have hInv1 : LD.Inv inf1 := LD.inv_update inf inf1 node (nodeW P node) hI1 (nodeW_nonneg P hwf node) hu
        rw [initLinks_eq] at hl
        have hInv2 : LD.Inv ls1 := LD.inv_applyOps ls _ ls1 hI2 (initLinksOps_nonneg hwf _ _ _) hl
        obtain ⟨p', hRp, hp'⟩ := ops_fold links (initOp P node) (initInner A node) (initInner_eq hag node) σ.status
          (A.nbrs node) (initLinksOps_nonneg hwf _ _ _) σ.IS_links ls ls1 h2 hI2 (by rw [hag.nbrs]; exact hl)
        obtain ⟨p1, p2, hfin, hR1, hR2⟩ := ih { σ with infecteds := l3, IS_links := p' } inf1 inf' ls1 ls'
          hR3 hRp hInv1 hInv2 h
        refine ⟨p1, p2, ?_, hR1, hR2⟩
        rw [List.foldlM_cons]
        unfold initBody
        simp only [hl3, TM.liftE_ok_bind]
        rw [hp' { σ with infecteds := l3 } rfl rfl, pure_bind]
        exact hfin

theorem ite_inf (σ : Loc) (b : Bool) :
    (if b = true then (pure { σ with infecteds := GenLD.init true } : TM Loc)
      else pure { σ with infecteds := GenLD.init false }) = pure { σ with infecteds := GenLD.init b } := by
  cases b <;> rfl

theorem ite_links (σ : Loc) (b : Bool) :
    (if b = true then (pure { σ with IS_links := GenLD.init true } : TM Loc)
      else pure { σ with IS_links := GenLD.init false }) = pure { σ with IS_links := GenLD.init b } := by
  cases b <;> rfl

/-- **set-up, forward**: if the model's `init` succeeds, the generated set-up statements return normally, without
touching the tape, in a related state -/
theorem initK_eval (hag : Agree A P tmin tmax cfuel) (hwf : WF P) (infs recs : List Node) (s0 : GState)
    (h0 : init P infs recs tmin = some s0) (hinv0 : Gillespie.Inv P s0) :
    ∃ σ0, (∀ k, initK A infs recs k = k σ0) ∧ MidRel P tmin σ0 s0 ∧
      (A.full = true → σ0.transmissions = initTrans tmin infs) := by
  simp only [init] at h0
  cases hloop : initLoop P (initStatus infs recs) infs (LD.empty P.nw.isSome) (LD.empty P.ew.isSome) with
  | none => rw [hloop] at h0; simp at h0
  | some pr =>
    obtain ⟨inf', ls'⟩ := pr
    rw [hloop] at h0
    simp only [Option.some.injEq] at h0
    subst h0
    -- the locals before the main set-up loop
    let σd : Loc :=
      { Loc.init with
        I := [(infs.length : Int)]
        R := [(recs.length : Int)]
        S := [(((A.order : Int) - (infs.length : Int)) - (recs.length : Int))]
        times := [some A.tmin]
        t := some A.tmin
        status := recs.foldl (fun st n => fset st n St.R) (infs.foldl (fun st n => fset st n St.I) fun _ => St.S)
        transmissions := if A.full then [] ++ infs.map (fun n => (some A.tmin, none, n)) else []
        infection_times := if A.full then infs.foldl (fun m n => PyTM.ddAppend m n (some A.tmin)) [] else []
        recovery_times := if A.full then recs.foldl (fun m n => PyTM.ddAppend m n (some A.tmin)) [] else []
        infecteds := GenLD.init A.hasRW
        IS_links := GenLD.init A.hasTW }
    have hst : σd.status = initStatus infs recs := initStatus_eq infs recs
    obtain ⟨p1, p2, hfold, hR1, hR2⟩ := init_fold hag hwf infs σd (LD.empty P.nw.isSome) inf'
      (LD.empty P.ew.isSome) ls'
      (by show GenLD.R (GenLD.init A.hasRW) _; rw [hag.hasRW]; exact GenLD.init_R _)
      (by show GenLD.R (GenLD.init A.hasTW) _; rw [hag.hasTW]; exact GenLD.init_R _)
      (LD.inv_empty _) (LD.inv_empty _) (by rw [hst]; exact hloop)
    refine ⟨{ σd with infecteds := p1, IS_links := p2 }, fun k => ?_, ?_, fun hf => ?_⟩
    · unfold initK
      simp only [Loc.init, listGet, List.getElem?_cons_zero, ExceptStep.pure_eq_ok, TM.liftE_ok_bind, stI_fold, stR_fold,
        pure_bind, ite_inf, ite_links]
      exact congrArg (· >>= k) hfold |>.trans (pure_bind _ _)
    · exact ⟨⟨hst, hR1, hR2, congrArg (fun x => [some x]) hag.tmin,
        congrArg (fun x : Nat => [(x : Int) - (infs.length : Int) - (recs.length : Int)]) hag.order, rfl, rfl⟩, hinv0,
        congrArg some hag.tmin, List.cons_ne_nil _ _, List.cons_ne_nil _ _, List.cons_ne_nil _ _⟩
    · show (if A.full = true then [] ++ infs.map (fun n => (some A.tmin, none, n)) else []) = _
      rw [if_pos hf, hag.tmin]; rfl

/-- **the whole function**: the generated `Gillespie_SIR` and the model's `run` simulate each other on every tape, the
generated one raises no `KeyError`, and with `return_full_data` its `transmissions` are the entries of the initial
infecteds followed by the entries of the model's logged transmission events -/
theorem run_bisim (hag : Agree A P tmin tmax cfuel) (hwf : WF P) (hsir : P.sis = false) (infs recs : List Node)
    (fuel : Nat) (hi : infs.Nodup) (him : ∀ u ∈ infs, u ∈ P.nodes) (hd : ∀ u ∈ infs, u ∉ recs) :
    Bisim (run A infs recs fuel) (Gillespie.run P infs recs tmin tmax fuel cfuel)
      (fun σ s => (∃ t, LRel A P σ s t) ∧
        (A.full = true → σ.transmissions = initTrans tmin infs ++ transLog s.log)) := by
  obtain ⟨s0, h0, hinv0, -⟩ := init_inv' P hwf infs recs tmin hi him hd (fun h => by rw [hsir] at h; cases h)
  obtain ⟨σ0, hσ0, hmid, htr0⟩ := initK_eval hag hwf infs recs s0 h0 hinv0
  rw [run_eq, hσ0]
  unfold Gillespie.run
  rw [h0]
  refine tail_bisim hag σ0 s0 tmin hmid _ (Gillespie.loop P tmax cfuel fuel) _ fun σ' t' h htr => ?_
  refine (loop_bisim hag hwf hsir fuel σ' s0 t' h).mono fun _ _ ⟨h1, h2⟩ => ⟨h1, fun hf => h2 hf _ ?_⟩
  rw [htr, htr0 hf, (init_shape P infs recs tmin s0 h0).2.2.2.2.2, transLog_nil, List.append_nil]

end GenGSIR

/-! ### the generated `Gillespie_SIS` cut into named parts (each is the generated text, verbatim).  The lemmas below mirror
those of `GenGSIR` one for one (no `R` row, `recSISOp` for `recSIROp`); their docstrings are there. -/
namespace GenGSIS
open PyTM

def recBody (P : PyTM.GArgs) (recovering_node : Node) : Loc → Node → TM Loc := fun (σ : Loc) (nbr : Node) => do
          let σ ← (if (decide (nbr = recovering_node)) then do
            pure σ
          else do
            let σ ← (if (decide ((σ.status nbr) = St.S)) then do
              let l_13 ← PyTM.liftE (GenLD.remove σ.IS_links (recovering_node, nbr))
              let σ := { σ with IS_links := l_13 }
              pure σ
            else do
              let l_14 ← PyTM.liftE (GenLD.update σ.IS_links (nbr, recovering_node) (edgeweight P recovering_node nbr))
              let σ := { σ with IS_links := l_14 }
              pure σ)
            pure σ)
          pure σ

def transBody (P : PyTM.GArgs) (recipient : Node) : Loc → Node → TM Loc := fun (σ : Loc) (nbr : Node) => do
          let σ ← (if (decide ((σ.status nbr) = St.S)) then do
            let l_20 ← PyTM.liftE (GenLD.update σ.IS_links (recipient, nbr) (edgeweight P recipient nbr))
            let σ := { σ with IS_links := l_20 }
            pure σ
          else do
            let σ ← (if (decide (nbr ≠ recipient)) then do
              let l_21 ← PyTM.liftE (GenLD.remove σ.IS_links (nbr, recipient))
              let σ := { σ with IS_links := l_21 }
              pure σ
            else do
              pure σ)
            pure σ)
          pure σ

/-- the recovery branch after `infecteds.random_removal()` returned `(l_12, c_11)` -/
def recRest (P : PyTM.GArgs) (σ : Loc) (l_12 : GenLD.PyLD Node) (c_11 : Node) : TM Loc := do
        let σ := { σ with infecteds := l_12 }
        let recovering_node := c_11
        let σ := { σ with status := fset σ.status recovering_node St.S }
        let σ ← (if P.full then do
          let σ := { σ with recovery_times := PyTM.ddAppend σ.recovery_times recovering_node σ.t }
          pure σ
        else do
          pure σ)
        let σ ← (P.nbrs recovering_node).foldlM (recBody P recovering_node) σ
        let σ := { σ with times := σ.times ++ [σ.t] }
        let v_15 ← PyTM.liftE (PyTM.listLast σ.S)
        let σ := { σ with S := σ.S ++ [(v_15 + 1)] }
        let v_16 ← PyTM.liftE (PyTM.listLast σ.I)
        let σ := { σ with I := σ.I ++ [(v_16 - 1)] }
        pure σ

/-- the transmission branch after `IS_links.choose_random()` returned `(l_18, c_17)` -/
def transRest (P : PyTM.GArgs) (σ : Loc) (l_18 : GenLD.PyLD (Node × Node)) (c_17 : Node × Node) : TM Loc := do
        let σ := { σ with IS_links := l_18 }
        let (transmitter, recipient) := c_17
        let σ := { σ with status := fset σ.status recipient St.I }
        let σ ← (if P.full then do
          let σ := { σ with infection_times := PyTM.ddAppend σ.infection_times recipient σ.t }
          let σ := { σ with transmissions := σ.transmissions ++ [(σ.t, some transmitter, recipient)] }
          pure σ
        else do
          pure σ)
        let l_19 ← PyTM.liftE (GenLD.update σ.infecteds recipient (nodeweight P recipient))
        let σ := { σ with infecteds := l_19 }
        let σ ← (P.nbrs recipient).foldlM (transBody P recipient) σ
        let σ := { σ with times := σ.times ++ [σ.t] }
        let v_22 ← PyTM.liftE (PyTM.listLast σ.S)
        let σ := { σ with S := σ.S ++ [(v_22 - 1)] }
        let v_23 ← PyTM.liftE (PyTM.listLast σ.I)
        let σ := { σ with I := σ.I ++ [(v_23 + 1)] }
        pure σ

/-- the statements after the event: both `total_weight()` calls, the clock draw, the new time; then `k` -/
def tail (P : PyTM.GArgs) (k : Loc → TM Loc) (σ : Loc) : TM Loc := do
      let (l_25, w_24) ← PyTM.liftE (GenLD.total_weight σ.infecteds)
      let σ := { σ with infecteds := l_25 }
      let σ := { σ with total_recovery_rate := (P.gamma * w_24) }
      let (l_27, w_26) ← PyTM.liftE (GenLD.total_weight σ.IS_links)
      let σ := { σ with IS_links := l_27 }
      let σ := { σ with total_transmission_rate := (P.tau * w_26) }
      let σ := { σ with total_rate := (σ.total_recovery_rate + σ.total_transmission_rate) }
      let σ ← (if (decide (σ.total_rate > (0 : Rat))) then do
        let d_28 ← TM.popExpo σ.total_rate
        let σ := { σ with delay := (some d_28) }
        pure σ
      else do
        let σ := { σ with delay := none }
        pure σ)
      let σ := { σ with t := (ERat.add σ.t σ.delay) }
      k σ

theorem loop_succ (P : PyTM.GArgs) (fuel : Nat) (σ : Loc) :
    loop P (fuel + 1) σ =
      if ((decide (GenLD.len__ σ.infecteds > 0)) && (ERat.lt σ.t P.tmax)) = true then
        TM.popUnif >>= fun u => PyTM.liftE (PyTM.fdiv σ.total_recovery_rate σ.total_rate) >>= fun q =>
          (if decide (u < q) = true then
            GenLD.random_removal_tm PyTM.encNode σ.infecteds P.cfuel >>= fun x => recRest P σ x.1 x.2
          else GenLD.choose_random_tm PyTM.encLink σ.IS_links P.cfuel >>= fun x => transRest P σ x.1 x.2) >>=
            tail P (loop P fuel)
      else pure σ := by
  rw [loop]
  rfl

def stBodyI (P : PyTM.GArgs) : Loc → Node → TM Loc := fun (σ : Loc) (node : Node) => do
    let σ := { σ with status := fset σ.status node St.I }
    let σ ← (if P.full then do
      let σ := { σ with infection_times := PyTM.ddAppend σ.infection_times node σ.t }
      let σ := { σ with transmissions := σ.transmissions ++ [(σ.t, none, node)] }
      pure σ
    else do
      pure σ)
    pure σ

def initInner (P : PyTM.GArgs) (node : Node) : Loc → Node → TM Loc := fun (σ : Loc) (nbr : Node) => do
      let σ ← (if (decide ((σ.status nbr) = St.S)) then do
        let l_3 ← PyTM.liftE (GenLD.update σ.IS_links (node, nbr) (edgeweight P node nbr))
        let σ := { σ with IS_links := l_3 }
        pure σ
      else do
        pure σ)
      pure σ

def initBody (P : PyTM.GArgs) : Loc → Node → TM Loc := fun (σ : Loc) (node : Node) => do
    let l_2 ← PyTM.liftE (GenLD.update σ.infecteds node (nodeweight P node))
    let σ := { σ with infecteds := l_2 }
    let σ ← (P.nbrs node).foldlM (initInner P node) σ
    pure σ

/-- the set-up statements of `Gillespie_SIS` up to (not including) the first `total_weight()`; then `k` -/
def initK (P : PyTM.GArgs) (initial_infecteds : List Node) (k : Loc → TM Loc) : TM Loc := do
  let σ : Loc := Loc.init
  let σ := { σ with I := [(initial_infecteds.length : Int)] }
  let v_1 ← PyTM.liftE (PyTM.listGet σ.I 0)
  let σ := { σ with S := [((P.order : Int) - v_1)] }
  let σ := { σ with times := [some P.tmin] }
  let σ := { σ with t := (some P.tmin) }
  let σ := { σ with transmissions := [] }
  let σ := { σ with status := (fun _ => St.S) }
  let σ ← initial_infecteds.foldlM (stBodyI P) σ
  let σ ← (if (!P.hasRW) then do
    let σ := { σ with infecteds := (GenLD.init false) }
    pure σ
  else do
    let σ := { σ with infecteds := (GenLD.init true) }
    pure σ)
  let σ ← (if (!P.hasTW) then do
    let σ := { σ with IS_links := (GenLD.init false) }
    pure σ
  else do
    let σ := { σ with IS_links := (GenLD.init true) }
    pure σ)
  let σ ← initial_infecteds.foldlM (initBody P) σ
  k σ

theorem run_eq (P : PyTM.GArgs) (infs : List Node) (fuel : Nat) :
    run P infs fuel = initK P infs (tail P (loop P fuel)) := rfl

open Gillespie GenGillespie TM PyTM
variable {A : PyTM.GArgs} {P : GParams} {tmin : Rat} {tmax : ERat} {cfuel : Nat}

/-- **simulation relation** between the locals of the generated `Gillespie_SIS` and the model state (`P.sis = true`;
the SIS function has no `R` row) -/
structure Rel (σ : Loc) (s : GState) : Prop where
  status : σ.status = s.status
  inf : GenLD.R σ.infecteds s.inf
  links : GenLD.R σ.IS_links s.links
  times : σ.times = s.times.reverse.map some
  S : σ.S = s.S.reverse
  I : σ.I = s.I.reverse

structure LRel (A : PyTM.GArgs) (P : GParams) (σ : Loc) (s : GState) (t : ERat) : Prop where
  rel : Rel σ s
  inv : Gillespie.Inv P s
  ht : σ.t = t
  rr : σ.total_recovery_rate = recRate P s
  tr : σ.total_transmission_rate = transRate P s
  tot : σ.total_rate = totalRate P s
  pos : ∀ tv, t = some tv → 0 < totalRate P s
  hS : s.S ≠ []
  hI : s.I ≠ []

structure MidRel (P : GParams) (tv : Rat) (σ : Loc) (s : GState) : Prop where
  rel : Rel σ s
  inv : Gillespie.Inv P s
  ht : σ.t = some tv
  hS : s.S ≠ []
  hI : s.I ≠ []

def links : Links Loc :=
  ⟨(·.status), (·.IS_links), fun σ p => { σ with IS_links := p }, fun _ _ => rfl, fun _ _ => rfl, fun _ _ _ => rfl,
    fun _ => rfl⟩


theorem recBody_eq (hag : Agree A P tmin tmax cfuel) (u : Node) (σ : Loc) (n : Node) :
    recBody A u σ n = links.step σ (recSISOp P u σ.status n) := by
  unfold recBody recSISOp
  rw [hag.edgeweight_sis]
  by_cases h0 : n = u
  · simp only [h0, decide_true, if_true]; rfl
  · by_cases h : σ.status n = St.S
    · simp only [h0, h, decide_true, decide_false, if_true, if_false, Bool.false_eq_true]; rfl
    · simp only [h0, h, decide_false, if_false, Bool.false_eq_true]; rfl

theorem transBody_eq (hag : Agree A P tmin tmax cfuel) (hsis : P.sis = true) (v : Node) (σ : Loc) (n : Node) :
    transBody A v σ n = links.step σ (transOp P v σ.status n) := by
  unfold transBody transOp
  rw [hag.edgeweight_sis, hsis]
  by_cases h : σ.status n = St.S
  · simp only [h, decide_true, if_true]; rfl
  · by_cases h2 : n ≠ v
    · simp only [h, h2, decide_true, if_false, if_true, true_or, true_and, ne_eq, not_false_eq_true]; rfl
    · simp only [h, h2, decide_false, if_false, Bool.false_eq_true, true_or, true_and]; rfl

theorem rec_event (hag : Agree A P tmin tmax cfuel) (hwf : WF P) (hsis : P.sis = true) (σ : Loc) (s : GState)
    (tv : Rat) (h : LRel A P σ s (some tv)) (u : Node) (hmem : u ∈ s.inf.items) :
    ∃ l12 σ' s', GenLD.remove σ.infecteds u = .ok l12 ∧ recRest A σ l12 u = pure σ' ∧
      applyRec P s u tv = some s' ∧ MidRel P tv σ' s' ∧ TrStep A.full σ.transmissions s σ'.transmissions s' := by
  obtain ⟨s', happ, hinv', -⟩ := applyRec_inv' P hwf s h.inv u tv hmem
  obtain ⟨hlog, n1, n2, -⟩ := applyRec_rows P s s' u tv happ
  obtain ⟨inf', hrem, -⟩ := LD.remove_shape s.inf u hmem
  obtain ⟨l12, hl12, hR12⟩ := GenLD.remove_sim σ.infecteds s.inf inf' u h.rel.inf h.inv.infInv hrem
  have hs' := happ
  simp only [applyRec, hrem, hsis, if_true, bind, Option.bind] at hs'
  cases hl : recLoopSIS P (fset s.status u St.S) u s.links (P.nbrs u) with
  | none => rw [hl] at hs'; simp at hs'
  | some links' =>
    rw [hl] at hs'
    simp only [pure, Option.some.injEq] at hs'
    subst hs'
    obtain ⟨p', hRp, hp'⟩ := ops_fold links (recSISOp P u) (recBody A u) (recBody_eq hag u) (fset σ.status u St.S)
      (A.nbrs u) (recSISOps_nonneg hwf _ u _) σ.IS_links s.links links' h.rel.links h.inv.linkInv
      (by rw [hag.nbrs, h.rel.status]; exact (recLoopSIS_eq P _ u _ _).symm.trans hl)
    have hfold := fun rt =>
      hp' { σ with infecteds := l12, status := fset σ.status u St.S, recovery_times := rt } rfl rfl
    refine ⟨l12,
      ({ σ with infecteds := l12, status := fset σ.status u St.S, IS_links := p',
                recovery_times := if A.full then PyTM.ddAppend σ.recovery_times u σ.t else σ.recovery_times,
                times := σ.times ++ [σ.t], S := σ.S ++ [hd s.S + 1], I := σ.I ++ [hd s.I - 1] } : Loc),
      _, hl12, ?_, happ,
      ⟨⟨congrArg (fset · u St.S) h.rel.status, hR12, hRp, times_append h.rel.times h.ht, row_append h.rel.S _,
        row_append h.rel.I _⟩, hinv', h.ht, n1, n2⟩,
      fun _ tr0 h0 => by rw [hlog, transLog_rec]; exact h0⟩
    unfold recRest
    cases A.full <;>
      simp only [Bool.false_eq_true, if_false, if_true, pure_bind, hfold, links, listLast_row h.rel.S h.hS,
        listLast_row h.rel.I h.hI, TM.liftE_ok_bind]

theorem trans_event (hag : Agree A P tmin tmax cfuel) (hwf : WF P) (hsis : P.sis = true) (σ : Loc) (s : GState)
    (tv : Rat) (h : LRel A P σ s (some tv)) (u v : Node) (hmem : (u, v) ∈ s.links.items) :
    ∃ σ' s', transRest A σ σ.IS_links (u, v) = pure σ' ∧ applyTrans P s u v tv = some s' ∧
      MidRel P tv σ' s' ∧ TrStep A.full σ.transmissions s σ'.transmissions s' := by
  obtain ⟨s', happ, hinv', -⟩ := applyTrans_inv' P hwf s h.inv u v tv hmem
  obtain ⟨hlog, n1, n2, -⟩ := applyTrans_rows P s s' u v tv happ
  have hs' := happ
  simp only [applyTrans, hsis, if_true, bind, Option.bind] at hs'
  cases hu : s.inf.update v (nodeW P v) with
  | none => rw [hu] at hs'; simp at hs'
  | some inf' =>
  rw [hu] at hs'
  dsimp only at hs'
  cases hl : transLoop P (fset s.status v St.I) v s.links (P.nbrs v) with
  | none => rw [hl] at hs'; simp at hs'
  | some links' =>
    rw [hl] at hs'
    simp only [pure, Option.some.injEq] at hs'
    subst hs'
    obtain ⟨l19, hl19, hR19⟩ := GenLD.update_sim σ.infecteds s.inf inf' v (nodeW P v) h.rel.inf hu
    rw [← hag.nodeweight_sis] at hl19
    obtain ⟨p', hRp, hp'⟩ := ops_fold links (transOp P v) (transBody A v) (transBody_eq hag hsis v)
      (fset σ.status v St.I) (A.nbrs v) (transOps_nonneg hwf _ v _) σ.IS_links s.links links' h.rel.links
      h.inv.linkInv (by rw [hag.nbrs, h.rel.status]; exact (transLoop_eq P _ v _ _).symm.trans hl)
    have hfold := fun it tr =>
      hp' { σ with status := fset σ.status v St.I, infecteds := l19, infection_times := it, transmissions := tr }
        rfl rfl
    refine ⟨({ σ with status := fset σ.status v St.I, infecteds := l19, IS_links := p',
                      infection_times :=
                        if A.full then PyTM.ddAppend σ.infection_times v σ.t else σ.infection_times,
                      transmissions := if A.full then σ.transmissions ++ [(σ.t, some u, v)] else σ.transmissions,
                      times := σ.times ++ [σ.t], S := σ.S ++ [hd s.S - 1], I := σ.I ++ [hd s.I + 1] } : Loc),
      _, ?_, happ,
      ⟨⟨congrArg (fset · v St.I) h.rel.status, hR19, hRp, times_append h.rel.times h.ht, row_append h.rel.S _,
        row_append h.rel.I _⟩, hinv', h.ht, n1, n2⟩,
      fun hf tr0 h0 => ?_⟩
    · unfold transRest
      cases A.full <;>
        simp only [Bool.false_eq_true, if_false, if_true, pure_bind, hl19, TM.liftE_ok_bind, hfold, links,
          listLast_row h.rel.S h.hS, listLast_row h.rel.I h.hI]
    · show (if A.full = true then σ.transmissions ++ [(σ.t, some u, v)] else σ.transmissions) = _
      rw [if_pos hf, h.ht, h0, hlog, transLog_trans, List.append_assoc]

def clocked (σ : Loc) (rr tr : Rat) (d : ERat) : Loc :=
  { σ with total_recovery_rate := rr, total_transmission_rate := tr, total_rate := rr + tr, delay := d,
           t := ERat.add σ.t d }

theorem tail_eq (A : PyTM.GArgs) (k : Loc → TM Loc) (σ : Loc) (inf : LD Node) (ls : LD (Node × Node))
    (h1 : GenLD.R σ.infecteds inf) (h2 : GenLD.R σ.IS_links ls) :
    tail A k σ =
      if decide (A.gamma * inf.totalWeight + A.tau * ls.totalWeight > 0) = true then
        TM.popExpo (A.gamma * inf.totalWeight + A.tau * ls.totalWeight) >>= fun d =>
          k (clocked σ (A.gamma * inf.totalWeight) (A.tau * ls.totalWeight) (some d))
      else k (clocked σ (A.gamma * inf.totalWeight) (A.tau * ls.totalWeight) none) := by
  simp only [tail, GenLD.total_weight_sim _ _ h1, GenLD.total_weight_sim _ _ h2, TM.liftE_ok_bind]
  split <;> simp only [bind_assoc, pure_bind] <;> rfl

theorem tail_bisim (hag : Agree A P tmin tmax cfuel) (σ : Loc) (s : GState) (tv : Rat) (h : MidRel P tv σ s)
    (k : Loc → TM Loc) (k' : GState → ERat → TM GState) (Q : Loc → GState → Prop)
    (hk : ∀ σ' t', LRel A P σ' s t' → σ'.transmissions = σ.transmissions → Bisim (k σ') (k' s t') Q) :
    Bisim (tail A k σ) (mTail P tv k' s) Q := by
  rw [tail_eq A k σ s.inf s.links h.rel.inf h.rel.links, hag.totalRate]
  refine clock_bisim s tv _ k k' Q fun d hd => hk _ _ ?_ rfl
  exact ⟨⟨h.rel.status, h.rel.inf, h.rel.links, h.rel.times, h.rel.S, h.rel.I⟩, h.inv,
    congrArg (ERat.add · d) h.ht, congrArg (· * _) hag.gamma, congrArg (· * _) hag.tau, hag.totalRate s, hd,
    h.hS, h.hI⟩

theorem loop_bisim (hag : Agree A P tmin tmax cfuel) (hwf : WF P) (hsis : P.sis = true) (fuel : Nat)
    (σ₀ : Loc) (s₀ : GState) (t₀ : ERat) (h₀ : LRel A P σ₀ s₀ t₀) :
    Bisim (loop A fuel σ₀) (Gillespie.loop P tmax cfuel fuel s₀ t₀)
      (fun σ' s' => (∃ t', LRel A P σ' s' t') ∧ TrStep A.full σ₀.transmissions s₀ σ'.transmissions s') :=
  while_bisim (loop A) (·.infecteds) (·.IS_links) (·.transmissions) A.full A.cfuel _ _ (recRest A) (transRest A)
    (tail A) (fun _ => rfl) (loop_succ A) hag.cfuel (LRel A P) (MidRel P)
    (fun _ _ _ h => ⟨h.rel.inf, h.rel.links, h.inv⟩)
    (fun σ s t h => by rw [GenLD.len__, h.rel.inf.items, h.ht, hag.tmax])
    (fun σ s tv h => by rw [h.rr, h.tot, PyTM.fdiv_ok _ _ (ne_of_gt (h.pos tv rfl))]; rfl)
    (rec_event hag hwf hsis) (trans_event hag hwf hsis) (tail_bisim hag) fuel σ₀ s₀ σ₀ s₀ t₀ h₀ fun _ _ h => h

theorem stI_fold (P : PyTM.GArgs) (l : List Node) (σ : Loc) :
    l.foldlM (stBodyI P) σ = pure { σ with
      status := l.foldl (fun st n => fset st n St.I) σ.status
      infection_times :=
        if P.full then l.foldl (fun m n => PyTM.ddAppend m n σ.t) σ.infection_times else σ.infection_times
      transmissions := if P.full then σ.transmissions ++ l.map (fun n => (σ.t, none, n)) else σ.transmissions } := by
  induction l generalizing σ with
  | nil => cases P.full <;> simp
  | cons n rest ih =>
    rw [List.foldlM_cons, stBodyI]
    cases hf : P.full <;> simp only [hf, if_true, if_false, Bool.false_eq_true, pure_bind, ih] <;> simp

theorem initInner_eq (hag : Agree A P tmin tmax cfuel) (node : Node) (σ : Loc) (n : Node) :
    initInner A node σ n = links.step σ (initOp P node σ.status n) := by
  unfold initInner initOp
  rw [hag.edgeweight_sis]
  by_cases h : σ.status n = St.S
  · simp only [h, decide_true, if_true]; rfl
  · simp only [h, decide_false, if_false, Bool.false_eq_true]; rfl

theorem init_fold (hag : Agree A P tmin tmax cfuel) (hwf : WF P) (l : List Node) :
    ∀ (σ : Loc) (inf inf' : LD Node) (ls ls' : LD (Node × Node)),
      GenLD.R σ.infecteds inf → GenLD.R σ.IS_links ls → LD.Inv inf → LD.Inv ls →
      initLoop P σ.status l inf ls = some (inf', ls') →
      ∃ p1 p2, l.foldlM (initBody A) σ = pure { σ with infecteds := p1, IS_links := p2 } ∧
        GenLD.R p1 inf' ∧ GenLD.R p2 ls' := by
  induction l with
  | nil =>
    intro σ inf inf' ls ls' h1 h2 _ _ h
    simp only [initLoop, Option.some.injEq, Prod.mk.injEq] at h
    obtain ⟨rfl, rfl⟩ := h
    exact ⟨σ.infecteds, σ.IS_links, rfl, h1, h2⟩
  | cons node rest ih =>
    intro σ inf inf' ls ls' h1 h2 hI1 hI2 h
    rw [initLoop] at h
    cases hu : inf.update node (nodeW P node) with
    | none => rw [hu] at h; simp at h
    | some inf1 =>
      rw [hu] at h
      dsimp only at h
      cases hl : initLinks P σ.status node ls (P.nbrs node) with
      | none => rw [hl] at h; simp at h
      | some ls1 =>
        rw [hl] at h
        dsimp only at h
        obtain ⟨l3, hl3, hR3⟩ := GenLD.update_sim σ.infecteds inf inf1 node (nodeW P node) h1 hu
        rw [← hag.nodeweight_sis] at hl3
        have hInv1 : LD.Inv inf1 := LD.inv_update inf inf1 node (nodeW P node) hI1 (nodeW_nonneg P hwf node) hu
        rw [initLinks_eq] at hl
        have hInv2 : LD.Inv ls1 := LD.inv_applyOps ls _ ls1 hI2 (initLinksOps_nonneg hwf _ _ _) hl
        obtain ⟨p', hRp, hp'⟩ := ops_fold links (initOp P node) (initInner A node) (initInner_eq hag node) σ.status
          (A.nbrs node) (initLinksOps_nonneg hwf _ _ _) σ.IS_links ls ls1 h2 hI2 (by rw [hag.nbrs]; exact hl)
        obtain ⟨p1, p2, hfin, hR1, hR2⟩ := ih { σ with infecteds := l3, IS_links := p' } inf1 inf' ls1 ls'
          hR3 hRp hInv1 hInv2 h
        refine ⟨p1, p2, ?_, hR1, hR2⟩
        rw [List.foldlM_cons]
        unfold initBody
        simp only [hl3, TM.liftE_ok_bind]
        rw [hp' { σ with infecteds := l3 } rfl rfl, pure_bind]
        exact hfin

theorem ite_inf (σ : Loc) (b : Bool) :
    (if (!b) = true then (pure { σ with infecteds := GenLD.init false } : TM Loc)
      else pure { σ with infecteds := GenLD.init true }) = pure { σ with infecteds := GenLD.init b } := by
  cases b <;> rfl

theorem ite_links (σ : Loc) (b : Bool) :
    (if (!b) = true then (pure { σ with IS_links := GenLD.init false } : TM Loc)
      else pure { σ with IS_links := GenLD.init true }) = pure { σ with IS_links := GenLD.init b } := by
  cases b <;> rfl

theorem initK_eval (hag : Agree A P tmin tmax cfuel) (hwf : WF P) (infs : List Node) (s0 : GState)
    (h0 : init P infs [] tmin = some s0) (hinv0 : Gillespie.Inv P s0) :
    ∃ σ0, (∀ k, initK A infs k = k σ0) ∧ MidRel P tmin σ0 s0 ∧
      (A.full = true → σ0.transmissions = initTrans tmin infs) := by
  simp only [init] at h0
  cases hloop : initLoop P (initStatus infs []) infs (LD.empty P.nw.isSome) (LD.empty P.ew.isSome) with
  | none => rw [hloop] at h0; simp at h0
  | some pr =>
    obtain ⟨inf', ls'⟩ := pr
    rw [hloop] at h0
    simp only [Option.some.injEq] at h0
    subst h0
    let σd : Loc :=
      { Loc.init with
        I := [(infs.length : Int)]
        S := [((A.order : Int) - (infs.length : Int))]
        times := [some A.tmin]
        t := some A.tmin
        status := infs.foldl (fun st n => fset st n St.I) fun _ => St.S
        transmissions := if A.full then [] ++ infs.map (fun n => (some A.tmin, none, n)) else []
        infection_times := if A.full then infs.foldl (fun m n => PyTM.ddAppend m n (some A.tmin)) [] else []
        infecteds := GenLD.init A.hasRW
        IS_links := GenLD.init A.hasTW }
    have hst : σd.status = initStatus infs [] := initStatus_eq infs []
    obtain ⟨p1, p2, hfold, hR1, hR2⟩ := init_fold hag hwf infs σd (LD.empty P.nw.isSome) inf'
      (LD.empty P.ew.isSome) ls'
      (by show GenLD.R (GenLD.init A.hasRW) _; rw [hag.hasRW]; exact GenLD.init_R _)
      (by show GenLD.R (GenLD.init A.hasTW) _; rw [hag.hasTW]; exact GenLD.init_R _)
      (LD.inv_empty _) (LD.inv_empty _) (by rw [hst]; exact hloop)
    refine ⟨{ σd with infecteds := p1, IS_links := p2 }, fun k => ?_, ?_, fun hf => ?_⟩
    · unfold initK
      simp only [Loc.init, listGet, List.getElem?_cons_zero, ExceptStep.pure_eq_ok, TM.liftE_ok_bind, stI_fold, pure_bind,
        ite_inf, ite_links]
      exact congrArg (· >>= k) hfold |>.trans (pure_bind _ _)
    · refine ⟨⟨hst, hR1, hR2, congrArg (fun x => [some x]) hag.tmin, ?_, rfl⟩, hinv0, congrArg some hag.tmin,
        List.cons_ne_nil _ _, List.cons_ne_nil _ _⟩
      -- the model subtracts the (empty) list of recovered nodes as well
      show [(A.order : Int) - (infs.length : Int)] = _
      simp [hag.order]
    · show (if A.full = true then [] ++ infs.map (fun n => (some A.tmin, none, n)) else []) = _
      rw [if_pos hf, hag.tmin]; rfl

/-- **the whole function**: the generated `Gillespie_SIS` and the model's `run` (with `P.sis = true`, no recovered
nodes) simulate each other on every tape; see `GenGSIR.run_bisim` -/
theorem run_bisim (hag : Agree A P tmin tmax cfuel) (hwf : WF P) (hsis : P.sis = true) (infs : List Node)
    (fuel : Nat) (hi : infs.Nodup) (him : ∀ u ∈ infs, u ∈ P.nodes) :
    Bisim (run A infs fuel) (Gillespie.run P infs [] tmin tmax fuel cfuel)
      (fun σ s => (∃ t, LRel A P σ s t) ∧
        (A.full = true → σ.transmissions = initTrans tmin infs ++ transLog s.log)) := by
  obtain ⟨s0, h0, hinv0, -⟩ := init_inv' P hwf infs [] tmin hi him (by simp) (fun _ => rfl)
  obtain ⟨σ0, hσ0, hmid, htr0⟩ := initK_eval hag hwf infs s0 h0 hinv0
  rw [run_eq, hσ0]
  unfold Gillespie.run
  rw [h0]
  refine tail_bisim hag σ0 s0 tmin hmid _ (Gillespie.loop P tmax cfuel fuel) _ fun σ' t' h htr => ?_
  refine (loop_bisim hag hwf hsis fuel σ' s0 t' h).mono fun _ _ ⟨h1, h2⟩ => ⟨h1, fun hf => h2 hf _ ?_⟩
  rw [htr, htr0 hf, (init_shape P infs [] tmin s0 h0).2.2.2.2.2, transLog_nil, List.append_nil]

end GenGSIS
