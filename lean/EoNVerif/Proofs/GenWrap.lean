import EoNVerif.Gen.WrapGen
import EoNVerif.Proofs.GenInitCond
import EoNVerif.Proofs.GenHelp
import Mathlib.Tactic.Ring
import Mathlib.Tactic.Linarith
import Mathlib.Tactic.FieldSimp
import Mathlib.Algebra.Order.Field.Rat
/-!
The base of everything about the twenty `*_from_graph` wrappers GENERATED into `Gen/WrapGen.lean` (namespace `GenWrap`): the
request (`SetsOK`, `rhoOr`), and for C06e the closed forms of the argument records and the counting lemmas tying
`len(initial_infecteds)` to the status counts of `Model/InitCond.lean`.

In this file and in GenWrap2–5 a statement whose left side is a `foldlM (fun acc_ k_ => do let d_21 ← …)` or a whole `do` block is
the generated text up to binder names; `rw` / `simp only` match it syntactically.  When `Gen/WrapGen.lean` changes shape, these
are the lemmas to restate.
-/
namespace GenWrapProofs
open GenInit InitCond GenInitProofs GenWrap
open ExceptStep (ok_bind err_bind pure_eq_ok)
open GenHelpProofs (throw_eq_err PkAL kAveAL)

/-! ## composing a wrapper with its base function

The composed wrapper is `f_args … >>= base`.  Rewrite it with `bind_ok h _` where `h : f_args … = .ok a` is a record
theorem; stating the composed equation with the record literal inline and closing it by `rfl` makes the kernel
unfold the base function on both sides. -/

export ExceptStep (bind_ok bind_ok_inv)

/-! ## the initial sets -/

/-- the hypotheses of C06c on the initial sets: disjoint lists of graph nodes -/
structure SetsOK (adj : List (List Nat)) (infs recs : List Node) : Prop where
  disj : ∀ u ∈ infs, u ∉ recs
  infIn : ∀ u ∈ infs, u < adj.length
  recIn : ∀ u ∈ recs, u < adj.length

theorem SetsOK.nil_recs {adj : List (List Nat)} {infs : List Node} (h : ∀ u ∈ infs, u < adj.length) :
    SetsOK adj infs [] := ⟨fun _ _ => by simp, h, fun _ hu => by simp at hu⟩

theorem count_R (adj : List (List Nat)) (infs recs : List Node) (hn : recs.Nodup) (hr : ∀ u ∈ recs, u < adj.length) :
    count adj (statusOf infs recs) St.R = recs.length := by
  unfold count
  refine List.nodup_range.length_filter_eq hn _ fun v => ?_
  rw [List.mem_range, decide_eq_true_eq]
  unfold statusOf
  by_cases h1 : v ∈ recs
  · simp [h1, hr v h1]
  · by_cases h2 : v ∈ infs <;> simp [h1, h2]

theorem count_I (adj : List (List Nat)) (infs recs : List Node) (hn : infs.Nodup) (hS : SetsOK adj infs recs) :
    count adj (statusOf infs recs) St.I = infs.length := by
  unfold count
  refine List.nodup_range.length_filter_eq hn _ fun v => ?_
  rw [List.mem_range, decide_eq_true_eq]
  unfold statusOf
  by_cases h2 : v ∈ infs
  · simp [hS.disj v h2, h2, hS.infIn v h2]
  · by_cases h1 : v ∈ recs <;> simp [h1, h2]

theorem count_S (adj : List (List Nat)) (infs recs : List Node) (hi : infs.Nodup) (hr : recs.Nodup)
    (hS : SetsOK adj infs recs) :
    (count adj (statusOf infs recs) St.S : Int) = (adj.length : Int) - infs.length - recs.length := by
  have := count_total adj (statusOf infs recs)
  rw [count_I adj infs recs hi hS, count_R adj infs recs hr hS.recIn] at this
  omega

theorem statusOf_nil_ne_R (infs : List Node) (v : Nat) : statusOf infs [] v ≠ St.R := by
  unfold statusOf
  by_cases h : v ∈ infs <;> simp [h]

theorem count_R_nil (adj : List (List Nat)) (infs : List Node) : count adj (statusOf infs []) St.R = 0 := by
  unfold count
  rw [List.length_eq_zero_iff, List.filter_eq_nil_iff]
  intro u _
  simpa using statusOf_nil_ne_R infs u

theorem pairCount_nil_R (adj : List (List Nat)) (infs : List Node) (x y : St) (h : x = St.R ∨ y = St.R) :
    pairCount adj (statusOf infs []) x y = 0 := by
  unfold pairCount
  apply List.sum_eq_zero
  intro n hn
  obtain ⟨u, -, rfl⟩ := List.mem_map.mp hn
  split
  · rename_i hu
    rcases h with rfl | rfl
    · exact absurd hu (statusOf_nil_ne_R infs u)
    · rw [List.length_eq_zero_iff, List.filter_eq_nil_iff]
      intro v _
      simpa using statusOf_nil_ne_R infs v
  · rfl

/-! ## graph sizes -/

theorem length_opairs (adj : List (List Nat)) : (opairs adj).length = twoM adj := by
  unfold opairs
  rw [twoM, ← map_range_deg]
  generalize List.range adj.length = l
  induction l with
  | nil => rfl
  | cons a t ih =>
    simp only [List.flatMap_cons, List.length_append, List.length_map, List.map_cons, List.sum_cons, ih]
    rfl

theorem two_edges (A : IArgs) (adj : List (List Nat)) (hG : GraphOK A adj) : A.edges.length * 2 = twoM adj := by
  rw [← length_opairs, (opairs_perm A adj hG).length_eq]
  simp; omega

theorem nodes_length (A : IArgs) (adj : List (List Nat)) (hG : GraphOK A adj) : A.nodes.length = adj.length := by
  rw [hG.nodes]; simp

theorem degs_eq (A : IArgs) (adj : List (List Nat)) (hG : GraphOK A adj) :
    A.nodes.map A.degree = adj.map (·.length) := by
  rw [hG.nodes, ← map_range_deg]
  apply List.map_congr_left
  intro u hu; exact hG.degree u (List.mem_range.mp hu)

theorem nodes_nil_iff (A : IArgs) (adj : List (List Nat)) (hG : GraphOK A adj) : A.nodes = [] ↔ adj.length = 0 := by
  rw [← nodes_length A adj hG, List.length_eq_zero_iff]

/-! ## the requests -/

theorem request_cases (infs recs : Option (List Node)) (rho : Option Rat) :
    (∃ r, rho = some r ∧ (infs.isSome ∨ recs.isSome)) ∨ (∃ l, infs = some l ∧ rho = none) ∨
    (infs = none ∧ ¬ (rho.isSome ∧ recs.isSome)) := by
  cases infs <;> cases recs <;> cases rho <;> simp

theorem guard_false {α β : Type} {a : Option α} {b : Option β} (h : ¬ (a.isSome ∧ b.isSome)) :
    (a.isSome && b.isSome) = false := by
  cases a <;> cases b <;> simp at h ⊢

/-- the `rho` used when neither `rho` nor `initial_infecteds` is given: `1/G.order()` (ZeroDivisionError on the empty
graph) -/
def rhoOr (A : WArgs) (rho : Option Rat) : Except String Rat :=
  match rho with
  | some r => .ok r
  | none => if A.nodes.length = 0 then .error "ZeroDivisionError" else .ok (1 / (A.nodes.length : Rat))

theorem rhoOr_graph (A : WArgs) (adj : List (List Nat)) (hG : GraphOK A.toIArgs adj) (hN : adj.length ≠ 0)
    (rho : Option Rat) : rhoOr A rho = .ok (rho.getD (1 / (adj.length : Rat))) := by
  cases rho with
  | some r => rfl
  | none => simp [rhoOr, nodes_length A.toIArgs adj hG, hN]

/-! ## the homogeneous mean-field wrappers -/

/-- `2·G.size()/G.order()` as the wrappers compute it -/
def kave (A : WArgs) : Rat := (A.edges.length : Rat) * 2 / (A.nodes.length : Rat)

theorem fdiv_N (a : Rat) (n : Nat) :
    PyTM.fdiv a ((n : Nat) : Rat) = if n = 0 then .error "ZeroDivisionError" else .ok (a / (n : Rat)) := by
  unfold PyTM.fdiv
  by_cases h : n = 0
  · subst h; simp
  · have : ((n : Nat) : Rat) ≠ 0 := by exact_mod_cast h
    simp [h]

theorem SIS_hom_mf_closed (A : WArgs) (tau gamma : Rat) (infs : Option (List Node)) (rho : Option Rat)
    (tmin tmax : Rat) (tcount : Int) :
    SIS_homogeneous_meanfield_from_graph_args A tau gamma infs rho tmin tmax tcount =
      if rho.isSome ∧ infs.isSome then .error "EoNError" else
      if A.nodes.length = 0 then .error "ZeroDivisionError" else
      let I0 : Rat := match infs, rho with
        | some l, _ => (l.length : Rat)
        | none, some r => r * (A.nodes.length : Rat)
        | none, none => 1
      .ok { S0 := (A.nodes.length : Rat) - I0, I0 := I0, n := kave A, tau := tau, gamma := gamma,
            tmin := tmin, tmax := tmax, tcount := tcount } := by
  unfold SIS_homogeneous_meanfield_from_graph_args
  simp only [Int.cast_natCast, fdiv_N]
  by_cases hN : A.nodes.length = 0
  · simp only [hN, if_true, err_bind]
    cases infs <;> cases rho <;> rfl
  · simp only [hN, if_false, ok_bind, kave]
    cases infs <;> cases rho <;>
      simp only [Option.isSome_none, Option.isSome_some, Bool.and_self, Bool.and_false, Bool.and_true,
        Bool.false_eq_true, ↓reduceIte, Int.cast_sub, Int.cast_natCast, pure_eq_ok, throw_eq_err, and_self, and_false,
        and_true]

theorem SIR_hom_mf_closed (A : WArgs) (tau gamma : Rat) (infs recs : Option (List Node)) (rho : Option Rat)
    (tmin tmax : Rat) (tcount : Int) :
    SIR_homogeneous_meanfield_from_graph_args A tau gamma infs recs rho tmin tmax tcount =
      if rho.isSome ∧ infs.isSome then .error "EoNError" else
      if rho.isSome ∧ recs.isSome then .error "EoNError" else
      if A.nodes.length = 0 then .error "ZeroDivisionError" else
      let I0 : Rat := match infs, rho with
        | some l, _ => (l.length : Rat)
        | none, some r => r * (A.nodes.length : Rat)
        | none, none => 1
      let R0 : Rat := (((recs.getD []).length : Nat) : Rat)
      .ok { S0 := (A.nodes.length : Rat) - I0 - R0, I0 := I0, R0 := R0, n := kave A, tau := tau, gamma := gamma,
            tmin := tmin, tmax := tmax, tcount := tcount } := by
  unfold SIR_homogeneous_meanfield_from_graph_args
  simp only [Int.cast_natCast, fdiv_N]
  by_cases hN : A.nodes.length = 0
  · simp only [hN, if_true, err_bind]
    cases infs <;> cases recs <;> cases rho <;> rfl
  · simp only [hN, if_false, ok_bind, kave]
    cases infs <;> cases recs <;> cases rho <;>
      simp only [Option.isSome_none, Option.isSome_some, Bool.and_self, Bool.and_false, Bool.and_true,
        Bool.false_eq_true, ↓reduceIte, Int.cast_zero, Int.cast_sub, Int.cast_natCast, Nat.cast_zero, sub_zero,
        pure_eq_ok, throw_eq_err, ok_bind, and_self, and_false, and_true, Option.getD_none, Option.getD_some,
        List.length_nil]

/-! ## the mean degree `n = Σ_{k ∈ Pk} k·Pk[k]` -/

theorem wdictGet_key (Pk : List (Nat × Rat)) (k : Nat) (hk : k ∈ Pk.map (·.1)) :
    PyWrap.dictGet Pk ((k : Nat) : Int) = .ok (alGet Pk 0 k) := by
  unfold PyWrap.dictGet
  rw [if_neg (by omega), Int.toNat_natCast,
    dictGet_of_has Pk k 0 (alHas_of_mem_keys Pk k hk)]

def meanK (degs : List Nat) : Rat := ((degs.sum : Nat) : Rat) / ((degs.length : Nat) : Rat)

theorem sum_keys_PkAL (degs : List Nat) (g : Nat → Rat) :
    sumRat (((PkAL degs).map (·.1)).map fun k => alGet (PkAL degs) 0 k * g k) = Helpers.meanDeg degs g := by
  rw [GenHelpProofs.PkAL_keys, ← Helpers.sumRat_Pk_mul, ← ODE.sumTo,
    ODE.sumTo_eq_sumRat_of_support _ degs.eraseDups (GenHelpProofs.nodup_eraseDups degs)]
  · apply sumRat_map_congr
    intro k _
    rw [GenHelpProofs.PkAL_get]
  · intro k hk
    have := Helpers.le_maxDeg degs k (List.mem_eraseDups.mp hk)
    omega
  · intro k hk
    have : Helpers.countEq degs k = 0 := by
      unfold Helpers.countEq
      rw [List.length_eq_zero_iff, List.filter_eq_nil_iff]
      intro a ha
      have : a ≠ k := fun e => hk (List.mem_eraseDups.mpr (e ▸ ha))
      simpa using this
    simp [Helpers.Pk, this]

theorem kAveAL_PkAL (degs : List Nat) : kAveAL (PkAL degs) = meanK degs := by
  unfold kAveAL meanK
  rw [← sumRat_cast_nat, ← Helpers.meanDeg, ← sum_keys_PkAL]
  apply sumRat_map_congr
  intro k _
  ring

theorem meanK_graph (A : IArgs) (adj : List (List Nat)) (hG : GraphOK A adj) :
    meanK (A.nodes.map A.degree) = (twoM adj : Rat) / (adj.length : Rat) := by
  unfold meanK
  rw [degs_eq A adj hG, List.length_map]
  rfl

/-- the mean degree as the pairwise wrappers sum it over the keys of `Pk` -/
theorem meanK_fold (degs : List Nat) :
    ((PkAL degs).map (·.1)).foldlM (fun (acc_ : Rat) (k_ : Nat) => do
      let d_2 ← PyWrap.dictGet (PkAL degs) ((k_ : Nat) : Int)
      (pure (acc_ + ((((k_ : Nat) : Int) : Rat) * d_2)) : Except String Rat)) 0 = .ok (meanK degs) := by
  rw [GenHelpProofs.fold_keys_ok _ (fun k => ((k : Nat) : Rat) * alGet (PkAL degs) 0 k), zero_add, ← kAveAL_PkAL]
  · rfl
  · intro k hk acc
    simp [wdictGet_key _ k hk]

/-! ## the homogeneous pairwise wrappers -/

/-- one iteration of the edge loop of `SIS_homogeneous_pairwise_from_graph` on `(SI0, SS0, II0)` -/
def sisPwStep (st : Node → St) (acc : Int × Int × Int) (e : Node × Node) : Int × Int × Int :=
  if st e.1 = st e.2 then
    (if st e.1 = St.S then (acc.1, acc.2.1 + 2, acc.2.2) else (acc.1, acc.2.1, acc.2.2 + 2))
  else (acc.1 + 1, acc.2.1, acc.2.2)

theorem sisPwStep_eq (st : Node → St) (hR : ∀ v, st v ≠ St.R) (a b c : Int) (e : Node × Node) :
    sisPwStep st (a, b, c) e =
      (a + (((if st e.1 = St.S ∧ st e.2 = St.I then 1 else 0 : Nat) : Int) +
            ((if st e.1 = St.I ∧ st e.2 = St.S then 1 else 0 : Nat) : Int)),
       b + 2 * ((if st e.1 = St.S ∧ st e.2 = St.S then 1 else 0 : Nat) : Int),
       c + 2 * ((if st e.1 = St.I ∧ st e.2 = St.I then 1 else 0 : Nat) : Int)) := by
  have h1 := hR e.1
  have h2 := hR e.2
  unfold sisPwStep
  cases h1' : st e.1 <;> cases h2' : st e.2 <;> simp [h1', h2'] at h1 h2 ⊢

theorem foldl_sisPwStep (st : Node → St) (hR : ∀ v, st v ≠ St.R) (l : List (Node × Node)) (a b c : Int) :
    l.foldl (sisPwStep st) (a, b, c) =
      (a + ((ec st l St.S St.I + ec st l St.I St.S : Nat) : Int), b + 2 * ec st l St.S St.S,
        c + 2 * ec st l St.I St.I) := by
  have h := fun (s : Int × Int × Int) (e : Node × Node) => sisPwStep_eq st hR s.1 s.2.1 s.2.2 e
  refine Prod.ext ?_ (Prod.ext ?_ ?_)
  · rw [foldl_acc (fun s => s.1) _ _ l (fun s e _ => congrArg (·.1) (h s e)), List.sum_map_add]
    simp only [Nat.cast_add, ec_eq_sum]
  · rw [foldl_acc (fun s => s.2.1) _ _ l (fun s e _ => congrArg (·.2.1) (h s e)), ec_eq_sum st l St.S St.S, List.sum_map_mul_left]
  · rw [foldl_acc (fun s => s.2.2) _ _ l (fun s e _ => congrArg (·.2.2) (h s e)), ec_eq_sum st l St.I St.I, List.sum_map_mul_left]

/-- one iteration of the edge loop of `SIR_homogeneous_pairwise_from_graph` on `(SS0, SI0)`: an S–S edge adds 2 to `SS0`, an
S–I edge (either orientation) 1 to `SI0` -/
def sirPwStep (st : Node → St) (acc : Int × Int) (e : Node × Node) : Int × Int :=
  ((edgeStep st (acc.1, acc.2, 0) e).1, (edgeStep st (acc.1, acc.2, 0) e).2.1)

theorem foldl_sirPwStep (st : Node → St) (l : List (Node × Node)) (a b : Int) :
    l.foldl (sirPwStep st) (a, b) =
      (a + 2 * ec st l St.S St.S, b + ((ec st l St.S St.I + ec st l St.I St.S : Nat) : Int)) := by
  refine Prod.ext ?_ ?_
  · rw [foldl_acc Prod.fst _ _ l (fun _ _ _ => rfl), ec_eq_sum, List.sum_map_mul_left]
  · rw [foldl_acc Prod.snd _ _ l (fun _ _ _ => rfl), List.sum_map_add]; simp only [Nat.cast_add, ec_eq_sum]

theorem SIS_hom_pw_sets (A : WArgs) (tau gamma : Rat) (infs : List Node) (tmin tmax : Rat) (tcount : Int) (full : Bool) :
    SIS_homogeneous_pairwise_from_graph_args A tau gamma (some infs) none tmin tmax tcount full =
      initialize_node_status A.toIArgs infs [] >>= fun st =>
      .ok { S0 := (A.nodes.length : Rat) - (infs.length : Rat), I0 := (infs.length : Rat),
            SI0 := (((A.edges.foldl (sisPwStep st) (0, 0, 0)).1 : Int) : Rat),
            SS0 := (((A.edges.foldl (sisPwStep st) (0, 0, 0)).2.1 : Int) : Rat),
            n := meanK (A.nodes.map A.degree), tau := tau, gamma := gamma, tmin := tmin, tmax := tmax,
            tcount := tcount, return_full_data := full } := by
  unfold SIS_homogeneous_pairwise_from_graph_args
  simp only [Option.isSome_none, Bool.false_and, Bool.false_eq_true, if_false, GenHelpProofs.get_Pk_eq, ok_bind,
    meanK_fold, Option.getD_none]
  congr 1; funext st
  rw [GenHelpProofs.foldlM_ok_mem _ (sisPwStep st)]
  · simp
  · rintro ⟨u, v⟩ - ⟨a, b, c⟩
    unfold sisPwStep
    cases h1 : st u <;> cases h2 : st v <;> simp

theorem SIS_hom_pw_both (A : WArgs) (tau gamma : Rat) (infs : List Node) (r : Rat) (tmin tmax : Rat) (tcount : Int)
    (full : Bool) :
    SIS_homogeneous_pairwise_from_graph_args A tau gamma (some infs) (some r) tmin tmax tcount full
      = .error "EoNError" := rfl

theorem SIS_hom_pw_rho (A : WArgs) (tau gamma : Rat) (rho : Option Rat) (tmin tmax : Rat) (tcount : Int) (full : Bool) :
    SIS_homogeneous_pairwise_from_graph_args A tau gamma none rho tmin tmax tcount full =
      (rhoOr A rho >>= fun r =>
        let N : Rat := (A.nodes.length : Rat)
        let n := meanK (A.nodes.map A.degree)
        .ok { S0 := (1 - r) * N, I0 := r * N, SI0 := (1 - r) * N * n * r, SS0 := (1 - r) * N * n * (1 - r),
              n := n, tau := tau, gamma := gamma, tmin := tmin, tmax := tmax, tcount := tcount,
              return_full_data := full }) := by
  unfold SIS_homogeneous_pairwise_from_graph_args
  simp only [Option.isSome_none, Bool.and_false, Bool.false_eq_true, if_false, GenHelpProofs.get_Pk_eq, ok_bind,
    meanK_fold]
  congr 1
  cases rho with
  | some r => rfl
  | none => simp only [rhoOr, Int.cast_natCast, fdiv_N]; split <;> rfl

theorem getD_eq_match (recs : Option (List Node)) :
    (match recs with
      | some r => (pure r : Except String (List Node))
      | none => do
        let initial_recovereds : List Node := ([] : List Node)
        pure initial_recovereds) = .ok (recs.getD []) := by
  cases recs <;> rfl

/-- `initial_recovereds=None` runs the code of `initial_recovereds=[]`: hence `recs.getD []` -/
theorem SIR_hom_pw_sets (A : WArgs) (tau gamma : Rat) (infs : List Node) (recs : Option (List Node))
    (tmin tmax : Rat) (tcount : Int) (full : Bool) :
    SIR_homogeneous_pairwise_from_graph_args A tau gamma (some infs) recs none tmin tmax tcount full =
      initialize_node_status A.toIArgs infs (recs.getD []) >>= fun st =>
      .ok { S0 := (A.nodes.length : Rat) - (infs.length : Rat) - ((recs.getD []).length : Rat),
            I0 := (infs.length : Rat), R0 := ((recs.getD []).length : Rat),
            SI0 := (((A.edges.foldl (sirPwStep st) (0, 0)).2 : Int) : Rat),
            SS0 := (((A.edges.foldl (sirPwStep st) (0, 0)).1 : Int) : Rat),
            n := meanK (A.nodes.map A.degree), tau := tau, gamma := gamma, tmin := tmin, tmax := tmax,
            tcount := tcount, return_full_data := full } := by
  have key : ∀ r : List Node,
      SIR_homogeneous_pairwise_from_graph_args A tau gamma (some infs) (some r) none tmin tmax tcount full =
        initialize_node_status A.toIArgs infs r >>= fun st =>
        .ok { S0 := (A.nodes.length : Rat) - (infs.length : Rat) - (r.length : Rat),
              I0 := (infs.length : Rat), R0 := (r.length : Rat),
              SI0 := (((A.edges.foldl (sirPwStep st) (0, 0)).2 : Int) : Rat),
              SS0 := (((A.edges.foldl (sirPwStep st) (0, 0)).1 : Int) : Rat),
              n := meanK (A.nodes.map A.degree), tau := tau, gamma := gamma, tmin := tmin, tmax := tmax,
              tcount := tcount, return_full_data := full } := by
    intro r
    unfold SIR_homogeneous_pairwise_from_graph_args
    simp only [Option.isSome_none, Bool.false_and, Bool.false_eq_true, if_false, GenHelpProofs.get_Pk_eq, ok_bind,
      meanK_fold]
    simp only [pure_eq_ok, ok_bind]
    congr 1; funext st
    rw [GenHelpProofs.foldlM_ok_mem _ (sirPwStep st)]
    · simp
    · rintro ⟨u, v⟩ - ⟨a, b⟩
      cases h1 : st u <;> cases h2 : st v <;> simp [sirPwStep, edgeStep, h1, h2]
  cases recs with
  | none => exact key []
  | some r => exact key r

theorem SIR_hom_pw_both (A : WArgs) (tau gamma : Rat) (infs recs : Option (List Node)) (r : Rat) (tmin tmax : Rat)
    (tcount : Int) (full : Bool) (h : infs.isSome ∨ recs.isSome) :
    SIR_homogeneous_pairwise_from_graph_args A tau gamma infs recs (some r) tmin tmax tcount full
      = .error "EoNError" := by
  unfold SIR_homogeneous_pairwise_from_graph_args
  cases infs <;> cases recs <;> simp at h ⊢

/-- `SIR_homogeneous_pairwise_from_graph` without `initial_infecteds` (`initial_recovereds`, if given without `rho`, is
ignored) -/
theorem SIR_hom_pw_rho (A : WArgs) (tau gamma : Rat) (recs : Option (List Node)) (rho : Option Rat)
    (hrr : ¬ (rho.isSome ∧ recs.isSome)) (tmin tmax : Rat) (tcount : Int) (full : Bool) :
    SIR_homogeneous_pairwise_from_graph_args A tau gamma none recs rho tmin tmax tcount full =
      (rhoOr A rho >>= fun r =>
        let N : Rat := (A.nodes.length : Rat)
        let n := meanK (A.nodes.map A.degree)
        .ok { S0 := (1 - r) * N, I0 := r * N, R0 := 0, SI0 := (1 - r) * N * n * r, SS0 := (1 - r) * N * n * (1 - r),
              n := n, tau := tau, gamma := gamma, tmin := tmin, tmax := tmax, tcount := tcount,
              return_full_data := full }) := by
  unfold SIR_homogeneous_pairwise_from_graph_args
  have h2 := guard_false hrr
  simp only [Option.isSome_none, Bool.and_false, Bool.false_eq_true, if_false, h2, GenHelpProofs.get_Pk_eq, ok_bind,
    meanK_fold]
  congr 1
  cases rho with
  | some r => rfl
  | none => simp only [rhoOr, Int.cast_natCast, fdiv_N]; split <;> rfl

/-! ## `_get_Nk_and_IC_as_arrays_` as the wrappers call it -/

theorem maxKey_counter (l : List Nat) :
    PyWrap.maxKey (PyHelp.counter l) = if l = [] then .error "ValueError" else .ok ((Helpers.maxDeg l : Nat) : Int) := by
  unfold PyWrap.maxKey
  by_cases h : l = []
  · subst h; rfl
  · have hne : PyHelp.counter l ≠ [] := by
      intro e
      have := GenHelpProofs.counter_keys l
      rw [e] at this
      cases l with
      | nil => exact h rfl
      | cons a t => simp [List.eraseDups_cons] at this
    rw [GenHelpProofs.maxKey_ok _ hne, if_neg h, GenHelpProofs.maxKeyVal, GenHelpProofs.counter_keys,
      GenHelpProofs.maxDeg_congr _ _ (fun x => List.mem_eraseDups)]
    rfl

theorem maxKey_degrees (A : WArgs) :
    PyWrap.maxKey (PyHelp.counter (A.nodes.map A.degree)) =
      if A.nodes = [] then .error "ValueError" else .ok ((Helpers.maxDeg (A.nodes.map A.degree) : Nat) : Int) := by
  rw [maxKey_counter]; simp only [List.map_eq_nil_iff]

/-- closed form of the generated `get_Nk_and_IC_as_arrays` for all inputs: the three `EoNError` checks, then ValueError
for a graph without nodes (`max` of no degrees), then the builders of C06c -/
theorem arrays_closed (A : WArgs) (infs recs : Option (List Node)) (rho : Option Rat) (SIR : Bool) :
    get_Nk_and_IC_as_arrays A infs recs rho SIR =
      if rho.isSome ∧ infs.isSome then .error "EoNError" else
      if rho.isSome ∧ recs.isSome then .error "EoNError" else
      if SIR = false ∧ recs.isSome then .error "EoNError" else
      if A.nodes = [] then .error "ValueError" else
      match infs with
      | some l => get_Nk_and_IC_sets A.toIArgs l (recs.getD [])
      | none => .ok (get_Nk_and_IC_rho A.toIArgs (rho.getD (1 / (A.nodes.length : Rat)))) := by
  unfold get_Nk_and_IC_as_arrays
  simp only [maxKey_counter, List.map_eq_nil_iff, Int.cast_natCast, fdiv_N]
  by_cases hN : A.nodes = []
  · simp only [hN, if_true, err_bind]
    cases infs <;> cases recs <;> cases rho <;> cases SIR <;> rfl
  · have hl : A.nodes.length ≠ 0 := fun e => hN (List.length_eq_zero_iff.mp e)
    simp only [hN, hl, if_false, ok_bind]
    cases infs <;> cases recs <;> cases rho <;> cases SIR <;> rfl

/-! ## heterogeneous mean-field and compact pairwise wrappers: reduction to the builders -/

theorem SIS_het_mf_closed (A : WArgs) (tau gamma : Rat) (infs : Option (List Node)) (rho : Option Rat)
    (tmin tmax : Rat) (tcount : Int) (full : Bool) :
    SIS_heterogeneous_meanfield_from_graph_args A tau gamma infs rho tmin tmax tcount full =
      (get_Nk_and_IC_as_arrays A infs none rho false >>= fun r =>
        .ok { Sk0 := r.2.1, Ik0 := r.2.2.1, tau := tau, gamma := gamma, tmin := tmin, tmax := tmax, tcount := tcount,
              return_full_data := full }) := by
  unfold SIS_heterogeneous_meanfield_from_graph_args
  by_cases h : rho.isSome ∧ infs.isSome
  · rw [arrays_closed, if_pos h]
    simp [h]
  · have h' := guard_false h
    simp only [h', Bool.false_eq_true, if_false]
    cases get_Nk_and_IC_as_arrays A infs none rho false <;> rfl

theorem SIR_het_mf_closed (A : WArgs) (tau gamma : Rat) (infs recs : Option (List Node)) (rho : Option Rat)
    (tmin tmax : Rat) (tcount : Int) (full : Bool) :
    SIR_heterogeneous_meanfield_from_graph_args A tau gamma infs recs rho tmin tmax tcount full =
      (get_Nk_and_IC_as_arrays A infs recs rho true >>= fun r =>
        .ok { Sk0 := r.2.1, Ik0 := r.2.2.1, Rk0 := r.2.2.2, tau := tau, gamma := gamma, tmin := tmin, tmax := tmax,
              tcount := tcount, return_full_data := full }) := by
  unfold SIR_heterogeneous_meanfield_from_graph_args
  cases get_Nk_and_IC_as_arrays A infs recs rho true <;> rfl

theorem SIS_cp_sets (A : WArgs) (tau gamma : Rat) (infs : List Node) (tmin tmax : Rat) (tcount : Int) (full : Bool) :
    SIS_compact_pairwise_from_graph_args A tau gamma (some infs) none tmin tmax tcount full =
      if A.nodes = [] then .error "ValueError" else
      (get_Nk_and_IC_sets A.toIArgs infs [] >>= fun r =>
       count_edge_types A.toIArgs infs [] >>= fun c =>
        .ok { Sk0 := r.2.1, Ik0 := r.2.2.1, SI0 := ((c.2.1 : Int) : Rat), SS0 := ((c.1 : Int) : Rat),
              II0 := ((c.2.2 : Int) : Rat), tau := tau, gamma := gamma, tmin := tmin, tmax := tmax, tcount := tcount,
              return_full_data := full }) := by
  unfold SIS_compact_pairwise_from_graph_args
  simp only [Option.isSome_none, Option.isSome_some, Bool.false_and, Bool.false_eq_true, if_false, Option.isNone_none,
    Option.isNone_some, Bool.and_false, pure_eq_ok, ok_bind, arrays_closed, and_false, and_true,
    Option.getD_none]
  by_cases hN : A.nodes = []
  · simp [hN]
  · simp only [hN, if_false]

theorem SIR_cp_sets (A : WArgs) (tau gamma : Rat) (infs : List Node) (recs : Option (List Node)) (tmin tmax : Rat)
    (tcount : Int) (full : Bool) :
    SIR_compact_pairwise_from_graph_args A tau gamma (some infs) recs none tmin tmax tcount full =
      if A.nodes = [] then .error "ValueError" else
      (get_Nk_and_IC_sets A.toIArgs infs (recs.getD []) >>= fun r =>
       count_edge_types A.toIArgs infs (recs.getD []) >>= fun c =>
        .ok { Sk0 := r.2.1, I0 := sumRat r.2.2.1, R0 := sumRat r.2.2.2, SS0 := ((c.1 : Int) : Rat),
              SI0 := ((c.2.1 : Int) : Rat), tau := tau, gamma := gamma, tmin := tmin, tmax := tmax, tcount := tcount,
              return_full_data := full }) := by
  unfold SIR_compact_pairwise_from_graph_args
  simp only [Option.isSome_none, Option.isSome_some, Bool.false_and, Bool.false_eq_true, if_false, Option.isNone_none,
    Option.isNone_some, Bool.and_false, pure_eq_ok, ok_bind, arrays_closed, false_and, and_true]
  by_cases hN : A.nodes = []
  · simp [hN]
  · simp only [hN, if_false]
    cases get_Nk_and_IC_sets A.toIArgs infs (recs.getD []) with
    | error e => rfl
    | ok r =>
      simp only [ok_bind]
      cases count_edge_types A.toIArgs infs (recs.getD []) <;> rfl

theorem cp_both (A : WArgs) (tau gamma : Rat) (infs : List Node) (recs : Option (List Node)) (r : Rat)
    (tmin tmax : Rat) (tcount : Int) (full : Bool) :
    SIS_compact_pairwise_from_graph_args A tau gamma (some infs) (some r) tmin tmax tcount full = .error "EoNError" ∧
    SIR_compact_pairwise_from_graph_args A tau gamma (some infs) recs (some r) tmin tmax tcount full
      = .error "EoNError" := ⟨rfl, rfl⟩

end GenWrapProofs
