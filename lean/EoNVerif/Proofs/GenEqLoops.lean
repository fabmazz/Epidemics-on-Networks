import EoNVerif.Gen.AnalyticLoops
import EoNVerif.Proofs.ODE
import EoNVerif.Proofs.DegList
import Mathlib.Tactic.Ring
/-!
Tools for the loop-style functions generated from `EoN/analytic.py` by `harness/py2lean_loops.py`
(`Gen/AnalyticLoops.lean`); the statements about those functions are in `Props/GenLoops.lean`.

Generic lemmas about `List.foldl` over `List.range` with `Gen.upd1` / `Gen.upd2` updates (Python `for` loops that write
one array cell per iteration): `foldl_range_cells` for one loop, `foldl_block_cells` for two nested loops, both for an
array that is a part of the loop state and a loop body given only by its effect on that part.  Row-major flattening
`flat`.  `gen_finish` closes "generated expression = model expression" goals.
-/
namespace GenEqLoops
open Gen ODE

/-- closes `generated expression = model expression` goals: syntactic equality, else equality up to commutative-ring
normalisation (also inside sums and `if` conditions) -/
macro "gen_finish" : tactic =>
  `(tactic| first | rfl | ring1 |
    (simp only [mul_comm, mul_left_comm, mul_assoc, add_comm, add_left_comm, add_assoc]; first | done | rfl | ring1))

theorem foldl_range_inv {σ : Type} (P : Nat → σ → Prop) (F : σ → Nat → σ) (s0 : σ) (N : Nat)
    (h0 : P 0 s0) (hstep : ∀ n st, n < N → P n st → P (n + 1) (F st n)) :
    P N ((List.range N).foldl F s0) := by
  induction N with
  | zero => simpa using h0
  | succ N ih =>
    rw [List.range_succ, List.foldl_append]
    simp only [List.foldl_cons, List.foldl_nil]
    exact hstep N _ (Nat.lt_succ_self N) (ih (fun n st hn hP => hstep n st (Nat.lt_succ_of_lt hn) hP))

theorem upd1_apply (a : Nat → Rat) (i : Nat) (v : Rat) (k : Nat) : upd1 a i v k = if k = i then v else a k := rfl
theorem upd2_apply (a : Nat → Nat → Rat) (i j : Nat) (v : Rat) (k l : Nat) :
    upd2 a i j v k l = if k = i ∧ l = j then v else a k l := rfl

/-- `for i in range(N): a[i] = g(i)`, where the array `a` is the part `p` of the loop state and the loop body `F` is
arbitrary code that acts on that part as stated in `hF`: afterwards `a[k] = g(k)` for `k < N`, other cells are
unchanged. -/
theorem foldl_range_cells {σ : Type} (p : σ → Nat → Rat) (F : σ → Nat → σ) (g : Nat → Rat) (N : Nat)
    (hF : ∀ st i, i < N → p (F st i) = upd1 (p st) i (g i)) (st0 : σ) (k : Nat) :
    p ((List.range N).foldl F st0) k = if k < N then g k else p st0 k := by
  refine foldl_range_inv (fun n st => p st k = if k < n then g k else p st0 k) F st0 N (by simp) ?_
  intro n st hn hP
  rw [hF st n hn, upd1_apply, hP]
  by_cases h : k = n
  · subst h; simp
  · have : (k < n + 1) = (k < n) := by apply propext; omega
    simp only [h, if_false, this]

theorem foldl_upd1_range (g : Nat → Rat) (N : Nat) (a0 : Nat → Rat) (k : Nat) :
    (List.range N).foldl (fun a i => upd1 a i (g i)) a0 k = if k < N then g k else a0 k :=
  foldl_range_cells id _ g N (fun _ _ _ => rfl) a0 k

/-- two arrays written in the same loop, the second value may read the cell of the first array written in the same
iteration (`dY[index] = h(index, dX[index])` as in `_dSIR_individual_based_`) -/
theorem foldl_upd1_pair_dep (F : (Nat → Rat) × (Nat → Rat) → Nat → (Nat → Rat) × (Nat → Rat))
    (g : Nat → Rat) (h : Nat → Rat → Rat) (N : Nat)
    (hF : ∀ a b i, i < N → F (a, b) i = (upd1 a i (g i), upd1 b i (h i (upd1 a i (g i) i))))
    (a0 b0 : Nat → Rat) :
    (∀ k, ((List.range N).foldl F (a0, b0)).1 k = if k < N then g k else a0 k) ∧
    (∀ k, ((List.range N).foldl F (a0, b0)).2 k = if k < N then h k (g k) else b0 k) :=
  ⟨foldl_range_cells Prod.fst F g N (fun st i hi => congrArg Prod.fst (hF st.1 st.2 i hi)) (a0, b0),
   foldl_range_cells Prod.snd F (fun i => h i (g i)) N
    (fun st i hi => (congrArg Prod.snd (hF st.1 st.2 i hi)).trans (by rw [upd1_same])) (a0, b0)⟩

/-- the nested loop `for s in range(A): for i in range(B): a[s,i] = g(s,i)`, where the matrix `a` is the part `p` of
the loop state and the loop bodies `F` (outer), `G s` (inner) are arbitrary code acting as stated in `hF`, `hG` (only
iterations inside the block are constrained): every cell of the `A × B` block is written exactly once with `g(s,i)`,
nothing else is touched. -/
theorem foldl_block_cells {σ : Type} (p : σ → Nat → Nat → Rat) (F : σ → Nat → σ) (G : Nat → σ → Nat → σ)
    (g : Nat → Nat → Rat) (A B : Nat) (hF : ∀ st s, s < A → F st s = (List.range B).foldl (G s) st)
    (hG : ∀ st s i, s < A → i < B → p (G s st i) = upd2 (p st) s i (g s i)) (st0 : σ) (k l : Nat) :
    p ((List.range A).foldl F st0) k l = if k < A ∧ l < B then g k l else p st0 k l := by
  refine foldl_range_inv (fun n st => p st k l = if k < n ∧ l < B then g k l else p st0 k l) F st0 A (by simp) ?_
  intro n st hn hP
  rw [hF st n hn]
  have inner := foldl_range_inv (fun j a => p a k l = if k = n ∧ l < j then g k l else p st k l) (G n) st B
    (by simp) (by
      intro j a hj hPa
      rw [hG a n j hn hj, upd2_apply, hPa]
      by_cases hkl : k = n ∧ l = j
      · obtain ⟨e1, e2⟩ := hkl; subst e1; subst e2; simp
      · have : (k = n ∧ l < j + 1) = (k = n ∧ l < j) := by apply propext; omega
        simp only [hkl, if_false, this])
  rw [inner, hP]
  by_cases hk : k = n
  · subst hk
    by_cases hl : l < B <;> simp [hl]
  · have : (k < n + 1 ∧ l < B) = (k < n ∧ l < B) := by apply propext; omega
    simp only [hk, false_and, if_false, this]

theorem foldl_upd2_block (g : Nat → Nat → Rat) (A B : Nat) (a0 : Nat → Nat → Rat) (k l : Nat) :
    (List.range A).foldl (fun a s => (List.range B).foldl (fun a i => upd2 a s i (g s i)) a) a0 k l
      = if k < A ∧ l < B then g k l else a0 k l :=
  foldl_block_cells id _ (fun s a i => upd2 a s i (g s i)) g A B (fun _ _ _ => rfl) (fun _ _ _ _ _ => rfl) a0 k l

/-- two matrices written cell by cell in the same nested loop (`dSsi[s,i] = g(s,i); dIsi[s,i] = h(s,i)` as in
`_dSIS_effective_degree_`) -/
theorem foldl_upd2_block_pair (F : (Nat → Nat → Rat) × (Nat → Nat → Rat) → Nat → (Nat → Nat → Rat) × (Nat → Nat → Rat))
    (G : Nat → (Nat → Nat → Rat) × (Nat → Nat → Rat) → Nat → (Nat → Nat → Rat) × (Nat → Nat → Rat))
    (g h : Nat → Nat → Rat) (A B : Nat)
    (hF : ∀ st s, s < A → F st s = (List.range B).foldl (G s) st)
    (hG : ∀ a b s i, s < A → i < B → G s (a, b) i = (upd2 a s i (g s i), upd2 b s i (h s i)))
    (a0 b0 : Nat → Nat → Rat) :
    (∀ k l, ((List.range A).foldl F (a0, b0)).1 k l = if k < A ∧ l < B then g k l else a0 k l) ∧
    (∀ k l, ((List.range A).foldl F (a0, b0)).2 k l = if k < A ∧ l < B then h k l else b0 k l) :=
  ⟨foldl_block_cells Prod.fst F G g A B hF (fun st s i hs hi => congrArg Prod.fst (hG st.1 st.2 s i hs hi)) (a0, b0),
   foldl_block_cells Prod.snd F G h A B hF (fun st s i hs hi => congrArg Prod.snd (hG st.1 st.2 s i hs hi)) (a0, b0)⟩

/-- the `A × B` matrix `M` flattened row-major, as `M.shape = (A*B)` / `np.reshape` do.  `GenEqLoops2.flat` is the same
term under a second name, and a lemma about one does not rewrite the other. -/
def flat (A B : Nat) (M : Nat → Nat → Rat) : V := ⟨A * B, fun k => M (k / B) (k % B)⟩

@[simp] theorem flat_n (A B : Nat) (M : Nat → Nat → Rat) : (flat A B M).n = A * B := rfl

theorem flat_f (A B : Nat) (M : Nat → Nat → Rat) {s i : Nat} (hi : i < B) : (flat A B M).f (s * B + i) = M s i := by
  simp only [flat, RowMajor.rm_div _ _ _ hi, RowMajor.rm_mod _ _ _ hi]

/-- congruence rule that lets `simp` rewrite under `sumTo K` using the bound `k < K`; it acts only where it is declared
`[local congr]`, as in `Props/GenLoops.lean` -/
theorem sumTo_congr_simp {K K' : Nat} {f g : Nat → Rat} (hK : K = K') (h : ∀ k, k < K' → f k = g k) :
    sumTo K f = sumTo K' g := by
  subst hK; exact sumTo_congr _ _ _ h

end GenEqLoops
