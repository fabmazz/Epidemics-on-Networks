import EoNVerif.Proofs.Gillespie
import EoNVerif.Proofs.TrajLaw
/-!
The law of finite histories of `Gillespie_SIR/SIS`: the definitions (`Chain.jumpDist`, `Gillespie.trajDist`,
`Gillespie.accProd`, …), what `Proofs/Gillespie.lean` proves about one iteration put in the form `TrajLaw.Sim` asks for
(`Gillespie.sim`), and with it the trajectory law as an instance of `Proofs/TrajLaw.lean`.  Property statements:
`Props/C01g.lean`.
-/

/-! ### the jump chain of the specification -/
namespace Chain

/-- the enabled events in status `st`: recoveries of infectious nodes, transmissions along I–S pairs -/
def enabled (P : GParams) (st : Node → St) : List GEvent :=
  (enabledRec P st).map GEvent.recover ++ (enabledTrans P st).map fun p => GEvent.transmit p.1 p.2

/-- **jump chain of the CTMC**, first `n` jumps, as a law on histories of (event, total rate before the event):
in an absorbing status (`totalRate = 0`) the history ends; otherwise the enabled event `e` is next with probability
`rate e / totalRate`, the pair `(e, totalRate)` is recorded (the holding time before `e` is `Exp(totalRate)`), and
the chain continues from `apply st e`. -/
def jumpDist (P : GParams) : Nat → (Node → St) → Dist (List (GEvent × Rat))
  | 0, _ => Dist.pure []
  | n + 1, st =>
    if totalRate P st = 0 then Dist.pure []
    else
      Dist.bind ((enabled P st).map fun e => (e, rate P e / totalRate P st)) fun e =>
        Dist.push (fun h => (e, totalRate P st) :: h) (jumpDist P n (apply P st e))

def applyHist (P : GParams) : (Node → St) → List (GEvent × Rat) → (Node → St)
  | st, [] => st
  | st, (e, _) :: h => applyHist P (apply P st e) h

/-- `h` is a legal path of the chain from `st`: every event is enabled in the status reached by its predecessors,
the recorded rate is the total rate of that status, and that status is not absorbing.  Unlike `Simple.Spec.Legal` /
`Complex.Spec.Legal` this does not ask the event's rate to be positive (an enabled event of rate 0 is a legal move of zero
probability); `legal_iff` adds that clause when passing to `TrajLaw.Chain.Legal` -/
def Legal (P : GParams) : (Node → St) → List (GEvent × Rat) → Prop
  | _, [] => True
  | st, (e, r) :: h =>
    (match e with
     | .recover u => u ∈ enabledRec P st
     | .transmit u v => (u, v) ∈ enabledTrans P st) ∧
    r = totalRate P st ∧ 0 < totalRate P st ∧ Legal P (apply P st e) h

end Chain

namespace Gillespie
open Dist

instance (s : GState) : (e : GEvent) → Decidable (Enabled s e)
  | .recover u => inferInstanceAs (Decidable (u ∈ s.inf.items))
  | .transmit u v => inferInstanceAs (Decidable ((u, v) ∈ s.links.items))

/-- the `while` test of `Gillespie.loop` with no time horizon (`tmax = ∞`): the loop stops when `infecteds` is empty
or when the next event time is `inf`, which `loop`/`run` set exactly when `total_rate > 0` fails -/
def halted (P : GParams) (s : GState) : Prop := s.inf.items.isEmpty = true ∨ ¬ (totalRate P s > 0)

instance (P : GParams) (s : GState) : Decidable (halted P s) :=
  inferInstanceAs (Decidable (s.inf.items.isEmpty = true ∨ ¬ (totalRate P s > 0)))

/-- **law of the first `n` events of the model's loop** (histories of (event, rate handed to `expovariate` before
the event)).  Mirrors `Gillespie.loop`: stop test `halted`; event selection `pickDist` (Bernoulli(`recThr`) then the
`k`-round rejection sampler); `none` (= `chooseTM` out of fuel, an error in the tape model, not a stop) contributes
no history: the law is a sub-distribution whose missing mass is the probability that some sampler exhausted its `k`
rounds; `applyEvent … = none` (KeyError) likewise contributes nothing (and is unreachable, `traj_status`).  The
event time passed to `applyEvent` is `0`: it is only recorded (`trajDistT_eq'`; as a property: `GillespieTraj.traj_time_irrelevant`). -/
def trajDist (P : GParams) (k : Nat) : Nat → GState → Dist (List (GEvent × Rat))
  | 0, _ => Dist.pure []
  | n + 1, s =>
    if halted P s then Dist.pure []
    else
      Dist.bind (pickDist P s k) fun o =>
        match o with
        | none => []
        | some e =>
          match applyEvent P s e 0 with
          | none => []
          | some s' => Dist.push (fun h => (e, totalRate P s) :: h) (trajDist P k n s')

def stepDefect (s : GState) (k : Nat) : GEvent → Rat
  | .recover _ => s.inf.defect k
  | .transmit _ _ => s.links.defect k

/-- `Π_i c_i`: product of the acceptance factors along the model's path through `h` (each factor in the state
reached after the preceding events).  On histories that are not paths (event not enabled) the value is immaterial
(both masses are 0) and set to 1. -/
def accProd (P : GParams) (k : Nat) : GState → List (GEvent × Rat) → Rat
  | _, [] => 1
  | s, (e, _) :: h =>
    if Enabled s e then
      match applyEvent P s e 0 with
      | some s' => stepFactor s k e * accProd P k s' h
      | none => 1
    else 1

def defectSum (P : GParams) (k : Nat) : GState → List (GEvent × Rat) → Rat
  | _, [] => 0
  | s, (e, _) :: h =>
    if Enabled s e then
      match applyEvent P s e 0 with
      | some s' => stepDefect s k e + defectSum P k s' h
      | none => 0
    else 0

def applyHist (P : GParams) : GState → List (GEvent × Rat) → Option GState
  | s, [] => some s
  | s, (e, _) :: h =>
    match applyEvent P s e 0 with
    | some s' => applyHist P s' h
    | none => none


/-! ### the stop test -/

theorem nodeRate_nonneg (P : GParams) (h : WF P) (u : Node) : 0 ≤ Chain.nodeRate P u := by
  unfold Chain.nodeRate
  cases hf : P.nw with
  | none => simpa using h.gamma_nonneg
  | some f => exact mul_nonneg h.gamma_nonneg (h.nw_nonneg f hf u)

theorem edgeRate_nonneg (P : GParams) (h : WF P) (u v : Node) : 0 ≤ Chain.edgeRate P u v := by
  unfold Chain.edgeRate
  cases hf : P.ew with
  | none => simpa using h.tau_nonneg
  | some f => exact mul_nonneg h.tau_nonneg (h.ew_nonneg f hf u v)

theorem rate_nonneg (P : GParams) (h : WF P) (e : GEvent) : 0 ≤ Chain.rate P e := by
  cases e with
  | recover u => exact nodeRate_nonneg P h u
  | transmit u v => exact edgeRate_nonneg P h u v

theorem chain_totalRate_nonneg (P : GParams) (h : WF P) (st : Node → St) : 0 ≤ Chain.totalRate P st := by
  unfold Chain.totalRate
  have h1 := sumRat_map_nonneg (Chain.enabledRec P st) (Chain.nodeRate P) (fun c _ => nodeRate_nonneg P h c)
  have h2 := sumRat_map_nonneg (Chain.enabledTrans P st) (fun p => Chain.edgeRate P p.1 p.2)
    (fun c _ => edgeRate_nonneg P h c.1 c.2)
  linarith

theorem halted_iff (P : GParams) (h : WF P) (s : GState) (hs : Inv P s) :
    halted P s ↔ Chain.totalRate P s.status = 0 := by
  rw [← clock_eq' P h s hs]
  constructor
  · rintro (he | hn)
    · have hi : s.inf.items = [] := by simpa using he
      have hl : s.links.items = [] := by
        cases hl : s.links.items with
        | nil => rfl
        | cons p t =>
          obtain ⟨a, b⟩ := p
          have hm : (a, b) ∈ s.links.items := by rw [hl]; simp
          have := (hs.link_items a b).1 hm
          have ha : a ∈ s.inf.items := (hs.inf_items a).2 ⟨this.1, this.2.1⟩
          rw [hi] at ha; simp at ha
      unfold totalRate recRate transRate
      rw [LD.totalWeight_eq_sum _ hs.infInv, LD.totalWeight_eq_sum _ hs.linkInv, hi, hl]; simp
    · have := chain_totalRate_nonneg P h s.status
      rw [← clock_eq' P h s hs] at this
      exact le_antisymm (not_lt.1 hn) this
  · intro h0
    right; rw [h0]; exact lt_irrefl 0

theorem pos_of_not_halted (P : GParams) (s : GState) (hh : ¬ halted P s) : 0 < totalRate P s := by
  unfold halted at hh
  by_contra hc
  exact hh (Or.inr hc)

/-! ### the enabled events -/

theorem mem_enabled (P : GParams) (st : Node → St) (e : GEvent) :
    e ∈ Chain.enabled P st ↔
      (match e with
       | .recover u => u ∈ Chain.enabledRec P st
       | .transmit u v => (u, v) ∈ Chain.enabledTrans P st) := by
  unfold Chain.enabled
  cases e with
  | recover u => simp
  | transmit u v => simp

theorem enabled_nodup (P : GParams) (h : WF P) (st : Node → St) : (Chain.enabled P st).Nodup := by
  unfold Chain.enabled
  apply List.Nodup.append
  · exact (enabledRec_nodup P h st).map (fun a b hab => by injection hab)
  · refine (enabledTrans_nodup P h st).map ?_
    rintro ⟨a, b⟩ ⟨c, d⟩ hab
    injection hab with h1 h2
    subst h1 h2; rfl
  · intro e h1 h2
    simp only [List.mem_map] at h1 h2
    obtain ⟨u, -, rfl⟩ := h1
    obtain ⟨p, -, hp⟩ := h2
    cases hp

theorem enabled_iff_chain (P : GParams) (s : GState) (hs : Inv P s) (e : GEvent) :
    Enabled s e ↔ e ∈ Chain.enabled P s.status := by
  rw [mem_enabled]
  obtain ⟨h1, h2⟩ := enabled_iff' P s hs
  cases e with
  | recover u => exact (h1 u).symm
  | transmit u v => exact (h2 (u, v)).symm

/-! ### one acceptance factor -/

theorem stepDefect_unit (P : GParams) (s : GState) (hs : Inv P s) (k : Nat) (e : GEvent) :
    0 ≤ stepDefect s k e ∧ stepDefect s k e ≤ 1 := by
  cases e with
  | recover u => exact s.inf.defect_unit hs.infInv k
  | transmit u v => exact s.links.defect_unit hs.linkInv k

theorem stepFactor_eq (s : GState) (k : Nat) (e : GEvent) : stepFactor s k e = 1 - stepDefect s k e := by
  cases e
  · exact s.inf.factor_eq k
  · exact s.links.factor_eq k

/-! ### along a legal path -/

theorem legal_applyHist (P : GParams) (h : WF P) (s : GState) (hs : Inv P s) (hist : List (GEvent × Rat))
    (hl : Chain.Legal P s.status hist) :
    ∃ s', applyHist P s hist = some s' ∧ Inv P s' ∧ s'.status = Chain.applyHist P s.status hist := by
  induction hist generalizing s with
  | nil => exact ⟨s, rfl, hs, rfl⟩
  | cons a t ih =>
    obtain ⟨e, r⟩ := a
    obtain ⟨a1, -, -, a4⟩ := hl
    have he : Enabled s e := (enabled_iff_chain P s hs e).2 ((mem_enabled P _ e).2 a1)
    obtain ⟨s', h1, h2, h3⟩ := applyEvent_spec P h s hs e 0 he
    rw [← h3] at a4
    obtain ⟨s'', g1, g2, g3⟩ := ih s' h2 a4
    refine ⟨s'', ?_, g2, ?_⟩
    · rw [applyHist, h1]; exact g1
    · rw [g3, h3]; rfl

/-! ### the rates of the enabled events sum to `totalRate` -/

theorem sum_rates (P : GParams) (st : Node → St) :
    sumRat ((Chain.enabled P st).map (Chain.rate P)) = Chain.totalRate P st := by
  unfold Chain.enabled Chain.totalRate
  rw [List.map_append, sumRat_append, List.map_map, List.map_map]
  rfl

/-! ### one defect vanishes as the budget of rejection rounds grows -/

theorem stepDefect_small (P : GParams) (h : WF P) (s : GState) (hs : Inv P s) (e : GEvent) (he : Enabled s e)
    (hr : Chain.rate P e ≠ 0) (ε : Rat) (hε : 0 < ε) : ∃ K : Nat, ∀ k, K ≤ k → stepDefect s k e ≤ ε := by
  obtain ⟨hI, hL, -⟩ := (inv_iff P s).1 hs
  cases e with
  | recover u =>
    exact hI.defect_small (nodeW_nonneg P h) u ((hI.mem u).1 he)
      (fun hc => hr (by rw [Chain.rate, nodeRate_eq, hc, mul_zero])) ε hε
  | transmit u v =>
    exact hL.defect_small (linkW_nonneg P h) (u, v) ((hL.mem _).1 he)
      (fun hc => hr (by rw [Chain.rate, edgeRate_eq P (u, v), hc, mul_zero])) ε hε

/-- without weights nothing is ever rejected: every acceptance factor is 1 -/
theorem accProd_unweighted (P : GParams) (h : WF P) (k : Nat) (s : GState) (hs : Inv P s)
    (hinf : s.inf.weighted = false) (hlinks : s.links.weighted = false) (hist : List (GEvent × Rat)) :
    accProd P k s hist = 1 := by
  induction hist generalizing s with
  | nil => rfl
  | cons a t ih =>
    obtain ⟨e, r⟩ := a
    by_cases he : Enabled s e
    · obtain ⟨s', h1, h2, -⟩ := applyEvent_spec P h s hs e 0 he
      rw [accProd, if_pos he, h1]
      dsimp only
      have e1 : s'.inf.weighted = false := by rw [h2.infW, ← hs.infW]; exact hinf
      have e2 : s'.links.weighted = false := by rw [h2.linkW, ← hs.linkW]; exact hlinks
      rw [ih s' h2 e1 e2]
      cases e <;> simp [stepFactor, hinf, hlinks]
    · rw [accProd, if_neg he]

/-! ### `Gillespie_SIR/SIS` as an instance of `TrajLaw` -/

def chain (P : GParams) : TrajLaw.Chain (Node → St) GEvent :=
  { enabled := Chain.enabled P, rate := fun _ => Chain.rate P, apply := Chain.apply P }

/-- one iteration of `Gillespie.loop` (event times recorded as 0) -/
def model (P : GParams) : TrajLaw.Model GState GEvent :=
  { halted := halted P, decHalted := fun _ => inferInstance, select := fun k s => pickDist P s k,
    step := fun s e => applyEvent P s e 0, clock := totalRate P, en := Enabled, decEn := fun _ _ => inferInstance,
    factor := fun k s e => stepFactor s k e, defect := fun k s e => stepDefect s k e }

theorem chain_total (P : GParams) (st : Node → St) : (chain P).total st = Chain.totalRate P st := sum_rates P st

theorem chain_wf (P : GParams) (h : WF P) : (chain P).WF :=
  ⟨enabled_nodup P h, fun _ e _ => rate_nonneg P h e⟩

theorem jumpDist_eq (P : GParams) (n : Nat) (st : Node → St) : Chain.jumpDist P n st = (chain P).jump n st := by
  induction n generalizing st with
  | zero => rfl
  | succ n ih => simp only [Chain.jumpDist, TrajLaw.Chain.jump, ih, chain_total]; rfl

theorem chain_applyHist_eq (P : GParams) (st : Node → St) (hist : List (GEvent × Rat)) :
    Chain.applyHist P st hist = (chain P).applyHist st hist := by
  induction hist generalizing st with
  | nil => rfl
  | cons a t ih => exact ih _

/-- the chain's paths are the legal histories all of whose events have a non-zero rate -/
theorem legal_iff (P : GParams) (h : WF P) (st : Node → St) (hist : List (GEvent × Rat)) :
    (chain P).Legal st hist ↔ Chain.Legal P st hist ∧ ∀ x ∈ hist, Chain.rate P x.1 ≠ 0 := by
  induction hist generalizing st with
  | nil => simp [TrajLaw.Chain.Legal, Chain.Legal]
  | cons a t ih =>
    obtain ⟨e, r⟩ := a
    have hpos : 0 < Chain.rate P e ↔ Chain.rate P e ≠ 0 :=
      ⟨ne_of_gt, fun hne => lt_of_le_of_ne (rate_nonneg P h e) (Ne.symm hne)⟩
    simp only [TrajLaw.Chain.Legal, Chain.Legal, List.forall_mem_cons, chain_total, ih]
    show (e ∈ Chain.enabled P st ∧ 0 < Chain.rate P e ∧ _) ↔ _
    rw [mem_enabled, hpos]
    -- the same six facts, grouped as "legal for the model's chain" and "every rate non-zero"
    exact ⟨fun ⟨h1, h2, h3, h4, h5, h6⟩ => ⟨⟨h1, h3, h4, h5⟩, h2, h6⟩,
      fun ⟨⟨h1, h3, h4, h5⟩, h2, h6⟩ => ⟨h1, h2, h3, h4, h5, h6⟩⟩

theorem trajDist_eq (P : GParams) (k n : Nat) (s : GState) : trajDist P k n s = (model P).traj k n s := by
  induction n generalizing s with
  | zero => rfl
  | succ n ih =>
    rw [trajDist, TrajLaw.Model.traj]
    refine if_congr Iff.rfl rfl (congrArg _ (funext fun o => ?_))
    cases o with
    | none => rfl
    | some e =>
      simp only [model]
      cases applyEvent P s e 0 with
      | none => rfl
      | some s' => exact congrArg _ (ih s')

theorem accProd_eq (P : GParams) (k : Nat) (s : GState) (hist : List (GEvent × Rat)) :
    accProd P k s hist = (model P).accProd k s hist := by
  induction hist generalizing s with
  | nil => rfl
  | cons a t ih =>
    simp only [accProd, TrajLaw.Model.accProd, ih, model]
    refine if_congr Iff.rfl ?_ rfl
    cases applyEvent P s a.1 0 <;> rfl

theorem defectSum_eq (P : GParams) (k : Nat) (s : GState) (hist : List (GEvent × Rat)) :
    defectSum P k s hist = (model P).defectSum k s hist := by
  induction hist generalizing s with
  | nil => rfl
  | cons a t ih =>
    simp only [defectSum, TrajLaw.Model.defectSum, ih, model]
    refine if_congr Iff.rfl ?_ rfl
    cases applyEvent P s a.1 0 <;> rfl

/-- C01 (`Proofs/Gillespie.lean`) says that the loop follows the chain: stop test, clock, jump law, state change; the
selection law needs one round of the sampler (`0 < k`) -/
theorem sim (P : GParams) (h : WF P) : TrajLaw.Sim (chain P) (model P) (Inv P) (·.status) (fun k => 0 < k) where
  wf := chain_wf P h
  kOK_pos := fun _ hk => hk
  halted_iff := fun s hs => by rw [chain_total]; exact halted_iff P h s hs
  clock_eq := fun s hs => by rw [chain_total]; exact clock_eq' P h s hs
  select_en := fun k s e hk hs hh he => ⟨(enabled_iff_chain P s hs e).1 he, by
    rw [chain_total]; exact jump_law_event P h s hs (pos_of_not_halted P s hh) e he k hk⟩
  select_not := fun k s e hs he => ⟨jump_law_support' P s k e he, fun hc =>
    absurd ((enabled_iff_chain P s hs e).2 hc) he⟩
  step_en := fun s e hs he => applyEvent_spec P h s hs e 0 he
  factor_eq := fun k s e => stepFactor_eq s k e
  defect_unit := fun k s e hs _ => stepDefect_unit P s hs k e
  defect_small := fun s e hs he hr => stepDefect_small P h s hs e he (ne_of_gt hr)

/-- **trajectory law** (weighted or not): mass of a history under the model's `n`-event law = its mass under the
jump chain × the product of the acceptance factors along it -/
theorem traj_law (P : GParams) (h : WF P) (k : Nat) (hk : 0 < k) (n : Nat) (s : GState) (hs : Inv P s)
    (hist : List (GEvent × Rat)) :
    mass (trajDist P k n s) (fun x => x == hist) =
      mass (Chain.jumpDist P n s.status) (fun x => x == hist) * accProd P k s hist := by
  rw [trajDist_eq, jumpDist_eq, accProd_eq]
  exact TrajLaw.traj_law (sim P h) k hk n s hs hist

/-! ### recorded times do not influence the law -/

/-- the part of the state that selection and bookkeeping read: everything except the recorded times and the log -/
def Core (a b : GState) : Prop :=
  a.status = b.status ∧ a.inf = b.inf ∧ a.links = b.links ∧ a.S = b.S ∧ a.I = b.I ∧ a.R = b.R

theorem core_refl (a : GState) : Core a a := ⟨rfl, rfl, rfl, rfl, rfl, rfl⟩

theorem applyEvent_core (P : GParams) (a b : GState) (hc : Core a b) (e : GEvent) (t t' : Rat) :
    match applyEvent P a e t, applyEvent P b e t' with
    | some a', some b' => Core a' b'
    | none, none => True
    | _, _ => False := by
  rcases a with ⟨st, inf, links, tm, S, I, R, lg⟩
  rcases b with ⟨st', inf', links', tm', S', I', R', lg'⟩
  obtain ⟨h1, h2, h3, h4, h5, h6⟩ := hc
  dsimp only at h1 h2 h3 h4 h5 h6
  subst h1 h2 h3 h4 h5 h6
  cases e with
  | recover u =>
    simp only [applyEvent, applyRec, Option.bind_eq_bind, Option.pure_def]
    cases inf.remove u with
    | none => trivial
    | some i1 =>
      simp only [Option.bind_some]
      cases (if P.sis = true then recLoopSIS P (fset st u (if P.sis = true then St.S else St.R)) u links (P.nbrs u)
               else recLoopSIR (fset st u (if P.sis = true then St.S else St.R)) u links (P.nbrs u)) with
      | none => trivial
      | some l1 => exact ⟨rfl, rfl, rfl, rfl, rfl, rfl⟩
  | transmit u v =>
    simp only [applyEvent, applyTrans, Option.bind_eq_bind, Option.pure_def]
    cases inf.update v (nodeW P v) with
    | none => trivial
    | some i1 =>
      simp only [Option.bind_some]
      cases transLoop P (fset st v St.I) v links (P.nbrs v) with
      | none => trivial
      | some l1 => exact ⟨rfl, rfl, rfl, rfl, rfl, rfl⟩

def trajDistT (P : GParams) (k : Nat) : List Rat → GState → Dist (List (GEvent × Rat))
  | [], _ => Dist.pure []
  | t :: ts, s =>
    if halted P s then Dist.pure []
    else
      Dist.bind (pickDist P s k) fun o =>
        match o with
        | none => []
        | some e =>
          match applyEvent P s e t with
          | none => []
          | some s' => Dist.push (fun h => (e, totalRate P s) :: h) (trajDistT P k ts s')

theorem trajDistT_gen (P : GParams) (k : Nat) (ts : List Rat) (s : GState) :
    trajDistT P k ts s = (model P).trajT (applyEvent P) k ts s := by
  induction ts generalizing s with
  | nil => rfl
  | cons t ts ih =>
    rw [trajDistT, TrajLaw.Model.trajT]
    refine if_congr Iff.rfl rfl (congrArg _ (funext fun o => ?_))
    cases o with
    | none => rfl
    | some e =>
      simp only [model]
      cases applyEvent P s e t with
      | none => rfl
      | some s' => exact congrArg _ (ih s')

theorem trajDistT_eq' (P : GParams) (k : Nat) (ts : List Rat) (a b : GState) (hc : Core a b) :
    trajDistT P k ts a = trajDist P k ts.length b := by
  rw [trajDistT_gen, trajDist_eq]
  -- stop test, selection and clock read the two candidate structures only
  refine (model P).trajT_eq (applyEvent P) Core k (fun a b hc => ?_) (fun a b hc e t => ?_) ts a b hc
  swap
  · have := applyEvent_core P a b hc e t 0
    revert this
    simp only [model]
    cases applyEvent P a e t <;> cases applyEvent P b e 0 <;> exact id
  obtain ⟨-, c2, c3, -⟩ := hc
  have e1 : totalRate P a = totalRate P b := by unfold totalRate recRate transRate; rw [c2, c3]
  exact ⟨by simp only [model, halted, e1, c2], by simp only [model, pickDist, recThr, recRate, e1, c2, c3], e1⟩

end Gillespie
