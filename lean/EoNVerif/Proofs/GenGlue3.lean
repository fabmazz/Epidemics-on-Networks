import EoNVerif.Proofs.GenStep
import EoNVerif.Proofs.GenGlue2
import EoNVerif.Model.PrefMixDiscrete
import EoNVerif.Proofs.ExceptDict
/-!
The general loop of the GENERATED `EBCM_pref_mix_discrete` (`Gen/OdeGlue2.lean`): dicts of the form
`ks.map (k ↦ (k, F k))` (`mkD`), the concrete loop state `conc` that represents a model state `ODE.PrefMixDiscState`
together with the lists built so far, one pass on it (`pmBody_ok` / `pmBody_err`), the loop by one induction
(`pm_loop_prefix`) and the two results `pmd_ok` / `pmd_err`.
`GenGlue3Proofs` / `GenGlue3Props` hold statements about the generated namespace `GenGlue2`; there is no `GenGlue3`.
-/
namespace GenGlue3Proofs
open Gen PyGlue2 GenGlue2Proofs
open ODE (PrefMixDiscState prefMixDiscStep prefMixDiscRun prefMixDiscInit powPred)

export GenStep (reshape_ok reshape_error getRow_mk)  -- defined in `Proofs/GenStep.lean`

theorem vslice_left (a b : Nat) (v : V) : vslice (a + b) v 0 a = ⟨a, v.f⟩ := by
  simp only [vslice, sliceLen_left, sliceLo_zero, Nat.zero_add]

theorem vslice_right (a b : Nat) (v : V) : vslice (a + b) v a (a + b) = ⟨b, fun k => v.f (a + k)⟩ := by
  simp only [vslice, sliceLen_right, sliceLo_left]

/-- `d.get(k, dflt)`: the value of the first entry with key `k` -/
def lkD {α : Type} (d : List (Nat × α)) (k : Nat) (dflt : α) : α :=
  match d.find? (fun kv => kv.1 == k) with
  | some kv => kv.2
  | none => dflt

/-- `d.keys()` -/
def keys {α : Type} (d : List (Nat × α)) : List Nat := d.map (·.1)

theorem lkD_cons_ne {α : Type} (a : Nat × α) (t : List (Nat × α)) (k : Nat) (dflt : α) (h : a.1 ≠ k) :
    lkD (a :: t) k dflt = lkD t k dflt := by
  unfold lkD
  rw [List.find?_cons_of_neg (by simpa using h)]

theorem lkD_cons_eq {α : Type} (a : Nat × α) (t : List (Nat × α)) (k : Nat) (dflt : α) (h : a.1 = k) :
    lkD (a :: t) k dflt = a.2 := by
  unfold lkD
  rw [List.find?_cons_of_pos (by simpa using h)]

theorem lkD_eq_alGet {α : Type} (d : List (Nat × α)) (k : Nat) (dflt : α) : lkD d k dflt = alGet d dflt k := by
  induction d with
  | nil => rfl
  | cons a t ih =>
    obtain ⟨k', v⟩ := a
    by_cases h : k' = k
    · rw [lkD_cons_eq _ _ _ _ h, alGet, if_pos h]
    · rw [lkD_cons_ne _ _ _ _ h, ih, alGet, if_neg h]

theorem lkD_of_not_mem {α : Type} (d : List (Nat × α)) (k : Nat) (dflt : α) (h : k ∉ keys d) : lkD d k dflt = dflt := by
  rw [lkD_eq_alGet]
  exact alGet_of_not_key d dflt k h

theorem dGet_eq_ite {α : Type} (d : List (Nat × α)) (k : Nat) (dflt : α) :
    dGet d k = if k ∈ keys d then .ok (lkD d k dflt) else .error "KeyError" := by
  rw [GenHelpProofs.dGet_eq_dictGet, dictGet_eq_ite d k dflt, lkD_eq_alGet]
  rfl

theorem dGet_of_mem {α : Type} (d : List (Nat × α)) (k : Nat) (dflt : α) (h : k ∈ keys d) :
    dGet d k = .ok (lkD d k dflt) := by rw [dGet_eq_ite d k dflt, if_pos h]

theorem dGet_of_not_mem {α : Type} [Inhabited α] (d : List (Nat × α)) (k : Nat) (h : k ∉ keys d) :
    dGet d k = .error "KeyError" := by rw [dGet_eq_ite d k default, if_neg h]

/-- the dict `{k: F k for k in ks}` -/
def mkD {α : Type} (ks : List Nat) (F : Nat → α) : List (Nat × α) := ks.map fun k => (k, F k)

@[simp] theorem keys_mkD {α : Type} (ks : List Nat) (F : Nat → α) : keys (mkD ks F) = ks := by
  simp [keys, mkD, Function.comp_def]

theorem lkD_mkD {α : Type} (ks : List Nat) (F : Nat → α) (k : Nat) (dflt : α) (h : k ∈ ks) :
    lkD (mkD ks F) k dflt = F k := by
  rw [lkD_eq_alGet, mkD, alGet_map_mk, if_pos h]

theorem dGet_mkD_ite {α : Type} (ks : List Nat) (F : Nat → α) (k : Nat) :
    dGet (mkD ks F) k = if k ∈ ks then .ok (F k) else .error "KeyError" := by
  rw [dGet_eq_ite _ _ (F k), keys_mkD]
  by_cases h : k ∈ ks
  · rw [if_pos h, if_pos h, lkD_mkD _ _ _ _ h]
  · rw [if_neg h, if_neg h]

theorem dGet_mkD {α : Type} (ks : List Nat) (F : Nat → α) (k : Nat) (h : k ∈ ks) : dGet (mkD ks F) k = .ok (F k) := by
  rw [dGet_mkD_ite, if_pos h]

theorem dSet_mkD {α : Type} (ks : List Nat) (hK : ks.Nodup) (F : Nat → α) (k : Nat) (x : α) (h : k ∈ ks) :
    dSet (mkD ks F) k x = mkD ks (fun a => if a = k then x else F a) := by
  induction ks with
  | nil => cases h
  | cons a t ih =>
    have hK' := List.nodup_cons.mp hK
    by_cases e : a = k
    · subst e
      have : mkD t (fun b => if b = a then x else F b) = mkD t F := by
        unfold mkD
        apply List.map_congr_left
        intro b hb
        have : b ≠ a := fun e => hK'.1 (e ▸ hb)
        simp [this]
      simp only [mkD, List.map_cons, dSet, if_true] at this ⊢
      rw [this]
    · have ih' := ih hK'.2 ((List.mem_cons.mp h).resolve_left fun h' => e h'.symm)
      simp only [mkD, List.map_cons, dSet, e, if_false] at ih' ⊢
      rw [ih']

theorem dlAppend_mkD (ks : List Nat) (hK : ks.Nodup) (F : Nat → List Rat) (k : Nat) (x : Rat) (h : k ∈ ks) :
    dlAppend (mkD ks F) k x = .ok (mkD ks (fun a => if a = k then F k ++ [x] else F a)) := by
  unfold dlAppend
  rw [dGet_mkD _ _ _ h, ok_bind, pure_eq_ok, dSet_mkD _ hK _ _ _ h]

@[simp] theorem lastE_concat {α : Type} (l : List α) (a : α) : lastE (l ++ [a]) = .ok a := by
  simp [lastE]

export GenHelpProofs (forIn_ok_of_mem forIn_ok_yield mapM_cases)  -- defined in `Proofs/ExceptDict.lean`

theorem mapM_mkD {α : Type} (f : Nat → Except String (Nat × α)) (g : Nat → α) (l : List Nat)
    (h : ∀ a ∈ l, f a = .ok (a, g a)) : l.mapM f = .ok (mkD l g) :=
  GenHelpProofs.mapM_ok_mem f (fun a => (a, g a)) l h

/-! ## the loop `for k in newtheta.keys(): theta[k].append(newtheta[k])` -/

theorem theta_loop_aux (ks : List Nat) (hK : ks.Nodup) (v : Nat → Rat) (l : List Nat) (hl : l.Nodup)
    (hsub : ∀ k ∈ l, k ∈ ks) (F : Nat → List Rat) :
    forIn l (mkD ks F) (fun k s => do
        let t ← dGet (mkD ks v) k
        let th ← dlAppend s k t
        Except.ok (ForInStep.yield th))
      = Except.ok (mkD ks fun k => if k ∈ l then F k ++ [v k] else F k) := by
  induction l generalizing F with
  | nil => simp [List.forIn_nil]
  | cons a t ih =>
    have hl' := List.nodup_cons.mp hl
    have ha : a ∈ ks := hsub a List.mem_cons_self
    rw [List.forIn_cons, dGet_mkD _ _ _ ha, ok_bind, dlAppend_mkD _ hK _ _ _ ha, ok_bind, ok_bind]
    simp only []
    rw [ih hl'.2 (fun k hk => hsub k (List.mem_cons_of_mem _ hk))]
    congr 1
    unfold mkD
    apply List.map_congr_left
    intro k _
    by_cases e : k = a
    · subst e; simp [hl'.1]
    · simp [e]

theorem theta_loop (ks : List Nat) (hK : ks.Nodup) (v : Nat → Rat) (F : Nat → List Rat) :
    forIn ks (mkD ks F) (fun k s => do
        let t ← dGet (mkD ks v) k
        let th ← dlAppend s k t
        Except.ok (ForInStep.yield th))
      = Except.ok (mkD ks fun k => F k ++ [v k]) := by
  rw [theta_loop_aux ks hK v ks hK (fun _ h => h) F]
  congr 1
  unfold mkD
  apply List.map_congr_left
  intro k hk
  simp [hk]

/-! ## the loop of `EBCM_pref_mix_discrete` -/

/-- the loop-carried tuple of the generated code: `times, theta, R, S, I, phiS, phiI, phiR, newtheta, newR, newS, newI` -/
abbrev CS : Type :=
  List Int × List (Nat × List Rat) × List Rat × List Rat × List Rat × List (Nat × Rat) × List (Nat × Rat) ×
    List (Nat × Rat) × List (Nat × Rat) × Rat × Rat × Rat

variable (N : Rat) (Pk : List (Nat × Rat)) (Pnk : List (Nat × List (Nat × Rat))) (p r : Rat)

/-- `Pnk[k1][k2] * theta[k2][-1] ** (k2 - 1)` as evaluated by the generated code -/
def phiSInner (Pnk : List (Nat × List (Nat × Rat))) (th : List (Nat × List Rat)) (k1 k2 : Nat) : Except String Rat := do
  let t_10 ← dGet Pnk k1
  let t_11 ← dGet t_10 k2
  let t_12 ← dGet th k2
  let t_13 ← lastE t_12
  let t_14 ← zpowE t_13 (((k2 : Nat) : Int) - 1)
  Except.ok (t_11 * t_14)

/-- the entry `k1` of the dict comprehension that defines the new `phiS` -/
def phiSElem (Pnk : List (Nat × List (Nat × Rat))) (r : Rat) (th : List (Nat × List Rat)) (k1 : Nat) :
    Except String (Nat × Rat) := do
  let t_9 ← dGet Pnk k1
  let l_7 ← (keys t_9).mapM (phiSInner Pnk th k1)
  Except.ok (k1, (1 - r) * sumRat l_7)

/-- the dict comprehension that defines the new `phiS` (the only statement of the loop that can raise) -/
def phiSE (Pk : List (Nat × Rat)) (Pnk : List (Nat × List (Nat × Rat))) (r : Rat) (th : List (Nat × List Rat)) :
    Except String (List (Nat × Rat)) :=
  (keys Pk).mapM (phiSElem Pnk r th)

/-- the loop body of the generated `EBCM_pref_mix_discrete`, TRANSCRIBED (same temporaries as `Gen/OdeGlue2.lean`; `rho`
resolved to `r`, the loop-carried variables as the tuple `CS`).  `gen_eq_forIn` proves by `rfl` that the generated function
is `pmInitCS`, then `forIn … pmBody`, then `pmOut`: after a change of the translator that is the lemma that fails, and this
definition is what has to be copied again. -/
def pmBody (N : Rat) (Pk : List (Nat × Rat)) (Pnk : List (Nat × List (Nat × Rat))) (p r : Rat) (time : Int) (s : CS) :
    Except String (ForInStep CS) := do
  let l_5 ← (keys Pk).mapM (fun k_4 => do
      let t_1 ← dGet s.2.1 k_4
      let t_2 ← lastE t_1
      let t_3 ← dGet s.2.2.2.2.2.2.1 k_4
      Except.ok (k_4, t_2 - p * t_3))
  let t_4 ← lastE s.2.2.1
  let t_5 ← lastE s.2.2.2.2.1
  let l_6 ← (keys Pk).mapM (fun k_5 => do
      let t_6 ← dGet Pk k_5
      let t_7 ← dGet l_5 k_5
      Except.ok (t_6 * t_7 ^ k_5))
  let s_1 ← forIn (keys l_5) s.2.1 (fun k_6 s' => do
      let t_8 ← dGet l_5 k_6
      let theta ← dlAppend s' k_6 t_8
      Except.ok (ForInStep.yield theta))
  let l_8 ← phiSE Pk Pnk r s_1
  let l_9 ← (keys Pk).mapM (fun k_7 => do
      let t_15 ← dGet s.2.2.2.2.2.2.2.1 k_7
      let t_16 ← dGet s.2.2.2.2.2.2.1 k_7
      Except.ok (k_7, t_15 + (1 - p) * t_16))
  let l_10 ← (keys Pk).mapM (fun k_8 => do
      let t_17 ← dGet s_1 k_8
      let t_18 ← lastE t_17
      let t_19 ← dGet l_8 k_8
      let t_20 ← dGet l_9 k_8
      Except.ok (k_8, t_18 - t_19 - t_20))
  Except.ok (ForInStep.yield
    (s.1 ++ [time], s_1, s.2.2.1 ++ [t_4 + t_5], s.2.2.2.1 ++ [N * (1 - r) * sumRat l_6],
      s.2.2.2.2.1 ++ [N - (t_4 + t_5) - N * (1 - r) * sumRat l_6], l_8, l_10, l_9, l_5, t_4 + t_5,
      N * (1 - r) * sumRat l_6, N - (t_4 + t_5) - N * (1 - r) * sumRat l_6))

/-- the loop-carried tuple before the first pass: `times = [tmin]`, `theta[k] = [1]`, `R = [0]`, `S = [N(1−r)]`,
`I = [N r]`, `phiS[k] = 1−r`, `phiI[k] = r`, `phiR[k] = 0` -/
def pmInitCS (N : Rat) (Pk : List (Nat × Rat)) (r : Rat) (tmin : Int) : CS :=
  ([tmin], mkD (keys Pk) (fun _ => [1]), [0], [N * (1 - r)], [N * r], mkD (keys Pk) (fun _ => 1 - r),
    mkD (keys Pk) (fun _ => r), mkD (keys Pk) (fun _ => 0), [], 0, 0, 0)

/-- the `return` statement on the final tuple -/
def pmOut (full : Bool) (s : CS) : V × List Out :=
  if full then
    (PyGlue2.V0, [Out.v (V.ofList (s.1.map fun (z : Int) => (z : Rat))), Out.v (V.ofList s.2.2.2.1),
      Out.v (V.ofList s.2.2.2.2.1), Out.v (V.ofList s.2.2.1), Out.dl s.2.1])
  else
    (PyGlue2.V0, [Out.v (V.ofList (s.1.map fun (z : Int) => (z : Rat))), Out.v (V.ofList s.2.2.2.1),
      Out.v (V.ofList s.2.2.2.2.1), Out.v (V.ofList s.2.2.1)])

theorem gen_eq_forIn (odeint myodeint : GenGlueProofs.Solver) (tmin tmax : Int) (full : Bool) :
    GenGlue2.EBCM_pref_mix_discrete odeint myodeint N Pk Pnk p (some r) tmin tmax full =
      (forIn (irange (tmin + 1) (tmax + 1)) (pmInitCS N Pk r tmin) (pmBody N Pk Pnk p r)) >>= fun s =>
        .ok (pmOut full s) := by
  unfold GenGlue2.EBCM_pref_mix_discrete
  refine (if_neg Bool.false_ne_true).trans ?_
  -- the four comprehensions that build the initial dicts; everything else unfolds
  iterate 4 refine (GenStep.bind_ok (GenHelpProofs.mapM_ok_mem _ _ _ fun _ _ => rfl) _).trans ?_
  cases full <;> rfl

/-- `Pk[k]` (0 for a missing key) -/
def pkF (Pk : List (Nat × Rat)) : Nat → Rat := fun k => lkD Pk k 0
/-- `Pnk[k1].keys()` (empty for a missing key) -/
def nksF (Pnk : List (Nat × List (Nat × Rat))) : Nat → List Nat := fun k1 => keys (lkD Pnk k1 [])
/-- `Pnk[k1][k2]` (0 for a missing key) -/
def pnkF (Pnk : List (Nat × List (Nat × Rat))) : Nat → Nat → Rat := fun k1 k2 => lkD (lkD Pnk k1 []) k2 0

/-- one pass of the hand model `ODE.prefMixDiscStep` on the dicts of the generated code -/
def pmStep (N : Rat) (Pk : List (Nat × Rat)) (Pnk : List (Nat × List (Nat × Rat))) (p r : Rat) :
    PrefMixDiscState → PrefMixDiscState :=
  prefMixDiscStep (keys Pk) (nksF Pnk) N r p (pkF Pk) (pnkF Pnk)

/-- every key of `Pk` is a key of `Pnk`, and every key of `Pnk[k1]` (`k1` a key of `Pk`) is a key of `Pk` -/
def KeysOK (Pk : List (Nat × Rat)) (Pnk : List (Nat × List (Nat × Rat))) : Prop :=
  ∀ k1 ∈ keys Pk, k1 ∈ keys Pnk ∧ ∀ k2 ∈ nksF Pnk k1, k2 ∈ keys Pk

/-- `theta[0] ** (0 - 1)` is not evaluated at `theta[0] = 0`: degree 0 is not a key of any `Pnk[k1]` used, or
`theta[0] ≠ 0` (if 0 is not a key of `Pk` the read `theta[0]` raises `KeyError` first: that case belongs to `KeysOK`) -/
def ZeroOK (Pk : List (Nat × Rat)) (Pnk : List (Nat × List (Nat × Rat))) (θ : Nat → Rat) : Prop :=
  (∃ k1 ∈ keys Pk, 0 ∈ nksF Pnk k1) → 0 ∈ keys Pk → θ 0 ≠ 0

/-- the tuple that represents the model state `st`, the lists built so far and the last computed `new…` values -/
def conc (ks : List Nat) (tm : List Int) (Th : Nat → List Rat) (Rl Sl Il : List Rat) (st : PrefMixDiscState)
    (j1 : List (Nat × Rat)) (j2 j3 j4 : Rat) : CS :=
  (tm, mkD ks (fun k => Th k ++ [st.theta k]), Rl ++ [st.R], Sl ++ [st.S], Il ++ [st.I], mkD ks st.phiS,
    mkD ks st.phiI, mkD ks st.phiR, j1, j2, j3, j4)

theorem phiSInner_eq (ks : List Nat) (L : Nat → List Rat) (θ : Nat → Rat)
    (k1 k2 : Nat) (h1 : k1 ∈ keys Pnk) (h2 : k2 ∈ nksF Pnk k1) :
    phiSInner Pnk (mkD ks fun k => L k ++ [θ k]) k1 k2 =
      if k2 ∈ ks then
        (if k2 = 0 ∧ θ k2 = 0 then .error "ZeroDivisionError" else .ok (pnkF Pnk k1 k2 * powPred (θ k2) k2))
      else .error "KeyError" := by
  unfold phiSInner
  rw [dGet_of_mem Pnk k1 [] h1, ok_bind, dGet_of_mem _ k2 0 h2, ok_bind, dGet_mkD_ite]
  by_cases hk2 : k2 ∈ ks
  · rw [if_pos hk2, if_pos hk2, ok_bind, lastE_concat, ok_bind, GenHelpProofs.zpowE_pred]
    by_cases hz : k2 = 0 ∧ θ k2 = 0
    · rw [if_pos hz, if_pos hz]; rfl
    · rw [if_neg hz, if_neg hz]; rfl
  · rw [if_neg hk2, if_neg hk2]; rfl

theorem phiSE_ok (hk : KeysOK Pk Pnk)
    (L : Nat → List Rat) (θ : Nat → Rat) (hz : ZeroOK Pk Pnk θ) :
    phiSE Pk Pnk r (mkD (keys Pk) fun k => L k ++ [θ k]) =
      .ok (mkD (keys Pk) fun k1 =>
        (1 - r) * sumRat ((nksF Pnk k1).map fun k2 => pnkF Pnk k1 k2 * powPred (θ k2) k2)) := by
  unfold phiSE
  apply mapM_mkD
  intro k1 hk1
  unfold phiSElem
  rw [dGet_of_mem Pnk k1 [] (hk k1 hk1).1, ok_bind]
  rw [GenHelpProofs.mapM_ok_mem _ (fun k2 => pnkF Pnk k1 k2 * powPred (θ k2) k2) _ (fun k2 hk2 => by
    have hk2' : k2 ∈ keys Pk := (hk k1 hk1).2 k2 hk2
    rw [phiSInner_eq _ _ _ _ _ _ (hk k1 hk1).1 hk2, if_pos hk2', if_neg]
    rintro ⟨rfl, h0⟩
    exact hz ⟨k1, hk1, hk2⟩ hk2' h0)]
  rfl

/-- one entry of the new `phiS`: it is computed when `k1` is a key of `Pnk` and every key `k2` of `Pnk[k1]` is a key of
`Pk` at which `theta[k2] ** (k2 - 1)` is defined; otherwise the exception tells which condition fails -/
theorem phiSElem_cases (L : Nat → List Rat) (θ : Nat → Rat) (k1 : Nat) (hk1 : k1 ∈ keys Pk) :
    (∃ y, phiSElem Pnk r (mkD (keys Pk) fun k => L k ++ [θ k]) k1 = .ok y ∧
        k1 ∈ keys Pnk ∧ ∀ k2 ∈ nksF Pnk k1, k2 ∈ keys Pk ∧ ¬ (k2 = 0 ∧ θ k2 = 0)) ∨
    (∃ e, phiSElem Pnk r (mkD (keys Pk) fun k => L k ++ [θ k]) k1 = .error e ∧
        ((e = "KeyError" ∧ ¬ KeysOK Pk Pnk) ∨ (e = "ZeroDivisionError" ∧ ¬ ZeroOK Pk Pnk θ))) := by
  unfold phiSElem
  by_cases h1 : k1 ∈ keys Pnk
  · rw [dGet_of_mem Pnk k1 [] h1, ok_bind]
    rcases mapM_cases (phiSInner Pnk (mkD (keys Pk) fun k => L k ++ [θ k]) k1) (keys (lkD Pnk k1 [])) with
      ⟨zs, hzs, hall⟩ | ⟨e, he, k2, hk2, hk2e⟩
    · refine .inl ⟨_, by rw [hzs]; rfl, h1, fun k2 hk2 => ?_⟩
      obtain ⟨z, hz⟩ := hall k2 hk2
      rw [phiSInner_eq _ _ _ _ _ _ h1 hk2] at hz
      by_cases hk2' : k2 ∈ keys Pk
      · refine ⟨hk2', fun hzz => ?_⟩
        rw [if_pos hk2', if_pos hzz] at hz
        cases hz
      · rw [if_neg hk2'] at hz; cases hz
    · refine .inr ⟨e, by rw [he]; rfl, ?_⟩
      rw [phiSInner_eq _ _ _ _ _ _ h1 hk2] at hk2e
      by_cases hk2' : k2 ∈ keys Pk
      · rw [if_pos hk2'] at hk2e
        by_cases hz : k2 = 0 ∧ θ k2 = 0
        · rw [if_pos hz] at hk2e
          injection hk2e with hk2e
          obtain ⟨rfl, h0⟩ := hz
          exact .inr ⟨hk2e.symm, fun hz' => hz' ⟨k1, hk1, hk2⟩ hk2' h0⟩
        · rw [if_neg hz] at hk2e; cases hk2e
      · rw [if_neg hk2'] at hk2e
        injection hk2e with hk2e
        exact .inl ⟨hk2e.symm, fun hk => hk2' ((hk k1 hk1).2 k2 hk2)⟩
  · exact .inr ⟨"KeyError", by rw [dGet_eq_ite Pnk k1 [], if_neg h1]; rfl, .inl ⟨rfl, fun hk => h1 (hk k1 hk1).1⟩⟩

/-- **the new `phiS`, exceptions**: when the key condition or the zero condition fails the comprehension raises;
`KeyError` only if the key condition fails, `ZeroDivisionError` only if the zero condition fails -/
theorem phiSE_err (L : Nat → List Rat) (θ : Nat → Rat) (h : ¬ (KeysOK Pk Pnk ∧ ZeroOK Pk Pnk θ)) :
    ∃ e, phiSE Pk Pnk r (mkD (keys Pk) fun k => L k ++ [θ k]) = .error e ∧
      ((e = "KeyError" ∧ ¬ KeysOK Pk Pnk) ∨ (e = "ZeroDivisionError" ∧ ¬ ZeroOK Pk Pnk θ)) := by
  rcases mapM_cases (phiSElem Pnk r (mkD (keys Pk) fun k => L k ++ [θ k])) (keys Pk) with
    ⟨ys, -, hall⟩ | ⟨e, he, k1, hk1, hk1e⟩
  · -- every entry is computed, so both conditions hold
    have key : ∀ k1 ∈ keys Pk, k1 ∈ keys Pnk ∧ ∀ k2 ∈ nksF Pnk k1, k2 ∈ keys Pk ∧ ¬ (k2 = 0 ∧ θ k2 = 0) := by
      intro k1 hk1
      obtain ⟨y, hy⟩ := hall k1 hk1
      rcases phiSElem_cases Pk Pnk r L θ k1 hk1 with ⟨_, _, hc⟩ | ⟨e, he, _⟩
      · exact hc
      · rw [he] at hy; cases hy
    refine absurd ⟨fun k1 hk1 => ⟨(key k1 hk1).1, fun k2 hk2 => ((key k1 hk1).2 k2 hk2).1⟩, ?_⟩ h
    rintro ⟨k1, hk1, h0⟩ _ hθ
    exact ((key k1 hk1).2 0 h0).2 ⟨rfl, hθ⟩
  · refine ⟨e, he, ?_⟩
    rcases phiSElem_cases Pk Pnk r L θ k1 hk1 with ⟨y, hy, _⟩ | ⟨e', he', hc⟩
    · rw [hy] at hk1e; cases hk1e
    · rw [he'] at hk1e
      injection hk1e with hk1e
      exact hk1e ▸ hc

theorem pmBody_ok (hK : (keys Pk).Nodup) (hk : KeysOK Pk Pnk) (st : PrefMixDiscState)
    (hz : ZeroOK Pk Pnk (pmStep N Pk Pnk p r st).theta)
    (tm : List Int) (Th : Nat → List Rat) (Rl Sl Il : List Rat) (j1 : List (Nat × Rat)) (j2 j3 j4 : Rat) (t : Int) :
    pmBody N Pk Pnk p r t (conc (keys Pk) tm Th Rl Sl Il st j1 j2 j3 j4) =
      .ok (.yield (conc (keys Pk) (tm ++ [t]) (fun k => Th k ++ [st.theta k]) (Rl ++ [st.R]) (Sl ++ [st.S])
        (Il ++ [st.I]) (pmStep N Pk Pnk p r st) (mkD (keys Pk) (pmStep N Pk Pnk p r st).theta)
        (pmStep N Pk Pnk p r st).R (pmStep N Pk Pnk p r st).S (pmStep N Pk Pnk p r st).I)) := by
  unfold pmBody conc
  rw [mapM_mkD _ (fun k => st.theta k - p * st.phiI k) _
    (fun k hk => by rw [dGet_mkD _ _ _ hk, ok_bind, lastE_concat, ok_bind, dGet_mkD _ _ _ hk, ok_bind])]
  rw [ok_bind, lastE_concat, ok_bind, lastE_concat, ok_bind]
  rw [GenHelpProofs.mapM_ok_mem _ (fun k => pkF Pk k * (st.theta k - p * st.phiI k) ^ k) _
    (fun k hk => by rw [dGet_of_mem Pk k 0 hk, ok_bind, dGet_mkD _ _ _ hk, ok_bind]; rfl)]
  rw [ok_bind, keys_mkD, theta_loop _ hK, ok_bind]
  rw [phiSE_ok Pk Pnk r hk _ (fun k => st.theta k - p * st.phiI k) hz, ok_bind]
  rw [mapM_mkD _ (pmStep N Pk Pnk p r st).phiR _
    (fun k hk => by rw [dGet_mkD _ _ _ hk, ok_bind, dGet_mkD _ _ _ hk, ok_bind]; rfl)]
  rw [ok_bind]
  rw [mapM_mkD _ (pmStep N Pk Pnk p r st).phiI _
    (fun k hk => by
      rw [dGet_mkD _ _ _ hk, ok_bind, lastE_concat, ok_bind, dGet_mkD _ _ _ hk, ok_bind, dGet_mkD _ _ _ hk, ok_bind]; rfl)]
  rfl

/-- **one pass, exceptions**: raised by the `phiS` comprehension, after `theta`, `R`, `S`, `I` were extended -/
theorem pmBody_err (hK : (keys Pk).Nodup) (st : PrefMixDiscState)
    (h : ¬ (KeysOK Pk Pnk ∧ ZeroOK Pk Pnk (pmStep N Pk Pnk p r st).theta))
    (tm : List Int) (Th : Nat → List Rat) (Rl Sl Il : List Rat) (j1 : List (Nat × Rat)) (j2 j3 j4 : Rat) (t : Int) :
    ∃ e, pmBody N Pk Pnk p r t (conc (keys Pk) tm Th Rl Sl Il st j1 j2 j3 j4) = .error e ∧
      ((e = "KeyError" ∧ ¬ KeysOK Pk Pnk) ∨
        (e = "ZeroDivisionError" ∧ ¬ ZeroOK Pk Pnk (pmStep N Pk Pnk p r st).theta)) := by
  obtain ⟨e, he, hd⟩ := phiSE_err Pk Pnk r (fun k => Th k ++ [st.theta k]) (fun k => st.theta k - p * st.phiI k) h
  refine ⟨e, ?_, hd⟩
  unfold pmBody conc
  rw [mapM_mkD _ (fun k => st.theta k - p * st.phiI k) _
    (fun k hk => by rw [dGet_mkD _ _ _ hk, ok_bind, lastE_concat, ok_bind, dGet_mkD _ _ _ hk, ok_bind])]
  rw [ok_bind, lastE_concat, ok_bind, lastE_concat, ok_bind]
  rw [GenHelpProofs.mapM_ok_mem _ (fun k => pkF Pk k * (st.theta k - p * st.phiI k) ^ k) _
    (fun k hk => by rw [dGet_of_mem Pk k 0 hk, ok_bind, dGet_mkD _ _ _ hk, ok_bind]; rfl)]
  rw [ok_bind, keys_mkD, theta_loop _ hK, ok_bind, he]
  rfl

/-- the condition under which one more pass from the state `st` does not raise: the keys are there and the `theta` that
pass computes does not make `0.0 ** -1` -/
def Good (N : Rat) (Pk : List (Nat × Rat)) (Pnk : List (Nat × List (Nat × Rat))) (p r : Rat) (st : PrefMixDiscState) :
    Prop :=
  KeysOK Pk Pnk ∧ ZeroOK Pk Pnk (pmStep N Pk Pnk p r st).theta

theorem range_succ_map_append {α : Type} (F : Nat → α) (m : Nat) (a : List α) :
    a ++ [F 0] ++ (List.range m).map (fun j => F (j + 1)) = a ++ (List.range (m + 1)).map F := by
  rw [List.range_succ_eq_map, List.map_cons, List.map_map, List.append_assoc]
  rfl

/-- **the loop**: as long as the passes are good, each extends the lists by the next model state; after `n` good
passes the loop continues on the remaining steps from the tuple that represents `(pmStep …)^[n] st` -/
theorem pm_loop_prefix (hK : (keys Pk).Nodup) (n : Nat) (steps : List Int) (hn : n ≤ steps.length) (st : PrefMixDiscState)
    (hg : ∀ j, j < n → Good N Pk Pnk p r ((pmStep N Pk Pnk p r)^[j] st))
    (tm : List Int) (Th : Nat → List Rat) (Rl Sl Il : List Rat) (j1 : List (Nat × Rat)) (j2 j3 j4 : Rat) :
    ∃ j1' j2' j3' j4', forIn steps (conc (keys Pk) tm Th Rl Sl Il st j1 j2 j3 j4) (pmBody N Pk Pnk p r) =
      forIn (steps.drop n) (conc (keys Pk) (tm ++ steps.take n)
        (fun k => Th k ++ (List.range n).map (fun j => ((pmStep N Pk Pnk p r)^[j] st).theta k))
        (Rl ++ (List.range n).map (fun j => ((pmStep N Pk Pnk p r)^[j] st).R))
        (Sl ++ (List.range n).map (fun j => ((pmStep N Pk Pnk p r)^[j] st).S))
        (Il ++ (List.range n).map (fun j => ((pmStep N Pk Pnk p r)^[j] st).I))
        ((pmStep N Pk Pnk p r)^[n] st) j1' j2' j3' j4') (pmBody N Pk Pnk p r) := by
  induction n generalizing steps st tm Th Rl Sl Il j1 j2 j3 j4 with
  | zero => exact ⟨j1, j2, j3, j4, by simp only [List.take_zero, List.drop_zero, List.range_zero, List.map_nil,
      List.append_nil, Function.iterate_zero, id_eq]⟩
  | succ n ih =>
    obtain _ | ⟨t, ts⟩ := steps
    · exact absurd hn (Nat.not_succ_le_zero n)
    have h0 := hg 0 (Nat.succ_pos n)
    rw [Function.iterate_zero, id_eq] at h0
    obtain ⟨j1', j2', j3', j4', h⟩ := ih ts (Nat.le_of_succ_le_succ hn) (pmStep N Pk Pnk p r st)
      (fun j hj => by
        have := hg (j + 1) (Nat.succ_lt_succ hj)
        rwa [Function.iterate_succ_apply] at this)
      (tm ++ [t]) (fun k => Th k ++ [st.theta k]) (Rl ++ [st.R]) (Sl ++ [st.S]) (Il ++ [st.I])
      (mkD (keys Pk) (pmStep N Pk Pnk p r st).theta) (pmStep N Pk Pnk p r st).R (pmStep N Pk Pnk p r st).S
      (pmStep N Pk Pnk p r st).I
    refine ⟨j1', j2', j3', j4', ?_⟩
    rw [List.forIn_cons, pmBody_ok N Pk Pnk p r hK h0.1 st h0.2, ok_bind]
    simp only []
    rw [h]
    have e1 := fun k => range_succ_map_append (fun j => ((pmStep N Pk Pnk p r)^[j] st).theta k) n (Th k)
    have e2 := range_succ_map_append (fun j => ((pmStep N Pk Pnk p r)^[j] st).R) n Rl
    have e3 := range_succ_map_append (fun j => ((pmStep N Pk Pnk p r)^[j] st).S) n Sl
    have e4 := range_succ_map_append (fun j => ((pmStep N Pk Pnk p r)^[j] st).I) n Il
    simp only [Function.iterate_zero, id_eq] at e1 e2 e3 e4
    simp only [← Function.iterate_succ_apply, e1, e2, e3, e4, List.take_succ_cons, List.drop_succ_cons,
      List.append_assoc, List.singleton_append]

/-- the hand model `ODE.prefMixDiscRun` on the dicts of the generated code: the state after `n` passes -/
def pmRun (N : Rat) (Pk : List (Nat × Rat)) (Pnk : List (Nat × List (Nat × Rat))) (p r : Rat) (n : Nat) :
    PrefMixDiscState :=
  prefMixDiscRun (keys Pk) (nksF Pnk) N r p (pkF Pk) (pnkF Pnk) n

theorem pmRun_eq_iterate (n : Nat) :
    pmRun N Pk Pnk p r n = (pmStep N Pk Pnk p r)^[n] (prefMixDiscInit N r) := by
  induction n with
  | zero => rfl
  | succ n ih =>
    rw [Function.iterate_succ_apply', ← ih]
    rfl

theorem irange_length (tmin tmax : Int) : (irange (tmin + 1) (tmax + 1)).length = (tmax - tmin).toNat := by
  simp [irange]

theorem times_eq (tmin tmax : Int) :
    ([tmin] ++ irange (tmin + 1) (tmax + 1)).map (fun (z : Int) => (z : Rat)) =
      (List.range ((tmax - tmin).toNat + 1)).map (fun (j : Nat) => ((tmin + (j : Int) : Int) : Rat)) := by
  have h : (tmax + 1 - (tmin + 1)).toNat = (tmax - tmin).toNat := by omega
  unfold irange
  rw [h, List.range_succ_eq_map]
  simp only [List.map_cons, List.map_map, List.singleton_append]
  congr 1
  · simp
  · apply List.map_congr_left
    intro j _
    simp only [Function.comp_apply, Int.ofNat_eq_natCast]
    push_cast
    ring

/-- the value returned after `m = (tmax − tmin).toNat` passes: `times`, `S`, `I`, `R` (and the dict `theta`) are the
columns of the model run `pmRun 0 … pmRun m` -/
def pmResult (N : Rat) (Pk : List (Nat × Rat)) (Pnk : List (Nat × List (Nat × Rat))) (p r : Rat) (tmin : Int) (m : Nat)
    (full : Bool) : V × List Out :=
  let times := (List.range (m + 1)).map (fun (j : Nat) => ((tmin + (j : Int) : Int) : Rat))
  let S := (List.range (m + 1)).map (fun j => (pmRun N Pk Pnk p r j).S)
  let I := (List.range (m + 1)).map (fun j => (pmRun N Pk Pnk p r j).I)
  let R := (List.range (m + 1)).map (fun j => (pmRun N Pk Pnk p r j).R)
  let theta := mkD (keys Pk) (fun k => (List.range (m + 1)).map (fun j => (pmRun N Pk Pnk p r j).theta k))
  if full then (PyGlue2.V0, [Out.v (V.ofList times), Out.v (V.ofList S), Out.v (V.ofList I), Out.v (V.ofList R),
    Out.dl theta])
  else (PyGlue2.V0, [Out.v (V.ofList times), Out.v (V.ofList S), Out.v (V.ofList I), Out.v (V.ofList R)])

theorem range_succ_map' {α : Type} (F : Nat → α) (m : Nat) :
    (List.range m).map F ++ [F m] = (List.range (m + 1)).map F := by
  rw [List.range_succ, List.map_append]; rfl

theorem pmd_ok (odeint myodeint : GenGlueProofs.Solver) (tmin tmax : Int) (full : Bool) (hK : (keys Pk).Nodup)
    (hg : ∀ j, j < (tmax - tmin).toNat → Good N Pk Pnk p r (pmRun N Pk Pnk p r j)) :
    GenGlue2.EBCM_pref_mix_discrete odeint myodeint N Pk Pnk p (some r) tmin tmax full =
      .ok (pmResult N Pk Pnk p r tmin (tmax - tmin).toNat full) := by
  rw [gen_eq_forIn]
  have hinit : pmInitCS N Pk r tmin = conc (keys Pk) [tmin] (fun _ => []) [] [] [] (prefMixDiscInit N r) [] 0 0 0 := rfl
  have hlen := irange_length tmin tmax
  obtain ⟨j1, j2, j3, j4, h⟩ := pm_loop_prefix N Pk Pnk p r hK _ (irange (tmin + 1) (tmax + 1)) (Nat.le_refl _)
    (prefMixDiscInit N r) (fun j hj => by rw [← pmRun_eq_iterate]; exact hg j (hlen ▸ hj))
    [tmin] (fun _ => []) [] [] [] [] 0 0 0
  rw [hinit, h, List.drop_length, List.take_length, List.forIn_nil, pure_eq_ok, ok_bind, hlen]
  simp only [← pmRun_eq_iterate]
  unfold pmOut conc pmResult
  simp only [List.nil_append, range_succ_map', times_eq]

theorem pmd_err (odeint myodeint : GenGlueProofs.Solver) (tmin tmax : Int) (full : Bool) (hK : (keys Pk).Nodup)
    (j0 : Nat) (hj0 : j0 < (tmax - tmin).toNat)
    (hg : ∀ j, j < j0 → Good N Pk Pnk p r (pmRun N Pk Pnk p r j))
    (hb : ¬ Good N Pk Pnk p r (pmRun N Pk Pnk p r j0)) :
    ∃ e, GenGlue2.EBCM_pref_mix_discrete odeint myodeint N Pk Pnk p (some r) tmin tmax full = .error e ∧
      ((e = "KeyError" ∧ ¬ KeysOK Pk Pnk) ∨
        (e = "ZeroDivisionError" ∧ ¬ ZeroOK Pk Pnk (pmRun N Pk Pnk p r (j0 + 1)).theta)) := by
  rw [gen_eq_forIn]
  have hinit : pmInitCS N Pk r tmin = conc (keys Pk) [tmin] (fun _ => []) [] [] [] (prefMixDiscInit N r) [] 0 0 0 := rfl
  have hlen := irange_length tmin tmax
  have hj0' : j0 < (irange (tmin + 1) (tmax + 1)).length := hlen ▸ hj0
  obtain ⟨j1, j2, j3, j4, h⟩ := pm_loop_prefix N Pk Pnk p r hK j0 (irange (tmin + 1) (tmax + 1)) (Nat.le_of_lt hj0')
    (prefMixDiscInit N r) (fun j hj => by rw [← pmRun_eq_iterate]; exact hg j hj)
    [tmin] (fun _ => []) [] [] [] [] 0 0 0
  -- a step is left, and its pass raises
  rw [pmRun_eq_iterate] at hb
  obtain ⟨e, he, hd⟩ := pmBody_err N Pk Pnk p r hK _ hb (([tmin] : List Int) ++ (irange (tmin + 1) (tmax + 1)).take j0)
    _ _ _ _ j1 j2 j3 j4 (irange (tmin + 1) (tmax + 1))[j0]
  refine ⟨e, by rw [hinit, h, List.drop_eq_getElem_cons hj0', List.forIn_cons, he]; rfl, ?_⟩
  rwa [pmRun_eq_iterate, Function.iterate_succ_apply']

end GenGlue3Proofs
