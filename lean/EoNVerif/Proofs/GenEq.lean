import EoNVerif.Gen.Analytic
import EoNVerif.Proofs.ODE
import EoNVerif.Proofs.DegList
/-!
The functions generated from `EoN/analytic.py` by `harness/py2lean.py` (`Gen/Analytic.lean`) compute exactly the
hand-written right-hand sides of `Model/ODE.lean`, for every state and parameter (`dEBCM`: where `ψ̂'(1) ≠ 0`; `gen_ebcm_guard`
says what it computes otherwise).
State vectors are packed the way the solvers pack them (`np.concatenate` / `np.array`).
-/
namespace GenEq
open Gen ODE

theorem toList_ofList (l : List Rat) : (V.ofList l).toList = l :=
  GenHelpProofs.map_getD_range l 0

/-! ### scalar right-hand sides: once the `let`s are unfolded, the generated body is the model's expression tree -/

theorem gen_sisHomMF (nN tau gamma S I : Rat) :
    let r := dSIS_homogeneous_meanfield (V.ofList [S, I]) nN tau gamma
    let m := sisHomMF nN tau gamma S I
    r.n = 2 ∧ r.f 0 = m.1 ∧ r.f 1 = m.2 :=
  ⟨rfl, rfl, rfl⟩

theorem gen_sirHomMF (nN tau gamma S I : Rat) :
    let r := dSIR_homogeneous_meanfield (V.ofList [S, I]) nN tau gamma
    let m := sirHomMF nN tau gamma S I
    r.n = 2 ∧ r.f 0 = m.1 ∧ r.f 1 = m.2 :=
  ⟨rfl, rfl, rfl⟩

theorem gen_sisHomPW (N n tau gamma S SI SS : Rat) :
    let r := dSIS_homogeneous_pairwise (V.ofList [S, SI, SS]) N n tau gamma
    let m := sisHomPW N n tau gamma S SI SS
    r.n = 3 ∧ r.f 0 = m.1 ∧ r.f 1 = m.2.1 ∧ r.f 2 = m.2.2 :=
  ⟨rfl, rfl, rfl, rfl⟩

theorem gen_sirHomPW (n tau gamma S I SI SS : Rat) :
    let r := dSIR_homogeneous_pairwise (V.ofList [S, I, SI, SS]) n tau gamma
    let m := sirHomPW n tau gamma S I SI SS
    r.n = 4 ∧ r.f 0 = m.1 ∧ r.f 1 = m.2.1 ∧ r.f 2 = m.2.2.1 ∧ r.f 3 = m.2.2.2 :=
  ⟨rfl, rfl, rfl, rfl, rfl⟩

theorem gen_sisSuperCompactPW (tau gamma N k1 k2 k3 I SS SI II : Rat) :
    let r := dSIS_super_compact_pairwise (V.ofList [I, SS, SI, II]) tau gamma N k1 k2 k3
    let m := sisSuperCompactPW tau gamma N k1 k2 k3 I SS SI II
    r.n = 4 ∧ r.f 0 = m.1 ∧ r.f 1 = m.2.1 ∧ r.f 2 = m.2.2.1 ∧ r.f 3 = m.2.2.2 :=
  ⟨rfl, rfl, rfl, rfl, rfl⟩

theorem gen_sirSuperCompactPW (K : Nat) (c : Nat → Rat) (tau gamma N theta SS SI R : Rat) :
    let r := dSIR_super_compact_pairwise (V.ofList [theta, SS, SI, R]) tau gamma (psiH K c) (psiHP K c) (psiHDP K c) N
    let m := sirSuperCompactPW K c tau gamma N theta SS SI R
    r.n = 4 ∧ r.f 0 = m.1 ∧ r.f 1 = m.2.1 ∧ r.f 2 = m.2.2.1 ∧ r.f 3 = m.2.2.2 :=
  ⟨rfl, rfl, rfl, rfl, rfl⟩

theorem ofList_f0 (a : Rat) (l : List Rat) : (V.ofList (a :: l)).f 0 = a := rfl
theorem ofList_f1 (a b : Rat) (l : List Rat) : (V.ofList (a :: b :: l)).f 1 = b := rfl
theorem ofList_f2 (a b c : Rat) (l : List Rat) : (V.ofList (a :: b :: c :: l)).f 2 = c := rfl

/-- `_dEBCM_` guards the normalising constant ψ̂'(1) against 0 (no node with a neighbour); away from that case it is
the model's right-hand side. -/
theorem gen_ebcm (K : Nat) (c : Nat → Rat) (N tau gamma phiS0 phiR0 theta R : Rat) (h : psiHP K c 1 ≠ 0) :
    let r := dEBCM (V.ofList [theta, R]) N tau gamma (psiH K c) (psiHP K c) phiS0 phiR0
    let m := ebcm K c N tau gamma phiS0 phiR0 theta R
    r.n = 2 ∧ r.f 0 = m.1 ∧ r.f 1 = m.2 := by
  refine ⟨rfl, ?_, rfl⟩
  dsimp only [dEBCM, ebcm, ofList_f0]
  rw [if_neg h]

/-- in the guarded case the transmission term is computed with denominator 1 -/
theorem gen_ebcm_guard (K : Nat) (c : Nat → Rat) (N tau gamma phiS0 phiR0 theta R : Rat) (h : psiHP K c 1 = 0) :
    (dEBCM (V.ofList [theta, R]) N tau gamma (psiH K c) (psiHP K c) phiS0 phiR0).f 0
      = -tau * theta + tau * phiS0 * psiHP K c theta + gamma * (1 - theta) + tau * phiR0 := by
  dsimp only [dEBCM, ofList_f0]
  rw [if_pos h, div_one]

/-! ### vector-valued right-hand sides: a block of `K` classes followed by further entries -/

theorem append_f_ge' (a b : V) (m i : Nat) (h : a.n = m) : (V.append a b).f (m + i) = b.f i := by
  subst h; exact V.append_f_ge a b i

section Block
variable (K : Nat) (S : Nat → Rat) (b : V)

theorem block_head (j : Nat) (hj : j < K) : (V.append ⟨K, S⟩ b).f j = S j := V.append_f_lt _ _ j hj

theorem block_tail (i : Nat) : (V.append ⟨K, S⟩ b).f (K + i) = b.f i := V.append_f_ge ⟨K, S⟩ _ i

theorem block_sum (F : Nat → Rat → Rat) :
    sumTo K (fun j => F j ((V.append ⟨K, S⟩ b).f j)) = sumTo K (fun j => F j (S j)) :=
  sumTo_congr _ _ _ (fun j hj => by rw [block_head K S b j hj])

end Block

theorem gen_sisHetMF (K : Nat) (tau gamma : Rat) (S I : Nat → Rat) :
    let r := dSIS_heterogeneous_meanfield (V.append ⟨K, S⟩ ⟨K, I⟩) K tau gamma
    r.n = K + K ∧ ∀ k, k < K → r.f k = (sisHetMF K tau gamma S I).1 k ∧ r.f (K + k) = (sisHetMF K tau gamma S I).2 k := by
  have hn : (V.append ⟨K, S⟩ ⟨K, I⟩).n - K = K := Nat.add_sub_cancel K K
  have e := block_sum K S ⟨K, I⟩ (fun j x => (j : Rat) * (I j + x))
  simp only [dSIS_heterogeneous_meanfield, sisHetMF, piI, V.arange_n, hn, block_tail, e, kf]
  exact ⟨rfl, fun k hk => by simp only [block_head K _ _ k hk, and_self]⟩

theorem gen_sirHetMF (K : Nat) (tau gamma : Rat) (S0 Nk : Nat → Rat) (theta : Rat) (R : Nat → Rat) :
    let r := dSIR_heterogeneous_meanfield (V.append (V.ofList [theta]) ⟨K, R⟩) ⟨K, S0⟩ ⟨K, Nk⟩ tau gamma
    r.n = 1 + K ∧ r.f 0 = (sirHetMF K tau gamma S0 Nk theta R).1
      ∧ ∀ k, k < K → r.f (1 + k) = (sirHetMF K tau gamma S0 Nk theta R).2 k := by
  have hn : (V.append (V.ofList [theta]) ⟨K, R⟩).n - 1 = K := Nat.add_sub_cancel_left 1 K
  have h0 : (V.append (V.ofList [theta]) ⟨K, R⟩).f 0 = theta := rfl
  have hR : ∀ j, (V.append (V.ofList [theta]) ⟨K, R⟩).f (1 + j) = R j :=
    fun j => append_f_ge' (V.ofList [theta]) ⟨K, R⟩ 1 j rfl
  simp only [dSIR_heterogeneous_meanfield, sirHetMF, V.arange_n, hn, h0, hR, kf]
  exact ⟨rfl, rfl, fun k _ => append_f_ge' _ _ 1 k rfl⟩

theorem gen_sisCompactPW (K : Nat) (tau gamma twoM : Rat) (Nk S : Nat → Rat) (SI SS : Rat) :
    let r := dSIS_compact_pairwise (V.append ⟨K, S⟩ (V.ofList [SI, SS])) ⟨K, Nk⟩ twoM tau gamma
    let m := sisCompactPW K tau gamma twoM Nk S SI SS
    r.n = K + 2 ∧ (∀ k, k < K → r.f k = m.1 k) ∧ r.f (K + 0) = m.2.1 ∧ r.f (K + 1) = m.2.2 := by
  have hn : (V.append ⟨K, S⟩ (V.ofList [SI, SS])).n - 2 = K := Nat.add_sub_cancel K 2
  have e1 := block_sum K S (V.ofList [SI, SS]) (fun j x => (j : Rat) * x)
  have e2 := block_sum K S (V.ofList [SI, SS]) (fun j x => (j : Rat) * ((j : Rat) - 1) * x)
  simp only [dSIS_compact_pairwise, sisCompactPW, V.arange_n, hn, block_tail, e1, e2, ofList_f0, ofList_f1, kf]
  exact ⟨rfl, fun k hk => by simp only [block_head K _ _ k hk], trivial, trivial⟩

theorem gen_sirCompactPW (K : Nat) (tau gamma N : Rat) (S : Nat → Rat) (SS SI R : Rat) :
    let r := dSIR_compact_pairwise (V.append ⟨K, S⟩ (V.ofList [SS, SI, R])) N tau gamma
    let m := sirCompactPW K tau gamma N S SS SI R
    r.n = K + 3 ∧ (∀ k, k < K → r.f k = m.1 k) ∧ r.f (K + 0) = m.2.1 ∧ r.f (K + 1) = m.2.2.1 ∧ r.f (K + 2) = m.2.2.2 := by
  have hn : (V.append ⟨K, S⟩ (V.ofList [SS, SI, R])).n - 3 = K := Nat.add_sub_cancel K 3
  have e1 := block_sum K S (V.ofList [SS, SI, R]) (fun j x => (j : Rat) * x)
  have e2 := block_sum K S (V.ofList [SS, SI, R]) (fun j x => (j : Rat) * ((j : Rat) - 1) * x)
  have e3 := block_sum K S (V.ofList [SS, SI, R]) (fun _ x => x)
  simp only [dSIR_compact_pairwise, sirCompactPW, V.arange_n, hn, block_tail, e1, e2, e3, ofList_f0, ofList_f1,
    ofList_f2, kf]
  exact ⟨rfl, fun k hk => by simp only [block_head K _ _ k hk], trivial, trivial, trivial⟩

/-- a guard `x == 0` in front of a division agrees with Lean's `x / 0 = 0` -/
theorem guard_div (a b : Rat) : (if b = 0 then (0 : Rat) else a / b) = a / b := by
  split
  · next h => simp [h]
  · rfl

/-- no hypothesis on `SX = Σ κ S_κ`: the model divides by it in Lean's total division, which is what the code's `SX == 0`
guard computes (`guard_div`) -/
theorem gen_sirCompactED (K : Nat) (tau gamma N : Rat) (Sk : Nat → Rat) (R SI : Rat) :
    let r := dSIR_compact_effective_degree (V.append ⟨K, Sk⟩ (V.ofList [R, SI])) N tau gamma
    let m := sirCompactED K tau gamma N Sk R SI
    r.n = K + 2 ∧ (∀ k, k < K → r.f k = m.1 k) ∧ r.f (K + 0) = m.2.1 ∧ r.f (K + 1) = m.2.2 := by
  have hn : (V.append ⟨K, Sk⟩ (V.ofList [R, SI])).n - 2 = K := Nat.add_sub_cancel K 2
  have e1 := block_sum K Sk (V.ofList [R, SI]) (fun j x => x * (j : Rat))
  have e2 := block_sum K Sk (V.ofList [R, SI]) (fun j x => (j : Rat) * ((j : Rat) - 1) * x)
  have e3 := block_sum K Sk (V.ofList [R, SI]) (fun _ x => x)
  simp only [dSIR_compact_effective_degree, sirCompactED, V.arange_n, hn, block_tail, e1, e2, e3, guard_div,
    ofList_f0, ofList_f1, kf]
  refine ⟨rfl, fun k hk => ?_, trivial, trivial⟩
  simp only [block_head K _ _ k hk]
  split
  · next h => rw [block_head K Sk _ _ h]
  · rfl

end GenEq
