import EoNVerif.Gen.EventSIRGen
import EoNVerif.Model.EventSIR
import EoNVerif.Proofs.EventSIRFinal
import EoNVerif.Proofs.HeapPop
import EoNVerif.Proofs.EventLoop
import EoNVerif.Proofs.AssocList
/-!
Refinement: the code generated statement by statement from `myQueue`, `_process_trans_SIR_`, `_process_rec_SIR_`
and `fast_nonMarkov_SIR` (`EoNVerif/Gen/EventSIRGen.lean`, namespace `GenESIR`) computes the same thing as the
hand-written model `EventSIR` (`EoNVerif/Model/EventSIR.lean`) run with `heapq`'s tie-breaking `sel = fun _ => 0`.
The `myQueue` object against the model's list is an instance of `HeapPop.Rep` (`Proofs/HeapPop.lean`).
Here and in C11b / C13b "forward" starts from a run of the GENERATED code; `Proofs/GenFastSIS.lean` / C02d use the word the
other way round.
-/
open EventSIR

namespace GenESIR

theorem liftE_ok {α : Type} (a : α) (ts : TapeSt) : PyTM.liftE (.ok a) ts = .ok (a, ts) := rfl

def encEv : QEv → Ev
  | .trans s t => .trans s t
  | .recov u => .recov u

/-- what the generated queue stores for a model item (without the counter) -/
def enc (x : QItem) : ERat × Ev := (some x.time, encEv x.ev)

/-- the generated `myQueue` object `q` represents the model queue `l` (a list in insertion order) -/
structure QRel (tmax : ERat) (q : MyQueue) (l : List QItem) : Prop where
  tmax : q.tmax = tmax
  sorted : q.q.Pairwise (fun a b => a.2.1 < b.2.1)
  bound : ∀ e ∈ q.q, e.2.1 < q.counter
  ents : q.q.map (fun e => (e.1, e.2.2)) = l.map enc

theorem QRel.init (tmax : ERat) : QRel tmax (MyQueue.init tmax) [] :=
  ⟨rfl, List.Pairwise.nil, (by intro e he; cases he), rfl⟩

theorem QRel.rep {tmax : ERat} {q : MyQueue} {l : List QItem} (h : QRel tmax q l) :
    HeapPop.Rep QItem.time (fun x => encEv x.ev) q.q q.counter l :=
  ⟨h.ents, h.sorted, h.bound⟩

theorem QRel.nil_iff {tmax : ERat} {q : MyQueue} {l : List QItem} (h : QRel tmax q l) : q.q = [] ↔ l = [] :=
  h.rep.nil_iff

theorem QRel.of_rep {tmax : ERat} {q : MyQueue} {l : List QItem} (ht : q.tmax = tmax)
    (h : HeapPop.Rep QItem.time (fun x => encEv x.ev) q.q q.counter l) : QRel tmax q l :=
  ⟨ht, h.sorted, h.below, h.ents⟩

theorem QRel.add {tmax : ERat} {q : MyQueue} {l : List QItem} (h : QRel tmax q l) (t : Rat) (e : QEv) :
    QRel tmax (q.add (some t) (encEv e)) (qadd tmax l t e) := by
  unfold MyQueue.add qadd
  rw [h.tmax]
  by_cases hc : ERat.lt (some t) tmax = true
  · rw [if_pos hc, if_pos hc]
    exact QRel.of_rep rfl (h.rep.push ⟨t, e⟩)
  · rw [if_neg hc, if_neg hc]
    exact h

theorem add_none (q : MyQueue) (e : Ev) : q.add none e = q := by
  unfold MyQueue.add
  simp

theorem before_isBefore : HeapPop.IsBefore MyQueue.before := HeapPop.isBefore_lex

/-- on related queues `heappop` returns the entry the model's `pop 0` returns, and the remaining queues are related
(`HeapPop.Rep.pop`: the first entry of minimal time) -/
theorem popMin_refines {tmax : ERat} {q : MyQueue} {l : List QItem} (h : QRel tmax q l) (hne : q.q ≠ []) :
    ∃ m q' x l', MyQueue.popMin q = .ok (m, q') ∧ pop 0 l = some (x, l') ∧
      m.1 = some x.time ∧ m.2.2 = encEv x.ev ∧ QRel tmax q' l' := by
  cases hq : q.q with
  | nil => exact absurd hq hne
  | cons e0 es =>
    obtain ⟨x, l1, l2, c, rfl, h1, h2, hm, hrep⟩ := HeapPop.Rep.pop before_isBefore (hq ▸ h.rep)
    refine ⟨(some x.time, c, encEv x.ev), { q with q := (e0 :: es).erase (some x.time, c, encEv x.ev) }, x, l1 ++ l2,
      ?_, pop_zero_mid l1 l2 x h1 h2, rfl, rfl, QRel.of_rep h.tmax hrep⟩
    unfold MyQueue.popMin
    rw [hq]
    simp only [hm]
    rfl

theorem QRel.addE {tmax : ERat} {q : MyQueue} {l : List QItem} (h : QRel tmax q l) (T : ERat) (e : QEv) :
    QRel tmax (q.add T (encEv e)) (match T with | some t => qadd tmax l t e | none => l) := by
  cases T with
  | none => rw [add_none]; exact h
  | some t => exact h.add t e

structure Agree (A : EArgs) (P : ESParams) : Prop where
  nbrs : A.nbrs = P.nbrs
  order : A.order = P.nodes.length
  tmin : A.tmin = P.tmin
  tmax : A.tmax = P.tmax
  rule : ∀ u sus, A.transRec u sus = pure (P.joint u sus)

/-- the user rule called for `u` returns a Python `dict`: every key once.  For every filter `p`, since the set of
susceptible neighbours the rule will be called with is not known in advance. -/
def KeysOK (P : ESParams) (u : Node) : Prop :=
  ∀ p : Node → Bool, ((P.joint u ((P.nbrs u).filter p)).1.map (·.1)).Nodup

def WFJ (P : ESParams) : Prop := ∀ u : Node, KeysOK P u

def encT (e : Rat × Option Node × Node) : ERat × Option Node × Node := (some e.1, e.2.1, e.2.2)

/-- the shared objects of the generated code represent the model state (the generated lists grow at the end, the
model's at the front).  The three count arrays are never empty (`neS neI neR`), so `S[-1]`, `I[-1]`, `R[-1]` cannot raise
`IndexError` (`listLast_reverse`). -/
structure Rel (P : ESParams) (σ : Loc) (s : ESState) : Prop where
  status : σ.status = s.status
  recTime : σ.rec_time = s.recTime
  predInf : σ.pred_inf_time = s.predInf
  queue : QRel P.tmax σ.Q s.queue
  times : σ.times = s.times.reverse.map some
  S : σ.S = s.S.reverse
  I : σ.I = s.I.reverse
  R : σ.R = s.R.reverse
  trans : σ.transmissions = s.trans.reverse.map encT
  neS : s.S ≠ []
  neI : s.I ≠ []
  neR : s.R ≠ []

theorem liftE_pure {α : Type} (a : α) : PyTM.liftE (pure a : Except String α) = (pure a : TM α) := TM.liftE_ok a

theorem hd_cons (a : Int) (l : List Int) : hd (a :: l) = a := rfl

/-! ### `_process_rec_SIR_` -/

theorem listLast_reverse {l : List Int} (h : l ≠ []) : PyTM.listLast l.reverse = .ok (hd l) := by
  obtain ⟨a, l, rfl⟩ := List.exists_cons_of_ne_nil h
  exact PyTM.listLast_reverse_cons a l

theorem snoc_reverse_map {α β : Type} (f : α → β) (x : α) (l : List α) :
    l.reverse.map f ++ [f x] = (x :: l).reverse.map f := by
  rw [List.reverse_cons, List.map_append, List.map_singleton]

theorem process_rec_refines {A : EArgs} {P : ESParams} {σ : Loc} {s : ESState} (hR : Rel P σ s) (t : Rat) (u : Node)
    (ts : TapeSt) :
    ∃ σ', process_rec A (some t) u σ ts = .ok (σ', ts) ∧ Rel P σ' (processRec s t u) := by
  unfold process_rec
  simp only [hR.S, hR.I, hR.R, listLast_reverse hR.neS, listLast_reverse hR.neI, listLast_reverse hR.neR,
    TM.liftE_ok, pure_bind]
  exact ⟨_, rfl, congrArg (fset · u St.R) hR.status, hR.recTime, hR.predInf, hR.queue,
    (congrArg (· ++ [some t]) hR.times).trans (snoc_reverse_map some t s.times), List.reverse_cons.symm,
    List.reverse_cons.symm, List.reverse_cons.symm, hR.trans, List.cons_ne_nil _ _, List.cons_ne_nil _ _,
    List.cons_ne_nil _ _⟩

/-! ### the loop `for v in trans_delay:` -/

/-- one round of the generated loop body, as a pure function (`d` is the looked-up delay) -/
def schedStep (time : ERat) (target : Node) (d : ERat) (σ : Loc) (v : Node) : Loc :=
  if (ERat.le (ERat.add time d) (σ.rec_time target) && ERat.lt (ERat.add time d) (σ.pred_inf_time v)
      && ERat.le (ERat.add time d) σ.Q.tmax) = true then
    { σ with Q := MyQueue.add σ.Q (ERat.add time d) (Ev.trans (some target) v),
             pred_inf_time := fset σ.pred_inf_time v (ERat.add time d) }
  else σ

/-- The loop `for v in trans_delay` against `schedule`.  The induction is over a suffix `rest` of the dict while the body
looks `v` up in the whole dict `delays` (`hb`); the two agree on `rest` when every pair of `rest` is what `alFind?` returns
for its key — true for `rest = delays` when the keys are distinct (`alFind?_of_nodup`, in `sched_apply`).  This is what
`KeysOK` is for: with a repeated key the model's `schedule` would use each pair's own value where the generated lookup
returns the first one both times; a Python dict cannot repeat a key. -/
theorem sched_refines {tmax : ERat} (time : Rat) (target : Node) (delays : List (Node × ERat))
    (body : Loc → Node → TM Loc)
    (hb : ∀ σ v ts d, PyRT.alFind? delays v = some d → body σ v ts = .ok (schedStep (some time) target d σ v, ts)) :
    ∀ (rest : List (Node × ERat)) (σ : Loc) (q : List QItem) (ts : TapeSt),
      (∀ p ∈ rest, PyRT.alFind? delays p.1 = some p.2) → QRel tmax σ.Q q →
      ∃ Q', (rest.map (·.1)).foldlM body σ ts =
          .ok ({ σ with Q := Q', pred_inf_time :=
                  (schedule tmax time target (σ.rec_time target) rest σ.pred_inf_time q).1 }, ts) ∧
        QRel tmax Q' (schedule tmax time target (σ.rec_time target) rest σ.pred_inf_time q).2 := by
  intro rest
  induction rest with
  | nil =>
    intro σ q ts _ hq
    exact ⟨σ.Q, rfl, hq⟩
  | cons a rest ih =>
    intro σ q ts hmem hq
    obtain ⟨v, d⟩ := a
    have hmem' : ∀ p ∈ rest, PyRT.alFind? delays p.1 = some p.2 := fun p hp => hmem p (List.mem_cons_of_mem _ hp)
    rw [List.map_cons, List.foldlM_cons, TM.bind_ok (hb σ v ts d (hmem (v, d) (List.mem_cons_self ..)))]
    unfold schedule schedStep
    simp only [hq.tmax, Bool.and_eq_true, and_assoc]
    split
    · rename_i hc
      cases hT : ERat.add (some time) d with
      | none => rw [hT] at hc; simp at hc
      | some t' => exact ih _ _ ts hmem' (hq.add t' (QEv.trans (some target) v))
    · exact ih σ q ts hmem' hq

theorem sched_apply {tmax : ERat} (time : Rat) (target : Node) (delays : List (Node × ERat))
    (body : Loc → Node → TM Loc)
    (hb : ∀ σ v ts d, PyRT.alFind? delays v = some d → body σ v ts = .ok (schedStep (some time) target d σ v, ts))
    (hn : (delays.map (·.1)).Nodup) (σ : Loc) (q : List QItem) (ts : TapeSt) (hq : QRel tmax σ.Q q)
    (G : Loc → Prop)
    (hG : ∀ Q', QRel tmax Q' (schedule tmax time target (σ.rec_time target) delays σ.pred_inf_time q).2 →
      G { σ with Q := Q', pred_inf_time :=
                  (schedule tmax time target (σ.rec_time target) delays σ.pred_inf_time q).1 }) :
    ∃ σ', (delays.map (·.1)).foldlM body σ ts = .ok (σ', ts) ∧ G σ' := by
  obtain ⟨Q', e1, e2⟩ := sched_refines (tmax := tmax) time target delays body hb delays σ q ts
    (alFind?_of_nodup delays hn) hq
  exact ⟨_, e1, hG Q' e2⟩

/-! ### `_process_trans_SIR_` -/

/-- a test whose two results differ only in the queue decides what the queue is
(`if rec_time[target] <= Q.tmax: Q.add(…)`) -/
theorem ite_pure_queue (c : Prop) [Decidable c] (st rt pr) (q q' : MyQueue) (tm S I R tr n) :
    (if c then (pure ⟨st, rt, pr, q, tm, S, I, R, tr, n⟩ : TM Loc) else pure ⟨st, rt, pr, q', tm, S, I, R, tr, n⟩) =
      pure ⟨st, rt, pr, if c then q else q', tm, S, I, R, tr, n⟩ := by
  split <;> rfl

theorem QRel.addRec {tmax : ERat} {q : MyQueue} {l : List QItem} (h : QRel tmax q l) (T : ERat) (u : Node) :
    QRel tmax (if ERat.le T tmax = true then q.add T (Ev.recov u) else q) (addRec tmax l T u) := by
  unfold EventSIR.addRec
  split
  · exact h.addE T (QEv.recov u)
  · exact h

theorem process_trans_refines {A : EArgs} {P : ESParams} (hA : Agree A P) {σ : Loc} {s : ESState}
    (hR : Rel P σ s) (t : Rat) (src : Option Node) (tgt : Node) (hW : KeysOK P tgt) (ts : TapeSt) :
    ∃ σ', process_trans A (some t) src tgt σ ts = .ok (σ', ts) ∧ Rel P σ' (processTrans P s t src tgt) := by
  unfold process_trans
  by_cases hst : s.status tgt = St.S
  · rw [processTrans_S P s t src tgt hst]
    unfold sched ask
    have hWJ := hW fun v => decide (fset s.status tgt St.I v = St.S)
    simp only [hR.status, hst, decide_true, if_true, hR.S, hR.I, hR.R, listLast_reverse hR.neS, listLast_reverse hR.neI,
      listLast_reverse hR.neR, TM.liftE_ok, pure_bind, hA.rule, hA.nbrs, fset_self, hR.queue.tmax]
    generalize P.joint tgt _ = J at hWJ ⊢
    obtain ⟨delays, recDelay⟩ := J
    simp only [ite_pure_queue, pure_bind]
    refine sched_apply (tmax := P.tmax) t tgt delays _ ?_ hWJ _
      (addRec P.tmax s.queue (ERat.add (some t) recDelay) tgt) ts (hR.queue.addRec _ tgt) _ ?_
    · intro σ v ts d hd
      simp only [PyRT.dictGet, hd, liftE_pure, pure_bind]
      unfold schedStep
      split <;> rfl
    · intro Q' hQ'
      simp only [fset_self, hR.predInf] at hQ' ⊢
      exact ⟨rfl, congrArg (fset · tgt _) hR.recTime, rfl, hQ',
        (congrArg (· ++ [some t]) hR.times).trans (snoc_reverse_map some t s.times), List.reverse_cons.symm,
        List.reverse_cons.symm, List.reverse_cons.symm,
        (congrArg (· ++ [(some t, src, tgt)]) hR.trans).trans (snoc_reverse_map encT (t, src, tgt) s.trans),
        List.cons_ne_nil _ _, List.cons_ne_nil _ _, List.cons_ne_nil _ _⟩
  · rw [processTrans_notS P s t src tgt hst, hR.status, decide_eq_false hst]
    exact ⟨σ, rfl, hR⟩

/-! ### one event: `pop_and_run` against `step … 0` -/

theorem Rel.setQ {P : ESParams} {σ : Loc} {s : ESState} (hR : Rel P σ s) {q : MyQueue} {l : List QItem}
    (hq : QRel P.tmax q l) : Rel P { σ with Q := q } { s with queue := l } :=
  ⟨hR.status, hR.recTime, hR.predInf, hq, hR.times, hR.S, hR.I, hR.R, hR.trans, hR.neS, hR.neI, hR.neR⟩

theorem step_refines {A : EArgs} {P : ESParams} (hA : Agree A P) {σ : Loc} {s : ESState}
    (hR : Rel P σ s) (hW : ∀ x ∈ s.queue, ∀ src tgt, x.ev = QEv.trans src tgt → KeysOK P tgt)
    (hne : σ.Q.q ≠ []) (ts : TapeSt) :
    ∃ σ1 s1, pop_and_run A σ ts = .ok (σ1, ts) ∧ step P 0 s = some s1 ∧ Rel P σ1 s1 := by
  obtain ⟨m, q', x, l', hpop, hmod, hm1, hm2, hq'⟩ := popMin_refines hR.queue hne
  have hR' := hR.setQ hq'
  have hxmem : x ∈ s.queue := by
    obtain ⟨l1, l2, e1, _, _⟩ := pop_some hmod
    rw [e1]; simp
  obtain ⟨mt, mc, me⟩ := m
  simp only at hm1 hm2
  subst hm1 hm2
  unfold pop_and_run step
  rw [hpop, hmod, TM.liftE_ok, pure_bind]
  simp only
  cases hev : x.ev with
  | trans src tgt =>
    obtain ⟨σ1, h1, h2⟩ := process_trans_refines hA hR' x.time src tgt (hW x hxmem src tgt hev) ts
    exact ⟨σ1, _, h1, rfl, h2⟩
  | recov u =>
    obtain ⟨σ1, h1, h2⟩ := process_rec_refines (A := A) hR' x.time u ts
    exact ⟨σ1, _, h1, rfl, h2⟩

theorem loop_eq (A : EArgs) : loop A = TM.evLoop (fun σ => decide (MyQueue.len σ.Q > 0)) (pop_and_run A) := by
  funext fuel
  induction fuel with
  | zero => rfl
  | succ fuel ih => funext σ; rw [loop, TM.evLoop, ih]

theorem model_loop_eq (P : ESParams) (fuel k : Nat) (s : ESState) :
    EventSIR.loop P (fun _ => 0) fuel k s = TM.optLoop (step P 0) fuel s := by
  induction fuel generalizing k s with
  | zero => rfl
  | succ fuel ih =>
    rw [EventSIR.loop, TM.optLoop]
    cases step P 0 s with
    | none => rfl
    | some s' => exact ih _ _

theorem step_eq_none {P : ESParams} {s : ESState} : step P 0 s = none ↔ s.queue = [] := by
  refine ⟨step_none, fun h => ?_⟩
  unfold step pop minIdxs
  rw [h]
  simp [minTime]

/-- an invariant of the model's event loop (under `heapq` tie-breaking) which guarantees that the user rule is only
called where it returns a proper `dict` -/
structure StepInv (P : ESParams) (J : ESState → Prop) : Prop where
  step : ∀ s s', J s → step P 0 s = some s' → J s'
  keys : ∀ s, J s → ∀ x ∈ s.queue, ∀ src tgt, x.ev = QEv.trans src tgt → KeysOK P tgt

theorem StepInv.ofWFJ {P : ESParams} (hW : WFJ P) : StepInv P (fun _ => True) :=
  ⟨fun _ _ _ _ => trivial, fun _ _ _ _ _ tgt _ => hW tgt⟩

theorem model_loop_stable (P : ESParams) (fuel k : Nat) (s : ESState)
    (h : (EventSIR.loop P (fun _ => 0) fuel k s).queue = []) :
    EventSIR.loop P (fun _ => 0) (fuel + 1) k s = EventSIR.loop P (fun _ => 0) fuel k s := by
  rw [model_loop_eq] at h
  rw [model_loop_eq, model_loop_eq]
  exact TM.optLoop_stable fuel 1 s (step_eq_none.2 h)

/-- the generated loop from a related state, with one unit of fuel more than the model loop (`heapq` tie-breaking):
if the model has emptied its queue the generated loop returns the related state and leaves the tape alone, otherwise
it fails with "fuel" -/
theorem loop_spec {A : EArgs} {P : ESParams} {J : ESState → Prop} (hA : Agree A P) (hJ : StepInv P J)
    (fuel k : Nat) (σ : Loc) (s : ESState) (ts : TapeSt) (hR : Rel P σ s) (hJs : J s) :
      ((EventSIR.loop P (fun _ => 0) fuel k s).queue = [] ∧
          ∃ σ', loop A (fuel + 1) σ ts = .ok (σ', ts) ∧ Rel P σ' (EventSIR.loop P (fun _ => 0) fuel k s)) ∨
        ((EventSIR.loop P (fun _ => 0) fuel k s).queue ≠ [] ∧ loop A (fuel + 1) σ ts = .error "fuel") := by
  rw [loop_eq, model_loop_eq]
  refine (TM.evLoop_opt (E := Eq) (R := fun σ s => Rel P σ s ∧ J s) (f := step P 0) ?_ fuel σ s ts ⟨hR, hJs⟩).imp
    (fun h => ⟨step_eq_none.1 h.1, (h.2.fwd rfl).imp fun σ' h' => ⟨h'.1, h'.2.1⟩⟩)
    (fun h => ⟨mt step_eq_none.2 h.1, h.2⟩)
  rintro σ s ts ⟨hR, hJs⟩
  by_cases hne : σ.Q.q = []
  · exact Or.inl ⟨by simp [MyQueue.len, hne], step_eq_none.2 (hR.queue.nil_iff.1 hne)⟩
  · obtain ⟨σ1, s1, h1, h2, h3⟩ := step_refines hA hR (hJ.keys s hJs) hne ts
    exact Or.inr ⟨decide_eq_true (List.length_pos_of_ne_nil hne), s1, h2,
      h1 ▸ TM.RR.ok ts ⟨h3, hJ.step s s1 hJs h2⟩⟩

theorem ite_mem_fset {β : Type} (f : Node → β) (a : Node) (l : List Node) (x : β) :
    (fun v => if v ∈ l then x else fset f a x v) = fun v => if v ∈ a :: l then x else f v := by
  funext v
  by_cases h : v = a <;> simp [h, fset]

/-- one round of the loop `for node in initial_recovereds` -/
def recStep (tmin : Rat) (σ : Loc) (node : Node) : Loc :=
  { σ with status := fset σ.status node St.R, rec_time := fset σ.rec_time node (some tmin),
           number_initially_recovered := σ.number_initially_recovered + 1 }

theorem foldl_recStep (tmin : Rat) (recs : List Node) (σ : Loc) :
    recs.foldl (recStep tmin) σ =
      { σ with status := fun v => if v ∈ recs then St.R else σ.status v,
               rec_time := fun v => if v ∈ recs then some tmin else σ.rec_time v,
               number_initially_recovered := σ.number_initially_recovered + (recs.length : Int) } := by
  induction recs generalizing σ with
  | nil => simp
  | cons a l ih =>
    rw [List.foldl_cons, ih]
    unfold recStep
    simp only [ite_mem_fset, List.length_cons]
    congr 1
    omega

/-- one round of the loop `for u in initial_infecteds` -/
def infStep (tmin : Rat) (σ : Loc) (u : Node) : Loc :=
  { σ with pred_inf_time := fset σ.pred_inf_time u (some tmin),
           Q := MyQueue.add σ.Q (some tmin) (Ev.trans none u) }

theorem foldl_infStep (P : ESParams) (infs : List Node) (σ : Loc) (q : List QItem) (hq : QRel P.tmax σ.Q q)
    (G : Loc → Prop)
    (hG : ∀ Q', QRel P.tmax Q' (initQueue P infs q) →
      G { σ with pred_inf_time := fun v => if v ∈ infs then some P.tmin else σ.pred_inf_time v, Q := Q' }) :
    G (infs.foldl (infStep P.tmin) σ) := by
  induction infs generalizing σ q with
  | nil => simpa using hG σ.Q hq
  | cons a l ih =>
    rw [List.foldl_cons]
    refine ih (infStep P.tmin σ a) _ (hq.add P.tmin (QEv.trans none a)) ?_
    intro Q' hQ'
    unfold infStep
    simp only [ite_mem_fset]
    exact hG Q' hQ'

/-- a copy of the generated prologue of `run`, the two `for` loops as folds; `run_eq` is the check that it is still the
generated text -/
def genInit (A : EArgs) (infs recs : List Node) : Loc :=
  let σ : Loc := Loc.init
  let σ := { σ with status := (fun _ => St.S) }
  let σ := { σ with rec_time := (fun _ => some (A.tmin - 1)) }
  let σ := { σ with number_initially_recovered := 0 }
  let σ := recs.foldl (recStep A.tmin) σ
  let σ := { σ with pred_inf_time := (fun _ => none) }
  let σ := { σ with Q := (MyQueue.init A.tmax) }
  let σ := { σ with times := [some A.tmin] }
  let σ := { σ with S := [((A.order : Int) - σ.number_initially_recovered)] }
  let σ := { σ with I := [0] }
  let σ := { σ with R := [σ.number_initially_recovered] }
  let σ := { σ with transmissions := [] }
  infs.foldl (infStep A.tmin) σ

/-- the final `times = times[len(initial_infecteds):]` (same for `S`, `I`, `R`) -/
def dropRows (k : Nat) (σ : Loc) : Loc :=
  { σ with times := σ.times.drop k, S := σ.S.drop k, I := σ.I.drop k, R := σ.R.drop k }

theorem run_eq (A : EArgs) (infs recs : List Node) (fuel : Nat) :
    run A infs recs fuel = (loop A fuel (genInit A infs recs) >>= fun σ => pure (dropRows infs.length σ)) := by
  unfold run
  simp only [List.foldlM_pure, pure_bind]
  rfl

theorem genInit_rel {A : EArgs} {P : ESParams} (hA : Agree A P) (infs recs : List Node) :
    Rel P (genInit A infs recs) (init P infs recs) := by
  unfold genInit
  simp only [foldl_recStep, hA.tmin, hA.tmax, hA.order, zero_add]
  refine foldl_infStep P infs _ [] (QRel.init P.tmax) (Rel P · (init P infs recs)) ?_
  intro Q' hQ'
  exact ⟨rfl, rfl, rfl, hQ', rfl, rfl, rfl, rfl, rfl, List.cons_ne_nil _ _, List.cons_ne_nil _ _, List.cons_ne_nil _ _⟩

/-- the returned objects against the model's final state: the four arrays are the model's `rows`, the queue is
empty, everything else is as in `Rel` -/
structure OutRel (k : Nat) (σ : Loc) (s : ESState) : Prop where
  times : σ.times = (rows s k).1.map some
  S : σ.S = (rows s k).2.1
  I : σ.I = (rows s k).2.2.1
  R : σ.R = (rows s k).2.2.2
  trans : σ.transmissions = s.trans.reverse.map encT
  status : σ.status = s.status
  recTime : σ.rec_time = s.recTime
  predInf : σ.pred_inf_time = s.predInf
  queue : σ.Q.q = []

theorem Rel.out {P : ESParams} {σ : Loc} {s : ESState} (hR : Rel P σ s) (hq : s.queue = []) (k : Nat) :
    OutRel k (dropRows k σ) s where
  times := by show σ.times.drop k = _; rw [hR.times, rows, List.map_drop]
  S := by show σ.S.drop k = _; rw [hR.S, rows]
  I := by show σ.I.drop k = _; rw [hR.I, rows]
  R := by show σ.R.drop k = _; rw [hR.R, rows]
  trans := hR.trans
  status := hR.status
  recTime := hR.recTime
  predInf := hR.predInf
  queue := hR.queue.nil_iff.2 hq

/-- **refinement, forward**: whenever the generated `fast_nonMarkov_SIR` returns normally, it has not touched the
random tape, the model run (same fuel, `heapq` tie-breaking) has emptied its queue, and the returned objects are the
model's. -/
theorem run_refines {A : EArgs} {P : ESParams} {J : ESState → Prop} (hA : Agree A P) (hJ : StepInv P J)
    (infs recs : List Node) (h0 : J (init P infs recs)) (fuel : Nat)
    (ts : TapeSt) (σ : Loc) (ts' : TapeSt) (h : run A infs recs fuel ts = .ok (σ, ts')) :
    ts' = ts ∧ (EventSIR.run P (fun _ => 0) infs recs fuel).queue = [] ∧
      OutRel infs.length σ (EventSIR.run P (fun _ => 0) infs recs fuel) := by
  rw [run_eq] at h
  cases fuel with
  | zero => cases h
  | succ fuel =>
    rcases loop_spec hA hJ fuel 0 _ _ ts (genInit_rel hA infs recs) h0 with ⟨hq, σ1, hl, hR⟩ | ⟨_, hl⟩
    · rw [TM.bind_ok hl, TM.pure_apply] at h
      injection h with h
      injection h with h1 h2
      subst h1 h2
      rw [EventSIR.run, model_loop_stable P fuel 0 _ hq]
      exact ⟨rfl, hq, hR.out hq _⟩
    · rw [TM.bind_err hl] at h
      cases h

/-- **refinement, backward**: if the model run empties its queue within `fuel` events, the generated function called
with one more unit of fuel returns normally (no `IndexError`/`KeyError`, no "fuel"), with the model's objects. -/
theorem run_refines_back {A : EArgs} {P : ESParams} {J : ESState → Prop} (hA : Agree A P) (hJ : StepInv P J)
    (infs recs : List Node) (h0 : J (init P infs recs))
    (fuel : Nat) (ts : TapeSt) (hq : (EventSIR.run P (fun _ => 0) infs recs fuel).queue = []) :
    ∃ σ, run A infs recs (fuel + 1) ts = .ok (σ, ts) ∧
      OutRel infs.length σ (EventSIR.run P (fun _ => 0) infs recs fuel) := by
  rcases loop_spec hA hJ fuel 0 _ _ ts (genInit_rel hA infs recs) h0 with ⟨_, σ1, h1, h2⟩ | ⟨hn, _⟩
  · refine ⟨dropRows infs.length σ1, ?_, h2.out hq _⟩
    rw [run_eq, TM.bind_ok h1]
    rfl
  · exact absurd hq hn

/-- no Python exception (`IndexError` from `S[-1]`/`heappop`, `KeyError` from `trans_delay[v]`) can be raised -/
theorem run_total {A : EArgs} {P : ESParams} {J : ESState → Prop} (hA : Agree A P) (hJ : StepInv P J)
    (infs recs : List Node) (h0 : J (init P infs recs)) (fuel : Nat) (ts : TapeSt) :
    (∃ σ, run A infs recs fuel ts = .ok (σ, ts)) ∨ run A infs recs fuel ts = .error "fuel" := by
  rw [run_eq]
  cases fuel with
  | zero => exact Or.inr rfl
  | succ fuel =>
    rcases loop_spec hA hJ fuel 0 _ _ ts (genInit_rel hA infs recs) h0 with ⟨_, σ', h, _⟩ | ⟨_, h⟩
    · left; exact ⟨dropRows infs.length σ', by rw [TM.bind_ok h]; rfl⟩
    · right; rw [TM.bind_err h]

/-! ### reading the output of the generated code -/

def decT (e : ERat × Option Node × Node) : Option (Rat × Option Node × Node) := e.1.map fun t => (t, e.2.1, e.2.2)

/-- the transmissions `(t, infector, node)` reported by the generated code, most recent first (the order in which
the model keeps them); all reported times are finite (`OutRel.trans_eq`) -/
def genTrans (σ : Loc) : List (Rat × Option Node × Node) := (σ.transmissions.filterMap decT).reverse

/-- the recoveries reported by the generated code: `rec_time` of the nodes whose final status is `R`
(the counterpart of `EventSIR.recoveriesOf`) -/
def genRecov (nodes recs : List Node) (σ : Loc) : List (Rat × Node) :=
  nodes.filterMap fun v =>
    if σ.status v = St.R ∧ v ∉ recs then (match σ.rec_time v with | some t => some (t, v) | none => none) else none

theorem filterMap_decT_encT (l : List (Rat × Option Node × Node)) : (l.map encT).filterMap decT = l := by
  induction l with
  | nil => rfl
  | cons a l ih =>
    rw [List.map_cons, List.filterMap_cons]
    simp only [decT, encT, Option.map_some, ih]

theorem OutRel.genTrans_eq {k : Nat} {σ : Loc} {s : ESState} (h : OutRel k σ s) : genTrans σ = s.trans := by
  unfold genTrans
  rw [h.trans, filterMap_decT_encT, List.reverse_reverse]

theorem OutRel.trans_eq {k : Nat} {σ : Loc} {s : ESState} (h : OutRel k σ s) :
    σ.transmissions = (genTrans σ).reverse.map encT := by
  rw [h.genTrans_eq, h.trans]

theorem OutRel.genRecov_eq {k : Nat} {σ : Loc} {s : ESState} (h : OutRel k σ s) (nodes recs : List Node) :
    genRecov nodes recs σ = recoveriesOf nodes recs s := by
  unfold genRecov recoveriesOf
  rw [h.status, h.recTime]
  rfl

/-- table-driven rules (`_find_trans_and_rec_delays_SIR_`) return a dict with the susceptible neighbours as keys -/
theorem KeysOK_table (nodes : List Node) (nbrs : Node → List Node) (delay : Node → Node → ERat) (dur : Node → ERat)
    (tmin : Rat) (tmax : ERat) (u : Node) (hN : (nbrs u).Nodup) :
    KeysOK (tableParams nodes nbrs delay dur tmin tmax) u := by
  intro p
  show ((((nbrs u).filter p).map fun v => (v, delay u v)).map (·.1)).Nodup
  rw [List.map_map]
  have : ((fun x : Node × ERat => x.1) ∘ fun v => (v, delay u v)) = id := rfl
  rw [this, List.map_id]
  exact hN.filter _

theorem WFJ_table (nodes : List Node) (nbrs : Node → List Node) (delay : Node → Node → ERat) (dur : Node → ERat)
    (tmin : Rat) (tmax : ERat) (hN : ∀ u, (nbrs u).Nodup) : WFJ (tableParams nodes nbrs delay dur tmin tmax) :=
  fun u => KeysOK_table nodes nbrs delay dur tmin tmax u (hN u)

/-- for well-formed table inputs the C11 invariant `Inv` is a step invariant: every queued transmission targets a
node of the graph, whose neighbour list is duplicate-free -/
theorem StepInv.table {nodes : List Node} {nbrs : Node → List Node} {delay : Node → Node → ERat} {dur : Node → ERat}
    {infs recs : List Node} (h : WF nodes nbrs delay dur infs recs) (tmin : Rat) (tmax : ERat) :
    StepInv (tableParams nodes nbrs delay dur tmin tmax) (Inv nodes nbrs delay dur tmin tmax infs recs) where
  step := fun _ _ hI hs => hI.step h (RuleFits.tables nbrs delay dur) hs
  keys := by
    intro s hI x hx src tgt hev
    have hmem : tgt ∈ nodes := (InvC.q_tr hI x hx src tgt hev).1
    exact KeysOK_table nodes nbrs delay dur tmin tmax tgt (h.nbr_nodup tgt hmem)

/-- the arguments of a call with table-driven rules: `trans_and_rec_time_fxn` is a pure table lookup -/
def tableArgs (nodes : List Node) (nbrs : Node → List Node) (delay : Node → Node → ERat) (dur : Node → ERat)
    (tmin : Rat) (tmax : ERat) : EArgs :=
  { nbrs := nbrs, order := nodes.length, tmin := tmin, tmax := tmax,
    transRec := fun u sus => pure (jointOfTables delay dur u sus) }

theorem agree_tableArgs (nodes : List Node) (nbrs : Node → List Node) (delay : Node → Node → ERat) (dur : Node → ERat)
    (tmin : Rat) (tmax : ERat) :
    Agree (tableArgs nodes nbrs delay dur tmin tmax) (tableParams nodes nbrs delay dur tmin tmax) :=
  ⟨rfl, rfl, rfl, rfl, fun _ _ => rfl⟩

/-! ### `find?` on a list in which the key occurs at most once does not depend on the order -/

theorem find?_reverse_of_le_one {α : Type} (p : α → Bool) : ∀ (l : List α), (l.filter p).length ≤ 1 →
    l.reverse.find? p = l.find? p := by
  intro l
  induction l with
  | nil => intro _; rfl
  | cons a l ih =>
    intro h
    rw [List.reverse_cons, List.find?_append, List.find?_cons]
    by_cases ha : p a = true
    · rw [List.filter_cons, if_pos ha, List.length_cons] at h
      have hnil : l.filter p = [] := List.length_eq_zero_iff.1 (by omega)
      have hnone : l.reverse.find? p = none := by
        rw [List.find?_eq_none]
        intro x hx hpx
        have : x ∈ l.filter p := List.mem_filter.2 ⟨List.mem_reverse.1 hx, hpx⟩
        rw [hnil] at this; cases this
      rw [hnone, ha]
      simp [ha]
    · have ha' : p a = false := by simpa using ha
      rw [List.filter_cons, if_neg ha] at h
      rw [ih h, ha']
      simp [ha']

/-- `isFPP` looks a node's entry up with `find?`, so the order of the transmission list matters only if a node occurs twice -/
theorem isFPP_reverse (nodes : List Node) (nbrs : Node → List Node) (delay : Node → Node → ERat) (dur : Node → ERat)
    (tmin : Rat) (tmax : ERat) (infs recs : List Node) (tr : List (Rat × Option Node × Node))
    (rc : List (Rat × Node)) (huniq : ∀ v, (tr.filter fun e => e.2.2 == v).length ≤ 1) :
    isFPP nodes nbrs delay dur tmin tmax infs recs tr.reverse rc =
      isFPP nodes nbrs delay dur tmin tmax infs recs tr rc := by
  have hfind : ∀ v, (tr.reverse.find? fun e => e.2.2 == v) = tr.find? fun e => e.2.2 == v :=
    fun v => find?_reverse_of_le_one _ tr (huniq v)
  unfold isFPP
  simp only [hfind, List.filter_reverse, List.length_reverse, List.all_reverse]

end GenESIR
