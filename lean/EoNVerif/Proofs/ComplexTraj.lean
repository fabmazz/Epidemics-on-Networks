import EoNVerif.Proofs.Complex
import EoNVerif.Proofs.TrajLaw
/-!
Induction over events for `Gillespie_complex_contagion`: the one-step selection law (`Proofs/Complex.lean`,
`Props/C15`) lifted to the law of finite histories.  Definitions (`Complex.Spec.jumpDist`, `Complex.trajDist`,
`Complex.accProd`, …), the C15 facts in the form `TrajLaw.Sim` asks for (`Complex.sim`), and with it the trajectory law
as an instance of `Proofs/TrajLaw.lean`; the property statements are in `Props/C15c.lean`.
`Spec.jumpDist`, `Spec.applyHist`, `Spec.Legal`, `trajDist`, `accProd`, `defectSum`, `applyHist`, `trajDistT` restate
`TrajLaw.Chain.jump` … `TrajLaw.Model.trajT` for this simulator: the statements of `Props/C15c` are written with them, and
`jumpDist_eq` … `trajDistT_gen` tie each to the general one; a further law is stated with the `TrajLaw` definitions.  The
factor `1 - ρ^k` of `accProd` is `LD.factor` of `nodes_by_rate`, which is always weighted.
-/

/-! ### the jump chain of the specification -/
namespace Complex
variable {σ : Type} [DecidableEq σ]

namespace Spec
omit [DecidableEq σ]

def totalRate (P : CCParams σ) (st : Node → σ) : Rat := sumRat (P.nodes.map (P.rate st))

/-- the status after node `x` has made its transition: `x` moves to the status the transition choice answers -/
def apply (P : CCParams σ) (st : Node → σ) (x : Node) : Node → σ := fset st x (P.choose st x)

/-- **jump chain of the complex contagion**, first `n` jumps, as a law on histories of (node, total rate before
the event): if `Σ_x rate = 0` the history ends; otherwise node `x` is next with probability `rate x / Σ rates`,
`(x, Σ rates)` is recorded (the holding time before the event is `Exp(Σ rates)`), and the chain continues from the
status with `x` moved to `P.choose st x`. -/
def jumpDist (P : CCParams σ) : Nat → (Node → σ) → Dist (List (Node × Rat))
  | 0, _ => Dist.pure []
  | n + 1, st =>
    if totalRate P st = 0 then Dist.pure []
    else
      Dist.bind (P.nodes.map fun x => (x, P.rate st x / totalRate P st)) fun x =>
        Dist.push (fun h => (x, totalRate P st) :: h) (jumpDist P n (apply P st x))

def applyHist (P : CCParams σ) : (Node → σ) → List (Node × Rat) → (Node → σ)
  | st, [] => st
  | st, (x, _) :: h => applyHist P (apply P st x) h

/-- `h` is a legal path of the chain from `st`: every selected node is a node of the network with a positive rate
in the status reached by its predecessors, the recorded clock rate is the sum of the rates in that status (which is
therefore positive) -/
def Legal (P : CCParams σ) : (Node → σ) → List (Node × Rat) → Prop
  | _, [] => True
  | st, (x, r) :: h =>
    x ∈ P.nodes ∧ 0 < P.rate st x ∧ r = totalRate P st ∧ 0 < totalRate P st ∧ Legal P (apply P st x) h

end Spec

open Dist

/-- the `while` test of `Complex.loop` with no time horizon (`tmax = ∞`): the loop stops when
`nodes_by_rate.total_weight() > 0` fails (the next event time is `inf` exactly in that case, `ComplexTraj.loop_stops`) -/
def halted (s : CCState σ) : Prop := ¬ (s.ld.totalWeight > 0)

instance (s : CCState σ) : Decidable (halted s) := inferInstanceAs (Decidable (¬ (s.ld.totalWeight > 0)))

/-- **law of the first `n` events of the model's loop** (histories of (node, rate handed to `expovariate` before
the event)).  Mirrors `Complex.loop`: stop test `halted`; node selection `s.ld.chooseDist k` (the `k`-round
rejection sampler of the weighted `_ListDict_`); `none` (= `chooseTM` out of fuel, an error of the tape model, not a
stop) contributes no history, so the law is a sub-distribution whose missing mass is the probability that some
sampler exhausted its `k` rounds; `applyEvent … = none` (KeyError) likewise contributes nothing (and is
unreachable, `traj_status`).  The event time passed to `applyEvent` is `0`: it is only recorded (`trajDistT_eq'`). -/
def trajDist (P : CCParams σ) (k : Nat) : Nat → CCState σ → Dist (List (Node × Rat))
  | 0, _ => Dist.pure []
  | n + 1, s =>
    if halted s then Dist.pure []
    else
      Dist.bind (s.ld.chooseDist k) fun o =>
        match o with
        | none => []
        | some x =>
          match applyEvent P s x 0 with
          | none => []
          | some s' => Dist.push (fun h => (x, s.ld.totalWeight) :: h) (trajDist P k n s')

/-- `Π_i (1 - ρ_i^k)`: product of the acceptance factors of `nodes_by_rate` along the model's path through `h`
(each factor in the state reached after the preceding events).  On histories that are not paths (node not a
candidate) the value is immaterial (both masses are 0) and set to 1. -/
def accProd (P : CCParams σ) (k : Nat) : CCState σ → List (Node × Rat) → Rat
  | _, [] => 1
  | s, (x, _) :: h =>
    if x ∈ s.ld.items then
      match applyEvent P s x 0 with
      | some s' => (1 - s.ld.rejProb ^ k) * accProd P k s' h
      | none => 1
    else 1

def defectSum (P : CCParams σ) (k : Nat) : CCState σ → List (Node × Rat) → Rat
  | _, [] => 0
  | s, (x, _) :: h =>
    if x ∈ s.ld.items then
      match applyEvent P s x 0 with
      | some s' => s.ld.rejProb ^ k + defectSum P k s' h
      | none => 0
    else 0

def applyHist (P : CCParams σ) : CCState σ → List (Node × Rat) → Option (CCState σ)
  | s, [] => some s
  | s, (x, _) :: h =>
    match applyEvent P s x 0 with
    | some s' => applyHist P s' h
    | none => none

/-! ### the stop test -/

theorem clock_spec (P : CCParams σ) (h : WF P) (s : CCState σ) (hs : Inv P s) :
    s.ld.totalWeight = Spec.totalRate P s.status := clock_eq' P h s hs

theorem halted_iff (P : CCParams σ) (h : WF P) (s : CCState σ) (hs : Inv P s) :
    halted s ↔ Spec.totalRate P s.status = 0 := by
  unfold halted
  rw [clock_spec P h s hs]
  have : 0 ≤ Spec.totalRate P s.status := sumRat_map_nonneg _ _ (fun c _ => h.rate_nonneg _ c)
  constructor
  · intro hn; exact le_antisymm (not_lt.1 hn) this
  · intro h0; rw [h0]; exact lt_irrefl 0

/-! ### the complex contagion as an instance of `TrajLaw` -/

omit [DecidableEq σ] in
def chain (P : CCParams σ) : TrajLaw.Chain (Node → σ) Node :=
  { enabled := fun _ => P.nodes, rate := P.rate, apply := Spec.apply P }

/-- one iteration of `Complex.loop` (event times recorded as 0): the candidates are the items of `nodes_by_rate`, all
selected through the one weighted `_ListDict_` -/
def model (P : CCParams σ) : TrajLaw.Model (CCState σ) Node :=
  { halted := halted, decHalted := fun _ => inferInstance, select := fun k s => s.ld.chooseDist k,
    step := fun s x => applyEvent P s x 0, clock := fun s => s.ld.totalWeight, en := fun s x => x ∈ s.ld.items,
    decEn := fun _ _ => inferInstance, factor := fun k s _ => 1 - s.ld.rejProb ^ k,
    defect := fun k s _ => s.ld.rejProb ^ k }

omit [DecidableEq σ] in
theorem chain_wf (P : CCParams σ) (h : WF P) : (chain P).WF :=
  ⟨fun _ => h.nodup, fun st e _ => h.rate_nonneg st e⟩

omit [DecidableEq σ] in
theorem jumpDist_eq (P : CCParams σ) (n : Nat) (st : Node → σ) : Spec.jumpDist P n st = (chain P).jump n st := by
  induction n generalizing st with
  | zero => rfl
  | succ n ih => simp only [Spec.jumpDist, TrajLaw.Chain.jump, ih]; rfl

omit [DecidableEq σ] in
theorem spec_applyHist_eq (P : CCParams σ) (st : Node → σ) (hist : List (Node × Rat)) :
    Spec.applyHist P st hist = (chain P).applyHist st hist := by
  induction hist generalizing st with
  | nil => rfl
  | cons a t ih => exact ih _

omit [DecidableEq σ] in
theorem legal_iff (P : CCParams σ) (st : Node → σ) (hist : List (Node × Rat)) :
    Spec.Legal P st hist ↔ (chain P).Legal st hist := by
  induction hist generalizing st with
  | nil => exact Iff.rfl
  | cons a t ih => exact and_congr_right fun _ => and_congr_right fun _ => and_congr_right fun _ =>
      and_congr_right fun _ => ih _

theorem trajDist_eq (P : CCParams σ) (k n : Nat) (s : CCState σ) : trajDist P k n s = (model P).traj k n s := by
  induction n generalizing s with
  | zero => rfl
  | succ n ih =>
    rw [trajDist, TrajLaw.Model.traj]
    refine if_congr Iff.rfl rfl (congrArg _ (funext fun o => ?_))
    cases o with
    | none => rfl
    | some x =>
      simp only [model]
      cases applyEvent P s x 0 with
      | none => rfl
      | some s' => exact congrArg _ (ih s')

theorem accProd_eq (P : CCParams σ) (k : Nat) (s : CCState σ) (hist : List (Node × Rat)) :
    accProd P k s hist = (model P).accProd k s hist := by
  induction hist generalizing s with
  | nil => rfl
  | cons a t ih =>
    simp only [accProd, TrajLaw.Model.accProd, ih, model]
    refine if_congr Iff.rfl ?_ rfl
    cases applyEvent P s a.1 0 <;> rfl

theorem defectSum_eq (P : CCParams σ) (k : Nat) (s : CCState σ) (hist : List (Node × Rat)) :
    defectSum P k s hist = (model P).defectSum k s hist := by
  induction hist generalizing s with
  | nil => rfl
  | cons a t ih =>
    simp only [defectSum, TrajLaw.Model.defectSum, ih, model]
    refine if_congr Iff.rfl ?_ rfl
    cases applyEvent P s a.1 0 <;> rfl

theorem applyHist_eq (P : CCParams σ) (s : CCState σ) (hist : List (Node × Rat)) :
    applyHist P s hist = (model P).applyHist s hist := by
  induction hist generalizing s with
  | nil => rfl
  | cons a t ih =>
    simp only [applyHist, TrajLaw.Model.applyHist, ih, model]
    cases applyEvent P s a.1 0 <;> rfl

/-- C15 (`Props/C15`) says that the loop follows the chain: stop test, clock, selection law, state change -/
theorem sim (P : CCParams σ) (h : WF P) : TrajLaw.Sim (chain P) (model P) (Inv P) (·.status) (fun _ => True) where
  wf := chain_wf P h
  kOK_pos := fun _ _ => trivial
  halted_iff := halted_iff P h
  clock_eq := clock_spec P h
  select_en := fun k s x _ hs _ hx =>
    have hp := (mem_items_iff P h s hs x).1 hx
    ⟨hp.1, next_node_law' P h s hs x hp.1 hp.2 k⟩
  select_not := fun k s x hs hx => ⟨LD.chooseDist_not_mem s.ld x hx k, fun hxn =>
    le_antisymm (not_lt.1 fun hp => hx (hs.pos x hxn hp).1) (h.rate_nonneg _ _)⟩
  step_en := fun s x hs hx => applyEvent_inv' P h s hs x 0 hx
  factor_eq := fun _ _ _ => rfl
  defect_unit := fun k s _ hs _ => by
    have := s.ld.defect_unit hs.ldInv k
    rwa [LD.defect, if_pos hs.weighted] at this
  defect_small := fun s x hs hx hr ε hε => by
    -- the selected node has a positive weight, so `ρ < 1` here and `ρ^k → 0`
    have := s.ld.defect_small hs.ldInv x hx (fun _ => (hs.pos x (hs.items_mem x hx) hr).2 ▸ hr) ε hε
    simp only [LD.defect, if_pos hs.weighted] at this
    exact this

/-- **trajectory law**: mass of a history under the model's `n`-event law = its mass under the jump chain × the
product of the acceptance factors along it -/
theorem traj_law (P : CCParams σ) (h : WF P) (k n : Nat) (s : CCState σ) (hs : Inv P s)
    (hist : List (Node × Rat)) :
    mass (trajDist P k n s) (fun y => y == hist) =
      mass (Spec.jumpDist P n s.status) (fun y => y == hist) * accProd P k s hist := by
  rw [trajDist_eq, jumpDist_eq, accProd_eq]
  exact TrajLaw.traj_law (sim P h) k trivial n s hs hist

/-! ### recorded times do not influence the law -/

/-- the part of the state that selection and bookkeeping read: everything except the recorded times and the log -/
def Core (a b : CCState σ) : Prop := a.status = b.status ∧ a.ld = b.ld ∧ a.data = b.data

omit [DecidableEq σ] in
theorem core_refl (a : CCState σ) : Core a a := ⟨rfl, rfl, rfl⟩

theorem applyEvent_core (P : CCParams σ) (a b : CCState σ) (hc : Core a b) (x : Node) (t t' : Rat) :
    match applyEvent P a x t, applyEvent P b x t' with
    | some a', some b' => Core a' b'
    | none, none => True
    | _, _ => False := by
  rcases a with ⟨st, ld, tm, dt, lg⟩
  rcases b with ⟨st', ld', tm', dt', lg'⟩
  obtain ⟨h1, h2, h3⟩ := hc
  dsimp only at h1 h2 h3
  subst h1 h2 h3
  rw [applyEvent_eq, applyEvent_eq]
  dsimp only
  cases insertAll P (fset st x (P.choose st x)) (x :: P.infl (fset st x (P.choose st x)) x) ld with
  | none => trivial
  | some l1 => exact ⟨rfl, rfl, rfl⟩

def trajDistT (P : CCParams σ) (k : Nat) : List Rat → CCState σ → Dist (List (Node × Rat))
  | [], _ => Dist.pure []
  | t :: ts, s =>
    if halted s then Dist.pure []
    else
      Dist.bind (s.ld.chooseDist k) fun o =>
        match o with
        | none => []
        | some x =>
          match applyEvent P s x t with
          | none => []
          | some s' => Dist.push (fun h => (x, s.ld.totalWeight) :: h) (trajDistT P k ts s')

theorem trajDistT_gen (P : CCParams σ) (k : Nat) (ts : List Rat) (s : CCState σ) :
    trajDistT P k ts s = (model P).trajT (applyEvent P) k ts s := by
  induction ts generalizing s with
  | nil => rfl
  | cons t ts ih =>
    rw [trajDistT, TrajLaw.Model.trajT]
    refine if_congr Iff.rfl rfl (congrArg _ (funext fun o => ?_))
    cases o with
    | none => rfl
    | some e =>
      simp only [model]
      cases applyEvent P s e t with
      | none => rfl
      | some s' => exact congrArg _ (ih s')

theorem trajDistT_eq' (P : CCParams σ) (k : Nat) (ts : List Rat) (a b : CCState σ) (hc : Core a b) :
    trajDistT P k ts a = trajDist P k ts.length b := by
  rw [trajDistT_gen, trajDist_eq]
  -- stop test, selection and clock read `nodes_by_rate` only
  refine (model P).trajT_eq (applyEvent P) Core k (fun a b hc => ?_) (fun a b hc e t => ?_) ts a b hc
  swap
  · have := applyEvent_core P a b hc e t 0
    revert this
    simp only [model]
    cases applyEvent P a e t <;> cases applyEvent P b e 0 <;> exact id
  obtain ⟨-, c2, -⟩ := hc
  simp only [model, halted, c2, and_self]

end Complex
