import EoNVerif.Gen.InitCondGen
import EoNVerif.Model.InitCond
import EoNVerif.Proofs.DegList
import EoNVerif.Proofs.ExceptDict
import EoNVerif.Proofs.SumRat
import EoNVerif.Proofs.Rows
import Mathlib.Tactic.Ring
import Mathlib.Data.List.Basic
import Mathlib.Data.List.Nodup
import Mathlib.Algebra.BigOperators.Group.List.Basic
import Mathlib.Algebra.BigOperators.Ring.List
/-!
C06c — lemmas: the Lean code GENERATED from `_initialize_node_status_`, `_count_edge_types_`, `_get_Nk_and_IC_as_arrays_`
(Gen/InitCondGen.lean, `GenInit`) against the closed forms of Model/InitCond.lean.  `GraphOK A adj` relates the two graph
representations: the model counts ordered neighbour pairs, the code walks an edge list with every edge once
(`opairs_perm`).  `GraphCheck` is a decidable sufficient condition for `GraphOK`, for the examples of Props/C06c.
-/

namespace GenInitProofs
open GenInit InitCond

/-- one iteration of the two status loops of `_initialize_node_status_` -/
def stStep (A : IArgs) (x : St) (acc : Node → St) (node : Node) : Except String (Node → St) :=
  if A.hasNode node then .ok (fset acc node x) else .error "EoNError"

theorem init_unfold (A : IArgs) (infs recs : List Node) :
    initialize_node_status A infs recs =
      if infs.any (fun u => decide (u ∈ recs)) then .error "EoNError" else
        (infs.foldlM (stStep A St.I) (fun _ => St.S)) >>= fun s => recs.foldlM (stStep A St.R) s := by
  unfold initialize_node_status
  have h : ∀ x : St, (fun (acc : Node → St) (x' : Node) => (do
    let status := acc
    let node := x'
    let status ← (if !(A.hasNode node) then do
      let _ ← (throw "EoNError" : Except String Unit)
      pure status
    else do
      pure status)
    let status := fset status node x
    pure status : Except String (Node → St))) = stStep A x := by
    intro x; funext acc node
    unfold stStep
    cases h : A.hasNode node <;> simp [h]
  simp only [h]
  split
  · rfl
  · simp

theorem foldlM_stStep (A : IArgs) (x : St) (l : List Node) (init : Node → St) :
    l.foldlM (stStep A x) init =
      if ∀ u ∈ l, A.hasNode u = true then .ok (l.foldl (fun acc n => fset acc n x) init) else .error "EoNError" :=
  GenHelpProofs.foldlM_guard (stStep A x) (fun acc n => fset acc n x) (fun n => A.hasNode n = true) "EoNError" l init
    fun _ _ _ => rfl

/-- the map is `statusOf` because `R` is written last and `statusOf` tests `recs` first -/
theorem init_eq (A : IArgs) (infs recs : List Node) :
    initialize_node_status A infs recs =
      if (∀ u ∈ infs, u ∉ recs) ∧ (∀ u ∈ infs, A.hasNode u = true) ∧ (∀ u ∈ recs, A.hasNode u = true)
      then .ok (statusOf infs recs) else .error "EoNError" := by
  rw [init_unfold, foldlM_stStep]
  by_cases ha : infs.any (fun u => decide (u ∈ recs)) = true
  · obtain ⟨u, hu, hu'⟩ := List.any_eq_true.1 ha
    rw [if_pos ha, if_neg fun h => h.1 u hu (of_decide_eq_true hu')]
  · have hd : ∀ u ∈ infs, u ∉ recs := fun u hu hu' => ha (List.any_eq_true.2 ⟨u, hu, decide_eq_true hu'⟩)
    rw [if_neg ha]
    by_cases hi : ∀ u ∈ infs, A.hasNode u = true
    · rw [if_pos hi, GenHelpProofs.ok_bind, foldlM_stStep]
      by_cases hr : ∀ u ∈ recs, A.hasNode u = true
      · rw [if_pos hr, if_pos ⟨hd, hi, hr⟩]
        congr 1
        funext v
        rw [foldl_fset, foldl_fset]
        rfl
      · rw [if_neg hr, if_neg fun h => hr h.2.2]
    · rw [if_neg hi, if_neg fun h => hi h.2.1]; rfl

/-! ## the two graph representations -/

/-- `A` (what the generated code reads: node list, edge list with every undirected edge once, degree, membership) and
`adj` (adjacency lists of the closed-form model) describe the same simple undirected graph -/
structure GraphOK (A : IArgs) (adj : List (List Nat)) : Prop where
  nodes : A.nodes = List.range adj.length
  degree : ∀ u, u < adj.length → A.degree u = deg adj u
  hasNode : ∀ u, A.hasNode u = true ↔ u < adj.length
  adjNodup : ∀ u, (adj.getD u []).Nodup
  noLoop : ∀ u, u ∉ adj.getD u []
  symm : ∀ u v, v ∈ adj.getD u [] ↔ u ∈ adj.getD v []
  edgesNodup : A.edges.Nodup
  edgesAsym : ∀ u v, (u, v) ∈ A.edges → (v, u) ∉ A.edges
  edgesAdj : ∀ u v, ((u, v) ∈ A.edges ∨ (v, u) ∈ A.edges) ↔ v ∈ adj.getD u []

/-! ## degree histogram -/

/-- the vector `[f 0, …, f M]` -/
def vec (M : Nat) (f : Nat → Rat) : List Rat := (List.range (M + 1)).map f

@[simp] theorem vec_length (M : Nat) (f : Nat → Rat) : (vec M f).length = M + 1 := by simp [vec]

theorem vec_getElem? (M : Nat) (f : Nat → Rat) (k : Nat) :
    (vec M f)[k]? = if k ≤ M then some (f k) else none := by
  unfold vec
  rw [List.getElem?_map]
  by_cases h : k ≤ M
  · rw [List.getElem?_range (by omega), if_pos h]; rfl
  · rw [List.getElem?_eq_none (by simp; omega), if_neg h]; rfl

/-! `InitCond.maxDeg adj` and `Helpers.maxDeg (adj.map (·.length))` both unfold to `(adj.map (·.length)).foldl max 0`, in
which DegList states its facts, and `deg adj u` to `(adj.getD u []).length`; the two lemmas below restate them in the
`InitCond` vocabulary. -/

theorem map_range_deg (adj : List (List Nat)) :
    (List.range adj.length).map (deg adj) = adj.map (·.length) := Helpers.map_deg_range adj

theorem deg_le_maxDeg (adj : List (List Nat)) (u : Nat) (_ : u < adj.length) : deg adj u ≤ maxDeg adj :=
  Helpers.getD_length_le_foldl_max adj u

theorem gen_maxk (A : IArgs) (adj : List (List Nat)) (hG : GraphOK A adj) :
    (A.nodes.map A.degree).foldl max 0 = maxDeg adj := by
  unfold maxDeg
  rw [hG.nodes, ← map_range_deg]
  congr 1
  apply List.map_congr_left
  intro u hu; exact hG.degree u (List.mem_range.mp hu)

theorem degree_hist_eq (A : IArgs) (adj : List (List Nat)) (hG : GraphOK A adj) :
    degree_hist A = vec (maxDeg adj) (fun k => (Nk adj k : Rat)) := by
  unfold degree_hist vec
  simp only [gen_maxk A adj hG]
  apply List.map_congr_left
  intro k _
  unfold Nk
  rw [hG.nodes]
  congr 2
  apply List.filter_congr
  intro u hu
  rw [hG.degree u (List.mem_range.mp hu)]

/-! ## degree-class counts -/

/-- one iteration of the node loop of `_get_Nk_and_IC_as_arrays_` -/
def nkStep (d : Node → Nat) (st : Node → St) (acc : List Rat × List Rat × List Rat) (node : Node) :
    Except String (List Rat × List Rat × List Rat) :=
  match st node with
  | St.S => (PyRT.vecAdd acc.1 (d node) 1).map fun s => (s, acc.2.1, acc.2.2)
  | St.I => (PyRT.vecAdd acc.2.1 (d node) 1).map fun s => (acc.1, s, acc.2.2)
  | St.R => (PyRT.vecAdd acc.2.2 (d node) 1).map fun s => (acc.1, acc.2.1, s)

theorem sets_unfold (A : IArgs) (infs recs : List Node) :
    get_Nk_and_IC_sets A infs recs =
      (initialize_node_status A infs recs >>= fun st =>
        (A.nodes.foldlM (nkStep A.degree st)
          ((degree_hist A).map (fun x => (0 : Rat) * x), (degree_hist A).map (fun x => (0 : Rat) * x),
            (degree_hist A).map (fun x => (0 : Rat) * x))) >>= fun r =>
        pure (degree_hist A, r.1, r.2.1, r.2.2)) := by
  unfold get_Nk_and_IC_sets
  cases initialize_node_status A infs recs with
  | error e => rfl
  | ok st =>
    change ((List.foldlM _ _ A.nodes : Except String (List Rat × List Rat × List Rat)) >>= _) = _
    congr 2
    funext ⟨a, b, c⟩ node
    unfold nkStep
    cases h : st node <;> simp [h] <;> rfl

theorem vec_congr (M : Nat) (f g : Nat → Rat) (h : ∀ k, f k = g k) : vec M f = vec M g := by
  have : f = g := funext h
  rw [this]

theorem vecAdd_vec (M : Nat) (f : Nat → Rat) (d : Nat) (hd : d ≤ M) :
    PyRT.vecAdd (vec M f) d 1 = .ok (vec M (fun k => f k + if d = k then 1 else 0)) := by
  unfold PyRT.vecAdd
  rw [vec_getElem?, if_pos hd]
  show Except.ok _ = Except.ok _
  congr 1
  apply List.ext_getElem?
  intro k
  rw [List.getElem?_set, vec_getElem?, vec_getElem?]
  by_cases hk : d = k
  · subst hk; simp [hd]; omega
  · simp [hk]

/-- indicator added by one node to class `(x, k)` -/
def ind (d : Node → Nat) (st : Node → St) (a : Node) (x : St) (k : Nat) : Rat :=
  if d a = k ∧ st a = x then 1 else 0

def cnt (d : Node → Nat) (st : Node → St) (l : List Node) (x : St) (k : Nat) : Nat :=
  (l.filter (fun u => d u = k ∧ st u = x)).length

theorem cnt_cons (d : Node → Nat) (st : Node → St) (a : Node) (t : List Node) (x : St) (k : Nat) :
    (cnt d st (a :: t) x k : Rat) = ind d st a x k + cnt d st t x k := by
  unfold cnt ind
  rw [List.filter_cons]
  by_cases h : d a = k ∧ st a = x
  · simp only [h, and_self, decide_true, if_true, List.length_cons]; push_cast; ring
  · simp [h]

theorem nkStep_vec (d : Node → Nat) (st : Node → St) (M : Nat) (fS fI fR : Nat → Rat) (a : Node) (ha : d a ≤ M) :
    nkStep d st (vec M fS, vec M fI, vec M fR) a =
      .ok (vec M (fun k => fS k + ind d st a St.S k), vec M (fun k => fI k + ind d st a St.I k),
        vec M (fun k => fR k + ind d st a St.R k)) := by
  unfold nkStep
  cases h : st a <;> simp only [vecAdd_vec _ _ _ ha, Except.map] <;> congr 1 <;>
    (refine Prod.ext ?_ (Prod.ext ?_ ?_)) <;> apply vec_congr <;> intro k <;> simp [ind, h]

theorem foldlM_nkStep (d : Node → Nat) (st : Node → St) (M : Nat) (l : List Node) (hl : ∀ u ∈ l, d u ≤ M) :
    ∀ (fS fI fR : Nat → Rat),
    l.foldlM (nkStep d st) (vec M fS, vec M fI, vec M fR) =
      .ok (vec M (fun k => fS k + cnt d st l St.S k), vec M (fun k => fI k + cnt d st l St.I k),
        vec M (fun k => fR k + cnt d st l St.R k)) := by
  induction l with
  | nil => intro fS fI fR; simp [cnt]
  | cons a t ih =>
    intro fS fI fR
    rw [List.foldlM_cons, nkStep_vec d st M fS fI fR a (hl a (by simp))]
    show List.foldlM _ _ t = _
    rw [ih (fun u hu => hl u (List.mem_cons_of_mem _ hu))]
    congr 1
    refine Prod.ext ?_ (Prod.ext ?_ ?_) <;> apply vec_congr <;> intro k <;> simp only [cnt_cons] <;> ring

theorem vec_map (M : Nat) (f : Nat → Rat) (g : Rat → Rat) : (vec M f).map g = vec M (fun k => g (f k)) := by
  simp [vec, Function.comp_def]

theorem cnt_range_eq (A : IArgs) (adj : List (List Nat)) (hG : GraphOK A adj) (st : Node → St) (x : St) (k : Nat) :
    cnt A.degree st (List.range adj.length) x k = classCount adj st x k := by
  unfold cnt classCount
  congr 1
  apply List.filter_congr
  intro u hu
  rw [hG.degree u (List.mem_range.mp hu)]

theorem sets_ok (A : IArgs) (adj : List (List Nat)) (hG : GraphOK A adj) (infs recs : List Node) (st : Node → St)
    (hst : initialize_node_status A infs recs = .ok st) :
    get_Nk_and_IC_sets A infs recs =
      .ok (vec (maxDeg adj) (fun k => (Nk adj k : Rat)),
           vec (maxDeg adj) (fun k => (classCount adj st St.S k : Rat)),
           vec (maxDeg adj) (fun k => (classCount adj st St.I k : Rat)),
           vec (maxDeg adj) (fun k => (classCount adj st St.R k : Rat))) := by
  rw [sets_unfold, hst, degree_hist_eq A adj hG]
  simp only [bind, Except.bind, vec_map]
  rw [hG.nodes, foldlM_nkStep]
  · simp only [pure, Except.pure, cnt_range_eq A adj hG, zero_mul, zero_add]
  · intro u hu
    have hu := List.mem_range.mp hu
    rw [hG.degree u hu]
    exact deg_le_maxDeg adj u hu

theorem rho_ok (A : IArgs) (adj : List (List Nat)) (hG : GraphOK A adj) (rho : Rat) :
    get_Nk_and_IC_rho A rho =
      (vec (maxDeg adj) (fun k => (Nk adj k : Rat)), vec (maxDeg adj) (fun k => rhoSk adj rho k),
       vec (maxDeg adj) (fun k => rhoIk adj rho k), vec (maxDeg adj) (fun _ => 0)) := by
  unfold get_Nk_and_IC_rho
  simp only [degree_hist_eq A adj hG, vec_map, rhoSk, rhoIk, zero_mul]

/-! ## pair counts -/

/-- one iteration of the edge loop of `_count_edge_types_`: an `S–S` or `I–I` edge counts twice, an `S–I` edge once
whichever way it is listed -/
def edgeStep (st : Node → St) (acc : Int × Int × Int) (e : Node × Node) : Int × Int × Int :=
  (acc.1 + 2 * ((if st e.1 = St.S ∧ st e.2 = St.S then 1 else 0 : Nat) : Int),
   acc.2.1 + (((if st e.1 = St.S ∧ st e.2 = St.I then 1 else 0 : Nat) : Int) +
        ((if st e.1 = St.I ∧ st e.2 = St.S then 1 else 0 : Nat) : Int)),
   acc.2.2 + 2 * ((if st e.1 = St.I ∧ st e.2 = St.I then 1 else 0 : Nat) : Int))

theorem count_unfold (A : IArgs) (infs recs : List Node) :
    count_edge_types A infs recs =
      (initialize_node_status A infs recs >>= fun st => pure (A.edges.foldl (edgeStep st) (0, 0, 0))) := by
  unfold count_edge_types
  cases initialize_node_status A infs recs with
  | error e => rfl
  | ok st =>
    change ((List.foldlM _ _ A.edges : Except String (Int × Int × Int)) >>= _) = _
    rw [GenHelpProofs.foldlM_ok_mem _ (edgeStep st)]
    · rfl
    · rintro ⟨u, v⟩ _ ⟨a, b, c⟩
      unfold edgeStep
      cases h1 : st u <;> cases h2 : st v <;> simp [h1, h2]

/-- number of listed (oriented) edges whose endpoints have statuses `(x, y)` -/
def ec (st : Node → St) (l : List (Node × Node)) (x y : St) : Nat :=
  (l.filter (fun e => st e.1 = x ∧ st e.2 = y)).length

theorem ec_cons (st : Node → St) (e : Node × Node) (t : List (Node × Node)) (x y : St) :
    ec st (e :: t) x y = (if st e.1 = x ∧ st e.2 = y then 1 else 0) + ec st t x y := by
  unfold ec
  rw [List.filter_cons]
  by_cases h : st e.1 = x ∧ st e.2 = y
  · simp only [h, and_self, decide_true, if_true, List.length_cons]; omega
  · simp [h]

theorem ec_eq_sum (st : Node → St) (l : List (Node × Node)) (x y : St) :
    ((ec st l x y : Nat) : Int) = (l.map fun e => ((if st e.1 = x ∧ st e.2 = y then 1 else 0 : Nat) : Int)).sum := by
  induction l with
  | nil => simp [ec]
  | cons e t ih => rw [ec_cons, List.map_cons, List.sum_cons, ← ih]; push_cast; rfl

theorem foldl_edgeStep (st : Node → St) (l : List (Node × Node)) (a b c : Int) :
    l.foldl (edgeStep st) (a, b, c) =
      (a + 2 * ec st l St.S St.S, b + (ec st l St.S St.I + ec st l St.I St.S), c + 2 * ec st l St.I St.I) := by
  refine Prod.ext ?_ (Prod.ext ?_ ?_)
  · rw [foldl_acc (fun s : Int × Int × Int => s.1) _ _ l (fun _ _ _ => rfl), ec_eq_sum st l St.S St.S, List.sum_map_mul_left]
  · rw [foldl_acc (fun s : Int × Int × Int => s.2.1) _ _ l (fun _ _ _ => rfl), List.sum_map_add, ec_eq_sum st l St.S St.I,
      ec_eq_sum st l St.I St.S]
  · rw [foldl_acc (fun s : Int × Int × Int => s.2.2) _ _ l (fun _ _ _ => rfl), ec_eq_sum st l St.I St.I, List.sum_map_mul_left]

/-- the list of ordered neighbour pairs -/
def opairs (adj : List (List Nat)) : List (Node × Node) :=
  (List.range adj.length).flatMap (fun u => (adj.getD u []).map (fun v => (u, v)))

theorem pairCount_eq_opairs (adj : List (List Nat)) (st : Nat → St) (x y : St) :
    pairCount adj st x y = ec st (opairs adj) x y := by
  unfold pairCount opairs ec
  generalize List.range adj.length = l
  induction l with
  | nil => rfl
  | cons u t ih =>
    rw [List.map_cons, List.sum_cons, ih, List.flatMap_cons, List.filter_append, List.length_append]
    congr 1
    rw [List.filter_map, List.length_map]
    by_cases h : st u = x
    · simp [h, Function.comp_def]
    · simp [h, Function.comp_def]

theorem mem_opairs (adj : List (List Nat)) (u v : Nat) : (u, v) ∈ opairs adj ↔ v ∈ adj.getD u [] := by
  unfold opairs
  simp only [List.mem_flatMap, List.mem_range, List.mem_map, Prod.mk.injEq]
  constructor
  · rintro ⟨a, _, b, hb, rfl, rfl⟩; exact hb
  · intro h
    refine ⟨u, ?_, v, h, rfl, rfl⟩
    by_contra hu
    rw [List.getD_eq_getElem?_getD, List.getElem?_eq_none (by omega)] at h
    simp at h

theorem nodup_opairs (adj : List (List Nat)) (h : ∀ u, (adj.getD u []).Nodup) : (opairs adj).Nodup := by
  unfold opairs
  rw [List.nodup_flatMap]
  constructor
  · intro u _
    exact (h u).map (fun a b hab => by simpa using hab)
  · refine List.Pairwise.imp ?_ List.nodup_range
    intro a b hab p hp1 hp2
    obtain ⟨v, _, rfl⟩ := List.mem_map.mp hp1
    obtain ⟨w, _, hw⟩ := List.mem_map.mp hp2
    simp at hw
    exact hab hw.1.symm

theorem ec_perm (st : Node → St) (l l' : List (Node × Node)) (h : l.Perm l') (x y : St) :
    ec st l x y = ec st l' x y := by
  unfold ec
  exact (h.filter _).length_eq

theorem ec_append (st : Node → St) (l l' : List (Node × Node)) (x y : St) :
    ec st (l ++ l') x y = ec st l x y + ec st l' x y := by
  unfold ec
  rw [List.filter_append, List.length_append]

theorem ec_swap (st : Node → St) (l : List (Node × Node)) (x y : St) :
    ec st (l.map Prod.swap) x y = ec st l y x := by
  unfold ec
  rw [List.filter_map, List.length_map]
  congr 1
  apply List.filter_congr
  intro e _
  simp [Bool.and_comm]

theorem opairs_perm (A : IArgs) (adj : List (List Nat)) (hG : GraphOK A adj) :
    (opairs adj).Perm (A.edges ++ A.edges.map Prod.swap) := by
  rw [List.perm_ext_iff_of_nodup (nodup_opairs adj hG.adjNodup)]
  · rintro ⟨u, v⟩
    rw [mem_opairs, ← hG.edgesAdj, List.mem_append]
    simp
  · apply List.Nodup.append hG.edgesNodup
    · exact hG.edgesNodup.map Prod.swap_injective
    · intro p hp hp'
      obtain ⟨u, v⟩ := p
      obtain ⟨q, hq, hqe⟩ := List.mem_map.mp hp'
      obtain ⟨a, b⟩ := q
      simp [Prod.swap] at hqe
      obtain ⟨rfl, rfl⟩ := hqe
      exact hG.edgesAsym _ _ hp hq

theorem pairCount_eq_edges (A : IArgs) (adj : List (List Nat)) (hG : GraphOK A adj) (st : Nat → St) (x y : St) :
    pairCount adj st x y = ec st A.edges x y + ec st A.edges y x := by
  rw [pairCount_eq_opairs, ec_perm st _ _ (opairs_perm A adj hG), ec_append, ec_swap]

theorem count_ok (A : IArgs) (adj : List (List Nat)) (hG : GraphOK A adj) (infs recs : List Node) (st : Node → St)
    (hst : initialize_node_status A infs recs = .ok st) :
    count_edge_types A infs recs =
      .ok ((pairCount adj st St.S St.S : Int), (pairCount adj st St.S St.I : Int), (pairCount adj st St.I St.I : Int)) := by
  rw [count_unfold, hst]
  simp only [bind, Except.bind, pure, Except.pure, foldl_edgeStep, pairCount_eq_edges A adj hG]
  congr 1
  refine Prod.ext ?_ (Prod.ext ?_ ?_) <;> simp only [] <;> push_cast <;> ring

/-! ## totals -/

theorem sum_ind (N d : Nat) (P : Prop) [Decidable P] :
    ((List.range N).map (fun k => if d = k ∧ P then 1 else 0)).sum = if d < N ∧ P then 1 else 0 := by
  induction N with
  | zero => simp
  | succ N ih =>
    rw [List.range_succ, List.map_append, List.sum_append, ih]
    by_cases hP : P
    · by_cases h1 : d < N
      · have : d ≠ N := by omega
        have h2 : d < N + 1 := by omega
        simp [h1, h2, hP, this]
      · by_cases h3 : d = N
        · subst h3; simp [hP]
        · have h2 : ¬ d < N + 1 := by omega
          simp [h1, h2, h3]
    · simp [hP]

theorem sum_filter_classes (d : Node → Nat) (p : Node → Prop) [DecidablePred p] (M : Nat) (l : List Node)
    (hl : ∀ u ∈ l, d u ≤ M) :
    ((List.range (M + 1)).map (fun k => (l.filter (fun u => d u = k ∧ p u)).length)).sum = (l.filter (fun u => p u)).length := by
  induction l with
  | nil => simp
  | cons a t ih =>
    have h1 : ∀ k, ((a :: t).filter (fun u => d u = k ∧ p u)).length =
        (if d a = k ∧ p a then 1 else 0) + (t.filter (fun u => d u = k ∧ p u)).length := by
      intro k
      rw [List.filter_cons]
      by_cases h : d a = k ∧ p a
      · simp only [h, and_self, decide_true, if_true, List.length_cons]; omega
      · simp [h]
    simp only [h1]
    rw [List.sum_map_add, ih (fun u hu => hl u (List.mem_cons_of_mem _ hu)), sum_ind]
    have := hl a List.mem_cons_self
    rw [List.filter_cons]
    by_cases h : p a
    · have h2 : d a < M + 1 := by omega
      simp [h, h2]; omega
    · simp [h]

theorem sum_classCount (adj : List (List Nat)) (st : Nat → St) (x : St) :
    ((List.range (maxDeg adj + 1)).map (fun k => classCount adj st x k)).sum = count adj st x := by
  unfold classCount count
  exact sum_filter_classes (deg adj) (fun u => st u = x) (maxDeg adj) (List.range adj.length)
    (fun u hu => deg_le_maxDeg adj u (List.mem_range.mp hu))

theorem sum_Nk (adj : List (List Nat)) :
    ((List.range (maxDeg adj + 1)).map (fun k => Nk adj k)).sum = adj.length := by
  have h := sum_filter_classes (deg adj) (fun _ => True) (maxDeg adj) (List.range adj.length)
    (fun u hu => deg_le_maxDeg adj u (List.mem_range.mp hu))
  simp only [and_true, decide_true, List.filter_true, List.length_range] at h
  exact h

theorem filter_three (st : Nat → St) (l : List Nat) :
    (l.filter (fun u => st u = St.S)).length + (l.filter (fun u => st u = St.I)).length +
      (l.filter (fun u => st u = St.R)).length = l.length := by
  have h := Rows.cnt_sum l st
  simp only [Rows.cnt, List.countP_eq_length_filter] at h
  exact_mod_cast h

theorem count_total (adj : List (List Nat)) (st : Nat → St) :
    count adj st St.S + count adj st St.I + count adj st St.R = adj.length := by
  unfold count
  rw [filter_three, List.length_range]

theorem count_total_rat (adj : List (List Nat)) (st : Nat → St) :
    (count adj st St.S : Rat) + (count adj st St.I : Rat) + (count adj st St.R : Rat) = (adj.length : Rat) := by
  exact_mod_cast count_total adj st

theorem vec_sum_cast (M : Nat) (f : Nat → Nat) :
    (vec M (fun k => (f k : Rat))).sum = ((((List.range (M + 1)).map f).sum : Nat) : Rat) := by
  unfold vec
  generalize List.range (M + 1) = l
  induction l with
  | nil => simp
  | cons a t ih => simp [ih]

theorem pairCount_symm (A : IArgs) (adj : List (List Nat)) (hG : GraphOK A adj) (st : Nat → St) (x y : St) :
    pairCount adj st x y = pairCount adj st y x := by
  rw [pairCount_eq_edges A adj hG, pairCount_eq_edges A adj hG, Nat.add_comm]

theorem pairCount_row (adj : List (List Nat)) (st : Nat → St) (a : St) :
    pairCount adj st a St.S + pairCount adj st a St.I + pairCount adj st a St.R
      = ((List.range adj.length).map fun u => if st u = a then deg adj u else 0).sum := by
  unfold pairCount
  rw [← List.sum_map_add, ← List.sum_map_add]
  congr 1
  apply List.map_congr_left
  intro u _
  split
  · exact filter_three st _
  · rfl

/-- every ordered neighbour pair has exactly one status pair: the nine pair counts add up to `Σ_k k·N_k` -/
theorem pairCount_total (adj : List (List Nat)) (st : Nat → St) :
    pairCount adj st St.S St.S + pairCount adj st St.S St.I + pairCount adj st St.S St.R +
    pairCount adj st St.I St.S + pairCount adj st St.I St.I + pairCount adj st St.I St.R +
    pairCount adj st St.R St.S + pairCount adj st St.R St.I + pairCount adj st St.R St.R = twoM adj := by
  have h : ((List.range adj.length).map fun u => if st u = St.S then deg adj u else 0).sum
      + ((List.range adj.length).map fun u => if st u = St.I then deg adj u else 0).sum
      + ((List.range adj.length).map fun u => if st u = St.R then deg adj u else 0).sum = twoM adj := by
    rw [twoM, ← map_range_deg, ← List.sum_map_add, ← List.sum_map_add]
    congr 1
    apply List.map_congr_left
    intro u _
    cases st u <;> simp
  have hS := pairCount_row adj st St.S
  have hI := pairCount_row adj st St.I
  have hR := pairCount_row adj st St.R
  omega

theorem pairs_le_twoM (A : IArgs) (adj : List (List Nat)) (hG : GraphOK A adj) (st : Nat → St) :
    pairCount adj st St.S St.S + 2 * pairCount adj st St.S St.I + pairCount adj st St.I St.I ≤ twoM adj := by
  have h := pairCount_total adj st
  have hs := pairCount_symm A adj hG st St.S St.I
  omega

/-! ## a finite check implying `GraphOK` -/

/-- bounded (decidable) form of `GraphOK`, except for `hasNode` outside the node range -/
def GraphCheck (A : IArgs) (adj : List (List Nat)) : Prop :=
  A.nodes = List.range adj.length ∧
  (∀ u, u < adj.length → A.degree u = deg adj u) ∧
  (∀ l ∈ adj, l.Nodup) ∧
  (∀ u, u < adj.length → u ∉ adj.getD u []) ∧
  (∀ u, u < adj.length → ∀ v ∈ adj.getD u [], v < adj.length ∧ u ∈ adj.getD v []) ∧
  A.edges.Nodup ∧
  (∀ e ∈ A.edges, (e.2, e.1) ∉ A.edges) ∧
  (∀ e ∈ A.edges, e.2 ∈ adj.getD e.1 []) ∧
  (∀ u, u < adj.length → ∀ v ∈ adj.getD u [], (u, v) ∈ A.edges ∨ (v, u) ∈ A.edges)

instance (A : IArgs) (adj : List (List Nat)) : Decidable (GraphCheck A adj) := by
  unfold GraphCheck; infer_instance

theorem getD_nil_of_ge (adj : List (List Nat)) (u : Nat) (h : ¬ u < adj.length) : adj.getD u [] = [] := by
  rw [List.getD_eq_getElem?_getD, List.getElem?_eq_none (by omega)]; rfl

theorem lt_of_mem_getD (adj : List (List Nat)) (u v : Nat) (h : v ∈ adj.getD u []) : u < adj.length := by
  by_contra hu
  rw [getD_nil_of_ge adj u hu] at h
  simp at h

theorem GraphOK.of_check (A : IArgs) (adj : List (List Nat))
    (hN : ∀ u, A.hasNode u = true ↔ u < adj.length) (h : GraphCheck A adj) : GraphOK A adj := by
  obtain ⟨h1, h2, h3, h4, h5, h6, h7, h8, h9⟩ := h
  have hsymm : ∀ u v, v ∈ adj.getD u [] → u ∈ adj.getD v [] := fun u v hv =>
    (h5 u (lt_of_mem_getD adj u v hv) v hv).2
  refine ⟨h1, h2, hN, ?_, ?_, ?_, h6, ?_, ?_⟩
  · intro u
    by_cases hu : u < adj.length
    · apply h3
      rw [List.getD_eq_getElem?_getD, List.getElem?_eq_getElem hu]
      simp
    · rw [getD_nil_of_ge adj u hu]; exact List.nodup_nil
  · intro u hu
    exact h4 u (lt_of_mem_getD adj u u hu) hu
  · intro u v; exact ⟨hsymm u v, hsymm v u⟩
  · intro u v huv; exact h7 (u, v) huv
  · intro u v
    constructor
    · rintro (huv | hvu)
      · exact h8 (u, v) huv
      · exact hsymm v u (h8 (v, u) hvu)
    · intro hv
      exact h9 u (lt_of_mem_getD adj u v hv) v hv
