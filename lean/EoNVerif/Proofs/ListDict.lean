import EoNVerif.Model.ListDict
import EoNVerif.Model.ListDictLaw
import EoNVerif.Proofs.AssocList
import EoNVerif.Proofs.SumRat
import Mathlib.Tactic.Ring
import Mathlib.Tactic.Linarith
import Mathlib.Algebra.Order.Field.Rat
/-!
`_ListDict_` (C16): `swapRemove`, the invariant `LD.Inv` and its preservation by each operation and by batches of
operations, the rejection-sampling recurrence behind the law of `choose_random`, and `LD.Tracks`: what a simulator's invariant says
of each structure it keeps, with the batch, total-weight and selection rules its proofs go through.
-/

theorem nodup_snoc {γ : Type} {l : List γ} {x : γ} (h : l.Nodup) (hx : x ∉ l) : (l ++ [x]).Nodup :=
  List.concat_eq_append ▸ h.concat hx

/-! ### `swapRemove` -/
namespace LD
variable {α : Type} [DecidableEq α]

theorem set_idxOf_perm (l : List α) (x z : α) (hx : x ∈ l) :
    (l.set (l.idxOf x) z).Perm (z :: l.erase x) := by
  induction l with
  | nil => simp at hx
  | cons a t ih =>
    by_cases ha : a = x
    · subst ha; simp
    · have hx' : x ∈ t := by
        rcases List.mem_cons.1 hx with h | h
        · exact absurd h.symm ha
        · exact h
      have h1 : (a :: t).idxOf x = t.idxOf x + 1 := by
        simp [ha]
      have h2 : (a :: t).erase x = a :: t.erase x := by
        simp [ha]
      rw [h1, h2, List.set_cons_succ]
      exact ((ih hx').cons a).trans (List.Perm.swap z a _)

theorem swapRemove_perm (l : List α) (x : α) (hn : l.Nodup) (hx : x ∈ l) :
    (swapRemove l x).Perm (l.erase x) := by
  have hne : l ≠ [] := by intro h; simp [h] at hx
  obtain ⟨l₀, z, rfl⟩ : ∃ l₀ z, l = l₀ ++ [z] :=
    ⟨l.dropLast, l.getLast hne, (List.dropLast_append_getLast hne).symm⟩
  have hnd := List.nodup_append.1 hn
  unfold swapRemove
  simp only [List.dropLast_concat, List.getLast?_concat]
  by_cases hz : x = z
  · subst hz
    have hnot : x ∉ l₀ := fun h => hnd.2.2 x h x (by simp) rfl
    have : (l₀ ++ [x]).idxOf x = l₀.length := by
      rw [List.idxOf_append_of_notMem hnot]; simp
    simp only [this, if_true]
    rw [List.erase_append_right _ hnot]; simp
  · have hin : x ∈ l₀ := by
      rcases List.mem_append.1 hx with h | h
      · exact h
      · simp at h; exact absurd h hz
    have h1 : (l₀ ++ [z]).idxOf x = l₀.idxOf x := List.idxOf_append_of_mem hin
    have h2 : l₀.idxOf x ≠ l₀.length := by
      have := List.idxOf_lt_length_of_mem hin; omega
    simp only [h1, h2, if_false]
    rw [List.erase_append_left _ hin]
    exact (set_idxOf_perm l₀ x z hin).trans (List.perm_append_singleton z _).symm

theorem mem_swapRemove (l : List α) (x y : α) (hn : l.Nodup) (hx : x ∈ l) :
    y ∈ swapRemove l x ↔ (y ∈ l ∧ y ≠ x) := by
  rw [(swapRemove_perm l x hn hx).mem_iff, hn.mem_erase_iff]; exact and_comm

theorem sumRat_swapRemove (l : List α) (x : α) (f : α → Rat) (hn : l.Nodup) (hx : x ∈ l) :
    sumRat ((swapRemove l x).map f) = sumRat (l.map f) - f x := by
  rw [sumRat_perm ((swapRemove_perm l x hn hx).map f)]
  have := sumRat_perm ((List.perm_cons_erase hx).map f)
  simp only [List.map_cons, sumRat_cons] at this
  linarith

/-! ### the invariant and its preservation -/

/-- `le_max`: an upper bound, not the maximum (`update` with a non-positive increment never lowers `max_weight`, the
quirk noted in `Model/ListDict.lean`).  `wkeys` is needed only to read `sum(self.weight.values())` of the generated code
(`sumVals_eq_weightSum`) -/
structure Inv (s : LD α) : Prop where
  nodup : s.items.Nodup
  keys : s.weighted = true → ∀ x, alHas s.weight x = true ↔ x ∈ s.items
  nonneg : s.weighted = true → ∀ x ∈ s.items, 0 ≤ s.getW x
  le_max : s.weighted = true → ∀ x ∈ s.items, s.getW x ≤ s.maxW
  total : s.weighted = true → s.total = s.weightSum
  wkeys : (alKeys s.weight).Nodup

theorem getW_of_not_mem (s : LD α) (h : Inv s) (hwt : s.weighted = true) (x : α) (hx : x ∉ s.items) :
    s.getW x = 0 := by
  apply alGet_of_not_alHas
  cases hh : alHas s.weight x with
  | false => rfl
  | true => exact absurd ((h.keys hwt x).1 hh) hx

theorem totalWeight_eq_sum (s : LD α) (h : Inv s) :
    s.totalWeight = sumRat (s.items.map fun x => if s.weighted then s.getW x else 1) := by
  unfold totalWeight
  cases hwt : s.weighted with
  | true => simp only [if_true]; exact h.total hwt
  | false => simp only [Bool.false_eq_true, if_false, sumRat_map_const, mul_one]

theorem weightSum_nonneg (s : LD α) (h : Inv s) (hwt : s.weighted = true) : 0 ≤ s.weightSum :=
  sumRat_map_nonneg _ _ (h.nonneg hwt)

theorem totalWeight_nonneg (s : LD α) (h : Inv s) : 0 ≤ s.totalWeight := by
  rw [totalWeight_eq_sum s h]
  refine sumRat_map_nonneg _ _ fun x hx => ?_
  split
  · exact h.nonneg ‹_› x hx
  · exact zero_le_one

/-- `sum(self.weight.values())` equals the sum of the weights of the listed items: the dict has each key once and its
keys are the listed items (the recomputation the Python `remove`, and the code generated from it, `Proofs/GenLD.lean`, falls back to when the running
total is `<= 0`; the hand model omits it) -/
theorem sumVals_eq_weightSum (s : LD α) (h : Inv s) (hwt : s.weighted = true) :
    sumRat (s.weight.map (·.2)) = s.weightSum := by
  rw [values_eq_map_alGet s.weight 0 h.wkeys]
  unfold weightSum
  have hp : (alKeys s.weight).Perm s.items := by
    apply (List.perm_ext_iff_of_nodup h.wkeys h.nodup).2
    intro a
    rw [mem_alKeys_iff, h.keys hwt]
  exact sumRat_perm (hp.map _)

/-- `max(Counter(values))` as computed by `recomputeMax` -/
def foldMax (ws : List Rat) : Rat := ws.foldl max (ws.headD 0)

theorem le_foldl_max (ws : List Rat) (init : Rat) :
    init ≤ ws.foldl max init ∧ ∀ v ∈ ws, v ≤ ws.foldl max init := by
  induction ws generalizing init with
  | nil => simp
  | cons a t ih =>
    simp only [List.foldl_cons, List.mem_cons]
    obtain ⟨h1, h2⟩ := ih (max init a)
    refine ⟨le_trans (le_max_left _ _) h1, ?_⟩
    rintro v (rfl | hv)
    · exact le_trans (le_max_right _ _) h1
    · exact h2 v hv

omit [DecidableEq α] in
theorem forgetMax_proj (s : LD α) :
    (forgetMax s).items = s.items ∧ (forgetMax s).weighted = s.weighted ∧ (forgetMax s).weight = s.weight ∧
      (forgetMax s).total = s.total := by
  unfold forgetMax; split <;> exact ⟨rfl, rfl, rfl, rfl⟩

omit [DecidableEq α] in
theorem forgetMax_maxW (s : LD α) : (forgetMax s).maxW = s.maxW ∨ (forgetMax s).items = [] := by
  unfold forgetMax; split
  · exact Or.inr (List.eq_nil_of_length_eq_zero ‹_›)
  · exact Or.inl rfl

/-- what a successful `remove` leaves behind; of the maximum only that it is the old one, the recomputed one, or
forgotten with the last candidate -/
theorem remove_shape (s : LD α) (x : α) (hx : x ∈ s.items) :
    ∃ s', s.remove x = some s' ∧ s'.items = swapRemove s.items x ∧ s'.weighted = s.weighted ∧
      (s.weighted = true → s'.weight = alDel s.weight x ∧ s'.total = s.total - s.getW x ∧
        (s'.maxW = s.maxW ∨ s'.maxW = foldMax ((alDel s.weight x).map (·.2)) ∨ s'.items = [])) := by
  unfold remove
  rw [if_pos hx]
  dsimp only
  split_ifs
  · exact ⟨_, rfl, (forgetMax_proj _).1, (forgetMax_proj _).2.1, fun _ =>
      ⟨(forgetMax_proj _).2.2.1, (forgetMax_proj _).2.2.2, Or.inr (forgetMax_maxW _)⟩⟩
  · exact ⟨_, rfl, (forgetMax_proj _).1, (forgetMax_proj _).2.1, fun _ =>
      ⟨(forgetMax_proj _).2.2.1, (forgetMax_proj _).2.2.2, (forgetMax_maxW _).imp_right Or.inr⟩⟩
  · exact ⟨_, rfl, (forgetMax_proj _).1, (forgetMax_proj _).2.1, fun _ =>
      ⟨(forgetMax_proj _).2.2.1, (forgetMax_proj _).2.2.2, (forgetMax_maxW _).imp_right Or.inr⟩⟩
  · exact ⟨_, rfl, rfl, rfl, fun h => absurd h ‹_›⟩

theorem remove_unweighted (s : LD α) (x : α) (hx : x ∈ s.items) (hwt : s.weighted = false) :
    s.remove x = some { s with items := swapRemove s.items x } := by
  simp only [remove, hx, hwt, if_true, Bool.false_eq_true, if_false]

theorem inv_remove (s s' : LD α) (x : α) (h : Inv s) (hx : x ∈ s.items) (hs : s.remove x = some s') :
    Inv s' := by
  obtain ⟨s'', hs'', hit, hwd, hrest⟩ := remove_shape s x hx
  rw [hs] at hs''
  obtain rfl : s' = s'' := Option.some.inj hs''
  have hmem : ∀ y, y ∈ s'.items ↔ (y ∈ s.items ∧ y ≠ x) := by
    intro y; rw [hit]; exact mem_swapRemove _ _ _ h.nodup hx
  have hkeys : s'.weighted = true → ∀ y, alHas s'.weight y = true ↔ y ∈ s'.items := by
    intro hwt y
    rw [hwd] at hwt
    rw [(hrest hwt).1, alHas_alDel, hmem, h.keys hwt]
  have hget : s'.weighted = true → ∀ y ∈ s'.items, s'.getW y = s.getW y := by
    intro hwt y hy
    rw [hwd] at hwt
    unfold getW
    rw [(hrest hwt).1]
    exact alGet_alDel_ne _ _ _ _ ((hmem y).1 hy).2
  refine ⟨?_, hkeys, ?_, ?_, ?_, ?_⟩
  · rw [hit]; exact (swapRemove_perm _ _ h.nodup hx).nodup_iff.2 (h.nodup.erase _)
  · intro hwt y hy
    rw [hget hwt y hy]
    exact h.nonneg (hwd ▸ hwt) y ((hmem y).1 hy).1
  · intro hwt y hy
    have hwt0 : s.weighted = true := hwd ▸ hwt
    rcases (hrest hwt0).2.2 with hm | hm | hm
    · rw [hm, hget hwt y hy]; exact h.le_max hwt0 y ((hmem y).1 hy).1
    · rw [hm, ← (hrest hwt0).1]
      exact (le_foldl_max _ _).2 _ (alGet_mem_of_alHas _ _ _ ((hkeys hwt y).2 hy))
    · rw [hm] at hy; exact absurd hy (List.not_mem_nil)
  · intro hwt
    have hwt0 : s.weighted = true := hwd ▸ hwt
    rw [(hrest hwt0).2.1, h.total hwt0]
    unfold weightSum
    rw [sumRat_map_congr s'.items s'.getW s.getW (hget hwt), hit,
      sumRat_swapRemove _ _ _ h.nodup hx]
  · cases hwt : s.weighted with
    | true => rw [(hrest hwt).1, alKeys_alDel]; exact h.wkeys.filter _
    | false => rw [remove_unweighted s x hx hwt] at hs; cases hs; exact h.wkeys

theorem update_shape (s s' : LD α) (x : α) (inc : Rat) (hs : s.update x (some inc) = some s') :
    s.weighted = true ∧ s'.weighted = true ∧ s'.weight = alSet s.weight x (s.getW x + inc) ∧
      s'.total = s.total + inc ∧ s'.items = (if x ∈ s.items then s.items else s.items ++ [x]) ∧
      s'.maxW = (if s.getW x + inc > s.maxW then s.getW x + inc else s.maxW) := by
  unfold update at hs
  cases hwt : s.weighted with
  | false => simp [hwt] at hs
  | true =>
    simp only [hwt, Bool.not_true, Bool.false_eq_true, if_false] at hs
    -- the record before the final listing of `x`: every branch sets the same fields, up to `maxCnt`
    generalize hT : (ite (inc > 0 ∨ s.getW x ≠ s.maxW) _ _ : LD α) = T at hs
    have hTf : T.weighted = true ∧ T.weight = alSet s.weight x (s.getW x + inc) ∧ T.total = s.total + inc ∧
        T.items = s.items ∧ T.maxW = (if s.getW x + inc > s.maxW then s.getW x + inc else s.maxW) := by
      subst hT
      split_ifs with c1 c2 c3 c2
      · exact ⟨rfl, rfl, rfl, rfl, rfl⟩
      · exact ⟨rfl, rfl, rfl, rfl, rfl⟩
      · exact ⟨rfl, rfl, rfl, rfl, rfl⟩
      · -- a non-positive increment on an element of maximal weight does not raise the maximum
        rw [not_or, not_not] at c1; linarith [c1.1, c1.2]
      · exact ⟨rfl, rfl, rfl, rfl, rfl⟩
    obtain ⟨t1, t2, t3, t4, t5⟩ := hTf
    rw [t4] at hs
    split_ifs at hs with hx <;> cases hs
    · exact ⟨rfl, t1, t2, t3, t4.trans (if_pos hx).symm, t5⟩
    · exact ⟨rfl, t1, t2, t3, (if_neg hx).symm, t5⟩

theorem update_none_eq (s : LD α) (x : α) (hwt : s.weighted = false) :
    s.update x none = some (if x ∈ s.items then s else { s with items := s.items ++ [x] }) := by
  unfold update
  simp only [hwt, Bool.false_eq_true, if_false]
  split <;> rfl

theorem update_getW_self (s s' : LD α) (x : α) (inc : Rat) (hs : s.update x (some inc) = some s') :
    s'.getW x = s.getW x + inc := by
  unfold getW
  rw [(update_shape s s' x inc hs).2.2.1]; exact alGet_alSet_self _ _ _ _

theorem update_getW_ne (s s' : LD α) (x y : α) (inc : Rat) (hs : s.update x (some inc) = some s')
    (hy : y ≠ x) : s'.getW y = s.getW y := by
  unfold getW
  rw [(update_shape s s' x inc hs).2.2.1]; exact alGet_alSet_ne _ _ _ _ _ hy

theorem update_mem (s s' : LD α) (x : α) (inc : Rat) (hs : s.update x (some inc) = some s') (y : α) :
    y ∈ s'.items ↔ (y ∈ s.items ∨ y = x) := by
  rw [(update_shape s s' x inc hs).2.2.2.2.1]
  by_cases hx : x ∈ s.items
  · rw [if_pos hx]
    constructor
    · exact Or.inl
    · rintro (h | rfl)
      · exact h
      · exact hx
  · rw [if_neg hx]; simp

theorem inv_update_some (s s' : LD α) (x : α) (w : Rat) (h : Inv s) (hw : 0 ≤ w)
    (hs : s.update x (some w) = some s') : Inv s' := by
  obtain ⟨hwt, hwt', hwei, htot, hit, hmax⟩ := update_shape s s' x w hs
  have hmem := update_mem s s' x w hs
  have hself := update_getW_self s s' x w hs
  have hne := update_getW_ne s s' x
  have hw0 : 0 ≤ s.getW x := by
    by_cases hx : x ∈ s.items
    · exact h.nonneg hwt x hx
    · rw [getW_of_not_mem s h hwt x hx]
  have hmax1 : s.maxW ≤ s'.maxW := by
    rw [hmax]; split
    · linarith
    · exact le_refl _
  have hmax2 : s.getW x + w ≤ s'.maxW := by
    rw [hmax]; split
    · exact le_refl _
    · linarith
  refine ⟨?_, ?_, ?_, ?_, ?_, ?_⟩
  · rw [hit]
    by_cases hx : x ∈ s.items
    · rw [if_pos hx]; exact h.nodup
    · rw [if_neg hx]; exact nodup_snoc h.nodup hx
  · intro _ y
    rw [hwei, alHas_alSet, hmem, h.keys hwt]
  · intro _ y hy
    by_cases hyx : y = x
    · subst hyx; rw [hself]; linarith
    · rw [hne y w hs hyx]
      rcases (hmem y).1 hy with h1 | h1
      · exact h.nonneg hwt y h1
      · exact absurd h1 hyx
  · intro _ y hy
    by_cases hyx : y = x
    · subst hyx; rw [hself]; exact hmax2
    · rw [hne y w hs hyx]
      rcases (hmem y).1 hy with h1 | h1
      · exact le_trans (h.le_max hwt y h1) hmax1
      · exact absurd h1 hyx
  · intro _
    rw [htot, h.total hwt]
    unfold weightSum
    rw [hit]
    by_cases hx : x ∈ s.items
    · rw [if_pos hx]
      have hc : ∀ c ∈ s.items, s'.getW c = s.getW c + w * (if c = x then 1 else 0) := by
        intro c _
        by_cases hcx : c = x
        · subst hcx; rw [hself, if_pos rfl, mul_one]
        · rw [hne c w hs hcx, if_neg hcx, mul_zero, add_zero]
      rw [sumRat_map_congr _ _ _ hc, sumRat_map_add, sumRat_indicator _ x (fun _ => w) h.nodup hx]
    · rw [if_neg hx]
      have hc : ∀ c ∈ s.items, s'.getW c = s.getW c := by
        intro c hcm
        exact hne c w hs (fun hcx => hx (hcx ▸ hcm))
      rw [List.map_append, sumRat_append, sumRat_map_congr _ _ _ hc]
      simp only [List.map_cons, List.map_nil, sumRat_cons, sumRat_nil]
      rw [hself, getW_of_not_mem s h hwt x hx]; ring
  · rw [hwei, alKeys, keys_alSet]
    split
    · exact h.wkeys
    · exact nodup_snoc h.wkeys ‹_›

theorem inv_update (s s' : LD α) (x : α) (w : Option Rat) (h : Inv s) (hw : ∀ v, w = some v → 0 ≤ v)
    (hs : s.update x w = some s') : Inv s' := by
  cases w with
  | none =>
    cases hwt : s.weighted with
    | true => simp [update, hwt] at hs
    | false =>
      rw [update_none_eq s x hwt] at hs
      obtain rfl := Option.some.inj hs
      split
      · exact h
      · have hwt' : ¬ s.weighted = true := by simp [hwt]
        exact ⟨nodup_snoc h.nodup ‹_›, fun h' => absurd h' hwt', fun h' => absurd h' hwt', fun h' => absurd h' hwt',
          fun h' => absurd h' hwt', h.wkeys⟩
  | some v => exact inv_update_some s s' x v h (hw v rfl) hs

theorem inv_insert (s s' : LD α) (x : α) (w : Option Rat) (h : Inv s) (hw : ∀ v, w = some v → 0 ≤ v)
    (hs : s.insert x w = some s') : Inv s' := by
  unfold insert at hs
  have key : ∀ s1 : LD α, Inv s1 →
      (if w ≠ some 0 then s1.update x w else some s1) = some s' → Inv s' := by
    intro s1 h1 h2
    by_cases hw0 : w ≠ some 0
    · rw [if_pos hw0] at h2; exact inv_update s1 s' x w h1 hw h2
    · rw [if_neg hw0] at h2; obtain rfl := Option.some.inj h2; exact h1
  by_cases hx : x ∈ s.items
  · rw [if_pos hx] at hs
    cases hr : s.remove x with
    | none => rw [hr] at hs; simp at hs
    | some s1 =>
      rw [hr] at hs
      exact key s1 (inv_remove s s1 x h hx hr) hs
  · rw [if_neg hx] at hs
    exact key s h hs

theorem inv_empty (b : Bool) : Inv (LD.empty b : LD α) := by
  refine ⟨by simp [empty], ?_, ?_, ?_, ?_, by simp [empty, alKeys]⟩
  · intro _ x; simp [empty, alHas]
  · intro _ x hx; simp [empty] at hx
  · intro _ x hx; simp [empty] at hx
  · intro _; simp [empty, weightSum]

theorem inv_step (s s' : LD α) (o : Op α) (h : Inv s) (hw : o.nonneg) (hs : s.applyOp o = some s') :
    Inv s' := by
  cases o with
  | ins x w =>
    refine inv_insert s s' x w h ?_ hs
    intro v hv; subst hv; exact hw
  | upd x w =>
    refine inv_update s s' x w h ?_ hs
    intro v hv; subst hv; exact hw
  | rem x =>
    have hs' : s.remove x = some s' := hs
    have hx : x ∈ s.items := by
      by_contra hx
      unfold remove at hs'
      rw [if_neg hx] at hs'; simp at hs'
    exact inv_remove s s' x h hx hs'

theorem inv_applyOps (s0 : LD α) (ops : List (Op α)) (s : LD α) (h0 : Inv s0) (hw : ∀ o ∈ ops, o.nonneg)
    (hs : s0.applyOps ops = some s) : Inv s := by
  induction ops generalizing s0 with
  | nil =>
    simp only [applyOps] at hs
    obtain rfl := Option.some.inj hs; exact h0
  | cons o os ih =>
    simp only [applyOps] at hs
    cases ho : s0.applyOp o with
    | none => rw [ho] at hs; simp at hs
    | some s1 =>
      rw [ho] at hs
      exact ih s1 (inv_step s0 s1 o h0 (hw o (by simp)) ho) (fun o' ho' => hw o' (by simp [ho'])) hs

theorem applyOps_append (s : LD α) (a b : List (Op α)) :
    s.applyOps (a ++ b) = (s.applyOps a).bind fun s' => s'.applyOps b := by
  induction a generalizing s with
  | nil => rfl
  | cons o os ih =>
    simp only [List.cons_append, applyOps]
    cases s.applyOp o with
    | none => rfl
    | some s1 => exact ih s1

/-! ### a batch of `update`/`remove` operations -/
def Op.key : Op α → α
  | .ins x _ => x
  | .upd x _ => x
  | .rem x => x

theorem update_some_exists (s : LD α) (x : α) (w : Rat) (hwt : s.weighted = true) :
    ∃ s', s.update x (some w) = some s' := by
  unfold update
  simp only [hwt, Bool.not_true, Bool.false_eq_true, if_false]
  exact ⟨_, (apply_ite some _ _ _).symm⟩

theorem update_any (s s' : LD α) (x : α) (w : Option Rat) (hs : s.update x w = some s') :
    s'.weighted = s.weighted ∧ (∀ y, y ∈ s'.items ↔ (y ∈ s.items ∨ y = x)) ∧
      (∀ y, y ≠ x → s'.getW y = s.getW y) := by
  cases w with
  | some v =>
    obtain ⟨h1, h2, -⟩ := update_shape s s' x v hs
    exact ⟨h2.trans h1.symm, update_mem s s' x v hs, fun y hy => update_getW_ne s s' x y v hs hy⟩
  | none =>
    cases hwt : s.weighted with
    | true => simp [update, hwt] at hs
    | false =>
      rw [update_none_eq s x hwt] at hs
      obtain rfl := Option.some.inj hs
      by_cases hx : x ∈ s.items
      · rw [if_pos hx]
        exact ⟨hwt, fun y => ⟨Or.inl, fun hy => hy.elim id fun e => e ▸ hx⟩, fun _ _ => rfl⟩
      · rw [if_neg hx]
        exact ⟨hwt, fun y => by simp, fun _ _ => rfl⟩

theorem update_exists (s : LD α) (x : α) (w : Option Rat) (hw : w.isSome = s.weighted) :
    ∃ s', s.update x w = some s' := by
  cases w with
  | some v => exact update_some_exists s x v (by simpa using hw.symm)
  | none => exact ⟨_, update_none_eq s x (by simpa using hw.symm)⟩

theorem remove_any (s : LD α) (x : α) (h : Inv s) (hx : x ∈ s.items) :
    ∃ s', s.remove x = some s' ∧ Inv s' ∧ s'.weighted = s.weighted ∧
      (∀ y, y ∈ s'.items ↔ (y ∈ s.items ∧ y ≠ x)) ∧ (∀ y, y ≠ x → s'.getW y = s.getW y) := by
  obtain ⟨s', hs', hit, hwd, hrest⟩ := remove_shape s x hx
  refine ⟨s', hs', inv_remove s s' x h hx hs', hwd, ?_, ?_⟩
  · intro y; rw [hit]; exact mem_swapRemove _ _ _ h.nodup hx
  · intro y hy
    cases hwt : s.weighted with
    | true =>
      unfold getW
      rw [(hrest hwt).1]
      exact alGet_alDel_ne _ _ _ _ hy
    | false =>
      rw [remove_unweighted s x hx hwt] at hs'
      obtain rfl := Option.some.inj hs'
      rfl

theorem insert_eq (s : LD α) (x : α) (w : Option Rat) :
    s.insert x w = (if x ∈ s.items then s.remove x else some s).bind
      (fun s1 => if w ≠ some 0 then s1.update x w else some s1) := by
  unfold insert
  by_cases hx : x ∈ s.items
  · simp only [hx, if_true]; rfl
  · simp only [hx, if_false]; rfl

/-- `insert(x, weight=w)` on a weighted structure: never fails, `x` is a candidate afterwards iff `w ≠ 0`, with
weight exactly `w`; every other candidate is untouched -/
theorem insert_spec (s : LD α) (h : Inv s) (hwt : s.weighted = true) (x : α) (w : Rat) (hw : 0 ≤ w) :
    ∃ s', s.insert x (some w) = some s' ∧ Inv s' ∧ s'.weighted = true ∧
      (∀ y, y ∈ s'.items ↔ if y = x then w ≠ 0 else y ∈ s.items) ∧
      (w ≠ 0 → s'.getW x = w) ∧ (∀ y, y ≠ x → s'.getW y = s.getW y) := by
  -- `remove` if present …
  obtain ⟨s1, hs1, hinv1, hwt1, hmem1, hget1⟩ : ∃ s1, (if x ∈ s.items then s.remove x else some s) = some s1 ∧
      Inv s1 ∧ s1.weighted = true ∧ (∀ y, y ∈ s1.items ↔ y ≠ x ∧ y ∈ s.items) ∧
      ∀ y, y ≠ x → s1.getW y = s.getW y := by
    by_cases hx : x ∈ s.items
    · obtain ⟨s1, hs1, hinv1, hwd1, hmem1, hget1⟩ := remove_any s x h hx
      exact ⟨s1, by rw [if_pos hx, hs1], hinv1, hwd1.trans hwt, fun y => by rw [hmem1, and_comm], hget1⟩
    · exact ⟨s, if_neg hx, h, hwt, fun y => ⟨fun hy => ⟨fun hc => hx (hc ▸ hy), hy⟩, And.right⟩, fun _ _ => rfl⟩
  have hx1 : x ∉ s1.items := fun hc => ((hmem1 x).1 hc).1 rfl
  rw [insert_eq, hs1, Option.bind_some]
  -- … then `update`, unless the weight is 0
  by_cases hw0 : w = 0
  · refine ⟨s1, if_neg (by simp [hw0]), hinv1, hwt1, fun y => ?_, fun hc => absurd hw0 hc, hget1⟩
    rw [hmem1]; by_cases hy : y = x <;> simp [hy, hw0]
  · obtain ⟨s2, hs2⟩ := update_some_exists s1 x w hwt1
    refine ⟨s2, by rw [if_pos (by simpa using hw0), hs2], inv_update_some s1 s2 x w hinv1 hw hs2,
      (update_shape s1 s2 x w hs2).2.1, fun y => ?_, fun _ => ?_, fun y hy => ?_⟩
    · rw [update_mem s1 s2 x w hs2, hmem1]; by_cases hy : y = x <;> simp [hy, hw0]
    · rw [update_getW_self s1 s2 x w hs2, getW_of_not_mem s1 hinv1 hwt1 x hx1, zero_add]
    · rw [update_getW_ne s1 s2 x y w hs2 hy, hget1 y hy]

def Op.isRem : Op α → Prop
  | .rem _ => True
  | _ => False

def Op.isUpd : Op α → Prop
  | .upd _ _ => True
  | _ => False

def Compat (a b : Op α) : Prop := a.key ≠ b.key ∨ (Op.isRem a ∧ Op.isUpd b)

end LD

/-! ### the law of `choose_random` -/
namespace LD
variable {α : Type} [DecidableEq α]
open Dist

/-- the event "the sampler returned `x`", with the `BEq` instance these generic theorems are stated with (at a concrete
type `fun o => o == some x` elaborates to another instance, and `rw` would not see through it) -/
abbrev eqSome (x : α) : Option α → Bool := fun o => o == some x

/-- probability that a drawn candidate is accepted -/
def accept (s : LD α) (c : α) : Rat := if s.weighted then s.acceptThr c else 1

theorem chooseDist_succ_mass (s : LD α) (k : Nat) (x : α) :
    mass (s.chooseDist (k + 1)) (fun o => o == some x) = sumRat (s.items.map fun c => (1 / (s.items.length : Rat)) *
      (s.accept c * (if c = x then 1 else 0)
        + (1 - s.accept c) * mass (s.chooseDist k) (fun o => o == some x))) := by
  rw [chooseDist, mass_uniformIdx_bind]
  rw [← sumRat_range_getElem? s.items (fun o => (1 / (s.items.length : Rat)) *
      (match o with
       | none => 0
       | some c => s.accept c * (if c = x then 1 else 0)
          + (1 - s.accept c) * mass (s.chooseDist k) (fun o => o == some x)))]
  apply sumRat_map_congr
  intro i _
  cases s.items[i]? with
  | none => simp [mass_pure]
  | some c => cases hw : s.weighted <;> simp [accept, hw, mass_bern_bind, mass_pure]

/-- the recurrence of the rejection loop: accepted now, or all of this round rejected and chosen later -/
theorem choose_step (s : LD α) (h : Inv s) (x : α) (hx : x ∈ s.items) (k : Nat) :
    mass (s.chooseDist (k + 1)) (fun o => o == some x)
      = (1 / (s.items.length : Rat)) * s.accept x
        + ((1 / (s.items.length : Rat)) * ((s.items.length : Rat) - sumRat (s.items.map s.accept)))
          * mass (s.chooseDist k) (fun o => o == some x) := by
  -- each summand as an indicator term plus a term linear in `accept c`, the shapes the sum lemmas take
  have hc : ∀ c ∈ s.items, (1 / (s.items.length : Rat)) *
        (s.accept c * (if c = x then 1 else 0) + (1 - s.accept c) * mass (s.chooseDist k) (fun o => o == some x))
      = ((1 / (s.items.length : Rat)) * s.accept c) * (if c = x then 1 else 0)
        + ((1 / (s.items.length : Rat)) * mass (s.chooseDist k) (fun o => o == some x)) * (1 + -1 * s.accept c) :=
    fun c _ => by ring
  rw [chooseDist_succ_mass, sumRat_map_congr _ _ _ hc, sumRat_map_add,
    sumRat_indicator s.items x (fun c => (1 / (s.items.length : Rat)) * s.accept c) h.nodup hx,
    sumRat_map_mul_left, sumRat_map_add, sumRat_map_const, sumRat_map_mul_left]
  ring

theorem sum_accept (s : LD α) (hwt : s.weighted = true) :
    sumRat (s.items.map s.accept) = s.weightSum / s.maxW := by
  have hc : ∀ c ∈ s.items, s.accept c = s.getW c * s.maxW⁻¹ := fun c _ => by
    simp [accept, hwt, acceptThr, div_eq_mul_inv]
  rw [sumRat_map_congr _ _ _ hc, sumRat_map_mul_right, weightSum, div_eq_mul_inv]

theorem maxW_pos (s : LD α) (h : Inv s) (hwt : s.weighted = true) (hpos : 0 < s.weightSum) :
    0 < s.maxW ∧ 0 < (s.items.length : Rat) := by
  obtain ⟨c, hc, hp⟩ := exists_pos_of_sumRat_pos s.items s.getW hpos
  refine ⟨lt_of_lt_of_le hp (h.le_max hwt c hc), ?_⟩
  have : 0 < s.items.length := List.length_pos_of_mem hc
  exact_mod_cast this

theorem rej_bounds (s : LD α) (h : Inv s) (hwt : s.weighted = true) (hpos : 0 < s.weightSum) :
    0 ≤ s.rejProb ∧ s.rejProb < 1 := by
  obtain ⟨hM, hn⟩ := maxW_pos s h hwt hpos
  have hnM : 0 < (s.items.length : Rat) * s.maxW := mul_pos hn hM
  exact ⟨sub_nonneg.2 ((div_le_iff₀ hnM).2 (by rw [one_mul]; exact (sumRat_map_le s.items s.getW (fun _ => s.maxW) (h.le_max hwt)).trans_eq (sumRat_map_const _ _))), sub_lt_self _ (div_pos hpos hnM)⟩

theorem choose_law (s : LD α) (h : Inv s) (hwt : s.weighted = true) (hpos : 0 < s.weightSum)
    (x : α) (hx : x ∈ s.items) (k : Nat) :
    mass (s.chooseDist k) (fun o => o == some x) = s.getW x / s.weightSum * (1 - s.rejProb ^ k) := by
  obtain ⟨hM, hn⟩ := maxW_pos s h hwt hpos
  induction k with
  | zero => simp [chooseDist, mass_pure]
  | succ k ih =>
    have hρ : (1 / (s.items.length : Rat)) * ((s.items.length : Rat) - s.weightSum / s.maxW)
        = s.rejProb := by
      rw [rejProb, mul_sub, one_div_mul_cancel hn.ne']; ring
    have hq : (1 / (s.items.length : Rat)) * s.accept x = s.getW x / s.weightSum * (1 - s.rejProb) := by
      rw [accept, if_pos hwt, acceptThr, rejProb, sub_sub_cancel, div_mul_div_comm (s.getW x), mul_comm (s.getW x),
        mul_div_mul_left _ _ hpos.ne']; ring
    rw [choose_step s h x hx k, ih, sum_accept s hwt, hρ, hq, pow_succ]; ring
theorem choose_law_unweighted (s : LD α) (h : Inv s) (hwt : s.weighted = false)
    (x : α) (hx : x ∈ s.items) (k : Nat) :
    mass (s.chooseDist (k + 1)) (fun o => o == some x) = 1 / (s.items.length : Rat) := by
  have hc : ∀ c ∈ s.items, s.accept c = 1 := fun c _ => by simp [accept, hwt]
  rw [choose_step s h x hx k, sumRat_map_congr _ _ _ hc, sumRat_map_const, hc x hx]
  ring

theorem chooseDist_not_mem (s : LD α) (x : α) (hx : x ∉ s.items) (k : Nat) :
    mass (s.chooseDist k) (fun o => o == some x) = 0 := by
  induction k with
  | zero => simp [chooseDist, mass_pure]
  | succ k ih =>
    rw [chooseDist_succ_mass, ih]
    apply sumRat_map_zero
    intro c hc
    have hcx : c ≠ x := fun hc' => hx (hc' ▸ hc)
    simp [hcx]

/-- the two selection laws as one, scaled by the total weight (the form the simulators' jump laws need; it also covers
a weighted structure whose weights are all zero) -/
theorem totalWeight_mul_choose (s : LD α) (h : Inv s) (x : α) (hx : x ∈ s.items) (k : Nat) (hk : 0 < k) :
    s.totalWeight * mass (s.chooseDist k) (fun o => o == some x) =
      if s.weighted then s.getW x * (1 - s.rejProb ^ k) else 1 := by
  unfold totalWeight
  cases hwt : s.weighted with
  | false =>
    obtain ⟨k, rfl⟩ := Nat.exists_eq_succ_of_ne_zero hk.ne'
    have hn : (s.items.length : Rat) ≠ 0 := Nat.cast_ne_zero.2 (List.length_pos_of_mem hx).ne'
    rw [choose_law_unweighted s h hwt x hx k, if_neg (by simp), if_neg (by simp), mul_one_div_cancel hn]
  | true =>
    rw [if_pos rfl, if_pos rfl, h.total hwt]
    have hW : 0 ≤ s.weightSum := sumRat_map_nonneg _ _ (h.nonneg hwt)
    rcases hW.lt_or_eq with hpos | h0
    · rw [choose_law s h hwt hpos x hx k, ← mul_assoc, mul_div_cancel₀ _ hpos.ne']
    · rw [← h0, zero_mul, rejProb, ← h0, zero_div, sub_zero, one_pow, sub_self, mul_zero]

theorem rej_unit (s : LD α) (h : Inv s) (hwt : s.weighted = true) : 0 ≤ s.rejProb ∧ s.rejProb ≤ 1 := by
  rcases (weightSum_nonneg s h hwt).lt_or_eq with hp | h0
  · obtain ⟨h1, h2⟩ := rej_bounds s h hwt hp
    exact ⟨h1, le_of_lt h2⟩
  · unfold rejProb; rw [← h0]; simp

/-- probability that the `k`-round sampler gives up; an unweighted structure never rejects -/
def defect (s : LD α) (k : Nat) : Rat := if s.weighted then s.rejProb ^ k else 0
def factor (s : LD α) (k : Nat) : Rat := if s.weighted then 1 - s.rejProb ^ k else 1

theorem factor_eq (s : LD α) (k : Nat) : s.factor k = 1 - s.defect k := by
  unfold factor defect; split <;> ring

theorem defect_unit (s : LD α) (h : Inv s) (k : Nat) : 0 ≤ s.defect k ∧ s.defect k ≤ 1 := by
  unfold defect
  by_cases hw : s.weighted = true
  · rw [if_pos hw]
    obtain ⟨h1, h2⟩ := rej_unit s h hw
    exact ⟨pow_nonneg h1 k, pow_le_one₀ h1 h2⟩
  · rw [if_neg hw]; exact ⟨le_refl 0, zero_le_one⟩

/-! ### a structure that tracks a set of candidates

What the invariants of `Gillespie_SIR`, `Gillespie_SIS` and `Gillespie_simple_contagion` say of each `_ListDict_` they
keep, and the rules through which their proofs use it.  The batch rules do not cover `insert`:
`Gillespie_complex_contagion`, which only inserts, has `LD.insert_spec` and `Complex.insertAll_inv`
(`Proofs/Complex.lean`) and reads `Tracks` off its invariant afterwards. -/

/-- `W x` is the weight label the simulator passes for `x` (`none` throughout for an unweighted structure) -/
structure Tracks (s : LD α) (W : α → Option Rat) (T : α → Prop) : Prop where
  inv : Inv s
  flag : ∀ x, (W x).isSome = s.weighted
  mem : ∀ x, x ∈ s.items ↔ T x
  getW : ∀ x v, T x → W x = some v → s.getW x = v

/-- No `insert` is admitted: `insert x w` is itself a `remove` of a listed `x` followed by an `update` unless `w` is 0,
and its only user has `LD.insert_spec` -/
def Op.admitted (W : α → Option Rat) (T : α → Prop) (ops : List (Op α)) : Op α → Prop
  | .ins _ _ => False
  | .upd x v => v = W x ∧ (¬ T x ∨ Op.rem x ∈ ops)
  | .rem x => T x

namespace Tracks
variable {s : LD α} {W : α → Option Rat} {T : α → Prop}

theorem empty (b : Bool) (W : α → Option Rat) (hW : ∀ x, (W x).isSome = b) :
    Tracks (LD.empty b : LD α) W (fun _ => False) :=
  ⟨inv_empty b, hW, fun x => by simp [LD.empty], fun _ _ hx => hx.elim⟩

theorem weight (h : Tracks s W T) (x : α) (hx : T x) :
    W x = if s.weighted then some (s.getW x) else none := by
  have hf := h.flag x
  cases hw : W x with
  | none => rw [hw] at hf; rw [← hf]; rfl
  | some v => rw [hw] at hf; rw [← hf, h.getW x v hx hw]; rfl

theorem getD_weight (h : Tracks s W T) (x : α) (hx : T x) :
    (W x).getD 1 = if s.weighted then s.getW x else 1 := by
  rw [h.weight x hx]; cases s.weighted <;> rfl

theorem congr {T' : α → Prop} (h : Tracks s W T) (hT : ∀ x, T x ↔ T' x) : Tracks s W T' :=
  ⟨h.inv, h.flag, fun x => (h.mem x).trans (hT x), fun x v hx => h.getW x v ((hT x).2 hx)⟩

theorem remove (h : Tracks s W T) (x : α) (hx : T x) :
    ∃ s', s.remove x = some s' ∧ Tracks s' W (fun y => T y ∧ y ≠ x) := by
  obtain ⟨s', h1, hinv, hwd, hmem, hget⟩ := remove_any s x h.inv ((h.mem x).2 hx)
  exact ⟨s', h1, hinv, fun y => (h.flag y).trans hwd.symm, fun y => by rw [hmem, h.mem],
    fun y v hy hv => by rw [hget y hy.2]; exact h.getW y v hy.1 hv⟩

theorem update (h : Tracks s W T) (hnn : ∀ x v, W x = some v → 0 ≤ v) (x : α) (hx : ¬ T x) :
    ∃ s', s.update x (W x) = some s' ∧ Tracks s' W (fun y => T y ∨ y = x) := by
  have hxi : x ∉ s.items := fun hc => hx ((h.mem x).1 hc)
  obtain ⟨s', hs'⟩ := update_exists s x (W x) (h.flag x)
  obtain ⟨hwd, hmem, hget⟩ := update_any s s' x (W x) hs'
  refine ⟨s', hs', inv_update s s' x (W x) h.inv (hnn x) hs', fun y => (h.flag y).trans hwd.symm,
    fun y => by rw [hmem, h.mem], fun y v hy hv => ?_⟩
  by_cases hyx : y = x
  · subst hyx
    rw [hv] at hs'
    have hwt : s.weighted = true := by rw [← h.flag y, hv]; rfl
    rw [update_getW_self s s' y v hs', getW_of_not_mem s h.inv hwt y hxi, zero_add]
  · rw [hget y hyx]; exact h.getW y v (hy.resolve_right hyx) hv

/-- By induction on the batch, one `remove` or `update` a step: the rest of the batch is admitted for the set after the
step. -/
theorem applyOps_set (hnn : ∀ x v, W x = some v → 0 ≤ v) (ops : List (Op α)) :
    ∀ (s : LD α) (T : α → Prop), Tracks s W T → ops.Pairwise Compat → (∀ o ∈ ops, o.admitted W T ops) →
      ∃ s', s.applyOps ops = some s' ∧
        Tracks s' W (fun x => (T x ∧ Op.rem x ∉ ops) ∨ ∃ v, Op.upd x v ∈ ops) := by
  induction ops with
  | nil => exact fun s T h _ _ => ⟨s, rfl, h.congr fun x => by simp⟩
  | cons o os ih =>
    intro s T h hk hop
    obtain ⟨hk1, hk2⟩ := List.pairwise_cons.1 hk
    have ho := hop o List.mem_cons_self
    cases o with
    | ins x w => exact ho.elim
    | rem x =>
      -- `x` is removed once: after it every operation is admitted for `T` without `x`
      have hnr : Op.rem x ∉ os := fun hc => (hk1 _ hc).elim (fun hne => hne rfl) fun hc' => hc'.2
      obtain ⟨s1, hs1, h1⟩ := h.remove x ho
      obtain ⟨s', hs', h'⟩ := ih s1 _ h1 hk2 fun o' ho' => by
        have := hop o' (List.mem_cons_of_mem _ ho')
        cases o' with
        | ins y w => exact this
        | rem y => exact ⟨this, fun e => hnr (e ▸ ho')⟩
        | upd y w =>
          refine ⟨this.1, this.2.elim (fun hn => Or.inl fun hc => hn hc.1) fun hc => ?_⟩
          rcases List.mem_cons.1 hc with e | hc
          · exact Or.inl fun hc' => hc'.2 (by injection e)
          · exact Or.inr hc
      refine ⟨s', by simp only [LD.applyOps, LD.applyOp, hs1]; exact hs', h'.congr fun y => ?_⟩
      simp only [List.mem_cons, Op.rem.injEq, reduceCtorEq, false_or, not_or, and_assoc]
    | upd x v =>
      -- `x` is new, and no later operation speaks of it
      have hkey : ∀ o' ∈ os, x ≠ o'.key := fun o' ho' => (hk1 o' ho').resolve_right fun hc => hc.1
      have hnr : Op.rem x ∉ os := fun hc => hkey _ hc rfl
      obtain ⟨rfl, hx⟩ := ho
      have hx : ¬ T x := hx.resolve_right fun hc => hnr ((List.mem_cons.1 hc).resolve_left nofun)
      obtain ⟨s1, hs1, h1⟩ := h.update hnn x hx
      obtain ⟨s', hs', h'⟩ := ih s1 _ h1 hk2 fun o' ho' => by
        have := hop o' (List.mem_cons_of_mem _ ho')
        cases o' with
        | ins y w => exact this
        | rem y => exact Or.inl this
        | upd y w =>
          refine ⟨this.1, this.2.elim (fun hn => Or.inl fun hc => hc.elim hn fun e => hkey _ ho' e.symm) fun hc => ?_⟩
          exact Or.inr ((List.mem_cons.1 hc).resolve_left nofun)
      refine ⟨s', by simp only [LD.applyOps, LD.applyOp, hs1]; exact hs', h'.congr fun y => ?_⟩
      simp only [List.mem_cons, reduceCtorEq, false_or, Op.upd.injEq]
      by_cases hy : y = x
      · subst hy; simp [hnr]
      · simp [hy]

theorem applyOps (h : Tracks s W T) (T' : α → Prop) (hnn : ∀ x v, W x = some v → 0 ≤ v)
    (ops : List (Op α)) (hk : ops.Pairwise Compat) (hop : ∀ o ∈ ops, o.admitted W T ops)
    (hT' : ∀ x, T' x ↔ (T x ∧ Op.rem x ∉ ops) ∨ ∃ v, Op.upd x v ∈ ops) :
    ∃ s', s.applyOps ops = some s' ∧ Tracks s' W T' :=
  have ⟨s', h1, h2⟩ := applyOps_set hnn ops s T h hk hop
  ⟨s', h1, h2.congr fun x => (hT' x).symm⟩

theorem applyOps_local (h : Tracks s W T) (T' : α → Prop) (hnn : ∀ x v, W x = some v → 0 ≤ v)
    (ops : List (Op α)) (hk : ops.Pairwise Compat) (K : α → Prop) (hins : ∀ x v, Op.ins x v ∉ ops)
    (hrem : ∀ x, Op.rem x ∈ ops ↔ K x ∧ T x) (hupd : ∀ x v, Op.upd x v ∈ ops ↔ K x ∧ T' x ∧ v = W x)
    (hout : ∀ x, ¬ K x → (T' x ↔ T x)) :
    ∃ s', s.applyOps ops = some s' ∧ Tracks s' W T' := by
  refine h.applyOps T' hnn ops hk (fun o ho => ?_) fun x => ?_
  · cases o with
    | ins x v => exact hins x v ho
    | rem x => exact ((hrem x).1 ho).2
    | upd x v =>
      obtain ⟨hK, -, rfl⟩ := (hupd x v).1 ho
      exact ⟨rfl, (Classical.em (T x)).symm.imp_right fun hT => (hrem x).2 ⟨hK, hT⟩⟩
  · by_cases hK : K x
    · simp only [hrem, hupd, hK, true_and, and_not_self, false_or, exists_eq_right]
    · simp only [hrem, hupd, hK, false_and, not_false_eq_true, and_true, exists_false, or_false, hout x hK]

theorem mul_totalWeight (h : Tracks s W T) (E : List α) (hE : E.Nodup) (hmem : ∀ x, x ∈ E ↔ T x) (c : Rat) :
    c * s.totalWeight = sumRat (E.map fun x => c * (W x).getD 1) := by
  have hp : s.items.Perm E := (List.perm_ext_iff_of_nodup h.inv.nodup hE).2 fun x => (h.mem x).trans (hmem x).symm
  rw [totalWeight_eq_sum s h.inv, ← sumRat_map_mul_left, sumRat_perm (hp.map _)]
  exact sumRat_map_congr _ _ _ fun x hx => by rw [h.getD_weight x ((hmem x).1 hx)]

theorem share_law (h : Tracks s W T) (x : α) (hx : T x) (k : Nat) (hk : 0 < k) (c tot : Rat) :
    c * s.totalWeight / tot * mass (s.chooseDist k) (eqSome x) = c * (W x).getD 1 / tot * s.factor k := by
  have key := totalWeight_mul_choose s h.inv x ((h.mem x).2 hx) k hk
  rw [div_mul_eq_mul_div, mul_assoc, key, h.getD_weight x hx, factor]
  cases s.weighted <;> simp only [if_true, Bool.false_eq_true, if_false] <;> ring

end Tracks
end LD
