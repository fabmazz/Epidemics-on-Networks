import EoNVerif.Proofs.EventSIS
import Mathlib.Data.List.Perm.Basic
/-!
The lazy queue against the reference agenda.  A queue entry stands for its head attempt and the later attempts of its
chain (`expand`); the agenda is, up to order, the expanded queue plus `Dead` entries, attempts that the lazy queue has
already dropped because the target is infectious until after them (`Core.perm`).  When the reference executes a dead
entry the lazy side stutters, otherwise both pop corresponding entries and do the same thing (`sim_step`).  Distinct
event times (`Dst`) are what rules out an attempt exactly at a recovery time, where the two would differ.
-/
namespace EventSIS

def attemptsOf (tmax : Rat) (src : Option Node) (v : Node) (tt : List Rat) : List AItem :=
  (tt.filter (fun t => t < tmax)).map (fun t => ⟨t, AEv.attempt src v⟩)

def refNew (P : SSParams) (k : Nat) (t : Rat) (v : Node) : List AItem :=
  (if t + P.dur v k < P.tmax then [⟨t + P.dur v k, AEv.recov v⟩] else []) ++
    (P.nbrs v).flatMap (fun w => attemptsOf P.tmax (some v) w ((P.delays v w k).map fun d => t + d))

theorem fold_aadd (tmax t : Rat) (src : Option Node) (w : Node) (ds : List Rat) (q : List AItem) :
    ds.foldl (fun q d => aadd tmax q (t + d) (AEv.attempt src w)) q =
      q ++ attemptsOf tmax src w (ds.map fun d => t + d) := by
  induction ds generalizing q with
  | nil => simp [attemptsOf]
  | cons d ds ih =>
    rw [List.foldl_cons, ih, aadd_eq]
    simp only [attemptsOf, List.map_cons, List.filter_cons]
    by_cases hlt : t + d < tmax <;> simp [hlt]

theorem refInfect_agenda (P : SSParams) (s : RefState) (t : Rat) (src : Option Node) (v : Node) :
    (refInfect P s t src v).agenda = s.agenda ++ refNew P (s.count v) t v := by
  simp only [refInfect, refNew]
  have : ∀ (l : List Node) (q : List AItem),
      l.foldl (fun q w => (P.delays v w (s.count v)).foldl
          (fun q d => aadd P.tmax q (t + d) (AEv.attempt (some v) w)) q) q =
        q ++ l.flatMap (fun w => attemptsOf P.tmax (some v) w ((P.delays v w (s.count v)).map fun d => t + d)) := by
    intro l
    induction l with
    | nil => intro q; simp
    | cons w l ih => intro q; rw [List.foldl_cons, ih, fold_aadd]; simp
  rw [this, aadd_eq, List.append_assoc]

theorem refStep_cases {P : SSParams} {r r' : RefState} (h : refStep P r = some r') :
    ∃ x a1 a2, r.agenda = a1 ++ x :: a2 ∧ (∀ y ∈ a1, x.time < y.time) ∧ (∀ y ∈ a2, x.time ≤ y.time) ∧
      ((∃ u, x.ev = AEv.recov u ∧
          r' = { inf := fset r.inf u false, count := r.count, agenda := a1 ++ a2,
                 log := (x.time, u, false) :: r.log, trans := r.trans, seen := x.time :: r.seen }) ∨
       (∃ src v, x.ev = AEv.attempt src v ∧ r.inf v = true ∧
          r' = { inf := r.inf, count := r.count, agenda := a1 ++ a2, log := r.log, trans := r.trans,
                 seen := x.time :: r.seen }) ∨
       (∃ src v, x.ev = AEv.attempt src v ∧ r.inf v = false ∧
          r' = { inf := fset r.inf v true, count := fset r.count v (r.count v + 1),
                 agenda := a1 ++ a2 ++ refNew P (r.count v) x.time v,
                 log := (x.time, v, true) :: r.log, trans := (x.time, src, v) :: r.trans,
                 seen := x.time :: r.seen })) := by
  unfold refStep at h
  split at h
  · simp at h
  · rename_i x q hp
    rw [apop_eq] at hp
    obtain ⟨a1, a2, h1, h2, h3, h4⟩ := EvQ.gpop_some _ hp
    subst h2
    refine ⟨x, a1, a2, h1, h3, h4, ?_⟩
    split at h
    · rename_i src v hev
      right
      simp only at h
      split at h
      · rename_i hi
        left
        refine ⟨src, v, hev, hi, ?_⟩
        simp at h; rw [← h]
      · rename_i hi
        right
        refine ⟨src, v, hev, by simpa using hi, ?_⟩
        simp at h; rw [← h]
        have := refInfect_agenda P { r with agenda := a1 ++ a2, seen := x.time :: r.seen } x.time src v
        simp only at this
        simp only [refInfect] at this ⊢
        rw [this]
    · rename_i u hev
      left
      refine ⟨u, hev, ?_⟩
      simp at h; rw [← h]

theorem refStep_none {P : SSParams} {r : RefState} (h : refStep P r = none) : r.agenda = [] := by
  unfold refStep at h
  split at h
  · rename_i hp; rw [apop_eq] at hp; exact EvQ.gpop_none _ hp
  · split at h
    · simp only at h; split at h <;> simp at h
    · simp at h

def timesOf (r : RefState) : List Rat := r.seen ++ r.agenda.map (fun a => a.time)

/-- no two (executed or pending) agenda entries after `tmin` share a time -/
def Dst (P : SSParams) (r : RefState) : Prop := ∀ t, t ≠ P.tmin → (timesOf r).count t ≤ 1

theorem refStep_count_mono {P : SSParams} {r r' : RefState} (h : refStep P r = some r') (t : Rat) :
    (timesOf r).count t ≤ (timesOf r').count t := by
  obtain ⟨x, a1, a2, hq, _, _, hc⟩ := refStep_cases h
  rcases hc with ⟨u, _, rfl⟩ | ⟨src, v, _, _, rfl⟩ | ⟨src, v, _, _, rfl⟩ <;>
    simp only [timesOf, hq, List.map_append, List.map_cons, List.count_append, List.count_cons] <;> omega

theorem refLoop_count {P : SSParams} (n : Nat) (r : RefState) (hfin : (refLoop P n r).agenda = []) (t : Rat) :
    (timesOf r).count t ≤ (refLoop P n r).seen.count t := by
  induction n generalizing r with
  | zero =>
    simp only [refLoop] at hfin ⊢
    simp [timesOf, hfin]
  | succ n ih =>
    simp only [refLoop] at hfin ⊢
    split
    · rename_i h0
      have := refStep_none h0
      simp [timesOf, this]
    · rename_i r' h0
      rw [h0] at hfin
      exact le_trans (refStep_count_mono h0 t) (ih r' hfin)

theorem distinct_count {tmin : Rat} {seen : List Rat} (h : distinctTimes tmin seen = true) {t : Rat} (ht : t ≠ tmin) :
    seen.count t ≤ 1 := by
  unfold distinctTimes at h
  simp only [List.all_eq_true] at h
  have h1 : (seen.filter (· != tmin)).count t = seen.count t := List.count_filter (by simpa using ht)
  rw [← h1]
  by_cases hm : t ∈ seen.filter (· != tmin)
  · have := h t hm
    rw [List.count_eq_length_filter]
    have h2 : ((seen.filter (· != tmin)).filter (· == t)).length = 1 := by simpa using this
    omega
  · rw [List.count_eq_zero.2 hm]; omega

theorem Dst_of_final {P : SSParams} {n : Nat} {r : RefState} (hfin : (refLoop P n r).agenda = [])
    (hd : distinctTimes P.tmin (refLoop P n r).seen = true) : Dst P r :=
  fun t ht => le_trans (refLoop_count n r hfin t) (distinct_count hd ht)

theorem count_two {α : Type} (f : α → Rat) {l l1 l2 : List α} {a b : α} {t : Rat} (hl : l = l1 ++ a :: l2)
    (hb : b ∈ l1 ++ l2) (ha : f a = t) (hb' : f b = t) : 2 ≤ (l.map f).count t := by
  subst hl
  simp only [List.map_append, List.map_cons, List.count_append, List.count_cons, ha, beq_self_eq_true, if_true]
  rcases List.mem_append.1 hb with hb | hb
  · have : 1 ≤ (l1.map f).count t := List.one_le_count_iff.2 (List.mem_map.2 ⟨b, hb, hb'⟩)
    omega
  · have : 1 ≤ (l2.map f).count t := List.one_le_count_iff.2 (List.mem_map.2 ⟨b, hb, hb'⟩)
    omega

theorem count_two_flatMap {α β : Type} (g : α → List β) (f : β → Rat) {l l1 l2 : List α} {y z : α} {a b : β}
    {t : Rat} (hl : l = l1 ++ y :: l2) (hz : z ∈ l1 ++ l2) (ha : a ∈ g y) (hb : b ∈ g z)
    (ha' : f a = t) (hb' : f b = t) : 2 ≤ ((l.flatMap g).map f).count t := by
  subst hl
  simp only [List.flatMap_append, List.flatMap_cons, List.map_append, List.count_append]
  have h1 : 1 ≤ ((g y).map f).count t := List.one_le_count_iff.2 (List.mem_map.2 ⟨a, ha, ha'⟩)
  rcases List.mem_append.1 hz with hz | hz
  · have : 1 ≤ ((l1.flatMap g).map f).count t :=
      List.one_le_count_iff.2 (List.mem_map.2 ⟨b, List.mem_flatMap.2 ⟨z, hz, hb⟩, hb'⟩)
    omega
  · have : 1 ≤ ((l2.flatMap g).map f).count t :=
      List.one_le_count_iff.2 (List.mem_map.2 ⟨b, List.mem_flatMap.2 ⟨z, hz, hb⟩, hb'⟩)
    omega

theorem Dst.agenda {P : SSParams} {r : RefState} (h : Dst P r) {t : Rat} (ht : t ≠ P.tmin) :
    (r.agenda.map fun a => a.time).count t ≤ 1 := by
  have := h t ht
  simp only [timesOf, List.count_append] at this
  omega

theorem Dst_contra {P : SSParams} {r : RefState} {L dead : List AItem} (hD : Dst P r)
    (hp : r.agenda.Perm (L ++ dead)) {t : Rat} (ht : t ≠ P.tmin)
    (h2 : 2 ≤ (L.map fun a => a.time).count t) : False := by
  have h1 := hD.agenda ht
  have h3 := (hp.map (fun a => a.time)).count_eq t
  rw [List.map_append, List.count_append] at h3
  omega

theorem Dst.no_tie {P : SSParams} {r : RefState} (hD : Dst P r) {A B : List AItem} (hag : r.agenda = A ++ B)
    {a b : AItem} (ha : a ∈ A) (hb : b ∈ B) (hab : a.time = b.time) (ht : b.time ≠ P.tmin) : False := by
  have h1 := hD.agenda ht
  rw [hag, List.map_append, List.count_append] at h1
  have : 1 ≤ (A.map fun a => a.time).count b.time := List.one_le_count_iff.2 (List.mem_map.2 ⟨a, ha, hab⟩)
  have : 1 ≤ (B.map fun a => a.time).count b.time := List.one_le_count_iff.2 (List.mem_map.2 ⟨b, hb, rfl⟩)
  omega

def futA (tmax : Rat) (src : Option Node) (v : Node) (tt : List Rat) : List AItem :=
  match src with
  | none => []
  | some u => attemptsOf tmax (some u) v tt

def headA (x : SItem) : AItem :=
  match x.ev with
  | .trans src v _ => ⟨x.time, AEv.attempt src v⟩
  | .recov u => ⟨x.time, AEv.recov u⟩

def tailA (tmax : Rat) (x : SItem) : List AItem :=
  match x.ev with
  | .trans src v fut => futA tmax src v fut
  | .recov _ => []

def expand (tmax : Rat) (x : SItem) : List AItem := headA x :: tailA tmax x

@[simp] theorem headA_time (x : SItem) : (headA x).time = x.time := by
  unfold headA; split <;> rfl

theorem expand_recov {tmax : Rat} {y : SItem} {u : Node} (h : y.ev = SEv.recov u) :
    expand tmax y = [⟨y.time, AEv.recov u⟩] := by
  simp [expand, headA, tailA, h]

theorem expand_trans {tmax : Rat} {y : SItem} {src : Option Node} {v : Node} {fut : List Rat}
    (h : y.ev = SEv.trans src v fut) :
    expand tmax y = ⟨y.time, AEv.attempt src v⟩ :: futA tmax src v fut := by
  simp [expand, headA, tailA, h]

theorem headA_recov {y : SItem} {u : Node} (h : y.ev = SEv.recov u) : headA y = ⟨y.time, AEv.recov u⟩ := by
  simp [headA, h]

theorem headA_trans {y : SItem} {src : Option Node} {v : Node} {fut : List Rat} (h : y.ev = SEv.trans src v fut) :
    headA y = ⟨y.time, AEv.attempt src v⟩ := by
  simp [headA, h]

theorem mem_attemptsOf {tmax : Rat} {src : Option Node} {v : Node} {tt : List Rat} {a : AItem} :
    a ∈ attemptsOf tmax src v tt ↔ ∃ t ∈ tt, t < tmax ∧ a = ⟨t, AEv.attempt src v⟩ := by
  simp only [attemptsOf, List.mem_map, List.mem_filter, decide_eq_true_eq]
  constructor
  · rintro ⟨t, ⟨h1, h2⟩, rfl⟩; exact ⟨t, h1, h2, rfl⟩
  · rintro ⟨t, h1, h2, rfl⟩; exact ⟨t, ⟨h1, h2⟩, rfl⟩

theorem mem_futA {tmax : Rat} {src : Option Node} {v : Node} {tt : List Rat} {a : AItem} (h : a ∈ futA tmax src v tt) :
    ∃ t ∈ tt, t < tmax ∧ a = ⟨t, AEv.attempt src v⟩ := by
  cases src with
  | none => simp [futA] at h
  | some u => exact mem_attemptsOf.1 h

theorem futA_mono {tmax : Rat} {src : Option Node} {v : Node} {tt : List Rat} {p : Rat → Bool} {a : AItem}
    (h : a ∈ futA tmax src v (tt.filter p)) : a ∈ futA tmax src v tt := by
  cases src with
  | none => simp [futA] at h
  | some u =>
    obtain ⟨t, h1, h2, rfl⟩ := mem_attemptsOf.1 h
    exact mem_attemptsOf.2 ⟨t, (List.mem_filter.1 h1).1, h2, rfl⟩

theorem attemptsOf_nil_of_ge {tmax : Rat} (src : Option Node) (v : Node) {tt : List Rat} (h : ∀ t ∈ tt, tmax ≤ t) :
    attemptsOf tmax src v tt = [] := by
  simp only [attemptsOf, List.map_eq_nil_iff, List.filter_eq_nil_iff, decide_eq_true_eq, not_lt]
  exact h

theorem chainOf_expand {tmax : Rat} (u v : Node) {tt : List Rat} (hs : tt.Pairwise (· < ·)) :
    (chainOf tmax u v tt).flatMap (expand tmax) = attemptsOf tmax (some u) v tt := by
  cases tt with
  | nil => simp [chainOf, attemptsOf]
  | cons t0 fol =>
    simp only [chainOf]
    split
    · rename_i h
      simp [expand, headA, tailA, futA, attemptsOf, h]
    · rename_i h
      rw [attemptsOf_nil_of_ge]
      · simp
      · intro t ht
        rcases List.mem_cons.1 ht with rfl | ht
        · exact not_lt.1 h
        · have := List.rel_of_pairwise_cons hs ht
          have := not_lt.1 h
          linarith

theorem reQ_expand {tmax : Rat} (src : Option Node) (v : Node) {tt : List Rat} (hs : tt.Pairwise (· < ·)) :
    (reQ tmax src v tt).flatMap (expand tmax) = futA tmax src v tt := by
  cases src with
  | none => simp [reQ, futA]
  | some u => exact chainOf_expand u v hs

theorem attemptsOf_filter_perm (tmax : Rat) (src : Option Node) (v : Node) (tt : List Rat) (p : Rat → Bool) :
    (attemptsOf tmax src v tt).Perm
      (attemptsOf tmax src v (tt.filter p) ++ attemptsOf tmax src v (tt.filter (fun t => !p t))) := by
  unfold attemptsOf
  rw [← List.map_append, ← List.filter_append]
  exact ((List.filter_append_perm p tt).symm.filter _).map _

theorem futA_filter_perm (tmax : Rat) (src : Option Node) (v : Node) (tt : List Rat) (p : Rat → Bool) :
    (futA tmax src v tt).Perm
      (futA tmax src v (tt.filter p) ++ futA tmax src v (tt.filter (fun t => !p t))) := by
  cases src with
  | none => simp [futA]
  | some u => exact attemptsOf_filter_perm _ _ _ _ _

/-- the attempt times dropped by the filter against the target's current infectious period -/
def deadTimes (inf : Node → Bool) (recTime : Node → Rat) (v : Node) (tt : List Rat) : List Rat :=
  if inf v then tt.filter (fun t => !decide (t > recTime v)) else []

theorem attemptsOf_live_dead_perm (tmax : Rat) (src : Option Node) (v : Node) (inf : Node → Bool) (recTime : Node → Rat)
    (tt : List Rat) :
    (attemptsOf tmax src v tt).Perm
      (attemptsOf tmax src v (liveTimes inf recTime v tt) ++ attemptsOf tmax src v (deadTimes inf recTime v tt)) := by
  unfold liveTimes deadTimes
  split
  · exact attemptsOf_filter_perm _ _ _ _ _
  · simp [attemptsOf]

theorem liveTimes_sorted {inf : Node → Bool} {recTime : Node → Rat} {v : Node} {tt : List Rat}
    (h : tt.Pairwise (· < ·)) : (liveTimes inf recTime v tt).Pairwise (· < ·) := by
  unfold liveTimes; split
  · exact h.filter _
  · exact h

theorem map_add_sorted {ds : List Rat} (t : Rat) (h : ds.Pairwise (· < ·)) :
    (ds.map fun d => t + d).Pairwise (· < ·) := by
  rw [List.pairwise_map]
  exact h.imp (fun hab => by linarith)

theorem newItems_expand {P : SSParams} {infs : List Node} (hW : WF P infs) (s : SSState) (t : Rat) (v : Node) :
    (newItems P s t v).flatMap (expand P.tmax) =
      (if t + P.dur v (s.count v) < P.tmax then [⟨t + P.dur v (s.count v), AEv.recov v⟩] else []) ++
        (P.nbrs v).flatMap (fun w => attemptsOf P.tmax (some v) w
          (liveTimes (fset s.inf v true) (fset s.recTime v (t + P.dur v (s.count v))) w
            ((P.delays v w (s.count v)).map fun d => t + d))) := by
  unfold newItems
  rw [List.flatMap_append]
  congr 1
  · split <;> simp [expand, headA, tailA]
  · rw [List.flatMap_assoc]
    apply List.flatMap_congr
    intro w _
    exact chainOf_expand v w (liveTimes_sorted (map_add_sorted t (hW.delay_sorted v w _)))

/-- an agenda entry that the lazy queue has dropped: an attempt on a node that is infectious until after it -/
def Dead (s : SSState) (a : AItem) : Prop :=
  ∃ src v, a.ev = AEv.attempt src v ∧ s.inf v = true ∧ a.time < s.recTime v

/-- `sorted` and `ge_tmin` are `EntryOK` of every queue entry; `perm`: see the head of the file -/
structure Core (P : SSParams) (s : SSState) (r : RefState) : Prop where
  inf_eq : s.inf = r.inf
  count_eq : s.count = r.count
  log_eq : s.log = r.log
  trans_eq : s.trans = r.trans
  invA : InvA P s
  invB : ∀ v, InvB P s v
  sorted : ∀ x ∈ s.queue, ∀ src v fut, x.ev = SEv.trans src v fut → (x.time :: fut).Pairwise (· < ·)
  ge_tmin : ∀ x ∈ s.queue, P.tmin ≤ x.time
  rec_in : ∀ u, s.inf u = true → s.recTime u < P.tmax → (⟨s.recTime u, SEv.recov u⟩ : SItem) ∈ s.queue
  perm : ∃ dead, r.agenda.Perm (s.queue.flatMap (expand P.tmax) ++ dead) ∧ ∀ a ∈ dead, Dead s a

theorem perm_pop {tmax : Rat} {A a1 a2 dead tl : List AItem} {Q l1 l2 : List SItem} {x : AItem} {y : SItem}
    (hA : A = a1 ++ x :: a2) (hQ : Q = l1 ++ y :: l2) (hp : A.Perm (Q.flatMap (expand tmax) ++ dead))
    (he : expand tmax y = x :: tl) :
    (a1 ++ a2).Perm ((l1 ++ l2).flatMap (expand tmax) ++ (tl ++ dead)) := by
  subst hA hQ
  rw [List.flatMap_append, List.flatMap_cons, he] at hp
  have h1 : (x :: (a1 ++ a2)).Perm (x :: ((l1 ++ l2).flatMap (expand tmax) ++ (tl ++ dead))) := by
    refine List.perm_middle.symm.trans (hp.trans ?_)
    rw [List.flatMap_append]
    apply List.perm_iff_count.2
    intro a
    simp only [List.count_append, List.count_cons]
    omega
  exact h1.cons_inv

theorem Core.rec_rest {P : SSParams} {s : SSState} {r : RefState} (hC : Core P s r) {y : SItem} {l1 l2 : List SItem}
    (hqs : s.queue = l1 ++ y :: l2) {src : Option Node} {v : Node} {fut : List Rat} (hev : y.ev = SEv.trans src v fut)
    {w : Node} (hi : s.inf w = true) (hr : s.recTime w < P.tmax) :
    (⟨s.recTime w, SEv.recov w⟩ : SItem) ∈ l1 ++ l2 := by
  have hz := hC.rec_in w hi hr
  rw [hqs] at hz
  refine EvQ.mem_of_mid hz (fun h => ?_)
  rw [← h] at hev; cases hev

/-- the reference executes a dropped attempt: nothing happens -/
theorem core_stutter {P : SSParams} {s : SSState} {r : RefState} (hC : Core P s r) {x : AItem} {a1 a2 : List AItem}
    (hqa : r.agenda = a1 ++ x :: a2) {dead : List AItem}
    (hp : r.agenda.Perm (s.queue.flatMap (expand P.tmax) ++ dead)) (hdead : ∀ a ∈ dead, Dead s a) (hx : x ∈ dead) :
    Core P s { inf := r.inf, count := r.count, agenda := a1 ++ a2, log := r.log, trans := r.trans,
               seen := x.time :: r.seen } := by
  refine ⟨hC.inf_eq, hC.count_eq, hC.log_eq, hC.trans_eq, hC.invA, hC.invB, hC.sorted, hC.ge_tmin, hC.rec_in, ?_⟩
  refine ⟨dead.erase x, ?_, fun a ha => hdead a (List.mem_of_mem_erase ha)⟩
  show (a1 ++ a2).Perm _
  have h1 : (x :: (a1 ++ a2)).Perm (x :: (s.queue.flatMap (expand P.tmax) ++ dead.erase x)) := by
    rw [hqa] at hp
    refine List.perm_middle.symm.trans (hp.trans ?_)
    refine ((List.perm_cons_erase hx).append_left _).trans ?_
    exact List.perm_middle
  exact h1.cons_inv

theorem newItems_gt {P : SSParams} {infs : List Node} (hW : WF P infs) (s : SSState) (t : Rat) (v : Node) :
    ∀ z ∈ newItems P s t v, t < z.time := by
  intro z hz
  rcases mem_newItems hz with ⟨rfl, _⟩ | ⟨w, _, hz⟩
  · have := hW.dur_pos v (s.count v); simp only; linarith
  · obtain ⟨t0, fol, h1, _, rfl⟩ := mem_chainOf hz
    have : t0 ∈ (P.delays v w (s.count v)).map fun d => t + d := by
      apply liveTimes_subset; rw [h1]; simp
    obtain ⟨d, hd, rfl⟩ := List.mem_map.1 this
    have := hW.delay_pos v w _ d hd
    simp only; linarith

theorem reQ_gt {tmax : Rat} {src : Option Node} {v : Node} {t : Rat} {fut : List Rat}
    (hs : (t :: fut).Pairwise (· < ·)) (p : Rat → Bool) : ∀ z ∈ reQ tmax src v (fut.filter p), t < z.time := by
  intro z hz
  obtain ⟨u, _, hz⟩ := mem_reQ hz
  obtain ⟨t0, fol, h1, _, rfl⟩ := mem_chainOf hz
  have : t0 ∈ fut := (List.mem_filter.1 (by rw [h1]; simp)).1
  exact List.rel_of_pairwise_cons hs this

theorem refNew_gt {P : SSParams} {infs : List Node} (hW : WF P infs) (k : Nat) (t : Rat) (v : Node) :
    ∀ a ∈ refNew P k t v, t < a.time := by
  intro a ha
  unfold refNew at ha
  rcases List.mem_append.1 ha with ha | ha
  · split at ha
    · simp at ha; subst ha
      have := hW.dur_pos v k; simp only; linarith
    · simp at ha
  · obtain ⟨w, _, ha⟩ := List.mem_flatMap.1 ha
    obtain ⟨t', h1, _, rfl⟩ := mem_attemptsOf.1 ha
    obtain ⟨d, hd, rfl⟩ := List.mem_map.1 h1
    have := hW.delay_pos v w _ d hd
    simp only; linarith

theorem chainOf_sorted {tmax : Rat} {u v : Node} {tt : List Rat} (h : tt.Pairwise (· < ·)) :
    ∀ z ∈ chainOf tmax u v tt, ∀ src' v' fut', z.ev = SEv.trans src' v' fut' → (z.time :: fut').Pairwise (· < ·) := by
  intro z hz src' v' fut' he
  obtain ⟨t0, fol, h2, _, rfl⟩ := mem_chainOf hz
  simp only [SEv.trans.injEq] at he
  obtain ⟨_, _, rfl⟩ := he
  rw [← h2]; exact h

/-- what `Core` asks of a single queue entry -/
def EntryOK (P : SSParams) (x : SItem) : Prop :=
  P.tmin ≤ x.time ∧ ∀ src v fut, x.ev = SEv.trans src v fut → (x.time :: fut).Pairwise (· < ·)

theorem entryOK_step {P : SSParams} {infs : List Node} (hW : WF P infs) {s s' : SSState}
    (h : ∀ x ∈ s.queue, EntryOK P x) (hstep : step P s = some s') : ∀ x ∈ s'.queue, EntryOK P x := by
  refine step_queue hstep h (fun x hx v y hy => ⟨?_, ?_⟩) (fun x hx src v fut hev p y hy => ⟨?_, ?_⟩)
  · exact le_trans (h x hx).1 (le_of_lt (newItems_gt hW s x.time v y hy))
  · rcases mem_newItems hy with ⟨rfl, _⟩ | ⟨w, _, hy⟩
    · intro src' v' fut' he; cases he
    · exact chainOf_sorted (liveTimes_sorted (map_add_sorted _ (hW.delay_sorted v w _))) y hy
  · exact le_trans (h x hx).1 (le_of_lt (reQ_gt ((h x hx).2 src v fut hev) p y hy))
  · obtain ⟨u, _, hy⟩ := mem_reQ hy
    exact chainOf_sorted (((h x hx).2 src v fut hev).of_cons.filter p) y hy

theorem Core.entryOK {P : SSParams} {s : SSState} {r : RefState} (hC : Core P s r) : ∀ x ∈ s.queue, EntryOK P x :=
  fun x hx => ⟨hC.ge_tmin x hx, hC.sorted x hx⟩

/-- both sides execute the same recovery -/
theorem core_recov {P : SSParams} {infs : List Node} (hW : WF P infs) {s s' : SSState} {r : RefState} (hC : Core P s r)
    (hstep : step P s = some s')
    {y : SItem} {l1 l2 : List SItem} {a1 a2 : List AItem} {u : Node}
    (hqs : s.queue = l1 ++ y :: l2) (hqa : r.agenda = a1 ++ headA y :: a2)
    (hmin : ∀ a ∈ a1 ++ a2, y.time ≤ a.time) (hev : y.ev = SEv.recov u)
    (hs' : s' = { inf := fset s.inf u false, recTime := s.recTime, count := s.count, queue := l1 ++ l2,
                  log := (y.time, u, false) :: s.log, trans := s.trans }) :
    Core P s' { inf := fset r.inf u false, count := r.count, agenda := a1 ++ a2,
                log := (y.time, u, false) :: r.log, trans := r.trans, seen := y.time :: r.seen } := by
  have hA := InvA_step hC.invA hstep
  have hB := InvB_step hC.invB hstep
  have hok := entryOK_step hW hC.entryOK hstep
  have hyq : y ∈ s.queue := by simp [hqs]
  obtain ⟨dead, hp, hdead⟩ := hC.perm
  subst hs'
  refine ⟨?_, hC.count_eq, ?_, hC.trans_eq, hA, hB, fun z hz => (hok z hz).2, fun z hz => (hok z hz).1, ?_, ?_⟩
  · simp only [hC.inf_eq]
  · simp only [hC.log_eq]
  · intro u' hi hr
    simp only [fset] at hi
    have hne : u' ≠ u := by intro h; simp [h] at hi
    simp only [hne, if_false] at hi
    have hz := hC.rec_in u' hi hr
    rw [hqs] at hz
    apply EvQ.mem_of_mid hz
    intro h; rw [← h] at hev; simp at hev; exact hne hev
  · refine ⟨dead, ?_, ?_⟩
    · have := perm_pop hqa hqs hp (tl := []) (by rw [expand_recov hev, headA_recov hev])
      simpa using this
    · intro a ha
      obtain ⟨src, v, he, hi, ht⟩ := hdead a ha
      refine ⟨src, v, he, ?_, ht⟩
      have hne : v ≠ u := by
        rintro rfl
        have h1 : y.time = s.recTime v := (hC.invB v).rt y hyq hev
        have h2 : a ∈ r.agenda := hp.mem_iff.2 (List.mem_append_right _ ha)
        rw [hqa] at h2
        simp only [List.mem_append, List.mem_cons] at h2
        rcases h2 with h2 | h2 | h2
        · have := hmin a (List.mem_append_left _ h2); linarith
        · rw [h2] at ht; simp at ht; linarith
        · have := hmin a (List.mem_append_right _ h2); linarith
      simp [fset, hne, hi]

/-- the popped attempt hits an infectious node: nothing happens, the chain is filtered and re-queued -/
theorem core_noop {P : SSParams} {infs : List Node} (hW : WF P infs) {s s' : SSState} {r : RefState} (hC : Core P s r)
    (hstep : step P s = some s')
    (hD : Dst P r) {y : SItem} {l1 l2 : List SItem} {a1 a2 : List AItem} {src : Option Node} {v : Node}
    {fut : List Rat}
    (hqs : s.queue = l1 ++ y :: l2) (hqa : r.agenda = a1 ++ headA y :: a2)
    (hev : y.ev = SEv.trans src v fut) (hinf : s.inf v = true)
    (hs' : s' = { inf := s.inf, recTime := s.recTime, count := s.count,
                  queue := l1 ++ l2 ++ reQ P.tmax src v (fut.filter (fun t => t > s.recTime v)),
                  log := s.log, trans := s.trans }) :
    Core P s' { inf := r.inf, count := r.count, agenda := a1 ++ a2, log := r.log, trans := r.trans,
                seen := y.time :: r.seen } := by
  have hA := InvA_step hC.invA hstep
  have hB := InvB_step hC.invB hstep
  have hok := entryOK_step hW hC.entryOK hstep
  have hyq : y ∈ s.queue := by simp [hqs]
  have hsort := hC.sorted y hyq src v fut hev
  have hfs : fut.Pairwise (· < ·) := hsort.of_cons
  have hyt := hC.ge_tmin y hyq
  obtain ⟨dead, hp, hdead⟩ := hC.perm
  subst hs'
  refine ⟨hC.inf_eq, hC.count_eq, hC.log_eq, hC.trans_eq, hA, hB, fun z hz => (hok z hz).2, fun z hz => (hok z hz).1,
    ?_, ?_⟩
  · exact fun u' hi hr => List.mem_append_left _ (hC.rec_rest hqs hev hi hr)
  · refine ⟨futA P.tmax src v (fut.filter (fun t => !decide (t > s.recTime v))) ++ dead, ?_, ?_⟩
    · have h1 := perm_pop hqa hqs hp (tl := futA P.tmax src v fut) (by rw [expand_trans hev, headA_trans hev])
      have h2 := futA_filter_perm P.tmax src v fut (fun t => t > s.recTime v)
      show (a1 ++ a2).Perm _
      rw [List.flatMap_append, reQ_expand src v (hfs.filter _)]
      apply List.perm_iff_count.2
      intro a
      have e1 := h1.count_eq a
      have e2 := h2.count_eq a
      simp only [List.count_append] at e1 e2 ⊢
      omega
    · intro a ha
      rcases List.mem_append.1 ha with ha | ha
      · obtain ⟨t, h1, h2, rfl⟩ := mem_futA ha
        have h3 := List.mem_filter.1 h1
        have h4 : t ≤ s.recTime v := by simpa using h3.2
        refine ⟨src, v, rfl, hinf, ?_⟩
        show t < s.recTime v
        rcases lt_or_eq_of_le h4 with h5 | h5
        · exact h5
        · exfalso
          have hr : s.recTime v < P.tmax := by rw [← h5]; exact h2
          have hz' := hC.rec_rest hqs hev hinf hr
          have hty : y.time < t := List.rel_of_pairwise_cons hsort h3.1
          apply Dst_contra hD hp (t := t) (by intro h; linarith)
          apply count_two_flatMap (expand P.tmax) (fun a => a.time) hqs hz'
            (a := ⟨t, AEv.attempt src v⟩) (b := ⟨s.recTime v, AEv.recov v⟩)
          · rw [expand_trans hev]; exact List.mem_cons_of_mem _ (futA_mono ha)
          · simp [expand, headA]
          · rfl
          · exact h5.symm
      · exact hdead a ha

/-- both sides execute the same infection -/
theorem core_infect {P : SSParams} {infs : List Node} (hW : WF P infs) {s s' : SSState} {r r' : RefState}
    (hC : Core P s r) (hstep : step P s = some s')
    {y : SItem} {l1 l2 : List SItem} {a1 a2 : List AItem} {src : Option Node} {v : Node} {fut : List Rat}
    (hqs : s.queue = l1 ++ y :: l2) (hqa : r.agenda = a1 ++ headA y :: a2)
    (hev : y.ev = SEv.trans src v fut) (hinf : s.inf v = false)
    (hs' : s' = { inf := fset s.inf v true, recTime := fset s.recTime v (y.time + P.dur v (s.count v)),
                  count := fset s.count v (s.count v + 1),
                  queue := l1 ++ l2 ++ newItems P s y.time v ++
                    reQ P.tmax src v (fut.filter (fun t => t > y.time + P.dur v (s.count v))),
                  log := (y.time, v, true) :: s.log, trans := (y.time, src, v) :: s.trans })
    (hr' : r' = { inf := fset r.inf v true, count := fset r.count v (r.count v + 1),
                  agenda := a1 ++ a2 ++ refNew P (r.count v) y.time v,
                  log := (y.time, v, true) :: r.log, trans := (y.time, src, v) :: r.trans,
                  seen := y.time :: r.seen })
    (hD' : Dst P r') : Core P s' r' := by
  have hA := InvA_step hC.invA hstep
  have hB := InvB_step hC.invB hstep
  have hok := entryOK_step hW hC.entryOK hstep
  have hyq : y ∈ s.queue := by simp [hqs]
  have hsort := hC.sorted y hyq src v fut hev
  have hfs : fut.Pairwise (· < ·) := hsort.of_cons
  have hyt := hC.ge_tmin y hyq
  have hcnt : r.count v = s.count v := by rw [hC.count_eq]
  obtain ⟨dead, hp, hdead⟩ := hC.perm
  have h1 := perm_pop hqa hqs hp (tl := futA P.tmax src v fut) (by rw [expand_trans hev, headA_trans hev])
  subst hs' hr'
  rw [hcnt] at hD' ⊢
  refine ⟨?_, ?_, ?_, ?_, hA, hB, fun z hz => (hok z hz).2, fun z hz => (hok z hz).1, ?_, ?_⟩
  · simp only [hC.inf_eq]
  · simp only [hC.count_eq]
  · simp only [hC.log_eq]
  · simp only [hC.trans_eq]
  · -- rec_in
    intro u' hi hr
    by_cases hu : u' = v
    · subst hu
      simp only [fset, if_true] at hr ⊢
      apply List.mem_append_left
      apply List.mem_append_right
      unfold newItems
      apply List.mem_append_left
      simp [hr]
    · simp only [fset, hu, if_false] at hi hr ⊢
      exact List.mem_append_left _ (List.mem_append_left _ (hC.rec_rest hqs hev hi hr))
  · -- perm
    refine ⟨dead ++ futA P.tmax src v (fut.filter (fun t => !decide (t > y.time + P.dur v (s.count v)))) ++
      (P.nbrs v).flatMap (fun w => attemptsOf P.tmax (some v) w
        (deadTimes (fset s.inf v true) (fset s.recTime v (y.time + P.dur v (s.count v))) w
          ((P.delays v w (s.count v)).map fun d => y.time + d))), ?_, ?_⟩
    · have h2 := futA_filter_perm P.tmax src v fut (fun t => t > y.time + P.dur v (s.count v))
      have h3 : ((P.nbrs v).flatMap (fun w => attemptsOf P.tmax (some v) w
            ((P.delays v w (s.count v)).map fun d => y.time + d))).Perm
          ((P.nbrs v).flatMap (fun w => attemptsOf P.tmax (some v) w
            (liveTimes (fset s.inf v true) (fset s.recTime v (y.time + P.dur v (s.count v))) w
              ((P.delays v w (s.count v)).map fun d => y.time + d))) ++
           (P.nbrs v).flatMap (fun w => attemptsOf P.tmax (some v) w
            (deadTimes (fset s.inf v true) (fset s.recTime v (y.time + P.dur v (s.count v))) w
              ((P.delays v w (s.count v)).map fun d => y.time + d)))) :=
        (List.Perm.flatMap_left _ (fun w _ => attemptsOf_live_dead_perm P.tmax (some v) w _ _ _)).trans
          (List.flatMap_append_perm _ _ _).symm
      show (a1 ++ a2 ++ refNew P (s.count v) y.time v).Perm _
      rw [List.flatMap_append, List.flatMap_append, newItems_expand hW, reQ_expand src v (hfs.filter _)]
      unfold refNew
      apply List.perm_iff_count.2
      intro a
      have e1 := h1.count_eq a
      have e2 := h2.count_eq a
      have e3 := h3.count_eq a
      simp only [List.count_append] at e1 e2 e3 ⊢
      omega
    · intro a ha
      rcases List.mem_append.1 ha with ha | ha
      · rcases List.mem_append.1 ha with ha | ha
        · -- old dead entries
          obtain ⟨src0, z, he, hi, ht⟩ := hdead a ha
          have hne : z ≠ v := by rintro rfl; rw [hinf] at hi; exact Bool.false_ne_true hi
          exact ⟨src0, z, he, by simp [fset, hne, hi], by simpa [fset, hne] using ht⟩
        · -- the rest of this chain that falls into the new infectious period
          obtain ⟨t, h4, h5, rfl⟩ := mem_futA ha
          have h6 := List.mem_filter.1 h4
          have h7 : t ≤ y.time + P.dur v (s.count v) := by simpa using h6.2
          refine ⟨src, v, rfl, by simp [fset], ?_⟩
          show t < fset s.recTime v (y.time + P.dur v (s.count v)) v
          simp only [fset, if_true]
          rcases lt_or_eq_of_le h7 with h8 | h8
          · exact h8
          · exfalso
            have hty : y.time < t := List.rel_of_pairwise_cons hsort h6.1
            have hin1 : (⟨t, AEv.attempt src v⟩ : AItem) ∈ a1 ++ a2 := by
              apply h1.mem_iff.2
              apply List.mem_append_right
              apply List.mem_append_left
              exact futA_mono ha
            have hin2 : (⟨t, AEv.recov v⟩ : AItem) ∈ refNew P (s.count v) y.time v := by
              unfold refNew
              apply List.mem_append_left
              rw [← h8]; simp [h5]
            exact hD'.no_tie rfl hin1 hin2 rfl (show t ≠ P.tmin by intro h; linarith)
      · -- attempts of the new infection that fall into a neighbour's current infectious period
        obtain ⟨w, hw, ha⟩ := List.mem_flatMap.1 ha
        have hne : w ≠ v := by rintro rfl; exact hW.noloop _ hw
        obtain ⟨t, h4, h5, rfl⟩ := mem_attemptsOf.1 ha
        unfold deadTimes at h4
        simp only [fset, hne, if_false] at h4
        split at h4
        · rename_i hiw
          have h6 := List.mem_filter.1 h4
          have h7 : t ≤ s.recTime w := by simpa using h6.2
          obtain ⟨d, hd, hdt⟩ := List.mem_map.1 h6.1
          have hdpos := hW.delay_pos v w _ d hd
          refine ⟨some v, w, rfl, by simp [fset, hne, hiw], ?_⟩
          show t < fset s.recTime v (y.time + P.dur v (s.count v)) w
          simp only [fset, hne, if_false]
          rcases lt_or_eq_of_le h7 with h8 | h8
          · exact h8
          · exfalso
            have hr : s.recTime w < P.tmax := by rw [← h8]; exact h5
            have hz' := hC.rec_rest hqs hev hiw hr
            have hin1 : (⟨s.recTime w, AEv.recov w⟩ : AItem) ∈ a1 ++ a2 := by
              apply h1.mem_iff.2
              apply List.mem_append_left
              apply List.mem_flatMap.2
              exact ⟨_, hz', by simp [expand, headA]⟩
            have hin2 : (⟨t, AEv.attempt (some v) w⟩ : AItem) ∈ refNew P (s.count v) y.time v := by
              unfold refNew
              apply List.mem_append_right
              apply List.mem_flatMap.2
              exact ⟨w, hw, mem_attemptsOf.2 ⟨t, h6.1, h5, rfl⟩⟩
            exact hD'.no_tie rfl hin1 hin2 h8.symm (show t ≠ P.tmin by intro h; linarith)
        · simp at h4

/-- if the lazy queue pops `y` and the agenda pops the head entry of `y`, both sides do the same thing -/
theorem sim_exec {P : SSParams} {infs : List Node} (hW : WF P infs) {s : SSState} {r r' : RefState}
    (hC : Core P s r) (hD : Dst P r) (hD' : Dst P r') (href : refStep P r = some r')
    {y : SItem} {qr : List SItem} (hpop : EvQ.gpop SItem.time s.queue = some (y, qr))
    {ar : List AItem} (hapop : EvQ.gpop AItem.time r.agenda = some (headA y, ar)) :
    ∃ s' nq na, step P s = some s' ∧ Core P s' r' ∧ s'.queue = qr ++ nq ∧ r'.agenda = ar ++ na ∧
      (∀ z ∈ nq, y.time < z.time) ∧ (∀ a ∈ na, y.time < a.time) := by
  cases hs : step P s with
  | none =>
    have := step_none hs
    rw [this] at hpop
    simp [EvQ.gpop, EvQ.gminTime] at hpop
  | some s' =>
    obtain ⟨x', l1, l2, hq, hl1, hl2, hc⟩ := step_cases hs
    have h1 := EvQ.gpop_of_min SItem.time hq hl1 hl2
    rw [hpop] at h1
    simp only [Option.some.injEq, Prod.mk.injEq] at h1
    obtain ⟨rfl, rfl⟩ := h1
    obtain ⟨x, a1, a2, hqa, ha1, ha2, hrc⟩ := refStep_cases href
    have h2 := EvQ.gpop_of_min AItem.time hqa ha1 ha2
    rw [hapop] at h2
    simp only [Option.some.injEq, Prod.mk.injEq] at h2
    obtain ⟨rfl, rfl⟩ := h2
    have hyq : y ∈ s.queue := by simp [hq]
    have hmin : ∀ a ∈ a1 ++ a2, y.time ≤ a.time := by
      intro a ha
      rcases List.mem_append.1 ha with ha | ha
      · have := ha1 a ha; simp at this; linarith
      · have := ha2 a ha; simpa using this
    simp only [headA_time] at hrc
    refine ⟨s', ?_⟩
    rcases hc with ⟨u, hev, hs'⟩ | ⟨src, v, fut, hev, hinf, hs'⟩ | ⟨src, v, fut, hev, hinf, hs'⟩
    · -- recovery
      have hx : (headA y).ev = AEv.recov u := by rw [headA_recov hev]
      rcases hrc with ⟨u', hev', hr'⟩ | ⟨src', v', hev', _, _⟩ | ⟨src', v', hev', _, _⟩
      · rw [hx] at hev'; cases hev'
        refine ⟨[], [], rfl, ?_, by rw [hs']; simp, by rw [hr']; simp, by simp, by simp⟩
        rw [hr']
        exact core_recov hW hC hs hq hqa hmin hev hs'
      · rw [hx] at hev'; cases hev'
      · rw [hx] at hev'; cases hev'
    · -- attempt on an infectious node
      have hx : (headA y).ev = AEv.attempt src v := by rw [headA_trans hev]
      rcases hrc with ⟨u', hev', _⟩ | ⟨src', v', hev', _, hr'⟩ | ⟨src', v', hev', hinf', _⟩
      · rw [hx] at hev'; cases hev'
      · rw [hx] at hev'; cases hev'
        refine ⟨reQ P.tmax src v (fut.filter (fun t => t > s.recTime v)), [], rfl, ?_, by rw [hs'], by rw [hr']; simp,
          reQ_gt (hC.sorted y hyq src v fut hev) _, by simp⟩
        rw [hr']
        exact core_noop hW hC hs hD hq hqa hev hinf hs'
      · rw [hx] at hev'; cases hev'
        rw [← hC.inf_eq, hinf] at hinf'; simp at hinf'
    · -- infection
      have hx : (headA y).ev = AEv.attempt src v := by rw [headA_trans hev]
      rcases hrc with ⟨u', hev', _⟩ | ⟨src', v', hev', hinf', _⟩ | ⟨src', v', hev', _, hr'⟩
      · rw [hx] at hev'; cases hev'
      · rw [hx] at hev'; cases hev'
        rw [← hC.inf_eq, hinf] at hinf'; simp at hinf'
      · rw [hx] at hev'; cases hev'
        refine ⟨newItems P s y.time v ++ reQ P.tmax src v (fut.filter (fun t => t > y.time + P.dur v (s.count v))),
          refNew P (r.count v) y.time v, rfl, core_infect hW hC hs hq hqa hev hinf hs' hr' hD',
          by rw [hs']; simp [List.append_assoc], by rw [hr'],
          List.forall_mem_append.2 ⟨newItems_gt hW s y.time v, reQ_gt (hC.sorted y hyq src v fut hev) _⟩,
          refNew_gt hW _ _ _⟩

def mkQ (tmin : Rat) (u : Node) : SItem := ⟨tmin, SEv.trans none u []⟩
def mkA (tmin : Rat) (u : Node) : AItem := ⟨tmin, AEv.attempt none u⟩

/-- the not yet executed initial infections are a common prefix; everything else is after `tmin` -/
def Split (P : SSParams) (s : SSState) (r : RefState) : Prop :=
  ∃ (l : List Node) (Q' : List SItem) (A' : List AItem), s.queue = l.map (mkQ P.tmin) ++ Q' ∧ r.agenda = l.map (mkA P.tmin) ++ A' ∧
    (∀ x ∈ Q', P.tmin < x.time) ∧ (∀ a ∈ A', P.tmin < a.time)

theorem sim_step {P : SSParams} {infs : List Node} (hW : WF P infs) {s : SSState} {r r' : RefState}
    (hC : Core P s r) (hS : Split P s r) (hD : Dst P r) (hD' : Dst P r') (href : refStep P r = some r') :
    (Core P s r' ∧ Split P s r') ∨ ∃ s', step P s = some s' ∧ Core P s' r' ∧ Split P s' r' := by
  obtain ⟨l, Q', A', hq, ha, hQ', hA'⟩ := hS
  cases l with
  | cons u0 rest =>
    right
    simp only [List.map_cons, List.cons_append] at hq ha
    have hpop : EvQ.gpop SItem.time s.queue = some (mkQ P.tmin u0, rest.map (mkQ P.tmin) ++ Q') := by
      rw [hq]
      exact EvQ.gpop_head _ (List.forall_mem_append.2
        ⟨fun z hz => by obtain ⟨u, _, rfl⟩ := List.mem_map.1 hz; exact le_refl _, fun z hz => le_of_lt (hQ' z hz)⟩)
    have hapop : EvQ.gpop AItem.time r.agenda = some (headA (mkQ P.tmin u0), rest.map (mkA P.tmin) ++ A') := by
      rw [ha]
      exact EvQ.gpop_head _ (List.forall_mem_append.2
        ⟨fun z hz => by obtain ⟨u, _, rfl⟩ := List.mem_map.1 hz; exact le_refl _, fun z hz => le_of_lt (hA' z hz)⟩)
    obtain ⟨s', nq, na, hs, hC', hq', ha', hnq, hna⟩ := sim_exec hW hC hD hD' href hpop hapop
    exact ⟨s', hs, hC', rest, Q' ++ nq, A' ++ na, by rw [hq', List.append_assoc], by rw [ha', List.append_assoc],
      List.forall_mem_append.2 ⟨hQ', hnq⟩, List.forall_mem_append.2 ⟨hA', hna⟩⟩
  | nil =>
    simp only [List.map_nil, List.nil_append] at hq ha
    obtain ⟨x, a1, a2, hqa, ha1, ha2, hrc⟩ := refStep_cases href
    obtain ⟨dead, hp, hdead⟩ := hC.perm
    have hxA : x ∈ r.agenda := by simp [hqa]
    have hsub : ∀ a ∈ a1 ++ a2, a ∈ r.agenda := fun a h => by rw [hqa]; exact EvQ.mem_mid h
    have hxmin : ∀ a ∈ r.agenda, x.time ≤ a.time := by
      intro a h
      rw [hqa] at h
      simp only [List.mem_append, List.mem_cons] at h
      rcases h with h | h | h
      · exact le_of_lt (ha1 a h)
      · rw [h]
      · exact ha2 a h
    by_cases hxd : x ∈ dead
    · left
      obtain ⟨src, v, he, hi, ht⟩ := hdead x hxd
      have hsplit : ∀ sn, Split P s
          { inf := r.inf, count := r.count, agenda := a1 ++ a2, log := r.log, trans := r.trans, seen := sn } :=
        fun sn => ⟨[], Q', a1 ++ a2, by simpa using hq, by simp, hQ', fun a h => hA' a (by rw [← ha]; exact hsub a h)⟩
      rcases hrc with ⟨u', hev', _⟩ | ⟨src', v', hev', _, hr'⟩ | ⟨src', v', hev', hinf', _⟩
      · rw [he] at hev'; simp at hev'
      · rw [hr']
        exact ⟨core_stutter hC hqa hp hdead hxd, hsplit _⟩
      · rw [he] at hev'; simp at hev'; obtain ⟨rfl, rfl⟩ := hev'
        rw [← hC.inf_eq, hi] at hinf'; simp at hinf'
    · right
      have hxL : x ∈ s.queue.flatMap (expand P.tmax) := by
        rcases List.mem_append.1 (hp.mem_iff.1 hxA) with h | h
        · exact h
        · exact absurd h hxd
      obtain ⟨y, hyq, hxy⟩ := List.mem_flatMap.1 hxL
      have hhead : ∀ z ∈ s.queue, headA z ∈ r.agenda := by
        intro z hz
        apply hp.mem_iff.2
        apply List.mem_append_left
        exact List.mem_flatMap.2 ⟨z, hz, by simp [expand]⟩
      have hxy' : x = headA y := by
        simp only [expand, List.mem_cons] at hxy
        rcases hxy with h | h
        · exact h
        · exfalso
          have h1 := hxmin _ (hhead y hyq)
          simp only [headA_time] at h1
          unfold tailA at h
          split at h
          · rename_i src v fut hev
            obtain ⟨t, h2, _, rfl⟩ := mem_futA h
            have := List.rel_of_pairwise_cons (hC.sorted y hyq src v fut hev) h2
            simp only at h1
            linarith
          · simp at h
      subst hxy'
      obtain ⟨q1, q2, hq12⟩ := List.append_of_mem hyq
      have hytm : P.tmin < y.time := hQ' y (by rw [← hq]; exact hyq)
      have hstrict : ∀ z ∈ q1 ++ q2, y.time < z.time := by
        intro z hz
        have hzq : z ∈ s.queue := by rw [hq12]; exact EvQ.mem_mid hz
        have h1 := hxmin _ (hhead z hzq)
        simp only [headA_time] at h1
        rcases lt_or_eq_of_le h1 with h2 | h2
        · exact h2
        · exfalso
          apply Dst_contra hD hp (t := y.time) (ne_of_gt hytm)
          exact count_two_flatMap (expand P.tmax) (fun a => a.time) hq12 hz
            (a := headA y) (b := headA z) (by simp [expand]) (by simp [expand]) (by simp) (by simp [h2])
      have hpop := EvQ.gpop_of_min SItem.time hq12 (fun z hz => hstrict z (List.mem_append_left _ hz))
        (fun z hz => le_of_lt (hstrict z (List.mem_append_right _ hz)))
      have hapop := EvQ.gpop_of_min AItem.time hqa ha1 ha2
      obtain ⟨s', nq, na, hs, hC', hq', ha', hnq, hna⟩ := sim_exec hW hC hD hD' href hpop hapop
      exact ⟨s', hs, hC', [], q1 ++ q2 ++ nq, a1 ++ a2 ++ na, by simpa using hq', by simpa using ha',
        List.forall_mem_append.2 ⟨fun z hz => lt_trans hytm (hstrict z hz), fun z hz => lt_trans hytm (hnq z hz)⟩,
        List.forall_mem_append.2 ⟨fun z hz => hA' z (by rw [← ha]; exact hsub z hz), fun z hz => lt_trans hytm (hna z hz)⟩⟩

theorem queue_nil_of_agenda_nil {P : SSParams} {s : SSState} {r : RefState} (hC : Core P s r) (h : r.agenda = []) :
    s.queue = [] := by
  obtain ⟨dead, hp, _⟩ := hC.perm
  rw [h] at hp
  have := hp.symm.eq_nil
  cases hq : s.queue with
  | nil => rfl
  | cons y q => rw [hq] at this; simp [expand] at this

/-- `m ≤ n`: a dead entry costs the reference a step and the lazy queue none -/
theorem sim_run {P : SSParams} {infs : List Node} (hW : WF P infs) (n : Nat) :
    ∀ (s : SSState) (r : RefState), Core P s r → Split P s r → (refLoop P n r).agenda = [] →
      distinctTimes P.tmin (refLoop P n r).seen = true →
      ∃ m, m ≤ n ∧ (loop P m s).queue = [] ∧ (loop P m s).log = (refLoop P n r).log ∧
        (loop P m s).trans = (refLoop P n r).trans := by
  induction n with
  | zero =>
    intro s r hC _ hfin _
    simp only [refLoop] at hfin ⊢
    exact ⟨0, le_refl _, queue_nil_of_agenda_nil hC hfin, hC.log_eq, hC.trans_eq⟩
  | succ n ih =>
    intro s r hC hS hfin hd
    have hD : Dst P r := Dst_of_final hfin hd
    simp only [refLoop] at hfin hd ⊢
    cases href : refStep P r with
    | none =>
      simp only [href] at hfin hd ⊢
      exact ⟨0, Nat.zero_le _, queue_nil_of_agenda_nil hC hfin, hC.log_eq, hC.trans_eq⟩
    | some r' =>
      simp only [href] at hfin hd ⊢
      have hD' : Dst P r' := Dst_of_final hfin hd
      rcases sim_step hW hC hS hD hD' href with ⟨hC', hS'⟩ | ⟨s', hs, hC', hS'⟩
      · obtain ⟨m, hm, h1, h2, h3⟩ := ih s r' hC' hS' hfin hd
        exact ⟨m, Nat.le_succ_of_le hm, h1, h2, h3⟩
      · obtain ⟨m, hm, h1, h2, h3⟩ := ih s' r' hC' hS' hfin hd
        refine ⟨m + 1, Nat.succ_le_succ hm, ?_⟩
        simp only [loop, hs]
        exact ⟨h1, h2, h3⟩

def refInit (P : SSParams) (infs : List Node) : RefState :=
  { inf := fun _ => false, count := fun _ => 0,
    agenda := infs.foldl (fun q u => aadd P.tmax q P.tmin (AEv.attempt none u)) [],
    log := [], trans := [], seen := [] }

theorem refInit_agenda (P : SSParams) (infs : List Node) :
    (refInit P infs).agenda = if P.tmin < P.tmax then infs.map (mkA P.tmin) else [] := by
  show infs.foldl (fun q u => aadd P.tmax q P.tmin (AEv.attempt none u)) [] = _
  simp only [aadd_eq]
  rw [EvQ.foldl_add, List.nil_append]; rfl

theorem Core_init {P : SSParams} (infs : List Node) : Core P (init P infs) (refInit P infs) := by
  have hq : (init P infs).queue = if P.tmin < P.tmax then infs.map (mkQ P.tmin) else [] := init_queue P infs
  have hmem : ∀ x ∈ (init P infs).queue, ∃ u, x = mkQ P.tmin u := fun x hx => by
    obtain ⟨u, _, rfl, _⟩ := mem_init_queue hx
    exact ⟨u, rfl⟩
  refine ⟨rfl, rfl, rfl, rfl, InvA_init P infs, InvB_init P infs, ?_, ?_, ?_, ?_⟩
  · intro x hx src v fut he
    obtain ⟨u, rfl⟩ := hmem x hx
    simp [mkQ] at he
    obtain ⟨_, _, rfl⟩ := he
    simp
  · intro x hx
    obtain ⟨u, rfl⟩ := hmem x hx
    exact le_refl _
  · intro u hi; simp [init] at hi
  · refine ⟨[], ?_, by simp⟩
    rw [refInit_agenda, hq]
    split
    · simp only [List.append_nil]
      rw [List.flatMap_map]
      have : ∀ l : List Node, l.flatMap (fun u => expand P.tmax (mkQ P.tmin u)) = l.map (mkA P.tmin) := by
        intro l
        induction l with
        | nil => rfl
        | cons u l ih =>
          rw [List.flatMap_cons, ih]
          simp [expand, headA, tailA, futA, mkQ, mkA]
      rw [this]
    · simp

theorem Split_init {P : SSParams} (infs : List Node) : Split P (init P infs) (refInit P infs) := by
  by_cases h : P.tmin < P.tmax
  · exact ⟨infs, [], [], by rw [init_queue]; simp [h, mkQ], by rw [refInit_agenda]; simp [h], by simp, by simp⟩
  · exact ⟨[], [], [], by rw [init_queue]; simp [h], by rw [refInit_agenda]; simp [h], by simp, by simp⟩

end EventSIS
