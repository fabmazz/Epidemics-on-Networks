import EoNVerif.Model.ReedFrost
import EoNVerif.Proofs.SumRat
import Mathlib.Tactic.Ring
import Mathlib.Algebra.Order.Field.Rat
/-!
Helper lemmas for C12b: the joint Reed–Frost law of one generation of the discrete-time simulators
(`ReedFrost.stepDist`, the sequential-draw model of the double loop of `discrete_SIR` / `basic_discrete_SIS`).
-/

/-! ### products of rationals -/

@[simp] theorem prodRat_nil : prodRat [] = 1 := rfl
@[simp] theorem prodRat_cons (a : Rat) (l : List Rat) : prodRat (a :: l) = a * prodRat l := rfl

theorem prodRat_append (l m : List Rat) : prodRat (l ++ m) = prodRat l * prodRat m := by
  induction l with
  | nil => simp
  | cons a t ih => simp [ih]; ring

theorem prodRat_map_congr {γ : Type} (l : List γ) (f g : γ → Rat) (h : ∀ c ∈ l, f c = g c) :
    prodRat (l.map f) = prodRat (l.map g) := by
  induction l with
  | nil => rfl
  | cons a t ih =>
    simp only [List.map_cons, prodRat_cons]
    rw [h a (by simp), ih (fun c hc => h c (by simp [hc]))]

theorem prodRat_perm {l m : List Rat} (h : l.Perm m) : prodRat l = prodRat m := by
  induction h with
  | nil => rfl
  | cons a _ ih => simp [ih]
  | swap a b l => simp; ring
  | trans _ _ ih1 ih2 => exact ih1.trans ih2

theorem prodRat_map_mul {γ : Type} (l : List γ) (f g : γ → Rat) :
    prodRat (l.map fun c => f c * g c) = prodRat (l.map f) * prodRat (l.map g) := by
  induction l with
  | nil => simp
  | cons a t ih => simp [ih]; ring

theorem prodRat_indicator {γ : Type} (l : List γ) (P : γ → Bool) :
    prodRat (l.map fun c => if P c then (1 : Rat) else 0) = if l.all P then 1 else 0 := by
  induction l with
  | nil => simp
  | cons a t ih =>
    simp only [List.map_cons, prodRat_cons, ih, List.all_cons]
    by_cases h : P a = true
    · simp only [h, if_true, one_mul, Bool.true_and]
    · rw [Bool.not_eq_true] at h
      simp only [h, Bool.false_eq_true, if_false, zero_mul, Bool.false_and]

theorem prodRat_nonneg {γ : Type} (l : List γ) (f : γ → Rat) (h : ∀ c ∈ l, 0 ≤ f c) :
    0 ≤ prodRat (l.map f) := by
  induction l with
  | nil => simp
  | cons a t ih =>
    simp only [List.map_cons, prodRat_cons]
    exact mul_nonneg (h a (by simp)) (ih (fun c hc => h c (by simp [hc])))

/-- if `h` differs from `f` and `g` only at one point `c` of a duplicate-free list, and is the affine combination
`a f + b g` there (`a + b = 1`), then the product of `h` is the same affine combination of the products -/
theorem prodRat_affine {γ : Type} [DecidableEq γ] (l : List γ) (hn : l.Nodup) (c : γ) (a b : Rat) (f g h : γ → Rat)
    (hf : ∀ v ∈ l, v ≠ c → f v = h v) (hg : ∀ v ∈ l, v ≠ c → g v = h v)
    (hc : h c = a * f c + b * g c) (hab : a + b = 1) :
    prodRat (l.map h) = a * prodRat (l.map f) + b * prodRat (l.map g) := by
  induction l with
  | nil => simp [hab]
  | cons x xs ih =>
    have hx : x ∉ xs := (List.nodup_cons.mp hn).1
    have hxs : xs.Nodup := (List.nodup_cons.mp hn).2
    simp only [List.map_cons, prodRat_cons]
    by_cases hxc : x = c
    · subst hxc
      have e1 : prodRat (xs.map f) = prodRat (xs.map h) :=
        prodRat_map_congr xs f h fun v hv => hf v (by simp [hv]) (fun e => hx (e ▸ hv))
      have e2 : prodRat (xs.map g) = prodRat (xs.map h) :=
        prodRat_map_congr xs g h fun v hv => hg v (by simp [hv]) (fun e => hx (e ▸ hv))
      rw [e1, e2, hc]; ring
    · rw [ih hxs (fun v hv => hf v (by simp [hv])) (fun v hv => hg v (by simp [hv])),
        hf x (by simp) hxc, hg x (by simp) hxc]
      ring

namespace ReedFrost
open Dist

/-! ### one contact -/

/-- effect of one contact followed by a continuation: only a contact with a currently susceptible node branches -/
theorem mass_contact_bind {β : Type} (p : Rat) (redraw : Bool) (sus : Node → Bool) (v : Node) (new : List Node)
    (f : List Node → Dist β) (Q : β → Bool) :
    mass (Dist.bind (contact p redraw sus v new) f) Q =
      if sus v && !new.contains v then p * mass (f (new ++ [v])) Q + (1 - p) * mass (f new) Q
      else mass (f new) Q := by
  unfold contact
  by_cases h1 : (sus v && !new.contains v) = true
  · rw [if_pos h1, if_pos h1, mass_bind_assoc, mass_bern_bind, mass_pure_bind, mass_pure_bind]
    simp
  · rw [if_neg h1, if_neg h1]
    by_cases h2 : (redraw && sus v) = true
    · rw [if_pos h2, mass_bind_assoc, mass_bern_bind, mass_pure_bind]
      ring
    · rw [if_neg h2, mass_pure_bind]

/-! ### the generalised (state-dependent) product formula -/

/-- factor of node `v` when the nodes in `new` have already been infected and the contacts `cs` remain -/
def G (p : Rat) (sus A : Node → Bool) (new cs : List Node) (v : Node) : Rat :=
  if new.contains v then (if A v then 1 else 0) else factor p sus A (fun w => cs.count w) v

theorem G_nil_left (p : Rat) (sus A : Node → Bool) (cs : List Node) (v : Node) :
    G p sus A [] cs v = factor p sus A (fun w => cs.count w) v := by
  simp [G]

theorem G_nil_right (p : Rat) (sus A : Node → Bool) (new : List Node) (v : Node) :
    G p sus A new [] v = if new.contains v == A v then 1 else 0 := by
  unfold G factor
  cases new.contains v <;> cases A v <;> cases sus v <;> simp

theorem G_cons_ne (p : Rat) (sus A : Node → Bool) (new cs : List Node) (c v : Node) (h : v ≠ c) :
    G p sus A new (c :: cs) v = G p sus A new cs v := by
  unfold G factor
  have : (c :: cs).count v = cs.count v := by
    rw [List.count_cons]; simp [Ne.symm h]
  simp only [this]

theorem G_snoc_ne (p : Rat) (sus A : Node → Bool) (new cs : List Node) (c v : Node) (h : v ≠ c) :
    G p sus A (new ++ [c]) cs v = G p sus A new cs v := by
  unfold G
  have : (new ++ [c]).contains v = new.contains v := by
    simp [List.contains_eq_mem, h]
  rw [this]

/-- the event `agrees` has mass the product of the state-dependent factors: the loop invariant of the inner loop -/
theorem mass_inner (p : Rat) (redraw : Bool) (sus A : Node → Bool) (nodes : List Node) (hn : nodes.Nodup) :
    ∀ (cs new : List Node),
      mass (inner p redraw sus cs new) (agrees nodes A) = prodRat (nodes.map (G p sus A new cs)) := by
  intro cs
  induction cs with
  | nil =>
    intro new
    rw [show inner p redraw sus [] new = Dist.pure new from rfl, mass_pure,
      show agrees nodes A new = nodes.all (fun v => new.contains v == A v) from rfl, ← prodRat_indicator]
    exact prodRat_map_congr _ _ _ fun v _ => (G_nil_right p sus A new v).symm
  | cons c cs ih =>
    intro new
    simp only [inner]
    rw [mass_contact_bind]
    by_cases h1 : (sus c && !new.contains c) = true
    · rw [if_pos h1, ih, ih]
      symm
      apply prodRat_affine nodes hn c p (1 - p)
      · intro v _ hvc
        rw [G_snoc_ne p sus A new cs c v hvc, G_cons_ne p sus A new cs c v hvc]
      · intro v _ hvc
        rw [G_cons_ne p sus A new cs c v hvc]
      · simp only [Bool.and_eq_true, Bool.not_eq_true'] at h1
        obtain ⟨hs, hc⟩ := h1
        have hc' : (new ++ [c]).contains c = true := by simp
        unfold G factor
        rw [hc, hc']
        simp only [hs, if_true, Bool.false_eq_true, if_false, List.count_cons_self]
        cases hA : A c
        · simp only [Bool.false_eq_true, if_false]; ring
        · simp only [if_true]; ring
      · ring
    · rw [if_neg h1, ih]
      apply prodRat_map_congr
      intro v _
      by_cases hvc : v = c
      · subst hvc
        unfold G
        by_cases hc : new.contains v = true
        · simp only [hc, if_true]
        · unfold factor
          have hs : sus v = false := by
            cases hsv : sus v
            · rfl
            · exfalso; apply h1; simp [hsv]; simpa using hc
          simp [hs]
      · exact (G_cons_ne p sus A new cs c v hvc).symm

/-! ### the double loop is the single loop over the flattened contact list -/

theorem mass_inner_append (p : Rat) (redraw : Bool) (sus : Node → Bool) (Q : List Node → Bool) (l2 : List Node) :
    ∀ (l1 new : List Node),
      mass (inner p redraw sus (l1 ++ l2) new) Q
        = mass (Dist.bind (inner p redraw sus l1 new) fun n => inner p redraw sus l2 n) Q := by
  intro l1
  induction l1 with
  | nil =>
    intro new
    rw [show inner p redraw sus [] new = Dist.pure new from rfl, mass_pure_bind]
    rfl
  | cons v l1 ih =>
    intro new
    rw [show inner p redraw sus (v :: l1 ++ l2) new
          = Dist.bind (contact p redraw sus v new) (fun n' => inner p redraw sus (l1 ++ l2) n') from rfl,
      show inner p redraw sus (v :: l1) new
          = Dist.bind (contact p redraw sus v new) (fun n' => inner p redraw sus l1 n') from rfl,
      mass_bind_assoc]
    exact mass_bind_congr _ _ _ _ _ fun a => ih a

theorem mass_outer (p : Rat) (redraw : Bool) (nbrs : Node → List Node) (sus : Node → Bool) (Q : List Node → Bool) :
    ∀ (us new : List Node),
      mass (outer p redraw nbrs sus us new) Q = mass (inner p redraw sus (us.flatMap nbrs) new) Q := by
  intro us
  induction us with
  | nil => intro new; rfl
  | cons u us ih =>
    intro new
    rw [show outer p redraw nbrs sus (u :: us) new
          = Dist.bind (inner p redraw sus (nbrs u) new) (fun n' => outer p redraw nbrs sus us n') from rfl,
      List.flatMap_cons, mass_inner_append]
    exact mass_bind_congr _ _ _ _ _ fun a => ih a

/-! ### the number of contacts, the factors of the susceptible nodes -/

theorem contacts_eq_infNbrs (nodes : List Node) (nbrs : Node → List Node) (infecteds : List Node)
    (hnb : ∀ u ∈ infecteds, (nbrs u).Nodup) (v : Node) :
    contacts nbrs infecteds v = Discrete.infNbrs nodes nbrs infecteds v := by
  unfold contacts Discrete.infNbrs
  induction infecteds with
  | nil => rfl
  | cons u us ih =>
    rw [List.flatMap_cons, List.count_append, ih (fun w hw => hnb w (by simp [hw])), List.filter_cons]
    have hu := hnb u (by simp)
    by_cases hv : v ∈ nbrs u
    · have : (nbrs u).contains v = true := by simpa using hv
      rw [if_pos this, List.length_cons, hu.count, if_pos hv]; omega
    · have : ¬ ((nbrs u).contains v = true) := by simpa using hv
      rw [if_neg this, hu.count, if_neg hv]; omega

theorem prod_factor_filter (p : Rat) (sus A : Node → Bool) (m : Node → Nat) (nodes : List Node)
    (hA : ∀ v ∈ nodes, A v = true → sus v = true) :
    prodRat (nodes.map (factor p sus A m))
      = prodRat ((nodes.filter sus).map fun v => if A v then Discrete.infProb p (m v) else (1 - p) ^ m v) := by
  induction nodes with
  | nil => rfl
  | cons x xs ih =>
    rw [List.map_cons, prodRat_cons, ih (fun v hv => hA v (by simp [hv])), List.filter_cons]
    cases hs : sus x
    · have : A x = false := by
        cases hAx : A x
        · rfl
        · have := hA x (by simp) hAx; rw [hs] at this; cases this
      simp [factor, hs, this]
    · simp [factor, hs, Discrete.infProb]

theorem contacts_perm (nbrs : Node → List Node) (i1 i2 : List Node) (h : i1.Perm i2) (v : Node) :
    contacts nbrs i1 v = contacts nbrs i2 v := by
  unfold contacts
  exact (h.flatMap_right nbrs).count_eq v

/-! ### support: the list of new infecteds is duplicate free and consists of susceptible contacted nodes -/

theorem mem_bind {α β : Type} (d : Dist α) (f : α → Dist β) (y : β × Rat) (h : y ∈ Dist.bind d f) :
    ∃ x ∈ d, ∃ z ∈ f x.1, y.1 = z.1 := by
  simp only [Dist.bind, List.mem_flatMap, List.mem_map] at h
  obtain ⟨x, hx, z, hz, rfl⟩ := h
  exact ⟨x, hx, z, hz, rfl⟩

/-- `new` is duplicate free and consists of susceptible nodes among the contacts `cs` made so far -/
def Good (sus : Node → Bool) (cs new : List Node) : Prop :=
  new.Nodup ∧ ∀ v ∈ new, sus v = true ∧ v ∈ cs

theorem contact_good (p : Rat) (redraw : Bool) (sus : Node → Bool) (c : Node) (pre new : List Node)
    (hg : Good sus pre new) (y : List Node × Rat) (hy : y ∈ contact p redraw sus c new) :
    Good sus (pre ++ [c]) y.1 := by
  have hmono : Good sus (pre ++ [c]) new :=
    ⟨hg.1, fun v hv => ⟨(hg.2 v hv).1, by simp [(hg.2 v hv).2]⟩⟩
  unfold contact at hy
  by_cases h1 : (sus c && !new.contains c) = true
  · rw [if_pos h1] at hy
    simp only [Bool.and_eq_true, Bool.not_eq_true'] at h1
    obtain ⟨x, _, z, hz, e⟩ := mem_bind _ _ y hy
    rw [e]
    simp only [Dist.pure, List.mem_singleton] at hz
    subst hz
    obtain ⟨b, q⟩ := x
    cases b
    · exact hmono
    · simp only [if_true]
      have hc : c ∉ new := by simpa using h1.2
      refine ⟨List.nodup_append.mpr ⟨hg.1, by simp, ?_⟩, ?_⟩
      · intro a ha b hb
        simp only [List.mem_singleton] at hb
        subst hb
        exact fun e => hc (e ▸ ha)
      · intro v hv
        rcases List.mem_append.mp hv with hv | hv
        · exact hmono.2 v hv
        · simp only [List.mem_singleton] at hv
          subst hv
          exact ⟨h1.1, by simp⟩
  · rw [if_neg h1] at hy
    by_cases h2 : (redraw && sus c) = true
    · rw [if_pos h2] at hy
      obtain ⟨x, _, z, hz, e⟩ := mem_bind _ _ y hy
      rw [e]
      simp only [Dist.pure, List.mem_singleton] at hz
      subst hz
      exact hmono
    · rw [if_neg h2] at hy
      simp only [Dist.pure, List.mem_singleton] at hy
      subst hy
      exact hmono

/-- `Good` through a loop of `Dist.bind`s: the body for `a` makes the contacts `seg a` -/
theorem good_fold {α : Type} {sus : Node → Bool} {D : α → List Node → Dist (List Node)}
    {DF : List α → List Node → Dist (List Node)} {seg : α → List Node} (hnil : ∀ new, DF [] new = Dist.pure new)
    (hcons : ∀ a l new, DF (a :: l) new = Dist.bind (D a new) fun n => DF l n)
    (h : ∀ a pre new, Good sus pre new → ∀ y ∈ D a new, Good sus (pre ++ seg a) y.1) :
    ∀ l pre new, Good sus pre new → ∀ y ∈ DF l new, Good sus (pre ++ l.flatMap seg) y.1 := by
  intro l
  induction l with
  | nil =>
    intro pre new hg y hy
    rw [hnil] at hy
    simp only [Dist.pure, List.mem_singleton] at hy
    subst hy
    simpa using hg
  | cons a l ih =>
    intro pre new hg y hy
    rw [hcons] at hy
    obtain ⟨x, hx, z, hz, e⟩ := mem_bind _ _ y hy
    rw [e]
    simpa using ih (pre ++ seg a) x.1 (h a pre new hg x hx) z hz

theorem outer_good (p : Rat) (redraw : Bool) (nbrs : Node → List Node) (sus : Node → Bool) :
    ∀ (us pre new : List Node), Good sus pre new →
      ∀ y ∈ outer p redraw nbrs sus us new, Good sus (pre ++ us.flatMap nbrs) y.1 := by
  refine good_fold (fun _ => rfl) (fun _ _ _ => rfl) fun u pre new hg y hy => ?_
  have := good_fold (DF := inner p redraw sus) (seg := fun v => [v]) (fun _ => rfl) (fun _ _ _ => rfl)
    (contact_good p redraw sus) (nbrs u) pre new hg y hy
  rwa [List.flatMap_singleton'] at this

end ReedFrost
