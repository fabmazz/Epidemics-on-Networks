import EoNVerif.Gen.PercGen
import EoNVerif.Proofs.Perc
import EoNVerif.Proofs.GenDiscrete
import EoNVerif.Proofs.AssocList
import EoNVerif.Proofs.DegList
import Mathlib.Data.List.Induction
/-!
The code GENERATED from the percolation builders / estimators of EoN (`Gen/PercGen.lean`, namespace `GenPerc`) against the
hand model `Model/Perc.lean`: helper definitions and lemmas for `Props/C17c.lean`, in `namespace GenPercProofs` (`GenPerc` is
the namespace of the generated code).  What is ASSUMED about networkx is the structure `NXSpecAt` (`NXSpec` on every well-formed
digraph), and `CCSpec` for `connected_components`.
-/
open PyPM
open TM (Takes arr_app_assoc arr_push_app)

namespace GenPercProofs

/-! ### the monad `PM` -/

def err {α : Type} (e : String) : PM α := fun _ _ => .error e

@[simp] theorem liftE_ok {α : Type} (a : α) : (PyPM.liftE (.ok a) : PM α) = pure a := rfl
@[simp] theorem liftE_pure {α : Type} (a : α) : (PyPM.liftE (pure a) : PM α) = pure a := rfl
@[simp] theorem liftE_error {α : Type} (e : String) : (PyPM.liftE (.error e) : PM α) = err e := rfl
@[simp] theorem liftE_throw {α : Type} (e : String) : (PyPM.liftE (throw e) : PM α) = err e := rfl
@[simp] theorem fail_eq {α : Type} (e : String) : (PyPM.fail e : PM α) = err e := rfl
@[simp] theorem err_bind {α β : Type} (e : String) (f : α → PM β) : (err e >>= f) = err e := rfl
theorem pure_run {α : Type} (a : α) (s : PSt) (ts : TapeSt) : (pure a : PM α) s ts = .ok ((a, s), ts) := rfl
theorem err_run {α : Type} (e : String) (s : PSt) (ts : TapeSt) : (err e : PM α) s ts = .error e := rfl

theorem liftE_bind {α β : Type} (x : Except String α) (f : α → Except String β) :
    (PyPM.liftE (x >>= f) : PM β) = PyPM.liftE x >>= fun a => PyPM.liftE (f a) := by
  cases x <;> rfl

theorem liftE_ite {α : Type} (c : Bool) (x y : Except String α) :
    (PyPM.liftE (if c then x else y) : PM α) = if c then PyPM.liftE x else PyPM.liftE y := by
  cases c <;> rfl

theorem liftE_foldlM {α β : Type} (f : β → α → Except String β) (l : List α) : ∀ (init : β),
    (PyPM.liftE (l.foldlM f init) : PM β) = l.foldlM (fun b a => PyPM.liftE (f b a)) init := by
  induction l with
  | nil => intro init; rfl
  | cons a t ih =>
    intro init
    rw [List.foldlM_cons, List.foldlM_cons, liftE_bind]
    simp only [ih]

/-! ### `_out_component_`, `_in_component_` as `Except` computations -/

open GenDiscrete (mem_setOf setOf_nodup)

theorem union_spec (b : List Node) : ∀ (a : List Node), a.Nodup →
    (union a b).Nodup ∧ ∀ v, v ∈ union a b ↔ v ∈ a ∨ v ∈ b :=
  fun a h => GenDiscrete.setOf_spec_aux b a h

/-- the accumulation loop of `_out_component_` / `_in_component_` -/
def compStep (D : Node → Except String (List Node)) (acc : List Node) (node : Node) : Except String (List Node) := do
  let r ← D node
  pure (union acc (PyDM.setOf r))

/-- `_out_component_` / `_in_component_` in `Except`: `D` is `descendants` resp. `ancestors` -/
def compE (iter : List Node → List Node) (D : Node → Except String (List Node)) (G : DiG) (source : Src) :
    Except String (List Node) := do
  let src ← (if hasNodeS G source then singletonS source else setOfS source)
  (iter src).foldlM (compStep D) (union [] src)

theorem out_component_eq (X : NX) (G : DiG) (source : Src) :
    GenPerc.out_component X G source = PyPM.liftE (compE X.iter (X.descendants G) G source) := by
  unfold GenPerc.out_component compE compStep
  simp only [liftE_bind, liftE_ite, liftE_foldlM, liftE_pure, bind_pure]

theorem in_component_eq (X : NX) (G : DiG) (target : Src) :
    GenPerc.in_component X G target = PyPM.liftE (compE X.iter (X.ancestors G) G target) := by
  unfold GenPerc.in_component compE compStep
  simp only [liftE_bind, liftE_ite, liftE_foldlM, liftE_pure, bind_pure]

theorem compLoop_ok (D : Node → Except String (List Node)) (R : Node → Node → Prop) (l : List Node)
    (hD : ∀ x ∈ l, ∃ d, D x = .ok d ∧ ∀ v, v ∈ d ↔ R x v) : ∀ (acc : List Node), acc.Nodup →
    ∃ r, l.foldlM (compStep D) acc = .ok r ∧ r.Nodup ∧ ∀ v, v ∈ r ↔ v ∈ acc ∨ ∃ x ∈ l, R x v := by
  induction l with
  | nil => intro acc h; exact ⟨acc, rfl, h, by simp⟩
  | cons a t ih =>
    intro acc h
    obtain ⟨d, hd, hd'⟩ := hD a (List.mem_cons_self ..)
    obtain ⟨hn, hu⟩ := union_spec (PyDM.setOf d) acc h
    obtain ⟨r, hr, hrn, hr'⟩ := ih (fun x hx => hD x (List.mem_cons_of_mem _ hx)) _ hn
    refine ⟨r, ?_, hrn, fun v => ?_⟩
    · rw [List.foldlM_cons]
      unfold compStep at hr ⊢
      rw [hd]
      exact hr
    · rw [hr', hu, mem_setOf, hd']
      simp only [List.mem_cons, exists_eq_or_imp]
      exact or_assoc

theorem compLoop_err (D : Node → Except String (List Node)) (e : String) (l : List Node)
    (hD : ∀ x ∈ l, (∃ d, D x = .ok d) ∨ D x = .error e) (hbad : ∃ x ∈ l, D x = .error e) : ∀ (acc : List Node),
    l.foldlM (compStep D) acc = .error e := by
  induction l with
  | nil => obtain ⟨x, hx, _⟩ := hbad; cases hx
  | cons a t ih =>
    intro acc
    rw [List.foldlM_cons]
    unfold compStep
    rcases hD a (List.mem_cons_self ..) with ⟨d, hd⟩ | hd
    · rw [hd]
      obtain ⟨x, hx, hxe⟩ := hbad
      rcases List.mem_cons.1 hx with rfl | hx'
      · rw [hd] at hxe; cases hxe
      · exact ih (fun y hy => hD y (List.mem_cons_of_mem _ hy)) ⟨x, hx', hxe⟩ _
    · rw [hd]; rfl

/-! ### digraphs -/

theorem hasNode_iff (H : DiG) (u : Node) : H.hasNode u = true ↔ u ∈ H.nodeList := (mem_alKeys_iff H.nodes u).symm

theorem hasNode_false_iff (H : DiG) (u : Node) : H.hasNode u = false ↔ u ∉ H.nodeList := by
  rw [← hasNode_iff]; simp

theorem mem_succ (H : DiG) (u v : Node) : v ∈ H.succ u ↔ (u, v) ∈ H.edges.map (·.1) := by
  unfold DiG.succ
  simp only [List.mem_map, List.mem_filter, beq_iff_eq]
  constructor
  · rintro ⟨e, ⟨he, h1⟩, h2⟩; exact ⟨e, he, by rw [← h1, ← h2]⟩
  · rintro ⟨e, he, h⟩; exact ⟨e, ⟨he, by rw [h]⟩, by rw [h]⟩

structure HWF (H : DiG) : Prop where
  nodup : H.nodeList.Nodup
  edge_mem : ∀ e ∈ H.edges, e.1.1 ∈ H.nodeList ∧ e.1.2 ∈ H.nodeList

theorem HWF.wf {H : DiG} (h : HWF H) : Perc.WF H.nodeList H.succ := by
  refine ⟨h.nodup, fun u _ v hv => ?_⟩
  rw [mem_succ] at hv
  obtain ⟨e, he, h1⟩ := List.mem_map.1 hv
  have := (h.edge_mem e he).2
  rw [h1] at this; exact this

theorem nodes_ne_nil {H : DiG} {u : Node} (h : u ∈ H.nodeList) : H.nodes ≠ [] := by
  intro h0; unfold DiG.nodeList at h; rw [h0] at h; cases h

/-! ### the assumed meaning of the networkx routines -/

/-- what the translated code assumes about `nx.descendants`, `nx.ancestors`, `nx.strongly_connected_components` on the
digraph `H`, and about the iteration order of a `set` -/
structure NXSpecAt (X : NX) (H : DiG) : Prop where
  /-- iterating over a set visits every element once -/
  iter : ∀ s, (X.iter s).Perm s
  /-- `nx.descendants(H, u)`: the nodes other than `u` reachable from `u` -/
  desc : ∀ u, H.hasNode u = true → ∃ l, X.descendants H u = .ok l ∧
    ∀ v, v ∈ l ↔ (v ≠ u ∧ Perc.reach H.nodeList H.succ u v = true)
  desc_err : ∀ u, H.hasNode u = false → X.descendants H u = .error "NetworkXError"
  /-- `nx.ancestors(H, u)`: the nodes other than `u` from which `u` is reachable -/
  anc : ∀ u, H.hasNode u = true → ∃ l, X.ancestors H u = .ok l ∧
    ∀ v, v ∈ l ↔ (v ≠ u ∧ Perc.reach H.nodeList H.succ v u = true)
  anc_err : ∀ u, H.hasNode u = false → X.ancestors H u = .error "NetworkXError"
  /-- every yielded component is a duplicate-free listing of the strongly connected component of each of its nodes -/
  scc_mem : ∀ c ∈ X.sccs H, c ≠ [] ∧ c.Nodup ∧ ∀ u ∈ c, u ∈ H.nodeList ∧ ∀ v, v ∈ c ↔ v ∈ Perc.scc H.nodeList H.succ u
  /-- every node is in a yielded component -/
  scc_cover : ∀ u ∈ H.nodeList, ∃ c ∈ X.sccs H, u ∈ c

def NXSpec (X : NX) : Prop := ∀ H, HWF H → NXSpecAt X H

/-- what `NXSpecAt` says of `descendants` and of `ancestors`, for a relation `R` (reachability, forwards resp. backwards)
that holds between a node and itself: on a node of `H` the routine lists the other nodes related to it, elsewhere it raises -/
structure Lists (H : DiG) (D : Node → Except String (List Node)) (R : Node → Node → Prop) : Prop where
  ok : ∀ u, H.hasNode u = true → ∃ l, D u = .ok l ∧ ∀ v, v ∈ l ↔ (v ≠ u ∧ R u v)
  err : ∀ u, H.hasNode u = false → D u = .error "NetworkXError"
  refl : ∀ u, H.hasNode u = true → R u u

theorem NXSpecAt.lists_desc {X : NX} {H : DiG} (h : NXSpecAt X H) :
    Lists H (X.descendants H) fun u v => Perc.reach H.nodeList H.succ u v = true :=
  ⟨h.desc, h.desc_err, fun u hu => Perc.reach_self ((hasNode_iff H u).1 hu)⟩

theorem NXSpecAt.lists_anc {X : NX} {H : DiG} (h : NXSpecAt X H) :
    Lists H (X.ancestors H) fun u v => Perc.reach H.nodeList H.succ v u = true :=
  ⟨h.anc, h.anc_err, fun u hu => Perc.reach_self ((hasNode_iff H u).1 hu)⟩

/-! ### the components under that meaning -/

section comp
variable {iter : List Node → List Node} (hiter : ∀ s, (iter s).Perm s) {H : DiG} {D : Node → Except String (List Node)}
  {R : Node → Node → Prop} (h : Lists H D R)
include hiter h

theorem compE_ok {source : Src} {src : List Node}
    (hsrc : (if hasNodeS H source then singletonS source else setOfS source) = .ok src)
    (hin : ∀ x ∈ src, H.hasNode x = true) :
    ∃ r, compE iter D H source = .ok r ∧ r.Nodup ∧ ∀ v, v ∈ r ↔ ∃ x ∈ src, R x v := by
  obtain ⟨h0, hu⟩ := union_spec src [] List.nodup_nil
  obtain ⟨r, hr, hrn, hr'⟩ := compLoop_ok D (fun x v => v ≠ x ∧ R x v) (iter src)
    (fun x hx => h.ok x (hin x ((hiter src).mem_iff.1 hx))) _ h0
  refine ⟨r, by unfold compE; rw [hsrc]; exact hr, hrn, fun v => ?_⟩
  rw [hr', hu]
  simp only [List.not_mem_nil, false_or, (hiter src).mem_iff]
  constructor
  · rintro (hv | ⟨x, hx, _, hR⟩)
    · exact ⟨v, hv, h.refl v (hin v hv)⟩
    · exact ⟨x, hx, hR⟩
  · rintro ⟨x, hx, hR⟩
    by_cases hv : v = x
    · exact Or.inl (hv ▸ hx)
    · exact Or.inr ⟨x, hx, hv, hR⟩

theorem compE_node {u : Node} (hu : H.hasNode u = true) :
    ∃ r, compE iter D H (Sum.inl u) = .ok r ∧ r.Nodup ∧ ∀ v, v ∈ r ↔ R u v := by
  have hsrc : (if hasNodeS H (Sum.inl u) then singletonS (Sum.inl u) else setOfS (Sum.inl u)) = .ok [u] := by
    simp only [hasNodeS, hu, if_true]; rfl
  obtain ⟨r, hr, hrn, hr'⟩ := compE_ok hiter h hsrc (fun x hx => List.mem_singleton.1 hx ▸ hu)
  exact ⟨r, hr, hrn, fun v => by rw [hr']; simp only [List.mem_singleton, exists_eq_left]⟩

theorem compE_list {l : List Node} (hl : ∀ u ∈ l, H.hasNode u = true) :
    ∃ r, compE iter D H (Sum.inr l) = .ok r ∧ r.Nodup ∧ ∀ v, v ∈ r ↔ ∃ u ∈ l, R u v := by
  obtain ⟨r, hr, hrn, hr'⟩ := compE_ok hiter h (source := Sum.inr l) rfl (fun x hx => hl x ((mem_setOf l x).1 hx))
  exact ⟨r, hr, hrn, fun v => by rw [hr']; simp only [mem_setOf]⟩

theorem compE_list_err {l : List Node} (hbad : ∃ u ∈ l, H.hasNode u = false) :
    compE iter D H (Sum.inr l) = .error "NetworkXError" := by
  obtain ⟨u, hu, hu'⟩ := hbad
  refine compLoop_err D _ (iter (PyDM.setOf l)) (fun x _ => ?_)
    ⟨u, (hiter _).mem_iff.2 ((mem_setOf l u).2 hu), h.err u hu'⟩ _
  cases hx : H.hasNode x
  · exact Or.inr (h.err x hx)
  · obtain ⟨d, hd, _⟩ := h.ok x hx; exact Or.inl ⟨d, hd⟩

end comp

/-- a single node that is not in the graph is not iterable -/
theorem compE_absent (iter : List Node → List Node) (D : Node → Except String (List Node)) (H : DiG) (u : Node)
    (hu : H.hasNode u = false) : compE iter D H (Sum.inl u) = .error "TypeError" := by
  unfold compE; simp only [hasNodeS, hu]; rfl

theorem perm_filter_reach {nodes : List Node} (hnd : nodes.Nodup) {p : Node → Bool} {r : List Node} (hr : r.Nodup)
    (hp : ∀ v, p v = true → v ∈ nodes) (hm : ∀ v, v ∈ r ↔ p v = true) : r.Perm (nodes.filter p) := by
  rw [List.perm_ext_iff_of_nodup hr (hnd.filter _)]
  intro v; rw [hm, List.mem_filter]
  exact ⟨fun hv => ⟨hp v hv, hv⟩, fun hv => hv.2⟩

/-! ### `estimate_SIR_prob_size_from_dir_perc` -/

/-- `estimate_SIR_prob_size_from_dir_perc` in `Except` -/
def estE (X : NX) (H : DiG) : Except String (Rat × Rat) := do
  let Hscc ← maxByLen (X.sccs H)
  let u ← PyRT.pyIndex (X.iter Hscc) 0
  let inC ← compE X.iter (X.ancestors H) H (Sum.inl u)
  let outC ← compE X.iter (X.descendants H) H (Sum.inl u)
  let PE ← PyTM.fdiv (((inC.length : Int) : Int) : Rat) ((H.order : Int) : Rat)
  let AR ← PyTM.fdiv (((outC.length : Int) : Int) : Rat) ((H.order : Int) : Rat)
  pure (PE, AR)

theorem estimate_eq (X : NX) (H : DiG) : GenPerc.estimate_from_dir_perc X H = PyPM.liftE (estE X H) := by
  unfold GenPerc.estimate_from_dir_perc estE
  simp only [liftE_bind, liftE_pure, in_component_eq, out_component_eq]

theorem maxByLen_ok (l : List (List Node)) (hl : l ≠ []) :
    ∃ m, maxByLen l = .ok m ∧ m ∈ l ∧ ∀ c ∈ l, c.length ≤ m.length := by
  cases l with
  | nil => exact absurd rfl hl
  | cons x xs =>
    refine ⟨_, rfl, ?_⟩
    clear hl
    induction xs generalizing x with
    | nil => simp
    | cons y t ih =>
      rw [List.foldl_cons]
      by_cases h : y.length > x.length
      · rw [if_pos h]
        obtain ⟨h1, h2⟩ := ih y
        have hy := h2 y (List.mem_cons_self ..)
        refine ⟨List.mem_cons_of_mem _ h1, fun c hc => ?_⟩
        rcases List.mem_cons.1 hc with rfl | hc
        · exact Nat.le_trans (Nat.le_of_lt h) hy
        · exact h2 c hc
      · rw [if_neg h]
        obtain ⟨h1, h2⟩ := ih x
        have hx := h2 x (List.mem_cons_self ..)
        refine ⟨?_, fun c hc => ?_⟩
        · rcases List.mem_cons.1 h1 with h1 | h1
          · rw [h1]; exact List.mem_cons_self ..
          · exact List.mem_cons_of_mem _ (List.mem_cons_of_mem _ h1)
        · rcases List.mem_cons.1 hc with rfl | hc
          · exact hx
          · rcases List.mem_cons.1 hc with rfl | hc
            · exact Nat.le_trans (Nat.le_of_not_gt h) hx
            · exact h2 c (List.mem_cons_of_mem _ hc)

theorem pyIndex_zero {α : Type} (l : List α) (hl : l ≠ []) : ∃ x, PyRT.pyIndex l 0 = .ok x ∧ x ∈ l := by
  cases l with
  | nil => exact absurd rfl hl
  | cons x xs =>
    refine ⟨x, ?_, List.mem_cons_self ..⟩
    have h : ¬ ((0 : Int) < 0 ∨ (0 : Int) ≥ ((x :: xs).length : Int)) := by
      rw [List.length_cons]; omega
    unfold PyRT.pyIndex
    simp only [Int.lt_irrefl, if_false] at h ⊢
    rw [if_neg h]
    rfl

theorem foldl_max_mono {l1 l2 : List Nat} (h : ∀ x ∈ l1, x ∈ l2) : l1.foldl max 0 ≤ l2.foldl max 0 :=
  (Helpers.foldl_max_le_iff l1 0 _).2 ⟨Nat.zero_le _, fun x hx => (Helpers.le_foldl_max l2 0).2 x (h x hx)⟩

theorem foldl_max_congr {l1 l2 : List Nat} (h : ∀ x, x ∈ l1 ↔ x ∈ l2) : l1.foldl max 0 = l2.foldl max 0 :=
  Nat.le_antisymm (foldl_max_mono fun x => (h x).1) (foldl_max_mono fun x => (h x).2)

theorem cover_max {cs : List (List Node)} {nodes : List Node} {f : Node → Nat}
    (hlen : ∀ c ∈ cs, ∀ x ∈ c, f x = c.length) (hsub : ∀ c ∈ cs, c ≠ [] ∧ ∀ x ∈ c, x ∈ nodes)
    (hcover : ∀ x ∈ nodes, ∃ c ∈ cs, x ∈ c) :
    (cs.map List.length).foldl max 0 = (nodes.map f).foldl max 0 := by
  apply foldl_max_congr
  intro n
  simp only [List.mem_map]
  constructor
  · rintro ⟨c, hc, rfl⟩
    obtain ⟨x, hx⟩ := List.exists_mem_of_ne_nil c (hsub c hc).1
    exact ⟨x, (hsub c hc).2 x hx, hlen c hc x hx⟩
  · rintro ⟨x, hx, rfl⟩
    obtain ⟨c, hc, hxc⟩ := hcover x hx
    exact ⟨c, hc, (hlen c hc x hxc).symm⟩

theorem maxScc_length (X : NX) (H : DiG) (hX : NXSpecAt X H) (hnd : H.nodeList.Nodup) (m : List Node)
    (hm : m ∈ X.sccs H) (hmax : ∀ c ∈ X.sccs H, c.length ≤ m.length) (u : Node) (hu : u ∈ m) :
    (Perc.scc H.nodeList H.succ u).length = Perc.maxSccSize H.nodeList H.succ := by
  have hlen : ∀ c ∈ X.sccs H, ∀ x ∈ c, (Perc.scc H.nodeList H.succ x).length = c.length := by
    intro c hc x hx
    obtain ⟨_, hcn, hc'⟩ := hX.scc_mem c hc
    exact ((List.perm_ext_iff_of_nodup hcn (hnd.filter _)).2 (hc' x hx).2).length_eq.symm
  unfold Perc.maxSccSize
  rw [← cover_max hlen (fun c hc => ⟨(hX.scc_mem c hc).1, fun x hx => ((hX.scc_mem c hc).2.2 x hx).1⟩) hX.scc_cover,
    hlen m hm u hu]
  apply Nat.le_antisymm
  · exact (Helpers.le_foldl_max _ 0).2 _ (List.mem_map.2 ⟨m, hm, rfl⟩)
  · refine (Helpers.foldl_max_le_iff _ 0 _).2 ⟨Nat.zero_le _, fun d hd => ?_⟩
    obtain ⟨c, hc, rfl⟩ := List.mem_map.1 hd
    exact hmax c hc

theorem estE_empty (X : NX) (H : DiG) (hX : NXSpecAt X H) (h : H.nodes = []) : estE X H = .error "ValueError" := by
  have : X.sccs H = [] := by
    apply List.eq_nil_iff_forall_not_mem.2
    intro c hc
    obtain ⟨hne, _, hc'⟩ := hX.scc_mem c hc
    obtain ⟨x, hx⟩ := List.exists_mem_of_ne_nil c hne
    exact nodes_ne_nil (hc' x hx).1 h
  unfold estE; rw [this]; rfl

theorem estE_ok (X : NX) (H : DiG) (hX : NXSpecAt X H) (hnd : H.nodeList.Nodup) (hne : H.nodes ≠ []) :
    ∃ u, u ∈ H.nodeList ∧ (Perc.scc H.nodeList H.succ u).length = Perc.maxSccSize H.nodeList H.succ ∧
      estE X H = .ok (((Perc.inC H.nodeList H.succ u).length : Rat) / (H.nodeList.length : Rat),
        ((Perc.outC H.nodeList H.succ u).length : Rat) / (H.nodeList.length : Rat)) := by
  have hsne : X.sccs H ≠ [] := by
    cases hn : H.nodes with
    | nil => exact absurd hn hne
    | cons p t =>
      obtain ⟨c, hc, _⟩ := hX.scc_cover p.1 (by unfold DiG.nodeList; rw [hn]; exact List.mem_cons_self ..)
      exact List.ne_nil_of_mem hc
  obtain ⟨m, hm, hmm, hmax⟩ := maxByLen_ok _ hsne
  obtain ⟨hmne, _, hm'⟩ := hX.scc_mem m hmm
  have hine : X.iter m ≠ [] := fun h =>
    hmne (List.length_eq_zero_iff.1 (by rw [← (hX.iter m).length_eq, h]; rfl))
  obtain ⟨u, hu, hum⟩ := pyIndex_zero (X.iter m) hine
  have hum' : u ∈ m := (hX.iter m).mem_iff.1 hum
  have hun : u ∈ H.nodeList := (hm' u hum').1
  have huh : H.hasNode u = true := (hasNode_iff H u).2 hun
  obtain ⟨ri, hri, hrin, hri'⟩ := compE_node hX.iter hX.lists_anc huh
  obtain ⟨ro, hro, hron, hro'⟩ := compE_node hX.iter hX.lists_desc huh
  refine ⟨u, hun, maxScc_length X H hX hnd m hmm hmax u hum', ?_⟩
  have hli : ri.length = (Perc.inC H.nodeList H.succ u).length :=
    (perm_filter_reach hnd hrin (fun v hv => Perc.reach_src_mem hv) hri').length_eq
  have hlo : ro.length = (Perc.outC H.nodeList H.succ u).length :=
    (perm_filter_reach hnd hron (fun v hv => Perc.reach_mem hv) hro').length_eq
  have hN : ((H.order : Int) : Rat) = (H.nodeList.length : Rat) := by
    unfold DiG.order DiG.nodeList; simp
  have hN0 : ((H.nodeList.length : Nat) : Rat) ≠ 0 := by
    have : H.nodeList.length ≠ 0 := fun h => nodes_ne_nil hun (List.map_eq_nil_iff.1 (List.length_eq_zero_iff.1 h))
    exact_mod_cast this
  unfold estE
  rw [hm]
  simp only [bind, Except.bind]
  rw [hu]
  simp only [hri, hro, hN, hli, hlo, PyTM.fdiv, if_neg hN0]
  simp only [pure, Except.pure, Int.cast_natCast]

/-! ### the specification is satisfiable: the reachability model (the instance the test driver uses) -/

def pred (H : DiG) (u : Node) : List Node := (H.edges.filter (fun e => e.1.2 == u)).map (·.1.1)

/-- a copy of `DrvGenPerc.mkNX` (`DriverPerc.lean`; the driver cannot import a `Proofs` file, so the two are kept in step by
hand, `pred` above included): reachability by the fixed-point iteration of `Model/Perc.lean`; `sccs?` optionally overrides
the generator order of the components -/
def mkNX (sccs? : Option (List (List Node))) : NX :=
  { descendants := fun H u =>
      if H.hasNode u then pure ((Perc.reachFrom H.nodeList H.succ [u]).filter (· != u)) else throw "NetworkXError",
    ancestors := fun H u =>
      if H.hasNode u then pure ((Perc.reachFrom H.nodeList (pred H) [u]).filter (· != u)) else throw "NetworkXError",
    sccs := fun H => match sccs? with
      | some l => l
      | none => (H.nodeList.foldl (fun (acc : List (List Node)) u =>
          if acc.any (·.contains u) then acc else acc ++ [Perc.scc H.nodeList H.succ u]) []),
    ccs := fun nodes edges =>
      let succ := fun u => (edges.filterMap fun e => if e.1 = u then some e.2 else if e.2 = u then some e.1 else none)
      nodes.foldl (fun (acc : List (List Node)) u =>
        if acc.any (·.contains u) then acc else acc ++ [Perc.reachFrom nodes succ [u]]) [],
    iter := fun s => s }

theorem mem_pred (H : DiG) (u v : Node) : v ∈ pred H u ↔ (v, u) ∈ H.edges.map (·.1) := by
  unfold pred
  simp only [List.mem_map, List.mem_filter, beq_iff_eq]
  constructor
  · rintro ⟨e, ⟨he, h1⟩, h2⟩; exact ⟨e, he, by rw [← h1, ← h2]⟩
  · rintro ⟨e, he, h⟩; exact ⟨e, ⟨he, by rw [h]⟩, by rw [h]⟩

theorem HWF.wf_pred {H : DiG} (h : HWF H) : Perc.WF H.nodeList (pred H) := by
  refine ⟨h.nodup, fun u _ v hv => ?_⟩
  rw [mem_pred] at hv
  obtain ⟨e, he, h1⟩ := List.mem_map.1 hv
  have := (h.edge_mem e he).1
  rw [h1] at this; exact this

theorem reach_pred {H : DiG} (h : HWF H) (u v : Node) :
    Perc.reach H.nodeList (pred H) u v = true ↔ Perc.reach H.nodeList H.succ v u = true := by
  have h12 : ∀ a b, b ∈ pred H a → a ∈ H.succ b := fun a b hb => (mem_succ H b a).2 ((mem_pred H a b).1 hb)
  have h21 : ∀ a b, b ∈ H.succ a → a ∈ pred H b := fun a b hb => (mem_pred H b a).2 ((mem_succ H a b).1 hb)
  constructor
  · intro hr
    exact (Perc.reach_iff_path h.wf (Perc.reach_mem hr) u).2
      (((Perc.reach_iff_path h.wf_pred (Perc.reach_src_mem hr) v).1 hr).rev h12)
  · intro hr
    exact (Perc.reach_iff_path h.wf_pred (Perc.reach_mem hr) v).2
      (((Perc.reach_iff_path h.wf (Perc.reach_src_mem hr) u).1 hr).rev h21)

/-- the driver's component loop: a node not yet in a listed component contributes its own -/
def ccStep (comp : Node → List Node) (acc : List (List Node)) (u : Node) : List (List Node) :=
  if acc.any (·.contains u) then acc else acc ++ [comp u]

theorem ccStep_spec (comp : Node → List Node) (acc : List (List Node)) (a : Node) (ha : a ∈ comp a) :
    (∀ c ∈ ccStep comp acc a, c ∈ acc ∨ c = comp a) ∧ (∀ c ∈ acc, c ∈ ccStep comp acc a) ∧
      ∃ c ∈ ccStep comp acc a, a ∈ c := by
  unfold ccStep
  split
  · rename_i hany
    obtain ⟨c, hc, hca⟩ := List.any_eq_true.1 hany
    exact ⟨fun c hc => Or.inl hc, fun c hc => hc, c, hc, List.contains_iff_mem.1 hca⟩
  · exact ⟨fun c hc => (List.mem_append.1 hc).imp_right List.mem_singleton.1, fun c hc => List.mem_append_left _ hc,
      _, List.mem_append_right _ (List.mem_singleton.2 rfl), ha⟩

theorem ccFold_spec (comp : Node → List Node) (l : List Node) (hl : ∀ u ∈ l, u ∈ comp u) :
    ∀ (acc : List (List Node)),
      (∀ c ∈ l.foldl (ccStep comp) acc, c ∈ acc ∨ ∃ u ∈ l, c = comp u) ∧
      (∀ c ∈ acc, c ∈ l.foldl (ccStep comp) acc) ∧
      (∀ u ∈ l, ∃ c ∈ l.foldl (ccStep comp) acc, u ∈ c) := by
  induction l with
  | nil => intro acc; exact ⟨fun c hc => Or.inl hc, fun c hc => hc, fun u hu => (by cases hu)⟩
  | cons a t ih =>
    intro acc
    obtain ⟨s1, s2, c0, hc0, hac0⟩ := ccStep_spec comp acc a (hl a (List.mem_cons_self ..))
    obtain ⟨h1, h2, h3⟩ := ih (fun u hu => hl u (List.mem_cons_of_mem _ hu)) (ccStep comp acc a)
    rw [List.foldl_cons]
    refine ⟨fun c hc => ?_, fun c hc => h2 c (s2 c hc), fun u hu => ?_⟩
    · rcases h1 c hc with h | ⟨u, hu, h⟩
      · exact (s1 c h).imp_right fun h => ⟨a, List.mem_cons_self .., h⟩
      · exact Or.inr ⟨u, List.mem_cons_of_mem _ hu, h⟩
    · rcases List.mem_cons.1 hu with rfl | hu
      · exact ⟨c0, h2 c0 hc0, hac0⟩
      · exact h3 u hu

theorem mem_scc_self {nodes : List Node} {succ : Node → List Node} {u : Node} (hu : u ∈ nodes) :
    u ∈ Perc.scc nodes succ u := Perc.mem_scc.2 ⟨hu, Perc.reach_self hu, Perc.reach_self hu⟩

/-- **`NXSpec` is satisfiable**: on every well-formed digraph the copy of the driver's instance meets the specification -/
theorem mkNX_spec (H : DiG) (h : HWF H) : NXSpecAt (mkNX none) H := by
  have hfold := ccFold_spec (Perc.scc H.nodeList H.succ) H.nodeList (fun u hu => mem_scc_self hu) []
  refine ⟨fun s => List.Perm.refl s, ?_, ?_, ?_, ?_, ?_, hfold.2.2⟩
  · intro u hu
    refine ⟨(Perc.reachFrom H.nodeList H.succ [u]).filter (· != u), ?_, fun v => ?_⟩
    · show (if H.hasNode u then _ else _) = _
      rw [hu]; rfl
    · rw [List.mem_filter, bne_iff_ne, and_comm, Perc.reach, List.contains_iff_mem]
  · intro u hu
    show (if H.hasNode u then _ else _) = _
    rw [hu]; rfl
  · intro u hu
    refine ⟨(Perc.reachFrom H.nodeList (pred H) [u]).filter (· != u), ?_, fun v => ?_⟩
    · show (if H.hasNode u then _ else _) = _
      rw [hu]; rfl
    · rw [← reach_pred h, List.mem_filter, bne_iff_ne, and_comm, Perc.reach, List.contains_iff_mem]
  · intro u hu
    show (if H.hasNode u then _ else _) = _
    rw [hu]; rfl
  · intro c hc
    rcases hfold.1 c hc with h0 | ⟨u0, hu0, rfl⟩
    · cases h0
    · refine ⟨List.ne_nil_of_mem (mem_scc_self hu0), h.nodup.filter _, fun u hu => ?_⟩
      obtain ⟨hun, h1, h2⟩ := Perc.mem_scc.1 hu
      refine ⟨hun, fun v => ?_⟩
      rw [Perc.mem_scc, Perc.mem_scc]
      exact ⟨fun ⟨hv, a, b⟩ => ⟨hv, Perc.reach_trans h.wf h2 a, Perc.reach_trans h.wf b h1⟩,
        fun ⟨hv, a, b⟩ => ⟨hv, Perc.reach_trans h.wf h1 a, Perc.reach_trans h.wf b h2⟩⟩

/-! ### `add_node` / `add_edge` on association lists -/

section al
variable {κ β : Type} [DecidableEq κ]

/-- insert a key with an optional attribute: a new key goes last, an existing one keeps its place and, when an attribute is
given, gets it -/
def alIns (l : List (κ × Option β)) (k : κ) (a : Option β) : List (κ × Option β) :=
  if alHas l k then (match a with | some d => alSet l k (some d) | none => l) else l ++ [(k, a)]

/-- `PyDM.setAdd` for any key type -/
def kIns (l : List κ) (k : κ) : List κ := if k ∈ l then l else l ++ [k]

theorem mem_kIns (l : List κ) (k x : κ) : x ∈ kIns l k ↔ x ∈ l ∨ x = k := by
  unfold kIns
  split
  · rename_i h; exact ⟨Or.inl, fun h' => h'.elim id fun e => e ▸ h⟩
  · rw [List.mem_append, List.mem_singleton]

theorem nodup_kIns (l : List κ) (k : κ) (h : l.Nodup) : (kIns l k).Nodup := by
  unfold kIns
  split
  · exact h
  · rename_i hk
    rw [← List.concat_eq_append]; exact h.concat hk

theorem keys_alIns (l : List (κ × Option β)) (k : κ) (a : Option β) : (alIns l k a).map (·.1) = kIns (l.map (·.1)) k := by
  unfold alIns kIns
  by_cases h : alHas l k = true
  · have hk : k ∈ l.map (·.1) := (mem_alKeys_iff l k).2 h
    rw [if_pos h, if_pos hk]
    cases a with
    | none => rfl
    | some d => simp only [keys_alSet, if_pos hk]
  · have hk : k ∉ l.map (·.1) := fun h' => h ((mem_alKeys_iff l k).1 h')
    rw [if_neg h, if_neg hk, List.map_append]; rfl

theorem mem_alIns (l : List (κ × Option β)) (k : κ) (a : Option β) (p : κ × Option β) (hp : p ∈ alIns l k a) :
    p ∈ l ∨ p = (k, a) := by
  unfold alIns at hp
  split at hp
  · cases a with
    | none => exact Or.inl hp
    | some d => exact mem_alSet hp
  · exact (List.mem_append.1 hp).imp_right List.mem_singleton.1

theorem alIns_keep (l : List (κ × Option β)) (k : κ) (a : Option β) (p : κ × Option β) (hp : p ∈ l)
    (hk : p.1 ≠ k ∨ a = none) : p ∈ alIns l k a := by
  unfold alIns
  split
  · cases a with
    | none => exact hp
    | some d => exact mem_alSet_of_ne k (some d) hp (hk.resolve_right (fun h => by cases h))
  · exact List.mem_append_left _ hp

theorem alIns_some (l : List (κ × Option β)) (k : κ) (d : β) : (k, some d) ∈ alIns l k (some d) := by
  unfold alIns
  split
  · exact mem_alSet_self l k (some d)
  · exact List.mem_append_right _ (List.mem_singleton.2 rfl)

end al

theorem addNode_nodes (H : DiG) (u : Node) (a : Option ERat) : (H.addNode u a).nodes = alIns H.nodes u a := by
  unfold DiG.addNode alIns
  split
  · cases a <;> rfl
  · rfl

theorem addNode_edges (H : DiG) (u : Node) (a : Option ERat) : (H.addNode u a).edges = H.edges := by
  unfold DiG.addNode
  split
  · cases a <;> rfl
  · rfl

theorem addEdge_nodes (H : DiG) (u v : Node) (a : Option ERat) :
    (H.addEdge u v a).nodes = alIns (alIns H.nodes u none) v none := by
  rw [← addNode_nodes, ← addNode_nodes]
  unfold DiG.addEdge
  dsimp only
  split
  · cases a <;> rfl
  · rfl

theorem addEdge_edges (H : DiG) (u v : Node) (a : Option ERat) : (H.addEdge u v a).edges = alIns H.edges (u, v) a := by
  have h : ((H.addNode u none).addNode v none).edges = H.edges := by rw [addNode_edges, addNode_edges]
  unfold DiG.addEdge alIns
  dsimp only
  rw [h]
  split
  · cases a with
    | none => exact h
    | some d => rfl
  · rfl

/-! ### the pure core of the builders: a list of `add_node` / `add_edge` calls -/

def ekeys (H : DiG) : List (Node × Node) := H.edges.map (·.1)

/-- one call of `add_node` (with its optional `duration`) or `add_edge` (with its optional `delay_to_infection`) -/
inductive Op where
  | node (u : Node) (a : Option ERat)
  | edge (u v : Node) (a : Option ERat)

/-- the nodes a call creates when they are missing -/
def Op.ends : Op → List Node
  | .node u _ => [u]
  | .edge u v _ => [u, v]

def applyOp (H : DiG) : Op → DiG
  | .node u a => H.addNode u a
  | .edge u v a => H.addEdge u v a

def build (ops : List Op) : DiG := ops.foldl applyOp DiG.empty

theorem build_snoc (ops : List Op) (op : Op) : build (ops ++ [op]) = applyOp (build ops) op := by
  unfold build; rw [List.foldl_append]; rfl

def keysOf (H : DiG) : List Node × List (Node × Node) := (H.nodeList, ekeys H)

def kApply (K : List Node × List (Node × Node)) : Op → List Node × List (Node × Node)
  | .node u _ => (kIns K.1 u, K.2)
  | .edge u v _ => (kIns (kIns K.1 u) v, kIns K.2 (u, v))

theorem nodeList_addNode (H : DiG) (u : Node) (a : Option ERat) : (H.addNode u a).nodeList = kIns H.nodeList u := by
  unfold DiG.nodeList; rw [addNode_nodes, keys_alIns]

theorem ekeys_addNode (H : DiG) (u : Node) (a : Option ERat) : ekeys (H.addNode u a) = ekeys H := by
  unfold ekeys; rw [addNode_edges]

theorem nodeList_addEdge (H : DiG) (u v : Node) (a : Option ERat) :
    (H.addEdge u v a).nodeList = kIns (kIns H.nodeList u) v := by
  unfold DiG.nodeList; rw [addEdge_nodes, keys_alIns, keys_alIns]

theorem ekeys_addEdge (H : DiG) (u v : Node) (a : Option ERat) : ekeys (H.addEdge u v a) = kIns (ekeys H) (u, v) := by
  unfold ekeys; rw [addEdge_edges, keys_alIns]

theorem keysOf_applyOp (H : DiG) (op : Op) : keysOf (applyOp H op) = kApply (keysOf H) op := by
  cases op with
  | node u a =>
    show ((H.addNode u a).nodeList, ekeys (H.addNode u a)) = (kIns H.nodeList u, ekeys H)
    rw [nodeList_addNode, ekeys_addNode]
  | edge u v a =>
    show ((H.addEdge u v a).nodeList, ekeys (H.addEdge u v a)) = (kIns (kIns H.nodeList u) v, kIns (ekeys H) (u, v))
    rw [nodeList_addEdge, ekeys_addEdge]

structure Built (ops : List Op) (B : DiG) : Prop where
  nodup : B.nodeList.Nodup
  enodup : (ekeys B).Nodup
  mem_node : ∀ x, x ∈ B.nodeList ↔ ∃ op ∈ ops, x ∈ op.ends
  mem_edge : ∀ u v, (u, v) ∈ ekeys B ↔ ∃ a, Op.edge u v a ∈ ops
  edge_attr : ∀ e ∈ B.edges, Op.edge e.1.1 e.1.2 e.2 ∈ ops
  node_attr : ∀ p ∈ B.nodes, p.2 = none ∨ Op.node p.1 p.2 ∈ ops

theorem exists_mem_snoc {ops : List Op} {op : Op} {P : Op → Prop} :
    (∃ o ∈ ops ++ [op], P o) ↔ (∃ o ∈ ops, P o) ∨ P op := by
  simp only [List.mem_append, List.mem_singleton, or_and_right, exists_or, exists_eq_left]

theorem built_node {ops : List Op} {B : DiG} (h : Built ops B) (u : Node) (a : Option ERat) :
    Built (ops ++ [.node u a]) (B.addNode u a) := by
  have h1 := nodeList_addNode B u a
  have h2 := ekeys_addNode B u a
  have hold : ∀ {o : Op}, o ∈ ops → o ∈ ops ++ [.node u a] := fun h => List.mem_append_left _ h
  refine ⟨?_, ?_, fun x => ?_, fun x y => ?_, fun e he => ?_, fun p hp => ?_⟩
  · rw [h1]; exact nodup_kIns _ _ h.nodup
  · rw [h2]; exact h.enodup
  · rw [h1, mem_kIns, h.mem_node, exists_mem_snoc]; exact or_congr Iff.rfl List.mem_singleton.symm
  · rw [h2, h.mem_edge]
    refine ⟨fun ⟨b, hb⟩ => ⟨b, hold hb⟩, fun ⟨b, hb⟩ => ⟨b, (List.mem_append.1 hb).resolve_right fun h => ?_⟩⟩
    cases List.mem_singleton.1 h
  · rw [addNode_edges] at he; exact hold (h.edge_attr e he)
  · rw [addNode_nodes] at hp
    rcases mem_alIns _ _ _ _ hp with hp | hp
    · exact (h.node_attr p hp).imp_right hold
    · rw [hp]; exact Or.inr (List.mem_append_right _ (List.mem_singleton.2 rfl))

theorem built_edge {ops : List Op} {B : DiG} (h : Built ops B) (u v : Node) (a : Option ERat) :
    Built (ops ++ [.edge u v a]) (B.addEdge u v a) := by
  have h1 := nodeList_addEdge B u v a
  have h2 := ekeys_addEdge B u v a
  have hold : ∀ {o : Op}, o ∈ ops → o ∈ ops ++ [.edge u v a] := fun h => List.mem_append_left _ h
  have hnew : Op.edge u v a ∈ ops ++ [.edge u v a] := List.mem_append_right _ (List.mem_singleton.2 rfl)
  refine ⟨?_, ?_, fun x => ?_, fun x y => ?_, fun e he => ?_, fun p hp => ?_⟩
  · rw [h1]; exact nodup_kIns _ _ (nodup_kIns _ _ h.nodup)
  · rw [h2]; exact nodup_kIns _ _ h.enodup
  · rw [h1, mem_kIns, mem_kIns, h.mem_node, exists_mem_snoc, or_assoc]
    exact or_congr Iff.rfl (by simp only [Op.ends, List.mem_cons, List.not_mem_nil, or_false])
  · rw [h2, mem_kIns, h.mem_edge]
    constructor
    · rintro (⟨b, hb⟩ | hxy)
      · exact ⟨b, hold hb⟩
      · rw [Prod.mk.injEq] at hxy; rw [hxy.1, hxy.2]; exact ⟨a, hnew⟩
    · rintro ⟨b, hb⟩
      rcases List.mem_append.1 hb with hb | hb
      · exact Or.inl ⟨b, hb⟩
      · injection List.mem_singleton.1 hb with e1 e2; exact Or.inr (by rw [e1, e2])
  · rw [addEdge_edges] at he
    rcases mem_alIns _ _ _ _ he with he | he
    · exact hold (h.edge_attr e he)
    · rw [he]; exact hnew
  · -- an end point created by `add_edge` carries no attribute
    rw [addEdge_nodes] at hp
    rcases mem_alIns _ _ _ _ hp with hp | hp
    · rcases mem_alIns _ _ _ _ hp with hp | hp
      · exact (h.node_attr p hp).imp_right hold
      · exact Or.inl (by rw [hp])
    · exact Or.inl (by rw [hp])

theorem build_spec (ops : List Op) : Built ops (build ops) := by
  induction ops using List.reverseRecOn with
  | nil =>
    exact ⟨List.nodup_nil, List.nodup_nil, fun x => ⟨fun h => (by cases h), fun ⟨_, h, _⟩ => (by cases h)⟩,
      fun u v => ⟨fun h => (by cases h), fun ⟨_, h⟩ => (by cases h)⟩, fun e he => (by cases he), fun p hp => (by cases hp)⟩
  | append_singleton ops op ih =>
    rw [build_snoc]
    cases op with
    | node u a => exact built_node ih u a
    | edge u v a => exact built_edge ih u v a

theorem build_hwf (ops : List Op) : HWF (build ops) := by
  have h := build_spec ops
  refine ⟨h.nodup, fun e he => ?_⟩
  have ho := h.edge_attr e he
  exact ⟨(h.mem_node _).2 ⟨_, ho, List.mem_cons_self ..⟩,
    (h.mem_node _).2 ⟨_, ho, List.mem_cons_of_mem _ (List.mem_cons_self ..)⟩⟩

/-- a `duration` written by `add_node` survives if every `add_node` of that node writes the same one: `add_edge` creates a
missing end point without attribute and leaves an existing one alone -/
theorem build_some (u : Node) (d : ERat) (ops : List Op) (hall : ∀ a, Op.node u a ∈ ops → a = some d)
    (hex : Op.node u (some d) ∈ ops) : (u, some d) ∈ (build ops).nodes := by
  induction ops using List.reverseRecOn with
  | nil => cases hex
  | append_singleton ops op ih =>
    have hprev : Op.node u (some d) ∈ ops ∨ op = Op.node u (some d) :=
      (List.mem_append.1 hex).imp_right fun h => (List.mem_singleton.1 h).symm
    have ih' := ih (fun a ha => hall a (List.mem_append_left _ ha))
    rw [build_snoc]
    cases op with
    | node u' a =>
      rw [show (applyOp (build ops) (.node u' a)).nodes = _ from addNode_nodes ..]
      by_cases hu : u' = u
      · subst hu
        rw [hall a (List.mem_append_right _ (List.mem_singleton.2 rfl))]
        exact alIns_some _ _ _
      · exact alIns_keep _ _ _ _ (ih' (hprev.resolve_right fun h => by injection h with h; exact hu h))
          (Or.inl fun h => hu h.symm)
    | edge x y a =>
      rw [show (applyOp (build ops) (.edge x y a)).nodes = _ from addEdge_nodes ..]
      have := ih' (hprev.resolve_right fun h => by cases h)
      exact alIns_keep _ _ _ _ (alIns_keep _ _ _ _ this (Or.inr rfl)) (Or.inr rfl)

/-! ### the builders: first all the answers of the time functions, then a pure construction -/

section monad
variable {m : Type → Type} [Monad m] [LawfulMonad m] {α β γ : Type}

def foldl2 (g : γ → α → β → γ) : γ → List α → List β → γ
  | acc, x :: xs, t :: ts => foldl2 g (g acc x t) xs ts
  | acc, _, _ => acc

theorem foldlM_collect (c : α → m β) (g : γ → α → β → γ) (l : List α) : ∀ (init : γ),
    l.foldlM (fun acc x => c x >>= fun t => pure (g acc x t)) init =
      l.mapM c >>= fun ts => pure (foldl2 g init l ts) := by
  induction l with
  | nil => intro init; simp only [List.foldlM_nil, List.mapM_nil, pure_bind, foldl2]
  | cons x xs ih =>
    intro init
    rw [List.foldlM_cons]
    simp only [List.mapM_cons, bind_assoc, pure_bind, ih, foldl2]

theorem foldl2_eq_zip (g : γ → α → β → γ) (l : List α) : ∀ (ts : List β) (init : γ),
    foldl2 g init l ts = (l.zip ts).foldl (fun acc p => g acc p.1 p.2) init := by
  induction l with
  | nil => intro ts init; cases ts <;> rfl
  | cons x xs ih =>
    intro ts init
    cases ts with
    | nil => rfl
    | cons t ts => simp only [foldl2, List.zip_cons_cons, List.foldl_cons, ih]
end monad

def attr (w : Bool) (t : ERat) : Option ERat := if w then some t else none

/-- one neighbour `v` of `u` with its delay `t`: the edge is kept iff `t ≤ duration` -/
def edgeStep (w : Bool) (u : Node) (dur : ERat) (H : DiG) (v : Node) (t : ERat) : DiG :=
  if ERat.le t dur then H.addEdge u v (attr w t) else H

def rowStep (w : Bool) (nbrs : Node → List Node) (H : DiG) (u : Node) (a : ERat × List ERat) : DiG :=
  foldl2 (edgeStep w u a.1) (H.addNode u (attr w a.1)) (nbrs u) a.2

/-- the digraph `nonMarkov_directed_percolate_network_with_timing` builds from the answers, positionally:
`answers[i] = (duration of nodes[i], delays to its neighbours in order)` -/
def buildL (w : Bool) (C : Contact) (answers : List (ERat × List ERat)) : DiG :=
  foldl2 (rowStep w C.nbrs) DiG.empty C.nodes answers

/-- the calls for one node: `rec_time_fxn(u)`, then `trans_time_fxn(u, v)` per neighbour -/
def rowM (nbrs : Node → List Node) (tt : Node → Node → PM ERat) (rt : Node → PM ERat) (u : Node) :
    PM (ERat × List ERat) := do
  let d ← rt u
  let ds ← (nbrs u).mapM (tt u)
  pure (d, ds)

def answersM (C : Contact) (tt : Node → Node → PM ERat) (rt : Node → PM ERat) : PM (List (ERat × List ERat)) :=
  C.nodes.mapM (rowM C.nbrs tt rt)

theorem with_timing_eq (X : NX) (C : Contact) (tt : Node → Node → PM ERat) (rt : Node → PM ERat) (w : Bool) :
    GenPerc.with_timing X C tt rt w = answersM C tt rt >>= fun a => pure (buildL w C a) := by
  -- the double loop, for any way `na`, `ea` of turning a time into an attribute
  have key : ∀ (na ea : ERat → Option ERat), C.nodes.foldlM (fun (acc : DiG) (u : Node) => (do
        let d ← rt u
        let H ← (C.nbrs u).foldlM (fun (acc : DiG) (v : Node) => (do
          let t ← tt u v
          let H ← (if (ERat.le t d) then (pure (acc.addEdge u v (ea t)) : PM DiG) else pure acc)
          pure H)) (acc.addNode u (na d))
        pure H)) DiG.empty =
      answersM C tt rt >>= fun a => pure (foldl2 (fun H u (a : ERat × List ERat) =>
        foldl2 (fun H v t => if ERat.le t a.1 then H.addEdge u v (ea t) else H) (H.addNode u (na a.1)) (C.nbrs u) a.2)
        DiG.empty C.nodes a) := by
    intro na ea
    unfold answersM rowM
    rw [← foldlM_collect]
    congr 1
    funext acc u
    rw [bind_assoc]
    congr 1
    funext d
    simp only [bind_assoc, pure_bind]
    rw [← foldlM_collect (tt u) (fun (H : DiG) v t => if ERat.le t d then H.addEdge u v (ea t) else H)]
    congr 1
    funext acc v
    congr 1
    funext t
    cases ERat.le t d <;> rfl
  -- `buildL false` / `buildL true` are these folds for no attributes / for the times themselves
  cases w
  · unfold GenPerc.with_timing
    simp only [Bool.false_eq_true, if_false]
    exact key (fun _ => none) (fun _ => none)
  · unfold GenPerc.with_timing
    simp only [if_true]
    exact key some some

/-! ### the calls the builders make -/

theorem foldl_filter_map {α β γ : Type} (g : γ → β → γ) (c : α → Bool) (f : α → β) (vs : List α) (G : γ) :
    vs.foldl (fun H v => if c v then g H (f v) else H) G = ((vs.filter c).map f).foldl g G := by
  rw [List.foldl_map, List.foldl_filter]

/-- the calls of a builder that keeps the edge `u → v` iff `rule u v`: per node `add_node`, then `add_edge` for the kept
neighbours in order -/
def ruleOps (C : Contact) (rule : Node → Node → Bool) (na : Node → Option ERat) (ea : Node → Node → Option ERat) :
    List Op :=
  C.nodes.flatMap fun u => .node u (na u) :: ((C.nbrs u).filter (rule u)).map fun v => .edge u v (ea u v)

def keptOps (w : Bool) (u : Node) (d : ERat) (vs : List Node) (ts : List ERat) : List Op :=
  ((vs.zip ts).filter fun p => ERat.le p.2 d).map fun p => .edge u p.1 (attr w p.2)

/-- the calls `with_timing` makes for positional answers -/
def posOps (w : Bool) (C : Contact) (answers : List (ERat × List ERat)) : List Op :=
  (C.nodes.zip answers).flatMap fun p => .node p.1 (attr w p.2.1) :: keptOps w p.1 p.2.1 (C.nbrs p.1) p.2.2

theorem buildL_eq (w : Bool) (C : Contact) (answers : List (ERat × List ERat)) :
    buildL w C answers = build (posOps w C answers) := by
  unfold buildL build posOps
  rw [foldl2_eq_zip, List.foldl_flatMap]
  congr 1
  funext H p
  unfold rowStep
  rw [foldl2_eq_zip, List.foldl_cons]
  exact foldl_filter_map applyOp (fun q : Node × ERat => ERat.le q.2 p.2.1) (fun q => Op.edge p.1 q.1 (attr w q.2)) _ _

def funAnswers (C : Contact) (dur : Node → ERat) (delay : Node → Node → ERat) : List (ERat × List ERat) :=
  C.nodes.map fun u => (dur u, (C.nbrs u).map (delay u))

theorem posOps_fun (w : Bool) (C : Contact) (dur : Node → ERat) (delay : Node → Node → ERat) :
    posOps w C (funAnswers C dur delay) =
      ruleOps C (fun u v => ERat.le (delay u v) (dur u)) (fun u => attr w (dur u)) (fun u v => attr w (delay u v)) := by
  unfold posOps funAnswers ruleOps keptOps
  rw [← List.map_prod_left_eq_zip, List.flatMap_map]
  congr 1
  funext u
  simp only [← List.map_prod_left_eq_zip, List.filter_map, List.map_map]
  rfl

/-- **`with_timing` with deterministic time functions** makes the calls of the rule `delay u v ≤ dur u`, touching neither
script nor tape -/
theorem with_timing_pure (X : NX) (C : Contact) (dur : Node → ERat) (delay : Node → Node → ERat) (w : Bool) :
    GenPerc.with_timing X C (fun u v => pure (delay u v)) (fun u => pure (dur u)) w =
      pure (build (ruleOps C (fun u v => ERat.le (delay u v) (dur u)) (fun u => attr w (dur u))
        (fun u v => attr w (delay u v)))) := by
  rw [with_timing_eq, ← posOps_fun, ← buildL_eq]
  unfold answersM rowM funAnswers
  simp only [List.mapM_pure, pure_bind]

/-- **`nonMarkov_directed_percolate_network`** (`xi`, `zeta`, `transmission`) makes the calls of the rule
`transmission(xi[u], zeta[v])` -/
theorem xi_zeta_eq (X : NX) (C : Contact) (xi zeta : Node → Rat) (tr : Rat → Rat → Bool) :
    GenPerc.xi_zeta_network X C xi zeta tr =
      pure (build (ruleOps C (fun u v => tr (xi u) (zeta v)) (fun _ => none) (fun _ _ => none))) := by
  unfold GenPerc.xi_zeta_network
  have hin : ∀ (u : Node) (H0 : DiG), (C.nbrs u).foldlM (fun (acc : DiG) (v : Node) => (do
      let H ← (if (tr (xi u) (zeta v)) then (pure (acc.addEdge u v none) : PM DiG) else pure acc)
      pure H)) H0 =
      pure ((((C.nbrs u).filter fun v => tr (xi u) (zeta v)).map fun v => Op.edge u v none).foldl applyOp H0) := by
    intro u H0
    rw [← foldl_filter_map applyOp (fun v => tr (xi u) (zeta v)) (fun v => Op.edge u v none), ← List.foldlM_pure]
    congr 1
    funext acc v
    cases tr (xi u) (zeta v) <;> rfl
  simp only [hin]
  rw [List.foldlM_pure]
  unfold build ruleOps
  rw [List.foldl_flatMap]
  rfl

/-! ### the attributes do not influence nodes and edges (`weights=True` vs `weights=False`) -/

def Op.bare : Op → Op
  | .node u _ => .node u none
  | .edge u v _ => .edge u v none

theorem keysOf_build (ops : List Op) : keysOf (build ops) = (ops.map Op.bare).foldl kApply ([], []) := by
  have h : ∀ (H : DiG), keysOf (ops.foldl applyOp H) = (ops.map Op.bare).foldl kApply (keysOf H) := by
    induction ops with
    | nil => intro H; rfl
    | cons op t ih =>
      intro H
      rw [List.foldl_cons, ih, keysOf_applyOp, List.map_cons, List.foldl_cons]
      cases op <;> rfl
  exact h DiG.empty

/-- **both `weights` branches give the same node list and the same edge list (keys, in order)** -/
theorem buildL_keys (C : Contact) (answers : List (ERat × List ERat)) :
    (buildL true C answers).nodeList = (buildL false C answers).nodeList ∧
      ekeys (buildL true C answers) = ekeys (buildL false C answers) := by
  have hbare : (posOps true C answers).map Op.bare = (posOps false C answers).map Op.bare := by
    unfold posOps keptOps
    simp only [List.map_flatMap, List.map_cons, List.map_map]
    rfl
  have h : keysOf (buildL true C answers) = keysOf (buildL false C answers) := by
    rw [buildL_eq, buildL_eq, keysOf_build, keysOf_build, hbare]
  exact Prod.mk.inj h

theorem mem_posOps {w : Bool} {C : Contact} {answers : List (ERat × List ERat)} {op : Op} (h : op ∈ posOps w C answers) :
    (∃ u d, op = .node u (attr w d)) ∨ ∃ u v t, op = .edge u v (attr w t) := by
  simp only [posOps, keptOps, List.mem_flatMap, List.mem_cons, List.mem_map] at h
  obtain ⟨p, _, h | ⟨q, _, h⟩⟩ := h
  · exact Or.inl ⟨_, _, h⟩
  · exact Or.inr ⟨_, _, _, h.symm⟩

/-- with `weights=False` nothing is stored -/
theorem buildL_false_attrs (C : Contact) (answers : List (ERat × List ERat)) :
    (∀ p ∈ (buildL false C answers).nodes, p.2 = none) ∧ (∀ e ∈ (buildL false C answers).edges, e.2 = none) := by
  rw [buildL_eq]
  have hs := build_spec (posOps false C answers)
  constructor
  · intro p hp
    rcases hs.node_attr p hp with h | h
    · exact h
    · rcases mem_posOps h with ⟨u, d, h⟩ | ⟨u, v, t, h⟩
      · exact (Op.node.inj h).2
      · cases h
  · intro e he
    rcases mem_posOps (hs.edge_attr e he) with ⟨u, d, h⟩ | ⟨u, v, t, h⟩
    · cases h
    · exact (Op.edge.inj h).2.2

theorem buildL_hwf (w : Bool) (C : Contact) (answers : List (ERat × List ERat)) : HWF (buildL w C answers) := by
  rw [buildL_eq]; exact build_hwf _

/-! ### the rule graph -/

structure CWF (C : Contact) : Prop where
  nodup : C.nodes.Nodup
  nbrs_mem : ∀ u ∈ C.nodes, ∀ v ∈ C.nbrs u, v ∈ C.nodes

/-- `H` is the percolated digraph of `rule` on the contact graph `C`, with the attributes `na` / `ea` -/
structure RuleGraph (C : Contact) (rule : Node → Node → Bool) (na : Node → Option ERat)
    (ea : Node → Node → Option ERat) (H : DiG) : Prop where
  hwf : HWF H
  enodup : (ekeys H).Nodup
  hasNode : ∀ x, H.hasNode x = true ↔ x ∈ C.nodes
  perm : H.nodeList.Perm C.nodes
  succ : ∀ u v, v ∈ H.succ u ↔ (u ∈ C.nodes ∧ v ∈ Perc.percolate C.nbrs rule u)
  edge_attr : ∀ e ∈ H.edges, e.2 = ea e.1.1 e.1.2
  node_attr : ∀ p ∈ H.nodes, p.2 = na p.1

theorem node_mem_ruleOps {C : Contact} {rule : Node → Node → Bool} {na : Node → Option ERat}
    {ea : Node → Node → Option ERat} {u : Node} {a : Option ERat} :
    Op.node u a ∈ ruleOps C rule na ea ↔ u ∈ C.nodes ∧ a = na u := by
  simp only [ruleOps, List.mem_flatMap, List.mem_cons, List.mem_map, Op.node.injEq, reduceCtorEq, and_false,
    exists_false, or_false]
  exact ⟨fun ⟨x, hx, h1, h2⟩ => ⟨h1 ▸ hx, h1 ▸ h2⟩, fun ⟨hu, ha⟩ => ⟨u, hu, rfl, ha⟩⟩

theorem edge_mem_ruleOps {C : Contact} {rule : Node → Node → Bool} {na : Node → Option ERat}
    {ea : Node → Node → Option ERat} {u v : Node} {a : Option ERat} :
    Op.edge u v a ∈ ruleOps C rule na ea ↔ u ∈ C.nodes ∧ v ∈ Perc.percolate C.nbrs rule u ∧ a = ea u v := by
  simp only [ruleOps, Perc.percolate, List.mem_flatMap, List.mem_cons, List.mem_map, Op.edge.injEq, reduceCtorEq,
    false_or]
  constructor
  · rintro ⟨x, hx, y, hy, rfl, rfl, rfl⟩; exact ⟨hx, hy, rfl⟩
  · rintro ⟨hu, hv, rfl⟩; exact ⟨u, hu, v, hv, rfl, rfl, rfl⟩

theorem ruleGraph (C : Contact) (hC : CWF C) (rule : Node → Node → Bool) (na : Node → Option ERat)
    (ea : Node → Node → Option ERat) : RuleGraph C rule na ea (build (ruleOps C rule na ea)) := by
  have hs := build_spec (ruleOps C rule na ea)
  have hmem : ∀ x, x ∈ (build (ruleOps C rule na ea)).nodeList ↔ x ∈ C.nodes := by
    intro x
    rw [hs.mem_node]
    constructor
    · rintro ⟨op, hop, hx⟩
      cases op with
      | node u a => rw [List.mem_singleton.1 hx]; exact (node_mem_ruleOps.1 hop).1
      | edge u v a =>
        obtain ⟨hu, hv, _⟩ := edge_mem_ruleOps.1 hop
        rcases List.mem_cons.1 hx with rfl | hx
        · exact hu
        · rw [List.mem_singleton.1 hx]; exact hC.nbrs_mem u hu v (List.mem_filter.1 hv).1
    · exact fun hx => ⟨.node x (na x), node_mem_ruleOps.2 ⟨hx, rfl⟩, List.mem_singleton.2 rfl⟩
  refine ⟨build_hwf _, hs.enodup, fun x => by rw [hasNode_iff, hmem],
    (List.perm_ext_iff_of_nodup hs.nodup hC.nodup).2 hmem, fun u v => ?_, fun e he => ?_, fun p hp => ?_⟩
  · rw [mem_succ, ← ekeys, hs.mem_edge]
    exact ⟨fun ⟨a, h⟩ => ⟨(edge_mem_ruleOps.1 h).1, (edge_mem_ruleOps.1 h).2.1⟩,
      fun ⟨hu, hv⟩ => ⟨_, edge_mem_ruleOps.2 ⟨hu, hv, rfl⟩⟩⟩
  · exact (edge_mem_ruleOps.1 (hs.edge_attr e he)).2.2
  · have hpn : p.1 ∈ C.nodes := (hmem p.1).1 (List.mem_map.2 ⟨p, hp, rfl⟩)
    rcases hs.node_attr p hp with h | h
    · -- an entry without attribute: were a `duration` written for this node it would have survived
      cases hna : na p.1 with
      | none => exact h
      | some d =>
        have hin := build_some p.1 d (ruleOps C rule na ea) (fun a ha => (node_mem_ruleOps.1 ha).2.trans hna)
          (node_mem_ruleOps.2 ⟨hpn, hna.symm⟩)
        rw [List.inj_on_of_nodup_map hs.nodup hp hin rfl]
    · exact (node_mem_ruleOps.1 h).2

theorem CWF.wf_percolate {C : Contact} (hC : CWF C) (rule : Node → Node → Bool) :
    Perc.WF C.nodes (Perc.percolate C.nbrs rule) :=
  ⟨hC.nodup, fun x hx y hy => hC.nbrs_mem x hx y (List.mem_filter.1 hy).1⟩

theorem RuleGraph.reach_iff {C : Contact} (hC : CWF C) {rule : Node → Node → Bool} {na : Node → Option ERat}
    {ea : Node → Node → Option ERat} {H : DiG} (h : RuleGraph C rule na ea H) (u v : Node) :
    Perc.reach H.nodeList H.succ u v = true ↔ Perc.reach C.nodes (Perc.percolate C.nbrs rule) u v = true := by
  have hwf2 := hC.wf_percolate rule
  have hp : ∀ u ∈ C.nodes, Perc.Path H.succ u v ↔ Perc.Path (Perc.percolate C.nbrs rule) u v := fun u hu =>
    Perc.Path.congr (S := fun x => x ∈ C.nodes) hwf2.succ_mem (fun x hx y => (h.succ x y).trans (and_iff_right hx)) hu v
  constructor
  · intro hr
    have hu : u ∈ C.nodes := h.perm.mem_iff.1 (Perc.reach_src_mem hr)
    exact (Perc.reach_iff_path hwf2 hu v).2 ((hp u hu).1 ((Perc.reach_iff_path h.hwf.wf (h.perm.mem_iff.2 hu) v).1 hr))
  · intro hr
    have hu : u ∈ C.nodes := Perc.reach_src_mem hr
    exact (Perc.reach_iff_path h.hwf.wf (h.perm.mem_iff.2 hu) v).2 ((hp u hu).2 ((Perc.reach_iff_path hwf2 hu v).1 hr))

/-! ### the admissible answers depend on the digraph only through its node set and its reachability relation -/

theorem filter_length_perm {l1 l2 : List Node} (hp : l1.Perm l2) (p1 p2 : Node → Bool) (h : ∀ x ∈ l2, p1 x = p2 x) :
    (l1.filter p1).length = (l2.filter p2).length := by
  rw [(hp.filter p1).length_eq, List.filter_congr h]

theorem allowed_perm {n1 n2 : List Node} {s1 s2 : Node → List Node} (hp : n1.Perm n2)
    (hr : ∀ u v, Perc.reach n1 s1 u v = Perc.reach n2 s2 u v) (p : Rat × Rat) :
    p ∈ Perc.allowed n1 s1 → p ∈ Perc.allowed n2 s2 := by
  have hin : ∀ u, (Perc.inC n1 s1 u).length = (Perc.inC n2 s2 u).length := fun u =>
    filter_length_perm hp _ _ (fun x _ => hr x u)
  have hout : ∀ u, (Perc.outC n1 s1 u).length = (Perc.outC n2 s2 u).length := fun u =>
    filter_length_perm hp _ _ (fun x _ => hr u x)
  have hscc : ∀ u, (Perc.scc n1 s1 u).length = (Perc.scc n2 s2 u).length := fun u =>
    filter_length_perm hp _ _ (fun x _ => by rw [hr u x, hr x u])
  have hmax : Perc.maxSccSize n1 s1 = Perc.maxSccSize n2 s2 := by
    unfold Perc.maxSccSize
    apply foldl_max_congr
    intro x
    simp only [List.mem_map]
    constructor
    · rintro ⟨u, hu, rfl⟩; exact ⟨u, hp.mem_iff.1 hu, (hscc u).symm⟩
    · rintro ⟨u, hu, rfl⟩; exact ⟨u, hp.mem_iff.2 hu, hscc u⟩
  unfold Perc.allowed
  simp only [List.mem_map, List.mem_filter, decide_eq_true_eq]
  rintro ⟨u, ⟨hu, hm⟩, rfl⟩
  refine ⟨u, ⟨hp.mem_iff.1 hu, by rw [← hscc, hm, hmax]⟩, ?_⟩
  rw [hin, hout, hp.length_eq]

theorem RuleGraph.allowed {C : Contact} (hC : CWF C) {rule : Node → Node → Bool} {na : Node → Option ERat}
    {ea : Node → Node → Option ERat} {H : DiG} (h : RuleGraph C rule na ea H) (p : Rat × Rat)
    (hp : p ∈ Perc.allowed H.nodeList H.succ) : p ∈ Perc.allowed C.nodes (Perc.percolate C.nbrs rule) :=
  allowed_perm h.perm (fun u v => by rw [Bool.eq_iff_iff]; exact h.reach_iff hC u v) p hp

theorem RuleGraph.nodes_eq_nil {C : Contact} {rule : Node → Node → Bool} {na : Node → Option ERat}
    {ea : Node → Node → Option ERat} {H : DiG} (h : RuleGraph C rule na ea H) : H.nodes = [] ↔ C.nodes = [] := by
  rw [← List.length_eq_zero_iff, ← List.length_eq_zero_iff, ← h.perm.length_eq, DiG.nodeList, List.length_map]

/-! ### runs of `mapM` -/

/-- computations that each take their answer off the front of the script and log their calls: run in a row, they take
the answers in order and log the calls in order -/
theorem mapM_script {α β : Type} (c : α → PM β) (use : β → List ERat) (log : α → List (List Nat)) {l : List α}
    {bs : List β}
    (h : List.Forall₂ (fun x b => ∀ rest cs ts, c x ⟨use b ++ rest, cs⟩ ts = .ok ((b, ⟨rest, cs ++ log x⟩), ts)) l bs) :
    ∀ rest cs ts, l.mapM c ⟨bs.flatMap use ++ rest, cs⟩ ts = .ok ((bs, ⟨rest, cs ++ l.flatMap log⟩), ts) := by
  induction h with
  | nil => intro rest cs ts; rfl
  | @cons x b l bs hx _ ih =>
    intro rest cs ts
    rw [List.mapM_cons, List.flatMap_cons, List.append_assoc, TM.st_bind_ok (hx _ cs ts), TM.st_bind_ok (ih rest _ ts), pure_run,
      arr_app_assoc, List.flatMap_cons]

/-! ### scripted time functions -/

theorem askVal_cons (call : List Nat) (b : ERat) (r : List ERat) (cs : Array (List Nat)) (ts : TapeSt) :
    askVal call ⟨b :: r, cs⟩ ts = .ok ((b, ⟨r, cs.push call⟩), ts) := rfl

theorem askVal_nil (call : List Nat) (cs : Array (List Nat)) (ts : TapeSt) :
    askVal call ⟨[], cs⟩ ts = .error "answers-exhausted" := rfl

def flatAns (answers : List (ERat × List ERat)) : List ERat := answers.flatMap (fun a => a.1 :: a.2)

/-- the calls `with_timing` makes on the node list `l`: per node `rec_time_fxn(u)` (`[1, u]`), then `trans_time_fxn(u, v)`
(`[0, u, v]`) for the neighbours `v` in order -/
def callsOn (nbrs : Node → List Node) (l : List Node) : List (List Nat) :=
  l.flatMap (fun u => [1, u] :: (nbrs u).map (fun v => [0, u, v]))

def Shape (nbrs : Node → List Node) (l : List Node) (answers : List (ERat × List ERat)) : Prop :=
  List.Forall₂ (fun u a => a.2.length = (nbrs u).length) l answers

theorem Shape.length {nbrs : Node → List Node} {l : List Node} {answers : List (ERat × List ERat)}
    (h : Shape nbrs l answers) : l.length = answers.length := List.Forall₂.length_eq h

theorem rowM_script (nbrs : Node → List Node) (u : Node) (a : ERat × List ERat) (ha : a.2.length = (nbrs u).length)
    (rest : List ERat) (cs : Array (List Nat)) (ts : TapeSt) :
    rowM nbrs (fun u v => askVal [0, u, v]) (fun u => askVal [1, u]) u ⟨(a.1 :: a.2) ++ rest, cs⟩ ts =
      .ok ((a, ⟨rest, cs ++ ([1, u] :: (nbrs u).map fun v => [0, u, v])⟩), ts) := by
  have hin := mapM_script (fun v => askVal [0, u, v]) (fun b => [b]) (fun v => [[0, u, v]]) (l := nbrs u) (bs := a.2)
    (List.forall₂_iff_zip.2 ⟨ha.symm, fun _ rest cs ts => rfl⟩) rest (cs.push [1, u]) ts
  rw [List.flatMap_singleton', ← List.map_eq_flatMap, arr_push_app] at hin
  unfold rowM
  rw [List.cons_append, TM.st_bind_ok (askVal_cons [1, u] a.1 _ cs ts), TM.st_bind_ok hin, pure_run]

theorem answers_script (C : Contact) (answers : List (ERat × List ERat)) (hsh : Shape C.nbrs C.nodes answers)
    (rest : List ERat) (cs : Array (List Nat)) (ts : TapeSt) :
    answersM C (fun u v => askVal [0, u, v]) (fun u => askVal [1, u]) ⟨flatAns answers ++ rest, cs⟩ ts =
      .ok ((answers, ⟨rest, cs ++ callsOn C.nbrs C.nodes⟩), ts) := by
  unfold answersM flatAns callsOn
  exact mapM_script _ (fun a : ERat × List ERat => a.1 :: a.2) (fun u => [1, u] :: (C.nbrs u).map fun v => [0, u, v])
    (List.Forall₂.imp (fun u a ha => rowM_script C.nbrs u a ha) hsh) rest cs ts

/-- **`with_timing` with scripted time functions**: if the script starts with one answer per call (durations and delays in
call order, `answers`) the run succeeds, leaves the tape alone, consumes exactly those answers, logs exactly the calls
`callsOn`, and returns the digraph built from the answers -/
theorem with_timing_script (X : NX) (C : Contact) (w : Bool) (answers : List (ERat × List ERat))
    (hsh : Shape C.nbrs C.nodes answers) (rest : List ERat) (cs : Array (List Nat)) (ts : TapeSt) :
    GenPerc.with_timing X C (fun u v => askVal [0, u, v]) (fun u => askVal [1, u]) w ⟨flatAns answers ++ rest, cs⟩ ts =
      .ok ((buildL w C answers, ⟨rest, cs ++ callsOn C.nbrs C.nodes⟩), ts) := by
  rw [with_timing_eq, TM.st_bind_ok (answers_script C answers hsh rest cs ts), pure_run]

/-! ### a long enough script splits into answers -/

theorem exists_answers (nbrs : Node → List Node) : ∀ (l : List Node) (vals : List ERat),
    (callsOn nbrs l).length ≤ vals.length →
    ∃ answers, Shape nbrs l answers ∧ vals = flatAns answers ++ vals.drop (callsOn nbrs l).length := by
  intro l
  induction l with
  | nil => intro vals _; exact ⟨[], List.Forall₂.nil, rfl⟩
  | cons u l ih =>
    intro vals hlen
    have hc : (callsOn nbrs (u :: l)).length = (callsOn nbrs l).length + (nbrs u).length + 1 := by
      rw [callsOn, List.flatMap_cons, ← callsOn, List.length_append, List.length_cons, List.length_map]; omega
    rw [hc] at hlen ⊢
    cases vals with
    | nil => rw [List.length_nil] at hlen; omega
    | cons d vs =>
      rw [List.length_cons] at hlen
      obtain ⟨answers, hsh, hv⟩ := ih (vs.drop (nbrs u).length) (by rw [List.length_drop]; omega)
      refine ⟨(d, vs.take (nbrs u).length) :: answers, List.Forall₂.cons ?_ hsh, ?_⟩
      · rw [List.length_take]; omega
      · rw [List.drop_drop] at hv
        show d :: vs = d :: ((vs.take (nbrs u).length ++ flatAns answers) ++ _)
        rw [List.drop_succ_cons, List.append_assoc, Nat.add_comm (callsOn nbrs l).length, ← hv, List.take_append_drop]

/-! ### `directed_percolate_network`: exponential times from the tape -/

/-- the time functions of `directed_percolate_network`: `random.expovariate(rate)` if `rate > 0`, else `float('Inf')` -/
def drawE (rate : Rat) : PM ERat := if decide (rate > (0 : Rat)) then expo rate else pure (none : ERat)

theorem directed_eq (X : NX) (C : Contact) (tau gamma : Rat) (w : Bool) :
    GenPerc.directed_percolate_network X C tau gamma w =
      GenPerc.with_timing X C (fun _ _ => drawE tau) (fun _ => drawE gamma) w := by
  unfold GenPerc.directed_percolate_network drawE
  dsimp only

/-- an answer the time function with this rate can give: a finite time iff the rate is positive -/
def OkAns (rate : Rat) (a : ERat) : Prop := (0 < rate → a.isSome = true) ∧ (¬ 0 < rate → a = none)

theorem okAns_some {rate : Rat} (h : 0 < rate) (d : Rat) : OkAns rate (some d) :=
  ⟨fun _ => rfl, fun h' => absurd h h'⟩

theorem okAns_none {rate : Rat} (h : ¬ 0 < rate) : OkAns rate none := ⟨fun h' => absurd h' h, fun _ => rfl⟩

def drawOf (a : ERat) : List Draw := match a with | some d => [Draw.expo d] | none => []
def callOf (rate : Rat) (a : ERat) : List Call := match a with | some _ => [Call.expo rate] | none => []

def tapeOf (answers : List (ERat × List ERat)) : List Draw :=
  answers.flatMap (fun a => drawOf a.1 ++ a.2.flatMap drawOf)
def traceOf (tau gamma : Rat) (answers : List (ERat × List ERat)) : List Call :=
  answers.flatMap (fun a => callOf gamma a.1 ++ a.2.flatMap (callOf tau))

theorem drawE_takes (rate : Rat) (a : ERat) (h : OkAns rate a) (s : PSt) :
    Takes (drawE rate) s (drawOf a) (callOf rate a) a s := by
  unfold drawE
  by_cases hr : 0 < rate
  · cases a with
    | none => cases h.1 hr
    | some d =>
      rw [decide_eq_true hr, if_pos rfl]
      exact ((TM.popExpo_takes (ne_of_gt hr) d).lift s).map some
  · rw [h.2 hr, decide_eq_false hr]
    exact Takes.pure none s

theorem rowM_takes (nbrs : Node → List Node) (tau gamma : Rat) (u : Node) (a : ERat × List ERat)
    (ha : a.2.length = (nbrs u).length) (hd : OkAns gamma a.1) (hds : ∀ t ∈ a.2, OkAns tau t) (s : PSt) :
    Takes (rowM nbrs (fun _ _ => drawE tau) (fun _ => drawE gamma) u) s (drawOf a.1 ++ a.2.flatMap drawOf)
      (callOf gamma a.1 ++ a.2.flatMap (callOf tau)) a s :=
  ((drawE_takes gamma a.1 hd s).bind ((Takes.mapM s (nbrs u) a.2 ha.symm fun p hp =>
    drawE_takes tau p.2 (hds p.2 (List.of_mem_zip hp).2) s).bind (Takes.pure a s))).cast (by simp) (by simp)

/-- **`directed_percolate_network` on a tape**: per node one `expovariate(gamma)` (none if `gamma ≤ 0`: the duration is
infinite), then one `expovariate(tau)` per neighbour (none if `tau ≤ 0`: the delays are infinite); the script is untouched,
exactly these draws are consumed and logged, and the digraph is the one built from the drawn values -/
theorem directed_tape (X : NX) (C : Contact) (tau gamma : Rat) (w : Bool) (answers : List (ERat × List ERat))
    (hsh : Shape C.nbrs C.nodes answers) (hok : ∀ a ∈ answers, OkAns gamma a.1 ∧ ∀ t ∈ a.2, OkAns tau t) (s : PSt) :
    Takes (GenPerc.directed_percolate_network X C tau gamma w) s (tapeOf answers) (traceOf tau gamma answers)
      (buildL w C answers) s := by
  have h := Takes.mapM (c := rowM C.nbrs (fun _ _ => drawE tau) (fun _ => drawE gamma))
    (use := fun a => drawOf a.1 ++ a.2.flatMap drawOf) (log := fun a => callOf gamma a.1 ++ a.2.flatMap (callOf tau))
    s C.nodes answers hsh.length fun p hp =>
      rowM_takes C.nbrs tau gamma p.1 p.2 ((List.forall₂_iff_zip.1 hsh).2 hp) (hok _ (List.of_mem_zip hp).2).1
        (hok _ (List.of_mem_zip hp).2).2 s
  rw [directed_eq, with_timing_eq]
  exact h.map (buildL w C)

def drawnAns (drawn : List (Rat × List Rat)) : List (ERat × List ERat) := drawn.map fun a => (some a.1, a.2.map some)

theorem tapeOf_drawn (drawn : List (Rat × List Rat)) :
    tapeOf (drawnAns drawn) = drawn.flatMap (fun a => Draw.expo a.1 :: a.2.map Draw.expo) := by
  unfold tapeOf drawnAns
  rw [List.flatMap_map]
  congr 1
  funext a
  simp only [drawOf, List.singleton_append, List.flatMap_map, ← List.map_eq_flatMap]

theorem traceOf_drawn (tau gamma : Rat) (drawn : List (Rat × List Rat)) :
    traceOf tau gamma (drawnAns drawn) = drawn.flatMap (fun a => Call.expo gamma :: a.2.map (fun _ => Call.expo tau)) := by
  unfold traceOf drawnAns
  rw [List.flatMap_map]
  congr 1
  funext a
  simp only [callOf, List.singleton_append, List.flatMap_map, ← List.map_eq_flatMap]

theorem drawn_ok {tau gamma : Rat} (ht : 0 < tau) (hg : 0 < gamma) (drawn : List (Rat × List Rat)) :
    ∀ a ∈ drawnAns drawn, OkAns gamma a.1 ∧ ∀ t ∈ a.2, OkAns tau t := by
  intro a ha
  obtain ⟨x, _, rfl⟩ := List.mem_map.1 ha
  refine ⟨okAns_some hg _, fun t ht' => ?_⟩
  obtain ⟨y, _, rfl⟩ := List.mem_map.1 ht'
  exact okAns_some ht _

/-! ### positional answers as functions (distinct nodes, distinct neighbours) -/

def lk {β : Type} (l : List Node) (bs : List β) (dflt : β) (x : Node) : β := alGet (l.zip bs) dflt x

theorem lk_cons_self {β : Type} (x : Node) (xs : List Node) (b : β) (bs : List β) (d : β) :
    lk (x :: xs) (b :: bs) d x = b := by simp [lk, alGet]

theorem lk_cons_ne {β : Type} {x y : Node} (h : y ≠ x) (ys : List Node) (b : β) (bs : List β) (d : β) :
    lk (y :: ys) (b :: bs) d x = lk ys bs d x := by simp [lk, alGet, h]

theorem lk_forall₂ {β : Type} {R : Node → β → Prop} (d : β) {l : List Node} {bs : List β} (h : List.Forall₂ R l bs) :
    ∀ x ∈ l, R x (lk l bs d x) := by
  induction h with
  | nil => intro x hx; cases hx
  | @cons y b ys bs hyb _ ih =>
    intro x hx
    by_cases e : y = x
    · rw [← e, lk_cons_self]; exact hyb
    · rw [lk_cons_ne e]; exact ih x ((List.mem_cons.1 hx).resolve_left fun e' => e e'.symm)

theorem lk_mem {β : Type} (dflt : β) (l : List Node) (bs : List β) (x : Node) (hx : x ∈ l) (hl : l.length = bs.length) :
    lk l bs dflt x ∈ bs :=
  lk_forall₂ dflt (List.forall₂_iff_zip.2 ⟨hl, fun h => (List.of_mem_zip h).2⟩) x hx

def durOf (C : Contact) (answers : List (ERat × List ERat)) (u : Node) : ERat :=
  (lk C.nodes answers (none, []) u).1
def delayOf (C : Contact) (answers : List (ERat × List ERat)) (u v : Node) : ERat :=
  lk (C.nbrs u) (lk C.nodes answers (none, []) u).2 none v

theorem answers_eq_fun (C : Contact) (hnd : C.nodes.Nodup) (hnb : ∀ u ∈ C.nodes, (C.nbrs u).Nodup)
    (answers : List (ERat × List ERat)) (hsh : Shape C.nbrs C.nodes answers) :
    answers = funAnswers C (durOf C answers) (delayOf C answers) := by
  have h2 := lk_forall₂ (none, []) hsh
  have h3 : C.nodes.map (lk C.nodes answers (none, [])) = answers :=
    map_alGet_zip C.nodes answers (none, []) hnd hsh.length
  unfold funAnswers
  conv_lhs => rw [← h3]
  apply List.map_congr_left
  intro u hu
  unfold durOf delayOf
  rw [show (C.nbrs u).map (lk (C.nbrs u) _ none) = _ from map_alGet_zip (C.nbrs u) _ none (hnb u hu) (h2 u hu).symm]

theorem buildL_mem (w : Bool) (C : Contact) (answers : List (ERat × List ERat)) (hsh : Shape C.nbrs C.nodes answers)
    (u : Node) (hu : u ∈ C.nodes) : u ∈ (buildL w C answers).nodeList := by
  rw [← List.map_fst_zip (Nat.le_of_eq hsh.length)] at hu
  obtain ⟨p, hp, rfl⟩ := List.mem_map.1 hu
  rw [buildL_eq, (build_spec _).mem_node]
  exact ⟨.node p.1 (attr w p.2.1), List.mem_flatMap.2 ⟨p, hp, List.mem_cons_self ..⟩, List.mem_singleton.2 rfl⟩

theorem buildL_ruleGraph (C : Contact) (hC : CWF C) (hnb : ∀ u ∈ C.nodes, (C.nbrs u).Nodup) (w : Bool)
    (answers : List (ERat × List ERat)) (hsh : Shape C.nbrs C.nodes answers) :
    RuleGraph C (fun u v => ERat.le (delayOf C answers u v) (durOf C answers u))
      (fun u => attr w (durOf C answers u)) (fun u v => attr w (delayOf C answers u v)) (buildL w C answers) := by
  have h := posOps_fun w C (durOf C answers) (delayOf C answers)
  rw [← answers_eq_fun C hC.nodup hnb answers hsh] at h
  rw [buildL_eq, h]
  exact ruleGraph C hC _ _ _

/-- the looked-up values are among the answers -/
theorem durOf_mem (C : Contact) (answers : List (ERat × List ERat)) (hsh : Shape C.nbrs C.nodes answers)
    (u : Node) (hu : u ∈ C.nodes) : ∃ a ∈ answers, durOf C answers u = a.1 :=
  ⟨_, lk_mem (none, []) C.nodes answers u hu hsh.length, rfl⟩

-- no proof uses `hnd`
set_option linter.unusedVariables false in
theorem delayOf_mem (C : Contact) (hnd : C.nodes.Nodup) (answers : List (ERat × List ERat))
    (hsh : Shape C.nbrs C.nodes answers) (u : Node) (hu : u ∈ C.nodes) (v : Node) (hv : v ∈ C.nbrs u) :
    ∃ a ∈ answers, delayOf C answers u v ∈ a.2 :=
  ⟨_, lk_mem (none, []) C.nodes answers u hu hsh.length,
    lk_mem none (C.nbrs u) _ v hv (lk_forall₂ (none, []) hsh u hu).symm⟩

/-! ### builder, then estimator -/

theorem est_after {b : PM DiG} {X : NX} {s s' : PSt} {ts ts' : TapeSt} {H : DiG}
    (hb : b s ts = .ok ((H, s'), ts')) (hX : NXSpecAt X H) (hnd : H.nodeList.Nodup) (hne : H.nodes ≠ []) :
    ∃ p, (b >>= fun H => GenPerc.estimate_from_dir_perc X H) s ts = .ok ((p, s'), ts') ∧
      p ∈ Perc.allowed H.nodeList H.succ := by
  obtain ⟨u, hu, hmax, he⟩ := estE_ok X H hX hnd hne
  refine ⟨_, by rw [TM.st_bind_ok hb, estimate_eq, he]; rfl, ?_⟩
  unfold Perc.allowed
  exact List.mem_map.2 ⟨u, List.mem_filter.2 ⟨hu, by simpa using hmax⟩, rfl⟩

theorem estimate_with_timing_eq (X : NX) (C : Contact) (tt : Node → Node → PM ERat) (rt : Node → PM ERat) :
    GenPerc.estimate_with_timing X C tt rt =
      GenPerc.with_timing X C tt rt true >>= fun H => GenPerc.estimate_from_dir_perc X H := by
  unfold GenPerc.estimate_with_timing; dsimp only

theorem estimate_xi_zeta_eq (X : NX) (C : Contact) (xi zeta : Node → Rat) (tr : Rat → Rat → Bool) :
    GenPerc.estimate_xi_zeta X C xi zeta tr =
      GenPerc.xi_zeta_network X C xi zeta tr >>= fun H => GenPerc.estimate_from_dir_perc X H := by
  unfold GenPerc.estimate_xi_zeta; dsimp only

theorem estimate_directed_eq (X : NX) (C : Contact) (tau gamma : Rat) :
    GenPerc.estimate_directed_SIR_prob_size X C tau gamma =
      GenPerc.directed_percolate_network X C tau gamma true >>= fun H => GenPerc.estimate_from_dir_perc X H := by
  unfold GenPerc.estimate_directed_SIR_prob_size; dsimp only

theorem est_rule {b : PM DiG} {X : NX} (hX : NXSpec X) {C : Contact} (hC : CWF C) (hne : C.nodes ≠ [])
    {rule : Node → Node → Bool} {na : Node → Option ERat} {ea : Node → Node → Option ERat}
    {s s' : PSt} {ts ts' : TapeSt} {H : DiG} (hb : b s ts = .ok ((H, s'), ts')) (hg : RuleGraph C rule na ea H) :
    ∃ p, (b >>= fun H => GenPerc.estimate_from_dir_perc X H) s ts = .ok ((p, s'), ts') ∧
      p ∈ Perc.allowed C.nodes (Perc.percolate C.nbrs rule) ∧ 0 < p.1 ∧ p.1 ≤ 1 ∧ 0 < p.2 ∧ p.2 ≤ 1 := by
  obtain ⟨p, hp, hal⟩ := est_after hb (hX H hg.hwf) hg.hwf.nodup (mt hg.nodes_eq_nil.1 hne)
  exact ⟨p, hp, hg.allowed hC p hal, Perc.allowed_bounds _ _ p (hg.allowed hC p hal)⟩

theorem est_rule_empty {b : PM DiG} {X : NX} (hX : NXSpec X) {C : Contact} (hne : C.nodes = [])
    {rule : Node → Node → Bool} {na : Node → Option ERat} {ea : Node → Node → Option ERat}
    {s s' : PSt} {ts ts' : TapeSt} {H : DiG} (hb : b s ts = .ok ((H, s'), ts')) (hg : RuleGraph C rule na ea H) :
    (b >>= fun H => GenPerc.estimate_from_dir_perc X H) s ts = .error "ValueError" := by
  rw [TM.st_bind_ok hb, estimate_eq, estE_empty X H (hX H hg.hwf) (hg.nodes_eq_nil.2 hne)]; rfl

/-! ### `estimate_SIR_prob_size`: bond percolation, largest connected component -/

/-- neighbours in the undirected graph with the given edge list -/
def usucc (edges : List (Node × Node)) (u : Node) : List Node :=
  edges.filterMap fun e => if e.1 = u then some e.2 else if e.2 = u then some e.1 else none

/-- the assumed meaning of `nx.connected_components` on the Graph with these nodes and edges: every yielded component is a
duplicate-free listing of the nodes reachable from each of its members, and every node is in a yielded component -/
structure CCSpec (X : NX) (nodes : List Node) (edges : List (Node × Node)) : Prop where
  cc_mem : ∀ c ∈ X.ccs nodes edges, c ≠ [] ∧ c.Nodup ∧
    ∀ u ∈ c, u ∈ nodes ∧ ∀ v, v ∈ c ↔ Perc.reach nodes (usucc edges) u v = true
  cc_cover : ∀ u ∈ nodes, ∃ c ∈ X.ccs nodes edges, u ∈ c

/-- size of the largest connected component -/
def maxCC (nodes : List Node) (edges : List (Node × Node)) : Nat :=
  (nodes.map fun u => (Perc.outC nodes (usucc edges) u).length).foldl max 0

theorem maxLen_ok (l : List (List Node)) (hl : l ≠ []) : maxLen l = .ok (((l.map List.length).foldl max 0 : Nat) : Int) := by
  cases l with
  | nil => exact absurd rfl hl
  | cons x xs =>
    unfold maxLen
    simp only [List.foldl_map, List.map_cons, List.foldl_cons, Nat.zero_max]
    rfl

theorem ccs_max (X : NX) (nodes : List Node) (edges : List (Node × Node)) (hX : CCSpec X nodes edges) (hnd : nodes.Nodup) :
    ((X.ccs nodes edges).map List.length).foldl max 0 = maxCC nodes edges := by
  refine cover_max (fun c hc x hx => ?_) (fun c hc => ⟨(hX.cc_mem c hc).1, fun x hx => ((hX.cc_mem c hc).2.2 x hx).1⟩)
    hX.cc_cover
  obtain ⟨_, hcn, hc'⟩ := hX.cc_mem c hc
  exact (perm_filter_reach hnd hcn (fun v hv => Perc.reach_mem hv) (hc' x hx).2).length_eq.symm

theorem liftDM_percolate (edges : List (Node × Node)) (p : Rat) (rs : List Rat) (hl : rs.length = edges.length)
    (s : PSt) : Takes (PyPM.liftDM (GenDisc.percolate_network edges p)) s (rs.map Draw.unif)
      (List.replicate edges.length Call.unif) (GenDiscrete.keptBy p edges rs) s := by
  intro rest tr
  have h := GenDiscrete.percolate_takes p { answers := [] } edges rs [] hl rest tr
  rw [List.nil_append] at h
  unfold PyPM.liftDM
  rw [GenDiscrete.percolate_eq, TM.bind_ok h]; rfl

/-- **`estimate_SIR_prob_size`** on a tape with one uniform per contact edge -/
theorem estimate_SIR_run (X : NX) (C : Contact) (p : Rat) (rs : List Rat) (hl : rs.length = C.edges.length)
    (hX : CCSpec X C.nodes (GenDiscrete.keptBy p C.edges rs)) (hnd : C.nodes.Nodup) (hne : C.nodes ≠ [])
    (s : PSt) (rest : List Draw) (tr : Array Call) :
    GenPerc.estimate_SIR_prob_size X C p s ⟨rs.map Draw.unif ++ rest, tr⟩ =
      .ok ((((maxCC C.nodes (GenDiscrete.keptBy p C.edges rs) : Rat) / (C.nodes.length : Rat),
             (maxCC C.nodes (GenDiscrete.keptBy p C.edges rs) : Rat) / (C.nodes.length : Rat)), s),
        ⟨rest, tr ++ List.replicate C.edges.length Call.unif⟩) := by
  have hcne : X.ccs C.nodes (GenDiscrete.keptBy p C.edges rs) ≠ [] := by
    cases hn : C.nodes with
    | nil => exact absurd hn hne
    | cons u t =>
      obtain ⟨c, hc, _⟩ := hX.cc_cover u (by rw [hn]; exact List.mem_cons_self ..)
      rw [← hn]; exact List.ne_nil_of_mem hc
  have hN0 : ((C.nodes.length : Nat) : Rat) ≠ 0 := by
    have : C.nodes.length ≠ 0 := fun h => hne (List.length_eq_zero_iff.1 h)
    exact_mod_cast this
  unfold GenPerc.estimate_SIR_prob_size
  rw [TM.st_bind_ok (liftDM_percolate C.edges p rs hl s rest tr), maxLen_ok _ hcne, ccs_max X _ _ hX hnd]
  have hord : ((C.order : Int) : Rat) = (C.nodes.length : Rat) := by unfold Contact.order; simp
  simp only [liftE_ok, pure_bind]
  rw [PyTM.fdiv_ok _ _ (by rw [hord]; exact hN0)]
  simp only [liftE_ok, pure_bind]
  rw [pure_run, hord]
  simp

theorem estimate_SIR_empty (X : NX) (C : Contact) (p : Rat) (rs : List Rat) (hl : rs.length = C.edges.length)
    (hX : CCSpec X C.nodes (GenDiscrete.keptBy p C.edges rs)) (hne : C.nodes = [])
    (s : PSt) (rest : List Draw) (tr : Array Call) :
    GenPerc.estimate_SIR_prob_size X C p s ⟨rs.map Draw.unif ++ rest, tr⟩ = .error "ValueError" := by
  unfold GenPerc.estimate_SIR_prob_size
  rw [TM.st_bind_ok (liftDM_percolate C.edges p rs hl s rest tr)]
  rw [hne] at hX
  have hnil : X.ccs [] (GenDiscrete.keptBy p C.edges rs) = [] := by
    apply List.eq_nil_iff_forall_not_mem.2
    intro c hc
    obtain ⟨hc0, _, hc'⟩ := hX.cc_mem c hc
    obtain ⟨x, hx⟩ := List.exists_mem_of_ne_nil c hc0
    exact absurd (hc' x hx).1 List.not_mem_nil
  rw [hne, hnil]
  rfl

/-! ### the driver's `connected_components` meets `CCSpec` -/

theorem mem_usucc (edges : List (Node × Node)) (u v : Node) :
    v ∈ usucc edges u ↔ ∃ e ∈ edges, (e.1 = u ∧ e.2 = v) ∨ (e.2 = u ∧ e.1 = v) := by
  unfold usucc
  rw [List.mem_filterMap]
  refine exists_congr fun e => and_congr_right fun _ => ?_
  by_cases h1 : e.1 = u
  · rw [if_pos h1, Option.some.injEq]
    exact ⟨fun h => Or.inl ⟨h1, h⟩, fun h => h.elim (·.2) fun h => h.1.trans (h1.symm.trans h.2)⟩
  · rw [if_neg h1]
    by_cases h2 : e.2 = u
    · rw [if_pos h2, Option.some.injEq]
      exact ⟨fun h => Or.inr ⟨h2, h⟩, fun h => h.elim (fun h => absurd h.1 h1) (·.2)⟩
    · rw [if_neg h2]
      exact ⟨fun h => (by cases h), fun h => h.elim (fun h => absurd h.1 h1) (fun h => absurd h.1 h2)⟩

theorem usucc_symm (edges : List (Node × Node)) (u v : Node) (h : v ∈ usucc edges u) : u ∈ usucc edges v := by
  rw [mem_usucc] at h ⊢
  obtain ⟨e, he, h | h⟩ := h
  · exact ⟨e, he, Or.inr ⟨h.2, h.1⟩⟩
  · exact ⟨e, he, Or.inl ⟨h.2, h.1⟩⟩

theorem usucc_wf (nodes : List Node) (edges : List (Node × Node)) (hnd : nodes.Nodup)
    (he : ∀ e ∈ edges, e.1 ∈ nodes ∧ e.2 ∈ nodes) : Perc.WF nodes (usucc edges) := by
  refine ⟨hnd, fun u _ v hv => ?_⟩
  obtain ⟨e, hee, h | h⟩ := (mem_usucc edges u v).1 hv
  · rw [← h.2]; exact (he e hee).2
  · rw [← h.2]; exact (he e hee).1

theorem mkNX_ccs_spec (sccs? : Option (List (List Node))) (nodes : List Node) (edges : List (Node × Node))
    (hnd : nodes.Nodup) (he : ∀ e ∈ edges, e.1 ∈ nodes ∧ e.2 ∈ nodes) : CCSpec (mkNX sccs?) nodes edges := by
  have hwf := usucc_wf nodes edges hnd he
  have hccs : (mkNX sccs?).ccs nodes edges =
      nodes.foldl (ccStep fun u => Perc.reachFrom nodes (usucc edges) [u]) [] := rfl
  have hmem : ∀ u v, v ∈ Perc.reachFrom nodes (usucc edges) [u] ↔ Perc.reach nodes (usucc edges) u v = true := by
    intro u v; unfold Perc.reach; rw [List.contains_iff_mem]
  have hself : ∀ u ∈ nodes, u ∈ Perc.reachFrom nodes (usucc edges) [u] := fun u hu => (hmem u u).2 (Perc.reach_self hu)
  have hspec := ccFold_spec (fun u => Perc.reachFrom nodes (usucc edges) [u]) nodes hself []
  constructor
  · intro c hc
    rw [hccs] at hc
    rcases hspec.1 c hc with h0 | ⟨u0, hu0, rfl⟩
    · cases h0
    · refine ⟨List.ne_nil_of_mem (hself u0 hu0), ?_, fun u hu => ?_⟩
      · rw [Perc.reachFrom_eq]; exact (Perc.Ck_sublist u0 _).nodup hnd
      · have hr := (hmem u0 u).1 hu
        have hr' : Perc.reach nodes (usucc edges) u u0 = true :=
          (Perc.reach_iff_path hwf (Perc.reach_mem hr) u0).2
            (((Perc.reach_iff_path hwf hu0 u).1 hr).symm (usucc_symm edges))
        refine ⟨Perc.reach_mem hr, fun v => ?_⟩
        show v ∈ Perc.reachFrom nodes (usucc edges) [u0] ↔ _
        rw [hmem]
        exact ⟨fun h => Perc.reach_trans hwf hr' h, fun h => Perc.reach_trans hwf hr h⟩
  · intro u hu
    rw [hccs]
    exact hspec.2.2 u hu

/-! ### `get_infected_nodes` -/

/-- normalisation of `initial_infecteds` / `initial_recovereds` when given: a node of `G` becomes the singleton, anything
else is passed to `set()` (which raises `TypeError` for a single non-node) -/
def normSrc (C : Contact) (x : Src) : Except String (List Node) :=
  match x with
  | .inl u => if C.nodes.contains u then .ok [u] else .error "TypeError"
  | .inr l => .ok (PyDM.setOf l)

/-- normalisation of an optional argument whose default is the empty set (`initial_recovereds`) -/
def normOpt (C : Contact) (o : Option Src) : Except String (List Node) :=
  match o with
  | none => .ok []
  | some x => normSrc C x

/-- removal of the recovered nodes from the percolated digraph -/
def removeLoop (X : NX) (recs : List Node) (H : DiG) : PM DiG :=
  (X.iter recs).foldlM (fun acc node => PyPM.liftE (acc.removeNode node)) H

/-- everything after the normalisation -/
def infectedBody (X : NX) (C : Contact) (tau gamma : Rat) (infs recs : List Node) : PM (List Node) :=
  if (!(inter infs recs).isEmpty) then err "EoNError" else do
    let H ← GenPerc.directed_percolate_network X C tau gamma true
    let H ← removeLoop X recs H
    GenPerc.out_component X H (Sum.inr infs)

theorem norm_eq (C : Contact) (x : Src) :
    (if C.hasNodeS x = true then do
        let s ← PyPM.liftE (singletonS x)
        pure (PyDM.setOf s)
      else do
        let s ← PyPM.liftE (setOfS x)
        pure s : PM (List Node)) = PyPM.liftE (normSrc C x) := by
  cases x with
  | inl u =>
    unfold normSrc Contact.hasNodeS
    cases h : C.nodes.contains u
    · simp only [h, Bool.false_eq_true, if_false, setOfS]; rfl
    · simp only [h, if_true, singletonS]; rfl
  | inr l => rfl

theorem get_infected_given (X : NX) (C : Contact) (tau gamma : Rat) (i : Src) (o : Option Src) :
    GenPerc.get_infected_nodes X C tau gamma (some i) o = (do
      let recs ← PyPM.liftE (normOpt C o)
      let infs ← PyPM.liftE (normSrc C i)
      infectedBody X C tau gamma infs recs) := by
  unfold GenPerc.get_infected_nodes infectedBody removeLoop
  cases o <;> simp only [norm_eq, normOpt, liftE_ok, bind_pure, pure_bind, fail_eq]

theorem get_infected_default (X : NX) (C : Contact) (tau gamma : Rat) (o : Option Src) :
    GenPerc.get_infected_nodes X C tau gamma none o = (do
      let recs ← PyPM.liftE (normOpt C o)
      let node ← GenPerc.get_infected_nodes.draw_node C recs 10000
      infectedBody X C tau gamma [node] recs) := by
  unfold GenPerc.get_infected_nodes infectedBody removeLoop
  cases o <;> simp only [norm_eq, normOpt, liftE_ok, bind_pure, pure_bind, fail_eq, bind_assoc] <;> rfl

/-! ### removing the recovered nodes -/

/-- `H.remove_node(u)` for a node of `H` -/
def rm1 (H : DiG) (u : Node) : DiG :=
  { nodes := H.nodes.filter (fun p => p.1 != u), edges := H.edges.filter (fun e => e.1.1 != u && e.1.2 != u) }

def rmAll (H : DiG) (l : List Node) : DiG := l.foldl rm1 H

theorem removeNode_ok (H : DiG) (u : Node) (h : u ∈ H.nodeList) : H.removeNode u = .ok (rm1 H u) := by
  unfold DiG.removeNode
  rw [if_pos (show alHas H.nodes u = true from (hasNode_iff H u).2 h)]; rfl

theorem removeNode_err (H : DiG) (u : Node) (h : u ∉ H.nodeList) : H.removeNode u = .error "NetworkXError" := by
  unfold DiG.removeNode
  rw [if_neg (show ¬ alHas H.nodes u = true from fun h' => h ((hasNode_iff H u).1 h'))]; rfl

theorem mem_rm1_nodeList (H : DiG) (u x : Node) : x ∈ (rm1 H u).nodeList ↔ x ∈ H.nodeList ∧ x ≠ u := by
  simp only [DiG.nodeList, rm1, List.mem_map, List.mem_filter, bne_iff_ne]
  exact ⟨fun ⟨p, ⟨hp, hne⟩, e⟩ => ⟨⟨p, hp, e⟩, e ▸ hne⟩, fun ⟨⟨p, hp, e⟩, hne⟩ => ⟨p, ⟨hp, e ▸ hne⟩, e⟩⟩

theorem mem_rm1_succ (H : DiG) (u x y : Node) : y ∈ (rm1 H u).succ x ↔ y ∈ H.succ x ∧ x ≠ u ∧ y ≠ u := by
  simp only [DiG.succ, rm1, List.mem_map, List.mem_filter, beq_iff_eq, Bool.and_eq_true, bne_iff_ne]
  constructor
  · rintro ⟨e, ⟨⟨he, h1, h2⟩, hx⟩, rfl⟩; exact ⟨⟨e, ⟨he, hx⟩, rfl⟩, hx ▸ h1, h2⟩
  · rintro ⟨⟨e, ⟨he, hx⟩, rfl⟩, h1, h2⟩; exact ⟨e, ⟨⟨he, hx ▸ h1, h2⟩, hx⟩, rfl⟩

theorem rm1_hwf {H : DiG} (h : HWF H) (u : Node) : HWF (rm1 H u) := by
  refine ⟨(List.filter_sublist.map _).nodup h.nodup, fun e he => ?_⟩
  obtain ⟨he, h1, h2⟩ : e ∈ H.edges ∧ e.1.1 ≠ u ∧ e.1.2 ≠ u := by
    simpa only [rm1, List.mem_filter, Bool.and_eq_true, bne_iff_ne] using he
  exact ⟨(mem_rm1_nodeList H u _).2 ⟨(h.edge_mem e he).1, h1⟩, (mem_rm1_nodeList H u _).2 ⟨(h.edge_mem e he).2, h2⟩⟩

theorem rmAll_cons (H : DiG) (a : Node) (t : List Node) : rmAll H (a :: t) = rmAll (rm1 H a) t := rfl

theorem mem_rmAll_nodeList (l : List Node) : ∀ (H : DiG) (x : Node),
    x ∈ (rmAll H l).nodeList ↔ x ∈ H.nodeList ∧ x ∉ l := by
  induction l with
  | nil => intro H x; exact ⟨fun h => ⟨h, List.not_mem_nil⟩, fun h => h.1⟩
  | cons a t ih => intro H x; rw [rmAll_cons, ih, mem_rm1_nodeList, List.mem_cons, not_or, and_assoc]

theorem mem_rmAll_succ (l : List Node) : ∀ (H : DiG) (u v : Node),
    v ∈ (rmAll H l).succ u ↔ v ∈ H.succ u ∧ u ∉ l ∧ v ∉ l := by
  induction l with
  | nil => intro H u v; exact ⟨fun h => ⟨h, List.not_mem_nil, List.not_mem_nil⟩, fun h => h.1⟩
  | cons a t ih =>
    intro H u v
    rw [rmAll_cons, ih, mem_rm1_succ, List.mem_cons, List.mem_cons, not_or, not_or]
    exact ⟨fun ⟨⟨h, ua, va⟩, ut, vt⟩ => ⟨h, ⟨ua, ut⟩, va, vt⟩, fun ⟨h, ⟨ua, ut⟩, va, vt⟩ => ⟨⟨h, ua, va⟩, ut, vt⟩⟩

theorem rmAll_hwf (l : List Node) : ∀ (H : DiG), HWF H → HWF (rmAll H l) := by
  induction l with
  | nil => exact fun H h => h
  | cons a t ih => exact fun H h => ih _ (rm1_hwf h a)

theorem removeFold_ok (l : List Node) : ∀ (H : DiG), l.Nodup → (∀ u ∈ l, u ∈ H.nodeList) →
    l.foldlM (fun (acc : DiG) node => acc.removeNode node) H = .ok (rmAll H l) := by
  induction l with
  | nil => intro H _ _; rfl
  | cons a t ih =>
    intro H hnd hl
    rw [List.nodup_cons] at hnd
    rw [List.foldlM_cons, removeNode_ok H a (hl a (List.mem_cons_self ..))]
    exact ih (rm1 H a) hnd.2 fun u hu =>
      (mem_rm1_nodeList H a u).2 ⟨hl u (List.mem_cons_of_mem _ hu), fun h => hnd.1 (h ▸ hu)⟩

theorem removeFold_err (l : List Node) : ∀ (H : DiG), l.Nodup → (∃ u ∈ l, u ∉ H.nodeList) →
    l.foldlM (fun (acc : DiG) node => acc.removeNode node) H = .error "NetworkXError" := by
  induction l with
  | nil => intro H _ h; obtain ⟨u, hu, _⟩ := h; cases hu
  | cons a t ih =>
    intro H hnd hbad
    rw [List.nodup_cons] at hnd
    rw [List.foldlM_cons]
    by_cases ha : a ∈ H.nodeList
    · rw [removeNode_ok H a ha]
      obtain ⟨u, hu, hun⟩ := hbad
      rcases List.mem_cons.1 hu with rfl | hu'
      · exact absurd ha hun
      · refine ih (rm1 H a) hnd.2 ⟨u, hu', fun h => hun ?_⟩
        exact ((mem_rm1_nodeList H a u).1 h).1
    · rw [removeNode_err H a ha]; rfl

theorem removeLoop_eq (X : NX) (recs : List Node) (H : DiG) :
    removeLoop X recs H = PyPM.liftE ((X.iter recs).foldlM (fun (acc : DiG) node => acc.removeNode node) H) := by
  unfold removeLoop; rw [liftE_foldlM]

/-! ### the body of `get_infected_nodes`, the default draw -/

theorem inter_isEmpty (a b : List Node) : (inter a b).isEmpty = true ↔ ∀ x ∈ a, x ∉ b := by
  unfold inter
  rw [List.isEmpty_iff, List.filter_eq_nil_iff]
  simp

theorem infectedBody_overlap (X : NX) (C : Contact) (tau gamma : Rat) (infs recs : List Node)
    (h : ∃ u ∈ infs, u ∈ recs) : infectedBody X C tau gamma infs recs = err "EoNError" := by
  unfold infectedBody
  have : (inter infs recs).isEmpty = false := by
    cases hh : (inter infs recs).isEmpty
    · rfl
    · obtain ⟨u, hu, hur⟩ := h
      exact absurd hur ((inter_isEmpty infs recs).1 hh u hu)
  rw [this]; rfl

theorem infectedBody_disjoint (X : NX) (C : Contact) (tau gamma : Rat) (infs recs : List Node)
    (hdisj : ∀ u ∈ infs, u ∉ recs) : infectedBody X C tau gamma infs recs = (do
      let H ← GenPerc.directed_percolate_network X C tau gamma true
      let H ← removeLoop X recs H
      GenPerc.out_component X H (Sum.inr infs)) := by
  unfold infectedBody; rw [(inter_isEmpty infs recs).2 hdisj]; rfl

theorem infectedBody_ok (X : NX) (hX : NXSpec X) (C : Contact) (tau gamma : Rat) (infs recs : List Node)
    (hdisj : ∀ u ∈ infs, u ∉ recs) (hrn : recs.Nodup) {s s' : PSt} {ts ts' : TapeSt} {H : DiG}
    (hb : GenPerc.directed_percolate_network X C tau gamma true s ts = .ok ((H, s'), ts')) (hH : HWF H)
    (hr : ∀ u ∈ recs, u ∈ H.nodeList) (hi : ∀ u ∈ infs, u ∈ H.nodeList) :
    ∃ r, infectedBody X C tau gamma infs recs s ts = .ok ((r, s'), ts') ∧ r.Nodup ∧
      ∀ v, v ∈ r ↔ ∃ u ∈ infs, Perc.reach (rmAll H (X.iter recs)).nodeList (rmAll H (X.iter recs)).succ u v = true := by
  have hwf' := rmAll_hwf (X.iter recs) H hH
  have hXH := hX _ hwf'
  have hperm := hXH.iter recs
  have hin : ∀ u ∈ infs, (rmAll H (X.iter recs)).hasNode u = true := by
    intro u hu
    rw [hasNode_iff, mem_rmAll_nodeList]
    exact ⟨hi u hu, fun h => hdisj u hu (hperm.mem_iff.1 h)⟩
  obtain ⟨r, hr1, hr2, hr3⟩ := compE_list hXH.iter hXH.lists_desc hin
  refine ⟨r, ?_, hr2, hr3⟩
  rw [infectedBody_disjoint X C tau gamma infs recs hdisj, TM.st_bind_ok hb, removeLoop_eq,
    removeFold_ok (X.iter recs) H (hperm.nodup_iff.2 hrn) (fun u hu => hr u (hperm.mem_iff.1 hu))]
  simp only [liftE_ok, pure_bind]
  rw [out_component_eq, hr1]; rfl

/-- a recovered node that is not in the graph: `remove_node` raises -/
theorem infectedBody_foreign_rec (X : NX) (hX : NXSpec X) (C : Contact) (tau gamma : Rat) (infs recs : List Node)
    (hdisj : ∀ u ∈ infs, u ∉ recs) (hrn : recs.Nodup) {s s' : PSt} {ts ts' : TapeSt} {H : DiG}
    (hb : GenPerc.directed_percolate_network X C tau gamma true s ts = .ok ((H, s'), ts')) (hH : HWF H)
    (hr : ∃ u ∈ recs, u ∉ H.nodeList) :
    infectedBody X C tau gamma infs recs s ts = .error "NetworkXError" := by
  have hperm := (hX _ hH).iter recs
  obtain ⟨u, hu, hun⟩ := hr
  rw [infectedBody_disjoint X C tau gamma infs recs hdisj, TM.st_bind_ok hb, removeLoop_eq,
    removeFold_err (X.iter recs) H (hperm.nodup_iff.2 hrn) ⟨u, hperm.mem_iff.2 hu, hun⟩]
  rfl

def succAvoid (succ : Node → List Node) (recs : List Node) (x : Node) : List Node :=
  (succ x).filter fun v => !recs.contains v

theorem path_rmAll (H : DiG) (l recs : List Node) (hl : ∀ x, x ∈ l ↔ x ∈ recs) (u v : Node) (hu : u ∉ recs) :
    Perc.Path (rmAll H l).succ u v ↔ Perc.Path (succAvoid H.succ recs) u v := by
  have hmem : ∀ x y, y ∈ succAvoid H.succ recs x ↔ y ∈ H.succ x ∧ y ∉ recs := fun x y => by
    unfold succAvoid; rw [List.mem_filter, Bool.not_eq_true', ← Bool.not_eq_true, List.contains_iff_mem]
  refine Perc.Path.congr (S := fun x => x ∉ recs) (fun x _ y hy => ((hmem x y).1 hy).2) (fun x hx y => ?_) hu v
  rw [mem_rmAll_succ, hmem]
  exact ⟨fun ⟨h1, _, h3⟩ => ⟨h1, fun h => h3 ((hl y).2 h)⟩,
    fun ⟨h1, h2⟩ => ⟨h1, fun h => hx ((hl x).1 h), fun h => h2 ((hl y).1 h)⟩⟩

theorem choiceNode_takes (seq : List Node) (i : Nat) (x : Node) (hx : seq[i]? = some x) (s : PSt) :
    Takes (PyPM.choiceNode seq) s [Draw.choice i] [Call.choice (seq.map PyTM.encNode)] x s := by
  refine (((TM.popChoice_takes (seq.map PyTM.encNode) i
    (by rw [List.length_map]; exact (List.getElem?_eq_some_iff.1 hx).1)).lift s).bind
    (Takes.of_pure (a := x) fun ts => ?_)).cast rfl rfl
  show PyPM.liftE (PyRT.listChoice seq i) s ts = _
  unfold PyRT.listChoice; rw [hx]; rfl

theorem draw_node_succ (C : Contact) (recs : List Node) (fuel : Nat) :
    GenPerc.get_infected_nodes.draw_node C recs (fuel + 1) = (do
      let c ← PyPM.choiceNode C.nodes
      if (!(recs.contains c)) then pure c else GenPerc.get_infected_nodes.draw_node C recs fuel) := by
  rw [GenPerc.get_infected_nodes.draw_node]

/-- the default initial infection: `random.choice(G.nodes())` until the node is not initially recovered -/
theorem draw_node_takes (C : Contact) (recs : List Node) (j : Nat) (y : Node) (hj : C.nodes[j]? = some y) (hy : y ∉ recs)
    (s : PSt) : ∀ (is : List Nat) (fuel : Nat), is.length < fuel → (∀ i ∈ is, ∃ x ∈ recs, C.nodes[i]? = some x) →
    Takes (GenPerc.get_infected_nodes.draw_node C recs fuel) s (is.map Draw.choice ++ [Draw.choice j])
      (List.replicate (is.length + 1) (Call.choice (C.nodes.map PyTM.encNode))) y s
  | [], fuel + 1, _, _ => by
    rw [draw_node_succ]
    refine ((choiceNode_takes C.nodes j y hj s).bind ?_).cast rfl rfl
    rw [show recs.contains y = false by simpa using hy]
    exact Takes.pure y s
  | i :: is, fuel + 1, hf, hrec => by
    obtain ⟨x, hxr, hx⟩ := hrec i List.mem_cons_self
    have ih := draw_node_takes C recs j y hj hy s is fuel (Nat.lt_of_succ_lt_succ hf)
      fun k hk => hrec k (List.mem_cons_of_mem _ hk)
    rw [draw_node_succ]
    refine Takes.cast ((choiceNode_takes C.nodes i x hx s).bind (f := fun c =>
      if (!(recs.contains c)) then pure c else GenPerc.get_infected_nodes.draw_node C recs fuel) ?_) rfl rfl
    rw [show recs.contains x = true from List.contains_iff_mem.2 hxr]
    exact ih

/-! ### `get_infected_nodes`: whole runs -/

theorem normSrc_nodup {C : Contact} {x : Src} {l : List Node} (h : normSrc C x = .ok l) : l.Nodup := by
  cases x with
  | inl u =>
    have h' : (if C.nodes.contains u then Except.ok [u] else Except.error "TypeError" : Except String (List Node)) = .ok l := h
    split at h'
    · injection h' with h'; rw [← h']; exact List.nodup_singleton u
    · cases h'
  | inr l' =>
    have h' : (Except.ok (PyDM.setOf l') : Except String (List Node)) = .ok l := h
    injection h' with h'; rw [← h']; exact setOf_nodup l'

theorem normOpt_nodup {C : Contact} {o : Option Src} {l : List Node} (h : normOpt C o = .ok l) : l.Nodup := by
  cases o with
  | none => unfold normOpt at h; injection h with h; rw [← h]; exact List.nodup_nil
  | some x => exact normSrc_nodup h

theorem infectedBody_tape (X : NX) (hX : NXSpec X) (C : Contact) (tau gamma : Rat) (infs recs : List Node)
    (hdisj : ∀ u ∈ infs, u ∉ recs) (hrn : recs.Nodup) (hrc : ∀ u ∈ recs, u ∈ C.nodes) (hic : ∀ u ∈ infs, u ∈ C.nodes)
    (answers : List (ERat × List ERat)) (hsh : Shape C.nbrs C.nodes answers)
    (hok : ∀ a ∈ answers, OkAns gamma a.1 ∧ ∀ t ∈ a.2, OkAns tau t) (s : PSt) (rest : List Draw) (tr : Array Call) :
    ∃ res, infectedBody X C tau gamma infs recs s ⟨tapeOf answers ++ rest, tr⟩ =
        .ok ((res, s), ⟨rest, tr ++ traceOf tau gamma answers⟩) ∧ res.Nodup ∧
      ∀ v, v ∈ res ↔ ∃ u ∈ infs, Perc.Path (succAvoid (buildL true C answers).succ recs) u v := by
  have hb := directed_tape X C tau gamma true answers hsh hok s rest tr
  have hH := buildL_hwf true C answers
  obtain ⟨res, h1, h2, h3⟩ := infectedBody_ok X hX C tau gamma infs recs hdisj hrn hb hH
    (fun u hu => buildL_mem true C answers hsh u (hrc u hu)) (fun u hu => buildL_mem true C answers hsh u (hic u hu))
  refine ⟨res, h1, h2, fun v => ?_⟩
  rw [h3]
  have hwf' := rmAll_hwf (X.iter recs) _ hH
  have hperm := (hX _ hwf').iter recs
  refine exists_congr fun u => and_congr_right fun hu => ?_
  have hun : u ∈ (rmAll (buildL true C answers) (X.iter recs)).nodeList := by
    rw [mem_rmAll_nodeList]
    exact ⟨buildL_mem true C answers hsh u (hic u hu), fun h => hdisj u hu (hperm.mem_iff.1 h)⟩
  exact (Perc.reach_iff_path hwf'.wf hun v).trans (path_rmAll _ _ recs (fun x => hperm.mem_iff) u v (hdisj u hu))

/-! ### data for the closed examples of `Props/C17c.lean` -/

def val {α : Type} (r : Except String ((α × PSt) × TapeSt)) : Except String α := r.map (·.1.1)

def exH : DiG :=
  { nodes := [(0, none), (1, none), (2, none), (3, none)],
    edges := [((0, 1), none), ((1, 2), none), ((2, 0), none), ((2, 3), none)] }

def s0 : PSt := { vals := [] }

def t0 : TapeSt := { tape := [] }

theorem exH_wf : HWF exH := ⟨by decide, by decide⟩

/-- the generator order of the components decides ties: C17's example (two 2-cycles joined one way) with both orders -/
def exT : DiG :=
  { nodes := [(0, none), (1, none), (2, none), (3, none)],
    edges := [((0, 1), none), ((1, 0), none), ((1, 2), none), ((2, 3), none), ((3, 2), none)] }

def valN (r : Except String ((DiG × PSt) × TapeSt)) : Except String (List (Node × Option ERat)) := r.map (·.1.1.nodes)

def valE (r : Except String ((DiG × PSt) × TapeSt)) : Except String (List ((Node × Node) × Option ERat)) :=
  r.map (·.1.1.edges)

def exC : Contact :=
  { nodes := [0, 1, 2, 3],
    nbrs := fun u => match u with | 0 => [1, 2] | 1 => [0, 2] | 2 => [1, 0, 3] | 3 => [2] | _ => [],
    edges := [(0, 1), (0, 2), (1, 2), (2, 3)] }

theorem exC_wf : CWF exC := ⟨by decide, by decide⟩

theorem exC_nbrs_nodup : ∀ u ∈ exC.nodes, (exC.nbrs u).Nodup := by decide

/-- durations 2; delay 1 along 0→1→2→0 and 2→3, delay 3 against -/
def exDelay (u v : Node) : ERat := if v = (u + 1) % 3 ∨ (u = 2 ∧ v = 3) then some 1 else some 3

def exRunT := GenPerc.with_timing (mkNX none) exC (fun u v => pure (exDelay u v)) (fun _ => pure (some 2)) true s0 t0

def exRunF := GenPerc.with_timing (mkNX none) exC (fun u v => pure (exDelay u v)) (fun _ => pure (some 2)) false s0 t0

/-- `xi[u] = u`, `zeta[v] = v`, transmission iff `xi + zeta ≥ 3`: a node added by `add_edge` before its own turn keeps its
place -/
def exRunX := GenPerc.xi_zeta_network (mkNX none) exC (fun u => u) (fun v => v) (fun x z => decide (x + z ≥ 3)) s0 t0

def exTape : List Draw :=
  [.expo 2, .expo 1, .expo 3,  .expo 2, .expo 3, .expo 1,  .expo 2, .expo 3, .expo 1, .expo 1,  .expo 2, .expo 3, .unif 0]

def exRunD := GenPerc.directed_percolate_network (mkNX none) exC 1 (1/2) true s0 ⟨exTape, #[]⟩

/-- the answers `exTape` encodes (`tau = 1`, `gamma = 1/2`) -/
def exAnswers : List (ERat × List ERat) :=
  [(some 2, [some 1, some 3]), (some 2, [some 3, some 1]), (some 2, [some 3, some 1, some 1]), (some 2, [some 3])]

theorem exAnswers_shape : Shape exC.nbrs exC.nodes exAnswers :=
  List.Forall₂.cons rfl (List.Forall₂.cons rfl (List.Forall₂.cons rfl (List.Forall₂.cons rfl List.Forall₂.nil)))

theorem exAnswers_ok : ∀ a ∈ exAnswers, OkAns (1/2) a.1 ∧ ∀ t ∈ a.2, OkAns 1 t := by
  have h1 : (0 : Rat) < 1 / 2 := by decide +kernel
  have h2 : (0 : Rat) < 1 := by decide +kernel
  intro a ha
  simp only [exAnswers, List.mem_cons, List.not_mem_nil, or_false] at ha
  rcases ha with rfl | rfl | rfl | rfl <;>
    exact ⟨okAns_some h1 _, fun t ht => by
      simp only [List.mem_cons, List.not_mem_nil, or_false] at ht
      rcases ht with rfl | rfl | rfl <;> exact okAns_some h2 _⟩

end GenPercProofs
