import EoNVerif.Model.ODE2
import EoNVerif.Proofs.ODE
import Mathlib.Algebra.BigOperators.Ring.Finset
/-!
The lemmas that the files about the array-valued right-hand sides (`Model/ODE2.lean`) share: linearity and interchange
of the double sum `sum2` (through `Finset` sums), the diagonal-shift (telescoping) lemmas of the
effective-degree models, sums over a duplicate-free degree list versus `sumTo`, and the length of a filtered neighbour
list.
-/
namespace ODE

/-! ## double sums, through their `Finset` form -/

theorem sum2_eq_sum (A B : Nat) (f : Nat → Nat → Rat) :
    sum2 A B f = ∑ s ∈ Finset.range A, ∑ i ∈ Finset.range B, f s i := by
  unfold sum2; simp only [sumTo_eq_sum]

theorem sum2_congr (A B : Nat) (f g : Nat → Nat → Rat) (h : ∀ s i, s < A → i < B → f s i = g s i) :
    sum2 A B f = sum2 A B g :=
  sumTo_congr _ _ _ (fun s hs => sumTo_congr _ _ _ (fun i hi => h s i hs hi))

theorem sum2_add (A B : Nat) (f g : Nat → Nat → Rat) :
    sum2 A B (fun s i => f s i + g s i) = sum2 A B f + sum2 A B g := by
  simp only [sum2_eq_sum, Finset.sum_add_distrib]

theorem sum2_mul_left (A B : Nat) (f : Nat → Nat → Rat) (c : Rat) :
    sum2 A B (fun s i => c * f s i) = c * sum2 A B f := by
  simp only [sum2_eq_sum, Finset.mul_sum]

theorem sum2_zero (A B : Nat) : sum2 A B (fun _ _ => 0) = 0 := by
  simp only [sum2_eq_sum, Finset.sum_const_zero]

theorem sum2_sub (A B : Nat) (f g : Nat → Nat → Rat) :
    sum2 A B (fun s i => f s i - g s i) = sum2 A B f - sum2 A B g := by
  simp only [sum2_eq_sum, Finset.sum_sub_distrib]

theorem sum2_swap (A B : Nat) (f : Nat → Nat → Rat) : sum2 A B f = sum2 B A (fun i s => f s i) := by
  rw [sum2_eq_sum, sum2_eq_sum, Finset.sum_comm]

/-! ## effective degree: shifted sums -/

theorem sumTo_succ' (K : Nat) (F : Nat → Rat) : sumTo (K + 1) F = sumTo K (fun s => F (s + 1)) + F 0 := by
  rw [sumTo_shift]; ring

theorem kf_succ (k : Nat) : kf (k + 1) = kf k + 1 := by simp [kf]

/-- the SIR recovery shift `(s,i+1) → (s,i)` stays in row `s`, so it telescopes row by row: no support hypothesis -/
theorem sum2_ip1 (A B : Nat) (X : Nat → Nat → Rat) :
    sum2 A B (fun s i => (kf i + 1) * (if i + 1 = B then 0 else X s (i + 1))) = sum2 A B (fun s i => kf i * X s i) := by
  unfold sum2
  apply sumTo_congr; intro s _
  cases B with
  | zero => simp [sumTo_zero_left]
  | succ B =>
    rw [sumTo_succ, sumTo_succ' B (fun i => kf i * X s i), kf_zero]
    dsimp only
    rw [if_pos rfl]
    simp only [mul_zero, zero_mul, add_zero]
    apply sumTo_congr; intro i hi
    have : ¬ (i + 1 = B + 1) := by omega
    rw [if_neg this, kf_succ]

/-- the SIS recovery shift `(s-1,i+1) → (s,i)` moves along an antidiagonal; what leaves the `A × A` square at `i+1 = A`
and what would enter from row `A` cancel only if the array vanishes for `s+i ≥ A` (`hX`) -/
theorem sum2_up (A : Nat) (X : Nat → Nat → Rat) (hX : ∀ s i, A ≤ s + i → X s i = 0) :
    sum2 A A (fun s i => (kf i + 1) * (if s = 0 ∨ i + 1 = A then 0 else X (s - 1) (i + 1)))
      = sum2 A A (fun s i => kf i * X s i) := by
  cases A with
  | zero => simp [sum2, sumTo_zero_left]
  | succ A =>
    unfold sum2
    rw [sumTo_succ' A, sumTo_succ A (fun s => sumTo (A + 1) fun i => kf i * X s i)]
    have z1 : sumTo (A + 1) (fun i => (kf i + 1) * (if (0 : Nat) = 0 ∨ i + 1 = A + 1 then 0 else X (0 - 1) (i + 1))) = 0 := by
      rw [sumTo_congr (A + 1) _ (fun _ => 0) (fun i _ => by simp)]
      exact sumTo_const_zero _
    have z2 : sumTo (A + 1) (fun i => kf i * X A i) = 0 := by
      rw [sumTo_congr (A + 1) _ (fun _ => 0)]
      · exact sumTo_const_zero _
      · intro i _
        cases i with
        | zero => simp [kf_zero]
        | succ i => rw [hX A (i + 1) (by omega)]; ring
    rw [z1, z2, add_zero, add_zero]
    apply sumTo_congr; intro s _
    rw [sumTo_succ, sumTo_succ' A (fun i => kf i * X s i), kf_zero]
    have : (s + 1 = 0 ∨ A + 1 = A + 1) := Or.inr rfl
    dsimp only
    rw [if_pos this]
    simp only [mul_zero, zero_mul, add_zero]
    apply sumTo_congr; intro i hi
    have : ¬ (s + 1 = 0 ∨ i + 1 = A + 1) := by omega
    rw [if_neg this, kf_succ, Nat.add_sub_cancel]

/-- its transpose (infection of a neighbour) -/
theorem sum2_dn (A : Nat) (X : Nat → Nat → Rat) (hX : ∀ s i, A ≤ s + i → X s i = 0) :
    sum2 A A (fun s i => (kf s + 1) * (if i = 0 ∨ s + 1 = A then 0 else X (s + 1) (i - 1)))
      = sum2 A A (fun s i => kf s * X s i) := by
  rw [sum2_swap, sum2_swap A A (fun s i => kf s * X s i)]
  exact sum2_up A (fun s i => X i s) (fun s i h => hX i s (by omega))

/-- what the `i → i-1` (recovery of a neighbour) shift adds to class `(s,i)` minus what it takes away -/
def shiftUp (A : Nat) (X : Nat → Nat → Rat) (s i : Nat) : Rat :=
  (kf i + 1) * (if s = 0 ∨ i + 1 = A then 0 else X (s - 1) (i + 1)) - kf i * X s i
/-- likewise for the `s → s-1` (infection of a neighbour) shift -/
def shiftDn (A : Nat) (X : Nat → Nat → Rat) (s i : Nat) : Rat :=
  (kf s + 1) * (if i = 0 ∨ s + 1 = A then 0 else X (s + 1) (i - 1)) - kf s * X s i

theorem sum2_shiftUp (A : Nat) (X : Nat → Nat → Rat) (hX : ∀ s i, A ≤ s + i → X s i = 0) :
    sum2 A A (shiftUp A X) = 0 := by
  unfold shiftUp
  rw [sum2_sub, sum2_up A X hX, sub_self]

theorem sum2_shiftDn (A : Nat) (X : Nat → Nat → Rat) (hX : ∀ s i, A ≤ s + i → X s i = 0) :
    sum2 A A (shiftDn A X) = 0 := by
  unfold shiftDn
  rw [sum2_sub, sum2_dn A X hX, sub_self]

theorem psiH_smul (K : Nat) (c : Nat → Rat) (a x : Rat) : psiH K (fun k => a * c k) x = a * psiH K c x := by
  unfold psiH
  rw [← ODE.sumTo_mul_left]
  apply sumTo_congr; intro k _; ring

theorem psiHP_smul (K : Nat) (c : Nat → Rat) (a x : Rat) : psiHP K (fun k => a * c k) x = a * psiHP K c x := by
  unfold psiHP
  rw [← ODE.sumTo_mul_left]
  apply sumTo_congr; intro k _; ring

theorem sumRat_ks_psiH (K : Nat) (ks : List Nat) (hks : ks.Nodup) (hK : ∀ d ∈ ks, d < K)
    (Pk : Nat → Rat) (hP0 : ∀ d, d ∉ ks → Pk d = 0) (theta : Rat) :
    sumRat (ks.map fun d => Pk d * theta ^ d) = psiH K Pk theta := by
  unfold psiH
  rw [sumTo_eq_sumRat_of_support K ks hks hK (fun k => Pk k * theta ^ k) (fun d hd => by simp [hP0 d hd])]

theorem sumRat_ks_psiHP (K : Nat) (ks : List Nat) (hks : ks.Nodup) (hK : ∀ d ∈ ks, d < K)
    (Pk : Nat → Rat) (hP0 : ∀ d, d ∉ ks → (d : Rat) * Pk d = 0) (kave theta : Rat) :
    sumRat (ks.map fun d' : Nat => (d' : Rat) * Pk d' / kave * theta ^ (d' - 1)) = psiHP K Pk theta / kave := by
  unfold psiHP
  rw [div_eq_mul_inv, ← sumTo_mul_right,
    sumTo_eq_sumRat_of_support K ks hks hK (fun k => kf k * Pk k * theta ^ (k - 1) * kave⁻¹)
      (fun d hd => by simp only [kf]; rw [hP0 d hd]; ring)]
  apply sumRat_map_congr; intro d _
  simp only [kf]; ring

/-! ## neighbour lists -/

theorem filter_ne_length_cast (l : List Nat) (a n : Nat) (hn : l.Nodup) (ha : a ∈ l) (hl : l.length = n) :
    (((l.filter fun w => w ≠ a).length : Nat) : Rat) = (n : Rat) - 1 := by
  have e : (l.filter fun w => w ≠ a) = l.erase a := by
    rw [hn.erase_eq_filter]
    exact List.filter_congr (fun w _ => by by_cases h : w = a <;> simp [h])
  have : 1 ≤ n := by rw [← hl]; exact List.length_pos_of_mem ha
  rw [e, List.length_erase_of_mem ha, hl, Nat.cast_sub this]; simp

end ODE
