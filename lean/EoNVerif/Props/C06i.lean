import EoNVerif.Props.C06iEffDeg
import EoNVerif.Props.C06iHetPW
import EoNVerif.Props.C06iPrefMixDisc
import EoNVerif.Props.C06f
/-!
C06i, pair-based entry points: `SIS_pair_based` / `SIR_pair_based` GENERATED into `Gen/OdeGlue2.lean`, for ALL inputs and
every pair of solvers: the exact success conditions (including node lists whose length differs from `G.order()`),
conservation and initial state of every normal return, the exception cases not in C06f §4–§7, and
`SIR_pair_based_pure_IC` without `initial_recovereds`.  The reduction of the two functions to guards / shape checks / node-list check, and the closed
form of `X0 = [(X0 |) Y0 | XY0∘A | XX0∘A]`, are in `Proofs/PairBased.lean`.  The other entry points of `Gen/OdeGlue2.lean`
are treated in `C06iEffDeg`, `C06iHetPW`, `C06iPrefMixDisc`, which this file imports.
-/
set_option linter.unusedVariables false

namespace GenGlue3Props
open Gen PyGlue PyGlue2 GenGlue2Proofs
open ODE (sumTo)
open GenGlueProofs (Solver RowZero)
open GenGlue2Props (nodesOf countIn memB exNbrs exTr exRr SIR_pair_based_Y0)

/-- `Y0` and `nodelist` given: the guards pass; the shape checks, the node list and the return remain -/
theorem SIS_pair_based_mid (odeint myodeint : Solver) (GN : Nat) (nbrs : Nat → List Nat) (tr : Nat → Nat → Rat)
    (rr : Nat → Rat) (nl : List Nat) (y : V) (XY0 XX0 : Option Mx) (tmin tmax : Rat) (tcount : Nat) (full : Bool) :
    GenGlue2.SIS_pair_based odeint myodeint GN nbrs tr rr none (some nl) (some y) XY0 XX0 tmin tmax tcount full =
      pairRunSIS myodeint GN nbrs tr rr nl y XY0 XX0 (linspace tmin tmax tcount) full :=
  SIS_pair_based_eq ..

theorem SIS_pair_based_rho_eq (odeint myodeint : Solver) (GN : Nat) (nbrs : Nat → List Nat) (tr : Nat → Nat → Rat)
    (rr : Nat → Rat) (r : Rat) (nodelist : Option (List Nat)) (XY0 XX0 : Option Mx) (tmin tmax : Rat) (tcount : Nat)
    (full : Bool) :
    GenGlue2.SIS_pair_based odeint myodeint GN nbrs tr rr (some r) nodelist none XY0 XX0 tmin tmax tcount full =
      GenGlue2.SIS_pair_based odeint myodeint GN nbrs tr rr none (some (nodesOf GN nodelist)) (some (vrep r GN)) XY0 XX0
        tmin tmax tcount full := by
  rw [SIS_pair_based_eq, SIS_pair_based_eq]; rfl

theorem SIS_pair_based_none_eq (odeint myodeint : Solver) (GN : Nat) (nbrs : Nat → List Nat) (tr : Nat → Nat → Rat)
    (rr : Nat → Rat) (nodelist : Option (List Nat)) (XY0 XX0 : Option Mx) (tmin tmax : Rat) (tcount : Nat)
    (full : Bool) :
    GenGlue2.SIS_pair_based odeint myodeint GN nbrs tr rr none nodelist none XY0 XX0 tmin tmax tcount full =
      if GN = 0 then .error "ZeroDivisionError" else
      GenGlue2.SIS_pair_based odeint myodeint GN nbrs tr rr (some (1 / (GN : Rat))) nodelist none XY0 XX0
        tmin tmax tcount full := by
  rw [SIS_pair_based_eq, SIS_pair_based_eq]
  by_cases hN : GN = 0 <;> simp [pairGuard, pairY0, hN]

/-- the case `nl.length = 1` of `pairCoreSIS_eq`: node count 1, every pair variable times "`nl[0]` is its own neighbour" -/
theorem pairCoreSIS_one (myodeint : Solver) (N : Nat) (nbrs : Nat → List Nat) (tr : Nat → Nat → Rat) (rr : Nat → Rat)
    (nl : List Nat) (y : V) (XY XX : Mx) (T : Nat → Rat) (full : Bool)
    (hy : y.n = N) (hxy : XY.r = N ∧ XY.c = N) (hxx : XX.r = N ∧ XX.c = N) (hl : nl.length = 1) :
    pairRunSIS myodeint N nbrs tr rr nl y (some XY) (some XX) T full
      = .ok (pairX0SIS N nl nbrs y XY XX, outSISPair T N full
          (myodeint (fun st => Gen.dSIS_pair_based st 1 nbrs tr rr) (pairX0SIS N nl nbrs y XY XX))) ∧
      (∀ i j, i < N → j < N → (pairX0SIS N nl nbrs y XY XX).f (N + (i * N + j)) = XY.f i j * adjF nl nbrs 0 0) ∧
      (∀ i j, i < N → j < N → (pairX0SIS N nl nbrs y XY XX).f (N + N ^ 2 + (i * N + j))
        = XX.f i j * adjF nl nbrs 0 0) := by
  have h1 := pairX0SIS_xy N nl nbrs y XY XX hy hxy
  have h2 := pairX0SIS_xx N nl nbrs y XY XX hy hxx
  simp only [hl, bidx_one] at h1 h2
  refine ⟨?_, h1, h2⟩
  rw [pairCoreSIS_eq _ _ _ _ _ _ _ _ _ _ _ hy hxy hxx (.inr hl), hl]

/-- **exact success condition of `SIS_pair_based`, all inputs** — including node lists whose length differs from
`G.order()`: accepted iff that length is 1 -/
theorem SIS_pair_based_ok_iff (odeint myodeint : Solver) (GN : Nat) (nbrs : Nat → List Nat) (tr : Nat → Nat → Rat)
    (rr : Nat → Rat) (rho : Option Rat) (nodelist : Option (List Nat)) (Y0 : Option V) (XY0 XX0 : Option Mx)
    (tmin tmax : Rat) (tcount : Nat) (full : Bool) :
    (∃ res, GenGlue2.SIS_pair_based odeint myodeint GN nbrs tr rr rho nodelist Y0 XY0 XX0 tmin tmax tcount full
      = .ok res) ↔
    pairGuard GN rho nodelist Y0 = none ∧ (pairY0 GN rho Y0).n = GN ∧ shapeOk GN XY0 ∧ shapeOk GN XX0 ∧
      ((nodesOf GN nodelist).length = GN ∨ (nodesOf GN nodelist).length = 1) := by
  rw [SIS_pair_based_eq]
  cases pairGuard GN rho nodelist Y0 with
  | some e => exact ⟨fun ⟨_, h⟩ => (nomatch h), fun h => (nomatch h.1)⟩
  | none =>
    refine ⟨fun ⟨_, h⟩ => ?_, fun ⟨_, h1, h2, h3, h4⟩ => ⟨_, (if_pos ⟨h1, h2, h3⟩).trans (if_pos h4)⟩⟩
    obtain ⟨⟨h1, h2, h3⟩, h4, -⟩ := pairRunSIS_ok h
    exact ⟨rfl, h1, h2, h3, h4⟩

/-- **conservation for ALL inputs**: whenever `SIS_pair_based` returns, `S + I = G.order()` at every time index, for every
solver (also for a node list of length 1 on a larger graph) -/
theorem SIS_pair_based_conserve_all {odeint myodeint : Solver} {GN : Nat} {nbrs : Nat → List Nat} {tr : Nat → Nat → Rat}
    {rr : Nat → Rat} {rho : Option Rat} {nodelist : Option (List Nat)} {Y0 : Option V} {XY0 XX0 : Option Mx}
    {tmin tmax : Rat} {tcount : Nat} {full : Bool} {x0 : V} {l : List Out}
    (h : GenGlue2.SIS_pair_based odeint myodeint GN nbrs tr rr rho nodelist Y0 XY0 XX0 tmin tmax tcount full
      = .ok (x0, l)) (i : Nat) : get l 1 i + get l 2 i = (GN : Rat) := by
  obtain ⟨rfl, -⟩ := SIS_pair_based_form h
  exact outSISPair_conserve _ _ _ _ i

/-- **initial state for ALL inputs** (`RowZero myodeint`): `I(0) = Σ Y0`, `S(0) = N − Σ Y0` with the `Y0` used -/
theorem SIS_pair_based_init_all {odeint myodeint : Solver} (h0 : RowZero myodeint) {GN : Nat} {nbrs : Nat → List Nat}
    {tr : Nat → Nat → Rat} {rr : Nat → Rat} {rho : Option Rat} {nodelist : Option (List Nat)} {Y0 : Option V}
    {XY0 XX0 : Option Mx} {tmin tmax : Rat} {tcount : Nat} {full : Bool} {x0 : V} {l : List Out}
    (h : GenGlue2.SIS_pair_based odeint myodeint GN nbrs tr rr rho nodelist Y0 XY0 XX0 tmin tmax tcount full
      = .ok (x0, l)) :
    get l 2 0 = sumTo GN (pairY0 GN rho Y0).f ∧ get l 1 0 = (GN : Rat) - sumTo GN (pairY0 GN rho Y0).f := by
  obtain ⟨rfl, -, hf, -⟩ := SIS_pair_based_form h
  exact outSISPair_init _ GN full _ x0 _ (h0 _ _) hf

theorem SIR_pair_based_mid_some (odeint myodeint : Solver) (GN : Nat) (nbrs : Nat → List Nat) (tr : Nat → Nat → Rat)
    (rr : Nat → Rat) (nl : List Nat) (y x : V) (XY0 XX0 : Option Mx) (tmin tmax : Rat) (tcount : Nat)
    (full : Bool) (hx : y.n = GN ∧ shapeOk GN XY0 ∧ shapeOk GN XX0 → x.n = GN) :
    GenGlue2.SIR_pair_based odeint myodeint GN nbrs tr rr none (some nl) (some y) (some x) XY0 XX0 tmin tmax tcount full =
      pairRunSIR odeint GN nbrs tr rr nl x y XY0 XX0 (linspace tmin tmax tcount) full :=
  (SIR_pair_based_spec odeint myodeint GN nbrs tr rr none (some nl) (some y) (some x) XY0 XX0 tmin tmax tcount full).2.run hx

/-- `SIR_pair_based_mid` without `X0`: the default `1 − Y0` has the length of `Y0`, no hypothesis is needed -/
theorem SIR_pair_based_mid_none (odeint myodeint : Solver) (GN : Nat) (nbrs : Nat → List Nat) (tr : Nat → Nat → Rat)
    (rr : Nat → Rat) (nl : List Nat) (y : V) (XY0 XX0 : Option Mx) (tmin tmax : Rat) (tcount : Nat)
    (full : Bool) :
    GenGlue2.SIR_pair_based odeint myodeint GN nbrs tr rr none (some nl) (some y) none XY0 XX0 tmin tmax tcount full =
      pairRunSIR odeint GN nbrs tr rr nl (vcompl y) y XY0 XX0 (linspace tmin tmax tcount) full :=
  (SIR_pair_based_spec odeint myodeint GN nbrs tr rr none (some nl) (some y) none XY0 XX0 tmin tmax tcount full).2.run
    fun hc => hc.1

/-- `Y0` and `nodelist` given: the guards pass.  `hx`: an explicit `X0` has `G.order()` entries (asked only where the shape
checks pass: the source never looks at its length) -/
theorem SIR_pair_based_mid (odeint myodeint : Solver) (GN : Nat) (nbrs : Nat → List Nat) (tr : Nat → Nat → Rat)
    (rr : Nat → Rat) (nl : List Nat) (y : V) (X0 : Option V) (XY0 XX0 : Option Mx) (tmin tmax : Rat) (tcount : Nat)
    (full : Bool) (hx : y.n = GN ∧ shapeOk GN XY0 ∧ shapeOk GN XX0 → (X0.getD (vcompl y)).n = GN) :
    GenGlue2.SIR_pair_based odeint myodeint GN nbrs tr rr none (some nl) (some y) X0 XY0 XX0 tmin tmax tcount full =
      pairRunSIR odeint GN nbrs tr rr nl (X0.getD (vcompl y)) y XY0 XX0 (linspace tmin tmax tcount) full :=
  (SIR_pair_based_spec odeint myodeint GN nbrs tr rr none (some nl) (some y) X0 XY0 XX0 tmin tmax tcount full).2.run hx

theorem SIR_pair_based_rho_eq (odeint myodeint : Solver) (GN : Nat) (nbrs : Nat → List Nat) (tr : Nat → Nat → Rat)
    (rr : Nat → Rat) (r : Rat) (nodelist : Option (List Nat)) (X0 : Option V) (XY0 XX0 : Option Mx) (tmin tmax : Rat)
    (tcount : Nat) (full : Bool) :
    GenGlue2.SIR_pair_based odeint myodeint GN nbrs tr rr (some r) nodelist none X0 XY0 XX0 tmin tmax tcount full =
      GenGlue2.SIR_pair_based odeint myodeint GN nbrs tr rr none (some (nodesOf GN nodelist)) (some (vrep r GN)) X0 XY0
        XX0 tmin tmax tcount full :=
  SIR_pair_based_eq ..

theorem SIR_pair_based_none_eq (odeint myodeint : Solver) (GN : Nat) (nbrs : Nat → List Nat) (tr : Nat → Nat → Rat)
    (rr : Nat → Rat) (nodelist : Option (List Nat)) (X0 : Option V) (XY0 XX0 : Option Mx) (tmin tmax : Rat)
    (tcount : Nat) (full : Bool) :
    GenGlue2.SIR_pair_based odeint myodeint GN nbrs tr rr none nodelist none X0 XY0 XX0 tmin tmax tcount full =
      if GN = 0 then .error "ZeroDivisionError" else
      GenGlue2.SIR_pair_based odeint myodeint GN nbrs tr rr (some (1 / (GN : Rat))) nodelist none X0 XY0 XX0
        tmin tmax tcount full := by
  by_cases hN : GN = 0
  · rw [if_pos hN, SIR_pair_based_eq]
    simp [pairGuard, hN]
  · rw [if_neg hN, SIR_pair_based_eq odeint myodeint GN nbrs tr rr none,
      SIR_pair_based_eq odeint myodeint GN nbrs tr rr (some _)]
    simp [pairGuard, pairY0, hN]

theorem pairCoreSIR_one (odeint : Solver) (N : Nat) (nbrs : Nat → List Nat) (tr : Nat → Nat → Rat) (rr : Nat → Rat)
    (nl : List Nat) (x y : V) (XY XX : Mx) (T : Nat → Rat) (full : Bool)
    (hx : x.n = N) (hy : y.n = N) (hxy : XY.r = N ∧ XY.c = N) (hxx : XX.r = N ∧ XX.c = N) (hl : nl.length = 1) :
    pairRunSIR odeint N nbrs tr rr nl x y (some XY) (some XX) T full
      = .ok (pairX0SIR N nl nbrs x y XY XX, outSIRPair T N full
          (odeint (fun st => Gen.dSIR_pair_based st 1 nbrs tr rr) (pairX0SIR N nl nbrs x y XY XX))) ∧
      (∀ i j, i < N → j < N → (pairX0SIR N nl nbrs x y XY XX).f (N + N + (i * N + j)) = XY.f i j * adjF nl nbrs 0 0) ∧
      (∀ i j, i < N → j < N → (pairX0SIR N nl nbrs x y XY XX).f (N + N + N ^ 2 + (i * N + j))
        = XX.f i j * adjF nl nbrs 0 0) := by
  have h1 := pairX0SIR_xy N nl nbrs x y XY XX hx hy hxy
  have h2 := pairX0SIR_xx N nl nbrs x y XY XX hx hy hxx
  simp only [hl, bidx_one] at h1 h2
  refine ⟨?_, h1, h2⟩
  rw [pairCoreSIR_eq _ _ _ _ _ _ _ _ _ _ _ _ hy hxy hxx (.inr hl), hl]

/-- **exact success condition of `SIR_pair_based`** for an `X0` that is absent or has `G.order()` entries (there is no
length check of `X0` in the source: see the closed example with an `X0` of length 1) -/
theorem SIR_pair_based_ok_iff (odeint myodeint : Solver) (GN : Nat) (nbrs : Nat → List Nat) (tr : Nat → Nat → Rat)
    (rr : Nat → Rat) (rho : Option Rat) (nodelist : Option (List Nat)) (Y0 X0 : Option V) (XY0 XX0 : Option Mx)
    (tmin tmax : Rat) (tcount : Nat) (full : Bool) (hx : ∀ x, X0 = some x → x.n = GN) :
    (∃ res, GenGlue2.SIR_pair_based odeint myodeint GN nbrs tr rr rho nodelist Y0 X0 XY0 XX0 tmin tmax tcount full
      = .ok res) ↔
    pairGuard GN rho nodelist Y0 = none ∧ (pairY0 GN rho Y0).n = GN ∧ shapeOk GN XY0 ∧ shapeOk GN XX0 ∧
      ((nodesOf GN nodelist).length = GN ∨ (nodesOf GN nodelist).length = 1) := by
  cases hg : pairGuard GN rho nodelist Y0 with
  | some e =>
    rw [SIR_pair_based_eq, hg]
    exact ⟨fun ⟨_, h⟩ => (nomatch h), fun h => (nomatch h.1)⟩
  | none =>
    rw [SIR_pair_based_run _ _ _ _ _ _ _ _ _ _ _ _ _ _ _ _ hx hg, pairRunSIR]
    by_cases hs : (pairY0 GN rho Y0).n = GN ∧ shapeOk GN XY0 ∧ shapeOk GN XX0
    · rw [if_pos hs, pairOkSIR]
      by_cases hl : (nodesOf GN nodelist).length = GN ∨ (nodesOf GN nodelist).length = 1
      · rw [if_pos hl]; exact ⟨fun _ => ⟨rfl, hs.1, hs.2.1, hs.2.2, hl⟩, fun _ => ⟨_, rfl⟩⟩
      · rw [if_neg hl]; exact ⟨fun ⟨_, h⟩ => (nomatch h), fun h => absurd h.2.2.2.2 hl⟩
    · rw [if_neg hs]
      exact ⟨fun ⟨_, h⟩ => (nomatch h), fun h => absurd ⟨h.2.1, h.2.2.1, h.2.2.2.1⟩ hs⟩

/-- **conservation for all inputs with `X0` absent or of `G.order()` entries**: whenever `SIR_pair_based` returns,
`S + I + R = G.order()` at every time index, for every solver -/
theorem SIR_pair_based_conserve_all {odeint myodeint : Solver} {GN : Nat} {nbrs : Nat → List Nat} {tr : Nat → Nat → Rat}
    {rr : Nat → Rat} {rho : Option Rat} {nodelist : Option (List Nat)} {Y0 X0 : Option V} {XY0 XX0 : Option Mx}
    {tmin tmax : Rat} {tcount : Nat} {full : Bool} {x0 : V} {l : List Out}
    (hx : ∀ x, X0 = some x → x.n = GN)
    (h : GenGlue2.SIR_pair_based odeint myodeint GN nbrs tr rr rho nodelist Y0 X0 XY0 XX0 tmin tmax tcount full
      = .ok (x0, l)) (i : Nat) : get l 1 i + get l 2 i + get l 3 i = (GN : Rat) := by
  obtain ⟨rfl, -⟩ := SIR_pair_based_form hx h
  exact outSIRPair_conserve _ _ _ _ i

/-- **initial state** (`RowZero odeint`): `S(0) = Σ X0`, `I(0) = Σ Y0`, `R(0) = N − Σ X0 − Σ Y0` with the `X0`, `Y0` used -/
theorem SIR_pair_based_init_all {odeint myodeint : Solver} (h0 : RowZero odeint) {GN : Nat} {nbrs : Nat → List Nat}
    {tr : Nat → Nat → Rat} {rr : Nat → Rat} {rho : Option Rat} {nodelist : Option (List Nat)} {Y0 X0 : Option V}
    {XY0 XX0 : Option Mx} {tmin tmax : Rat} {tcount : Nat} {full : Bool} {x0 : V} {l : List Out}
    (hx : ∀ x, X0 = some x → x.n = GN)
    (h : GenGlue2.SIR_pair_based odeint myodeint GN nbrs tr rr rho nodelist Y0 X0 XY0 XX0 tmin tmax tcount full
      = .ok (x0, l)) :
    get l 1 0 = sumTo GN (pairX0 GN rho Y0 X0).f ∧ get l 2 0 = sumTo GN (pairY0 GN rho Y0).f ∧
    get l 3 0 = (GN : Rat) - sumTo GN (pairX0 GN rho Y0 X0).f - sumTo GN (pairY0 GN rho Y0).f := by
  obtain ⟨rfl, -, hf, hf', -⟩ := SIR_pair_based_form hx h
  exact outSIRPair_init _ GN full _ x0 _ _ (h0 _ _) hf hf'

/-- `XX0` of the wrong shape (after the guards on `Y0` and `XY0`), with or without `X0` -/
theorem SIR_pair_based_error_XX0 (odeint myodeint : Solver) (GN : Nat) (nbrs : Nat → List Nat)
    (tr : Nat → Nat → Rat) (rr : Nat → Rat) (nl : List Nat) (y : V) (X0 : Option V) (xy xx : Mx) (tmin tmax : Rat)
    (tcount : Nat) (full : Bool) (hy : y.n = GN) (hs : xy.r = GN ∧ xy.c = GN) (hx : ¬ (xx.r = GN ∧ xx.c = GN)) :
    GenGlue2.SIR_pair_based odeint myodeint GN nbrs tr rr none (some nl) (some y) X0 (some xy) (some xx) tmin tmax tcount
      full = .error "EoNError" :=
  SIR_pair_based_shape_error _ _ _ _ _ _ _ _ _ _ _ _ _ _ _ _ rfl fun h => hx ((shapeOk_some _ _).1 h.2.2)

/-- `XX0` of the wrong shape with the default `XY0` (built from `X0`, `Y0` of `GN` entries: no earlier failure) -/
theorem SIR_pair_based_error_XX0' (odeint myodeint : Solver) (GN : Nat) (nbrs : Nat → List Nat)
    (tr : Nat → Nat → Rat) (rr : Nat → Rat) (nl : List Nat) (y : V) (xx : Mx) (tmin tmax : Rat)
    (tcount : Nat) (full : Bool) (hy : y.n = GN) (hx : ¬ (xx.r = GN ∧ xx.c = GN)) :
    GenGlue2.SIR_pair_based odeint myodeint GN nbrs tr rr none (some nl) (some y) none none (some xx) tmin tmax tcount
      full = .error "EoNError" :=
  SIR_pair_based_shape_error _ _ _ _ _ _ _ _ _ _ _ _ _ _ _ _ rfl fun h => hx ((shapeOk_some _ _).1 h.2.2)

/-- `SIR_pair_based_pure_IC` with a node list whose length differs from `G.order()`: `EoNError` (`len(Y0) != N`) -/
theorem SIR_pair_based_pure_IC_error (odeint myodeint : Solver) (GN : Nat) (nbrs : Nat → List Nat)
    (tr : Nat → Nat → Rat) (rr : Nat → Rat) (inf : List Nat) (rc : Option (List Nat)) (nl : List Nat) (tmin tmax : Rat)
    (tcount : Nat) (full : Bool) (hl : nl.length ≠ GN) :
    GenGlue2.SIR_pair_based_pure_IC odeint myodeint GN nbrs tr rr inf rc (some nl) tmin tmax tcount full
      = .error "EoNError" := by
  rw [GenGlue2Props.SIR_pair_based_pure_IC_eq]
  exact GenGlue2Props.SIR_pair_based_error_length _ _ _ _ _ _ _ _ _ _ _ _ _ _ _ (by simpa [nodesOf] using hl)

/-- **`SIR_pair_based_pure_IC` without `initial_recovereds`** (node list of `GN` nodes): no exception; `S + I + R = N` at
every time index; `I(0)` = number of listed nodes in `initial_infecteds`, `S(0) = N − I(0)`, `R(0) = 0` -/
theorem SIR_pair_based_pure_IC_none_spec {odeint myodeint : Solver} {GN : Nat} {nbrs : Nat → List Nat}
    {tr : Nat → Nat → Rat} {rr : Nat → Rat} {inf : List Nat} {nodelist : Option (List Nat)} {tmin tmax : Rat}
    {tcount : Nat} {full : Bool} (hl : (nodesOf GN nodelist).length = GN) :
    ∃ x0 l, GenGlue2.SIR_pair_based_pure_IC odeint myodeint GN nbrs tr rr inf none nodelist tmin tmax tcount full
      = .ok (x0, l) ∧ (∀ i, get l 1 i + get l 2 i + get l 3 i = (GN : Rat)) ∧
      (RowZero odeint →
        get l 1 0 = (GN : Rat) - (countIn (nodesOf GN nodelist) (memB inf) : Rat) ∧
        get l 2 0 = (countIn (nodesOf GN nodelist) (memB inf) : Rat) ∧ get l 3 0 = 0) := by
  rw [GenGlue2Props.SIR_pair_based_pure_IC_eq]
  obtain ⟨x0, l, h, hc, hi⟩ := SIR_pair_based_Y0 (odeint := odeint) (myodeint := myodeint) (nbrs := nbrs) (tr := tr)
    (rr := rr) (tmin := tmin) (tmax := tmax) (tcount := tcount) (full := full)
    (y := indV (nodesOf GN nodelist) (memB inf) 1 0) (X0 := some (vcompl (indV (nodesOf GN nodelist) (memB inf) 1 0)))
    (nl := nodesOf GN nodelist) (by rw [indV_n, hl]) (by intro x hx; cases hx; rw [vcompl_n, indV_n, hl]) hl
  refine ⟨x0, l, h, hc, fun h0 => ?_⟩
  have e2 := sumTo_indV (nodesOf GN nodelist) (memB inf)
  rw [hl] at e2
  have e1 : sumTo GN (vcompl (indV (nodesOf GN nodelist) (memB inf) 1 0)).f
      = (GN : Rat) - (countIn (nodesOf GN nodelist) (memB inf) : Rat) := by
    have : sumTo GN (vcompl (indV (nodesOf GN nodelist) (memB inf) 1 0)).f
        = sumTo GN (fun k => 1 - (indV (nodesOf GN nodelist) (memB inf) 1 0).f k) := rfl
    rw [this, GenGlueProofs.sumTo_sub, sumTo_const, e2]
    simp [countIn]
  obtain ⟨a, b, c⟩ := hi h0
  simp only [Option.getD_some] at a c
  rw [e1] at a c
  rw [e2] at b c
  refine ⟨a, b, ?_⟩
  rw [c]; simp [countIn]

/-- node list of length 3 on a graph with 2 nodes: `ValueError`; of length 1: accepted (`SIR_pair_based`) -/
example : rowAt (GenGlue2.SIR_pair_based constOdeint constOdeint 2 exNbrs exTr exRr (some (1/4)) (some [0, 1, 2]) none none
    none none 0 10 11 false) 0 = .inl "ValueError" := by decide +kernel
example : rowAt (GenGlue2.SIR_pair_based constOdeint constOdeint 2 exNbrs exTr exRr (some (1/4)) (some [0]) none none
    none none 0 10 11 false) 0
    = .inr ([3/4, 3/4, 1/4, 1/4, 0, 0, 0, 0, 0, 0, 0, 0], [[0], [3/2], [1/2], [0]]) := by decide +kernel
/-- the entries of `X0` (`SIS_pair_based`, `Y0 = [1/4, 1/2]` on the edge `0 — 1`): `XY = [0, 3/8, 1/8, 0]`,
`XX = [0, 3/8, 3/8, 0]` -/
example : rowAt (GenGlue2.SIS_pair_based constOdeint constOdeint 2 exNbrs exTr exRr none (some [0, 1])
    (some (V.ofList [1/4, 1/2])) none none 0 10 11 true) 0
    = .inr ([1/4, 1/2, 0, 3/8, 1/8, 0, 0, 3/8, 3/8, 0],
        [[0], [5/4], [3/4], [3/4, 1/2], [1/4, 1/2], [0, 3/8, 1/8, 0], [0, 3/8, 3/8, 0]]) := by decide +kernel
/-- **why `hx` in the `SIR_pair_based` theorems**: the source never checks the length of `X0`; an `X0` of length 1 on a
2-node graph is accepted (broadcast in `XY0`, `XX0`), the state vector has 11 entries instead of 12 and the slices are
misaligned: `S(0) = 3/4` (`= X0[0] + Y0[0]`), `I(0) = 1/4`, `R(0) = 1`.  An `X0` of length 3: `ValueError` -/
example : rowAt (GenGlue2.SIR_pair_based constOdeint constOdeint 2 exNbrs exTr exRr none (some [0, 1])
    (some (V.ofList [1/4, 1/4])) (some (V.ofList [1/2])) none none 0 10 11 false) 0
    = .inr ([1/2, 1/4, 1/4, 0, 1/8, 1/8, 0, 0, 1/4, 1/4, 0], [[0], [3/4], [1/4], [1]]) := by decide +kernel
example : rowAt (GenGlue2.SIR_pair_based constOdeint constOdeint 2 exNbrs exTr exRr none (some [0, 1])
    (some (V.ofList [1/4, 1/4])) (some (V.ofList [1/2, 1/2, 1/2])) none none 0 10 11 false) 0 = .inl "ValueError" := by
  decide +kernel
/-- `SIR_pair_based_pure_IC` without `initial_recovereds`, path `0 — 1 — 2`, node 1 infected:
`X0 = [X | Y | XY | XX]` with `XY[0][1] = XY[2][1] = 1`, `XX = 0` (0 and 2 are not adjacent) -/
example : rowAt (GenGlue2.SIR_pair_based_pure_IC constOdeint constOdeint 3 exNbrs exTr exRr [1] none none
    0 10 11 false) 0
    = .inr ([1, 0, 1, 0, 1, 0, 0, 1, 0, 0, 0, 0, 0, 1, 0, 0, 0, 0, 0, 0, 0, 0, 0, 0], [[0], [2], [1], [0]]) := by
  decide +kernel
example : rowAt (GenGlue2.SIR_pair_based_pure_IC constOdeint constOdeint 3 exNbrs exTr exRr [1] none (some [0, 1])
    0 10 11 false) 0 = .inl "EoNError" := by decide +kernel
/-- `XX0` of the wrong shape -/
example : rowAt (GenGlue2.SIR_pair_based constOdeint constOdeint 2 exNbrs exTr exRr none (some [0, 1])
    (some (V.ofList [1, 0])) none none (some ⟨1, 2, fun _ _ => 0⟩) 0 10 11 false) 0 = .inl "EoNError" := by
  decide +kernel
/-- the general theorems apply (hypotheses satisfiable): success condition and conservation on an instance -/
example : ∃ res, GenGlue2.SIR_pair_based constOdeint driftOdeint 2 exNbrs exTr exRr (some (1/4)) (some [1]) none none
    none none 0 10 11 true = .ok res :=
  (SIR_pair_based_ok_iff constOdeint driftOdeint 2 exNbrs exTr exRr (some (1/4)) (some [1]) none none none none 0 10 11
    true (fun _ h => nomatch h)).mpr
    ⟨rfl, rfl, (fun _ h => nomatch h), (fun _ h => nomatch h), Or.inr rfl⟩

end GenGlue3Props

