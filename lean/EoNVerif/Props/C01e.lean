import EoNVerif.Proofs.GenGillespie
import EoNVerif.Props.C01
/-!
C01e — the Lean code GENERATED statement by statement from the Python function `Gillespie_SIR`
(`EoNVerif/Gen/GillespieGen.lean`, namespace `GenGSIR`, over the generated `_ListDict_` code) REFINES the hand-written
model `Gillespie.run` (`EoNVerif/Model/Gillespie.lean`) with `P.sis = false`, in both directions and on every tape.
The C01 invariant, clock, rows and absence of `KeyError` are transferred to the generated code; the selection-law theorems
of C01 are about `pickDist` / `LD.chooseDist` and reach it only through `GenLD.choose_bisim` (same draws, same candidate
lists).

* `GenGillespie.Agree A P tmin tmax cfuel` — the arguments read by the generated code describe the model's parameters;
* `GenGSIR.Rel σ s` — the simulation relation (statuses equal, both `_ListDict_`s related by `GenLD.R`, output rows
  equal up to the model's newest-first order);
* `hi him hd` are the hypotheses of C01 `init_inv`: the initial infecteds are distinct, are nodes of `G`, and are not also
  initially recovered;
* `gen_run_refines` is model ⇒ generated (the generated code does not get stuck where the model runs),
  `gen_run_refines_back` is generated ⇒ model: the direction that transfers the C01 theorems.
-/
namespace GenGSIR
open Gillespie GenGillespie

variable {A : PyTM.GArgs} {P : GParams} {tmin : Rat} {tmax : ERat} {cfuel : Nat}

/-- **simulation, both directions at once** (`TM.Sim`: every normal return of one program is matched by a normal return
of the other with the same final tape state and related results), with the full loop invariant `LRel` -/
theorem gen_run_sim (hag : Agree A P tmin tmax cfuel) (hwf : WF P) (hsir : P.sis = false) (infs recs : List Node)
    (fuel : Nat) (hi : infs.Nodup) (him : ∀ u ∈ infs, u ∈ P.nodes) (hd : ∀ u ∈ infs, u ∉ recs) :
    TM.Sim (run A infs recs fuel) (Gillespie.run P infs recs tmin tmax fuel cfuel)
      (fun σ s => ∃ t, LRel A P σ s t) :=
  ((run_bisim hag hwf hsir infs recs fuel hi him hd).mono fun _ _ h => h.1).sim

/-- **forward simulation**: every normal return of the model is a normal return of the generated code, in a related
state, with the same final tape state — the same draws were consumed and the same RNG calls with the same arguments
(clock rates, candidate lists) were logged -/
theorem gen_run_refines (hag : Agree A P tmin tmax cfuel) (hwf : WF P) (hsir : P.sis = false) (infs recs : List Node)
    (fuel : Nat) (hi : infs.Nodup) (him : ∀ u ∈ infs, u ∈ P.nodes) (hd : ∀ u ∈ infs, u ∉ recs)
    (ts ts' : TapeSt) (s : GState)
    (h : Gillespie.run P infs recs tmin tmax fuel cfuel ts = .ok (s, ts')) :
    ∃ σ, run A infs recs fuel ts = .ok (σ, ts') ∧ Rel σ s := by
  obtain ⟨σ, h1, t, h2⟩ := (gen_run_sim hag hwf hsir infs recs fuel hi him hd ts).1 s ts' h
  exact ⟨σ, h1, h2.rel⟩

/-- **backward simulation**: every normal return of the generated code is a run of the model -/
theorem gen_run_refines_back (hag : Agree A P tmin tmax cfuel) (hwf : WF P) (hsir : P.sis = false)
    (infs recs : List Node) (fuel : Nat) (hi : infs.Nodup) (him : ∀ u ∈ infs, u ∈ P.nodes)
    (hd : ∀ u ∈ infs, u ∉ recs) (ts ts' : TapeSt) (σ : Loc)
    (h : run A infs recs fuel ts = .ok (σ, ts')) :
    ∃ s, Gillespie.run P infs recs tmin tmax fuel cfuel ts = .ok (s, ts') ∧ Rel σ s := by
  obtain ⟨s, h1, t, h2⟩ := (gen_run_sim hag hwf hsir infs recs fuel hi him hd ts).2 σ ts' h
  exact ⟨s, h1, h2.rel⟩

/-- the two `while` loops simulate each other from related states (any fuel, any tape) -/
theorem gen_loop_refines (hag : Agree A P tmin tmax cfuel) (hwf : WF P) (hsir : P.sis = false) (fuel : Nat)
    (σ : Loc) (s : GState) (t : ERat) (h : LRel A P σ s t) :
    TM.Sim (loop A fuel σ) (Gillespie.loop P tmax cfuel fuel s t) (fun σ' s' => ∃ t', LRel A P σ' s' t') :=
  ((loop_bisim hag hwf hsir fuel σ s t h).mono fun _ _ h => h.1).sim

/-- **C01 invariant, transferred**: after every normally returning run of the generated code the two candidate
structures list exactly the events enabled in the final statuses — `infecteds` the infectious nodes, `IS_links` the
infectious–susceptible edges — without duplicates -/
theorem gen_run_inv (hag : Agree A P tmin tmax cfuel) (hwf : WF P) (hsir : P.sis = false)
    (infs recs : List Node) (fuel : Nat) (hi : infs.Nodup) (him : ∀ u ∈ infs, u ∈ P.nodes)
    (hd : ∀ u ∈ infs, u ∉ recs) (ts ts' : TapeSt) (σ : Loc)
    (h : run A infs recs fuel ts = .ok (σ, ts')) :
    (∀ u, u ∈ σ.infecteds.items ↔ u ∈ Chain.enabledRec P σ.status) ∧
    (∀ p, p ∈ σ.IS_links.items ↔ p ∈ Chain.enabledTrans P σ.status) ∧
    σ.infecteds.items.Nodup ∧ σ.IS_links.items.Nodup := by
  obtain ⟨s, -, t, h2⟩ := (gen_run_sim hag hwf hsir infs recs fuel hi him hd ts).2 σ ts' h
  obtain ⟨e1, e2⟩ := enabled_iff' P s h2.inv
  rw [h2.rel.status, h2.rel.inf.items, h2.rel.links.items]
  exact ⟨fun u => (e1 u).symm, fun p => (e2 p).symm, h2.inv.infInv.nodup, h2.inv.linkInv.nodup⟩

/-- **C01 clock, transferred (final state)**: the rate variables of the generated code hold the chain's rates in the
final statuses -/
theorem gen_run_clock (hag : Agree A P tmin tmax cfuel) (hwf : WF P) (hsir : P.sis = false)
    (infs recs : List Node) (fuel : Nat) (hi : infs.Nodup) (him : ∀ u ∈ infs, u ∈ P.nodes)
    (hd : ∀ u ∈ infs, u ∉ recs) (ts ts' : TapeSt) (σ : Loc)
    (h : run A infs recs fuel ts = .ok (σ, ts')) :
    σ.total_rate = Chain.totalRate P σ.status ∧
      σ.total_rate = σ.total_recovery_rate + σ.total_transmission_rate := by
  obtain ⟨s, -, t, h2⟩ := (gen_run_sim hag hwf hsir infs recs fuel hi him hd ts).2 σ ts' h
  refine ⟨?_, ?_⟩
  · rw [h2.tot, clock_eq' P hwf s h2.inv, h2.rel.status]
  · rw [h2.tot, h2.rr, h2.tr]; rfl

/-- **C01 clock, transferred (every step)**: in a state related to a model state `s` with `Inv P s`, the clock
statements of the generated code call `expovariate` with exactly the chain's total rate in the current statuses (the
logged call), and move the time by the drawn amount -/
theorem gen_clock (hag : Agree A P tmin tmax cfuel) (hwf : WF P) (σ : Loc) (s : GState) (tv : Rat)
    (hrel : Rel σ s) (hinv : Gillespie.Inv P s) (ht : σ.t = some tv) (k : Loc → TM Loc) (ts : TapeSt) (d : Rat)
    (rest : List Draw) (htape : ts.tape = .expo d :: rest) (hpos : 0 < Chain.totalRate P σ.status) :
    ∃ σ', tail A k σ ts = k σ' { tape := rest, trace := ts.trace.push (.expo (Chain.totalRate P σ.status)) } ∧
      σ'.t = some (tv + d) ∧ σ'.total_rate = Chain.totalRate P σ.status ∧ Rel σ' s := by
  have hclk : totalRate P s = Chain.totalRate P σ.status := by rw [clock_eq' P hwf s hinv, hrel.status]
  rw [tail_eq A k σ s.inf s.links hrel.inf hrel.links, hag.totalRate, hclk, if_pos (decide_eq_true hpos)]
  exact ⟨_, TM.bind_ok (TM.popExpo_eval _ d rest ts (ne_of_gt hpos) htape),
    congrArg (ERat.add · (some d)) ht, (hag.totalRate s).trans hclk,
    hrel.status, hrel.inf, hrel.links, hrel.times, hrel.S, hrel.I, hrel.R⟩

/-- **output rows**: the returned `S`, `I`, `R`, `times` lists are the model's lists reversed, and the last entries of
`S`, `I`, `R` (which exist) are the model's current counts -/
theorem gen_run_counts (hag : Agree A P tmin tmax cfuel) (hwf : WF P) (hsir : P.sis = false)
    (infs recs : List Node) (fuel : Nat) (hi : infs.Nodup) (him : ∀ u ∈ infs, u ∈ P.nodes)
    (hd : ∀ u ∈ infs, u ∉ recs) (ts ts' : TapeSt) (σ : Loc)
    (h : run A infs recs fuel ts = .ok (σ, ts')) :
    ∃ s, Gillespie.run P infs recs tmin tmax fuel cfuel ts = .ok (s, ts') ∧
      σ.S.getLast? = some (Gillespie.hd s.S) ∧ σ.I.getLast? = some (Gillespie.hd s.I) ∧
      σ.R.getLast? = some (Gillespie.hd s.R) ∧
      σ.S = s.S.reverse ∧ σ.I = s.I.reverse ∧ σ.R = s.R.reverse ∧ σ.times = s.times.reverse.map some := by
  obtain ⟨s, h1, t, h2⟩ := (gen_run_sim hag hwf hsir infs recs fuel hi him hd ts).2 σ ts' h
  exact ⟨s, h1, getLast_row h2.rel.S h2.hS, getLast_row h2.rel.I h2.hI, getLast_row h2.rel.R h2.hR, h2.rel.S,
    h2.rel.I, h2.rel.R, h2.rel.times⟩

/-- **C01 no-KeyError, transferred**: the generated `Gillespie_SIR` never raises `KeyError` (`_ListDict_.remove` of an
absent candidate), whatever the draws -/
theorem gen_run_no_keyerror (hag : Agree A P tmin tmax cfuel) (hwf : WF P) (hsir : P.sis = false)
    (infs recs : List Node) (fuel : Nat) (hi : infs.Nodup) (him : ∀ u ∈ infs, u ∈ P.nodes)
    (hd : ∀ u ∈ infs, u ∉ recs) (ts : TapeSt) : run A infs recs fuel ts ≠ .error "KeyError" :=
  (run_bisim hag hwf hsir infs recs fuel hi him hd).no_keyerror ts

/-- the generated loop never raises `KeyError` from a state related to a model state with the invariant -/
theorem gen_loop_no_keyerror (hag : Agree A P tmin tmax cfuel) (hwf : WF P) (hsir : P.sis = false) (fuel : Nat)
    (σ : Loc) (s : GState) (t : ERat) (h : LRel A P σ s t) (ts : TapeSt) : loop A fuel σ ts ≠ .error "KeyError" :=
  (loop_bisim hag hwf hsir fuel σ s t h).no_keyerror ts

/-- the generated code raises an exception (or runs out of draws / fuel) exactly when the model does — not necessarily the
same one: see `GenLD.choose_bisim` for `max_weight = 0` -/
theorem gen_run_fails_iff (hag : Agree A P tmin tmax cfuel) (hwf : WF P) (hsir : P.sis = false)
    (infs recs : List Node) (fuel : Nat) (hi : infs.Nodup) (him : ∀ u ∈ infs, u ∈ P.nodes)
    (hd : ∀ u ∈ infs, u ∉ recs) (ts : TapeSt) :
    (∃ e, run A infs recs fuel ts = .error e) ↔
      (∃ e, Gillespie.run P infs recs tmin tmax fuel cfuel ts = .error e) :=
  (run_bisim hag hwf hsir infs recs fuel hi him hd ts).fails_iff

/-- **full-data bookkeeping**: with `return_full_data` set, the `transmissions` list of the generated code is the
entries `(tmin, None, node)` of the initial infecteds followed by one entry `(t, u, v)` per transmission event logged
by the model, oldest first -/
theorem gen_run_transmissions (hag : Agree A P tmin tmax cfuel) (hwf : WF P) (hsir : P.sis = false)
    (infs recs : List Node) (fuel : Nat) (hi : infs.Nodup) (him : ∀ u ∈ infs, u ∈ P.nodes)
    (hd : ∀ u ∈ infs, u ∉ recs) (hfull : A.full = true) (ts ts' : TapeSt) (σ : Loc)
    (h : run A infs recs fuel ts = .ok (σ, ts')) :
    ∃ s, Gillespie.run P infs recs tmin tmax fuel cfuel ts = .ok (s, ts') ∧
      σ.transmissions = initTrans tmin infs ++ transLog s.log := by
  obtain ⟨s, h1, -, h2⟩ := ((run_bisim hag hwf hsir infs recs fuel hi him hd).sim ts).2 σ ts' h
  exact ⟨s, h1, h2 hfull⟩

end GenGSIR

/-! ### non-vacuity: the weighted 4-node path of `Props/C01.lean`, full data on -/
namespace C01e
open GenGillespie

def exNbrs (u : Node) : List Node :=
  match u with
  | 0 => [1] | 1 => [0, 2] | 2 => [1, 3] | 3 => [2] | _ => []
def exP : GParams :=
  { nodes := [0, 1, 2, 3], nbrs := exNbrs, tau := 2, gamma := 1,
    ew := some (fun u v => if u + v = 3 then 1/2 else 2), nw := some (fun u => (u : Rat) + 1), sis := false }
/-- what the generated code reads from its arguments for the same network -/
def exA : PyTM.GArgs :=
  { nbrs := exNbrs, order := 4, tau := 2, gamma := 1, tmin := 0, tmax := some 10, hasTW := true, hasRW := true,
    adjw := fun u v => if u + v = 3 then 1/2 else 2, nodew := fun u => (u : Rat) + 1, full := true, cfuel := 5 }

/-- the hypothesis `Agree` of every theorem above is satisfiable -/
theorem exAgree : Agree exA exP 0 (some 10) 5 where
  nbrs := rfl
  order := rfl
  tau := rfl
  gamma := rfl
  tmin := rfl
  tmax := rfl
  cfuel := rfl
  hasTW := rfl
  hasRW := rfl
  adjw := by intro f hf; exact Option.some.inj hf
  nodew := by intro f hf; exact Option.some.inj hf

/-- `exNbrs`, `exP` above are those of `Props/C01.lean` written out again, definitionally equal to them -/
theorem exWF : Gillespie.WF exP := _root_.exP_wf

/-- scripted draws: clock, transmission 1→2, clock, recovery of 1, clock, recovery of 3, clock (beyond `tmax`) -/
def exTape : List Draw :=
  [.expo (1/2), .unif (9/10), .choice 0, .unif 0, .expo 1, .unif 0, .choice 0, .unif 0, .expo 3,
   .unif (1/100), .choice 1, .unif 0, .expo 20]

def viewA (r : Except String (GenGSIR.Loc × TapeSt)) :=
  r.toOption.map fun (σ, _) => (σ.infecteds.items, σ.IS_links.items, σ.times)
def viewB (r : Except String (GenGSIR.Loc × TapeSt)) :=
  r.toOption.map fun (σ, _) => (σ.S, σ.I, σ.R)
def viewT {α : Type} (r : Except String (α × TapeSt)) :=
  r.toOption.map fun (_, ts) => (ts.trace.toList, ts.tape)
def viewMA (r : Except String (GState × TapeSt)) :=
  r.toOption.map fun (s, _) => (s.inf.items, s.links.items, s.times)
def viewMB (r : Except String (GState × TapeSt)) :=
  r.toOption.map fun (s, _) => (s.S, s.I, s.R)

/-- the generated code runs three events on this tape and stops at `tmax` ... -/
example : viewA (GenGSIR.run exA [1, 3] [0] 10 ⟨exTape, #[]⟩) =
    some ([2], [], [some 0, some (1/2), some (3/2), some (9/2)]) := by decide +kernel
example : viewB (GenGSIR.run exA [1, 3] [0] 10 ⟨exTape, #[]⟩) =
    some ([1, 0, 0, 0], [2, 3, 2, 1], [1, 1, 2, 3]) := by decide +kernel
/-- ... the log shows the clock rates 11, 9, 7, 3 and the candidate lists handed to `random.choice` -/
example : viewT (GenGSIR.run exA [1, 3] [0] 10 ⟨exTape, #[]⟩) =
    some ([.expo 11, .unif, .choice [[1, 2], [3, 2]], .unif, .expo 9, .unif, .choice [[1], [3], [2]], .unif, .expo 7,
       .unif, .choice [[2], [3]], .unif, .expo 3], []) := by decide +kernel

/-- ... and the full-data `transmissions` list: two initial entries, then the transmission 1→2 at time 1/2 -/
example : (GenGSIR.run exA [1, 3] [0] 10 ⟨exTape, #[]⟩).toOption.map (fun r => r.1.transmissions) =
    some [(some 0, none, 1), (some 0, none, 3), (some (1/2), some 1, 2)] := by decide +kernel

/-- the model on the same tape: same log, same (reversed) rows -/
example : viewMA (Gillespie.run exP [1, 3] [0] 0 (some 10) 10 5 ⟨exTape, #[]⟩) =
    some ([2], [], [9/2, 3/2, 1/2, 0]) := by decide +kernel
example : viewMB (Gillespie.run exP [1, 3] [0] 0 (some 10) 10 5 ⟨exTape, #[]⟩) =
    some ([0, 0, 0, 1], [1, 2, 3, 2], [3, 2, 1, 1]) := by decide +kernel
example : viewT (Gillespie.run exP [1, 3] [0] 0 (some 10) 10 5 ⟨exTape, #[]⟩) =
    some ([.expo 11, .unif, .choice [[1, 2], [3, 2]], .unif, .expo 9, .unif, .choice [[1], [3], [2]], .unif, .expo 7,
       .unif, .choice [[2], [3]], .unif, .expo 3], []) := by decide +kernel

/-- the refinement theorem applies to this run: the generated code's result is a result of the model (same final
tape state), and the C01 invariant holds in the generated code's final state -/
example (σ : GenGSIR.Loc) (ts' : TapeSt) (h : GenGSIR.run exA [1, 3] [0] 10 ⟨exTape, #[]⟩ = .ok (σ, ts')) :
    (∃ s, Gillespie.run exP [1, 3] [0] 0 (some 10) 10 5 ⟨exTape, #[]⟩ = .ok (s, ts') ∧ GenGSIR.Rel σ s) ∧
    (∀ u, u ∈ σ.infecteds.items ↔ u ∈ Chain.enabledRec exP σ.status) :=
  ⟨GenGSIR.gen_run_refines_back exAgree exWF rfl [1, 3] [0] 10 (by decide) (by decide) (by decide) _ ts' σ h,
   (GenGSIR.gen_run_inv exAgree exWF rfl [1, 3] [0] 10 (by decide) (by decide) (by decide) _ ts' σ h).1⟩

/-- ... and the run does return normally -/
example : (GenGSIR.run exA [1, 3] [0] 10 ⟨exTape, #[]⟩).toOption.isSome = true := by decide +kernel

end C01e
