import EoNVerif.Proofs.Discrete
/-!
C12 — properties of the discrete-time simulators (`discrete_SIR`, `basic_discrete_*`, `percolate_network`).
Helper lemmas and the well-formedness predicate `Discrete.WF` live in `EoNVerif.Proofs.Discrete`.
-/
namespace Discrete

/-- **pathwise generation rule**: for every outcome table of the contacts, the next generation is exactly the set of
susceptible nodes with at least one successful contact from a currently infectious neighbour (the outcome of the
contact `u → v` may depend on how many steps `u` has already been infectious, `s.age u`) -/
theorem step_newInf (P : DParams) (s : DState) (v : Node) (hv : v ∈ P.nodes) (hnot : v ∉ s.inf) :
    v ∈ (step P s).inf ↔ (s.sus v = true ∧ ∃ u ∈ s.inf, v ∈ P.nbrs u ∧ P.rule (s.age u) u v = true) := by
  rw [mem_step_inf, mem_newInf]
  have : v ∉ stay P s := fun h => hnot ((stay_sublist P s).subset h)
  constructor
  · rintro ⟨_, h | h⟩
    · exact h.2
    · exact absurd h this
  · intro h; exact ⟨hv, Or.inl ⟨hv, h⟩⟩

/-- default recovery rule: every infectious node is infectious for exactly one step -/
theorem one_step_infectious (P : DParams) (h : P.recSteps = none) (s : DState)
    (hs : ∀ u ∈ s.inf, s.sus u = false) (u : Node) (hu : u ∈ s.inf) : u ∉ (step P s).inf := by
  rw [mem_step_inf, mem_newInf]
  have : stay P s = [] := by simp [stay, h]
  rw [this]
  rintro ⟨_, h | h⟩
  · have := hs u hu; simp_all
  · simp at h

/-- **conservation**: every row has S + I + R = N -/
theorem conserve (P : DParams) (infs recs : List Node) (h : WF P infs recs) (fuel : Nat) :
    let s := run P infs recs fuel
    ∀ i, i < s.t.length → s.S.getD i 0 + s.I.getD i 0 + s.R.getD i 0 = (P.nodes.length : Int) :=
  (consInv_run P infs recs h fuel).rows

/-- rows are equally long and times advance by exactly one step from `tmin` -/
theorem rows_shape (P : DParams) (infs recs : List Node) (fuel : Nat) :
    let s := run P infs recs fuel
    s.S.length = s.t.length ∧ s.I.length = s.t.length ∧ s.R.length = s.t.length ∧
    ∀ i, i < s.t.length → s.t.reverse.getD i 0 = P.tmin + (i : Rat) := by
  intro s
  obtain ⟨n, h1, h2, h3, h4⟩ : ∃ n, ShapeInv P n (run P infs recs fuel) := loop_inv P (ShapeInv P) (fun i s h _ => shapeInv_step P i s h) fuel 0 _
    (by simp [ShapeInv, init] : ShapeInv P 0 (init P infs recs))
  have hl : s.t.length = n + 1 := by show (run P infs recs fuel).t.length = _; rw [h4]; simp
  refine ⟨by rw [hl]; exact h1, by rw [hl]; exact h2, by rw [hl]; exact h3, ?_⟩
  intro i hi
  show (run P infs recs fuel).t.reverse.getD i 0 = _
  rw [h4, List.reverse_reverse]
  rw [hl] at hi
  simp [List.getD_eq_getElem?_getD, hi]

/-- **BFS**: when the loop has stopped (no infecteds left or horizon reached), a node is infected exactly at
`tmin +` its breadth-first distance from the initial set in the digraph of successful contacts (initially recovered
nodes removed), if that step was simulated; holds under the default recovery rule (every node is infectious for one
step, so every contact is made at age 0) for every transmission rule, and under every recovery rule for every
transmission rule that does not depend on the age of the source (`Ageless`) -/
theorem bfs_correct (P : DParams) (infs recs : List Node) (h : WF P infs recs) (fuel : Nat)
    (hrule : P.recSteps = none ∨ Ageless P)
    (hstop : let s := run P infs recs fuel
             s.inf.isEmpty = true ∨ ERat.lt (some (s.t.headD P.tmin)) P.tmax = false) :
    isBFS P infs recs (run P infs recs fuel).infTime = true := by
  obtain ⟨i, hi⟩ := loop_inv P (BfsInv P infs recs) (fun i s hs hr => bfsInv_step P infs recs hrule h.nodup i s hs hr)
    fuel 0 _ (bfsInv_init P infs recs h)
  exact isBFS_of_inv P infs recs i _ hi hstop

/-- default recovery rule: the age of every node stays 0 (every contact is made at age 0) -/
theorem age_default (P : DParams) (infs recs : List Node) (fuel : Nat) (h : P.recSteps = none) :
    (run P infs recs fuel).age = fun _ => 0 := by
  obtain ⟨_, hj⟩ := loop_inv P (fun _ s => s.age = fun _ => 0)
    (fun _ s hs _ => by rw [step_age_none P s h]; exact hs) fuel 0 _ (rfl : (init P infs recs).age = fun _ => 0)
  exact hj

/-- the iteration order of the infectious set does not matter -/
theorem step_perm (P : DParams) (s s' : DState) (hp : s.inf.Perm s'.inf)
    (hsus : s.sus = s'.sus) (hage : s.age = s'.age) (ht : s.t = s'.t) (hn : s.nS = s'.nS) (hr : s.totR = s'.totR) :
    (step P s).inf = (step P s').inf ∧ (step P s).nS = (step P s').nS ∧ (step P s).totR = (step P s').totR ∧
    (step P s).infTime.drop s.infTime.length = (step P s').infTime.drop s'.infTime.length := by
  have h1 := newInf_perm P s s' hp hsus hage
  have h2 := stay_perm P s s' hp hage
  refine ⟨?_, ?_, ?_, ?_⟩
  · rw [step_inf, step_inf, h1]
    apply List.filter_congr
    intro v _
    congr 1
    rw [Bool.eq_iff_iff]
    simp only [List.contains_iff_mem]
    exact h2.mem_iff
  · rw [step_nS, step_nS, h1, hn]
  · rw [step_totR, step_totR, hr, hp.length_eq, h2.length_eq]
  · rw [step_infTime, step_infTime, h1, ht]; simp

/-- **per-node marginal of the basic simulators**: with `k` infectious neighbours, each contact an independent
Bernoulli(p), a susceptible node is infected with probability `1 - (1-p)^k` -/
theorem basic_marginal (p : Rat) (k : Nat) :
    Dist.mass (anyContact p k) (fun b => b) = infProb p k := by
  induction k with
  | zero => simp [anyContact, Dist.mass_pure, infProb]
  | succ n ih =>
    simp only [anyContact]
    rw [Dist.mass_bern_bind]
    simp only [if_true, Bool.false_eq_true, if_false]
    rw [ih, Dist.mass_pure]
    simp only [infProb, if_true]
    ring

/-- **percolate_network**: a given set of kept edges (as the sublist selected by `keep`) has probability
`p^|A| (1-p)^(m-|A|)` -/
theorem percolate_edge_law {ε : Type} [DecidableEq ε] (p : Rat) (edges : List ε) (hn : edges.Nodup) (keep : ε → Bool) :
    Dist.mass (percolateDist p edges) (fun kept => kept == edges.filter keep) =
      p ^ (edges.filter keep).length * (1 - p) ^ (edges.length - (edges.filter keep).length) :=
  percolate_edge_law' p edges hn keep

/-- the percolated graph only ever contains edges of the original one -/
theorem percolate_support {ε : Type} [DecidableEq ε] (p : Rat) (edges : List ε) (kept : List ε)
    (hk : ∃ q, (kept, q) ∈ percolateDist p edges) : kept.Sublist edges :=
  percolate_support' p edges kept hk

end Discrete

/-! non-vacuity: path 0-1-2-3 with one failed contact -/
def exDn (u : Node) : List Node := match u with | 0 => [1] | 1 => [0, 2] | 2 => [1, 3] | 3 => [2] | _ => []
def exD : DParams :=
  { nodes := [0, 1, 2, 3], nbrs := exDn, rule := fun _ u v => !(u == 2 && v == 3), recSteps := none, tmin := 0, tmax := none }
example : (Discrete.run exD [0] [] 10).infTime = [(1, 1), (2, 2)] := by decide +kernel
example : Discrete.isBFS exD [0] [] (Discrete.run exD [0] [] 10).infTime = true := by decide +kernel

/-! non-vacuity of the age argument: path 0-1-2, every node infectious for two steps, the contact 0 → 1 fails at the
first step node 0 is infectious (age 0) and succeeds at the second (age 1): node 1 is infected at time 2 (not 1), node 2
at time 3.  The rule is not `Ageless` and the recovery rule is not the default one, and indeed the BFS predicate (which
reads the rule at age 0 only, where 0 → 1 fails, so 1 and 2 are unreachable) is false for this run: the hypothesis
`hrule` of `bfs_correct` cannot be dropped. -/
def exAn (u : Node) : List Node := match u with | 0 => [1] | 1 => [0, 2] | 2 => [1] | _ => []
def exA : DParams :=
  { nodes := [0, 1, 2], nbrs := exAn, rule := fun a u v => !(u == 0 && v == 1 && a == 0),
    recSteps := some (fun _ => 2), tmin := 0, tmax := none }
example : exA.rule 0 0 1 = false ∧ exA.rule 1 0 1 = true := by decide +kernel
example : (Discrete.run exA [0] [] 10).infTime = [(1, 2), (2, 3)] := by decide +kernel
example : (Discrete.run exA [0] [] 10).inf = [] := by decide +kernel
example : (Discrete.run exA [0] [] 10).age 0 = 2 := by decide +kernel
example : Discrete.isBFS exA [0] [] (Discrete.run exA [0] [] 10).infTime = false := by decide +kernel
example : ¬ Discrete.Ageless exA := fun h => absurd (h 1 0 1) (by decide +kernel)
/-- the same network with the stateless rule `rule 0` and the same recovery rule satisfies the BFS predicate -/
def exA0 : DParams := { exA with rule := fun _ u v => exA.rule 0 u v }
example : Discrete.Ageless exA0 := fun _ _ _ => rfl
example : Discrete.isBFS exA0 [0] [] (Discrete.run exA0 [0] [] 10).infTime = true := by decide +kernel
