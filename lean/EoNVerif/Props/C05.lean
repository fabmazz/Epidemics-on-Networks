import EoNVerif.Props.C04
import EoNVerif.Props.C11
import EoNVerif.Props.C13
import EoNVerif.Props.C04b
import EoNVerif.Props.C05b
/-!
C05 — requested initial conditions: the theorems `Gillespie.ic_gillespie` and
`Gillespie.recovered_never_infected` are stated and proved in `Props/C04.lean` (one development about the model output).
The other imports make the rest of the property reachable from this module: Props/C04b (the `**C05**` theorems about the
rows of the event-driven SIR model), Props/C05b (argument normalisation, node histories), C11 and C13 (the event-driven
simulators).
-/
