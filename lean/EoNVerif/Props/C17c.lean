import EoNVerif.Proofs.GenPerc
import EoNVerif.Props.C17
/-!
C17c — the code GENERATED from EoN's percolation builders and estimators (`Gen/PercGen.lean`, namespace `GenPerc`)
against the hand model of C17 (`Model/Perc.lean`), for every input.

Conventions.
* A run of a generated function is `f … s ts : Except String ((result × PSt) × TapeSt)`: `s : PyPM.PSt` is the script of the
  user time functions (answers left, calls logged), `ts : TapeSt` the random tape (draws left, calls logged).
* The networkx routines are parameters (`X : PyPM.NX`).  Their assumed meaning on a digraph `H` is the predicate
  `NXSpecAt X H` (spelled out in `nxSpec_clauses`; reachability as computed by `Perc.reach`), `NXSpec X` is `NXSpecAt` on
  every well-formed digraph (`HWF`: no node listed twice, edges between listed nodes); `CCSpec` is the analogue for
  `nx.connected_components`.  `nxSpec_satisfiable` / `ccSpec_satisfiable`: the instance the test driver uses (`mkNX`)
  satisfies them, so no theorem below is vacuous.
* Definitions of `Proofs/GenPerc.lean` used in the statements: `CWF C` (contact graph: nodes distinct, neighbours are nodes);
  `RuleGraph C rule na ea H` (spelled out in `ruleGraph_clauses`); positional answers `answers : List (ERat × List ERat)`
  (`answers[i]` = duration of `C.nodes[i]`, delays to its neighbours in order) with `Shape C.nbrs C.nodes answers` (one
  duration per node, one delay per neighbour), `buildL w C answers` (the digraph built from them: `add_node(u)`, then
  `add_edge(u, v)` for the neighbours with `delay ≤ duration`, in order), `durOf` / `delayOf` (the answer at the position of
  a node / of a neighbour), `OkAns rate a` (finite iff `rate > 0`), `drawOf a` / `callOf rate a` (the draw a finite answer
  consumes / the call it logs, nothing for an infinite one); `normSrc` / `normOpt` (normalisation of `initial_infecteds` /
  `initial_recovereds`, see `normalisation`); `usucc edges` (neighbours in the undirected graph of an edge list).
-/
open PyPM GenPercProofs

namespace C17c

/-! ## 0. the assumed meaning of the networkx routines, and its satisfiability -/

/-- what `NXSpecAt X H` (Proofs/GenPerc.lean) assumes about the networkx parameters on the digraph `H`, spelled out:
iterating over a `set` visits every element once; `nx.descendants(H, u)` / `nx.ancestors(H, u)` list exactly the nodes other
than `u` reachable from / reaching `u` (as computed by the hand model's `Perc.reach`) and raise `NetworkXError` for a node that
is not in `H`; every component yielded by `nx.strongly_connected_components(H)` is a non-empty duplicate-free listing, inside
the node list, of the hand model's `Perc.scc` of each of its members, and every node is in a yielded component.  Nothing is
assumed about the ORDER in which components are yielded or elements are listed. -/
theorem nxSpec_clauses (X : NX) (H : DiG) (h : NXSpecAt X H) :
    (∀ s, (X.iter s).Perm s) ∧
    (∀ u, H.hasNode u = true → ∃ l, X.descendants H u = .ok l ∧
      ∀ v, v ∈ l ↔ (v ≠ u ∧ Perc.reach H.nodeList H.succ u v = true)) ∧
    (∀ u, H.hasNode u = false → X.descendants H u = .error "NetworkXError") ∧
    (∀ u, H.hasNode u = true → ∃ l, X.ancestors H u = .ok l ∧
      ∀ v, v ∈ l ↔ (v ≠ u ∧ Perc.reach H.nodeList H.succ v u = true)) ∧
    (∀ u, H.hasNode u = false → X.ancestors H u = .error "NetworkXError") ∧
    (∀ c ∈ X.sccs H, c ≠ [] ∧ c.Nodup ∧ ∀ u ∈ c, u ∈ H.nodeList ∧ ∀ v, v ∈ c ↔ v ∈ Perc.scc H.nodeList H.succ u) ∧
    (∀ u ∈ H.nodeList, ∃ c ∈ X.sccs H, u ∈ c) :=
  ⟨h.iter, h.desc, h.desc_err, h.anc, h.anc_err, h.scc_mem, h.scc_cover⟩

/-- **non-vacuity**: the instance the test driver uses (`mkNX none`, a copy of
`DrvGenPerc.mkNX` of `DriverPerc.lean`: reachability by the fixed-point iteration of `Model/Perc.lean`, components in
first-seen order, sets iterated in insertion order) meets the specification on EVERY well-formed digraph (`HWF`: no node
listed twice, every edge joins listed nodes) — `NXSpec X` is `∀ H, HWF H → NXSpecAt X H` -/
theorem nxSpec_satisfiable : NXSpec (mkNX none) := fun H h => mkNX_spec H h

/-- the same for one digraph -/
theorem nxSpecAt_satisfiable (H : DiG) (h : HWF H) : NXSpecAt (mkNX none) H := mkNX_spec H h

/-- every digraph the builders return is well formed, so `NXSpec` covers all the graphs the estimators are run on -/
theorem built_digraphs_wf (w : Bool) (C : Contact) (answers : List (ERat × List ERat)) : HWF (buildL w C answers) :=
  buildL_hwf w C answers

/-! ## 1. `_out_component_` / `_in_component_` -/

/-- **`_out_component_(H, u)`, `u` a node of `H`**: the run succeeds, touches neither the script nor the tape, and returns a
duplicate-free list of exactly the nodes reachable from `u` (so, `H.nodeList` being duplicate free, a permutation of the hand
model's `Perc.outC`). -/
theorem out_component_node (X : NX) (H : DiG) (hX : NXSpecAt X H) (u : Node) (hu : H.hasNode u = true)
    (s : PSt) (ts : TapeSt) :
    ∃ l, GenPerc.out_component X H (Sum.inl u) s ts = .ok ((l, s), ts) ∧ l.Nodup ∧
      (∀ v, v ∈ l ↔ Perc.reach H.nodeList H.succ u v = true) ∧
      (H.nodeList.Nodup → l.Perm (Perc.outC H.nodeList H.succ u)) := by
  obtain ⟨r, hr, hrn, hr'⟩ := compE_node hX.iter hX.lists_desc hu
  exact ⟨r, by rw [out_component_eq, hr]; rfl, hrn, hr',
    fun hnd => perm_filter_reach hnd hrn (fun v hv => Perc.reach_mem hv) hr'⟩

/-- **`_in_component_(H, u)`, `u` a node of `H`** -/
theorem in_component_node (X : NX) (H : DiG) (hX : NXSpecAt X H) (u : Node) (hu : H.hasNode u = true)
    (s : PSt) (ts : TapeSt) :
    ∃ l, GenPerc.in_component X H (Sum.inl u) s ts = .ok ((l, s), ts) ∧ l.Nodup ∧
      (∀ v, v ∈ l ↔ Perc.reach H.nodeList H.succ v u = true) ∧
      (H.nodeList.Nodup → l.Perm (Perc.inC H.nodeList H.succ u)) := by
  obtain ⟨r, hr, hrn, hr'⟩ := compE_node hX.iter hX.lists_anc hu
  exact ⟨r, by rw [in_component_eq, hr]; rfl, hrn, hr',
    fun hnd => perm_filter_reach hnd hrn (fun v hv => Perc.reach_src_mem hv) hr'⟩

/-- **`_out_component_(H, l)`, `l` an iterable of nodes of `H`** (duplicates allowed): the union of the out-components -/
theorem out_component_list (X : NX) (H : DiG) (hX : NXSpecAt X H) (l : List Node)
    (hl : ∀ u ∈ l, H.hasNode u = true) (s : PSt) (ts : TapeSt) :
    ∃ r, GenPerc.out_component X H (Sum.inr l) s ts = .ok ((r, s), ts) ∧ r.Nodup ∧
      ∀ v, v ∈ r ↔ ∃ u ∈ l, Perc.reach H.nodeList H.succ u v = true := by
  obtain ⟨r, hr, hrn, hr'⟩ := compE_list hX.iter hX.lists_desc hl
  exact ⟨r, by rw [out_component_eq, hr]; rfl, hrn, hr'⟩

/-- **`_in_component_(H, l)`, `l` an iterable of nodes of `H`** -/
theorem in_component_list (X : NX) (H : DiG) (hX : NXSpecAt X H) (l : List Node)
    (hl : ∀ u ∈ l, H.hasNode u = true) (s : PSt) (ts : TapeSt) :
    ∃ r, GenPerc.in_component X H (Sum.inr l) s ts = .ok ((r, s), ts) ∧ r.Nodup ∧
      ∀ v, v ∈ r ↔ ∃ u ∈ l, Perc.reach H.nodeList H.succ v u = true := by
  obtain ⟨r, hr, hrn, hr'⟩ := compE_list hX.iter hX.lists_anc hl
  exact ⟨r, by rw [in_component_eq, hr]; rfl, hrn, hr'⟩

/-- a single node that is not in the graph is taken for an iterable: `TypeError` (whatever the networkx routines do) -/
theorem out_component_absent (X : NX) (H : DiG) (u : Node) (hu : H.hasNode u = false) (s : PSt) (ts : TapeSt) :
    GenPerc.out_component X H (Sum.inl u) s ts = .error "TypeError" := by
  rw [out_component_eq, compE_absent _ _ H u hu]; rfl

theorem in_component_absent (X : NX) (H : DiG) (u : Node) (hu : H.hasNode u = false) (s : PSt) (ts : TapeSt) :
    GenPerc.in_component X H (Sum.inl u) s ts = .error "TypeError" := by
  rw [in_component_eq, compE_absent _ _ H u hu]; rfl

/-- an iterable with a node that is not in the graph: `nx.descendants` raises `NetworkXError` -/
theorem out_component_list_absent (X : NX) (H : DiG) (hX : NXSpecAt X H) (l : List Node)
    (hbad : ∃ u ∈ l, H.hasNode u = false) (s : PSt) (ts : TapeSt) :
    GenPerc.out_component X H (Sum.inr l) s ts = .error "NetworkXError" := by
  rw [out_component_eq, compE_list_err hX.iter hX.lists_desc hbad]; rfl

theorem in_component_list_absent (X : NX) (H : DiG) (hX : NXSpecAt X H) (l : List Node)
    (hbad : ∃ u ∈ l, H.hasNode u = false) (s : PSt) (ts : TapeSt) :
    GenPerc.in_component X H (Sum.inr l) s ts = .error "NetworkXError" := by
  rw [in_component_eq, compE_list_err hX.iter hX.lists_anc hbad]; rfl

/-! ## 2. `estimate_SIR_prob_size_from_dir_perc` -/

/-- **the estimator returns one of the hand model's admissible answers**: on a non-empty digraph without repeated nodes the
run succeeds, touches neither the script nor the tape, and returns `(|inC u|/N, |outC u|/N)` for a node `u` of a largest
strongly connected component — a member of `Perc.allowed`. -/
theorem estimate_from_dir_perc_allowed (X : NX) (H : DiG) (hX : NXSpecAt X H) (hnd : H.nodeList.Nodup)
    (hne : H.nodes ≠ []) (s : PSt) (ts : TapeSt) :
    ∃ p, GenPerc.estimate_from_dir_perc X H s ts = .ok ((p, s), ts) ∧ p ∈ Perc.allowed H.nodeList H.succ ∧
      ∃ u ∈ H.nodeList, (Perc.scc H.nodeList H.succ u).length = Perc.maxSccSize H.nodeList H.succ ∧
        p = (((Perc.inC H.nodeList H.succ u).length : Rat) / (H.nodeList.length : Rat),
             ((Perc.outC H.nodeList H.succ u).length : Rat) / (H.nodeList.length : Rat)) := by
  obtain ⟨u, hu, hmax, he⟩ := estE_ok X H hX hnd hne
  refine ⟨_, by rw [estimate_eq, he]; rfl, ?_, u, hu, hmax, rfl⟩
  unfold Perc.allowed
  exact List.mem_map.2 ⟨u, List.mem_filter.2 ⟨hu, by simpa using hmax⟩, rfl⟩

/-- the empty digraph: `max()` of an empty sequence raises `ValueError` -/
theorem estimate_from_dir_perc_empty (X : NX) (H : DiG) (hX : NXSpecAt X H) (h : H.nodes = []) (s : PSt) (ts : TapeSt) :
    GenPerc.estimate_from_dir_perc X H s ts = .error "ValueError" := by
  rw [estimate_eq, estE_empty X H hX h]; rfl

/-- C17 `PE_AR_bounds` transported to the generated code: both outputs are fractions in `(0, 1]` -/
theorem estimate_from_dir_perc_bounds (X : NX) (H : DiG) (hX : NXSpecAt X H) (hH : HWF H) (hne : H.nodes ≠ [])
    (s : PSt) (ts : TapeSt) :
    ∃ p, GenPerc.estimate_from_dir_perc X H s ts = .ok ((p, s), ts) ∧ 0 < p.1 ∧ p.1 ≤ 1 ∧ 0 < p.2 ∧ p.2 ≤ 1 := by
  obtain ⟨p, hp, hal, _⟩ := estimate_from_dir_perc_allowed X H hX hH.nodup hne s ts
  exact ⟨p, hp, Perc.allowed_bounds _ _ p hal⟩

/-- C17 `inC_indep` / `outC_indep` transported: the answer is the pair of EVERY node of the strongly connected component the
code picked its representative from — it depends neither on `list(Hscc)[0]` (the set order `X.iter`) nor on the listing
order inside the component. -/
theorem estimate_from_dir_perc_indep (X : NX) (H : DiG) (hX : NXSpecAt X H) (hH : HWF H) (hne : H.nodes ≠ [])
    (s : PSt) (ts : TapeSt) :
    ∃ p u, GenPerc.estimate_from_dir_perc X H s ts = .ok ((p, s), ts) ∧ u ∈ H.nodeList ∧
      (Perc.scc H.nodeList H.succ u).length = Perc.maxSccSize H.nodeList H.succ ∧
      ∀ w ∈ Perc.scc H.nodeList H.succ u,
        p = (((Perc.inC H.nodeList H.succ w).length : Rat) / (H.nodeList.length : Rat),
             ((Perc.outC H.nodeList H.succ w).length : Rat) / (H.nodeList.length : Rat)) := by
  obtain ⟨p, hp, _, u, hu, hmax, hpu⟩ := estimate_from_dir_perc_allowed X H hX hH.nodup hne s ts
  refine ⟨p, u, hp, hu, hmax, fun w hw => ?_⟩
  have hwn : w ∈ H.nodeList := (Perc.mem_scc.1 hw).1
  rw [hpu, Perc.inC_indep _ _ hH.wf u w hu hwn hw, Perc.outC_indep _ _ hH.wf u w hu hwn hw]

/-- when the largest strongly connected component is unique the answer is determined: it is the pair of any node `w` of it,
whatever order networkx yields the components in -/
theorem estimate_from_dir_perc_unique (X : NX) (H : DiG) (hX : NXSpecAt X H) (hH : HWF H) (w : Node)
    (hw : w ∈ H.nodeList)
    (huniq : ∀ u ∈ H.nodeList, (Perc.scc H.nodeList H.succ u).length = Perc.maxSccSize H.nodeList H.succ →
      w ∈ Perc.scc H.nodeList H.succ u) (s : PSt) (ts : TapeSt) :
    GenPerc.estimate_from_dir_perc X H s ts =
      .ok (((((Perc.inC H.nodeList H.succ w).length : Rat) / (H.nodeList.length : Rat),
             ((Perc.outC H.nodeList H.succ w).length : Rat) / (H.nodeList.length : Rat)), s), ts) := by
  have hne : H.nodes ≠ [] := by
    intro h; unfold DiG.nodeList at hw; rw [h] at hw; cases hw
  obtain ⟨p, u, hp, hu, hmax, hall⟩ := estimate_from_dir_perc_indep X H hX hH hne s ts
  rw [hp, hall w (huniq u hu hmax)]

/-! ### non-vacuity: the 3-cycle 0→1→2→0 with the pendant edge 2→3 -/

example : NXSpecAt (mkNX none) exH := mkNX_spec exH exH_wf
example : val (GenPerc.out_component (mkNX none) exH (Sum.inl 1) s0 t0) = .ok [1, 0, 2, 3] := by decide +kernel
example : val (GenPerc.in_component (mkNX none) exH (Sum.inl 3) s0 t0) = .ok [3, 0, 1, 2] := by decide +kernel
example : val (GenPerc.out_component (mkNX none) exH (Sum.inr [3, 3]) s0 t0) = .ok [3] := by decide +kernel
example : val (GenPerc.in_component (mkNX none) exH (Sum.inr [0, 1]) s0 t0) = .ok [0, 1, 2] := by decide +kernel
example : val (GenPerc.out_component (mkNX none) exH (Sum.inl 7) s0 t0) = .error "TypeError" := by decide +kernel
example : val (GenPerc.out_component (mkNX none) exH (Sum.inr [0, 7]) s0 t0) = .error "NetworkXError" := by decide +kernel
example : val (GenPerc.estimate_from_dir_perc (mkNX none) exH s0 t0) = .ok (3 / 4, 1) := by decide +kernel
example : Perc.allowed exH.nodeList exH.succ = [(3 / 4, 1), (3 / 4, 1), (3 / 4, 1)] := by decide +kernel
example : val (GenPerc.estimate_from_dir_perc (mkNX none) DiG.empty s0 t0) = .error "ValueError" := by decide +kernel
example : val (GenPerc.estimate_from_dir_perc (mkNX (some [[0, 1], [2, 3]])) exT s0 t0) = .ok (1 / 2, 1) := by decide +kernel
example : val (GenPerc.estimate_from_dir_perc (mkNX (some [[3, 2], [1, 0]])) exT s0 t0) = .ok (1, 1 / 2) := by decide +kernel

/-! ## 3. the builders with user time functions: `nonMarkov_directed_percolate_network_with_timing`,
`nonMarkov_directed_percolate_network` -/

/-- what `RuleGraph C rule na ea H` (Proofs/GenPerc.lean) says: `H` is the percolated digraph of `rule` on the contact
graph `C` — well formed, no edge stored twice, the nodes of `C` (possibly in another order), an edge `u → v` exactly when
`v` is a neighbour of `u` and `rule u v`, i.e. `H.succ u` is `Perc.percolate C.nbrs rule u` as a set —, with node
attributes `na` and edge attributes `ea` -/
theorem ruleGraph_clauses (C : Contact) (rule : Node → Node → Bool) (na : Node → Option ERat)
    (ea : Node → Node → Option ERat) (H : DiG) (h : RuleGraph C rule na ea H) :
    H.nodeList.Nodup ∧ (∀ e ∈ H.edges, e.1.1 ∈ H.nodeList ∧ e.1.2 ∈ H.nodeList) ∧ (H.edges.map (·.1)).Nodup ∧
    (∀ u, H.hasNode u = true ↔ u ∈ C.nodes) ∧ H.nodeList.Perm C.nodes ∧
    (∀ u v, (u, v) ∈ H.edges.map (·.1) ↔ (u ∈ C.nodes ∧ v ∈ C.nbrs u ∧ rule u v = true)) ∧
    (∀ u v, v ∈ H.succ u ↔ (u ∈ C.nodes ∧ v ∈ Perc.percolate C.nbrs rule u)) ∧
    (∀ p ∈ H.nodes, p.2 = na p.1) ∧ (∀ e ∈ H.edges, e.2 = ea e.1.1 e.1.2) := by
  refine ⟨h.hwf.nodup, h.hwf.edge_mem, h.enodup, h.hasNode, h.perm, fun u v => ?_, h.succ, h.node_attr, h.edge_attr⟩
  rw [← mem_succ, h.succ, Perc.percolated_edge_iff_rule]

/-- **`with_timing` with deterministic time functions** `rec_time_fxn u = dur u`, `trans_time_fxn u v = delay u v` on a
well-formed contact graph: the run succeeds, touches neither script nor tape, and returns the percolated digraph of the rule
`delay u v ≤ dur u`; with `weights` the attributes are `duration = dur u`, `delay_to_infection = delay u v`, without none is
stored.  Reachability in the result is reachability in the hand model's `Perc.percolate`. -/
theorem with_timing_deterministic (X : NX) (C : Contact) (hC : CWF C) (dur : Node → ERat) (delay : Node → Node → ERat)
    (w : Bool) (s : PSt) (ts : TapeSt) :
    ∃ H, GenPerc.with_timing X C (fun u v => pure (delay u v)) (fun u => pure (dur u)) w s ts = .ok ((H, s), ts) ∧
      RuleGraph C (fun u v => ERat.le (delay u v) (dur u)) (fun u => if w then some (dur u) else none)
        (fun u v => if w then some (delay u v) else none) H ∧
      ∀ u v, Perc.reach H.nodeList H.succ u v = true ↔
        Perc.reach C.nodes (Perc.percolate C.nbrs fun u v => ERat.le (delay u v) (dur u)) u v = true := by
  have hg := ruleGraph C hC (fun u v => ERat.le (delay u v) (dur u)) (fun u => attr w (dur u))
    (fun u v => attr w (delay u v))
  exact ⟨_, by rw [with_timing_pure]; rfl, hg, hg.reach_iff hC⟩

/-- **`weights=True` and `weights=False` build the same nodes and edges, for ALL time functions** (scripted, random, …): from
the same script and tape, if one run succeeds so does the other, with the same final script and tape, the same node list and
the same edge list in the same order; the `weights=False` digraph stores no attribute. -/
theorem with_timing_weights (X : NX) (C : Contact) (tt : Node → Node → PM ERat) (rt : Node → PM ERat) (w : Bool)
    (s s' : PSt) (ts ts' : TapeSt) (H : DiG) (h : GenPerc.with_timing X C tt rt w s ts = .ok ((H, s'), ts')) :
    ∃ Ht Hf, GenPerc.with_timing X C tt rt true s ts = .ok ((Ht, s'), ts') ∧
      GenPerc.with_timing X C tt rt false s ts = .ok ((Hf, s'), ts') ∧
      Ht.nodeList = Hf.nodeList ∧ Ht.edges.map (·.1) = Hf.edges.map (·.1) ∧
      (∀ p ∈ Hf.nodes, p.2 = none) ∧ (∀ e ∈ Hf.edges, e.2 = none) := by
  rw [with_timing_eq] at h
  obtain ⟨a, s1, ts1, ha, hp⟩ := TM.st_bind_inv h
  rw [pure_run] at hp
  cases hp
  refine ⟨buildL true C a, buildL false C a, by rw [with_timing_eq, TM.st_bind_ok ha]; rfl,
    by rw [with_timing_eq, TM.st_bind_ok ha]; rfl, (buildL_keys C a).1, (buildL_keys C a).2,
    (buildL_false_attrs C a).1, (buildL_false_attrs C a).2⟩

/-- **`nonMarkov_directed_percolate_network(G, xi, zeta, transmission)`**: the percolated digraph of the rule
`transmission(xi[u], zeta[v])`, no attributes, script and tape untouched -/
theorem xi_zeta_network_spec (X : NX) (C : Contact) (hC : CWF C) (xi zeta : Node → Rat) (tr : Rat → Rat → Bool)
    (s : PSt) (ts : TapeSt) :
    ∃ H, GenPerc.xi_zeta_network X C xi zeta tr s ts = .ok ((H, s), ts) ∧
      RuleGraph C (fun u v => tr (xi u) (zeta v)) (fun _ => none) (fun _ _ => none) H ∧
      ∀ u v, Perc.reach H.nodeList H.succ u v = true ↔
        Perc.reach C.nodes (Perc.percolate C.nbrs fun u v => tr (xi u) (zeta v)) u v = true := by
  have hg := ruleGraph C hC (fun u v => tr (xi u) (zeta v)) (fun _ => none) (fun _ _ => none)
  exact ⟨_, by rw [xi_zeta_eq]; rfl, hg, hg.reach_iff hC⟩

/-- **`with_timing` with scripted time functions** (`askVal`: each call is logged with its arguments and answered from the
script).  If the script begins with one answer per call — `answers[i] = (duration of nodes[i], delays to its neighbours in
order)`, flattened in call order — the run succeeds, leaves the tape alone, consumes exactly these answers and appends to
the log exactly the calls `rec_time_fxn(u)` (`[1, u]`) followed by `trans_time_fxn(u, v)` (`[0, u, v]`) for the neighbours
`v` of `u` in order, for the nodes `u` in order; the result is a well-formed digraph containing every node of `G`. -/
theorem with_timing_scripted (X : NX) (C : Contact) (w : Bool) (answers : List (ERat × List ERat))
    (hsh : Shape C.nbrs C.nodes answers) (rest : List ERat) (cs : Array (List Nat)) (ts : TapeSt) :
    GenPerc.with_timing X C (fun u v => askVal [0, u, v]) (fun u => askVal [1, u]) w
        ⟨answers.flatMap (fun a => a.1 :: a.2) ++ rest, cs⟩ ts =
      .ok ((buildL w C answers,
        ⟨rest, cs ++ C.nodes.flatMap (fun u => [1, u] :: (C.nbrs u).map (fun v => [0, u, v]))⟩), ts) ∧
    HWF (buildL w C answers) ∧ ∀ u ∈ C.nodes, (buildL w C answers).hasNode u = true :=
  ⟨with_timing_script X C w answers hsh rest cs ts, buildL_hwf w C answers,
    fun u hu => (hasNode_iff _ u).2 (buildL_mem w C answers hsh u hu)⟩

/-- the digraph `buildL w C answers` of positional answers (scripted or drawn) on a simple contact graph (distinct nodes,
distinct neighbours): the answers are functions `durOf` / `delayOf` of the node / the ordered pair, and the digraph is the
percolated digraph of `delayOf u v ≤ durOf u` with these attributes — the description of `with_timing_deterministic` -/
theorem positional_digraph (C : Contact) (hC : CWF C) (hnb : ∀ u ∈ C.nodes, (C.nbrs u).Nodup) (w : Bool)
    (answers : List (ERat × List ERat)) (hsh : Shape C.nbrs C.nodes answers) :
    answers = C.nodes.map (fun u => (durOf C answers u, (C.nbrs u).map (delayOf C answers u))) ∧
    RuleGraph C (fun u v => ERat.le (delayOf C answers u v) (durOf C answers u))
      (fun u => if w then some (durOf C answers u) else none)
      (fun u v => if w then some (delayOf C answers u v) else none) (buildL w C answers) ∧
    ∀ u v, Perc.reach (buildL w C answers).nodeList (buildL w C answers).succ u v = true ↔
      Perc.reach C.nodes (Perc.percolate C.nbrs fun u v => ERat.le (delayOf C answers u v) (durOf C answers u)) u v = true :=
  ⟨answers_eq_fun C hC.nodup hnb answers hsh, buildL_ruleGraph C hC hnb w answers hsh,
    (buildL_ruleGraph C hC hnb w answers hsh).reach_iff hC⟩

/-- a script with at least as many answers as there are calls splits into `answers` and a rest, so `with_timing_scripted`
applies: the run succeeds and the final log is the initial one followed by all the calls in order -/
theorem with_timing_scripted_long (X : NX) (C : Contact) (w : Bool) (s : PSt) (ts : TapeSt)
    (hlen : (C.nodes.flatMap (fun u => [1, u] :: (C.nbrs u).map (fun v => [0, u, v]))).length ≤ s.vals.length) :
    ∃ H s', GenPerc.with_timing X C (fun u v => askVal [0, u, v]) (fun u => askVal [1, u]) w s ts = .ok ((H, s'), ts) ∧
      s'.calls = s.calls ++ C.nodes.flatMap (fun u => [1, u] :: (C.nbrs u).map (fun v => [0, u, v])) ∧
      s'.vals = s.vals.drop (C.nodes.flatMap (fun u => [1, u] :: (C.nbrs u).map (fun v => [0, u, v]))).length := by
  obtain ⟨answers, hsh, hv⟩ := exists_answers C.nbrs C.nodes s.vals hlen
  have h := with_timing_script X C w answers hsh (s.vals.drop (callsOn C.nbrs C.nodes).length) s.calls ts
  rw [← hv] at h
  exact ⟨_, _, h, rfl, rfl⟩

/-! ### non-vacuity: the contact graph 0–1, 1–2, 2–0, 2–3 -/

example : valN exRunT = .ok [(0, some (some 2)), (1, some (some 2)), (2, some (some 2)), (3, some (some 2))] ∧
    valE exRunT = .ok [((0, 1), some (some 1)), ((1, 2), some (some 1)), ((2, 0), some (some 1)), ((2, 3), some (some 1))] := by
  decide +kernel
example : valN exRunF = .ok [(0, none), (1, none), (2, none), (3, none)] ∧
    valE exRunF = .ok [((0, 1), none), ((1, 2), none), ((2, 0), none), ((2, 3), none)] := by
  decide +kernel
example : valN exRunX = .ok [(0, none), (1, none), (2, none), (3, none)] ∧
    valE exRunX = .ok [((1, 2), none), ((2, 1), none), ((2, 3), none), ((3, 2), none)] := by
  decide +kernel
/-- scripted: twelve calls, the thirteenth answer stays in the script -/
example : (GenPerc.with_timing (mkNX none) exC (fun u v => askVal [0, u, v]) (fun u => askVal [1, u]) false
      ⟨[some 2, some 1, some 3, some 2, some 3, some 1, some 2, some 3, some 1, some 1, some 2, some 3, none], #[]⟩ t0).map
      (fun x => (x.1.1.edges.map (·.1), x.1.2.calls.toList, x.1.2.vals)) =
    .ok ([(0, 1), (1, 2), (2, 0), (2, 3)],
      [[1, 0], [0, 0, 1], [0, 0, 2], [1, 1], [0, 1, 0], [0, 1, 2], [1, 2], [0, 2, 1], [0, 2, 0], [0, 2, 3], [1, 3], [0, 3, 2]],
      [none]) := by
  decide +kernel
example : valN (GenPerc.with_timing (mkNX none) exC (fun u v => askVal [0, u, v]) (fun u => askVal [1, u]) false
      ⟨[some 2, some 1], #[]⟩ t0) = .error "answers-exhausted" := by
  decide +kernel

/-! ## 4. `directed_percolate_network` -/

/-- **by unfolding**, `directed_percolate_network(G, tau, gamma, weights)` is `…_with_timing` with the two closures:
`random.expovariate(rate)` when `rate > 0`, `float('Inf')` otherwise -/
theorem directed_percolate_network_unfold (X : NX) (C : Contact) (tau gamma : Rat) (w : Bool) :
    GenPerc.directed_percolate_network X C tau gamma w =
      GenPerc.with_timing X C
        (fun _ _ => if decide (tau > (0 : Rat)) then expo tau else pure (none : ERat))
        (fun _ => if decide (gamma > (0 : Rat)) then expo gamma else pure (none : ERat)) w :=
  directed_eq X C tau gamma w

/-- **`directed_percolate_network` on a tape, all cases**.  `answers[i] = (duration of nodes[i], delays to its neighbours)`
are admissible (`OkAns`): finite exactly when the rate is positive.  On the tape of the finite answers in call order the
run succeeds, leaves the script alone, consumes exactly these draws, logs one `expovariate(gamma)` per finite duration and
one `expovariate(tau)` per finite delay, in order, and returns the digraph built from the answers (`buildL`: `u → v` kept iff
`delay ≤ duration`, see `positional_digraph`). -/
theorem directed_percolate_network_tape (X : NX) (C : Contact) (tau gamma : Rat) (w : Bool)
    (answers : List (ERat × List ERat)) (hsh : Shape C.nbrs C.nodes answers)
    (hok : ∀ a ∈ answers, OkAns gamma a.1 ∧ ∀ t ∈ a.2, OkAns tau t) (s : PSt) (rest : List Draw) (tr : Array Call) :
    GenPerc.directed_percolate_network X C tau gamma w s
        ⟨answers.flatMap (fun a => drawOf a.1 ++ a.2.flatMap drawOf) ++ rest, tr⟩ =
      .ok ((buildL w C answers, s),
        ⟨rest, tr ++ answers.flatMap (fun a => callOf gamma a.1 ++ a.2.flatMap (callOf tau))⟩) ∧
    HWF (buildL w C answers) ∧ ∀ u ∈ C.nodes, (buildL w C answers).hasNode u = true :=
  ⟨directed_tape X C tau gamma w answers hsh hok s rest tr, buildL_hwf w C answers,
    fun u hu => (hasNode_iff _ u).2 (buildL_mem w C answers hsh u hu)⟩

/-- **both rates positive**: per node `u` in order one `Draw.expo` (the duration, rate `gamma`) and one per neighbour (the
delays, rate `tau`) -/
theorem directed_percolate_network_tape_pos (X : NX) (C : Contact) (tau gamma : Rat) (ht : 0 < tau) (hg : 0 < gamma)
    (w : Bool) (drawn : List (Rat × List Rat))
    (hsh : List.Forall₂ (fun u a => a.2.length = (C.nbrs u).length) C.nodes drawn)
    (s : PSt) (rest : List Draw) (tr : Array Call) :
    GenPerc.directed_percolate_network X C tau gamma w s
        ⟨drawn.flatMap (fun a => Draw.expo a.1 :: a.2.map Draw.expo) ++ rest, tr⟩ =
      .ok ((buildL w C (drawn.map fun a => (some a.1, a.2.map some)), s),
        ⟨rest, tr ++ drawn.flatMap (fun a => Call.expo gamma :: a.2.map (fun _ => Call.expo tau))⟩) := by
  have hsh' : Shape C.nbrs C.nodes (drawnAns drawn) :=
    List.forall₂_map_right_iff.2 (hsh.imp fun _ _ ha => (List.length_map _).trans ha)
  have h := directed_tape X C tau gamma w (drawnAns drawn) hsh' (drawn_ok ht hg drawn) s rest tr
  rw [tapeOf_drawn, traceOf_drawn] at h
  exact h

/-- **both rates ≤ 0**: nothing is drawn, every duration and delay is infinite and every contact edge is kept
(`none ≤ none`); with `weights` every attribute is `inf`.  For one rate ≤ 0 see `directed_percolate_network_tape` (`OkAns`). -/
theorem directed_percolate_network_no_rates (X : NX) (C : Contact) (tau gamma : Rat) (ht : ¬ 0 < tau) (hg : ¬ 0 < gamma)
    (hC : CWF C) (w : Bool) (s : PSt) (ts : TapeSt) :
    ∃ H, GenPerc.directed_percolate_network X C tau gamma w s ts = .ok ((H, s), ts) ∧
      RuleGraph C (fun _ _ => true) (fun _ => if w then some none else none) (fun _ _ => if w then some none else none) H := by
  have h : GenPerc.directed_percolate_network X C tau gamma w =
      GenPerc.with_timing X C (fun _ _ => pure none) (fun _ => pure none) w := by
    rw [directed_eq]
    unfold drawE
    rw [decide_eq_false ht, decide_eq_false hg]
    rfl
  have hg' := ruleGraph C hC (fun _ _ => ERat.le none none) (fun _ => attr w none) (fun _ _ => attr w none)
  exact ⟨_, by rw [h, with_timing_pure]; rfl, hg'⟩

/-! a tape for the contact graph `exC`, `tau = 1`, `gamma = 1/2`: durations 2, delays as in `exDelay` -/
example : valN exRunD = .ok [(0, some (some 2)), (1, some (some 2)), (2, some (some 2)), (3, some (some 2))] ∧
    valE exRunD = .ok [((0, 1), some (some 1)), ((1, 2), some (some 1)), ((2, 0), some (some 1)), ((2, 3), some (some 1))] ∧
    exRunD.map (fun x => (x.2.tape, x.2.trace.toList)) = .ok ([.unif 0],
      [.expo (1/2), .expo 1, .expo 1, .expo (1/2), .expo 1, .expo 1, .expo (1/2), .expo 1, .expo 1, .expo 1, .expo (1/2), .expo 1]) := by
  decide +kernel
/-- `gamma = 0`: no duration is drawn, every neighbour is kept -/
example : (GenPerc.directed_percolate_network (mkNX none) exC 1 0 false s0 ⟨exTape, #[]⟩).map
      (fun x => (x.1.1.edges.map (·.1), x.2.tape.length, x.2.trace.toList)) =
    .ok ([(0, 1), (0, 2), (1, 0), (1, 2), (2, 1), (2, 0), (2, 3), (3, 2)], 5,
      [.expo 1, .expo 1, .expo 1, .expo 1, .expo 1, .expo 1, .expo 1, .expo 1]) := by
  decide +kernel
example : valN (GenPerc.directed_percolate_network (mkNX none) exC 1 1 true s0 ⟨[.expo 2, .unif 0], #[]⟩) =
    .error "tape-kind-mismatch:expo" := by decide +kernel

/-! ## 5. the estimators = builder, then `estimate_SIR_prob_size_from_dir_perc` -/

theorem estimate_with_timing_unfold (X : NX) (C : Contact) (tt : Node → Node → PM ERat) (rt : Node → PM ERat) :
    GenPerc.estimate_with_timing X C tt rt =
      GenPerc.with_timing X C tt rt true >>= fun H => GenPerc.estimate_from_dir_perc X H :=
  estimate_with_timing_eq X C tt rt

theorem estimate_xi_zeta_unfold (X : NX) (C : Contact) (xi zeta : Node → Rat) (tr : Rat → Rat → Bool) :
    GenPerc.estimate_xi_zeta X C xi zeta tr =
      GenPerc.xi_zeta_network X C xi zeta tr >>= fun H => GenPerc.estimate_from_dir_perc X H :=
  estimate_xi_zeta_eq X C xi zeta tr

theorem estimate_directed_SIR_prob_size_unfold (X : NX) (C : Contact) (tau gamma : Rat) :
    GenPerc.estimate_directed_SIR_prob_size X C tau gamma =
      GenPerc.directed_percolate_network X C tau gamma true >>= fun H => GenPerc.estimate_from_dir_perc X H :=
  estimate_directed_eq X C tau gamma

/-- **whatever the builder did**: if the builder part of a run returns `H` (well formed, non-empty) the estimator returns a
member of `Perc.allowed` of `H`, with the script and tape the builder left -/
theorem estimate_after_builder (X : NX) (b : PM DiG) (s s' : PSt) (ts ts' : TapeSt) (H : DiG)
    (hb : b s ts = .ok ((H, s'), ts')) (hX : NXSpecAt X H) (hH : HWF H) (hne : H.nodes ≠ []) :
    ∃ p, (b >>= fun H => GenPerc.estimate_from_dir_perc X H) s ts = .ok ((p, s'), ts') ∧
      p ∈ Perc.allowed H.nodeList H.succ ∧ 0 < p.1 ∧ p.1 ≤ 1 ∧ 0 < p.2 ∧ p.2 ≤ 1 := by
  obtain ⟨p, hp, hal⟩ := est_after hb hX hH.nodup hne
  exact ⟨p, hp, hal, Perc.allowed_bounds _ _ p hal⟩

/-- **`estimate_nonMarkov_SIR_prob_size(G, xi, zeta, transmission)`** on a well-formed non-empty contact graph: succeeds,
script and tape untouched, and the answer is one of the hand model's admissible answers for the percolated graph
`Perc.percolate G.nbrs rule` ON THE CONTACT GRAPH'S OWN NODE LIST — C17's `allowed`, with its bounds -/
theorem estimate_xi_zeta_allowed (X : NX) (hX : NXSpec X) (C : Contact) (hC : CWF C) (hne : C.nodes ≠ [])
    (xi zeta : Node → Rat) (tr : Rat → Rat → Bool) (s : PSt) (ts : TapeSt) :
    ∃ p, GenPerc.estimate_xi_zeta X C xi zeta tr s ts = .ok ((p, s), ts) ∧
      p ∈ Perc.allowed C.nodes (Perc.percolate C.nbrs fun u v => tr (xi u) (zeta v)) ∧
      0 < p.1 ∧ p.1 ≤ 1 ∧ 0 < p.2 ∧ p.2 ≤ 1 := by
  obtain ⟨H, hH, hg, _⟩ := xi_zeta_network_spec X C hC xi zeta tr s ts
  obtain ⟨p, hp, hal⟩ := est_rule hX hC hne hH hg
  exact ⟨p, by rw [estimate_xi_zeta_eq]; exact hp, hal⟩

theorem estimate_xi_zeta_empty (X : NX) (hX : NXSpec X) (C : Contact) (hne : C.nodes = [])
    (xi zeta : Node → Rat) (tr : Rat → Rat → Bool) (s : PSt) (ts : TapeSt) :
    GenPerc.estimate_xi_zeta X C xi zeta tr s ts = .error "ValueError" := by
  have hC : CWF C := ⟨by rw [hne]; exact List.nodup_nil, by rw [hne]; intro u hu; cases hu⟩
  obtain ⟨H, hH, hg, _⟩ := xi_zeta_network_spec X C hC xi zeta tr s ts
  rw [estimate_xi_zeta_eq]
  exact est_rule_empty hX hne hH hg

/-- **`estimate_nonMarkov_SIR_prob_size_with_timing`** with deterministic time functions -/
theorem estimate_with_timing_deterministic (X : NX) (hX : NXSpec X) (C : Contact) (hC : CWF C) (hne : C.nodes ≠ [])
    (dur : Node → ERat) (delay : Node → Node → ERat) (s : PSt) (ts : TapeSt) :
    ∃ p, GenPerc.estimate_with_timing X C (fun u v => pure (delay u v)) (fun u => pure (dur u)) s ts = .ok ((p, s), ts) ∧
      p ∈ Perc.allowed C.nodes (Perc.percolate C.nbrs fun u v => ERat.le (delay u v) (dur u)) ∧
      0 < p.1 ∧ p.1 ≤ 1 ∧ 0 < p.2 ∧ p.2 ≤ 1 := by
  obtain ⟨H, hH, hg, _⟩ := with_timing_deterministic X C hC dur delay true s ts
  obtain ⟨p, hp, hal⟩ := est_rule hX hC hne hH hg
  exact ⟨p, by rw [estimate_with_timing_eq]; exact hp, hal⟩

/-- **`estimate_nonMarkov_SIR_prob_size_with_timing`** with scripted time functions on a simple contact graph: consumes the
answers, logs the calls, and returns an admissible answer for the percolated graph of `delayOf u v ≤ durOf u` -/
theorem estimate_with_timing_scripted (X : NX) (hX : NXSpec X) (C : Contact) (hC : CWF C) (hne : C.nodes ≠ [])
    (hnb : ∀ u ∈ C.nodes, (C.nbrs u).Nodup) (answers : List (ERat × List ERat)) (hsh : Shape C.nbrs C.nodes answers)
    (rest : List ERat) (cs : Array (List Nat)) (ts : TapeSt) :
    ∃ p, GenPerc.estimate_with_timing X C (fun u v => askVal [0, u, v]) (fun u => askVal [1, u])
        ⟨answers.flatMap (fun a => a.1 :: a.2) ++ rest, cs⟩ ts =
      .ok ((p, ⟨rest, cs ++ C.nodes.flatMap (fun u => [1, u] :: (C.nbrs u).map (fun v => [0, u, v]))⟩), ts) ∧
      p ∈ Perc.allowed C.nodes (Perc.percolate C.nbrs fun u v => ERat.le (delayOf C answers u v) (durOf C answers u)) ∧
      0 < p.1 ∧ p.1 ≤ 1 ∧ 0 < p.2 ∧ p.2 ≤ 1 := by
  have hH := with_timing_script X C true answers hsh rest cs ts
  obtain ⟨p, hp, hal⟩ := est_rule hX hC hne hH (buildL_ruleGraph C hC hnb true answers hsh)
  exact ⟨p, by rw [estimate_with_timing_eq]; exact hp, hal⟩

/-- **`estimate_directed_SIR_prob_size(G, tau, gamma)`** on a tape, simple contact graph: consumes the draws of
`directed_percolate_network_tape` and returns an admissible answer for the percolated graph of the drawn times -/
theorem estimate_directed_SIR_prob_size_tape (X : NX) (hX : NXSpec X) (C : Contact) (hC : CWF C) (hne : C.nodes ≠ [])
    (hnb : ∀ u ∈ C.nodes, (C.nbrs u).Nodup) (tau gamma : Rat) (answers : List (ERat × List ERat))
    (hsh : Shape C.nbrs C.nodes answers) (hok : ∀ a ∈ answers, OkAns gamma a.1 ∧ ∀ t ∈ a.2, OkAns tau t)
    (s : PSt) (rest : List Draw) (tr : Array Call) :
    ∃ p, GenPerc.estimate_directed_SIR_prob_size X C tau gamma s
        ⟨answers.flatMap (fun a => drawOf a.1 ++ a.2.flatMap drawOf) ++ rest, tr⟩ =
      .ok ((p, s), ⟨rest, tr ++ answers.flatMap (fun a => callOf gamma a.1 ++ a.2.flatMap (callOf tau))⟩) ∧
      p ∈ Perc.allowed C.nodes (Perc.percolate C.nbrs fun u v => ERat.le (delayOf C answers u v) (durOf C answers u)) ∧
      0 < p.1 ∧ p.1 ≤ 1 ∧ 0 < p.2 ∧ p.2 ≤ 1 := by
  have hH := directed_tape X C tau gamma true answers hsh hok s rest tr
  obtain ⟨p, hp, hal⟩ := est_rule hX hC hne hH (buildL_ruleGraph C hC hnb true answers hsh)
  exact ⟨p, by rw [estimate_directed_eq]; exact hp, hal⟩

/-- without the simplicity hypothesis: an admissible answer for the built digraph itself -/
theorem estimate_directed_SIR_prob_size_tape_general (X : NX) (hX : NXSpec X) (C : Contact) (hne : C.nodes ≠ [])
    (tau gamma : Rat) (answers : List (ERat × List ERat))
    (hsh : Shape C.nbrs C.nodes answers) (hok : ∀ a ∈ answers, OkAns gamma a.1 ∧ ∀ t ∈ a.2, OkAns tau t)
    (s : PSt) (rest : List Draw) (tr : Array Call) :
    ∃ p, GenPerc.estimate_directed_SIR_prob_size X C tau gamma s
        ⟨answers.flatMap (fun a => drawOf a.1 ++ a.2.flatMap drawOf) ++ rest, tr⟩ =
      .ok ((p, s), ⟨rest, tr ++ answers.flatMap (fun a => callOf gamma a.1 ++ a.2.flatMap (callOf tau))⟩) ∧
      p ∈ Perc.allowed (buildL true C answers).nodeList (buildL true C answers).succ ∧
      0 < p.1 ∧ p.1 ≤ 1 ∧ 0 < p.2 ∧ p.2 ≤ 1 := by
  have hH := directed_tape X C tau gamma true answers hsh hok s rest tr
  have hwf := buildL_hwf true C answers
  obtain ⟨u, hu⟩ := List.exists_mem_of_ne_nil _ hne
  obtain ⟨p, hp, hrest⟩ := estimate_after_builder X _ _ _ _ _ _ hH (hX _ hwf) hwf
    (nodes_ne_nil (buildL_mem true C answers hsh u hu))
  exact ⟨p, by rw [estimate_directed_eq]; exact hp, hrest⟩

example : val (GenPerc.estimate_xi_zeta (mkNX none) exC (fun u => u) (fun v => v) (fun x z => decide (x + z ≥ 3)) s0 t0) =
    .ok (3 / 4, 3 / 4) := by decide +kernel
example : val (GenPerc.estimate_directed_SIR_prob_size (mkNX none) exC 1 (1/2) s0 ⟨exTape, #[]⟩) = .ok (3 / 4, 1) := by
  decide +kernel
example : val (GenPerc.estimate_with_timing (mkNX none) exC (fun u v => askVal [0, u, v]) (fun u => askVal [1, u])
      ⟨[some 2, some 1, some 3, some 2, some 3, some 1, some 2, some 3, some 1, some 1, some 2, some 3], #[]⟩ t0) =
    .ok (3 / 4, 1) := by decide +kernel
example : val (GenPerc.estimate_xi_zeta (mkNX none) { nodes := [], nbrs := fun _ => [], edges := [] } (fun u => u) (fun v => v)
    (fun _ _ => true) s0 t0) = .error "ValueError" := by decide +kernel

/-! ### `estimate_SIR_prob_size` (bond percolation) -/

/-- **`estimate_SIR_prob_size(G, p)`** on a tape with one uniform per contact edge (`rs`): `percolate_network` keeps the
edges whose draw is `< p` (`GenDiscrete.keptBy`, see `C12c.percolate_network_tape`), and — `nx.connected_components`
meaning what `CCSpec` says on the kept-edge graph — both outputs are
`(size of the largest connected component of the kept-edge graph) / N`, where the size is `maxCC`: the largest
`|Perc.outC|` over the nodes, for the symmetric neighbour function `usucc` of the kept edges.  The script is untouched,
exactly the `|E|` uniforms are consumed and logged. -/
theorem estimate_SIR_prob_size_tape (X : NX) (C : Contact) (p : Rat) (rs : List Rat) (hl : rs.length = C.edges.length)
    (hX : CCSpec X C.nodes (GenDiscrete.keptBy p C.edges rs)) (hnd : C.nodes.Nodup) (hne : C.nodes ≠ [])
    (s : PSt) (rest : List Draw) (tr : Array Call) :
    ∃ x : Rat, x = ((C.nodes.map fun u => (Perc.outC C.nodes (usucc (GenDiscrete.keptBy p C.edges rs)) u).length).foldl max 0 : Nat)
        / (C.nodes.length : Rat) ∧
      GenDiscrete.keptBy p C.edges rs = ((C.edges.zip rs).filter fun e => decide (e.2 < p)).map (·.1) ∧
      GenPerc.estimate_SIR_prob_size X C p s ⟨rs.map Draw.unif ++ rest, tr⟩ =
        .ok (((x, x), s), ⟨rest, tr ++ List.replicate C.edges.length Call.unif⟩) :=
  ⟨_, rfl, GenDiscrete.keptBy_eq_zip p C.edges rs, estimate_SIR_run X C p rs hl hX hnd hne s rest tr⟩

/-- the empty graph: `max()` of an empty sequence raises `ValueError` -/
theorem estimate_SIR_prob_size_empty (X : NX) (C : Contact) (p : Rat) (rs : List Rat) (hl : rs.length = C.edges.length)
    (hX : CCSpec X C.nodes (GenDiscrete.keptBy p C.edges rs)) (hne : C.nodes = [])
    (s : PSt) (rest : List Draw) (tr : Array Call) :
    GenPerc.estimate_SIR_prob_size X C p s ⟨rs.map Draw.unif ++ rest, tr⟩ = .error "ValueError" :=
  estimate_SIR_empty X C p rs hl hX hne s rest tr

/-- `CCSpec` is satisfiable: the driver's instance meets it on every graph with distinct nodes and edges between nodes -/
theorem ccSpec_satisfiable (nodes : List Node) (edges : List (Node × Node)) (hnd : nodes.Nodup)
    (he : ∀ e ∈ edges, e.1 ∈ nodes ∧ e.2 ∈ nodes) : CCSpec (mkNX none) nodes edges :=
  mkNX_ccs_spec none nodes edges hnd he

/-- `p = 1/2`, draws 1/4, 3/4, 3/4, 1/4 on the edges 0–1, 0–2, 1–2, 2–3: the edges 0–1 and 2–3 are kept -/
example : val (GenPerc.estimate_SIR_prob_size (mkNX none) exC (1/2) s0 ⟨[.unif (1/4), .unif (3/4), .unif (3/4), .unif (1/4)], #[]⟩) =
    .ok (1 / 2, 1 / 2) := by decide +kernel
example : CCSpec (mkNX none) exC.nodes (GenDiscrete.keptBy (1/2) exC.edges [1/4, 3/4, 3/4, 1/4]) :=
  mkNX_ccs_spec none _ _ (by decide) (by decide +kernel)
example : val (GenPerc.estimate_SIR_prob_size (mkNX none) { nodes := [], nbrs := fun _ => [], edges := [] } (1/2) s0 t0) =
    .error "ValueError" := by decide +kernel

/-! ## 6. `get_infected_nodes` -/

/-- **normalisation of the two optional arguments** (`normSrc`: a node of `G` becomes `{node}`, an iterable `set(iterable)`,
a single value that is not a node of `G` is handed to `set()` and raises `TypeError`; `initial_recovereds=None` is the empty
set): what `normSrc` / `normOpt` compute -/
theorem normalisation (C : Contact) :
    (∀ u, C.nodes.contains u = true → normSrc C (Sum.inl u) = .ok [u]) ∧
    (∀ u, C.nodes.contains u = false → normSrc C (Sum.inl u) = .error "TypeError") ∧
    (∀ l, normSrc C (Sum.inr l) = .ok (PyDM.setOf l)) ∧
    normOpt C none = .ok [] ∧ (∀ x, normOpt C (some x) = normSrc C x) := by
  refine ⟨fun u h => ?_, fun u h => ?_, fun l => rfl, rfl, fun x => rfl⟩
  · show (if C.nodes.contains u then _ else _) = _
    rw [h]; rfl
  · show (if C.nodes.contains u then _ else _) = _
    rw [h]; rfl

/-- **by unfolding**: with `initial_infecteds` given, the run normalises `initial_recovereds`, then `initial_infecteds`,
raises `EoNError` if the two sets intersect, and otherwise builds the percolated digraph (`directed_percolate_network`
with `weights=True`), removes the recovered nodes and returns the out-component of the infected set -/
theorem get_infected_nodes_unfold (X : NX) (C : Contact) (tau gamma : Rat) (i : Src) (o : Option Src) :
    GenPerc.get_infected_nodes X C tau gamma (some i) o = (do
      let recs ← PyPM.liftE (normOpt C o)
      let infs ← PyPM.liftE (normSrc C i)
      if (!(inter infs recs).isEmpty) then PyPM.fail "EoNError" else do
        let H ← GenPerc.directed_percolate_network X C tau gamma true
        let H ← (X.iter recs).foldlM (fun acc node => PyPM.liftE (acc.removeNode node)) H
        GenPerc.out_component X H (Sum.inr infs)) :=
  get_infected_given X C tau gamma i o

/-- the default `initial_infecteds=None`: a node drawn by `random.choice(G.nodes())` until it is not initially recovered -/
theorem get_infected_nodes_unfold_default (X : NX) (C : Contact) (tau gamma : Rat) (o : Option Src) :
    GenPerc.get_infected_nodes X C tau gamma none o = (do
      let recs ← PyPM.liftE (normOpt C o)
      let node ← GenPerc.get_infected_nodes.draw_node C recs 10000
      if (!(inter [node] recs).isEmpty) then PyPM.fail "EoNError" else do
        let H ← GenPerc.directed_percolate_network X C tau gamma true
        let H ← (X.iter recs).foldlM (fun acc node => PyPM.liftE (acc.removeNode node)) H
        GenPerc.out_component X H (Sum.inr [node])) :=
  get_infected_default X C tau gamma o

/-- an error of the normalisation (by `normalisation`: `TypeError`, a single value that is not a node of `G`) is the error of
the run, whatever script and tape; `initial_recovereds` is normalised first -/
theorem get_infected_nodes_type_error (X : NX) (C : Contact) (tau gamma : Rat) (i : Src) (o : Option Src) (e : String)
    (h : normOpt C o = .error e ∨ ((∃ recs, normOpt C o = .ok recs) ∧ normSrc C i = .error e))
    (s : PSt) (ts : TapeSt) :
    GenPerc.get_infected_nodes X C tau gamma (some i) o s ts = .error e := by
  rw [get_infected_given]
  rcases h with he | ⟨⟨recs, hr⟩, he⟩
  · rw [he]; rfl
  · rw [hr, he]; rfl

/-- **`EoNError`**: the normalised sets intersect — whatever script and tape -/
theorem get_infected_nodes_overlap (X : NX) (C : Contact) (tau gamma : Rat) (i : Src) (o : Option Src)
    (infs recs : List Node) (hi : normSrc C i = .ok infs) (hr : normOpt C o = .ok recs) (h : ∃ u ∈ infs, u ∈ recs)
    (s : PSt) (ts : TapeSt) :
    GenPerc.get_infected_nodes X C tau gamma (some i) o s ts = .error "EoNError" := by
  rw [get_infected_given, hi, hr]
  simp only [liftE_ok, pure_bind]
  rw [infectedBody_overlap X C tau gamma infs recs h]; rfl

/-- **the infected set**.  `initial_infecteds` given; the normalised sets `infs`, `recs` are disjoint sets of nodes of `G`;
the tape carries the draws of `directed_percolate_network` (`answers`, as in `directed_percolate_network_tape`).  Then the
run succeeds, leaves the script alone, consumes and logs exactly those draws, and returns a duplicate-free list of exactly
the nodes reachable from `infs` in the percolated digraph along paths that avoid `recs` (`succAvoid`: the successors not in
`recs`). -/
theorem get_infected_nodes_run (X : NX) (hX : NXSpec X) (C : Contact) (tau gamma : Rat) (i : Src) (o : Option Src)
    (infs recs : List Node) (hi : normSrc C i = .ok infs) (hr : normOpt C o = .ok recs)
    (hdisj : ∀ u ∈ infs, u ∉ recs) (hrc : ∀ u ∈ recs, u ∈ C.nodes) (hic : ∀ u ∈ infs, u ∈ C.nodes)
    (answers : List (ERat × List ERat)) (hsh : Shape C.nbrs C.nodes answers)
    (hok : ∀ a ∈ answers, OkAns gamma a.1 ∧ ∀ t ∈ a.2, OkAns tau t) (s : PSt) (rest : List Draw) (tr : Array Call) :
    ∃ res, GenPerc.get_infected_nodes X C tau gamma (some i) o s
        ⟨answers.flatMap (fun a => drawOf a.1 ++ a.2.flatMap drawOf) ++ rest, tr⟩ =
      .ok ((res, s), ⟨rest, tr ++ answers.flatMap (fun a => callOf gamma a.1 ++ a.2.flatMap (callOf tau))⟩) ∧
      res.Nodup ∧
      ∀ v, v ∈ res ↔ ∃ u ∈ infs, Perc.Path (fun x => ((buildL true C answers).succ x).filter fun y => !recs.contains y) u v := by
  obtain ⟨res, h1, h2, h3⟩ := infectedBody_tape X hX C tau gamma infs recs hdisj (normOpt_nodup hr) hrc hic answers hsh hok
    s rest tr
  refine ⟨res, ?_, h2, h3⟩
  rw [get_infected_given, hi, hr]
  simp only [liftE_ok, pure_bind]
  exact h1

/-- on a simple contact graph the percolated digraph's successors are the hand model's `Perc.percolate` with the rule
`delayOf u v ≤ durOf u`: the infected set is the set of nodes reachable from `infs` in the kept-edge digraph
(the rule `EventSIR.keeps` of Model/EventSIR.lean: `delay u v ≤ dur u`) along paths avoiding `recs` -/
theorem get_infected_nodes_run_simple (X : NX) (hX : NXSpec X) (C : Contact) (hC : CWF C)
    (hnb : ∀ u ∈ C.nodes, (C.nbrs u).Nodup) (tau gamma : Rat) (i : Src) (o : Option Src)
    (infs recs : List Node) (hi : normSrc C i = .ok infs) (hr : normOpt C o = .ok recs)
    (hdisj : ∀ u ∈ infs, u ∉ recs) (hrc : ∀ u ∈ recs, u ∈ C.nodes) (hic : ∀ u ∈ infs, u ∈ C.nodes)
    (answers : List (ERat × List ERat)) (hsh : Shape C.nbrs C.nodes answers)
    (hok : ∀ a ∈ answers, OkAns gamma a.1 ∧ ∀ t ∈ a.2, OkAns tau t) (s : PSt) (rest : List Draw) (tr : Array Call) :
    ∃ res, GenPerc.get_infected_nodes X C tau gamma (some i) o s
        ⟨answers.flatMap (fun a => drawOf a.1 ++ a.2.flatMap drawOf) ++ rest, tr⟩ =
      .ok ((res, s), ⟨rest, tr ++ answers.flatMap (fun a => callOf gamma a.1 ++ a.2.flatMap (callOf tau))⟩) ∧
      res.Nodup ∧
      ∀ v, v ∈ res ↔ ∃ u ∈ infs, Perc.Path (fun x => (Perc.percolate C.nbrs
        (fun u v => ERat.le (delayOf C answers u v) (durOf C answers u)) x).filter fun y => !recs.contains y) u v := by
  obtain ⟨res, h1, h2, h3⟩ := get_infected_nodes_run X hX C tau gamma i o infs recs hi hr hdisj hrc hic answers hsh hok
    s rest tr
  refine ⟨res, h1, h2, fun v => ?_⟩
  rw [h3]
  have hg := buildL_ruleGraph C hC hnb true answers hsh
  have hstep : ∀ x ∈ C.nodes, ∀ y, y ∈ ((buildL true C answers).succ x).filter (fun y => !recs.contains y) ↔
      y ∈ (Perc.percolate C.nbrs (fun u v => ERat.le (delayOf C answers u v) (durOf C answers u)) x).filter
        (fun y => !recs.contains y) := by
    intro x hx y
    rw [List.mem_filter, List.mem_filter, hg.succ]
    exact ⟨fun h => ⟨h.1.2, h.2⟩, fun h => ⟨⟨hx, h.1⟩, h.2⟩⟩
  have hwf2 := hC.wf_percolate (fun u v => ERat.le (delayOf C answers u v) (durOf C answers u))
  exact exists_congr fun u => and_congr_right fun hu =>
    Perc.Path.congr (S := fun x => x ∈ C.nodes) (fun x hx y hy => hwf2.succ_mem x hx y (List.mem_filter.1 hy).1) hstep
      (hic u hu) v

/-- **the default draw**: the tape starts with `random.choice` indices pointing at initially recovered nodes (fewer than the
fuel 10000 of the translated `while` loop), then one pointing at a node `y` outside; `y` is the initial infection, exactly
these choices are consumed and logged (each with the full node list), and the run continues as `get_infected_nodes_run`
with `infs = [y]` -/
theorem get_infected_nodes_default_run (X : NX) (hX : NXSpec X) (C : Contact) (tau gamma : Rat) (o : Option Src)
    (recs : List Node) (hr : normOpt C o = .ok recs) (hrc : ∀ u ∈ recs, u ∈ C.nodes)
    (is : List Nat) (his : is.length < 10000) (hrec : ∀ k ∈ is, ∃ x ∈ recs, C.nodes[k]? = some x)
    (j : Nat) (y : Node) (hj : C.nodes[j]? = some y) (hy : y ∉ recs)
    (answers : List (ERat × List ERat)) (hsh : Shape C.nbrs C.nodes answers)
    (hok : ∀ a ∈ answers, OkAns gamma a.1 ∧ ∀ t ∈ a.2, OkAns tau t) (s : PSt) (rest : List Draw) (tr : Array Call) :
    ∃ res, GenPerc.get_infected_nodes X C tau gamma none o s
        ⟨is.map Draw.choice ++ Draw.choice j ::
          (answers.flatMap (fun a => drawOf a.1 ++ a.2.flatMap drawOf) ++ rest), tr⟩ =
      .ok ((res, s), ⟨rest, tr ++ List.replicate (is.length + 1) (Call.choice (C.nodes.map PyTM.encNode)) ++
        answers.flatMap (fun a => callOf gamma a.1 ++ a.2.flatMap (callOf tau))⟩) ∧
      res.Nodup ∧
      ∀ v, v ∈ res ↔ Perc.Path (fun x => ((buildL true C answers).succ x).filter fun z => !recs.contains z) y v := by
  have hyn : y ∈ C.nodes := List.mem_of_getElem? hj
  obtain ⟨res, h1, h2, h3⟩ := infectedBody_tape X hX C tau gamma [y] recs
    (fun u hu => by rw [List.mem_singleton.1 hu]; exact hy) (normOpt_nodup hr) hrc
    (fun u hu => by rw [List.mem_singleton.1 hu]; exact hyn) answers hsh hok s rest
    (tr ++ List.replicate (is.length + 1) (Call.choice (C.nodes.map PyTM.encNode)))
  refine ⟨res, ?_, h2, fun v => by rw [h3]; simp only [List.mem_singleton, exists_eq_left]; rfl⟩
  rw [get_infected_default, hr]
  simp only [liftE_ok, pure_bind]
  have hd := draw_node_takes C recs j y hj hy s is 10000 his hrec
    (answers.flatMap (fun a => drawOf a.1 ++ a.2.flatMap drawOf) ++ rest) tr
  rw [List.append_assoc, List.singleton_append] at hd
  rw [TM.st_bind_ok hd]
  exact h1

/-! the percolated digraph of `exTape` is 0→1→2→0, 2→3 -/
example : val (GenPerc.get_infected_nodes (mkNX none) exC 1 (1/2) (some (Sum.inl 0)) none s0 ⟨exTape, #[]⟩) =
    .ok [0, 1, 2, 3] := by decide +kernel
example : val (GenPerc.get_infected_nodes (mkNX none) exC 1 (1/2) (some (Sum.inr [0, 0])) (some (Sum.inl 2)) s0 ⟨exTape, #[]⟩) =
    .ok [0, 1] := by decide +kernel
example : val (GenPerc.get_infected_nodes (mkNX none) exC 1 (1/2) (some (Sum.inl 3)) (some (Sum.inr [1])) s0 ⟨exTape, #[]⟩) =
    .ok [3] := by decide +kernel
example : val (GenPerc.get_infected_nodes (mkNX none) exC 1 (1/2) (some (Sum.inr [0, 1])) (some (Sum.inl 1)) s0 ⟨exTape, #[]⟩) =
    .error "EoNError" := by decide +kernel
example : val (GenPerc.get_infected_nodes (mkNX none) exC 1 (1/2) (some (Sum.inl 7)) none s0 ⟨exTape, #[]⟩) =
    .error "TypeError" := by decide +kernel
example : val (GenPerc.get_infected_nodes (mkNX none) exC 1 (1/2) (some (Sum.inr [7])) none s0 ⟨exTape, #[]⟩) =
    .error "NetworkXError" := by decide +kernel
/-- default draw: index 2 hits the recovered node 2, index 1 is accepted; from 1 only 1 is reachable once 2 is removed -/
example : (GenPerc.get_infected_nodes (mkNX none) exC 1 (1/2) none (some (Sum.inl 2)) s0
      ⟨.choice 2 :: .choice 1 :: exTape, #[]⟩).map (fun x => (x.1.1, x.2.tape, x.2.trace.toList.take 2)) =
    .ok ([1], [.unif 0], [.choice [[0], [1], [2], [3]], .choice [[0], [1], [2], [3]]]) := by decide +kernel

/-! ## 7. the hypotheses are met: the main theorems instantiated on closed data -/

example : HWF exH := exH_wf
example : CWF exC ∧ ∀ u ∈ exC.nodes, (exC.nbrs u).Nodup := ⟨exC_wf, exC_nbrs_nodup⟩
example : Shape exC.nbrs exC.nodes exAnswers ∧ (∀ a ∈ exAnswers, OkAns (1/2) a.1 ∧ ∀ t ∈ a.2, OkAns 1 t) ∧
    exAnswers.flatMap (fun a => drawOf a.1 ++ a.2.flatMap drawOf) ++ [.unif 0] = exTape :=
  ⟨exAnswers_shape, exAnswers_ok, by decide +kernel⟩

/-- `estimate_from_dir_perc_allowed` on the 3-cycle with a pendant edge -/
example : ∃ p, GenPerc.estimate_from_dir_perc (mkNX none) exH s0 t0 = .ok ((p, s0), t0) ∧
    p ∈ Perc.allowed exH.nodeList exH.succ := by
  obtain ⟨p, h1, h2, _⟩ := estimate_from_dir_perc_allowed (mkNX none) exH (mkNX_spec exH exH_wf) exH_wf.nodup
    (by decide) s0 t0
  exact ⟨p, h1, h2⟩

example : ∃ p, GenPerc.estimate_xi_zeta (mkNX none) exC (fun u => u) (fun v => v) (fun x z => decide (x + z ≥ 3)) s0 t0 =
      .ok ((p, s0), t0) ∧
    p ∈ Perc.allowed exC.nodes (Perc.percolate exC.nbrs fun u v => decide ((u : Rat) + (v : Rat) ≥ 3)) := by
  obtain ⟨p, h1, h2, _⟩ := estimate_xi_zeta_allowed (mkNX none) nxSpec_satisfiable exC exC_wf (by decide)
    (fun u => u) (fun v => v) (fun x z => decide (x + z ≥ 3)) s0 t0
  exact ⟨p, h1, h2⟩

example : ∃ p, GenPerc.estimate_directed_SIR_prob_size (mkNX none) exC 1 (1/2) s0
      ⟨exAnswers.flatMap (fun a => drawOf a.1 ++ a.2.flatMap drawOf) ++ [.unif 0], #[]⟩ =
      .ok ((p, s0), ⟨[.unif 0], (#[] : Array Call) ++ exAnswers.flatMap (fun a => callOf (1/2) a.1 ++ a.2.flatMap (callOf 1))⟩) ∧
    p ∈ Perc.allowed exC.nodes
      (Perc.percolate exC.nbrs fun u v => ERat.le (delayOf exC exAnswers u v) (durOf exC exAnswers u)) := by
  obtain ⟨p, h1, h2, _⟩ := estimate_directed_SIR_prob_size_tape (mkNX none) nxSpec_satisfiable exC exC_wf (by decide)
    exC_nbrs_nodup 1 (1/2) exAnswers exAnswers_shape exAnswers_ok s0 [.unif 0] #[]
  exact ⟨p, h1, h2⟩

/-- `get_infected_nodes_run`: node 0 infected, node 2 recovered -/
example : ∃ res, GenPerc.get_infected_nodes (mkNX none) exC 1 (1/2) (some (Sum.inl 0)) (some (Sum.inl 2)) s0
      ⟨exAnswers.flatMap (fun a => drawOf a.1 ++ a.2.flatMap drawOf) ++ [.unif 0], #[]⟩ =
      .ok ((res, s0), ⟨[.unif 0], (#[] : Array Call) ++ exAnswers.flatMap (fun a => callOf (1/2) a.1 ++ a.2.flatMap (callOf 1))⟩) ∧
    res.Nodup := by
  obtain ⟨res, h1, h2, _⟩ := get_infected_nodes_run (mkNX none) nxSpec_satisfiable exC 1 (1/2) (Sum.inl 0)
    (some (Sum.inl 2)) [0] [2] (by decide) (by decide) (by decide) (by decide) (by decide)
    exAnswers exAnswers_shape exAnswers_ok s0 [.unif 0] #[]
  exact ⟨res, h1, h2⟩

end C17c

#print axioms C17c.nxSpec_clauses
#print axioms C17c.nxSpec_satisfiable
#print axioms C17c.nxSpecAt_satisfiable
#print axioms C17c.built_digraphs_wf
#print axioms C17c.out_component_node
#print axioms C17c.in_component_node
#print axioms C17c.out_component_list
#print axioms C17c.in_component_list
#print axioms C17c.out_component_absent
#print axioms C17c.in_component_absent
#print axioms C17c.out_component_list_absent
#print axioms C17c.in_component_list_absent
#print axioms C17c.estimate_from_dir_perc_allowed
#print axioms C17c.estimate_from_dir_perc_empty
#print axioms C17c.estimate_from_dir_perc_bounds
#print axioms C17c.estimate_from_dir_perc_indep
#print axioms C17c.estimate_from_dir_perc_unique
#print axioms C17c.ruleGraph_clauses
#print axioms C17c.with_timing_deterministic
#print axioms C17c.with_timing_weights
#print axioms C17c.xi_zeta_network_spec
#print axioms C17c.with_timing_scripted
#print axioms C17c.positional_digraph
#print axioms C17c.with_timing_scripted_long
#print axioms C17c.directed_percolate_network_unfold
#print axioms C17c.directed_percolate_network_tape
#print axioms C17c.directed_percolate_network_tape_pos
#print axioms C17c.directed_percolate_network_no_rates
#print axioms C17c.estimate_with_timing_unfold
#print axioms C17c.estimate_xi_zeta_unfold
#print axioms C17c.estimate_directed_SIR_prob_size_unfold
#print axioms C17c.estimate_after_builder
#print axioms C17c.estimate_xi_zeta_allowed
#print axioms C17c.estimate_xi_zeta_empty
#print axioms C17c.estimate_with_timing_deterministic
#print axioms C17c.estimate_with_timing_scripted
#print axioms C17c.estimate_directed_SIR_prob_size_tape
#print axioms C17c.estimate_directed_SIR_prob_size_tape_general
#print axioms C17c.estimate_SIR_prob_size_tape
#print axioms C17c.estimate_SIR_prob_size_empty
#print axioms C17c.ccSpec_satisfiable
#print axioms C17c.normalisation
#print axioms C17c.get_infected_nodes_unfold
#print axioms C17c.get_infected_nodes_unfold_default
#print axioms C17c.get_infected_nodes_type_error
#print axioms C17c.get_infected_nodes_overlap
#print axioms C17c.get_infected_nodes_run
#print axioms C17c.get_infected_nodes_run_simple
#print axioms C17c.get_infected_nodes_default_run
