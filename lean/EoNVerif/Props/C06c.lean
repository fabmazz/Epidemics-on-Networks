import EoNVerif.Proofs.GenInitCond
/-!
C06c — the code GENERATED from the initial-condition builders of `EoN/analytic.py` (`Gen/InitCondGen.lean`:
`_initialize_node_status_`, `_count_edge_types_`, `_get_Nk_and_IC_as_arrays_`) computes the closed forms of the
hand-written model (`Model/InitCond.lean`) against which the real ODE wrappers are compared in C06.

`GraphOK A adj` (Proofs/GenInitCond.lean) ties the graph as read by the generated code (node list, edge list with every
undirected edge once, `degree`, `has_node`) to the adjacency lists of the model.  `vec M f = [f 0, …, f M]`.
-/
namespace C06c
open GenInit InitCond GenInitProofs

/-! ## 1. `_initialize_node_status_` -/

/-- disjoint initial sets inside the graph: the generated status map is `statusOf` (as functions) -/
theorem gen_status_eq (A : IArgs) (adj : List (List Nat)) (hN : ∀ u, A.hasNode u = true ↔ u < adj.length)
    (infs recs : List Node) (hd : ∀ u ∈ infs, u ∉ recs)
    (hi : ∀ u ∈ infs, u < adj.length) (hr : ∀ u ∈ recs, u < adj.length) :
    initialize_node_status A infs recs = .ok (statusOf infs recs) := by
  rw [init_eq, if_pos ⟨hd, fun u hu => (hN u).mpr (hi u hu), fun u hu => (hN u).mpr (hr u hu)⟩]

/-- a node listed as both infected and recovered: `EoNError` -/
theorem gen_status_error_overlap (A : IArgs) (infs recs : List Node) (u : Node) (hu : u ∈ infs) (hu' : u ∈ recs) :
    initialize_node_status A infs recs = .error "EoNError" := by
  rw [init_eq, if_neg fun h => h.1 u hu hu']

/-- some listed node is not in the graph: `EoNError` (whether or not the lists are disjoint: `hd` is not used) -/
theorem gen_status_error_foreign (A : IArgs) (adj : List (List Nat)) (hN : ∀ u, A.hasNode u = true ↔ u < adj.length)
    (infs recs : List Node) (hd : ∀ u ∈ infs, u ∉ recs) (u : Node) (hu : u ∈ infs ∨ u ∈ recs) (hf : adj.length ≤ u) :
    initialize_node_status A infs recs = .error "EoNError" := by
  rw [init_eq, if_neg fun h => Nat.not_lt.mpr hf ((hN u).mp (hu.elim (h.2.1 u) (h.2.2 u)))]

/-- so the builder succeeds exactly on disjoint lists of graph nodes -/
theorem gen_status_ok_iff (A : IArgs) (adj : List (List Nat)) (hN : ∀ u, A.hasNode u = true ↔ u < adj.length)
    (infs recs : List Node) :
    (∃ st, initialize_node_status A infs recs = .ok st) ↔
      (∀ u ∈ infs, u ∉ recs) ∧ (∀ u ∈ infs, u < adj.length) ∧ (∀ u ∈ recs, u < adj.length) := by
  rw [init_eq]
  simp only [← hN]
  split
  · next h => exact ⟨fun _ => h, fun _ => ⟨_, rfl⟩⟩
  · next h => exact ⟨fun h0 => (by obtain ⟨_, e⟩ := h0; cases e), fun h' => absurd h' h⟩

/-! ## 2. `_count_edge_types_` -/

/-- (SS0, SI0, II0) are the ordered-neighbour-pair counts of the closed-form model -/
theorem gen_count_edges_eq (A : IArgs) (adj : List (List Nat)) (hG : GraphOK A adj)
    (infs recs : List Node) (hd : ∀ u ∈ infs, u ∉ recs)
    (hi : ∀ u ∈ infs, u < adj.length) (hr : ∀ u ∈ recs, u < adj.length) :
    count_edge_types A infs recs =
      .ok ((pairCount adj (statusOf infs recs) St.S St.S : Int),
           (pairCount adj (statusOf infs recs) St.S St.I : Int),
           (pairCount adj (statusOf infs recs) St.I St.I : Int)) :=
  count_ok A adj hG infs recs _ (gen_status_eq A adj hG.hasNode infs recs hd hi hr)

/-- the combinatorial bridge used for 2: ordered-pair counts are edge-list counts in both
orientations -/
theorem gen_pairs_from_edges (A : IArgs) (adj : List (List Nat)) (hG : GraphOK A adj) (st : Nat → St) (x y : St) :
    pairCount adj st x y =
      (A.edges.filter (fun e => st e.1 = x ∧ st e.2 = y)).length +
      (A.edges.filter (fun e => st e.1 = y ∧ st e.2 = x)).length :=
  pairCount_eq_edges A adj hG st x y

/-- the error of the status builder propagates -/
theorem gen_count_edges_error (A : IArgs) (infs recs : List Node) (e : String)
    (h : initialize_node_status A infs recs = .error e) : count_edge_types A infs recs = .error e := by
  rw [count_unfold, h]; rfl

/-! ## 3. `_get_Nk_and_IC_as_arrays_` -/

theorem gen_Nk_eq (A : IArgs) (adj : List (List Nat)) (hG : GraphOK A adj) :
    (degree_hist A).length = maxDeg adj + 1 ∧
    ∀ k, k ≤ maxDeg adj → (degree_hist A)[k]? = some (Nk adj k : Rat) := by
  rw [degree_hist_eq A adj hG]
  refine ⟨vec_length _ _, ?_⟩
  intro k hk
  rw [vec_getElem?, if_pos hk]

theorem gen_sets_eq_vec (A : IArgs) (adj : List (List Nat)) (hG : GraphOK A adj)
    (infs recs : List Node) (hd : ∀ u ∈ infs, u ∉ recs)
    (hi : ∀ u ∈ infs, u < adj.length) (hr : ∀ u ∈ recs, u < adj.length) :
    get_Nk_and_IC_sets A infs recs =
      .ok (vec (maxDeg adj) (fun k => (Nk adj k : Rat)),
           vec (maxDeg adj) (fun k => (classCount adj (statusOf infs recs) St.S k : Rat)),
           vec (maxDeg adj) (fun k => (classCount adj (statusOf infs recs) St.I k : Rat)),
           vec (maxDeg adj) (fun k => (classCount adj (statusOf infs recs) St.R k : Rat))) :=
  sets_ok A adj hG infs recs _ (gen_status_eq A adj hG.hasNode infs recs hd hi hr)

/-- no `IndexError` from `vecAdd`; all four arrays have length `maxDeg + 1`; entries are the degree-class counts -/
theorem gen_sets_eq (A : IArgs) (adj : List (List Nat)) (hG : GraphOK A adj)
    (infs recs : List Node) (hd : ∀ u ∈ infs, u ∉ recs)
    (hi : ∀ u ∈ infs, u < adj.length) (hr : ∀ u ∈ recs, u < adj.length) :
    ∃ Nk' Sk0 Ik0 Rk0, get_Nk_and_IC_sets A infs recs = .ok (Nk', Sk0, Ik0, Rk0) ∧
      Nk'.length = maxDeg adj + 1 ∧ Sk0.length = maxDeg adj + 1 ∧
      Ik0.length = maxDeg adj + 1 ∧ Rk0.length = maxDeg adj + 1 ∧
      ∀ k, k ≤ maxDeg adj →
        Nk'[k]? = some (Nk adj k : Rat) ∧
        Sk0[k]? = some (classCount adj (statusOf infs recs) St.S k : Rat) ∧
        Ik0[k]? = some (classCount adj (statusOf infs recs) St.I k : Rat) ∧
        Rk0[k]? = some (classCount adj (statusOf infs recs) St.R k : Rat) := by
  refine ⟨_, _, _, _, gen_sets_eq_vec A adj hG infs recs hd hi hr, vec_length _ _, vec_length _ _, vec_length _ _,
    vec_length _ _, ?_⟩
  intro k hk
  simp only [vec_getElem?, if_pos hk, and_self]

theorem gen_sets_error (A : IArgs) (infs recs : List Node) (e : String)
    (h : initialize_node_status A infs recs = .error e) : get_Nk_and_IC_sets A infs recs = .error e := by
  rw [sets_unfold, h]; rfl

theorem gen_rho_eq_vec (A : IArgs) (adj : List (List Nat)) (hG : GraphOK A adj) (rho : Rat) :
    get_Nk_and_IC_rho A rho =
      (vec (maxDeg adj) (fun k => (Nk adj k : Rat)), vec (maxDeg adj) (fun k => rhoSk adj rho k),
       vec (maxDeg adj) (fun k => rhoIk adj rho k), vec (maxDeg adj) (fun _ => 0)) :=
  rho_ok A adj hG rho

theorem gen_rho_eq (A : IArgs) (adj : List (List Nat)) (hG : GraphOK A adj) (rho : Rat) :
    ∃ Nk' Sk0 Ik0 Rk0, get_Nk_and_IC_rho A rho = (Nk', Sk0, Ik0, Rk0) ∧
      Nk'.length = maxDeg adj + 1 ∧ Sk0.length = maxDeg adj + 1 ∧
      Ik0.length = maxDeg adj + 1 ∧ Rk0.length = maxDeg adj + 1 ∧
      ∀ k, k ≤ maxDeg adj →
        Nk'[k]? = some (Nk adj k : Rat) ∧ Sk0[k]? = some (rhoSk adj rho k) ∧
        Ik0[k]? = some (rhoIk adj rho k) ∧ Rk0[k]? = some 0 := by
  refine ⟨_, _, _, _, gen_rho_eq_vec A adj hG rho, vec_length _ _, vec_length _ _, vec_length _ _,
    vec_length _ _, ?_⟩
  intro k hk
  simp only [vec_getElem?, if_pos hk, and_self]

/-! ## 4. totals -/

/-- every node is in exactly one class: Σ_k Sk0[k] + Ik0[k] + Rk0[k] = N, and Σ_k Nk[k] = N -/
theorem gen_sets_total (A : IArgs) (adj : List (List Nat)) (hG : GraphOK A adj)
    (infs recs : List Node) (hd : ∀ u ∈ infs, u ∉ recs)
    (hi : ∀ u ∈ infs, u < adj.length) (hr : ∀ u ∈ recs, u < adj.length)
    (Nk' Sk0 Ik0 Rk0 : List Rat) (h : get_Nk_and_IC_sets A infs recs = .ok (Nk', Sk0, Ik0, Rk0)) :
    Sk0.sum + Ik0.sum + Rk0.sum = (adj.length : Rat) ∧ Nk'.sum = (adj.length : Rat) ∧
    Sk0.sum = (count adj (statusOf infs recs) St.S : Rat) ∧
    Ik0.sum = (count adj (statusOf infs recs) St.I : Rat) ∧
    Rk0.sum = (count adj (statusOf infs recs) St.R : Rat) := by
  rw [gen_sets_eq_vec A adj hG infs recs hd hi hr] at h
  injection h with h
  simp only [Prod.mk.injEq] at h
  obtain ⟨rfl, rfl, rfl, rfl⟩ := h
  simp only [vec_sum_cast, sum_classCount, sum_Nk, and_true]
  rw [← count_total adj (statusOf infs recs)]
  push_cast; ring

/-- the pair counts returned by `_count_edge_types_` are bounded by the number of ordered neighbour pairs
`Σ_k k·N_k` (S–I pairs occur in both orders); the exact nine-term identity is `pairCount_total` -/
theorem gen_count_edges_le (A : IArgs) (adj : List (List Nat)) (hG : GraphOK A adj)
    (infs recs : List Node) (hd : ∀ u ∈ infs, u ∉ recs)
    (hi : ∀ u ∈ infs, u < adj.length) (hr : ∀ u ∈ recs, u < adj.length)
    (SS SI II : Int) (h : count_edge_types A infs recs = .ok (SS, SI, II)) :
    0 ≤ SS ∧ 0 ≤ SI ∧ 0 ≤ II ∧ SS + 2 * SI + II ≤ (twoM adj : Int) := by
  rw [gen_count_edges_eq A adj hG infs recs hd hi hr] at h
  injection h with h
  simp only [Prod.mk.injEq] at h
  obtain ⟨rfl, rfl, rfl⟩ := h
  have := pairs_le_twoM A adj hG (statusOf infs recs)
  refine ⟨Int.natCast_nonneg _, Int.natCast_nonneg _, Int.natCast_nonneg _, ?_⟩
  exact_mod_cast this

/-- rho branch: Σ_k (Sk0 + Ik0)[k] = N and Rk0 = 0 -/
theorem gen_rho_total (A : IArgs) (adj : List (List Nat)) (hG : GraphOK A adj) (rho : Rat) :
    (get_Nk_and_IC_rho A rho).2.1.sum + (get_Nk_and_IC_rho A rho).2.2.1.sum = (adj.length : Rat) ∧
    (get_Nk_and_IC_rho A rho).2.1.sum = rhoS adj rho ∧ (get_Nk_and_IC_rho A rho).2.2.1.sum = rhoI adj rho ∧
    (get_Nk_and_IC_rho A rho).2.2.2.sum = 0 := by
  rw [gen_rho_eq_vec A adj hG rho]
  have hN : (vec (maxDeg adj) (fun k => (Nk adj k : Rat))).sum = (adj.length : Rat) := by
    rw [vec_sum_cast, sum_Nk]
  have hS : (vec (maxDeg adj) (fun k => rhoSk adj rho k)).sum = rhoS adj rho := by
    unfold rhoSk rhoS vec
    rw [List.sum_map_mul_left]
    unfold vec at hN; rw [hN]
  have hI : (vec (maxDeg adj) (fun k => rhoIk adj rho k)).sum = rhoI adj rho := by
    unfold rhoIk rhoI vec
    rw [List.sum_map_mul_left]
    unfold vec at hN; rw [hN]
  refine ⟨?_, hS, hI, ?_⟩
  · simp only [hS, hI, rhoS, rhoI]; ring
  · simp [vec]

/-! ## non-vacuity: a triangle 0–1–2 with a pendant node 3 attached to 2 -/

def exAdj : List (List Nat) := [[1, 2], [0, 2], [0, 1, 3], [2]]
/-- the same graph as networkx hands it to the builders -/
def exA : IArgs :=
  { nodes := [0, 1, 2, 3], edges := [(0, 1), (0, 2), (1, 2), (2, 3)],
    degree := fun u => [2, 2, 3, 1].getD u 0, hasNode := fun u => decide (u < 4) }

theorem exOK : GraphOK exA exAdj :=
  GraphOK.of_check exA exAdj (by intro u; simp [exA, exAdj]) (by decide +kernel)

/-- an edge list that lists an edge in both orientations is rejected by `GraphOK` -/
example : ¬ GraphOK { exA with edges := [(0, 1), (1, 0), (0, 2), (1, 2), (2, 3)] } exAdj := by
  intro h; exact h.edgesAsym 0 1 (by decide) (by decide)

/-- node 0 infected, node 3 recovered: statuses I S S R (and S outside the graph) -/
example : ((initialize_node_status exA [0] [3]).toOption.map fun f => (List.range 5).map f) =
    some [St.I, St.S, St.S, St.R, St.S] := by decide +kernel
/-- edges 0–1, 0–2 are I–S (1 each), 1–2 is S–S (2), 2–3 is S–R (not counted) -/
example : (count_edge_types exA [0] [3]).toOption = some (2, 2, 0) := by decide +kernel
example : (pairCount exAdj (statusOf [0] [3]) St.S St.S, pairCount exAdj (statusOf [0] [3]) St.S St.I,
    pairCount exAdj (statusOf [0] [3]) St.I St.I, twoM exAdj) = (2, 2, 0, 8) := by decide +kernel
/-- duplicates inside a list are harmless; the I–I edge 0–1 gives II0 = 2, the S–S edge 2–3 gives SS0 = 2 -/
example : (count_edge_types exA [0, 1, 0] []).toOption = some (2, 2, 2) := by decide +kernel
/-- degree classes: N_k = [0,1,2,1]; S: nodes 1 (k=2), 2 (k=3); I: node 0 (k=2); R: node 3 (k=1) -/
example : (get_Nk_and_IC_sets exA [0] [3]).toOption =
    some ([0, 1, 2, 1], [0, 0, 1, 1], [0, 0, 1, 0], [0, 1, 0, 0]) := by decide +kernel
example : get_Nk_and_IC_rho exA (1 / 4) =
    ([0, 1, 2, 1], [0, 3 / 4, 3 / 2, 3 / 4], [0, 1 / 4, 1 / 2, 1 / 4], [0, 0, 0, 0]) := by decide +kernel
/-- node 1 both infected and recovered: `EoNError` (in all three builders) -/
example : (match initialize_node_status exA [0, 1] [1] with | .error e => e == "EoNError" | .ok _ => false) = true := by
  decide +kernel
example : (match count_edge_types exA [0, 1] [1] with | .error e => e == "EoNError" | .ok _ => false) = true := by
  decide +kernel
/-- node 7 is not in the graph: `EoNError` -/
example : (match get_Nk_and_IC_sets exA [0] [7] with | .error e => e == "EoNError" | .ok _ => false) = true := by
  decide +kernel

example : initialize_node_status exA [0] [3] = .ok (statusOf [0] [3]) :=
  gen_status_eq exA exAdj exOK.hasNode [0] [3] (by decide) (by decide) (by decide)
example : initialize_node_status exA [0, 1] [1] = .error "EoNError" :=
  gen_status_error_overlap exA [0, 1] [1] 1 (by decide) (by decide)
example : initialize_node_status exA [0] [7] = .error "EoNError" :=
  gen_status_error_foreign exA exAdj exOK.hasNode [0] [7] (by decide) 7 (Or.inr (by decide)) (by decide)
example : count_edge_types exA [0] [3] = .ok (2, 2, 0) := by
  rw [gen_count_edges_eq exA exAdj exOK [0] [3] (by decide) (by decide) (by decide)]
  decide +kernel
example : (degree_hist exA)[2]? = some 2 := by
  rw [(gen_Nk_eq exA exAdj exOK).2 2 (by decide +kernel)]; decide +kernel

end C06c

section
open C06c
#print axioms gen_status_eq
#print axioms gen_status_error_overlap
#print axioms gen_status_error_foreign
#print axioms gen_status_ok_iff
#print axioms gen_count_edges_eq
#print axioms gen_pairs_from_edges
#print axioms gen_count_edges_error
#print axioms gen_Nk_eq
#print axioms gen_sets_eq_vec
#print axioms gen_sets_eq
#print axioms gen_sets_error
#print axioms gen_rho_eq_vec
#print axioms gen_rho_eq
#print axioms gen_sets_total
#print axioms gen_count_edges_le
#print axioms gen_rho_total
#print axioms exOK
#print axioms GenInitProofs.pairCount_total
#print axioms GenInitProofs.GraphOK.of_check
end
