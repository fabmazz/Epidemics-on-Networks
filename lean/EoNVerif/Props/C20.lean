import EoNVerif.Proofs.Helpers
/-!
C20 — statements for the helpers (`subsample`, `get_time_shift`, `get_Pk`, `get_Pnk`, PGF helpers,
`estimate_R0`).  Helper lemmas are in `EoNVerif/Proofs/Helpers.lean`.
-/
namespace Helpers
open Polynomial

/-- **subsample**: for ordered report times not before the first observation (observation times ordered, ties and
repeated values allowed) each output is the value of the last observation at or before the report time -/
theorem subsample_spec {α : Type} (report times : List Rat) (status : List α)
    (hr : Sorted report) (ht : Sorted times) (hlen : status.length = times.length)
    (r0 t0 : Rat) (hr0 : report.head? = some r0) (ht0 : times.head? = some t0) (h0 : t0 ≤ r0) :
    subsample report times status = .ok (report.map (lastLE (times.zip status))) := by
  cases report with
  | nil => simp at hr0
  | cons r rs =>
    cases times with
    | nil => simp at ht0
    | cons t ts =>
      simp only [List.head?_cons, Option.some.injEq] at hr0 ht0
      subst hr0 ht0
      simp only [subsample, not_lt.2 h0, if_false]
      have := scan_spec (r :: rs) hr [] ((t :: ts).zip status) (zip_sorted _ _ ht) (by simp)
      simpa using congrArg (Except.ok (ε := String)) this

/-- under the hypotheses of `subsample_spec` every reported value exists (never an unbound `candidate`) -/
theorem subsample_defined {α : Type} (report times : List Rat) (status : List α)
    (hr : Sorted report) (ht : Sorted times) (hlen : status.length = times.length)
    (r0 t0 : Rat) (hr0 : report.head? = some r0) (ht0 : times.head? = some t0) (h0 : t0 ≤ r0) :
    ∀ r ∈ report, (lastLE (times.zip status) r).isSome := by
  intro r hr'
  cases report with
  | nil => simp at hr0
  | cons r1 rs =>
    cases times with
    | nil => simp at ht0
    | cons t ts =>
      cases status with
      | nil => simp at hlen
      | cons s ss =>
        simp only [List.head?_cons, Option.some.injEq] at hr0 ht0
        subst hr0 ht0
        have hle : t ≤ r := by
          rcases List.mem_cons.1 hr' with rfl | h
          · exact h0
          · exact le_trans h0 ((List.pairwise_cons.1 hr).1 r h)
        unfold lastLE
        rw [Option.isSome_map, List.getLast?_isSome]
        simp [hle]

/-- after the last observation the final value is held (ties: `lastLE` is the LAST observation with time `≤ r`, by its
definition; example at the end of the file) -/
theorem lastLE_after_end {α : Type} (times : List Rat) (status : List α) (hlen : status.length = times.length)
    (r : Rat) (h : ∀ t ∈ times, t ≤ r) : lastLE (times.zip status) r = status.getLast? := by
  unfold lastLE
  rw [List.filter_eq_self.2, ← List.getLast?_map]
  · show (List.map Prod.snd (times.zip status)).getLast? = _
    rw [List.map_snd_zip (le_of_eq hlen)]
  intro o ho
  simpa using h o.1 (List.of_mem_zip ho).1

theorem subsample_error {α : Type} (report times : List Rat) (status : List α)
    (r0 t0 : Rat) (hr0 : report.head? = some r0) (ht0 : times.head? = some t0) (h0 : r0 < t0) :
    subsample report times status = .error "EoNError" := by
  cases report with
  | nil => simp at hr0
  | cons r rs =>
    cases times with
    | nil => simp at ht0
    | cons t ts =>
      simp only [List.head?_cons, Option.some.injEq] at hr0 ht0
      subst hr0 ht0
      simp [subsample, h0]

/-- **get_time_shift** returns the first time at which the series reaches the threshold -/
theorem timeShift_spec (times L : List Rat) (thr : Rat) (hlen : L.length = times.length)
    (i : Nat) (hi : i < times.length) (hreach : thr ≤ L.getD i 0) (hfirst : ∀ j < i, L.getD j 0 < thr) :
    timeShift times L thr = .ok (times.getD i 0) := by
  have hf := find_zip_first times L thr hlen i hi hreach hfirst
  cases times with
  | nil => simp at hi
  | cons t ts =>
    simp only [timeShift, hf]
    simp

/-- if the threshold is never reached the last time is returned -/
theorem timeShift_never (times L : List Rat) (thr : Rat) (hlen : L.length = times.length) (hne : times ≠ [])
    (hnever : ∀ l ∈ L, l < thr) : timeShift times L thr = .ok (times.getLast hne) := by
  have hf := find_zip_none times L thr hnever
  cases times with
  | nil => exact absurd rfl hne
  | cons t ts =>
    simp only [timeShift, hf, hlen]
    simp [List.getLast!]

/-- **get_Pk** matches the degree histogram -/
theorem Pk_hist (degs : List Nat) (h : degs ≠ []) (k : Nat) :
    Pk degs k * (degs.length : Rat) = (countEq degs k : Rat) := by
  unfold Pk
  exact div_mul_cancel₀ _ (length_ne_zero h)

theorem Pk_sum_one (degs : List Nat) (h : degs ≠ []) :
    sumRat ((List.range (maxDeg degs + 1)).map (Pk degs)) = 1 := by
  have := sumRat_Pk_mul degs (fun _ => 1)
  simp only [mul_one] at this
  rw [this, meanDeg, sumRat_map_const, mul_one]
  exact div_self (length_ne_zero h)

theorem Pk_zero_above (degs : List Nat) (k : Nat) (hk : maxDeg degs < k) : Pk degs k = 0 := by
  simp [Pk, countEq_zero_above degs k hk]

/-- generating function values at 1 (`psiP_one`, `psiDP_one` do not use `h`) -/
theorem psi_one (degs : List Nat) (h : degs ≠ []) : psi degs 1 = 1 := by
  have := Pk_sum_one degs h
  simpa [psi] using this
theorem psiP_one (degs : List Nat) (h : degs ≠ []) : psiP degs 1 = meanDeg degs (fun k => (k : Rat)) := by
  rw [← sumRat_Pk_mul]
  simp [psiP]
theorem psiDP_one (degs : List Nat) (h : degs ≠ []) :
    psiDP degs 1 = meanDeg degs (fun k => (k : Rat) * ((k : Rat) - 1)) := by
  rw [← sumRat_Pk_mul]
  simp [psiDP]

/-! the three helpers are a polynomial (`psiPoly`) and its first and second derivative -/
theorem psi_eval (degs : List Nat) (x : Rat) : psi degs x = (psiPoly degs).eval x := by
  unfold psi psiPoly
  rw [eval_list_sum_map]
  apply sumRat_map_congr
  intro k _
  simp
theorem psiP_is_derivative (degs : List Nat) (x : Rat) :
    psiP degs x = (derivative (psiPoly degs)).eval x := by
  unfold psiP psiPoly
  rw [derivative_list_sum_map, eval_list_sum_map]
  apply sumRat_map_congr
  intro k _
  simp only [derivative_C_mul_X_pow, eval_mul, eval_C, eval_pow, eval_X]
  ring
theorem psiDP_is_second_derivative (degs : List Nat) (x : Rat) :
    psiDP degs x = (derivative (derivative (psiPoly degs))).eval x := by
  unfold psiDP psiPoly
  rw [derivative_list_sum_map, derivative_list_sum_map, eval_list_sum_map]
  apply sumRat_map_congr
  intro k _
  simp only [derivative_C_mul_X_pow, eval_mul, eval_C, eval_pow, eval_X]
  cases k with
  | zero => simp
  | succ k =>
    rw [Nat.sub_sub]
    simp only [Nat.add_sub_cancel]
    push_cast
    ring

/-- **estimate_R0** = T⟨k²−k⟩/⟨k⟩ -/
theorem R0_formula (degs : List Nat) (h : degs ≠ []) (T : Rat) :
    R0 degs T = T * meanDeg degs (fun k => (k : Rat) * ((k : Rat) - 1)) / meanDeg degs (fun k => (k : Rat)) := by
  rw [R0, psiDP_one degs h, psiP_one degs h]

/-- **get_Pnk** rows sum to 1 for every degree class that exists and has positive degree.  `hwf` is not used (an
out-of-range neighbour index has model degree 0): `Pnk_row_sum_aux` is the statement without it. -/
theorem Pnk_row_sum (adj : List (List Nat)) (hwf : ∀ l ∈ adj, ∀ v ∈ l, v < adj.length)
    (k1 : Nat) (hk : 0 < k1) (hex : 0 < countEq (adj.map (·.length)) k1) :
    sumRat ((List.range (maxDeg (adj.map (·.length)) + 1)).map fun k2 => Pnk adj k1 k2) = 1 :=
  Pnk_row_sum_aux adj k1 hk hex

end Helpers

/-! non-vacuity: ties in both grids, a report beyond the end -/
example : Helpers.subsample [1, 1, 2, 9] [0, 1, 1, 3] [10, 11, 12, 13] = .ok [some 12, some 12, some 12, some 13] := by
  decide +kernel
example : Helpers.timeShift [0, 1, 2] [1, 5, 7] 4 = .ok 1 := by decide +kernel
