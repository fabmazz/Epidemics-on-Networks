import EoNVerif.Model.Args
import EoNVerif.Proofs.DegList
/-!
C19 — calls do not modify their arguments and can be repeated: theorems about the heap model of the argument
prologues (Model/Args.lean).  The model is tied to the code by the C19 check, which snapshots the real argument
objects (shape, dtype, values; graphs; containers) around two consecutive calls of every entry point.
-/
namespace Args

theorem lookup_cons (p : Nat × Arr) (t : Heap) (id : Nat) :
    lookup (p :: t) id = if p.1 = id then some p.2 else lookup t id := rfl

theorem lookup_append_of_some (h : Heap) (id : Nat) (x : Arr) (e : Nat × Arr) (hx : lookup h id = some x) :
    lookup (h ++ [e]) id = some x := by
  induction h with
  | nil => cases hx
  | cons p t ih =>
    rw [List.cons_append, lookup_cons]
    rw [lookup_cons] at hx
    split
    · next hp => rwa [if_pos hp] at hx
    · next hp => rw [if_neg hp] at hx; exact ih hx

theorem ne_fresh_of_lookup (h : Heap) (id : Nat) (x : Arr) (hx : lookup h id = some x) : id ≠ fresh h := by
  have hmem : id ∈ h.map (·.1) := by
    induction h with
    | nil => cases hx
    | cons p t ih =>
      rw [lookup_cons] at hx
      split at hx
      · next hp => simp [hp]
      · exact List.mem_cons_of_mem _ (ih hx)
  have := (Helpers.le_foldl_max (h.map (·.1)) 0).2 id hmem
  unfold fresh
  omega

theorem lookup_reshape_ne (h : Heap) (id id' : Nat) (sh : List Nat) (hne : id ≠ id') :
    lookup (reshape h id' sh) id = lookup h id := by
  induction h with
  | nil => rfl
  | cons p t ih =>
    show lookup ((if p.1 = id' then (p.1, { p.2 with shape := sh }) else p) :: reshape t id' sh) id = _
    rw [lookup_cons, lookup_cons, ih]
    by_cases hq : p.1 = id
    · rw [if_neg (hq ▸ hne : p.1 ≠ id'), if_pos hq]
    · have : (if p.1 = id' then (p.1, { p.2 with shape := sh }) else p).1 = p.1 := by split <;> rfl
      rw [this, if_neg hq, if_neg hq]

theorem copyObj_lookup (h : Heap) (id j : Nat) (x : Arr) (hx : lookup h j = some x) :
    lookup (copyObj h id).1 j = some x := by
  unfold copyObj
  split
  · exact lookup_append_of_some h j x _ hx
  · exact hx

theorem copyObj_snd_ne (h : Heap) (id j : Nat) (a x : Arr) (ha : lookup h id = some a) (hx : lookup h j = some x) :
    (copyObj h id).2 ≠ j := by
  simp only [copyObj, ha]
  exact (ne_fresh_of_lookup h j x hx).symm

/-- copying allocates a fresh object and leaves every existing object untouched -/
theorem copyObj_preserves (h : Heap) (id : Nat) (j : Nat) (x : Arr) (hx : lookup h j = some x) :
    lookup (copyObj h id).1 j = some x ∧ (copyObj h id).2 ≠ j ∨ (copyObj h id) = (h, id) := by
  cases hl : lookup h id with
  | none => right; simp only [copyObj, hl]
  | some a => exact Or.inl ⟨copyObj_lookup h id j x hx, copyObj_snd_ne h id j a x hl hx⟩

/-- **the repaired prologue does not modify any of the caller's objects**: every object that existed before the call
has the same shape and data afterwards (the caller's `a` and `b` included) -/
theorem prologueFixed_preserves (h : Heap) (a b k : Nat) (xa xb : Arr)
    (ha : lookup h a = some xa) (hb : lookup h b = some xb) (j : Nat) (x : Arr) (hx : lookup h j = some x) :
    lookup (prologueFixed h a b k).1 j = some x := by
  have e1 := copyObj_lookup h a j x hx
  have n1 := copyObj_snd_ne h a j xa x ha hx
  have e2 := copyObj_lookup (copyObj h a).1 b j x e1
  have n2 := copyObj_snd_ne (copyObj h a).1 b j xb x (copyObj_lookup h a b xb hb) e1
  show lookup (reshape (reshape (copyObj (copyObj h a).1 b).1 (copyObj h a).2 _) (copyObj (copyObj h a).1 b).2 _) j = _
  rw [lookup_reshape_ne _ _ _ _ n2.symm, lookup_reshape_ne _ _ _ _ n1.symm]
  exact e2

/-- the caller's two array objects are found unchanged in the heap after the call — so a second call starts from the
same arguments -/
theorem second_call_same (h : Heap) (a b k : Nat) (xa xb : Arr)
    (ha : lookup h a = some xa) (hb : lookup h b = some xb) :
    lookup (prologueFixed h a b k).1 a = some xa ∧ lookup (prologueFixed h a b k).1 b = some xb :=
  ⟨prologueFixed_preserves h a b k xa xb ha hb a xa ha, prologueFixed_preserves h a b k xa xb ha hb b xb hb⟩

/-- `prologueOld` does change the caller's object: a 2×2 argument comes back with shape [4,1] -/
theorem prologueOld_modifies :
    lookup (prologueOld [(0, ⟨[2, 2], [1, 2, 3, 4]⟩), (1, ⟨[2, 2], [5, 6, 7, 8]⟩)] 0 1 2).1 0
      = some ⟨[4, 1], [1, 2, 3, 4]⟩ := by decide +kernel

/-- non-vacuity of `prologueFixed_preserves` on the same heap -/
example : lookup (prologueFixed [(0, ⟨[2, 2], [1, 2, 3, 4]⟩), (1, ⟨[2, 2], [5, 6, 7, 8]⟩)] 0 1 2).1 0
      = some ⟨[2, 2], [1, 2, 3, 4]⟩ ∧
    solverInput (prologueFixed [(0, ⟨[2, 2], [1, 2, 3, 4]⟩), (1, ⟨[2, 2], [5, 6, 7, 8]⟩)] 0 1 2)
      = some ([1, 2, 3, 4], [5, 6, 7, 8]) := by decide +kernel

end Args
