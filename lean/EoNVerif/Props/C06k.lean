import EoNVerif.Proofs.GenWrap5
import EoNVerif.Props.C06j
import EoNVerif.Props.C06iPrefMixDisc
/-!
C06k — the `*_from_graph` wrappers GENERATED into `Gen/WrapGen.lean`, last part.  Tools (keys of `get_Pnk`, tables, loops):
`Proofs/GenWrap5.lean`.  Hypotheses, names and the index of all wrappers: header of C06e; `KeysOK`, `nksF`, `pmRun`, `pmResult`:
`Proofs/GenGlue3.lean`, `rhoOf`: C06iEffDeg.

1. `KeysOK` for the dicts `get_Pk(G)`, `get_Pnk(G)` that `EBCM_pref_mix(_discrete)_from_graph` build (key structure of
   `get_Pnk`'s double loop: `get_Pnk_graph_keys`, `KeysOK_graph`, `no_zero_row_key`), and the hand-composed
   `EBCM_pref_mix_discrete_from_graph` (wrapper record fed to the generated base function of C06i): never a KeyError /
   ZeroDivisionError from the loop, output = `pmResult`, `S + I + R = N`.
2. the `rho` variant of the attack-rate ↔ `EBCM_discrete_from_graph` link, and the closed form of the `rho ∈ {None, 0}`
   early return (`Epi_Prob_discrete`).
3. `SIS_effective_degree_from_graph` / `SIR_effective_degree_from_graph`: the `(s, i)` tables for explicit sets and for
   `rho` / default, shapes, exceptions with precedence, totals, end to end with C06i's base functions (hand-composed).
4. kernel-checked examples and counter-examples on `exW`.
NOT covered: the general proof that the `rho` tables sum to `(1-rho)N` / `rho·N` (binomial theorem; kernel-checked on
`exW` only); full-data class rows of `SIR_compact_effective_degree_from_graph`; `EBCM_pref_mix_from_graph`
composed with the continuous-time base function (only its argument record: C06j + `KeysOK_graph` here).
-/
namespace GenWrapProps5
open GenInit InitCond GenInitProofs GenWrap GenWrapProofs GenWrapProofs2 GenWrapProofs3 GenWrapProofs4 GenWrapProofs5
open GenGlueProofs GenWrapProps GenWrapProps2 GenWrapProps3 GenWrapProps4
open GenHelpProofs (PkAL nbrDegs psiHatPAL resolvePhiS0 psiAL psiPAL alphaMap ok_bind err_bind pure_eq_ok)
open GenGlue3Proofs (KeysOK ZeroOK keys nksF pmRun pmResult)
open GenGlue3Props (rhoOf)
open Gen PyGlue2
open GenGlue2Proofs (rowAt constOdeint)

/-! ## 1. `KeysOK` for the graph's own dicts -/

def NbrsInRange (adj : List (List Nat)) : Prop := ∀ nb ∈ adj, ∀ v ∈ nb, v < adj.length
def NbrsSymm (adj : List (List Nat)) : Prop := ∀ u v, v ∈ adj.getD u [] → u ∈ adj.getD v []

theorem GraphOK.inRange {A : IArgs} {adj : List (List Nat)} (hG : GraphOK A adj) : NbrsInRange adj := by
  intro nb hnb v hv
  obtain ⟨u, hu, rfl⟩ := List.mem_iff_getElem.mp hnb
  have hv' : v ∈ adj.getD u [] := by simpa [List.getD, hu] using hv
  exact lt_of_mem_getD adj v u ((hG.symm u v).mp hv')

theorem GraphOK.nbrsSymm {A : IArgs} {adj : List (List Nat)} (hG : GraphOK A adj) : NbrsSymm adj :=
  fun u v h => (hG.symm u v).mp h

/-- **the keys of `get_Pnk(G)`**, ANY adjacency lists (no symmetry, no range condition): the outer keys are the degrees
present (the keys of `get_Pk(G)`, as sets); `k2` is a key of `Pnk[k1]` iff some node of degree `k1` lists a neighbour of
degree `k2` (an index outside the graph has degree 0) -/
theorem get_Pnk_graph_keys (adj : List (List Nat)) (P : List (Nat × List (Nat × Rat)))
    (h : GenHelp.get_Pnk (nbrDegs adj) = .ok P) :
    (∀ k1, k1 ∈ keys P ↔ k1 ∈ adj.map (·.length)) ∧
    (∀ k1, k1 ∈ keys P ↔ k1 ∈ keys (PkAL (adj.map (·.length)))) ∧
    (∀ k1 k2, k2 ∈ nksF P k1 ↔ ∃ nb ∈ adj, nb.length = k1 ∧ ∃ v ∈ nb, (adj.getD v []).length = k2) := by
  obtain ⟨h1, h2⟩ := get_Pnk_keys (nbrDegs adj) P h
  have hdegs : (nbrDegs adj).map (·.length) = adj.map (·.length) := by
    simp [nbrDegs, List.map_map, Function.comp_def]
  rw [hdegs] at h1
  refine ⟨h1, fun k1 => ?_, fun k1 k2 => ?_⟩
  · exact (h1 k1).trans (keys_PkAL_iff _ k1).symm
  · unfold nksF
    rw [GenGlue3Proofs.lkD_eq_alGet, show keys (alGet P [] k1) = (alGet P [] k1).map (·.1) from rfl, h2]
    unfold nbrDegs
    simp only [List.mem_map, exists_exists_and_eq_and, List.length_map]

/-- **`KeysOK` holds for the graph's dicts** as soon as every listed neighbour is a node (true under `GraphOK`): every
degree present has a row in `Pnk`, and every key of a row — the degree of a neighbour — is a degree present -/
theorem KeysOK_graph (adj : List (List Nat)) (hr : NbrsInRange adj) (P : List (Nat × List (Nat × Rat)))
    (h : GenHelp.get_Pnk (nbrDegs adj) = .ok P) : KeysOK (PkAL (adj.map (·.length))) P := by
  obtain ⟨-, h2, h3⟩ := get_Pnk_graph_keys adj P h
  intro k1 hk1
  refine ⟨(h2 k1).mpr hk1, fun k2 hk2 => ?_⟩
  obtain ⟨nb, hnb, -, v, hv, rfl⟩ := (h3 k1 k2).mp hk2
  have hv' := hr nb hnb v hv
  exact (keys_PkAL_iff _ _).2 (List.mem_map.mpr ⟨adj[v], List.getElem_mem hv', by simp [List.getD, hv']⟩)

/-- with SYMMETRIC adjacency lists **degree 0 is never a key of a row**: a neighbour has the node among its own
neighbours, hence degree ≥ 1.  So the `0.0 ** (-1)` of `EBCM_pref_mix_discrete` is never evaluated (`ZeroOK` for every θ) -/
theorem no_zero_row_key (adj : List (List Nat)) (hs : NbrsSymm adj) (P : List (Nat × List (Nat × Rat)))
    (h : GenHelp.get_Pnk (nbrDegs adj) = .ok P) :
    (∀ k1, 0 ∉ nksF P k1) ∧ ∀ θ, ZeroOK (PkAL (adj.map (·.length))) P θ := by
  obtain ⟨-, -, h3⟩ := get_Pnk_graph_keys adj P h
  have h0 : ∀ k1, 0 ∉ nksF P k1 := by
    intro k1 hk
    obtain ⟨nb, hnb, -, v, hv, hl⟩ := (h3 k1 0).mp hk
    obtain ⟨u, hu, rfl⟩ := List.mem_iff_getElem.mp hnb
    have hv' : v ∈ adj.getD u [] := by simpa [List.getD, hu] using hv
    have := hs u v hv'
    rw [List.length_eq_zero_iff.mp hl] at this
    cases this
  exact ⟨h0, fun θ => GenGlue3Props.ZeroOK_of_no_zero _ _ θ (Or.inl fun k1 _ => h0 k1)⟩

theorem keys_PkAL_nodup (degs : List Nat) : (keys (PkAL degs)).Nodup := by
  rw [show keys (PkAL degs) = (PkAL degs).map (·.1) from rfl, GenHelpProofs.PkAL_keys]
  exact GenHelpProofs.nodup_eraseDups degs

/-- `EBCM_pref_mix_discrete_from_graph` (EoN/analytic.py:5611) HAND-COMPOSED (the generator composes only the wrappers
whose base function lives in `Gen/OdeGlue.lean` / `Gen/HelpersGen.lean`): the generated wrapper record handed to the
generated base function `GenGlue2.EBCM_pref_mix_discrete` of C06i -/
def EBCM_pref_mix_discrete_from_graph (odeint myodeint : Solver) (A : WArgs) (p : Rat) (rho : Option Rat)
    (tmin tmax : Int) (full : Bool) : Except String (V × List Out) := do
  let a ← EBCM_pref_mix_discrete_from_graph_args A p rho tmin tmax full
  GenGlue2.EBCM_pref_mix_discrete odeint myodeint a.N a.Pk a.Pnk a.p a.rho a.tmin a.tmax a.return_full_data

/-- **`EBCM_pref_mix_discrete_from_graph` on a graph: no KeyError, no ZeroDivisionError from the loop, ever.**  With
`N = G.order()`, `Pk = get_Pk(G)`, `Pnk = get_Pnk(G)`: if `rho` is given or the graph has a node, the call returns
`pmResult` = the columns `0..tmax−tmin` of the hand model `ODE.prefMixDiscRun` on these dicts (C06i), for ALL `p`, `rho`,
`tmin`, `tmax`, with or without full data, every solver (it is not used); with neither (`rho = None` on the graph without
nodes) it raises the ZeroDivisionError of `1.0/N` -/
theorem EBCM_pref_mix_discrete_from_graph_eq (odeint myodeint : Solver) (A : WArgs) (adj : List (List Nat))
    (hW : GraphOKW A adj) (p : Rat) (rho : Option Rat) (tmin tmax : Int) (full : Bool) :
    ∃ P, GenHelp.get_Pnk (nbrDegs adj) = .ok P ∧ KeysOK (PkAL (adj.map (·.length))) P ∧ (∀ k1, 0 ∉ nksF P k1) ∧
      (rho.isSome ∨ adj.length ≠ 0 →
        EBCM_pref_mix_discrete_from_graph odeint myodeint A p rho tmin tmax full =
          .ok (pmResult (adj.length : Rat) (PkAL (adj.map (·.length))) P p (rhoOf (adj.length : Rat) rho) tmin
            (tmax - tmin).toNat full)) ∧
      (rho = none → adj.length = 0 →
        EBCM_pref_mix_discrete_from_graph odeint myodeint A p rho tmin tmax full = .error "ZeroDivisionError") := by
  have hG := hW.toGraphOK
  obtain ⟨P, hP, -, -, -, -, hd⟩ := EBCM_pref_mix_args_spec A adj hW 0 0 p rho 0 0 0 tmin tmax full
  have hk := KeysOK_graph adj (GraphOK.inRange hG) P hP
  obtain ⟨h0, hz⟩ := no_zero_row_key adj (GraphOK.nbrsSymm hG) P hP
  refine ⟨P, hP, hk, h0, fun hrho => ?_, fun hr hN => ?_⟩
  · unfold EBCM_pref_mix_discrete_from_graph
    rw [hd]
    simp only [GenHelpProofs.ok_bind]
    apply GenGlue3Props.EBCM_pref_mix_discrete_eq _ _ _ _ _ _ _ _ _ _ (keys_PkAL_nodup _)
    · rcases hrho with h | h
      · exact Or.inl h
      · exact Or.inr (by exact_mod_cast h)
    · exact fun j _ => ⟨hk, hz _⟩
  · unfold EBCM_pref_mix_discrete_from_graph
    rw [hd]
    subst hr
    simp only [GenHelpProofs.ok_bind, hN, Nat.cast_zero]
    exact GenGlue3Props.EBCM_pref_mix_discrete_error_rho _ _ _ _ _ _ _ _

/-- **the returned arrays**, graph with a node or `rho` given, `m = (tmax − tmin).toNat`: 4 arrays (5 with full data: the
dict `theta` keyed by the degrees present) of length `m + 1`; `times = tmin..tmin+m`; **`S + I + R = N` at every index**;
`S(0) = N(1−ρ)`, `I(0) = Nρ`, `R(0) = 0` with `ρ = rho` or `1/N`; `R(n+1) = R(n) + I(n)`; the columns are those of the
hand model `ODE.prefMixDiscRun` on `get_Pk(G)`, `get_Pnk(G)` -/
theorem EBCM_pref_mix_discrete_from_graph_spec (odeint myodeint : Solver) (A : WArgs) (adj : List (List Nat))
    (hW : GraphOKW A adj) (p : Rat) (rho : Option Rat) (tmin tmax : Int) (hrho : rho.isSome ∨ adj.length ≠ 0) :
    ∃ P, GenHelp.get_Pnk (nbrDegs adj) = .ok P ∧
    ∃ times S I R : V, ∃ theta : Nat → List Rat,
      EBCM_pref_mix_discrete_from_graph odeint myodeint A p rho tmin tmax false
        = .ok (PyGlue2.V0, [Out.v times, Out.v S, Out.v I, Out.v R]) ∧
      EBCM_pref_mix_discrete_from_graph odeint myodeint A p rho tmin tmax true
        = .ok (PyGlue2.V0, [Out.v times, Out.v S, Out.v I, Out.v R,
            Out.dl (GenGlue3Proofs.mkD (keys (PkAL (adj.map (·.length)))) theta)]) ∧
      times.n = (tmax - tmin).toNat + 1 ∧ S.n = (tmax - tmin).toNat + 1 ∧ I.n = (tmax - tmin).toNat + 1 ∧
      R.n = (tmax - tmin).toNat + 1 ∧ (∀ k, (theta k).length = (tmax - tmin).toNat + 1) ∧
      (∀ n, n ≤ (tmax - tmin).toNat → times.f n = ((tmin + (n : Int) : Int) : Rat) ∧
        S.f n + I.f n + R.f n = (adj.length : Rat) ∧
        S.f n = (pmRun (adj.length : Rat) (PkAL (adj.map (·.length))) P p (rhoOf (adj.length : Rat) rho) n).S ∧
        I.f n = (pmRun (adj.length : Rat) (PkAL (adj.map (·.length))) P p (rhoOf (adj.length : Rat) rho) n).I ∧
        R.f n = (pmRun (adj.length : Rat) (PkAL (adj.map (·.length))) P p (rhoOf (adj.length : Rat) rho) n).R) ∧
      S.f 0 = (adj.length : Rat) * (1 - rhoOf (adj.length : Rat) rho) ∧
      I.f 0 = (adj.length : Rat) * rhoOf (adj.length : Rat) rho ∧ R.f 0 = 0 ∧
      (∀ n, n < (tmax - tmin).toNat → R.f (n + 1) = R.f n + I.f n) := by
  have hG := hW.toGraphOK
  obtain ⟨P, hP, hk, -, -, -⟩ := EBCM_pref_mix_discrete_from_graph_eq odeint myodeint A adj hW p rho tmin tmax false
  obtain ⟨-, hz⟩ := no_zero_row_key adj (GraphOK.nbrsSymm hG) P hP
  have hd : ∀ full, EBCM_pref_mix_discrete_from_graph odeint myodeint A p rho tmin tmax full =
      GenGlue2.EBCM_pref_mix_discrete odeint myodeint (adj.length : Rat) (PkAL (adj.map (·.length))) P p rho tmin tmax
        full := by
    intro full
    obtain ⟨P', hP', -, -, -, -, hd⟩ := EBCM_pref_mix_args_spec A adj hW 0 0 p rho 0 0 0 tmin tmax full
    rw [hP] at hP'; injection hP' with hP'; subst hP'
    unfold EBCM_pref_mix_discrete_from_graph
    rw [hd]; rfl
  have hrho' : rho.isSome ∨ (adj.length : Rat) ≠ 0 := by
    rcases hrho with h | h
    · exact Or.inl h
    · exact Or.inr (by exact_mod_cast h)
  obtain ⟨times, S, I, R, theta, e1, e2, l1, l2, l3, l4, l5, hcol, s0, i0, r0, -, hrec⟩ :=
    GenGlue3Props.EBCM_pref_mix_discrete_spec odeint myodeint _ _ P p rho tmin tmax (keys_PkAL_nodup _) hrho'
      (fun j _ => ⟨hk, hz _⟩)
  refine ⟨P, hP, times, S, I, R, theta, (hd false).trans e1, (hd true).trans e2, l1, l2, l3, l4, l5, ?_, s0, i0, r0,
    fun n hn => (hrec n hn).1⟩
  intro n hn
  obtain ⟨a, b, c, d, e, -⟩ := hcol n hn
  exact ⟨a, b, c, d, e⟩

/-! ## 2. the attack rate and `EBCM_discrete_from_graph`, `rho` request -/

/-- the graph has no edge iff every degree is 0 -/
theorem twoM_eq_zero_iff (adj : List (List Nat)) : twoM adj = 0 ↔ ∀ d ∈ adj.map (·.length), d = 0 := by
  unfold twoM
  rw [List.sum_eq_zero_iff]

/-- **KEY LINK, `rho` request**: for `rho = r ≠ 0` on a graph WITH AN EDGE, `Attack_rate_discrete_from_graph(rho = r,
number_its = n)` is `(I(n) + R(n))/N = 1 − S(n)/N` of the data returned by `EBCM_discrete_from_graph(rho = r, tmin = 0,
tmax = n)` — for EVERY successful run of the latter (there always is one on a graph with nodes and `G.neighbors` =
adjacency lists: C06h `EBCM_discrete_from_graph_ok`).  `initial_recovereds` must be absent (with `rho` both wrappers raise `EoNError`).  The
edge is needed: the attack-rate function divides `ψ̂'(1)` by `Σ k·Pk[k]` to get its default `phiS0` (ZeroDivisionError on an
edgeless graph, C06h `Attack_rate_discrete_from_graph_rho`) while `EBCM_discrete_from_graph` passes `phiS0 = 1 − rho`
itself and succeeds — counter-example below -/
theorem Attack_rate_discrete_from_graph_is_EBCM_rho (A : WArgs) (adj : List (List Nat)) (hG : GraphOK A.toIArgs adj)
    (p r : Rat) (hr : r ≠ 0) (hE : twoM adj ≠ 0) (n : Nat) (l : List (List Rat))
    (h : EBCM_discrete_from_graph A p none none (some r) 0 (n : Int) false = .ok l) :
    ∃ times S I R : List Rat, l = [times, S, I, R] ∧
      Attack_rate_discrete_from_graph A p none none (some r) (n : Int)
        = .ok ((I.getD n 0 + R.getD n 0) / (adj.length : Rat)) ∧
      Attack_rate_discrete_from_graph A p none none (some r) (n : Int)
        = .ok (1 - S.getD n 0 / (adj.length : Rat)) := by
  have hN : adj.length ≠ 0 := by
    intro e
    apply hE
    have : adj = [] := List.length_eq_zero_iff.mp e
    subst this; rfl
  have hNr : (adj.length : Rat) ≠ 0 := by exact_mod_cast hN
  obtain ⟨-, hrun, -⟩ := EBCM_discrete_from_graph_init_rho A adj hG p none (some r) (by simp) hN 0 n false l h
  have hm : meanK (adj.map (·.length)) = (twoM adj : Rat) / (adj.length : Rat) := by
    have := meanK_graph A.toIArgs adj hG
    rwa [degs_eq A.toIArgs adj hG] at this
  have hmz : meanK (adj.map (·.length)) ≠ 0 := by
    rw [hm]
    have h1 : (twoM adj : Rat) ≠ 0 := by exact_mod_cast hE
    exact div_ne_zero h1 hNr
  have hS0 : resolvePhiS0 (PkAL (adj.map (·.length)))
      (psiHatPAL (PkAL (adj.map (·.length))) (GenHelpFinal.effSk0 (PkAL (adj.map (·.length))) (some r) none) 1) none
      = .ok (1 - r) := by
    simp only [GenHelpFinal.effSk0, Option.getD_some, (psiHatAL_const _ (1 - r)).2, psiKP_one, resolvePhiS0,
      kAveAL_PkAL, hmz, if_false]
    rw [mul_div_assoc, div_self hmz, mul_one]
  obtain ⟨times, S, I, R, hEq, h1, h2⟩ := GenHelpFinal.gen_Attack_rate_discrete_is_EBCM
    (PkAL (adj.map (·.length))) p (some r) none none (some 0) n (Or.inr rfl) (fun _ => ⟨r, rfl, hr⟩)
    (fun d hd => by cases hd) (1 - r) hS0 (adj.length : Rat) 0 hNr
  simp only [GenHelpFinal.effSk0, Option.getD_some, (psiHatAL_const _ (1 - r)).1, (psiHatAL_const _ (1 - r)).2] at hEq
  simp only [Option.getD_some] at hrun
  rw [hrun] at hEq
  injection hEq with hEq
  have hAR : Attack_rate_discrete_from_graph A p none none (some r) (n : Int) =
      GenHelp.Attack_rate_discrete (PkAL (adj.map (·.length))) p (some r) none none (some 0) n := by
    unfold Attack_rate_discrete_from_graph
    rw [(Attack_rate_args_rho A adj hG p 0 0 none (some r) (by simp) n).1]
    simp [GenHelpProofs.ok_bind]
  exact ⟨times, S, I, R, hEq, hAR.trans h2, hAR.trans h1⟩

theorem psiAL_PkAL (degs : List Nat) (h : degs ≠ []) :
    psiAL (PkAL degs) = Helpers.psi degs ∧ psiPAL (PkAL degs) = Helpers.psiP degs := by
  have h1 := GenHelpProofs.get_PGF_ok _ (GenHelpProofs.PkAL_ne_nil degs h)
  rw [GenHelpProofs.get_PGF_PkAL degs h] at h1
  have h2 := GenHelpProofs.get_PGFPrime_ok _ (GenHelpProofs.PkAL_ne_nil degs h)
  rw [GenHelpProofs.get_PGFPrime_PkAL degs h] at h2
  injection h1 with h1
  injection h2 with h2
  exact ⟨h1.symm, h2.symm⟩

/-- **`rho ∈ {None, 0}` (no `initial_infecteds`): NOT an attack rate of the `EBCM_discrete_from_graph` run** but the
early return `Epi_Prob_discrete(Pk, p, number_its)`, in closed form, ALL graphs: ValueError on the graph without nodes
(`max` of no keys in `get_PGF`); ZeroDivisionError on an edgeless graph as soon as `number_its > 0` (`ψ'(1) = 0`); else
`1 − ψ(α_n)` with `α_0 = 1 − p`, `α_{j+1} = 1 − p + p·ψ'(α_j)/ψ'(1)`, `ψ` the degree PGF of the graph — the probability that
ONE random infection causes an epidemic — in particular `1 − ψ(1 − p) ≠ 0` for `number_its = 0`.  (The run of
`EBCM_discrete_from_graph` with `rho = 0` has `S ≡ N`, with `rho = None` it starts from `rho = 1/N`: examples below.) -/
theorem Attack_rate_discrete_from_graph_early (A : WArgs) (adj : List (List Nat)) (hG : GraphOK A.toIArgs adj) (p : Rat)
    (recs : Option (List Node)) (rho : Option Rat) (hr : rho = none ∨ rho = some 0)
    (hrr : ¬ (rho.isSome ∧ recs.isSome)) (n : Int) :
    Attack_rate_discrete_from_graph A p none recs rho n =
      if adj.length = 0 then .error "ValueError"
      else if 0 < n.toNat ∧ twoM adj = 0 then .error "ZeroDivisionError"
      else .ok (1 - Helpers.psi (adj.map (·.length))
        ((alphaMap (Helpers.psiP (adj.map (·.length))) p)^[n.toNat] (1 - p))) := by
  rw [(Attack_rate_discrete_from_graph_rho A adj hG p recs rho hrr n).1 hr, GenHelpFinal.gen_Epi_Prob_discrete_spec]
  by_cases hN : adj.length = 0
  · have : adj = [] := List.length_eq_zero_iff.mp hN
    subst this
    rfl
  · have hd : adj.map (·.length) ≠ [] := by
      intro e; exact hN (by simpa using congrArg List.length e)
    rw [if_neg (GenHelpProofs.PkAL_ne_nil _ hd), if_neg hN, (psiAL_PkAL _ hd).1, (psiAL_PkAL _ hd).2]
    have : Helpers.psiP (adj.map (·.length)) 1 = 0 ↔ twoM adj = 0 := by
      rw [GenHelpProofs.psiP_one_eq_zero_iff _ hd, twoM_eq_zero_iff]
    simp only [this]

/-! ## 3. `SIS_effective_degree_from_graph`, `SIR_effective_degree_from_graph` -/

/-- number of neighbours of `u` with status `x` -/
def nbS (adj : List (List Nat)) (st : Nat → St) (u : Nat) (x : St) : Nat :=
  ((adj.getD u []).filter fun v => st v = x).length

/-- number of nodes of status `x` with exactly `s` susceptible and `i` infected neighbours -/
def siCount (adj : List (List Nat)) (st : Nat → St) (x : St) (s i : Nat) : Nat :=
  ((List.range adj.length).filter fun u => nbS adj st u St.S = s ∧ nbS adj st u St.I = i ∧ st u = x).length

theorem siCount_eq (adj : List (List Nat)) (st : Nat → St) (x : St) (a b : Nat) :
    siCount adj st x a b = siCnt (fun u => nbS adj st u St.S) (fun u => nbS adj st u St.I) (fun u => st u = x)
      (List.range adj.length) a b := rfl

/-- `np.sum` of a table -/
def tableSum (T : List (List Rat)) : Rat := sumRat (T.map sumRat)

theorem nbS_partition (adj : List (List Nat)) (st : Nat → St) (u : Nat) :
    nbS adj st u St.S + nbS adj st u St.I + nbS adj st u St.R = deg adj u :=
  filter_three st (adj.getD u [])

theorem nbS_le (adj : List (List Nat)) (st : Nat → St) (u : Nat) (hu : u < adj.length) (x : St) :
    nbS adj st u x ≤ maxDeg adj :=
  le_trans (List.length_filter_le _ _) (deg_le_maxDeg adj u hu)

theorem nbS_nil_R (adj : List (List Nat)) (infs : List Node) (u : Nat) : nbS adj (statusOf infs []) u St.R = 0 := by
  unfold nbS
  rw [List.length_eq_zero_iff, List.filter_eq_nil_iff]
  intro v _
  simpa using statusOf_nil_ne_R infs v

theorem sum_siCnt (sC iC : Node → Nat) (p : Node → Prop) [DecidablePred p] (M : Nat) (l : List Node)
    (hl : ∀ u ∈ l, sC u ≤ M ∧ iC u ≤ M) :
    tableSum (mat M fun a b => (siCnt sC iC p l a b : Rat)) = ((l.filter fun u => p u).length : Rat) := by
  unfold tableSum mat
  rw [List.map_map]
  have hrow : ∀ a, sumRat (vec M fun b => (siCnt sC iC p l a b : Rat))
      = (((l.filter fun u => sC u = a ∧ p u).length : Nat) : Rat) := by
    intro a
    rw [sumRat_eq_sum, vec_sum_cast]
    congr 1
    rw [← sum_filter_classes iC (fun u => sC u = a ∧ p u) M l (fun u hu => (hl u hu).2)]
    congr 1
    apply List.map_congr_left
    intro b _
    unfold siCnt
    congr 1
    apply List.filter_congr
    intro u _
    simp only [decide_eq_decide]
    tauto
  have : ((List.range (M + 1)).map ((fun T => sumRat T) ∘ fun a => vec M fun b => (siCnt sC iC p l a b : Rat)))
      = vec M (fun a => (((l.filter fun u => sC u = a ∧ p u).length : Nat) : Rat)) := by
    unfold vec
    apply List.map_congr_left
    intro a _
    exact hrow a
  rw [this, sumRat_eq_sum, vec_sum_cast, sum_filter_classes sC p M l (fun u hu => (hl u hu).1)]

theorem nbCount_graph (A : WArgs) (adj : List (List Nat)) (hW : GraphOKW A adj) (st : Node → St) (u : Nat)
    (hu : u < adj.length) (x : St) : nbCount st A.neighbors u x = nbS adj st u x := by
  unfold nbCount nbS; rw [hW.nbrs u hu]

/-- **`SIS_effective_degree_from_graph`, explicit set of graph nodes**: both tables are `(maxdeg+1) × (maxdeg+1)`;
`Ssi0[s][i]` = number of SUSCEPTIBLE nodes with exactly `s` susceptible and `i` infected neighbours, `Isi0[s][i]` = number
of INFECTED nodes with exactly `s` susceptible and `i` infected neighbours (the code computes `i = degree − s`, which is
the number of infected neighbours because nobody is recovered) -/
theorem SIS_effective_degree_args_spec (A : WArgs) (adj : List (List Nat)) (hW : GraphOKW A adj) (tau gamma : Rat)
    (infs : List Node) (hin : ∀ u ∈ infs, u < adj.length) (hN : adj.length ≠ 0) (tmin tmax : Rat) (tcount : Int)
    (full : Bool) :
    SIS_effective_degree_from_graph_args A tau gamma (some infs) none tmin tmax tcount full =
      .ok { Ssi0 := mat (maxDeg adj) (fun s i => (siCount adj (statusOf infs []) St.S s i : Rat)),
            Isi0 := mat (maxDeg adj) (fun s i => (siCount adj (statusOf infs []) St.I s i : Rat)),
            tau := tau, gamma := gamma, tmin := tmin, tmax := tmax, tcount := tcount, return_full_data := full } := by
  have hG := hW.toGraphOK
  have hS := SetsOK.nil_recs (adj := adj) hin
  have hst := status_of_setsOK A adj hG hS
  have hM : Helpers.maxDeg (A.nodes.map A.degree) = maxDeg adj := by rw [degs_eq A.toIArgs adj hG]; rfl
  -- nobody is recovered, so `degree − s` is the number of infected neighbours and "not susceptible" means infected
  have key : ∀ u ∈ List.range adj.length,
      nbCount (statusOf infs []) A.neighbors u St.S = nbS adj (statusOf infs []) u St.S ∧
      A.degree u - nbCount (statusOf infs []) A.neighbors u St.S = nbS adj (statusOf infs []) u St.I := fun u hu => by
    have hu' := List.mem_range.mp hu
    have := nbS_partition adj (statusOf infs []) u
    rw [nbS_nil_R] at this
    rw [nbCount_graph A adj hW _ u hu', hG.degree u hu']
    exact ⟨rfl, by omega⟩
  have hI : ∀ u, statusOf infs [] u ≠ St.S ↔ statusOf infs [] u = St.I := fun u => by
    cases h : statusOf infs [] u
    · simp
    · simp
    · exact absurd h (statusOf_nil_ne_R infs u)
  have tS := siCnt_congr _ _ _ _ (fun u => statusOf infs [] u = St.S) (fun u => statusOf infs [] u = St.S) _
    fun u hu => ⟨(key u hu).1, (key u hu).2, Iff.rfl⟩
  have tI := siCnt_congr _ _ _ _ (fun u => statusOf infs [] u ≠ St.S) (fun u => statusOf infs [] u = St.I) _
    fun u hu => ⟨(key u hu).1, (key u hu).2, hI u⟩
  set st := statusOf infs []
  have hk : ∀ u ∈ A.nodes, nbCount st A.neighbors u St.S ≤ A.degree u ∧ A.degree u ≤ maxDeg adj := fun u hu => by
    rw [hG.nodes] at hu
    have hu' := List.mem_range.mp hu
    rw [hG.degree u hu', (key u hu).1]
    have := nbS_partition adj st u
    exact ⟨by omega, deg_le_maxDeg adj u hu'⟩
  have hne := nodes_ne_nil A adj hG hN
  unfold SIS_effective_degree_from_graph_args
  simp only [Option.isSome_none, Bool.false_and, Bool.false_eq_true, if_false, ok_bind, hst, maxKey_degrees, hne,
    zeros2_eq, Option.getD_none, hM]
  rw [sisLoop st (fun u => nbCount st A.neighbors u St.S) (fun u => A.degree u - nbCount st A.neighbors u St.S) _ A.nodes
    (fun u hu => ⟨by have := hk u hu; omega, by have := hk u hu; omega⟩)]
  · rw [hG.nodes]
    simp only [ok_bind, pure_eq_ok, zero_add, siCount_eq, tS, tI]
  · intro F G u hu
    have h1 := (hk u hu).1
    have e : ((A.degree u : Nat) : Int) - (0 + ((((A.neighbors u).filter fun v => st v = St.S).length : Nat) : Int))
        = ((A.degree u - nbCount st A.neighbors u St.S : Nat) : Int) := by
      rw [zero_add, Nat.cast_sub h1]; rfl
    simp only [nbFoldP, ok_bind, e]
    by_cases hS : st u = St.S <;> simp [hS, nbCount]

/-- **`SIR_effective_degree_from_graph`, explicit disjoint sets of graph nodes**: `S_si0[s][i]` = number of SUSCEPTIBLE
nodes with exactly `s` susceptible and `i` infected neighbours — RECOVERED neighbours are counted in neither index (so
`s + i` may be smaller than the degree); `I0`, `R0` = numbers of infected / recovered nodes -/
theorem SIR_effective_degree_args_spec (A : WArgs) (adj : List (List Nat)) (hW : GraphOKW A adj) (tau gamma : Rat)
    (infs : List Node) (recs : Option (List Node)) (hS : SetsOK adj infs (recs.getD [])) (hN : adj.length ≠ 0)
    (tmin tmax : Rat) (tcount : Int) (full : Bool) :
    SIR_effective_degree_from_graph_args A tau gamma (some infs) recs none tmin tmax tcount full =
      .ok { S_si0 := mat (maxDeg adj) (fun s i => (siCount adj (statusOf infs (recs.getD [])) St.S s i : Rat)),
            I0 := (count adj (statusOf infs (recs.getD [])) St.I : Rat),
            R0 := (count adj (statusOf infs (recs.getD [])) St.R : Rat),
            tau := tau, gamma := gamma, tmin := tmin, tmax := tmax, tcount := tcount, return_full_data := full } := by
  have hG := hW.toGraphOK
  have hst := status_of_setsOK A adj hG hS
  have hM : Helpers.maxDeg (A.nodes.map A.degree) = maxDeg adj := by rw [degs_eq A.toIArgs adj hG]; rfl
  have hne := nodes_ne_nil A adj hG hN
  set st := statusOf infs (recs.getD [])
  have tS := siCnt_congr _ _ _ _ (fun u => st u = St.S) (fun u => st u = St.S) _ fun u hu =>
    ⟨nbCount_graph A adj hW st u (List.mem_range.mp hu) St.S, nbCount_graph A adj hW st u (List.mem_range.mp hu) St.I,
      Iff.rfl⟩
  unfold SIR_effective_degree_from_graph_args
  simp only [Option.isSome_none, Bool.false_and, Bool.false_eq_true, if_false, ok_bind, hst, maxKey_degrees, hne,
    zeros2_eq, hM]
  rw [sirLoop st (fun u => nbCount st A.neighbors u St.S) (fun u => nbCount st A.neighbors u St.I) _ A.nodes]
  · rw [hG.nodes]
    simp [ok_bind, siCount_eq, tS, count]
  · intro u hu _
    rw [hG.nodes] at hu
    have hu' := List.mem_range.mp hu
    rw [nbCount_graph A adj hW _ u hu', nbCount_graph A adj hW _ u hu']
    exact ⟨nbS_le adj _ u hu' _, nbS_le adj _ u hu' _⟩
  · intro F I0 R0 u hu
    simp only [nbFoldP, ok_bind]
    cases hS : st u <;> simp [nbCount]

theorem sum_siCount (adj : List (List Nat)) (st : Nat → St) (x : St) :
    tableSum (mat (maxDeg adj) fun s i => (siCount adj st x s i : Rat)) = (count adj st x : Rat) := by
  simp only [siCount_eq]
  rw [sum_siCnt _ _ _ (maxDeg adj) _ (fun u hu => ⟨nbS_le adj st u (List.mem_range.mp hu) _,
    nbS_le adj st u (List.mem_range.mp hu) _⟩)]
  rfl

theorem mat_dims (M : Nat) (F : Nat → Nat → Rat) : (mat M F).length = M + 1 ∧ ∀ row ∈ mat M F, row.length = M + 1 := by
  refine ⟨mat_length M F, fun row hr => ?_⟩
  unfold mat at hr
  obtain ⟨a, -, rfl⟩ := List.mem_map.mp hr
  exact vec_length _ _

theorem total_ofLists_mat (M : Nat) (F : Nat → Nat → Rat) :
    (Mx.ofLists (mat M F)).total = tableSum (mat M F) ∧ (Mx.ofLists (mat M F)).r = M + 1 ∧
    (Mx.ofLists (mat M F)).c = M + 1 := by
  refine ⟨?_, mat_length M F, ?_⟩
  · unfold Mx.total Mx.ofLists tableSum ODE.sumTo
    simp only [mat_length]
    have hc : ((mat M F).headD []).length = M + 1 := by simp [mat, List.range_succ_eq_map]
    rw [hc]
    conv_rhs => rw [mat, List.map_map]
    congr 1
    apply List.map_congr_left
    intro a ha
    have ha' : a ≤ M := by have := List.mem_range.mp ha; omega
    simp only [Function.comp, mat_getD M F a ha']
    congr 1
    unfold vec
    apply List.map_congr_left
    intro b hb
    have hb' : b ≤ M := by have := List.mem_range.mp hb; omega
    exact vec_getD M (F a) b hb'
  · simp [Mx.ofLists, mat, List.range_succ_eq_map]

/-- explicit sets, totals and shapes: `Σ Ssi0` = number of susceptible nodes, `Σ Isi0` = number of infected nodes,
**`Σ Ssi0 + Σ Isi0 = N`**; for SIR **`Σ S_si0 + I0 + R0 = N`**; for duplicate-free lists `Σ Isi0 = I0 = len(initial_infecteds)`,
`R0 = len(initial_recovereds)` -/
theorem effective_degree_args_total (adj : List (List Nat)) (infs recs : List Node) :
    tableSum (mat (maxDeg adj) fun s i => (siCount adj (statusOf infs []) St.S s i : Rat))
      + tableSum (mat (maxDeg adj) fun s i => (siCount adj (statusOf infs []) St.I s i : Rat)) = (adj.length : Rat) ∧
    tableSum (mat (maxDeg adj) fun s i => (siCount adj (statusOf infs recs) St.S s i : Rat))
      + (count adj (statusOf infs recs) St.I : Rat) + (count adj (statusOf infs recs) St.R : Rat) = (adj.length : Rat) ∧
    (SetsOK adj infs recs → infs.Nodup → recs.Nodup →
      (count adj (statusOf infs recs) St.I : Rat) = (infs.length : Rat) ∧
      (count adj (statusOf infs recs) St.R : Rat) = (recs.length : Rat)) := by
  refine ⟨?_, ?_, fun hS hi hr => ⟨(request_counts adj infs recs hS hi hr).1, (request_counts adj infs recs hS hi hr).2.1⟩⟩
  · rw [sum_siCount, sum_siCount, ← count_total_rat adj (statusOf infs []), count_R_nil, Nat.cast_zero, add_zero]
  · rw [sum_siCount]
    exact count_total_rat adj (statusOf infs recs)

theorem edVal_graph (adj : List (List Nat)) (r w : Rat) (s i : Nat) :
    edVal (adj.map (·.length)) r w s i =
      w * (Nk adj (s + i) : Rat) * ((PyWrap.binom (s + i) i : Nat) : Rat) * r ^ i * (1 - r) ^ s := by
  unfold edVal; rw [countEq_degs]

/-- **without `initial_infecteds`** (`rho`, default `1/N`; for SIR a lone `initial_recovereds` is IGNORED): the binomial
form.  For `s + i ≤ maxdeg`: `Ssi0[s][i] = (1-rho)·N_{s+i}·C(s+i, i)·rho^i·(1-rho)^s` and (SIS)
`Isi0[s][i] = rho·N_{s+i}·C(s+i, i)·rho^i·(1-rho)^s` (`edVal_graph`; `N_k` = number of nodes of degree `k`, `C` = `binom` of
`PyWrap`), 0 elsewhere; SIR: `I0 = rho·N`, `R0 = 0` -/
theorem effective_degree_args_rho (A : WArgs) (adj : List (List Nat)) (hG : GraphOK A.toIArgs adj) (tau gamma : Rat)
    (recs : Option (List Node)) (rho : Option Rat) (hrr : ¬ (rho.isSome ∧ recs.isSome)) (hN : adj.length ≠ 0)
    (tmin tmax : Rat) (tcount : Int) (full : Bool) :
    SIS_effective_degree_from_graph_args A tau gamma none rho tmin tmax tcount full =
      .ok { Ssi0 := mat (maxDeg adj) (fun s i => if s + i ≤ maxDeg adj then
              edVal (adj.map (·.length)) (rho.getD (1 / (adj.length : Rat))) (1 - rho.getD (1 / (adj.length : Rat))) s i
              else 0),
            Isi0 := mat (maxDeg adj) (fun s i => if s + i ≤ maxDeg adj then
              edVal (adj.map (·.length)) (rho.getD (1 / (adj.length : Rat))) (rho.getD (1 / (adj.length : Rat))) s i
              else 0),
            tau := tau, gamma := gamma, tmin := tmin, tmax := tmax, tcount := tcount, return_full_data := full } ∧
    SIR_effective_degree_from_graph_args A tau gamma none recs rho tmin tmax tcount full =
      .ok { S_si0 := mat (maxDeg adj) (fun s i => if s + i ≤ maxDeg adj then
              edVal (adj.map (·.length)) (rho.getD (1 / (adj.length : Rat))) (1 - rho.getD (1 / (adj.length : Rat))) s i
              else 0),
            I0 := rho.getD (1 / (adj.length : Rat)) * (adj.length : Rat), R0 := 0,
            tau := tau, gamma := gamma, tmin := tmin, tmax := tmax, tcount := tcount, return_full_data := full } := by
  have hne := nodes_ne_nil A adj hG hN
  rw [SISed_rho_eq A tau gamma rho tmin tmax tcount full hne, SIRed_rho_eq A tau gamma recs rho hrr tmin tmax tcount full hne,
    nodes_length A.toIArgs adj hG, maxDeg_eq]
  generalize rho.getD (1 / (adj.length : Rat)) = r
  set degs := adj.map (·.length) with hdegs
  have hd : degs ≠ [] := fun e => hN (by simpa [hdegs] using congrArg List.length e)
  have hdeg : A.nodes.map A.degree = degs := degs_eq A.toIArgs adj hG
  -- the entry written at `(s, i)`
  have entry : ∀ s i, s + i ≤ Helpers.maxDeg degs →
      PyWrap.vecGet (NkL degs) (((s : Nat) : Int) + ((i : Nat) : Int)) = .ok ((Helpers.countEq degs (s + i) : Nat) : Rat) ∧
      PyWrap.binomI (((s : Nat) : Int) + ((i : Nat) : Int)) ((i : Nat) : Int) = .ok ((PyWrap.binom (s + i) i : Nat) : Rat) :=
    fun s i h => by rw [← Nat.cast_add]; exact ⟨vecGet_NkL _ _ h, binomI_nat _ _⟩
  constructor
  · unfold SIS_effective_degree_from_graph_args
    simp only [Option.isSome_none, Option.isSome_some, Bool.and_false, Bool.false_eq_true, if_false,
      hdeg, maxKey_counter, hd, ok_bind, zeros2_eq, mapM_counter]
    simp only [ok_bind, pure_eq_ok, Prod.mk.eta, bind_ok_id]
    rw [show (mat (Helpers.maxDeg degs) (fun _ _ => (0 : Rat)), mat (Helpers.maxDeg degs) (fun _ _ => (0 : Rat))) =
        pairMat (Helpers.maxDeg degs) (fun _ _ => (0, 0)) from rfl,
      tableLoop (pairMat (Helpers.maxDeg degs)) (Helpers.maxDeg degs)
        (fun s i => (edVal degs r (1 - r) s i, edVal degs r r s i)) _ _ (fun _ _ => (0, 0))]
    · simp only [ok_bind, pairMat_ite]
    · intro F s i hsi
      rw [pairMat_ite]
      unfold pairMat
      simp only [(entry s i hsi).1, (entry s i hsi).2, ok_bind, if_true, powI_nat]
      rw [matSet_nat _ _ s i _ (by omega) (by omega), ok_bind, matSet_nat _ _ s i _ (by omega) (by omega), ok_bind]
      simp [edVal]
  · unfold SIR_effective_degree_from_graph_args
    simp only [Option.isSome_none, Option.isSome_some, Bool.and_false, Bool.false_eq_true, if_false,
      hdeg, maxKey_counter, hd, ok_bind, zeros2_eq, mapM_counter]
    simp only [ok_bind, pure_eq_ok]
    rw [tableLoop (mat (Helpers.maxDeg degs)) (Helpers.maxDeg degs) (edVal degs r (1 - r))]
    · simp [ok_bind, sum_NkL_graph, hdegs]
    · intro F s i hsi
      simp only [(entry s i hsi).1, (entry s i hsi).2, ok_bind, if_true, powI_nat]
      rw [matSet_nat _ F s i _ (by omega) (by omega)]
      simp [edVal]

/-- the exceptions, ALL inputs, with the precedence of the generated code: `EoNError` for `rho` with a set; THEN
ValueError on a graph without nodes (`max` of no degrees) — for EVERY other request, also the default one (no
ZeroDivisionError from `1/N` here) and before the sets are looked at; then the `EoNError` of the status builder (overlap /
node outside the graph).  On a graph with nodes the `rho` / default request never raises
(`effective_degree_args_rho`) -/
theorem effective_degree_args_error (A : WArgs) (tau gamma : Rat) (tmin tmax : Rat) (tcount : Int) (full : Bool) :
    (∀ infs recs r, (infs.isSome →
        SIS_effective_degree_from_graph_args A tau gamma infs (some r) tmin tmax tcount full = .error "EoNError") ∧
      (infs.isSome ∨ recs.isSome →
        SIR_effective_degree_from_graph_args A tau gamma infs recs (some r) tmin tmax tcount full = .error "EoNError")) ∧
    (∀ infs recs rho, A.nodes = [] → ¬ (rho.isSome ∧ infs.isSome) → ¬ (rho.isSome ∧ recs.isSome) →
      SIS_effective_degree_from_graph_args A tau gamma infs rho tmin tmax tcount full = .error "ValueError" ∧
      SIR_effective_degree_from_graph_args A tau gamma infs recs rho tmin tmax tcount full = .error "ValueError") ∧
    (∀ infs e, A.nodes ≠ [] → initialize_node_status A.toIArgs infs [] = .error e →
      SIS_effective_degree_from_graph_args A tau gamma (some infs) none tmin tmax tcount full = .error e) ∧
    (∀ infs recs e, A.nodes ≠ [] → initialize_node_status A.toIArgs infs (recs.getD []) = .error e →
      SIR_effective_degree_from_graph_args A tau gamma (some infs) recs none tmin tmax tcount full = .error e) := by
  refine ⟨fun infs recs r => ⟨fun h => ?_, fun h => ?_⟩, fun infs recs rho hN h1 h2 => ?_, fun infs e hne he => ?_,
    fun infs recs e hne he => ?_⟩
  · unfold SIS_effective_degree_from_graph_args
    cases infs <;> simp at h ⊢
  · unfold SIR_effective_degree_from_graph_args
    cases infs <;> cases recs <;> simp at h ⊢
  · have e1 := guard_false h1
    have e2 := guard_false h2
    constructor
    · unfold SIS_effective_degree_from_graph_args
      simp only [e1, Bool.false_eq_true, if_false, maxKey_counter, hN, List.map_nil, if_true, err_bind]
    · unfold SIR_effective_degree_from_graph_args
      simp only [e1, e2, Bool.false_eq_true, if_false, maxKey_counter, hN, List.map_nil, if_true, err_bind]
  · unfold SIS_effective_degree_from_graph_args
    simp only [Option.isSome_none, Bool.false_and, Bool.false_eq_true, if_false, ok_bind, maxKey_degrees, hne,
      zeros2_eq, Option.getD_none, he, err_bind]
  · unfold SIR_effective_degree_from_graph_args
    simp only [Option.isSome_none, Bool.false_and, Bool.false_eq_true, if_false, ok_bind, maxKey_degrees, hne,
      zeros2_eq, he, err_bind]

/-- `SIS_effective_degree_from_graph` (EoN/analytic.py:4165) HAND-COMPOSED with the generated base function of C06i (the
NumPy tables become `Mx.ofLists`) -/
def SIS_effective_degree_from_graph (odeint myodeint : Solver) (A : WArgs) (tau gamma : Rat)
    (infs : Option (List Node)) (rho : Option Rat) (tmin tmax : Rat) (tcount : Int) (full : Bool) :
    Except String (V × List Out) := do
  let a ← SIS_effective_degree_from_graph_args A tau gamma infs rho tmin tmax tcount full
  GenGlue2.SIS_effective_degree odeint myodeint (Mx.ofLists a.Ssi0) (Mx.ofLists a.Isi0) a.tau a.gamma a.tmin a.tmax
    a.tcount.toNat a.return_full_data

/-- `SIR_effective_degree_from_graph` (EoN/analytic.py:4227) HAND-COMPOSED with the generated base function of C06i -/
def SIR_effective_degree_from_graph (odeint myodeint : Solver) (A : WArgs) (tau gamma : Rat)
    (infs recs : Option (List Node)) (rho : Option Rat) (tmin tmax : Rat) (tcount : Int) (full : Bool) :
    Except String (V × List Out) := do
  let a ← SIR_effective_degree_from_graph_args A tau gamma infs recs rho tmin tmax tcount full
  GenGlue2.SIR_effective_degree odeint myodeint (Mx.ofLists a.S_si0) a.I0 a.R0 a.tau a.gamma a.tmin a.tmax
    a.tcount.toNat a.return_full_data

/-- end to end, explicit sets, with or without full data: with `odeint rhs X0 0 = X0` the SIS call returns (both tables have
`(maxdeg+1)²` entries) and the series start from the numbers of susceptible / infected nodes;
the SIR call never raises, **`S + I + R = N` at every time index for every solver**, and the series start from the
numbers of susceptible / infected / recovered nodes -/
theorem effective_degree_from_graph_sets (odeint myodeint : Solver) (A : WArgs) (adj : List (List Nat))
    (hW : GraphOKW A adj) (tau gamma : Rat) (infs : List Node) (recs : Option (List Node))
    (hS : SetsOK adj infs (recs.getD [])) (hN : adj.length ≠ 0) (tmin tmax : Rat) (tcount : Int) (full : Bool) :
    (RowZero odeint → ∃ x0 l,
      SIS_effective_degree_from_graph odeint myodeint A tau gamma (some infs) none tmin tmax tcount full = .ok (x0, l) ∧
      GenGlue2Proofs.get l 0 0 = tmin ∧ GenGlue2Proofs.get l 1 0 = (count adj (statusOf infs []) St.S : Rat) ∧
      GenGlue2Proofs.get l 2 0 = (count adj (statusOf infs []) St.I : Rat)) ∧
    (∃ x0 l,
      SIR_effective_degree_from_graph odeint myodeint A tau gamma (some infs) recs none tmin tmax tcount full
        = .ok (x0, l) ∧
      (∀ i, GenGlue2Proofs.get l 1 i + GenGlue2Proofs.get l 2 i + GenGlue2Proofs.get l 3 i = (adj.length : Rat)) ∧
      (RowZero odeint → GenGlue2Proofs.get l 1 0 = (count adj (statusOf infs (recs.getD [])) St.S : Rat) ∧
        GenGlue2Proofs.get l 2 0 = (count adj (statusOf infs (recs.getD [])) St.I : Rat) ∧
        GenGlue2Proofs.get l 3 0 = (count adj (statusOf infs (recs.getD [])) St.R : Rat))) := by
  constructor
  · intro h0
    unfold SIS_effective_degree_from_graph
    rw [SIS_effective_degree_args_spec A adj hW tau gamma infs hS.infIn hN]
    simp only [GenHelpProofs.ok_bind]
    obtain ⟨t1, r1, c1⟩ := total_ofLists_mat (maxDeg adj) (fun s i => (siCount adj (statusOf infs []) St.S s i : Rat))
    obtain ⟨t2, r2, c2⟩ := total_ofLists_mat (maxDeg adj) (fun s i => (siCount adj (statusOf infs []) St.I s i : Rat))
    obtain ⟨x0, l, hl, i0, i1, i2⟩ := GenGlue3Props.SIS_effective_degree_init (myodeint := myodeint) h0
      (Mx.ofLists (mat (maxDeg adj) fun s i => (siCount adj (statusOf infs []) St.S s i : Rat)))
      (Mx.ofLists (mat (maxDeg adj) fun s i => (siCount adj (statusOf infs []) St.I s i : Rat)))
      tau gamma tmin tmax tcount.toNat full (by rw [r1, c1, r2, c2])
    exact ⟨x0, l, hl, i0, by rw [i1, t1, sum_siCount], by rw [i2, t2, sum_siCount]⟩
  · unfold SIR_effective_degree_from_graph
    rw [SIR_effective_degree_args_spec A adj hW tau gamma infs recs hS hN]
    simp only [GenHelpProofs.ok_bind]
    obtain ⟨t1, -, -⟩ := total_ofLists_mat (maxDeg adj)
      (fun s i => (siCount adj (statusOf infs (recs.getD [])) St.S s i : Rat))
    have htot := (effective_degree_args_total adj infs (recs.getD [])).2.1
    obtain ⟨x0, l, hl, -, -, hc⟩ := GenGlue3Props.SIR_effective_degree_conserve odeint myodeint
      (Mx.ofLists (mat (maxDeg adj) fun s i => (siCount adj (statusOf infs (recs.getD [])) St.S s i : Rat)))
      (count adj (statusOf infs (recs.getD [])) St.I : Rat) (count adj (statusOf infs (recs.getD [])) St.R : Rat)
      tau gamma tmin tmax tcount.toNat full
    refine ⟨x0, l, hl, fun i => by rw [hc i, t1]; exact htot, fun h0 => ?_⟩
    obtain ⟨x0', l', hl', -, j1, j2, j3⟩ := GenGlue3Props.SIR_effective_degree_init (myodeint := myodeint) h0
      (Mx.ofLists (mat (maxDeg adj) fun s i => (siCount adj (statusOf infs (recs.getD [])) St.S s i : Rat)))
      (count adj (statusOf infs (recs.getD [])) St.I : Rat) (count adj (statusOf infs (recs.getD [])) St.R : Rat)
      tau gamma tmin tmax tcount.toNat full
    rw [hl] at hl'
    injection hl' with hl'
    injection hl' with _ hl'
    subst hl'
    exact ⟨by rw [j1, t1, sum_siCount], j2, j3⟩

/-! ## 4. non-vacuity on the triangle 0–1–2 with the pendant node 3 (`exW` of C06e), kernel-checked -/

/-- 1. `EBCM_pref_mix_discrete_from_graph` on `exW`, default `rho = 1/4`, `p = 1/2`, two passes: the theorem instantiated
(every `p`, `rho`, window), and the arrays `times, S, I, R` evaluated (`S + I + R = 4` in every column) -/
example (p : Rat) (rho : Option Rat) (tmin tmax : Int) (full : Bool) :
    ∃ res, EBCM_pref_mix_discrete_from_graph constOdeint constOdeint exW p rho tmin tmax full = .ok res := by
  obtain ⟨P, -, -, -, h, -⟩ := EBCM_pref_mix_discrete_from_graph_eq constOdeint constOdeint exW C06c.exAdj exW_okW p rho
    tmin tmax full
  exact ⟨_, h (Or.inr (by decide))⟩
example : rowAt (EBCM_pref_mix_discrete_from_graph constOdeint constOdeint exW (1/2) none 0 2 false) 0 =
    .inr ([], [[0, 1, 2], [3, 4725/2048, 4234587/2097152], [1, 1419/2048, 603813/2097152], [0, 1, 3467/2048]]) := by
  decide +kernel
/-- the error case: the graph without nodes and no `rho` — ZeroDivisionError (`1.0/N`); with `rho` it returns zeros -/
example : rowAt (EBCM_pref_mix_discrete_from_graph constOdeint constOdeint emptyW (1/2) none 0 2 true) 0 =
    .inl "ZeroDivisionError" := by decide +kernel
example : rowAt (EBCM_pref_mix_discrete_from_graph constOdeint constOdeint emptyW (1/2) (some (1/3)) 0 2 false) 0 =
    .inr ([], [[0, 1, 2], [0, 0, 0], [0, 0, 0], [0, 0, 0]]) := by decide +kernel
/-- COUNTER-EXAMPLE (`NbrsInRange` is needed for `KeysOK`): one node listing the foreign neighbour 5 — its degree 0 is a key
of `Pnk[1]` but not of `Pk`: `KeysOK` fails and the base function raises KeyError -/
example : GenHelp.get_Pnk (nbrDegs [[5]]) = .ok [(1, [(0, 1)])] ∧ PkAL ([[5]].map (·.length)) = [(1, 1)] ∧
    ¬ KeysOK [(1, 1)] [(1, [(0, 1)])] ∧
    rowAt (GenGlue2.EBCM_pref_mix_discrete constOdeint constOdeint 1 [(1, 1)] [(1, [(0, 1)])] (1/2) (some (1/2)) 0 2
      false) 0 = .inl "KeyError" := by
  refine ⟨by decide +kernel, by decide +kernel, ?_, by decide +kernel⟩
  unfold KeysOK; decide +kernel
/-- COUNTER-EXAMPLE (`NbrsSymm` is needed for "degree 0 is never a row key"): the one-way link 0 → 1: `KeysOK` holds but
degree 0 is a key of `Pnk[1]`, and with `p = rho = 1` the base function evaluates `0.0 ** (-1)`: ZeroDivisionError -/
example : GenHelp.get_Pnk (nbrDegs [[1], []]) = .ok [(1, [(0, 1)]), (0, [])] ∧
    PkAL ([[1], []].map (·.length)) = [(1, 1/2), (0, 1/2)] ∧ KeysOK [(1, 1/2), (0, 1/2)] [(1, [(0, 1)]), (0, [])] ∧
    0 ∈ nksF [(1, [(0, (1 : Rat))]), (0, [])] 1 ∧
    rowAt (GenGlue2.EBCM_pref_mix_discrete constOdeint constOdeint 2 [(1, 1/2), (0, 1/2)] [(1, [(0, 1)]), (0, [])] 1
      (some 1) 0 2 false) 0 = .inl "ZeroDivisionError" := by
  refine ⟨by decide +kernel, by decide +kernel, ?_, by decide +kernel, by decide +kernel⟩
  unfold KeysOK; decide +kernel

/-- 2. the `rho` link on `exW`, `rho = 1/4`, `p = 1/2`, two iterations: `1 − S(2)/4` -/
example : EBCM_discrete_from_graph exW (1/2) none none (some (1/4)) 0 2 false =
      .ok [[0, 1, 2], [3, 4725/2048, 558149778459/274877906944], [1, 1419/2048, 76028986341/274877906944],
        [0, 1, 3467/2048]] ∧
    Attack_rate_discrete_from_graph exW (1/2) none none (some (1/4)) 2 = .ok (1 - 558149778459/274877906944 / 4) := by
  constructor <;> decide +kernel
/-- two isolated nodes (not `GenWrapProps2.isoW` of C06g, the edge 0–1 with an isolated node, which is also in scope here) -/
def isoW : WArgs := { nodes := [0, 1], edges := [], degree := fun _ => 0, hasNode := fun u => decide (u < 2),
                      neighbors := fun _ => [] }
/-- COUNTER-EXAMPLE (the edge is needed): the attack-rate wrapper raises ZeroDivisionError while `EBCM_discrete_from_graph` with
the same `rho` returns normally -/
example : (match Attack_rate_discrete_from_graph isoW (1/2) none none (some (1/4)) 2 with
      | .error e => e == "ZeroDivisionError" | .ok _ => false) = true ∧
    EBCM_discrete_from_graph isoW (1/2) none none (some (1/4)) 0 2 false =
      .ok [[0, 1, 2], [3/2, 3/2, 3/2], [1/2, 0, 0], [0, 1/2, 1/2]] := by
  constructor <;> decide +kernel
/-- `rho = 0` and `rho = None`: the attack-rate wrapper returns the epidemic probability `Epi_Prob_discrete` (the same
number for both), NOT `1 − S(n)/N` of the `EBCM_discrete_from_graph` run (`S ≡ N` for `rho = 0`); and with
`number_its = 0` it returns `1 − ψ(1 − p) = 23/32`, not 0 -/
example : Attack_rate_discrete_from_graph exW (1/2) none none (some 0) 2 = .ok (312194713173061/1125899906842624) ∧
    Attack_rate_discrete_from_graph exW (1/2) none none none 2 = .ok (312194713173061/1125899906842624) ∧
    EBCM_discrete_from_graph exW (1/2) none none (some 0) 0 2 false = .ok [[0, 1, 2], [4, 4, 4], [0, 0, 0], [0, 0, 0]] ∧
    Attack_rate_discrete_from_graph exW (1/2) none none (some 0) 0 = .ok (23/32) := by
  refine ⟨by decide +kernel, by decide +kernel, by decide +kernel, by decide +kernel⟩

/-- 3. the `(s, i)` tables on `exW`.  SIS, node 0 infected: node 1 (susceptible) has `s = 1, i = 1`, node 2 has
`s = 2, i = 1`, node 3 has `s = 1, i = 0`; node 0 (infected) has `s = 2, i = 0` -/
example : ((SIS_effective_degree_from_graph_args exW 1 1 (some [0]) none 0 10 11 false).toOption.map
    fun a => (a.Ssi0, a.Isi0)) =
    some ([[0, 0, 0, 0], [1, 1, 0, 0], [0, 1, 0, 0], [0, 0, 0, 0]], [[0, 0, 0, 0], [0, 0, 0, 0], [1, 0, 0, 0], [0, 0, 0, 0]]) := by
  decide +kernel
/-- SIR, node 0 infected, node 3 recovered: the susceptible nodes 1 and 2 both sit at `s = 1, i = 1` — node 2's recovered
neighbour 3 is counted nowhere (degree 3, `s + i = 2`); the theorem instantiated and the counts evaluated -/
example : SIR_effective_degree_from_graph_args exW 1 1 (some [0]) (some [3]) none 0 10 11 false =
    .ok { S_si0 := mat (maxDeg C06c.exAdj) (fun s i => (siCount C06c.exAdj (statusOf [0] [3]) St.S s i : Rat)),
          I0 := (count C06c.exAdj (statusOf [0] [3]) St.I : Rat), R0 := (count C06c.exAdj (statusOf [0] [3]) St.R : Rat),
          tau := 1, gamma := 1, tmin := 0, tmax := 10, tcount := 11, return_full_data := false } :=
  SIR_effective_degree_args_spec exW C06c.exAdj exW_okW 1 1 [0] (some [3]) ⟨by decide, by decide, by decide⟩ (by decide)
    0 10 11 false
example : ((SIR_effective_degree_from_graph_args exW 1 1 (some [0]) (some [3]) none 0 10 11 false).toOption.map
    fun a => (a.S_si0, a.I0, a.R0)) = some ([[0, 0, 0, 0], [0, 2, 0, 0], [0, 0, 0, 0], [0, 0, 0, 0]], 1, 1) := by
  decide +kernel
/-- default `rho = 1/4`: the binomial tables; their sums are `(1-rho)N = 3` and `rho·N = 1` (kernel-checked here; the
general `Σ = (1-rho)N` needs the binomial theorem and is NOT proved in this file) -/
example : ((SIS_effective_degree_from_graph_args exW 1 1 none none 0 10 11 false).toOption.map
    fun a => (a.Ssi0, a.Isi0)) = some
    ([[0, 3/16, 3/32, 3/256], [9/16, 9/16, 27/256, 0], [27/32, 81/256, 0, 0], [81/256, 0, 0, 0]],
     [[0, 1/16, 1/32, 1/256], [3/16, 3/16, 9/256, 0], [9/32, 27/256, 0, 0], [27/256, 0, 0, 0]]) ∧
    ((SIS_effective_degree_from_graph_args exW 1 1 none none 0 10 11 false).toOption.map
    fun a => (tableSum a.Ssi0, tableSum a.Isi0)) = some (3, 1) ∧
    ((SIR_effective_degree_from_graph_args exW 1 1 none (some [3]) none 0 10 11 false).toOption.map
    fun a => (tableSum a.S_si0, a.I0, a.R0)) = some (3, 1, 0) := by
  refine ⟨by decide +kernel, by decide +kernel, by decide +kernel⟩
/-- errors: the graph without nodes — ValueError also for the default request; an overlap — `EoNError`; `rho` with a set -/
example : (match SIS_effective_degree_from_graph_args emptyW 1 1 none none 0 10 11 false with
    | .error e => e == "ValueError" | .ok _ => false) = true := by decide +kernel
example : (match SIR_effective_degree_from_graph_args exW 1 1 (some [0]) (some [0]) none 0 10 11 false with
    | .error e => e == "EoNError" | .ok _ => false) = true := by decide +kernel
example : (match SIS_effective_degree_from_graph_args exW 1 1 (some [0]) (some (1/4)) 0 10 11 false with
    | .error e => e == "EoNError" | .ok _ => false) = true := by decide +kernel
/-- COUNTER-EXAMPLE (`G.neighbors(u)` = adjacency list, `GraphOKW`, is needed): a neighbour function listing five
neighbours while `maxdeg = 3`: `S_si0[s][i] += 1` is out of range — IndexError -/
example : (match SIS_effective_degree_from_graph_args { exW with neighbors := fun _ => [1, 1, 1, 1, 2] } 1 1 (some [0])
    none 0 10 11 false with | .error e => e == "IndexError" | .ok _ => false) = true := by decide +kernel
/-- end to end with the toy solver: `S + I + R = 4` at every index, the series start at `2, 1, 1` -/
example : ∃ x0 l, SIR_effective_degree_from_graph toyOdeint toyOdeint exW 1 1 (some [0]) (some [3]) none 0 10 11 true
      = .ok (x0, l) ∧
    (∀ i, GenGlue2Proofs.get l 1 i + GenGlue2Proofs.get l 2 i + GenGlue2Proofs.get l 3 i = 4) ∧
    GenGlue2Proofs.get l 1 0 = 2 ∧ GenGlue2Proofs.get l 2 0 = 1 ∧ GenGlue2Proofs.get l 3 0 = 1 := by
  obtain ⟨-, x0, l, hl, hc, hi⟩ := effective_degree_from_graph_sets toyOdeint toyOdeint exW C06c.exAdj exW_okW 1 1 [0]
    (some [3]) ⟨by decide, by decide, by decide⟩ (by decide) 0 10 11 true
  obtain ⟨i1, i2, i3⟩ := hi toyOdeint_zero
  exact ⟨x0, l, hl, fun i => (hc i).trans (by decide +kernel), i1.trans (by decide +kernel),
    i2.trans (by decide +kernel), i3.trans (by decide +kernel)⟩

end GenWrapProps5
