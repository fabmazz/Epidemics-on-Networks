import EoNVerif.Proofs.GenFastSIS
import EoNVerif.Props.C02b
/-!
C02d — the Lean code GENERATED statement by statement from `fast_SIS`, `_process_trans_SIS_Markov`,
`_find_next_trans_SIS_Markov`, `_process_rec_SIS_` and `myQueue` of EoN/simulation.py (`Gen/FastSISGen.lean`, namespace
`GenFSIS`) refines the hand-written event-queue model `Model/FastSIS.lean`, in lock step: on every tape the two either
raise the same exception or return related states with the same remaining tape and call trace
(`GenFS.run_sim` in `Proofs/GenFastSIS.lean`; read in the two directions and for exceptions below).  Hence the theorems
of `Props/C02b.lean` hold of the output of the generated code (`gen_log_legal_trans_causal`, `gen_recovery_pending`,
`gen_times_sorted`, `gen_S_add_I`, `gen_last_row_counts`).
Here `gen_run_refines` ("forward") starts from a run of the MODEL and `gen_run_refines_back` from a run of the generated code — the
opposite of C11b / C13b.
-/
open GenFSIS GenFS FastSIS

namespace C02d

/-- **forward** (from the MODEL's run; in C11b / C13b the theorem of this name starts from the generated run): every
successful run of the model is a run of the generated code on the same tape, with the same
remaining tape and call trace, ending in a related state (`RelOut`: statuses, recovery times, queue, the `times` / `S` /
`I` rows after the final `[len(initial_infecteds):]`, transmissions, infection / recovery time dictionaries) -/
theorem gen_run_refines (A : FArgs) (P : FSParams) (hA : Agree A P) (infs : List Node) (fuel : Nat) (ts ts' : TapeSt)
    (s : FSState) (hr : FastSIS.run P infs fuel ts = .ok (s, ts')) :
    ∃ σ, GenFSIS.run A infs fuel ts = .ok (σ, ts') ∧ RelOut A P infs.length σ s :=
  GenFS.gen_run_refines A P hA infs fuel ts ts' s hr

/-- **backward**: every successful run of the generated code is a run of the model (in particular `IndexError` from
`S[-1]`, `I[-1]` or `heappop` cannot occur) -/
theorem gen_run_refines_back (A : FArgs) (P : FSParams) (hA : Agree A P) (infs : List Node) (fuel : Nat)
    (ts ts' : TapeSt) (σ : Loc) (hr : GenFSIS.run A infs fuel ts = .ok (σ, ts')) :
    ∃ s, FastSIS.run P infs fuel ts = .ok (s, ts') ∧ RelOut A P infs.length σ s := by
  have := run_sim_out A P hA infs fuel ts
  rw [hr] at this
  exact this.bwd rfl

/-- the generated code and the model raise the same exceptions on the same tapes -/
theorem gen_run_error_iff (A : FArgs) (P : FSParams) (hA : Agree A P) (infs : List Node) (fuel : Nat) (ts : TapeSt)
    (e : String) : GenFSIS.run A infs fuel ts = .error e ↔ FastSIS.run P infs fuel ts = .error e :=
  GenFS.gen_run_error_iff A P hA infs fuel ts e

/-- the rows / dictionaries / statuses of a returned generated state are those of the chronological change log `log`
(`n` = number of initial infections, whose rows `fast_SIS` drops) -/
structure Explains (A : FArgs) (n : Nat) (σ : Loc) (log : List (Rat × Node × Bool)) : Prop where
  times : σ.times = (some A.tmin :: log.map (fun e => (some e.1 : ERat))).drop n
  I : σ.I = ((List.range (log.length + 1)).map (fun k => netI (log.take k))).drop n
  S : σ.S = ((List.range (log.length + 1)).map (fun k => (A.order : Int) - netI (log.take k))).drop n
  infect : ∀ u, alGet σ.infection_times [] u =
    (log.filter (fun e => e.2.1 == u && e.2.2 == true)).map (fun e => (some e.1 : ERat))
  recov : ∀ u, alGet σ.recovery_times [] u =
    (log.filter (fun e => e.2.1 == u && e.2.2 == false)).map (fun e => (some e.1 : ERat))
  status : ∀ u, σ.status u = if statusAfter log log.length u then St.I else St.S

theorem explains_of_relOut {A : FArgs} {P : FSParams} (hA : Agree A P) {infs : List Node} {now : Rat} {σ : Loc}
    {s : FSState} (h : RelOut A P infs.length σ s) (hI : Inv P infs now s) :
    Explains A infs.length σ s.log.reverse where
  times := by rw [h.times, hA.tmin]
  I := by rw [h.I, List.length_reverse]
  S := by rw [h.S, List.length_reverse]
  infect := h.infect_get
  recov := h.recov_get
  status := fun u => by
    rw [h.status, hI.status u]
    have := statusAfter_eq_cur s.log [] u
    rw [List.append_nil] at this
    rw [List.length_reverse, this]

/-- **C02b transferred to the generated code**: whenever the code generated from `fast_SIS` returns, its output rows
are those of a change log made of legal SIS moves (an infection entry concerns a node that is susceptible at that
moment, a recovery entry an infectious node; times are nondecreasing within `[tmin, tmax)`), and every recorded
transmission is a transition of the chain: it goes along an edge from a node that is infectious at that moment to the
node that becomes infected then (source-less entries are the initial infections at `tmin`), one per infection entry;
every logged node is a node of the graph and the `I` rows (`netI` of the prefixes) count the infectious nodes -/
theorem gen_log_legal_trans_causal (A : FArgs) (P : FSParams) (hA : Agree A P) (infs : List Node) (h : WF P infs)
    (fuel : Nat) (ts ts' : TapeSt) (hts : TapeNonneg ts) (σ : Loc)
    (hr : GenFSIS.run A infs fuel ts = .ok (σ, ts')) :
    ∃ log : List (Rat × Node × Bool), Explains A infs.length σ log ∧
      (∀ (k : Nat) (e : Rat × Node × Bool), log[k]? = some e →
        statusAfter log k e.2.1 = !e.2.2 ∧ A.tmin ≤ e.1 ∧ ERat.lt (some e.1) A.tmax = true) ∧
      (log.map (·.1)).Pairwise (· ≤ ·) ∧
      σ.transmissions.length = (log.filter fun e => e.2.2).length ∧
      (∀ (i : Nat) (e : ERat × Option Node × Node), σ.transmissions[i]? = some e →
        ∃ (r : Rat) (k : Nat), e.1 = some r ∧ log[k]? = some (r, e.2.2, true) ∧
          (match e.2.1 with
           | none => e.2.2 ∈ infs ∧ r = A.tmin
           | some u => e.2.2 ∈ A.nbrs u ∧ statusAfter log k u = true)) ∧
      (∀ e ∈ log, e.2.1 ∈ P.nodes) ∧
      ∀ k, k ≤ log.length → netI (log.take k) = ((P.nodes.filter (fun u => statusAfter log k u)).length : Int) := by
  obtain ⟨s, hs, hrel⟩ := gen_run_refines_back A P hA infs fuel ts ts' σ hr
  obtain ⟨now, hI, _⟩ := run_inv P infs h.horizon fuel ts ts' hts s hs
  obtain ⟨hl1, hl2⟩ := log_legal P infs h fuel ts ts' hts s hs
  obtain ⟨ht1, ht2⟩ := trans_causal P infs h fuel ts ts' hts s hs
  have hnodes : ∀ e ∈ s.log.reverse, e.2.1 ∈ P.nodes := fun e he =>
    run_log_nodes P infs h fuel ts ts' hts s hs e (List.mem_reverse.1 he)
  refine ⟨s.log.reverse, explains_of_relOut hA hrel hI, ?_, hl2, ?_, ?_, hnodes,
    fun k hk => netI_take_eq_count P s.log hI.legal P.nodes h.nodup hnodes k hk⟩
  · intro k e he
    obtain ⟨h1, h2, h3⟩ := hl1 k e he
    refine ⟨h1, by rw [hA.tmin]; exact h2, ?_⟩
    rw [hA.tmax, ERat.lt_some_some]; exact decide_eq_true h3
  · rw [hrel.trans, List.length_map]; exact ht1
  · intro i e he
    rw [hrel.trans, List.getElem?_map] at he
    cases he0 : s.trans.reverse[i]? with
    | none => rw [he0] at he; cases he
    | some e0 =>
      rw [he0] at he
      simp only [Option.map_some, Option.some.injEq] at he
      subst he
      obtain ⟨k, hk, hm⟩ := ht2 i e0 he0
      refine ⟨e0.1, k, rfl, hk, ?_⟩
      rw [hA.tmin, hA.nbrs]
      exact hm

/-- **recoveries**: when the generated code returns, its queue is empty and no infectious node has a recovery time
before `tmax` (every drawn recovery before the horizon has been carried out) -/
theorem gen_recovery_pending (A : FArgs) (P : FSParams) (hA : Agree A P) (infs : List Node) (h : WF P infs)
    (fuel : Nat) (ts ts' : TapeSt) (hts : TapeNonneg ts) (σ : Loc)
    (hr : GenFSIS.run A infs fuel ts = .ok (σ, ts')) :
    σ.Q.q = [] ∧ ∀ u, σ.status u = St.I → ERat.lt (σ.rec_time u) A.tmax = false := by
  obtain ⟨s, hs, hrel⟩ := gen_run_refines_back A P hA infs fuel ts ts' σ hr
  obtain ⟨hq, hrec⟩ := recovery_pending P infs h fuel ts ts' hts s hs
  constructor
  · exact hrel.queue.rep.nil_iff.2 hq
  · intro u hu
    rw [hrel.rec_time, hA.tmax]
    apply hrec
    have := hrel.status u
    rw [hu] at this
    cases hi : s.inf u with
    | true => rfl
    | false => rw [hi] at this; cases this

/-- the `times` output is nondecreasing and lies in `[tmin, tmax)` -/
theorem gen_times_sorted (A : FArgs) (P : FSParams) (hA : Agree A P) (infs : List Node) (h : WF P infs)
    (fuel : Nat) (ts ts' : TapeSt) (hts : TapeNonneg ts) (σ : Loc)
    (hr : GenFSIS.run A infs fuel ts = .ok (σ, ts')) :
    σ.times.Pairwise (fun a b => ERat.le a b = true) ∧
    ∀ t ∈ σ.times, ∃ r, t = some r ∧ A.tmin ≤ r ∧ ERat.lt (some r) A.tmax = true := by
  obtain ⟨log, hE, hl1, hl2, -, -, -, -⟩ := gen_log_legal_trans_causal A P hA infs h fuel ts ts' hts σ hr
  have hmem : ∀ e ∈ log, A.tmin ≤ e.1 ∧ ERat.lt (some e.1) A.tmax = true := by
    intro e he
    obtain ⟨k, hk⟩ := List.getElem?_of_mem he
    exact (hl1 k e hk).2
  have hfull : (some A.tmin :: log.map (fun e => (some e.1 : ERat))).Pairwise (fun a b => ERat.le a b = true) := by
    rw [List.pairwise_cons]
    constructor
    · intro b hb
      obtain ⟨e, he, rfl⟩ := List.mem_map.1 hb
      simpa [ERat.le] using (hmem e he).1
    · rw [List.pairwise_map] at hl2 ⊢
      exact hl2.imp (fun {a b} hab => by simpa [ERat.le] using hab)
  constructor
  · rw [hE.times]
    exact hfull.sublist (List.drop_sublist _ _)
  · intro t ht
    rw [hE.times] at ht
    have ht' := List.mem_of_mem_drop ht
    rcases List.mem_cons.1 ht' with rfl | ht'
    · refine ⟨A.tmin, rfl, le_refl _, ?_⟩
      rw [hA.tmax, hA.tmin, ERat.lt_some_some]; exact decide_eq_true h.horizon
    · obtain ⟨e, he, rfl⟩ := List.mem_map.1 ht'
      exact ⟨e.1, rfl, hmem e he⟩

/-- the population is conserved in the output rows: `S[k] = N - I[k]` (no hypothesis on the graph or the tape) -/
theorem gen_S_add_I (A : FArgs) (P : FSParams) (hA : Agree A P) (infs : List Node) (fuel : Nat) (ts ts' : TapeSt)
    (σ : Loc) (hr : GenFSIS.run A infs fuel ts = .ok (σ, ts')) :
    σ.S = σ.I.map (fun i => (A.order : Int) - i) ∧ σ.times.length = σ.I.length := by
  obtain ⟨s, hs, hrel⟩ := gen_run_refines_back A P hA infs fuel ts ts' σ hr
  constructor
  · rw [hrel.S, hrel.I, List.map_drop, List.map_map]; rfl
  · rw [hrel.times, hrel.I]
    simp only [List.length_drop, List.length_cons, List.length_map, List.length_reverse, List.length_range]

/-- the last `I` row is the number of nodes whose returned status is `I`, the last `S` row the number of the others -/
theorem gen_last_row_counts (A : FArgs) (P : FSParams) (hA : Agree A P) (infs : List Node) (h : WF P infs)
    (fuel : Nat) (ts ts' : TapeSt) (hts : TapeNonneg ts) (σ : Loc)
    (hr : GenFSIS.run A infs fuel ts = .ok (σ, ts')) :
    (∀ i, σ.I.getLast? = some i → i = ((P.nodes.filter (fun u => σ.status u = St.I)).length : Int)) ∧
    (∀ j, σ.S.getLast? = some j → j = ((P.nodes.filter (fun u => σ.status u = St.S)).length : Int)) := by
  obtain ⟨log, hE, -, -, -, -, -, hcount⟩ := gen_log_legal_trans_causal A P hA infs h fuel ts ts' hts σ hr
  have hc := hcount log.length (le_refl _)
  rw [List.take_length] at hc
  have hfI : P.nodes.filter (fun u => σ.status u = St.I) = P.nodes.filter (fun u => statusAfter log log.length u) := by
    apply List.filter_congr
    intro u _
    rw [hE.status u]
    cases statusAfter log log.length u <;> simp
  have hfS : P.nodes.filter (fun u => σ.status u = St.S) =
      P.nodes.filter (fun u => !statusAfter log log.length u) := by
    apply List.filter_congr
    intro u _
    rw [hE.status u]
    cases statusAfter log log.length u <;> simp
  have hlen : ((P.nodes.filter (fun u => !statusAfter log log.length u)).length : Int) =
      (A.order : Int) - (P.nodes.filter (fun u => statusAfter log log.length u)).length := by
    have := List.length_eq_length_filter_add (l := P.nodes) (fun u => statusAfter log log.length u)
    rw [hA.order]
    omega
  have hlastI : ∀ i, σ.I.getLast? = some i → i = netI log := by
    intro i hi
    rw [hE.I, List.getLast?_drop] at hi
    split at hi
    · cases hi
    · simpa [List.getLast?_range] using hi.symm
  have hlastS : ∀ j, σ.S.getLast? = some j → j = (A.order : Int) - netI log := by
    intro j hj
    rw [hE.S, List.getLast?_drop] at hj
    split at hj
    · cases hj
    · simpa [List.getLast?_range] using hj.symm
  constructor
  · intro i hi
    rw [hlastI i hi, hc, hfI]
  · intro j hj
    rw [hlastS j hj, hc, hfS, hlen]

/-! ### non-vacuity 1: the run of `Props/C02b.lean` (path `0 – 1 – 2`, unit rates, horizon `[0, 10)`, node 0 initially
infected, 20 draws) on the generated code -/

def exA : FArgs :=
  { nbrs := exNbrs, order := 3, tmin := 0, tmax := some 10, transRate := fun _ _ => 1, recRate := fun _ => 1 }

theorem exA_agree : Agree exA exP := ⟨rfl, rfl, rfl, rfl, rfl, rfl⟩

/-- the generated code evaluates to the expected rows and consumes the whole tape -/
example : (match GenFSIS.run exA [0] 30 exTape with
    | .ok (σ, ts) =>
      σ.times == [some 0, some 1, some (3 / 2), some 2, some (5 / 2), some 3, some 4, some 5, some 6, some (13 / 2),
        some (15 / 2), some (17 / 2)]
      && σ.S == [2, 1, 0, 1, 0, 1, 0, 1, 0, 1, 0, 1]
      && σ.I == [1, 2, 3, 2, 3, 2, 3, 2, 3, 2, 3, 2]
      && σ.transmissions == [(some 0, none, 0), (some 1, some 0, 1), (some (3 / 2), some 1, 2), (some (5 / 2), some 0, 1),
        (some 4, some 1, 0), (some 6, some 1, 0), (some (15 / 2), some 1, 2)]
      && σ.Q.q.isEmpty && ts.tape.isEmpty
      && [0, 1, 2].map σ.status == [St.I, St.I, St.S]
      && [0, 1, 2].map σ.rec_time == [some 26, some (21 / 2), some (17 / 2)]
      && σ.infection_times == [(0, [some 0, some 4, some 6]), (1, [some 1, some (5 / 2)]), (2, [some (3 / 2), some (15 / 2)])]
      && σ.recovery_times == [(1, [some 2]), (0, [some 3, some 5]), (2, [some (13 / 2), some (17 / 2)])]
    | .error _ => false) = true := by decide +kernel

/-- the hypotheses of the refinement and of the transferred theorems hold for this run -/
example : ∃ σ ts', GenFSIS.run exA [0] 30 exTape = .ok (σ, ts') ∧
    (∃ s, FastSIS.run exP [0] 30 exTape = .ok (s, ts') ∧ RelOut exA exP 1 σ s) ∧
    σ.Q.q = [] ∧ (∀ u, σ.status u = St.I → ERat.lt (σ.rec_time u) exA.tmax = false) ∧
    σ.times.Pairwise (fun a b => ERat.le a b = true) ∧ σ.S = σ.I.map (fun i => (3 : Int) - i) := by
  obtain ⟨s, ts', hs⟩ := FastSIS.exRun_ok
  obtain ⟨σ, hr, hrel⟩ := gen_run_refines exA exP exA_agree [0] 30 exTape ts' s hs
  obtain ⟨h1, h2⟩ := gen_recovery_pending exA exP exA_agree [0] exP_wf 30 exTape ts' exTape_nonneg σ hr
  exact ⟨σ, ts', hr, ⟨s, hs, hrel⟩, h1, h2,
    (gen_times_sorted exA exP exA_agree [0] exP_wf 30 exTape ts' exTape_nonneg σ hr).1,
    (gen_S_add_I exA exP exA_agree [0] 30 exTape ts' σ hr).1⟩

/-- forward direction on this run: the model run of C02b yields the generated run -/
example : ∃ s σ ts', FastSIS.run exP [0] 30 exTape = .ok (s, ts') ∧ GenFSIS.run exA [0] 30 exTape = .ok (σ, ts') ∧
    RelOut exA exP 1 σ s := by
  obtain ⟨s, ts', hs⟩ := FastSIS.exRun_ok
  obtain ⟨σ, h1, h2⟩ := gen_run_refines exA exP exA_agree [0] 30 exTape ts' s hs
  exact ⟨s, σ, ts', hs, h1, h2⟩

/-! ### non-vacuity 2: a triangle with unequal transmission rates, a node that never recovers (recovery rate 0, recovery
time `inf`), horizon `[1, 4)`, initial infections `[0, 0, 1]` (with a repetition: the second event for node 0 is
ignored, but `len(initial_infecteds) = 3` rows are dropped, so the first returned row is not the `tmin` row), a tie
between two recoveries at time 3, and a tape that is not exhausted -/

def triNbrs : Node → List Node
  | 0 => [1, 2]
  | 1 => [0, 2]
  | 2 => [0, 1]
  | _ => []

def triA : FArgs :=
  { nbrs := triNbrs, order := 3, tmin := 1, tmax := some 4, transRate := fun u v => if u + v = 1 then 2 else 1,
    recRate := fun u => if u = 2 then 0 else 1 }

def triP : FSParams :=
  { nodes := [0, 1, 2], nbrs := triNbrs, transRate := fun u v => if u + v = 1 then 2 else 1,
    recRate := fun u => if u = 2 then 0 else 1, tmin := 1, tmax := 4 }

def triTape : TapeSt :=
  { tape := [1, 1/2, 1/2, 2, 1/4, 3, 1/2, 1, 1/3, 1, 1/2, 5, 1, 1/4, 2, 1, 1, 1/8, 1, 1, 1, 1, 1, 1].map Draw.expo }

theorem triA_agree : Agree triA triP := ⟨rfl, rfl, rfl, rfl, rfl, rfl⟩

theorem triP_wf : WF triP [0, 0, 1] where
  nodup := by decide
  nbr_mem := by decide
  symm := by
    intro u
    match u with
    | 0 | 1 | 2 => decide
    | _ + 3 => exact fun v h => nomatch h
  noloop := by
    intro u
    match u with
    | 0 | 1 | 2 => decide
    | _ + 3 => exact fun h => nomatch h
  rates := ⟨fun u v => by simp only [triP]; split <;> decide +kernel, fun u => by simp only [triP]; split <;> decide +kernel⟩
  infs_mem := by decide
  horizon := by decide +kernel

theorem triTape_nonneg : TapeNonneg triTape := tapeNonneg_of_all _ (by decide +kernel)

example : (match GenFSIS.run triA [0, 0, 1] 40 triTape with
    | .ok (σ, ts) =>
      σ.times == [some (3 / 2), some 2, some (5 / 2), some 3, some 3]
      && σ.S == [0, 1, 0, 1, 2]
      && σ.I == [3, 2, 3, 2, 1]
      && σ.transmissions == [(some 1, none, 0), (some 1, none, 1), (some (3 / 2), some 0, 2), (some (5 / 2), some 2, 0)]
      && σ.Q.q.isEmpty && ts.tape.length == 12
      && [0, 1, 2].map σ.status == [St.S, St.S, St.I]
      && [0, 1, 2].map σ.rec_time == [some 3, some 3, none]
      && σ.infection_times == [(0, [some 1, some (5 / 2)]), (1, [some 1]), (2, [some (3 / 2)])]
      && σ.recovery_times == [(0, [some 2, some 3]), (1, [some 3])]
    | .error _ => false) = true := by decide +kernel

example : ∃ σ ts', GenFSIS.run triA [0, 0, 1] 40 triTape = .ok (σ, ts') ∧
    (∃ s, FastSIS.run triP [0, 0, 1] 40 triTape = .ok (s, ts') ∧ RelOut triA triP 3 σ s) ∧
    σ.Q.q = [] ∧ (∀ u, σ.status u = St.I → ERat.lt (σ.rec_time u) triA.tmax = false) ∧
    ∃ log, Explains triA 3 σ log ∧ (log.map (·.1)).Pairwise (· ≤ ·) := by
  cases hr : GenFSIS.run triA [0, 0, 1] 40 triTape with
  | error e =>
    have : (match GenFSIS.run triA [0, 0, 1] 40 triTape with | .ok _ => true | .error _ => false) = true := by
      decide +kernel
    rw [hr] at this; cases this
  | ok p =>
    obtain ⟨σ, ts'⟩ := p
    obtain ⟨h1, h2⟩ := gen_recovery_pending triA triP triA_agree _ triP_wf 40 triTape ts' triTape_nonneg σ hr
    obtain ⟨log, hE, _, hs, _⟩ :=
      gen_log_legal_trans_causal triA triP triA_agree _ triP_wf 40 triTape ts' triTape_nonneg σ hr
    exact ⟨σ, ts', rfl, gen_run_refines_back triA triP triA_agree _ 40 triTape ts' σ hr, h1, h2, log, hE, hs⟩

/-! ### non-vacuity 3: exceptions — a negative recovery rate raises `EoNError`, a short tape runs out, in both -/

example : (match GenFSIS.run { exA with recRate := fun _ => -1 } [0] 30 exTape,
      FastSIS.run { exP with recRate := fun _ => -1 } [0] 30 exTape with
    | .error e, .error e' => e == "EoNError" && e' == "EoNError"
    | _, _ => false) = true := by decide +kernel

example : (match GenFSIS.run exA [0] 30 { tape := [Draw.expo 3, Draw.expo 1] },
      FastSIS.run exP [0] 30 { tape := [Draw.expo 3, Draw.expo 1] } with
    | .error e, .error e' => e == "tape-exhausted" && e' == "tape-exhausted"
    | _, _ => false) = true := by decide +kernel

end C02d
