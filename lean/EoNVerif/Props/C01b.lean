import EoNVerif.Model.FastSIRLaw
import EoNVerif.Proofs.FastSIRLaw
/-!
C01b — the sampling identity behind the unweighted (`constant tau`) path of `fast_SIR`
(`/repo/EoN/simulation.py`, `_trans_and_rec_time_Markovian_const_trans_`, which `fast_SIR` installs as
`trans_and_rec_time_fxn` when `transmission_weight` is `None`).

For a newly infected `node` with susceptible neighbours `sus_neighbors` (= `l`, a duplicate-free list) the code
draws `duration`, puts `q = trans_prob = 1-exp(-tau*duration)` and then

* `number_to_infect = np.random.binomial(len(sus_neighbors), trans_prob)`   — `binomialDist |l| q`
* `transmission_recipients = random.sample(sus_neighbors, number_to_infect)` — `sampleDist l k` /
  `orderedSampleDist l k`

instead of one `random.random() < q` test per neighbour.  The theorems below say that, conditionally on
`duration` (i.e. for every value of `q`), the **set of recipients has exactly the same law** as under independent
Bernoulli(`q`) tests (`indepDist l q`, the `percolateDist` of C12).

`q` is an arbitrary rational here: the identities are polynomial identities in `q`, so they hold in particular
for every real value of `1-exp(-tau*duration)` approximated by the floats (no `0 ≤ q ≤ 1` needed for the
equalities; `binomialPmf_nonneg` records non-negativity of the weights when `0 ≤ q ≤ 1`).
The real-analysis half (law of the delays, `_truncated_exponential_`) is in `Props/C01c.lean`.
-/
namespace FastSIRLaw
variable {α : Type} [DecidableEq α]

/-- **`np.random.binomial` is what it should be**: `binomialDist n q` (the model of `number_to_infect`) puts on `k` the mass
`C(n,k) q^k (1-q)^(n-k)` -/
theorem binomial_pmf (n : Nat) (q : Rat) (k : Nat) (hk : k ≤ n) :
    Dist.mass (binomialDist n q) (fun j => j == k) = (Nat.choose n k : Rat) * q ^ k * (1 - q) ^ (n - k) := by
  rw [mass_binomialDist, if_pos hk, binomialPmf, rpow_eq, rpow_eq, choose_eq]

/-- `binomialDist n q` is the law of the number of successes among `n` independent `random.random() < q` tests -/
theorem binomial_is_success_count (n : Nat) (q : Rat) (k : Nat) (hk : k ≤ n) :
    Dist.mass (binomialDist n q) (fun j => j == k) = Dist.mass (successCount q n) (fun c => c == k) := by
  rw [mass_binomialDist, if_pos hk, successCount_law]

/-- the binomial weights add up to one (binomial theorem) -/
theorem binomial_total (n : Nat) (q : Rat) : Dist.mass (binomialDist n q) (fun _ => true) = 1 := by
  simp only [binomialDist, Dist.mass, List.map_map, Function.comp_def, if_true]
  exact binomialPmf_sum n q

/-- the binomial weights are non-negative for `0 ≤ q ≤ 1` -/
theorem binomial_nonneg (n : Nat) (q : Rat) (h0 : 0 ≤ q) (h1 : q ≤ 1) :
    ∀ x ∈ binomialDist n q, 0 ≤ x.2 := by
  intro x hx
  simp only [binomialDist, List.mem_map] at hx
  obtain ⟨k, _, rfl⟩ := hx
  exact binomialPmf_nonneg n q h0 h1 k

/-- **`random.sample(l, k)` as a set is uniform on the `C(|l|,k)` subsets of size `k`**: the sublist of `l`
selected by `keep` has mass `1/C(|l|,k)` if it has `k` elements and `0` otherwise; this holds for the ordered
sampling procedure of CPython's `random.sample` (successive uniform picks without replacement) after forgetting
the order. -/
theorem sample_uniform (l : List α) (hn : l.Nodup) (keep : α → Bool) (k : Nat) :
    Dist.mass (Dist.push (asSublist l) (orderedSampleDist l k)) (fun s => s == l.filter keep)
      = if k = (l.filter keep).length then 1 / (Nat.choose l.length k : Rat) else 0 := by
  rw [ordered_eq_sample l hn keep k, mass_sampleDist l hn keep k, choose_eq]

omit [DecidableEq α] in
/-- `random.sample(l,k)` returns something (total mass one) whenever `k ≤ len(l)` — which `np.random.binomial`
guarantees -/
theorem sample_total (l : List α) (k : Nat) (hk : k ≤ l.length) :
    Dist.mass (orderedSampleDist l k) (fun _ => true) = 1 :=
  ordered_total k l hk

/-- **C01b, the sampling identity**: drawing `number_to_infect ~ Binomial(n, q)` and then
`random.sample(sus_neighbors, number_to_infect)` selects the set of neighbours marked by `keep` with probability
`q^|A| (1-q)^(n-|A|)` — the product formula of `n` independent Bernoulli(`q`) transmissions
(right-hand side of `Discrete.percolate_edge_law`, C12). -/
theorem recipients_law (l : List α) (hn : l.Nodup) (q : Rat) (keep : α → Bool) :
    Dist.mass (recipientsDist l q) (fun s => s == l.filter keep) =
      q ^ (l.filter keep).length * (1 - q) ^ (l.length - (l.filter keep).length) := by
  have hle : (l.filter keep).length ≤ l.length := List.length_filter_le _ _
  have hc : (0 : Rat) < (choose l.length (l.filter keep).length : Rat) := by exact_mod_cast choose_pos hle
  simp only [recipientsDist, binomialDist, Dist.mass_bind, List.map_map, Function.comp_def]
  rw [sumRat_map_congr _ _ (fun j => (binomialPmf l.length q j * (1 / (choose l.length j : Rat))) *
      (if j = (l.filter keep).length then 1 else 0))]
  · rw [sumRat_indicator _ _ _ List.nodup_range (List.mem_range.mpr (Nat.lt_succ_of_le hle))]
    simp only [binomialPmf, rpow_eq]
    rw [mul_one_div, mul_assoc, mul_div_cancel_left₀ _ hc.ne']
  · intro j _
    rw [mass_sampleDist l hn keep j]
    split <;> simp

/-- the same, with the ordered sampler of `random.sample` and the order forgotten afterwards -/
theorem recipientsOrd_law (l : List α) (hn : l.Nodup) (q : Rat) (keep : α → Bool) :
    Dist.mass (recipientsOrdDist l q) (fun s => s == l.filter keep) =
      q ^ (l.filter keep).length * (1 - q) ^ (l.length - (l.filter keep).length) := by
  rw [← recipients_law l hn q keep]
  simp only [recipientsOrdDist, recipientsDist, Dist.mass_bind]
  apply sumRat_map_congr
  intro c _
  rw [ordered_eq_sample l hn keep]

omit [DecidableEq α] in
/-- the procedure always produces a recipient set: total mass one (no `ValueError` from `random.sample`, no
lost mass) -/
theorem recipients_total (l : List α) (q : Rat) : Dist.mass (recipientsDist l q) (fun _ => true) = 1 := by
  simp only [recipientsDist, binomialDist, Dist.mass_bind, List.map_map, Function.comp_def]
  rw [sumRat_map_congr _ _ (binomialPmf l.length q)]
  · exact binomialPmf_sum _ q
  · intro j hj
    rw [mass_sampleDist_total l j (Nat.le_of_lt_succ (List.mem_range.mp hj)), mul_one]

theorem recipientsOrd_total (l : List α) (q : Rat) : Dist.mass (recipientsOrdDist l q) (fun _ => true) = 1 := by
  simp only [recipientsOrdDist, binomialDist, Dist.mass_bind, List.map_map, Function.comp_def]
  rw [sumRat_map_congr _ _ (binomialPmf l.length q)]
  · exact binomialPmf_sum _ q
  · intro j hj
    rw [Dist.mass_push, ordered_total j l (Nat.le_of_lt_succ (List.mem_range.mp hj)), mul_one]

/-- **C01b, equality in law**: *every* event about the set of recipients has the same probability under the
code's "binomial number, then uniform sample" and under "each neighbour independently with probability
`trans_prob`".  So `fast_SIR`'s constant-`tau` shortcut does not change the law of who receives a
transmission from `node`. -/
theorem recipients_eq_indep (l : List α) (hn : l.Nodup) (q : Rat) (P : List α → Bool) :
    Dist.mass (recipientsDist l q) P = Dist.mass (indepDist l q) P :=
  mass_eq_of_filter_law hn _ _ (recipients_support l q)
    (fun x hx => List.mem_sublists.2 (Discrete.percolate_support' q l x.1 ⟨x.2, hx⟩))
    (fun keep => (recipients_law l hn q keep).trans (Discrete.percolate_edge_law' q l hn keep).symm) P

theorem recipientsOrd_eq_indep (l : List α) (hn : l.Nodup) (q : Rat) (P : List α → Bool) :
    Dist.mass (recipientsOrdDist l q) P = Dist.mass (indepDist l q) P :=
  (mass_eq_of_filter_law hn _ _ (recipientsOrd_support l q) (recipients_support l q)
    (fun keep => (recipientsOrd_law l hn q keep).trans (recipients_law l hn q keep).symm) P).trans
    (recipients_eq_indep l hn q P)

/-! ### concrete instances (the hypotheses are satisfiable, the statements are not vacuous) -/

/-- three neighbours `1,2,3`, `q = 1/3`: the recipient set `{1,3}` has probability `(1/3)^2 (2/3) = 2/27`;
checked both by evaluating the model in the kernel and by instantiating the theorem -/
example : Dist.mass (recipientsDist [1, 2, 3] (1 / 3 : Rat)) (fun s => s == [1, 3]) = 2 / 27 := by decide +kernel
example : Dist.mass (recipientsOrdDist [1, 2, 3] (1 / 3 : Rat)) (fun s => s == [1, 3]) = 2 / 27 := by
  decide +kernel
example : Dist.mass (indepDist [1, 2, 3] (1 / 3 : Rat)) (fun s => s == [1, 3]) = 2 / 27 := by decide +kernel
example : Dist.mass (recipientsDist [1, 2, 3] (1 / 3 : Rat)) (fun s => s == [1, 3])
    = (1 / 3 : Rat) ^ 2 * (1 - 1 / 3) ^ (3 - 2) :=
  -- `hn` first: while that argument is pending, `[1, 3]` is not recognised as the filtered list, and the two sides
  -- are compared by evaluating them
  have hn : [1, 2, 3].Nodup := by decide
  recipients_law [1, 2, 3] hn (1 / 3) (fun x => x != 2)
example : Dist.mass (recipientsOrdDist [1, 2, 3] (1 / 3 : Rat)) (fun s => s == [1, 3])
    = (1 / 3 : Rat) ^ 2 * (1 - 1 / 3) ^ (3 - 2) :=
  have hn : [1, 2, 3].Nodup := by decide
  recipientsOrd_law [1, 2, 3] hn (1 / 3) (fun x => x != 2)
example : Dist.mass (recipientsDist [1, 2, 3] (1 / 3 : Rat)) (fun s => s.length == 2)
    = Dist.mass (indepDist [1, 2, 3] (1 / 3 : Rat)) (fun s => s.length == 2) :=
  recipients_eq_indep [1, 2, 3] (by decide) (1 / 3) _
example : Dist.mass (recipientsDist [1, 2, 3] (1 / 3 : Rat)) (fun s => s.length == 2) = 2 / 9 := by decide +kernel
example : Dist.mass (binomialDist 4 (1 / 3 : Rat)) (fun j => j == 2) = 8 / 27 := by decide +kernel
example : Dist.mass (binomialDist 4 (1 / 3 : Rat)) (fun j => j == 2)
    = (Nat.choose 4 2 : Rat) * (1 / 3) ^ 2 * (1 - 1 / 3) ^ (4 - 2) := binomial_pmf 4 (1 / 3) 2 (by decide)
example : Dist.mass (Dist.push (asSublist [1, 2, 3, 4]) (orderedSampleDist [1, 2, 3, 4] 2)) (fun s => s == [2, 4])
    = 1 / 6 := by decide +kernel
example : Dist.mass (Dist.push (asSublist [1, 2, 3, 4]) (orderedSampleDist [1, 2, 3, 4] 2)) (fun s => s == [2, 4])
    = if 2 = 2 then 1 / (Nat.choose 4 2 : Rat) else 0 :=
  have hn : [1, 2, 3, 4].Nodup := by decide
  sample_uniform [1, 2, 3, 4] hn (fun x => x % 2 == 0) 2

end FastSIRLaw
