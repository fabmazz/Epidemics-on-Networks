import EoNVerif.Proofs.FastSIRLaw2
/-!
C01c — the law of the transmission delays on the constant-`tau` path of `fast_SIR`
(`/repo/EoN/simulation.py`: `_truncated_exponential_`, called by
`_trans_and_rec_time_Markovian_const_trans_` as `trans_delay[v] = _truncated_exponential_(tau, duration)` for every
recipient `v`).

Claim: given that `node` transmits to `v` before it recovers, the delay has the Exp(`tau`) law
conditioned on being `< duration`, whose distribution function on `[0,T)` (`T = duration`, `r = tau`) is
`truncCdf r T s = (1 - exp(-r s)) / (1 - exp(-r T))`  (`= P(X ≤ s) / P(X ≤ T)` for `X ~ Exp(r)`, see
`expovariate_cdf`).

**What the source really computes**:
```
t = random.expovariate(rate);  L = int(t/T);  return t - L*T
```
an Exp(`rate`) draw reduced modulo `T` (`truncExp`), *not* the inverse-CDF expression
`-log(1 - random.random()*(1 - exp(-rate*T)))/rate` (`invCdfTruncExp`).  The theorems show that the two samplers
have the same distribution function, namely `truncCdf`:
for the source, the set of uniform draws `u ∈ [0,1)` giving a delay `≤ s` is the disjoint union of the intervals
`[1 - exp(-r kT), 1 - exp(-r (kT+s))]`, `k = 0,1,2,…`, whose lengths form a geometric series with sum
`truncCdf r T s`.

Randomness is modelled by the uniform draw `u = random.random() ∈ [0,1)` with Lebesgue measure; real numbers stand
for the floats (rounding is not modelled).  Together with C01b (`Props/C01b.lean`, who receives a transmission)
this is the sampling identity behind `_trans_and_rec_time_Markovian_const_trans_`.

Note: this file imports nothing from the project besides `Proofs/FastSIRLaw2.lean`, which imports only Mathlib: Mathlib's analysis
library declares a class `Dist`, which clashes with the project's `Dist` (`EoNVerif/Rand/Dist.lean`), so C01c
cannot be imported into the same environment as the `Dist`-based files (do not add it to `EoNVerif/Props.lean`;
check it on its own with `lake env lean EoNVerif/Props/C01c.lean` / `lake build EoNVerif.Props.C01c`).
-/
namespace FastSIRLaw
open MeasureTheory

/-- `random.expovariate(r)` (`-log(1-u)/r`) has the Exp(`r`) distribution function `1 - exp(-r s)` -/
theorem expovariate_cdf {r : ℝ} (hr : 0 < r) (s : ℝ) :
    volume {u : ℝ | u ∈ Set.Ico (0 : ℝ) 1 ∧ expovariate r u ≤ s} = ENNReal.ofReal (1 - Real.exp (-r * s)) :=
  volume_unit_le (one_sub_exp_lt_one r s).le fun _ _ h1 => expovariate_le_iff hr h1 s

/-- the value returned by `_truncated_exponential_(r, T)` lies in `[0, T)`: the transmission happens
strictly before the recovery of the transmitting node -/
theorem truncExp_range {r T u : ℝ} (hr : 0 < r) (hT : 0 < T) (h0 : 0 ≤ u) (h1 : u < 1) :
    0 ≤ truncExp r T u ∧ truncExp r T u < T :=
  reduceMod_range hT (expovariate_nonneg hr h0 h1)

/-- the event "delay `≤ s`" in terms of the uniform draw: `u` lies in one of the intervals
`[1 - exp(-r kT), 1 - exp(-r (kT+s))]` -/
theorem truncExp_le_iff {r T u : ℝ} (hr : 0 < r) (hT : 0 < T) (h0 : 0 ≤ u) (h1 : u < 1) (s : ℝ) :
    truncExp r T u ≤ s ↔
      ∃ k : ℕ, 1 - Real.exp (-r * ((k : ℝ) * T)) ≤ u ∧ u ≤ 1 - Real.exp (-r * ((k : ℝ) * T + s)) := by
  rw [truncExp, reduceMod_le_iff hT (expovariate_nonneg hr h0 h1)]
  simp only [le_expovariate_iff hr h1, expovariate_le_iff hr h1]

/-- these intervals are pairwise disjoint (for `s < T`), and their lengths add up to `truncCdf r T s` -/
theorem truncExp_intervals {r T s : ℝ} (hr : 0 < r) (hT : 0 < T) (hs0 : 0 ≤ s) (hsT : s < T) :
    (∀ k : ℕ, 0 ≤ lo r T k ∧ lo r T k ≤ hi r T s k ∧ hi r T s k < lo r T (k + 1) ∧ hi r T s k < 1) ∧
    HasSum (fun k : ℕ => hi r T s k - lo r T k) (truncCdf r T s) :=
  ⟨fun k => ⟨lo_nonneg hr hT k, lo_le_hi hr hs0 k, hi_lt_lo_succ hr hsT k, hi_lt_one r T s k⟩,
    hasSum_lengths hr hT s⟩

theorem truncExp_event_eq {r T : ℝ} (hr : 0 < r) (hT : 0 < T) (s : ℝ) :
    {u : ℝ | u ∈ Set.Ico (0 : ℝ) 1 ∧ truncExp r T u ≤ s} = ⋃ k : ℕ, Set.Icc (lo r T k) (hi r T s k) := by
  ext u
  simp only [Set.mem_ofPred_eq, Set.mem_Ico, Set.mem_iUnion, Set.mem_Icc]
  constructor
  · rintro ⟨⟨h0, h1⟩, h⟩
    exact (truncExp_le_iff hr hT h0 h1 s).mp h
  · rintro ⟨k, hk1, hk2⟩
    have h0 : 0 ≤ u := le_trans (lo_nonneg hr hT k) hk1
    have h1 : u < 1 := lt_of_le_of_lt hk2 (hi_lt_one r T s k)
    exact ⟨⟨h0, h1⟩, (truncExp_le_iff hr hT h0 h1 s).mpr ⟨k, hk1, hk2⟩⟩

/-- **C01c**: with `u` uniform on `[0,1)`, `_truncated_exponential_(r, T)` has the distribution function of the
Exp(`r`) law conditioned on `[0,T)`: `P(delay ≤ s) = (1 - exp(-r s)) / (1 - exp(-r T))` for `0 ≤ s < T`
(and the delay is `< T` surely, `truncExp_range`). -/
theorem truncExp_cdf {r T : ℝ} (hr : 0 < r) (hT : 0 < T) {s : ℝ} (hs0 : 0 ≤ s) (hsT : s < T) :
    volume {u : ℝ | u ∈ Set.Ico (0 : ℝ) 1 ∧ truncExp r T u ≤ s}
      = ENNReal.ofReal ((1 - Real.exp (-r * s)) / (1 - Real.exp (-r * T))) := by
  have hsum := hasSum_lengths hr hT s
  rw [truncExp_event_eq hr hT s, measure_iUnion _ fun _ => measurableSet_Icc]
  · simp only [Real.volume_Icc]
    rw [← truncCdf, ← hsum.tsum_eq, ENNReal.ofReal_tsum_of_nonneg _ hsum.summable]
    exact fun k => sub_nonneg.2 (lo_le_hi hr hs0 k)
  · intro j k hjk
    rw [Function.onFun, Set.disjoint_left]
    exact fun u hj hk => hjk (interval_unique hr hT hsT hj hk)

/-- the inverse-CDF sampler `x = -log(1 - u (1 - exp(-r T)))/r` lands in `[0,T)` -/
theorem invCdf_range {r T u : ℝ} (hr : 0 < r) (hT : 0 < T) (h0 : 0 ≤ u) (h1 : u < 1) :
    0 ≤ invCdfTruncExp r T u ∧ invCdfTruncExp r T u < T := by
  have hd := one_sub_exp_pos hr hT
  have hud : u * (1 - Real.exp (-r * T)) < 1 := mul_lt_one_of_nonneg_of_lt_one_left h0 h1 (one_sub_exp_lt_one r T).le
  rw [invCdfTruncExp_eq]
  refine ⟨expovariate_nonneg hr (mul_nonneg h0 hd.le) hud, ?_⟩
  rw [← not_le, le_expovariate_iff hr hud, not_le]
  exact mul_lt_of_lt_one_left hd h1

/-- the inverse-CDF sampler `x` satisfies the inverse-CDF property `x ≤ t ↔ u ≤ (1 - exp(-r t))/(1 - exp(-r T))` -/
theorem invCdf_le_iff {r T u : ℝ} (hr : 0 < r) (hT : 0 < T) (h0 : 0 ≤ u) (h1 : u < 1) (t : ℝ) :
    invCdfTruncExp r T u ≤ t ↔ u ≤ (1 - Real.exp (-r * t)) / (1 - Real.exp (-r * T)) := by
  have hd := one_sub_exp_pos hr hT
  have hud : u * (1 - Real.exp (-r * T)) < 1 := mul_lt_one_of_nonneg_of_lt_one_left h0 h1 (one_sub_exp_lt_one r T).le
  rw [invCdfTruncExp_eq, expovariate_le_iff hr hud, le_div_iff₀ hd]

theorem invCdf_cdf {r T : ℝ} (hr : 0 < r) (hT : 0 < T) {s : ℝ} (hs0 : 0 ≤ s) (hsT : s ≤ T) :
    volume {u : ℝ | u ∈ Set.Ico (0 : ℝ) 1 ∧ invCdfTruncExp r T u ≤ s}
      = ENNReal.ofReal ((1 - Real.exp (-r * s)) / (1 - Real.exp (-r * T))) :=
  volume_unit_le (truncCdf_le_one hr hT hsT) fun _ h0 h1 => invCdf_le_iff hr hT h0 h1 s

/-- **the source's "modulo" sampler and the inverse-CDF sampler have the same law** -/
theorem truncExp_same_law {r T : ℝ} (hr : 0 < r) (hT : 0 < T) {s : ℝ} (hs0 : 0 ≤ s) (hsT : s < T) :
    volume {u : ℝ | u ∈ Set.Ico (0 : ℝ) 1 ∧ truncExp r T u ≤ s}
      = volume {u : ℝ | u ∈ Set.Ico (0 : ℝ) 1 ∧ invCdfTruncExp r T u ≤ s} := by
  rw [truncExp_cdf hr hT hs0 hsT, invCdf_cdf hr hT hs0 hsT.le]

/-- the distribution function goes from `0` at `s = 0` to `1` at `s = T`, monotonically -/
theorem truncCdf_shape {r T : ℝ} (hr : 0 < r) (hT : 0 < T) :
    truncCdf r T 0 = 0 ∧ truncCdf r T T = 1 ∧ ∀ s t, s ≤ t → truncCdf r T s ≤ truncCdf r T t :=
  ⟨truncCdf_zero r T, truncCdf_self hr hT, fun _ _ h => truncCdf_mono hr hT h⟩

example : 0 ≤ truncExp 2 3 (1 / 2) ∧ truncExp 2 3 (1 / 2) < 3 :=
  truncExp_range (by norm_num) (by norm_num) (by norm_num) (by norm_num)
example : 0 ≤ invCdfTruncExp 2 3 (1 / 2) ∧ invCdfTruncExp 2 3 (1 / 2) < 3 :=
  invCdf_range (by norm_num) (by norm_num) (by norm_num) (by norm_num)
example : volume {u : ℝ | u ∈ Set.Ico (0 : ℝ) 1 ∧ truncExp 2 3 u ≤ 1}
    = ENNReal.ofReal ((1 - Real.exp (-2 * 1)) / (1 - Real.exp (-2 * 3))) :=
  truncExp_cdf (by norm_num) (by norm_num) (by norm_num) (by norm_num)
example : invCdfTruncExp 2 3 (1 / 2) ≤ 1 ↔ (1 / 2 : ℝ) ≤ (1 - Real.exp (-2 * 1)) / (1 - Real.exp (-2 * 3)) :=
  invCdf_le_iff (by norm_num) (by norm_num) (by norm_num) (by norm_num) 1
/-- the first draw interval for `r = 1, T = 1, s = 1/2`: `u = 0` (so `t = 0`) gives delay `0 ≤ 1/2` -/
example : truncExp 1 1 0 ≤ 1 / 2 := by
  refine (truncExp_le_iff one_pos one_pos le_rfl one_pos _).2 ⟨0, ?_, ?_⟩
  · rw [Nat.cast_zero, zero_mul, one_sub_exp_zero]
  · exact one_sub_exp_nonneg one_pos (by norm_num)

end FastSIRLaw
