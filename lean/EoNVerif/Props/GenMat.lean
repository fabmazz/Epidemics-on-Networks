import EoNVerif.Proofs.GenEqMat
import EoNVerif.Props.C06b
import EoNVerif.Props.C07b
import Mathlib.Tactic.Ring
/-!
Tie by translation for the matrix-valued right-hand sides (C06 / C07 / C08).  `Gen/AnalyticMat.lean` is regenerated from
`EoN/analytic.py` on every run by `harness/pymat2lean.py`; the theorems below (lemmas in `Proofs/GenEqMat.lean`) state
that the generated `_dSIS_heterogeneous_pairwise_` and `_dSIR_heterogeneous_pairwise_`, applied to the state vector
packed the way `SIS_heterogeneous_pairwise` / `SIR_heterogeneous_pairwise` pack it, return component by component the
hand-written models `ODE.sisHetPW` / `ODE.sirHetPW` that the C06–C08 theorems are about — for every number `K` of degree
classes, every rate, every class degree and every state (no sign, non-vanishing or consistency hypothesis).

The only hypotheses are the index bounds `k < K`, `l < K`: the flat vector has no entry `(k, l)` outside them, and for
`l ≥ K` the row-major position `k*K + l` is the position of another entry (`rowmajor_needs_bound`).  The corollaries
transport facts about the models (C06b, C07b) to the generated code; the closed evaluations at the end have both
zero-denominator repairs active.
-/
namespace GenMatProps
open Gen ODE GenEqMat

/-- **Generated `_dSIS_heterogeneous_pairwise_` = `ODE.sisHetPW`.**  `packSIS K S SS SI` is the packing
`np.concatenate((Sk0[:,None], SkSl0.reshape(K²,1), SkIl0.reshape(K²,1))).T[0]` of `SIS_heterogeneous_pairwise`
(`S`, then `[S_kS_l]` row-major, then `[S_kI_l]` row-major).  The returned vector has length `K + K² + K²`; entry `k`
is `dS_k`, entry `K + (k K + l)` is `d[S_kS_l]`, entry `K + K² + (k K + l)` is `d[S_kI_l]` of the model.  The code's
`kxSk[kxSk==0] = 1` (repair of the product `Ks*Sk`) is the model's `nz (Ks l * S l)`. -/
theorem gen_sisHetPW (K : Nat) (tau gamma : Rat) (Ks Nk : Nat → Rat) (NkNl : Nat → Nat → Rat)
    (S : Nat → Rat) (SS SI : Nat → Nat → Rat) :
    let r := GenMat.dSIS_heterogeneous_pairwise (packSIS K S SS SI) ⟨K, Nk⟩ NkNl tau gamma ⟨K, Ks⟩
    let m := sisHetPW K tau gamma Ks Nk NkNl S SS SI
    r.n = K + K ^ 2 + K ^ 2 ∧
    (∀ k, k < K → r.f k = m.1 k) ∧
    ∀ k l, k < K → l < K →
      r.f (K + (k * K + l)) = m.2.1 k l ∧ r.f (K + K ^ 2 + (k * K + l)) = m.2.2 k l := by
  -- the result is packed like the argument: find the block, then read the argument inside it
  refine ⟨(Nat.add_assoc _ _ _).symm, fun k hk => (V.append_f_lt _ _ k hk).trans ?_, fun k l hk hl => ?_⟩
  · simp only [Nat.zero_add, packSIS_S, packSIS_rowsum, hk, sisHetPW]
  · refine ⟨(append_mid _ _ _ _ (rm_lt K k l hk hl)).trans ?_, (append_last _ _ _ _).trans ?_⟩ <;>
    simp only [Nat.zero_add, rm_div K k l hl, rm_mod K k l hl, packSIS_S, packSIS_SS, packSIS_SI, packSIS_rowsum,
      hk, hl, one_mul, guard_nz, sisHetPW]

/-- **Generated `_dSIR_heterogeneous_pairwise_` = `ODE.sirHetPW`.**  `packSIR K S I SS SI` is the packing
`np.concatenate((Sk0[:,None], Ik0[:,None], SkSl0.reshape(K²,1), SkIl0.reshape(K²,1))).T[0]` of
`SIR_heterogeneous_pairwise`.  The returned vector has length `K + K + K² + K²`: `dS_k`, `dI_k`, `d[S_kS_l]`,
`d[S_kI_l]`.  Here the code repairs `tmpSk` and `tmpKs` separately, which is the model's `nz (Ks l) * nz (S l)`
(not `nz (Ks l * S l)` as in the SIS function).  `Nk` is accepted and ignored by the code. -/
theorem gen_sirHetPW (K : Nat) (tau gamma : Rat) (Ks Nk : Nat → Rat) (S I : Nat → Rat) (SS SI : Nat → Nat → Rat) :
    let r := GenMat.dSIR_heterogeneous_pairwise (packSIR K S I SS SI) tau gamma ⟨K, Nk⟩ ⟨K, Ks⟩
    let m := sirHetPW K tau gamma Ks S I SS SI
    r.n = K + K + K ^ 2 + K ^ 2 ∧
    (∀ k, k < K → r.f k = m.1 k ∧ r.f (K + k) = m.2.1 k) ∧
    ∀ k l, k < K → l < K →
      r.f (K + K + (k * K + l)) = m.2.2.1 k l ∧ r.f (K + K + K ^ 2 + (k * K + l)) = m.2.2.2 k l := by
  refine ⟨by simp only [Nat.add_assoc]; rfl,
    fun k hk => ⟨(V.append_f_lt _ _ k hk).trans ?_, (append_mid _ _ _ k hk).trans ?_⟩, fun k l hk hl => ?_⟩
  · simp only [packSIR_rowsum, zero_sub, sirHetPW]
  · simp only [packSIR_I, packSIR_rowsum, hk, sirHetPW]
  -- `dS ++ (dI ++ (dSS ++ dSI))`: the pair blocks are the last block of the outer two appends, split once more
  · refine ⟨(append_last _ _ _ _).trans ((V.append_f_lt _ _ _ (rm_lt K k l hk hl)).trans ?_),
      (congrArg _ (Nat.add_assoc _ _ _)).trans ((append_last _ _ _ _).trans ((V.append_f_ge _ _ _).trans ?_))⟩ <;>
    simp only [Nat.zero_add, rm_div K k l hl, rm_mod K k l hl, packSIR_S, packSIR_SS, packSIR_SI, packSIR_rowsum,
      hk, hl, one_mul, guard_nz, zero_sub, sirHetPW]

/-- `tau0_sirHetPW` for the generated code: without transmission the generated SIR function returns `dS_k = 0` and
`dI_k = -γ I_k` -/
theorem gen_sirHetPW_tau0 (K : Nat) (gamma : Rat) (Ks Nk S I : Nat → Rat) (SS SI : Nat → Nat → Rat) (k : Nat) (hk : k < K) :
    (GenMat.dSIR_heterogeneous_pairwise (packSIR K S I SS SI) 0 gamma ⟨K, Nk⟩ ⟨K, Ks⟩).f k = 0 ∧
    (GenMat.dSIR_heterogeneous_pairwise (packSIR K S I SS SI) 0 gamma ⟨K, Nk⟩ ⟨K, Ks⟩).f (K + k) = -gamma * I k := by
  obtain ⟨_, h1, _⟩ := gen_sirHetPW K 0 gamma Ks Nk S I SS SI
  obtain ⟨a, b⟩ := h1 k hk
  obtain ⟨c, d⟩ := tau0_sirHetPW K gamma Ks S I SS SI k
  exact ⟨a.trans c, b.trans d⟩

/-- `tau0_sisHetPW` for the generated code: without transmission the generated SIS function returns
`dS_k = γ (N_k - S_k)` -/
theorem gen_sisHetPW_tau0 (K : Nat) (gamma : Rat) (Ks Nk : Nat → Rat) (NkNl : Nat → Nat → Rat) (S : Nat → Rat)
    (SS SI : Nat → Nat → Rat) (k : Nat) (hk : k < K) :
    (GenMat.dSIS_heterogeneous_pairwise (packSIS K S SS SI) ⟨K, Nk⟩ NkNl 0 gamma ⟨K, Ks⟩).f k = gamma * (Nk k - S k) := by
  obtain ⟨_, h1, _⟩ := gen_sisHetPW K 0 gamma Ks Nk NkNl S SS SI
  exact (h1 k hk).trans (tau0_sisHetPW K gamma Ks Nk NkNl S SS SI k)

/-- `sirHetPW_signs` for the generated code: with `τ ≥ 0` and non-negative `[S_kI_l]` the generated `dS_k` is `≤ 0`, and
`-(dS_k + dI_k) = γ I_k` (so `S_k + I_k + R_k` is conserved with `dR_k = γ I_k`) -/
theorem gen_sirHetPW_signs (K : Nat) (tau gamma : Rat) (Ks Nk S I : Nat → Rat) (SS SI : Nat → Nat → Rat)
    (h2 : 0 ≤ tau) (hSI : ∀ k l, 0 ≤ SI k l) (k : Nat) (hk : k < K) :
    let r := GenMat.dSIR_heterogeneous_pairwise (packSIR K S I SS SI) tau gamma ⟨K, Nk⟩ ⟨K, Ks⟩
    r.f k ≤ 0 ∧ -(r.f k + r.f (K + k)) = gamma * I k := by
  intro r
  obtain ⟨_, h1, _⟩ := gen_sirHetPW K tau gamma Ks Nk S I SS SI
  obtain ⟨a, b⟩ := h1 k hk
  obtain ⟨c, d⟩ := sirHetPW_signs K tau gamma Ks S I SS SI h2 hSI k
  have a' : r.f k = (sirHetPW K tau gamma Ks S I SS SI).1 k := a
  have b' : r.f (K + k) = (sirHetPW K tau gamma Ks S I SS SI).2.1 k := b
  rw [a', b']
  exact ⟨c, d⟩

/-- `sisHetPW_SS_symm` for the generated code: the `[S_kS_l]` block of the generated SIS right-hand side is a symmetric
matrix (entry `(k,l)` = entry `(l,k)`), whatever the state -/
theorem gen_sisHetPW_SS_symm (K : Nat) (tau gamma : Rat) (Ks Nk : Nat → Rat) (NkNl : Nat → Nat → Rat) (S : Nat → Rat)
    (SS SI : Nat → Nat → Rat) (k l : Nat) (hk : k < K) (hl : l < K) :
    let r := GenMat.dSIS_heterogeneous_pairwise (packSIS K S SS SI) ⟨K, Nk⟩ NkNl tau gamma ⟨K, Ks⟩
    r.f (K + (k * K + l)) = r.f (K + (l * K + k)) := by
  intro r
  obtain ⟨_, _, h2⟩ := gen_sisHetPW K tau gamma Ks Nk NkNl S SS SI
  exact ((h2 k l hk hl).1.trans (sisHetPW_SS_symm K tau gamma Ks Nk NkNl S SS SI k l)).trans (h2 l k hl hk).1.symm

/-- `gamma0_hetPW` for the generated code: without recovery, and where no repair is active (`Ks`, `S` non-zero on the
classes `< K`), the generated SIS and SIR functions return the same `dS_k`, `d[S_kS_l]`, `d[S_kI_l]` — although one
repairs `Ks*Sk` and the other `Ks` and `Sk` -/
theorem gen_hetPW_gamma0 (K : Nat) (tau : Rat) (Ks Nk Nk' : Nat → Rat) (NkNl : Nat → Nat → Rat)
    (S I : Nat → Rat) (SS SI : Nat → Nat → Rat) (hK : ∀ k, k < K → Ks k ≠ 0) (hS : ∀ k, k < K → S k ≠ 0)
    (k l : Nat) (hk : k < K) (hl : l < K) :
    let a := GenMat.dSIS_heterogeneous_pairwise (packSIS K S SS SI) ⟨K, Nk⟩ NkNl tau 0 ⟨K, Ks⟩
    let b := GenMat.dSIR_heterogeneous_pairwise (packSIR K S I SS SI) tau 0 ⟨K, Nk'⟩ ⟨K, Ks⟩
    a.f k = b.f k ∧ a.f (K + (k * K + l)) = b.f (K + K + (k * K + l)) ∧
    a.f (K + K ^ 2 + (k * K + l)) = b.f (K + K + K ^ 2 + (k * K + l)) := by
  intro a b
  obtain ⟨_, a1, a2⟩ := gen_sisHetPW K tau 0 Ks Nk NkNl S SS SI
  obtain ⟨_, b1, b2⟩ := gen_sirHetPW K tau 0 Ks Nk' S I SS SI
  have e1k : nz (Ks k) = Ks k := if_neg (hK k hk)
  have e1l : nz (Ks l) = Ks l := if_neg (hK l hl)
  have e2k : nz (S k) = S k := if_neg (hS k hk)
  have e2l : nz (S l) = S l := if_neg (hS l hl)
  have e3k : nz (Ks k * S k) = Ks k * S k := if_neg (mul_ne_zero (hK k hk) (hS k hk))
  have e3l : nz (Ks l * S l) = Ks l * S l := if_neg (mul_ne_zero (hK l hl) (hS l hl))
  refine ⟨(a1 k hk).trans (Eq.trans ?_ (b1 k hk).1.symm), (a2 k l hk hl).1.trans (Eq.trans ?_ (b2 k l hk hl).1.symm),
    (a2 k l hk hl).2.trans (Eq.trans ?_ (b2 k l hk hl).2.symm)⟩
  · dsimp only [sisHetPW, sirHetPW]; ring
  · dsimp only [sisHetPW, sirHetPW]; simp only [e1k, e1l, e2k, e2l, e3k, e3l]; ring
  · dsimp only [sisHetPW, sirHetPW]; simp only [e1k, e1l, e2k, e2l, e3k, e3l]; ring

/-- `hetPW_sir_regular` for the generated code, both sides generated: on a state whose only occupied degree class is
`m` (degree `Ks m = n ≠ 0`, `S ≠ 0`) the generated `_dSIR_heterogeneous_pairwise_` returns in class `m` what the
generated `_dSIR_homogeneous_pairwise_` (`Gen/Analytic.lean`) returns for `(S, I, SI, SS)`, and 0 in every other entry -/
theorem gen_sirHetPW_regular (K m : Nat) (hm : m < K) (Ks Nk : Nat → Rat) (tau gamma n S I SS SI : Rat)
    (hKs : Ks m = n) (hn : n ≠ 0) (hS : S ≠ 0) :
    let r := GenMat.dSIR_heterogeneous_pairwise (packSIR K (only m S) (only m I) (only2 m SS) (only2 m SI))
      tau gamma ⟨K, Nk⟩ ⟨K, Ks⟩
    let h := Gen.dSIR_homogeneous_pairwise (V.ofList [S, I, SI, SS]) n tau gamma
    (r.f m = h.f 0 ∧ r.f (K + m) = h.f 1 ∧ r.f (K + K + (m * K + m)) = h.f 3 ∧
      r.f (K + K + K ^ 2 + (m * K + m)) = h.f 2) ∧
    (∀ k, k < K → k ≠ m → r.f k = 0 ∧ r.f (K + k) = 0) ∧
    (∀ k l, k < K → l < K → ¬ (k = m ∧ l = m) →
      r.f (K + K + (k * K + l)) = 0 ∧ r.f (K + K + K ^ 2 + (k * K + l)) = 0) := by
  intro r h
  obtain ⟨_, g1, g2⟩ := gen_sirHetPW K tau gamma Ks Nk (only m S) (only m I) (only2 m SS) (only2 m SI)
  obtain ⟨⟨p1, p2, p3, p4⟩, q, q2⟩ := hetPW_sir_regular K m hm Ks tau gamma n S I SS SI hKs hn hS
  obtain ⟨_, h0, h1, h2, h3⟩ := GenEq.gen_sirHomPW n tau gamma S I SI SS
  refine ⟨⟨(g1 m hm).1.trans (p1.trans h0.symm), (g1 m hm).2.trans (p2.trans h1.symm),
    (g2 m m hm hm).1.trans (p3.trans h3.symm), (g2 m m hm hm).2.trans (p4.trans h2.symm)⟩, ?_, ?_⟩
  · intro k hk hkm
    exact ⟨(g1 k hk).1.trans (q k hkm).1, (g1 k hk).2.trans (q k hkm).2⟩
  · intro k l hk hl hkl
    exact ⟨(g2 k l hk hl).1.trans (q2 k l hkl).1, (g2 k l hk hl).2.trans (q2 k l hkl).2⟩

/-- `hetPW_sis_regular` for the generated code, both sides generated: on a single-class state (`Nk[m] = Ntot`,
`NkNl[m,m] = Ntot n`, `n S ≠ 0`) the generated `_dSIS_heterogeneous_pairwise_` returns in class `m` what the generated
`_dSIS_homogeneous_pairwise_` returns for `(S, SI, SS)`, and 0 in every other entry -/
theorem gen_sisHetPW_regular (K m : Nat) (hm : m < K) (Ks : Nat → Rat) (tau gamma n Ntot S SS SI : Rat)
    (hKs : Ks m = n) (hnS : n * S ≠ 0) :
    let r := GenMat.dSIS_heterogeneous_pairwise (packSIS K (only m S) (only2 m SS) (only2 m SI))
      ⟨K, only m Ntot⟩ (only2 m (Ntot * n)) tau gamma ⟨K, Ks⟩
    let h := Gen.dSIS_homogeneous_pairwise (V.ofList [S, SI, SS]) Ntot n tau gamma
    (r.f m = h.f 0 ∧ r.f (K + (m * K + m)) = h.f 2 ∧ r.f (K + K ^ 2 + (m * K + m)) = h.f 1) ∧
    (∀ k, k < K → k ≠ m → r.f k = 0) ∧
    (∀ k l, k < K → l < K → ¬ (k = m ∧ l = m) →
      r.f (K + (k * K + l)) = 0 ∧ r.f (K + K ^ 2 + (k * K + l)) = 0) := by
  intro r h
  obtain ⟨_, g1, g2⟩ := gen_sisHetPW K tau gamma Ks (only m Ntot) (only2 m (Ntot * n)) (only m S)
    (only2 m SS) (only2 m SI)
  obtain ⟨⟨p1, p2, p3⟩, q, q2⟩ := hetPW_sis_regular K m hm Ks tau gamma n Ntot S SS SI hKs hnS
  obtain ⟨_, h0, h1, h2⟩ := GenEq.gen_sisHomPW Ntot n tau gamma S SI SS
  refine ⟨⟨(g1 m hm).trans (p1.trans h0.symm), (g2 m m hm hm).1.trans (p2.trans h2.symm),
    (g2 m m hm hm).2.trans (p3.trans h1.symm)⟩, ?_, ?_⟩
  · intro k hk hkm
    exact (g1 k hk).trans (q k hkm)
  · intro k l hk hl hkl
    exact ⟨(g2 k l hk hl).1.trans (q2 k l hkl).1, (g2 k l hk hl).2.trans (q2 k l hkl).2⟩

/-! ### concrete evaluations (non-vacuity): `K = 2`, both repairs active

Degrees `Ks = [0, 3]`, `S = [2, 0]`: in class 0 `Ks*S = 0` with `Ks = 0`, in class 1 `Ks*S = 0` with `S = 0`.  The SIS
function divides by `1` in both classes; the SIR function divides by `1*2 = 2` in class 0 and by `3*1 = 3` in class 1. -/

def v2 (a b : Rat) : Nat → Rat := fun k => match k with | 0 => a | 1 => b | _ => 0
def m2 (a b c d : Rat) : Nat → Nat → Rat := fun k l => match k, l with | 0, 0 => a | 0, 1 => b | 1, 0 => c | 1, 1 => d | _, _ => 0
def KsE : Nat → Rat := v2 0 3
def SE : Nat → Rat := v2 2 0
def IE : Nat → Rat := v2 1 4
def NkE : Nat → Rat := v2 3 4
def NNE : Nat → Nat → Rat := m2 0 0 0 12
def SSE : Nat → Nat → Rat := m2 1 2 2 5
def SIE : Nat → Nat → Rat := m2 (1/2) 1 3 2

/-- the generated SIS function on the example (`τ = 1/2`, `γ = 1/3`): all 10 entries, equal to the model's -/
theorem sisEx_eval :
    let r := GenMat.dSIS_heterogeneous_pairwise (packSIS 2 SE SSE SIE) ⟨2, NkE⟩ NNE (1/2) (1/3) ⟨2, KsE⟩
    let m := sisHetPW 2 (1/2) (1/3) KsE NkE NNE SE SSE SIE
    r.toList = [-5/12, -7/6, 11/6, -43/6, -43/6, -146/3, -35/24, 95/12, -21, 43/3] ∧
    [m.1 0, m.1 1, m.2.1 0 0, m.2.1 0 1, m.2.1 1 0, m.2.1 1 1, m.2.2 0 0, m.2.2 0 1, m.2.2 1 0, m.2.2 1 1]
      = [-5/12, -7/6, 11/6, -43/6, -43/6, -146/3, -35/24, 95/12, -21, 43/3] := by
  decide +kernel

/-- the generated SIR function on the same example: all 12 entries, equal to the model's -/
theorem sirEx_eval :
    let r := GenMat.dSIR_heterogeneous_pairwise (packSIR 2 SE IE SSE SIE) (1/2) (1/3) ⟨2, NkE⟩ ⟨2, KsE⟩
    let m := sirHetPW 2 (1/2) (1/3) KsE SE IE SSE SIE
    r.toList = [-3/4, -5/2, 5/12, 7/6, 3/4, -31/12, -31/12, -50/3, -29/48, 23/8, -33/4, 10/3] ∧
    [m.1 0, m.1 1, m.2.1 0, m.2.1 1, m.2.2.1 0 0, m.2.2.1 0 1, m.2.2.1 1 0, m.2.2.1 1 1,
      m.2.2.2 0 0, m.2.2.2 0 1, m.2.2.2 1 0, m.2.2.2 1 1]
      = [-3/4, -5/2, 5/12, 7/6, 3/4, -31/12, -31/12, -50/3, -29/48, 23/8, -33/4, 10/3] := by
  decide +kernel

/-- the two repairs are different functions, and the non-vanishing hypotheses of `gen_hetPW_gamma0` are needed: at
`γ = 0` on the example state (where both repairs are active) the generated SIS and SIR functions return different
`d[S_0S_0]` (`-1/2 · 2 · (1·(0-1)·(3/2)/1)` against the same with denominator `2`) -/
theorem ex_repairs_differ :
    (GenMat.dSIS_heterogeneous_pairwise (packSIS 2 SE SSE SIE) ⟨2, NkE⟩ NNE (1/2) 0 ⟨2, KsE⟩).f (2 + (0 * 2 + 0)) = 3/2 ∧
    (GenMat.dSIR_heterogeneous_pairwise (packSIR 2 SE IE SSE SIE) (1/2) 0 ⟨2, NkE⟩ ⟨2, KsE⟩).f (2 + 2 + (0 * 2 + 0)) = 3/4 := by
  decide +kernel

/-- the bound `l < K` in `gen_sisHetPW` / `gen_sirHetPW` is needed: for `l = K` the row-major position `k*K + l` is the
position of entry `(k+1, 0)`, not of a model entry `(k, K)` -/
theorem rowmajor_needs_bound :
    let r := GenMat.dSIS_heterogeneous_pairwise (packSIS 2 SE SSE SIE) ⟨2, NkE⟩ NNE (1/2) (1/3) ⟨2, KsE⟩
    let m := sisHetPW 2 (1/2) (1/3) KsE NkE NNE SE SSE SIE
    r.f (2 + (0 * 2 + 2)) = m.2.1 1 0 ∧ r.f (2 + (0 * 2 + 2)) ≠ m.2.1 0 2 := by
  decide +kernel

end GenMatProps
