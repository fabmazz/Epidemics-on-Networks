import EoNVerif.Proofs.PrefixDet
/-!
C18 — a simulation is a function of (inputs, the consumed prefix of the random stream).
A run that succeeds on a tape succeeds with the same result on every longer tape and leaves exactly the extra draws
unconsumed; in particular two runs from identically seeded generators (same stream) coincide.  The tape is read only through
the five primitives of `Model/Tape.lean` (by construction of `TM`, not a theorem).
The definitions `TapeSt.extend` and `TM.PrefixDet`, the closure of `PrefixDet` under `pure`, `>>=`, `if` and the five
primitives (`TM.prefixDet_*`) and the loops of the simulators are in `EoNVerif.Proofs.PrefixDet`.
-/

theorem gillespie_prefixDet (P : GParams) (infs recs : List Node) (tmin : Rat) (tmax : ERat) (fuel cfuel : Nat) :
    TM.PrefixDet (Gillespie.run P infs recs tmin tmax fuel cfuel) := by
  unfold Gillespie.run
  repeat (first | exact Gillespie.loop_prefixDet _ _ _ _ _ _ | pd_step)

theorem complex_prefixDet {σ : Type} [DecidableEq σ] (P : CCParams σ) (ic : Node → σ) (tmin : Rat) (tmax : ERat) (fuel cfuel : Nat) :
    TM.PrefixDet (Complex.run P ic tmin tmax fuel cfuel) := by
  unfold Complex.run
  repeat (first | exact Complex.loop_prefixDet _ _ _ _ _ _ | pd_step)

theorem simple_prefixDet {σ : Type} [DecidableEq σ] (P : SCParams σ) (ic : Node → σ) (tmin : Rat) (tmax : ERat) (fuel cfuel : Nat) :
    TM.PrefixDet (Simple.run P ic tmin tmax fuel cfuel) := by
  unfold Simple.run
  repeat (first | exact Simple.loop_prefixDet _ _ _ _ _ _ | pd_step)

theorem fastSIS_prefixDet (P : FSParams) (infs : List Node) (fuel : Nat) :
    TM.PrefixDet (FastSIS.run P infs fuel) :=
  FastSIS.loop_prefixDet _ _ _

/-- reproducibility: identical inputs and identical streams give identical outputs (and consume the same amount).  Trivial by
construction — the model is a function of the tape, which is the content; recorded only so that the property has a named
statement -/
theorem gillespie_reproducible (P : GParams) (infs recs : List Node) (tmin : Rat) (tmax : ERat) (fuel cfuel : Nat)
    (ts₁ ts₂ : TapeSt) (h : ts₁ = ts₂) :
    Gillespie.run P infs recs tmin tmax fuel cfuel ts₁ = Gillespie.run P infs recs tmin tmax fuel cfuel ts₂ := by
  subst h; rfl

/-! non-vacuity: an unweighted SIR run on the path 0–1–2 from node 0 succeeds on a 4-draw tape (transmission 0→1,
then `tmax` is reached), consuming the whole tape; on the tape extended by two draws it yields the same event log
and leaves exactly the two extra draws -/
namespace C18Ex
def nbrs (u : Node) : List Node := match u with | 0 => [1] | 1 => [0, 2] | 2 => [1] | _ => []
def P : GParams := { nodes := [0, 1, 2], nbrs := nbrs, tau := 1, gamma := 1, ew := none, nw := none, sis := false }
def tape : List Draw := [.expo (1/2), .unif (3/4), .choice 0, .expo 2]
def obs (r : Except String (GState × TapeSt)) : Option (List (Rat × GEvent) × List Draw) :=
  match r with
  | .ok (s, ts) => some (s.log, ts.tape)
  | .error _ => none

example : obs (Gillespie.run P [0] [] 0 (some 1) 5 5 { tape := tape }) =
    some ([(1/2, GEvent.transmit 0 1)], []) := by decide +kernel
example : obs (Gillespie.run P [0] [] 0 (some 1) 5 5 (TapeSt.extend { tape := tape } [.unif 0, .binom 3])) =
    some ([(1/2, GEvent.transmit 0 1)], [.unif 0, .binom 3]) := by decide +kernel
end C18Ex
