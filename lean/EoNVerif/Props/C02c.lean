import EoNVerif.Proofs.GenGillespie
import EoNVerif.Props.C01
/-!
C02c — the Lean code GENERATED statement by statement from the Python function `Gillespie_SIS`
(`EoNVerif/Gen/GillespieGen.lean`, namespace `GenGSIS`, over the generated `_ListDict_` code) REFINES the hand-written
model `Gillespie.run` (`EoNVerif/Model/Gillespie.lean`) with `P.sis = true` and no recovered nodes, in both directions
and on every tape.  The invariant, clock, rows and absence of `KeyError` of the model (`Proofs/Gillespie.lean`, which C01 and
C02 share) are transferred to the generated code; the selection-law theorems reach it only through `GenLD.choose_bisim`
(same draws, same candidate lists).

* `GenGillespie.Agree A P tmin tmax cfuel` — the arguments read by the generated code describe the model's parameters;
* `GenGSIS.Rel σ s` — the simulation relation (statuses equal, both `_ListDict_`s related by `GenLD.R`, output rows
  `times`, `S`, `I` equal up to the model's newest-first order; the SIS function has no `R` row);
* `hi him` are the hypotheses of C01 `init_inv` (here `recs = []`): the initial infecteds are distinct and are nodes of `G`;
* `gen_run_refines` is model ⇒ generated (the generated code does not get stuck where the model runs),
  `gen_run_refines_back` is generated ⇒ model: the direction that transfers the theorems.
-/
namespace GenGSIS
open Gillespie GenGillespie

variable {A : PyTM.GArgs} {P : GParams} {tmin : Rat} {tmax : ERat} {cfuel : Nat}

/-- **simulation, both directions at once**, with the full loop invariant `LRel` -/
theorem gen_run_sim (hag : Agree A P tmin tmax cfuel) (hwf : WF P) (hsis : P.sis = true) (infs : List Node)
    (fuel : Nat) (hi : infs.Nodup) (him : ∀ u ∈ infs, u ∈ P.nodes) :
    TM.Sim (run A infs fuel) (Gillespie.run P infs [] tmin tmax fuel cfuel) (fun σ s => ∃ t, LRel A P σ s t) :=
  ((run_bisim hag hwf hsis infs fuel hi him).mono fun _ _ h => h.1).sim

/-- **forward simulation**: every normal return of the model is a normal return of the generated code, in a related
state, with the same final tape state — the same draws were consumed and the same RNG calls with the same arguments
(clock rates, candidate lists) were logged -/
theorem gen_run_refines (hag : Agree A P tmin tmax cfuel) (hwf : WF P) (hsis : P.sis = true) (infs : List Node)
    (fuel : Nat) (hi : infs.Nodup) (him : ∀ u ∈ infs, u ∈ P.nodes) (ts ts' : TapeSt) (s : GState)
    (h : Gillespie.run P infs [] tmin tmax fuel cfuel ts = .ok (s, ts')) :
    ∃ σ, run A infs fuel ts = .ok (σ, ts') ∧ Rel σ s := by
  obtain ⟨σ, h1, t, h2⟩ := (gen_run_sim hag hwf hsis infs fuel hi him ts).1 s ts' h
  exact ⟨σ, h1, h2.rel⟩

/-- **backward simulation**: every normal return of the generated code is a run of the model -/
theorem gen_run_refines_back (hag : Agree A P tmin tmax cfuel) (hwf : WF P) (hsis : P.sis = true)
    (infs : List Node) (fuel : Nat) (hi : infs.Nodup) (him : ∀ u ∈ infs, u ∈ P.nodes) (ts ts' : TapeSt) (σ : Loc)
    (h : run A infs fuel ts = .ok (σ, ts')) :
    ∃ s, Gillespie.run P infs [] tmin tmax fuel cfuel ts = .ok (s, ts') ∧ Rel σ s := by
  obtain ⟨s, h1, t, h2⟩ := (gen_run_sim hag hwf hsis infs fuel hi him ts).2 σ ts' h
  exact ⟨s, h1, h2.rel⟩

/-- the two `while` loops simulate each other from related states (any fuel, any tape) -/
theorem gen_loop_refines (hag : Agree A P tmin tmax cfuel) (hwf : WF P) (hsis : P.sis = true) (fuel : Nat)
    (σ : Loc) (s : GState) (t : ERat) (h : LRel A P σ s t) :
    TM.Sim (loop A fuel σ) (Gillespie.loop P tmax cfuel fuel s t) (fun σ' s' => ∃ t', LRel A P σ' s' t') :=
  ((loop_bisim hag hwf hsis fuel σ s t h).mono fun _ _ h => h.1).sim

/-- **C02 invariant, transferred**: after every normally returning run of the generated code the two candidate
structures list exactly the events enabled in the final statuses, without duplicates -/
theorem gen_run_inv (hag : Agree A P tmin tmax cfuel) (hwf : WF P) (hsis : P.sis = true)
    (infs : List Node) (fuel : Nat) (hi : infs.Nodup) (him : ∀ u ∈ infs, u ∈ P.nodes) (ts ts' : TapeSt) (σ : Loc)
    (h : run A infs fuel ts = .ok (σ, ts')) :
    (∀ u, u ∈ σ.infecteds.items ↔ u ∈ Chain.enabledRec P σ.status) ∧
    (∀ p, p ∈ σ.IS_links.items ↔ p ∈ Chain.enabledTrans P σ.status) ∧
    σ.infecteds.items.Nodup ∧ σ.IS_links.items.Nodup := by
  obtain ⟨s, -, t, h2⟩ := (gen_run_sim hag hwf hsis infs fuel hi him ts).2 σ ts' h
  obtain ⟨e1, e2⟩ := enabled_iff' P s h2.inv
  rw [h2.rel.status, h2.rel.inf.items, h2.rel.links.items]
  exact ⟨fun u => (e1 u).symm, fun p => (e2 p).symm, h2.inv.infInv.nodup, h2.inv.linkInv.nodup⟩

/-- **SIS never produces a recovered node**, transferred: in the final statuses of the generated code nobody is `R` -/
theorem gen_run_no_R (hag : Agree A P tmin tmax cfuel) (hwf : WF P) (hsis : P.sis = true)
    (infs : List Node) (fuel : Nat) (hi : infs.Nodup) (him : ∀ u ∈ infs, u ∈ P.nodes) (ts ts' : TapeSt) (σ : Loc)
    (h : run A infs fuel ts = .ok (σ, ts')) (u : Node) : σ.status u ≠ St.R := by
  obtain ⟨s, -, t, h2⟩ := (gen_run_sim hag hwf hsis infs fuel hi him ts).2 σ ts' h
  rw [h2.rel.status]
  exact h2.inv.sis_noR hsis u

/-- **C02 clock, transferred (final state)** -/
theorem gen_run_clock (hag : Agree A P tmin tmax cfuel) (hwf : WF P) (hsis : P.sis = true)
    (infs : List Node) (fuel : Nat) (hi : infs.Nodup) (him : ∀ u ∈ infs, u ∈ P.nodes) (ts ts' : TapeSt) (σ : Loc)
    (h : run A infs fuel ts = .ok (σ, ts')) :
    σ.total_rate = Chain.totalRate P σ.status ∧
      σ.total_rate = σ.total_recovery_rate + σ.total_transmission_rate := by
  obtain ⟨s, -, t, h2⟩ := (gen_run_sim hag hwf hsis infs fuel hi him ts).2 σ ts' h
  refine ⟨?_, ?_⟩
  · rw [h2.tot, clock_eq' P hwf s h2.inv, h2.rel.status]
  · rw [h2.tot, h2.rr, h2.tr]; rfl

/-- **C02 clock, transferred (every step)**: in a state related to a model state `s` with `Inv P s`, the clock
statements of the generated code call `expovariate` with exactly the chain's total rate in the current statuses (the
logged call), and move the time by the drawn amount -/
theorem gen_clock (hag : Agree A P tmin tmax cfuel) (hwf : WF P) (σ : Loc) (s : GState) (tv : Rat)
    (hrel : Rel σ s) (hinv : Gillespie.Inv P s) (ht : σ.t = some tv) (k : Loc → TM Loc) (ts : TapeSt) (d : Rat)
    (rest : List Draw) (htape : ts.tape = .expo d :: rest) (hpos : 0 < Chain.totalRate P σ.status) :
    ∃ σ', tail A k σ ts = k σ' { tape := rest, trace := ts.trace.push (.expo (Chain.totalRate P σ.status)) } ∧
      σ'.t = some (tv + d) ∧ σ'.total_rate = Chain.totalRate P σ.status ∧ Rel σ' s := by
  have hclk : totalRate P s = Chain.totalRate P σ.status := by rw [clock_eq' P hwf s hinv, hrel.status]
  rw [tail_eq A k σ s.inf s.links hrel.inf hrel.links, hag.totalRate, hclk, if_pos (decide_eq_true hpos)]
  exact ⟨_, TM.bind_ok (TM.popExpo_eval _ d rest ts (ne_of_gt hpos) htape),
    congrArg (ERat.add · (some d)) ht, (hag.totalRate s).trans hclk,
    hrel.status, hrel.inf, hrel.links, hrel.times, hrel.S, hrel.I⟩

/-- **output rows**: the last entries of the returned `S`, `I` lists are the model's current counts, and the lists are
the model's lists reversed -/
theorem gen_run_counts (hag : Agree A P tmin tmax cfuel) (hwf : WF P) (hsis : P.sis = true)
    (infs : List Node) (fuel : Nat) (hi : infs.Nodup) (him : ∀ u ∈ infs, u ∈ P.nodes) (ts ts' : TapeSt) (σ : Loc)
    (h : run A infs fuel ts = .ok (σ, ts')) :
    ∃ s, Gillespie.run P infs [] tmin tmax fuel cfuel ts = .ok (s, ts') ∧
      σ.S.getLast? = some (Gillespie.hd s.S) ∧ σ.I.getLast? = some (Gillespie.hd s.I) ∧
      σ.S = s.S.reverse ∧ σ.I = s.I.reverse ∧ σ.times = s.times.reverse.map some := by
  obtain ⟨s, h1, t, h2⟩ := (gen_run_sim hag hwf hsis infs fuel hi him ts).2 σ ts' h
  exact ⟨s, h1, getLast_row h2.rel.S h2.hS, getLast_row h2.rel.I h2.hI, h2.rel.S, h2.rel.I, h2.rel.times⟩

/-- **C02 no-KeyError, transferred**: the generated `Gillespie_SIS` never raises `KeyError`, whatever the draws -/
theorem gen_run_no_keyerror (hag : Agree A P tmin tmax cfuel) (hwf : WF P) (hsis : P.sis = true)
    (infs : List Node) (fuel : Nat) (hi : infs.Nodup) (him : ∀ u ∈ infs, u ∈ P.nodes) (ts : TapeSt) :
    run A infs fuel ts ≠ .error "KeyError" :=
  (run_bisim hag hwf hsis infs fuel hi him).no_keyerror ts

/-- the generated loop never raises `KeyError` from a state related to a model state with the invariant -/
theorem gen_loop_no_keyerror (hag : Agree A P tmin tmax cfuel) (hwf : WF P) (hsis : P.sis = true) (fuel : Nat)
    (σ : Loc) (s : GState) (t : ERat) (h : LRel A P σ s t) (ts : TapeSt) : loop A fuel σ ts ≠ .error "KeyError" :=
  (loop_bisim hag hwf hsis fuel σ s t h).no_keyerror ts

/-- the generated code raises an exception (or runs out of draws / fuel) exactly when the model does — not necessarily the
same one: see `GenLD.choose_bisim` for `max_weight = 0` -/
theorem gen_run_fails_iff (hag : Agree A P tmin tmax cfuel) (hwf : WF P) (hsis : P.sis = true)
    (infs : List Node) (fuel : Nat) (hi : infs.Nodup) (him : ∀ u ∈ infs, u ∈ P.nodes) (ts : TapeSt) :
    (∃ e, run A infs fuel ts = .error e) ↔
      (∃ e, Gillespie.run P infs [] tmin tmax fuel cfuel ts = .error e) :=
  (run_bisim hag hwf hsis infs fuel hi him ts).fails_iff

/-- **full-data bookkeeping**: with `return_full_data` set, the `transmissions` list of the generated code is the
entries `(tmin, None, node)` of the initial infecteds followed by one entry `(t, u, v)` per transmission event logged
by the model, oldest first -/
theorem gen_run_transmissions (hag : Agree A P tmin tmax cfuel) (hwf : WF P) (hsis : P.sis = true)
    (infs : List Node) (fuel : Nat) (hi : infs.Nodup) (him : ∀ u ∈ infs, u ∈ P.nodes)
    (hfull : A.full = true) (ts ts' : TapeSt) (σ : Loc)
    (h : run A infs fuel ts = .ok (σ, ts')) :
    ∃ s, Gillespie.run P infs [] tmin tmax fuel cfuel ts = .ok (s, ts') ∧
      σ.transmissions = initTrans tmin infs ++ transLog s.log := by
  obtain ⟨s, h1, -, h2⟩ := ((run_bisim hag hwf hsis infs fuel hi him).sim ts).2 σ ts' h
  exact ⟨s, h1, h2 hfull⟩

end GenGSIS

/-! ### non-vacuity: the 4-node path with weighted edges, unweighted recovery, SIS -/
namespace C02c
open GenGillespie

def exNbrs (u : Node) : List Node :=
  match u with
  | 0 => [1] | 1 => [0, 2] | 2 => [1, 3] | 3 => [2] | _ => []
def exP : GParams :=
  { nodes := [0, 1, 2, 3], nbrs := exNbrs, tau := 2, gamma := 1,
    ew := some (fun u v => if u + v = 3 then 1/2 else 2), nw := none, sis := true }
/-- what the generated code reads from its arguments for the same network (no recovery weights, no full data) -/
def exA : PyTM.GArgs :=
  { nbrs := exNbrs, order := 4, tau := 2, gamma := 1, tmin := 0, tmax := some 10, hasTW := true, hasRW := false,
    adjw := fun u v => if u + v = 3 then 1/2 else 2, nodew := fun _ => 0, full := false, cfuel := 5 }

/-- the hypothesis `Agree` of every theorem above is satisfiable -/
theorem exAgree : Agree exA exP 0 (some 10) 5 where
  nbrs := rfl
  order := rfl
  tau := rfl
  gamma := rfl
  tmin := rfl
  tmax := rfl
  cfuel := rfl
  hasTW := rfl
  hasRW := rfl
  adjw := by intro f hf; exact Option.some.inj hf
  nodew := by intro f hf; cases hf

/-- the network of `Props/C01.lean` without recovery weights; `WF` does not mention `sis` -/
theorem exWF : Gillespie.WF exP := { _root_.exP_wf with nw_nonneg := fun _ hf => nomatch hf }

/-- scripted draws: clock, transmission 1→0, clock, recovery of 1 (unweighted: no rejection draw), clock,
transmission 0→1 (reinfection of the recovered node), clock (beyond `tmax`) -/
def exTape : List Draw :=
  [.expo (1/2), .unif (9/10), .choice 0, .unif 0, .expo 1, .unif 0, .choice 0, .expo 3,
   .unif (99/100), .choice 0, .unif 0, .expo 20]

def viewA (r : Except String (GenGSIS.Loc × TapeSt)) :=
  r.toOption.map fun (σ, _) => (σ.infecteds.items, σ.IS_links.items, σ.times)
def viewB (r : Except String (GenGSIS.Loc × TapeSt)) :=
  r.toOption.map fun (σ, _) => (σ.S, σ.I)
def viewT {α : Type} (r : Except String (α × TapeSt)) :=
  r.toOption.map fun (_, ts) => (ts.trace.toList, ts.tape)
def viewMA (r : Except String (GState × TapeSt)) :=
  r.toOption.map fun (s, _) => (s.inf.items, s.links.items, s.times)
def viewMB (r : Except String (GState × TapeSt)) :=
  r.toOption.map fun (s, _) => (s.S, s.I)

/-- the generated code runs three events on this tape (node 1 infects 0, recovers, and is reinfected by 0) ... -/
example : viewA (GenGSIS.run exA [1] 10 ⟨exTape, #[]⟩) =
    some ([0, 1], [(1, 2)], [some 0, some (1/2), some (3/2), some (9/2)]) := by decide +kernel
example : viewB (GenGSIS.run exA [1] 10 ⟨exTape, #[]⟩) = some ([3, 2, 3, 2], [1, 2, 1, 2]) := by decide +kernel
/-- ... the log shows the clock rates 6, 3, 5, 3 and the candidate lists handed to `random.choice` -/
example : viewT (GenGSIS.run exA [1] 10 ⟨exTape, #[]⟩) =
    some ([.expo 6, .unif, .choice [[1, 0], [1, 2]], .unif, .expo 3, .unif, .choice [[1], [0]], .expo 5, .unif,
      .choice [[0, 1]], .unif, .expo 3], []) := by decide +kernel

/-- the model on the same tape: same log, same (reversed) rows -/
example : viewMA (Gillespie.run exP [1] [] 0 (some 10) 10 5 ⟨exTape, #[]⟩) =
    some ([0, 1], [(1, 2)], [9/2, 3/2, 1/2, 0]) := by decide +kernel
example : viewMB (Gillespie.run exP [1] [] 0 (some 10) 10 5 ⟨exTape, #[]⟩) =
    some ([2, 3, 2, 3], [2, 1, 2, 1]) := by decide +kernel
example : viewT (Gillespie.run exP [1] [] 0 (some 10) 10 5 ⟨exTape, #[]⟩) =
    some ([.expo 6, .unif, .choice [[1, 0], [1, 2]], .unif, .expo 3, .unif, .choice [[1], [0]], .expo 5, .unif,
      .choice [[0, 1]], .unif, .expo 3], []) := by decide +kernel

/-- the refinement theorem applies to this run: the generated code's result is a result of the model (same final
tape state), the C02 invariant holds in the generated code's final state, and nobody is recovered -/
example (σ : GenGSIS.Loc) (ts' : TapeSt) (h : GenGSIS.run exA [1] 10 ⟨exTape, #[]⟩ = .ok (σ, ts')) :
    (∃ s, Gillespie.run exP [1] [] 0 (some 10) 10 5 ⟨exTape, #[]⟩ = .ok (s, ts') ∧ GenGSIS.Rel σ s) ∧
    (∀ u, u ∈ σ.infecteds.items ↔ u ∈ Chain.enabledRec exP σ.status) ∧ (∀ u, σ.status u ≠ St.R) :=
  ⟨GenGSIS.gen_run_refines_back exAgree exWF rfl [1] 10 (by decide) (by decide) _ ts' σ h,
   (GenGSIS.gen_run_inv exAgree exWF rfl [1] 10 (by decide) (by decide) _ ts' σ h).1,
   GenGSIS.gen_run_no_R exAgree exWF rfl [1] 10 (by decide) (by decide) _ ts' σ h⟩

/-- ... and the run does return normally -/
example : (GenGSIS.run exA [1] 10 ⟨exTape, #[]⟩).toOption.isSome = true := by decide +kernel

end C02c
