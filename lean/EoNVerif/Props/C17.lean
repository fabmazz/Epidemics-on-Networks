import EoNVerif.Proofs.Perc
/-!
C17 — statements for the percolation estimators (`WF`, `Path` and the helper lemmas live in
`EoNVerif.Proofs.Perc`).
-/
namespace Perc

/-- the fixed-point iteration computes graph reachability -/
theorem reach_spec (nodes : List Node) (succ : Node → List Node) (h : WF nodes succ) (u v : Node)
    (hu : u ∈ nodes) : reach nodes succ u v = true ↔ Path succ u v :=
  reach_iff_path h hu v

/-- **representative independence**: nodes of one strongly connected component have the same in-component and
the same out-component, so the estimator's answer does not depend on which node `list(Hscc)[0]` happens to be -/
theorem inC_indep (nodes : List Node) (succ : Node → List Node) (h : WF nodes succ) (u v : Node)
    (hu : u ∈ nodes) (hv : v ∈ nodes) (huv : v ∈ scc nodes succ u) : inC nodes succ u = inC nodes succ v := by
  obtain ⟨_, h1, h2⟩ := mem_scc.1 huv
  unfold inC
  apply List.filter_congr
  intro x _
  rw [Bool.eq_iff_iff]
  exact ⟨fun p => reach_trans h p h1, fun p => reach_trans h p h2⟩

theorem outC_indep (nodes : List Node) (succ : Node → List Node) (h : WF nodes succ) (u v : Node)
    (hu : u ∈ nodes) (hv : v ∈ nodes) (huv : v ∈ scc nodes succ u) : outC nodes succ u = outC nodes succ v := by
  obtain ⟨_, h1, h2⟩ := mem_scc.1 huv
  unfold outC
  apply List.filter_congr
  intro x _
  rw [Bool.eq_iff_iff]
  exact ⟨fun p => reach_trans h h2 p, fun p => reach_trans h h1 p⟩

/-- both outputs lie in `(0, 1]`: each component contains its representative.  (No proof uses `h` or `hne`: `allowed` of an
empty node list is empty.) -/
theorem PE_AR_bounds (nodes : List Node) (succ : Node → List Node) (h : WF nodes succ) (hne : nodes ≠ []) :
    ∀ p ∈ allowed nodes succ, 0 < p.1 ∧ p.1 ≤ 1 ∧ 0 < p.2 ∧ p.2 ≤ 1 :=
  allowed_bounds nodes succ

/-- the strongly connected component is contained in both the in- and the out-component -/
theorem scc_sub (nodes : List Node) (succ : Node → List Node) (u w : Node) (hw : w ∈ scc nodes succ u) :
    w ∈ inC nodes succ u ∧ w ∈ outC nodes succ u := by
  obtain ⟨h0, h1, h2⟩ := mem_scc.1 hw
  exact ⟨mem_inC.2 ⟨h0, h2⟩, mem_outC.2 ⟨h0, h1⟩⟩

/-- undirected (symmetric) graphs: in-component = out-component = the connected component, so
`estimate_SIR_prob_size` reports the same largest-component fraction for both outputs -/
theorem undirected_size_eq (nodes : List Node) (succ : Node → List Node) (h : WF nodes succ)
    (hs : ∀ u v, v ∈ succ u → u ∈ succ v) (u : Node) (hu : u ∈ nodes) :
    inC nodes succ u = outC nodes succ u ∧ scc nodes succ u = outC nodes succ u := by
  have key : ∀ x ∈ nodes, reach nodes succ x u = reach nodes succ u x := by
    intro x hx
    rw [Bool.eq_iff_iff, reach_iff_path h hx, reach_iff_path h hu]
    exact ⟨Path.symm hs, Path.symm hs⟩
  constructor
  · unfold inC outC
    exact List.filter_congr key
  · unfold scc outC
    apply List.filter_congr
    intro x hx
    rw [key x hx, Bool.and_self]

/-- the percolated graph has an edge `u → v` exactly when `v` is a neighbour of `u` and the rule says `u` would
transmit to `v` (same node set by construction: it is a successor function over the same nodes) -/
theorem percolated_edge_iff_rule (nbrs : Node → List Node) (rule : Node → Node → Bool) (u v : Node) :
    v ∈ percolate nbrs rule u ↔ (v ∈ nbrs u ∧ rule u v = true) := by
  unfold percolate; exact List.mem_filter

end Perc

/-! non-vacuity: two 2-cycles joined one way – two largest components with different answers -/
def exSucc (u : Node) : List Node := match u with | 0 => [1] | 1 => [0, 2] | 2 => [3] | 3 => [2] | _ => []
example : Perc.allowed [0, 1, 2, 3] exSucc = [(1 / 2, 1), (1 / 2, 1), (1, 1 / 2), (1, 1 / 2)] := by decide +kernel
