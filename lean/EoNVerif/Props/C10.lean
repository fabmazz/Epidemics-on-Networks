import EoNVerif.Proofs.Investigation
import EoNVerif.Props.C05b
/-!
C10 — the full-data object and the plain arrays describe the same epidemic.
`Invest.histOf/histories` = node histories built from an event log; `Invest.arraysOf` = the arrays built from the same
log; `Pred.statusAt`, `Pred.summarySpec`, `Pred.arraysMatch`, `Pred.histWFg`, `Pred.nodeStatusImpl` are the executable
predicates that the harness evaluates on the implementation's own histories.
The theorems about `_transform_to_node_history_` (`History.sirHist_*`, `History.sisHist_wf`) are in `Props/C05b`, imported here
only so that every theorem of the property is reachable from this module.
-/
namespace Invest
open Pred

/-- **node_status / get_statuses**: for any query time at or after tmin, the status of the latest change at or
before that time is the status after all events with time ≤ T -/
theorem statusAt_histOf (tmin : Rat) (init : Node → String) (nodes : List Node) (log : Log)
    (h : ValidLog tmin nodes log) (v : Node) (T : Rat) (hT : tmin ≤ T) :
    statusAt (histOf tmin init log v) T = some (statusAfter init log (upTo log T) v) :=
  statusAt_histOf' tmin init nodes log h v T hT

/-- the implementation's count-based lookup (`len([t for t in changetimes if t <= time]) - 1`) agrees with the
specification on time-ordered histories, for every query time at or after tmin -/
theorem nodeStatusImpl_eq_statusAt (tmin : Rat) (init : Node → String) (nodes : List Node) (log : Log)
    (h : ValidLog tmin nodes log) (v : Node) (T : Rat) (hT : tmin ≤ T) :
    nodeStatusImpl (histOf tmin init log v) T = statusAt (histOf tmin init log v) T :=
  nodeStatusImpl_eq_statusAt_of_sorted _ T (histOf_times_pairwise h init v) (tmin, init v) List.mem_cons_self hT

/-- each node history starts at tmin, is time-ordered and only makes legal moves, provided every event of the log is
a legal move of its node's status at that moment -/
theorem histWF_histOf (tmin : Rat) (init : Node → String) (nodes : List Node) (log : Log)
    (h : ValidLog tmin nodes log) (legal : List (String × String))
    (hl : ∀ k, k < log.length → ∀ e, log[k]? = some e → (statusAfter init log k e.2.1, e.2.2) ∈ legal)
    (v : Node) : histWFg legal tmin (histOf tmin init log v) = true := by
  unfold histWFg histTimesOrdered
  rw [(nondecreasing_iff_pairwise _).mpr (histOf_times_pairwise h init v)]
  have hp := pairwise_histOf (fun a b => legal.contains (a, b)) v log init (fun k e hk hv => by
    have hlt : k < log.length := by
      by_contra hc
      rw [List.getElem?_eq_none (by omega)] at hk
      cases hk
    have := hl k hlt e hk
    rw [hv] at this
    simpa using this)
  have e2 : (histOf tmin init log v).map (·.2) = init v :: (log.filter fun e => e.2.1 == v).map (·.2.2) := by
    simp [histOf]
  rw [e2, hp]
  simp [histOf]

set_option linter.unusedVariables false in -- `hn` (Nodup) is not needed by the proof
/-- **summary == arrays**: the counts implied by the node histories at each distinct change time equal the array
rows with equal-time rows collapsed to the last -/
theorem summary_eq_arrays (tmin : Rat) (init : Node → String) (nodes : List Node) (log : Log)
    (h : ValidLog tmin nodes log) (hn : nodes.Nodup) (hne : nodes ≠ []) (statuses : List String) :
    arraysMatch true (arraysOf tmin init log nodes statuses) (histories tmin init log nodes) statuses = true := by
  unfold arraysMatch
  rw [collapse_arraysOf tmin init nodes log h hne]
  simp only [summarySpec, Bool.and_eq_true, Bool.not_true, Bool.false_or, beq_iff_eq, List.length_map,
    List.all_eq_true, and_true, allIdx, List.mem_range]
  refine ⟨fun t ht => by simpa using ht, ?_⟩
  intro i hi
  unfold row
  rw [List.map_map]
  apply List.map_congr_left
  intro s _
  simp only [Function.comp, getD_eq' _ _ (show i < (List.map _ (allTimes _)).length by simpa using hi),
    getD_eq' _ _ hi, List.getElem_map]

set_option linter.unusedVariables false in -- `hn` (Nodup) is not needed by the proof
/-- `summary()` itself is the collapsed arrays -/
theorem summarySpec_eq_collapse (tmin : Rat) (init : Node → String) (nodes : List Node) (log : Log)
    (h : ValidLog tmin nodes log) (hn : nodes.Nodup) (hne : nodes ≠ []) (statuses : List String) :
    trajEq (summarySpec (histories tmin init log nodes) statuses)
           (collapse (arraysOf tmin init log nodes statuses)) = true := by
  rw [collapse_arraysOf tmin init nodes log h hne]
  simp [trajEq]

/-- summary over a node subset counts exactly the nodes of that subset -/
theorem summary_subset (tmin : Rat) (init : Node → String) (log : Log) (sub : List Node) (s : String) (T : Rat) :
    countAt (histories tmin init log sub) T s =
      ((sub.filter fun v => statusAt (histOf tmin init log v) T == some s).length : Int) :=
  countAt_histories tmin init log sub s T

end Invest

/-! non-vacuity: three nodes, two simultaneous events, a reinfection -/
def exLog : Invest.Log := [(1, 0, "I"), (1, 1, "I"), (2, 0, "S"), (5/2, 0, "I")]
def exInit (v : Node) : String := if v = 2 then "I" else "S"
example : Pred.arraysMatch true (Invest.arraysOf 0 exInit exLog [0, 1, 2] ["S", "I"])
    (Invest.histories 0 exInit exLog [0, 1, 2]) ["S", "I"] = true := by decide +kernel
example : (Pred.summarySpec (Invest.histories 0 exInit exLog [0, 1, 2]) ["S", "I"]).cols =
    [[2, 0, 1, 0], [1, 3, 2, 3]] := by decide +kernel
example : (Pred.summarySpec (Invest.histories 0 exInit exLog [0, 1, 2]) ["S", "I"]).times = [0, 1, 2, 5/2] := by
  decide +kernel
example : Invest.ValidLog 0 [0, 1, 2] exLog := by
  refine ⟨by decide +kernel, ?_⟩
  intro e he
  simp only [exLog, List.mem_cons, List.not_mem_nil, or_false] at he
  rcases he with rfl | rfl | rfl | rfl <;> decide
