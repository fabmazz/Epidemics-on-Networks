import EoNVerif.Model.Investigation
import EoNVerif.Proofs.Gillespie
import EoNVerif.Proofs.GillespieOut
import EoNVerif.Proofs.GillespieOut2
import EoNVerif.Props.C01
import EoNVerif.Props.C12
import EoNVerif.Props.C13
import EoNVerif.Props.C02b
import EoNVerif.Props.C04b
/-!
C04 / C05 / C09 — statements for the Gillespie_SIR / Gillespie_SIS model: the executable predicates
`Pred.wellFormed`, `Pred.initialOK`, `Pred.transmissionsValid` hold of every output of the model.

`Gillespie.TapeNonneg` (every `expovariate` value on the tape is non-negative) is defined in
`EoNVerif/Proofs/TapeStep.lean`, `Gillespie.initName` (initial status names for the history model) in
`EoNVerif/Proofs/GillespieOut.lean`.

The C04 theorems about the other simulators (`Discrete.conserve`, `Discrete.rows_shape`, `EventSIS.log_before_tmax`,
`EventSIS.log_alternates`, `FastSIS.log_legal`, `EventSIR.rows_wf`) are stated with their models in `Props/C12`, `C13`, `C02b`,
`C04b`; this module imports those files only so that every theorem of the property is reachable from it.
-/
namespace Gillespie
open Pred Invest

/-- counters of the model state track the statuses -/
theorem counts_track (P : GParams) (h : WF P) (infs recs : List Node) (tmin : Rat) (tmax : ERat) (fuel cfuel : Nat)
    (hi : infs.Nodup) (him : ∀ u ∈ infs, u ∈ P.nodes) (hrn : recs.Nodup) (hr : ∀ u ∈ recs, u ∈ P.nodes)
    (hdis : ∀ u ∈ infs, u ∉ recs) (hsis : P.sis = true → recs = []) (ts ts' : TapeSt) (s' : GState)
    (hrun : run P infs recs tmin tmax fuel cfuel ts = .ok (s', ts')) :
    hd s'.S = ((P.nodes.filter fun u => s'.status u = St.S).length : Int) ∧
    hd s'.I = ((P.nodes.filter fun u => s'.status u = St.I).length : Int) ∧
    (P.sis = false → hd s'.R = ((P.nodes.filter fun u => s'.status u = St.R).length : Int)) :=
  have hc := counts_run P h infs recs tmin tmax fuel cfuel hi him hrn hr hdis hsis ts ts' s' hrun
  ⟨hc.1.trans (Rows.cnt_eq_filter ..), hc.2.1.trans (Rows.cnt_eq_filter ..), fun _ => hc.2.2.trans (Rows.cnt_eq_filter ..)⟩

/-- **C04**: the returned arrays are well-formed -/
theorem wf_gillespie (P : GParams) (h : WF P) (infs recs : List Node) (tmin : Rat) (tmax : ERat) (fuel cfuel : Nat)
    (hi : infs.Nodup) (him : ∀ u ∈ infs, u ∈ P.nodes) (hrn : recs.Nodup) (hr : ∀ u ∈ recs, u ∈ P.nodes)
    (hdis : ∀ u ∈ infs, u ∉ recs) (hsis : P.sis = true → recs = []) (htm : ERat.lt (some tmin) tmax = true)
    (ts ts' : TapeSt) (hts : TapeNonneg ts) (s' : GState)
    (hrun : run P infs recs tmin tmax fuel cfuel ts = .ok (s', ts')) :
    wellFormed (if P.sis then TrajKind.sisCont else TrajKind.sirCont) P.nodes.length tmin tmax false false (gTraj P s') = true :=
  (wf_run P h infs recs tmin tmax fuel cfuel hi him hrn hr hdis hsis htm ts ts' hts s' hrun).elim
    fun _ hG => gbook_wellFormed P tmin tmax s' hG

/-- **C04, termination with no infected node**: when the loop stops before the horizon it is because no node is
infectious (unbounded horizon, positive recovery rates: the loop's only other exit is total rate 0, which with
`gamma·w_u > 0` for all `u` means no infectious node) -/
theorem ends_without_infecteds (P : GParams) (h : WF P) (s : GState) (hs : Inv P s)
    (hg : 0 < P.gamma) (hw : ∀ f, P.nw = some f → ∀ u, 0 < f u) (h0 : totalRate P s = 0) :
    s.inf.items = [] := by
  by_contra hne
  have hpos : 0 < s.inf.totalWeight := by
    rw [LD.totalWeight_eq_sum _ hs.infInv]
    refine sumRat_map_pos _ _ hne fun c hc => ?_
    split
    · obtain ⟨f, hf⟩ := Option.isSome_iff_exists.1 (hs.infW ▸ ‹s.inf.weighted = true›)
      rw [hs.inf_w f hf c hc]
      exact hw f hf c
    · exact zero_lt_one
  have := mul_pos hg hpos
  have := mul_nonneg h.tau_nonneg (LD.totalWeight_nonneg s.links hs.linkInv)
  unfold totalRate recRate transRate at h0
  linarith

set_option linter.unusedVariables false in -- only `hsis`, `h0` are needed
/-- **C05**: row 0 is the requested initial condition -/
theorem ic_gillespie (P : GParams) (h : WF P) (infs recs : List Node) (tmin : Rat)
    (hi : infs.Nodup) (him : ∀ u ∈ infs, u ∈ P.nodes) (hrn : recs.Nodup) (hr : ∀ u ∈ recs, u ∈ P.nodes)
    (hdis : ∀ u ∈ infs, u ∉ recs) (hsis : P.sis = true → recs = []) (s0 : GState) (h0 : init P infs recs tmin = some s0) :
    initialOK P.nodes.length infs recs (Pred.row (gTraj P s0).cols 0) none (!P.sis) = true ∧
    (∀ v, s0.status v = initStatus infs recs v) := by
  obtain ⟨hst, -, hS, hI, hR, -⟩ := init_shape P infs recs tmin s0 h0
  refine ⟨?_, fun v => by rw [hst]⟩
  cases hs : P.sis with
  | true =>
    have hr := hsis hs
    subst hr
    simp [initialOK, gTraj, Pred.row, hs, hS, hI]
  | false =>
    simp [initialOK, gTraj, Pred.row, hs, hS, hI, hR]

set_option linter.unusedVariables false in -- `hr` is not needed
/-- **C05**: initially recovered nodes are never infected later -/
theorem recovered_never_infected (P : GParams) (h : WF P) (infs recs : List Node) (tmin : Rat) (tmax : ERat) (fuel cfuel : Nat)
    (hi : infs.Nodup) (him : ∀ u ∈ infs, u ∈ P.nodes) (hr : ∀ u ∈ recs, u ∈ P.nodes)
    (hdis : ∀ u ∈ infs, u ∉ recs) (hsis : P.sis = false) (ts ts' : TapeSt) (s' : GState)
    (hrun : run P infs recs tmin tmax fuel cfuel ts = .ok (s', ts')) :
    ∀ e ∈ s'.log, ∀ u v, e.2 = GEvent.transmit u v → v ∉ recs := by
  have key : (∀ v ∈ recs, s'.status v = St.R) ∧ ∀ e ∈ s'.log, ∀ u v, e.2 = GEvent.transmit u v → v ∉ recs := by
    refine (run_ind P h infs recs tmin tmax False
      (fun s => (∀ v ∈ recs, s.status v = St.R) ∧ ∀ e ∈ s.log, ∀ u v, e.2 = GEvent.transmit u v → v ∉ recs)
      hi him hdis (fun hc => by rw [hsis] at hc; cases hc) ?_ ?_ fuel cfuel ts ts' (fun hc => hc.elim) s' hrun).2
    · intro s0 h0 _ hst
      obtain ⟨-, -, -, -, -, hlog⟩ := init_shape P infs recs tmin s0 h0
      refine ⟨?_, ?_⟩
      · intro v hv; rw [hst]; simp [initStatus, hv]
      · intro e he; rw [hlog] at he; cases he
    · rintro s e tv s1 hs ⟨hQ1, hQ2⟩ hen - - ha
      obtain ⟨hst, -, hlog⟩ := applyEvent_shape P s s1 e tv ha
      -- the target of a transmission is susceptible, so it is not one of `recs`
      have htr : ∀ u v, e = .transmit u v → v ∉ recs := by
        rintro u v rfl hc
        have := hQ1 v hc
        rw [((hs.link_items u v).1 hen).2.2.2] at this
        cases this
      refine ⟨fun w hw => ?_, fun e' he' u' v' hev => ?_⟩
      · rw [hst]
        cases e with
        | recover u =>
          by_cases hwu : w = u
          · subst hwu; simp [Chain.apply, fset, hsis]
          · exact (fset_ne _ _ _ _ hwu).trans (hQ1 w hw)
        | transmit u v => exact (fset_ne _ _ _ _ fun hc : w = v => htr u v rfl (hc ▸ hw)).trans (hQ1 w hw)
      · rw [hlog] at he'
        rcases List.mem_cons.1 he' with rfl | he'
        · exact htr u' v' hev
        · exact hQ2 e' he' u' v' hev
  exact key.2

set_option linter.unusedVariables false in -- `hrn`, `hr` are not needed
/-- **C09**: the transmission list of the model is causally valid and complete (SIR: a forest rooted at the initial
nodes), for strictly positive waiting times (stated for `0 < x` because `expovariate` never returns 0; the proof needs
only `0 ≤ x`, `TapeNonneg`, as `wf_gillespie`) -/
theorem tv_gillespie (P : GParams) (h : WF P) (infs recs : List Node) (tmin : Rat) (tmax : ERat) (fuel cfuel : Nat)
    (hi : infs.Nodup) (him : ∀ u ∈ infs, u ∈ P.nodes) (hrn : recs.Nodup) (hr : ∀ u ∈ recs, u ∈ P.nodes)
    (hdis : ∀ u ∈ infs, u ∉ recs) (hsis : P.sis = true → recs = [])
    (hrange : P.nodes = List.range P.nodes.length)
    (ts ts' : TapeSt) (hts : ∀ d ∈ ts.tape, ∀ x, d = Draw.expo x → 0 < x) (s' : GState)
    (hrun : run P infs recs tmin tmax fuel cfuel ts = .ok (s', ts')) :
    transmissionsValid (if P.sis then sisSpec else sirSpec) (!P.sis) 0 P.nodes.length P.nbrs tmin infs
      (histories tmin (initName infs recs) (gLog P s') P.nodes) (gTrans tmin infs s') = true := by
  have hL := logInv_run P h infs recs tmin tmax fuel cfuel hi him hdis hsis ts ts'
    (fun d hd x hx => le_of_lt (hts d hd x hx)) s' hrun
  rw [gLog_eq]
  exact tv_of_valid P infs recs tmin s'.log hi him hrange hL.valid

end Gillespie

/-! non-vacuity: on the weighted 4-node path `exP` of `Props/C01` (which satisfies `Gillespie.WF`), a tape with
strictly positive waiting times makes `run` succeed with one transmission and one recovery, and the predicates
evaluate to `true` on that output (as the theorems above say they must) -/
def c04Tape : TapeSt :=
  { tape := [.expo 1, .unif (99/100), .choice 0, .unif 0, .expo (1/2), .unif 0, .choice 0, .unif 0, .expo 100] }

example : (match Gillespie.run exP [1, 3] [0] 0 (some 10) 5 5 c04Tape with
    | .ok (s, _) =>
      s.log == [(3/2, GEvent.recover 1), (1, GEvent.transmit 1 2)]
      && Pred.wellFormed .sirCont 4 0 (some 10) false false (Invest.gTraj exP s)
      && Pred.transmissionsValid Pred.sirSpec true 0 4 exP.nbrs 0 [1, 3]
          (Invest.histories 0 (Gillespie.initName [1, 3] [0]) (Invest.gLog exP s) exP.nodes) (Invest.gTrans 0 [1, 3] s)
    | .error _ => false) = true := by decide +kernel
