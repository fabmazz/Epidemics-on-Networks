import EoNVerif.Proofs.GenEq
/-!
Tie by translation (C06 / C07 / C08).  `Gen/Analytic.lean` is regenerated from `EoN/analytic.py` on every run by
`harness/py2lean.py`; the theorems of `Proofs/GenEq.lean` state that every generated right-hand side equals the
hand-written model the C06–C08 theorems are about, for every state and parameter:

  `GenEq.gen_sisHomMF`  `GenEq.gen_sirHomMF`  `GenEq.gen_sisHomPW`  `GenEq.gen_sirHomPW`
  `GenEq.gen_sisHetMF`  `GenEq.gen_sirHetMF`  `GenEq.gen_sisCompactPW`  `GenEq.gen_sirCompactPW`
  `GenEq.gen_sisSuperCompactPW`  `GenEq.gen_sirSuperCompactPW`  `GenEq.gen_sirCompactED`
  `GenEq.gen_ebcm` (+ `gen_ebcm_guard` for the ψ̂'(1) = 0 guard)

This file holds one consequence transported to the generated code, as an example of their use.
-/
namespace GenProps
open Gen ODE GenEq

/-- the generated `_dSIS_homogeneous_meanfield_` conserves S + I -/
theorem gen_sisHomMF_conserve (nN tau gamma S I : Rat) :
    (dSIS_homogeneous_meanfield (V.ofList [S, I]) nN tau gamma).f 0
      + (dSIS_homogeneous_meanfield (V.ofList [S, I]) nN tau gamma).f 1 = 0 := by
  obtain ⟨_, h0, h1⟩ := gen_sisHomMF nN tau gamma S I
  rw [h0, h1]
  simp [sisHomMF]

end GenProps
