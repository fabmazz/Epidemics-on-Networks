import EoNVerif.Proofs.GenWrap4
import EoNVerif.Props.C06h
import EoNVerif.Props.C20c
import EoNVerif.Proofs.GenGlue3
/-!
C06j — the `*_from_graph` wrappers GENERATED into `Gen/WrapGen.lean`: (1) the explicit-sets request of
`SIR_compact_effective_degree_from_graph`; (2) `SIS_super_compact_pairwise_from_graph` and (3)
`SIR_super_compact_pairwise_from_graph` (records for explicit sets and `rho` / default, exceptions with precedence, totals, end
to end with C06d); (4) the argument records of `EBCM_pref_mix_from_graph` / `EBCM_pref_mix_discrete_from_graph` (that `KeysOK` holds
for `get_Pk(G)` / `get_Pnk(G)` of every graph: C06k §1; here kernel-checked on `exW`).  Tools (loops, moments, closures):
`Proofs/GenWrap4.lean`.  Hypotheses, names, tags (A)–(D) and the index of all wrappers: header of C06e; `psiHatG`, `psiHatPG` (the
graph's own `ψ̂`, `ψ̂'`): C06h §0.
-/
namespace GenWrapProps4
open GenInit InitCond GenInitProofs GenWrap GenWrapProofs GenWrapProofs2 GenWrapProofs3 GenWrapProofs4 GenGlueProofs
open GenWrapProps GenWrapProps2 GenWrapProps3
open GenHelpProofs (PkAL ok_bind err_bind pure_eq_ok)
open PyGlue

/-! ## 1. `SIR_compact_effective_degree_from_graph`, explicit sets -/

/-- number of NON-RECOVERED neighbours of `u` (the `kappa` of the wrapper) -/
def nrDeg (adj : List (List Nat)) (st : Nat → St) (u : Nat) : Nat := ((adj.getD u []).filter fun v => st v ≠ St.R).length

/-- number of SUSCEPTIBLE nodes having exactly `k` non-recovered neighbours -/
def kappaCount (adj : List (List Nat)) (st : Nat → St) (k : Nat) : Nat :=
  ((List.range adj.length).filter fun u => nrDeg adj st u = k ∧ st u = St.S).length

theorem nrDeg_le (adj : List (List Nat)) (st : Nat → St) (u : Nat) (hu : u < adj.length) :
    nrDeg adj st u ≤ maxDeg adj :=
  le_trans (List.length_filter_le _ _) (deg_le_maxDeg adj u hu)

theorem sum_kappaCount (adj : List (List Nat)) (st : Nat → St) :
    ((List.range (maxDeg adj + 1)).map (fun k => kappaCount adj st k)).sum = count adj st St.S := by
  unfold kappaCount count
  exact sum_filter_classes (nrDeg adj st) (fun u => st u = St.S) (maxDeg adj) (List.range adj.length)
    (fun u hu => nrDeg_le adj st u (List.mem_range.mp hu))

theorem cnt_kappa (A : WArgs) (adj : List (List Nat)) (hW : GraphOKW A adj) (st : Node → St) (k : Nat) :
    cnt (nrCount st A.neighbors) st A.nodes St.S k = kappaCount adj st k := by
  unfold cnt kappaCount
  rw [hW.nodes]
  congr 1
  apply List.filter_congr
  intro u hu
  rw [nrCount_graph A adj hW st u (List.mem_range.mp hu)]
  rfl

/-- (A) explicit disjoint sets of graph nodes: `Skappa0[κ]` = number of susceptible nodes with exactly `κ` non-recovered
neighbours (`κ = 0..maxdeg`), `I0`, `R0` = numbers of infected / recovered nodes, `SI0` = number of (susceptible node,
infected neighbour) ordered pairs -/
theorem SIR_compact_effective_degree_args_spec (A : WArgs) (adj : List (List Nat)) (hW : GraphOKW A adj)
    (tau gamma : Rat) (infs : List Node) (recs : Option (List Node)) (hS : SetsOK adj infs (recs.getD []))
    (hN : adj.length ≠ 0) (tmin tmax : Rat) (tcount : Int) (full : Bool) :
    SIR_compact_effective_degree_from_graph_args A tau gamma (some infs) recs none tmin tmax tcount full =
      .ok { Skappa0 := vec (maxDeg adj) (fun k => (kappaCount adj (statusOf infs (recs.getD [])) k : Rat)),
            I0 := (count adj (statusOf infs (recs.getD [])) St.I : Rat),
            R0 := (count adj (statusOf infs (recs.getD [])) St.R : Rat),
            SI0 := (pairCount adj (statusOf infs (recs.getD [])) St.S St.I : Rat),
            tau := tau, gamma := gamma, tmin := tmin, tmax := tmax, tcount := tcount, return_full_data := full } := by
  have hG := hW.toGraphOK
  have hst := status_of_setsOK A adj hG hS
  have hne := nodes_ne_nil A adj hG hN
  unfold SIR_compact_effective_degree_from_graph_args
  simp only [Option.isSome_none, Bool.false_and, Bool.false_eq_true, if_false, ok_bind, hst, maxKey_degrees, hne,
    zeros_eq]
  set st := statusOf infs (recs.getD [])
  rw [cedLoop (nrCount st A.neighbors) (fun u => nbCount st A.neighbors u St.I) st _ A.nodes]
  · simp only [ok_bind, pure_eq_ok, degs_eq A.toIArgs adj hG, sumS_nb A adj hW, filterR_graph A adj hG,
      cnt_kappa A adj hW]
    simp [maxDeg_eq, count, hG.nodes]
  · intro u hu _
    rw [hG.nodes] at hu
    have hu' := List.mem_range.mp hu
    rw [degs_eq A.toIArgs adj hG, nrCount_graph A adj hW _ u hu']
    exact nrDeg_le adj _ u hu'
  · intro F SI I0 R0 u hu
    simp only [nbFoldP, ok_bind, zero_add, Int.cast_one]
    cases h : st u <;> simp [nbCount, nrCount]

/-- (B) the exceptions of the explicit-sets request with the precedence of the generated code: `EoNError` for `rho` with a
set; THEN ValueError on a graph without nodes (`max` of no degrees — BEFORE the sets are looked at, unlike
`EBCM_from_graph`); then the `EoNError` of the status builder (overlap / node outside the graph).  (The `rho` / default
request: C06h `SIR_compact_effective_degree_args_error`.) -/
theorem SIR_compact_effective_degree_args_error_sets (A : WArgs) (tau gamma : Rat) (tmin tmax : Rat) (tcount : Int)
    (full : Bool) :
    (∀ infs recs r, infs.isSome ∨ recs.isSome →
      SIR_compact_effective_degree_from_graph_args A tau gamma infs recs (some r) tmin tmax tcount full
        = .error "EoNError") ∧
    (∀ infs recs, A.nodes = [] →
      SIR_compact_effective_degree_from_graph_args A tau gamma (some infs) recs none tmin tmax tcount full
        = .error "ValueError") ∧
    (∀ infs recs e, A.nodes ≠ [] → initialize_node_status A.toIArgs infs (recs.getD []) = .error e →
      SIR_compact_effective_degree_from_graph_args A tau gamma (some infs) recs none tmin tmax tcount full
        = .error e) := by
  refine ⟨fun infs recs r h => SIRced_both A tau gamma infs recs r tmin tmax tcount full h, fun infs recs hN => ?_,
    fun infs recs e hne he => ?_⟩
  · unfold SIR_compact_effective_degree_from_graph_args
    simp only [Option.isSome_none, Bool.false_and, Bool.false_eq_true, if_false, maxKey_counter, hN, List.map_nil,
      if_true, err_bind]
  · unfold SIR_compact_effective_degree_from_graph_args
    simp only [Option.isSome_none, Bool.false_and, Bool.false_eq_true, if_false, ok_bind, he, maxKey_degrees, hne,
      zeros_eq, err_bind]

/-- (C) EVERY non-error case of the explicit-sets request: the sets are disjoint lists of graph nodes, the graph has nodes,
`Skappa0` has `maxdeg + 1` entries, `Σ_κ Skappa0[κ]` = number of susceptible nodes and
**`Σ_κ Skappa0[κ] + I0 + R0 = N`**; for duplicate-free lists `I0 = len(initial_infecteds)`, `R0 = len(initial_recovereds)` -/
theorem SIR_compact_effective_degree_args_total (A : WArgs) (adj : List (List Nat)) (hW : GraphOKW A adj)
    (tau gamma : Rat) (infs : List Node) (recs : Option (List Node)) (tmin tmax : Rat) (tcount : Int) (full : Bool)
    (a : SIR_compact_effective_degree_Args)
    (h : SIR_compact_effective_degree_from_graph_args A tau gamma (some infs) recs none tmin tmax tcount full = .ok a) :
    SetsOK adj infs (recs.getD []) ∧ adj.length ≠ 0 ∧ a.Skappa0.length = maxDeg adj + 1 ∧
    a.Skappa0.sum = (count adj (statusOf infs (recs.getD [])) St.S : Rat) ∧
    a.Skappa0.sum + a.I0 + a.R0 = (adj.length : Rat) ∧
    (infs.Nodup → (recs.getD []).Nodup → a.I0 = (infs.length : Rat) ∧ a.R0 = ((recs.getD []).length : Rat)) := by
  have hG := hW.toGraphOK
  obtain ⟨-, e2, e3⟩ := SIR_compact_effective_degree_args_error_sets A tau gamma tmin tmax tcount full
  have hN : adj.length ≠ 0 := by
    intro e
    rw [e2 infs recs (nodes_eq_nil A adj hG e)] at h; cases h
  have hne := nodes_ne_nil A adj hG hN
  cases hst : initialize_node_status A.toIArgs infs (recs.getD []) with
  | error e => rw [e3 infs recs e hne hst] at h; cases h
  | ok st =>
    have hS := setsOK_of_status A adj hG hst
    rw [SIR_compact_effective_degree_args_spec A adj hW tau gamma infs recs hS hN] at h
    injection h with h; subst h
    have hsum : (vec (maxDeg adj) (fun k => (kappaCount adj (statusOf infs (recs.getD [])) k : Rat))).sum
        = (count adj (statusOf infs (recs.getD [])) St.S : Rat) := by
      rw [vec_sum_cast, sum_kappaCount]
    refine ⟨hS, hN, vec_length _ _, hsum, ?_, fun hi hr => ?_⟩
    · rw [hsum]
      exact count_total_rat adj _
    · obtain ⟨cI, cR, -⟩ := request_counts adj infs (recs.getD []) hS hi hr
      exact ⟨cI, cR⟩

/-- (D) end to end, explicit sets, with or without full data, EVERY solver: **`S + I + R = N` at every time index**; with
`odeint rhs X0 0 = X0` the series start from the numbers of susceptible / infected / recovered nodes -/
theorem SIR_compact_effective_degree_from_graph_init_conserve (odeint : Solver) (A : WArgs) (adj : List (List Nat))
    (hW : GraphOKW A adj) (tau gamma : Rat) (infs : List Node) (recs : Option (List Node)) (tmin tmax : Rat)
    (tcount : Int) (full : Bool) (l : List Ser)
    (h : SIR_compact_effective_degree_from_graph odeint A tau gamma (some infs) recs none tmin tmax tcount full = .ok l) :
    (∀ i, get l 1 i + get l 2 i + get l 3 i = (adj.length : Rat)) ∧
    (RowZero odeint →
      get l 1 0 = (count adj (statusOf infs (recs.getD [])) St.S : Rat) ∧
      get l 2 0 = (count adj (statusOf infs (recs.getD [])) St.I : Rat) ∧
      get l 3 0 = (count adj (statusOf infs (recs.getD [])) St.R : Rat) ∧
      (infs.Nodup → (recs.getD []).Nodup →
        get l 2 0 = (infs.length : Rat) ∧ get l 3 0 = ((recs.getD []).length : Rat))) := by
  obtain ⟨a, ha, hl⟩ := SIR_compact_effective_degree_from_graph_inv odeint A tau gamma _ _ _ tmin tmax tcount full l h
  obtain ⟨hS, hN, -, t1, t2, t3⟩ := SIR_compact_effective_degree_args_total A adj hW tau gamma infs recs tmin tmax tcount
    full a ha
  refine ⟨fun i => ?_, fun h0 => ?_⟩
  · rw [C06d.SIR_compact_effective_degree_conserve odeint _ _ _ _ _ _ _ _ _ _ l hl i, sumTo_ofList]
    exact t2
  · obtain ⟨i1, i2, i3⟩ := C06d.SIR_compact_effective_degree_init odeint h0 _ _ _ _ _ _ _ _ _ _ l hl
    rw [sumTo_ofList] at i1
    rw [SIR_compact_effective_degree_args_spec A adj hW tau gamma infs recs hS hN] at ha
    injection ha with ha; subst ha
    refine ⟨i1.trans t1, i2, i3, fun hi hr => ?_⟩
    exact ⟨i2.trans (t3 hi hr).1, i3.trans (t3 hi hr).2⟩

/-! ## 2. `SIS_super_compact_pairwise_from_graph` -/

theorem kMoment_graph (adj : List (List Nat)) :
    (∀ j, kMoment (adj.map (·.length)) j
      = sumRat ((adj.map (·.length)).map fun k => ((k : Nat) : Rat) ^ j) / (adj.length : Rat)) ∧
    kMoment (adj.map (·.length)) 1 = (twoM adj : Rat) / (adj.length : Rat) := by
  refine ⟨fun j => by simp [kMoment, Helpers.meanDeg], ?_⟩
  unfold kMoment Helpers.meanDeg twoM
  simp only [pow_one, List.length_map]
  rw [sumRat_cast_nat]

theorem sum_class (adj : List (List Nat)) (st : Nat → St) (x : St) :
    sumRat (vec (maxDeg adj) fun k => (classCount adj st x k : Rat)) = (count adj st x : Rat) := by
  rw [sumRat_eq_sum, classCount_sum]

/-- (A) explicit set of graph nodes: `S0`, `I0` = numbers of susceptible / infected nodes (sums of the class arrays),
`SS0`, `SI0`, `II0` = ordered-pair counts of `_count_edge_types_` (`SS0`, `II0` count every edge twice, `SI0` once), and
through `Pk.get(k, 0)` / `np.dot` over `k = 0..maxdeg`: `k_ave = Σ_u deg u / N = 2|E|/N`, `ksquare_ave = Σ_u deg² / N`,
`kcube_ave = Σ_u deg³ / N` -/
theorem SIS_super_compact_pairwise_args_spec (A : WArgs) (adj : List (List Nat)) (hG : GraphOK A.toIArgs adj)
    (tau gamma : Rat) (infs : List Node) (hin : ∀ u ∈ infs, u < adj.length) (hN : adj.length ≠ 0)
    (tmin tmax : Rat) (tcount : Int) (full : Bool) :
    SIS_super_compact_pairwise_from_graph_args A tau gamma (some infs) none tmin tmax tcount full =
      .ok { S0 := (count adj (statusOf infs []) St.S : Rat), I0 := (count adj (statusOf infs []) St.I : Rat),
            SS0 := (pairCount adj (statusOf infs []) St.S St.S : Rat),
            SI0 := (pairCount adj (statusOf infs []) St.S St.I : Rat),
            II0 := (pairCount adj (statusOf infs []) St.I St.I : Rat), tau := tau, gamma := gamma,
            k_ave := (twoM adj : Rat) / (adj.length : Rat), ksquare_ave := kMoment (adj.map (·.length)) 2,
            kcube_ave := kMoment (adj.map (·.length)) 3,
            tmin := tmin, tmax := tmax, tcount := tcount, return_full_data := full } := by
  have hS := SetsOK.nil_recs (adj := adj) hin
  have hst := status_of_setsOK A adj hG hS
  have hne := nodes_ne_nil A adj hG hN
  obtain ⟨m1, v2, m2, v3, m3⟩ := moments_ok (adj.map (·.length))
  unfold SIS_super_compact_pairwise_from_graph_args
  simp only [Option.isSome_none, Option.isSome_some, Bool.false_and, Bool.false_eq_true, if_false, arrays_closed,
    and_false, and_true, hne, Option.getD_none, sets_ok A.toIArgs adj hG infs [] _ hst, ok_bind,
    count_ok A.toIArgs adj hG infs [] _ hst, GenHelpProofs.get_Pk_eq, vec_length, ks_eq, degs_eq A.toIArgs adj hG,
    maxDeg_eq, pure_eq_ok, Pks_eq, m1, v2, m2, v3, m3]
  rw [← maxDeg_eq, sum_class, sum_class, (kMoment_graph adj).2]
  simp

/-- (A) without `initial_infecteds`: `rho` (default `1/N`): `S0 = (1-rho)N`, `I0 = rho·N`, and through `np.dot` with
`arange(len(Nk))`: `SS0 = (1-rho)·(1-rho)·2|E|`, `SI0 = rho·(1-rho)·2|E|`, `II0 = rho²·2|E|`; the moments as above -/
theorem SIS_super_compact_pairwise_args_rho (A : WArgs) (adj : List (List Nat)) (hG : GraphOK A.toIArgs adj)
    (tau gamma : Rat) (rho : Option Rat) (hN : adj.length ≠ 0) (tmin tmax : Rat) (tcount : Int) (full : Bool) :
    SIS_super_compact_pairwise_from_graph_args A tau gamma none rho tmin tmax tcount full =
      .ok { S0 := rhoS adj (rho.getD (1 / (adj.length : Rat))), I0 := rhoI adj (rho.getD (1 / (adj.length : Rat))),
            SS0 := rhoSS adj (rho.getD (1 / (adj.length : Rat))), SI0 := rhoSI adj (rho.getD (1 / (adj.length : Rat))),
            II0 := rhoII adj (rho.getD (1 / (adj.length : Rat))), tau := tau, gamma := gamma,
            k_ave := (twoM adj : Rat) / (adj.length : Rat), ksquare_ave := kMoment (adj.map (·.length)) 2,
            kcube_ave := kMoment (adj.map (·.length)) 3,
            tmin := tmin, tmax := tmax, tcount := tcount, return_full_data := full } := by
  have hne := nodes_ne_nil A adj hG hN
  rw [SISscp_rho_eq A tau gamma rho tmin tmax tcount full hne, nodes_length A.toIArgs adj hG]
  generalize rho.getD (1 / (adj.length : Rat)) = r
  have ht := C06c.gen_rho_total A.toIArgs adj hG r
  rw [C06c.gen_rho_eq_vec A.toIArgs adj hG] at ht
  obtain ⟨m1, v2, m2, v3, m3⟩ := moments_ok (adj.map (·.length))
  unfold SIS_super_compact_pairwise_from_graph_args
  simp only [Option.isSome_none, Option.isSome_some, Bool.and_false, Bool.false_eq_true, if_false, arrays_closed,
    and_false, hne, Option.getD_some, rho_ok A.toIArgs adj hG, ok_bind, GenHelpProofs.get_Pk_eq, vec_length,
    ks_eq, degs_eq A.toIArgs adj hG, maxDeg_eq, pure_eq_ok, Pks_eq, m1, v2, m2, v3, m3, dot_rhoSk, dot_Nk, Int.cast_one]
  rw [maxDeg_eq] at ht
  have e1 : (1 - r) * ((1 - r) * (twoM adj : Rat)) = rhoSS adj r := by rw [rhoSS]; ring
  have e2 : r * ((1 - r) * (twoM adj : Rat)) = rhoSI adj r := by rw [rhoSI]; ring
  have e3 : r * r * (1 * (twoM adj : Rat)) = rhoII adj r := by rw [rhoII]; ring
  rw [(kMoment_graph adj).2, sumRat_eq_sum, sumRat_eq_sum, ht.2.1, ht.2.2.1, e1, e2, e3]

/-- (B) the exceptions, ALL inputs, with the precedence of the generated code: `EoNError` for `rho` with
`initial_infecteds`; then ValueError on a graph without nodes (`max` of no degrees inside `_get_Nk_and_IC_as_arrays_` —
ALSO for the default request: no ZeroDivisionError from `1/N` here, unlike `SIS_compact_pairwise_from_graph`); then the
`EoNError` of the status builder (node outside the graph) -/
theorem SIS_super_compact_pairwise_args_error (A : WArgs) (tau gamma : Rat) (tmin tmax : Rat) (tcount : Int)
    (full : Bool) :
    (∀ infs r, SIS_super_compact_pairwise_from_graph_args A tau gamma (some infs) (some r) tmin tmax tcount full
      = .error "EoNError") ∧
    (∀ infs rho, ¬ (rho.isSome ∧ infs.isSome) → A.nodes = [] →
      SIS_super_compact_pairwise_from_graph_args A tau gamma infs rho tmin tmax tcount full = .error "ValueError") ∧
    (∀ infs e, A.nodes ≠ [] → initialize_node_status A.toIArgs infs [] = .error e →
      SIS_super_compact_pairwise_from_graph_args A tau gamma (some infs) none tmin tmax tcount full = .error e) := by
  refine ⟨fun infs r => rfl, fun infs rho hb hN => ?_, fun infs e hne he => ?_⟩
  · have h' := guard_false hb
    unfold SIS_super_compact_pairwise_from_graph_args
    simp only [h', Bool.false_eq_true, if_false, arrays_closed, hb, Option.isSome_none, and_false, hN,
      if_true, err_bind]
  · unfold SIS_super_compact_pairwise_from_graph_args
    simp only [Option.isSome_none, Option.isSome_some, Bool.false_and, Bool.false_eq_true, if_false, arrays_closed,
      and_false, and_true, hne, Option.getD_none, sets_unfold, he, err_bind]

/-- (C) EVERY non-error case, any request: the graph has nodes, a given initial set consists of graph nodes,
**`S0 + I0 = N`**, `k_ave = 2|E|/N`, the parameters are passed on; in the `rho` request `SS0 + 2·SI0 + II0 = 2|E|` (explicit sets:
not stated; it follows from `GenInitProofs.pairCount_total` as in C06g `SIS_compact_pairwise_args_total`) -/
theorem SIS_super_compact_pairwise_args_total (A : WArgs) (adj : List (List Nat)) (hG : GraphOK A.toIArgs adj)
    (tau gamma : Rat) (infs : Option (List Node)) (rho : Option Rat) (tmin tmax : Rat) (tcount : Int) (full : Bool)
    (a : SIS_super_compact_pairwise_Args)
    (h : SIS_super_compact_pairwise_from_graph_args A tau gamma infs rho tmin tmax tcount full = .ok a) :
    adj.length ≠ 0 ∧ (∀ l, infs = some l → ∀ u ∈ l, u < adj.length) ∧ a.S0 + a.I0 = (adj.length : Rat) ∧
    a.k_ave = (twoM adj : Rat) / (adj.length : Rat) ∧ a.tau = tau ∧ a.gamma = gamma ∧ a.tmin = tmin ∧ a.tmax = tmax ∧
    a.tcount = tcount ∧ a.return_full_data = full ∧
    (infs = none → a.SS0 + 2 * a.SI0 + a.II0 = (twoM adj : Rat)) := by
  obtain ⟨e1, e2, e3⟩ := SIS_super_compact_pairwise_args_error A tau gamma tmin tmax tcount full
  by_cases hb : rho.isSome ∧ infs.isSome
  · obtain ⟨r, rfl⟩ := Option.isSome_iff_exists.mp hb.1
    obtain ⟨l, rfl⟩ := Option.isSome_iff_exists.mp hb.2
    rw [e1] at h; cases h
  · have hN : adj.length ≠ 0 := by
      intro e
      rw [e2 infs rho hb (nodes_eq_nil A adj hG e)] at h; cases h
    cases infs with
    | none =>
      rw [SIS_super_compact_pairwise_args_rho A adj hG tau gamma rho hN] at h
      injection h with h; subst h
      refine ⟨hN, (fun l hl => by cases hl), ?_, rfl, rfl, rfl, rfl, rfl, rfl, rfl, fun _ => ?_⟩
      · simp only [rhoS, rhoI]; ring
      · simp only [rhoSS, rhoSI, rhoII]; ring
    | some l =>
      have : rho = none := by
        cases rho with
        | none => rfl
        | some r => exact absurd ⟨rfl, rfl⟩ hb
      subst this
      cases hst : initialize_node_status A.toIArgs l [] with
      | error e => rw [e3 l e (nodes_ne_nil A adj hG hN) hst] at h; cases h
      | ok st =>
        have i := (setsOK_of_status A adj hG hst).infIn
        rw [SIS_super_compact_pairwise_args_spec A adj hG tau gamma l i hN] at h
        injection h with h; subst h
        refine ⟨hN, (fun l' hl' => by injection hl' with hl'; subst hl'; exact i), ?_, rfl, rfl, rfl, rfl, rfl, rfl, rfl,
          (fun hn => by cases hn)⟩
        have := count_total_rat adj (statusOf l [])
        rwa [count_R_nil, Nat.cast_zero, add_zero] at this

theorem SIS_super_compact_pairwise_from_graph_inv (odeint : Solver) (A : WArgs) (tau gamma : Rat)
    (infs : Option (List Node)) (rho : Option Rat) (tmin tmax : Rat) (tcount : Int) (full : Bool) (l : List Ser)
    (h : SIS_super_compact_pairwise_from_graph odeint A tau gamma infs rho tmin tmax tcount full = .ok l) :
    ∃ a, SIS_super_compact_pairwise_from_graph_args A tau gamma infs rho tmin tmax tcount full = .ok a ∧
      GenGlue.SIS_super_compact_pairwise odeint a.S0 a.I0 a.SS0 a.SI0 a.II0 a.tau a.gamma a.k_ave a.ksquare_ave
        a.kcube_ave a.tmin a.tmax a.tcount.toNat a.return_full_data = .ok l :=
  bind_ok_inv _ _ l h

/-- (D) end to end, ANY request (set, `rho`, default), with or without full data, EVERY solver: **`S + I = N` at every
time index** -/
theorem SIS_super_compact_pairwise_from_graph_conserve (odeint : Solver) (A : WArgs) (adj : List (List Nat))
    (hG : GraphOK A.toIArgs adj) (tau gamma : Rat) (infs : Option (List Node)) (rho : Option Rat) (tmin tmax : Rat)
    (tcount : Int) (full : Bool) (l : List Ser)
    (h : SIS_super_compact_pairwise_from_graph odeint A tau gamma infs rho tmin tmax tcount full = .ok l) (i : Nat) :
    get l 1 i + get l 2 i = (adj.length : Rat) := by
  obtain ⟨a, ha, hl⟩ := bind_ok_inv _ _ _ h
  obtain ⟨-, -, t, -⟩ := SIS_super_compact_pairwise_args_total A adj hG tau gamma infs rho tmin tmax tcount full a ha
  rw [C06d.SIS_super_compact_pairwise_conserve odeint _ _ _ _ _ _ _ _ _ _ _ _ _ _ l hl i]
  exact t

/-- (D) with `odeint rhs X0 0 = X0`: explicit set — the series start from the numbers of susceptible / infected nodes
(`len(initial_infecteds)` for a duplicate-free list); `rho` / default — from `(1-rho)N`, `rho·N`; with full data the pair
series start from `SS0`, `SI0`, `II0` of the record -/
theorem SIS_super_compact_pairwise_from_graph_init (odeint : Solver) (h0 : RowZero odeint) (A : WArgs)
    (adj : List (List Nat)) (hG : GraphOK A.toIArgs adj) (tau gamma : Rat) (tmin tmax : Rat) (tcount : Int)
    (full : Bool) (l : List Ser) :
    (∀ infs, SIS_super_compact_pairwise_from_graph odeint A tau gamma (some infs) none tmin tmax tcount full = .ok l →
      get l 1 0 = (count adj (statusOf infs []) St.S : Rat) ∧ get l 2 0 = (count adj (statusOf infs []) St.I : Rat) ∧
      (infs.Nodup → get l 2 0 = (infs.length : Rat)) ∧
      (full = true → get l 3 0 = (pairCount adj (statusOf infs []) St.S St.S : Rat) ∧
        get l 4 0 = (pairCount adj (statusOf infs []) St.S St.I : Rat) ∧
        get l 5 0 = (pairCount adj (statusOf infs []) St.I St.I : Rat))) ∧
    (∀ rho, SIS_super_compact_pairwise_from_graph odeint A tau gamma none rho tmin tmax tcount full = .ok l →
      get l 1 0 = rhoS adj (rho.getD (1 / (adj.length : Rat))) ∧
      get l 2 0 = rhoI adj (rho.getD (1 / (adj.length : Rat))) ∧
      (full = true → get l 3 0 = rhoSS adj (rho.getD (1 / (adj.length : Rat))) ∧
        get l 4 0 = rhoSI adj (rho.getD (1 / (adj.length : Rat))) ∧
        get l 5 0 = rhoII adj (rho.getD (1 / (adj.length : Rat))))) := by
  constructor
  · intro infs h
    obtain ⟨a, ha, hl⟩ := bind_ok_inv _ _ _ h
    obtain ⟨hN, hin, -⟩ := SIS_super_compact_pairwise_args_total A adj hG tau gamma _ _ tmin tmax tcount full a ha
    rw [SIS_super_compact_pairwise_args_spec A adj hG tau gamma infs (hin infs rfl) hN] at ha
    injection ha with ha; subst ha
    obtain ⟨i1, i2⟩ := C06d.SIS_super_compact_pairwise_init odeint h0 _ _ _ _ _ _ _ _ _ _ _ _ _ _ l hl
    refine ⟨i1, i2, fun hi => ?_, fun hf => ?_⟩
    · rw [i2, count_I adj infs [] hi (SetsOK.nil_recs (hin infs rfl))]
    · subst hf
      exact C06d.SIS_super_compact_pairwise_init_full odeint h0 _ _ _ _ _ _ _ _ _ _ _ _ _ l hl
  · intro rho h
    obtain ⟨a, ha, hl⟩ := bind_ok_inv _ _ _ h
    obtain ⟨hN, -⟩ := SIS_super_compact_pairwise_args_total A adj hG tau gamma _ _ tmin tmax tcount full a ha
    rw [SIS_super_compact_pairwise_args_rho A adj hG tau gamma rho hN] at ha
    injection ha with ha; subst ha
    obtain ⟨i1, i2⟩ := C06d.SIS_super_compact_pairwise_init odeint h0 _ _ _ _ _ _ _ _ _ _ _ _ _ _ l hl
    refine ⟨i1, i2, fun hf => ?_⟩
    subst hf
    exact C06d.SIS_super_compact_pairwise_init_full odeint h0 _ _ _ _ _ _ _ _ _ _ _ _ _ l hl

/-! ## 3. `SIR_super_compact_pairwise_from_graph` -/

/-- the second derivative of the graph's `ψ̂`: `Σ_{k≥2} k(k-1)·Pk[k]·Sk0[k]·x^(k-2)` (`Pk[k] = N_k/N`,
`Sk0[k]` = susceptible fraction of degree class `k`), i.e. `Σ_{k≥2} k(k-1)·cS(k)·x^(k-2) / N` -/
def psiHatDPG (adj : List (List Nat)) (st : Nat → St) (x : Rat) : Rat :=
  sum2 ((PkAL (adj.map (·.length))).map (·.1))
    (fun k => alGet (PkAL (adj.map (·.length))) 0 k * (Sk0G adj st).getD k 0) x

/-- `ψ''(x) = Σ_{k≥2} k(k-1)·Pk[k]·x^(k-2)` -/
def psiKDP (Pk : List (Nat × Rat)) (x : Rat) : Rat := sum2 (Pk.map (·.1)) (fun k => alGet Pk 0 k) x

theorem div_terms (keys : List Nat) (f g : Nat → Rat) (N : Rat) (hN : N ≠ 0) (h : ∀ k ∈ keys, f k = N * g k) :
    sumRat (keys.map f) / N = sumRat (keys.map g) := by
  rw [sumRat_map_congr keys f (fun k => N * g k) h, sumRat_map_mul_left, mul_div_cancel_left₀ _ hN]

theorem class_term (adj : List (List Nat)) (st : Nat → St) (hN : adj.length ≠ 0) (k : Nat)
    (hk : k ∈ (PkAL (adj.map (·.length))).map (·.1)) :
    (vec (maxDeg adj) fun k => (classCount adj st St.S k : Rat)).getD k 0 =
      (adj.length : Rat) * (alGet (PkAL (adj.map (·.length))) 0 k * (Sk0G adj st).getD k 0) := by
  have hkd : k ∈ adj.map (·.length) := keys_PkAL_mem _ k hk
  have hle : k ≤ maxDeg adj := Helpers.le_maxDeg _ k hkd
  have hNr : (adj.length : Rat) ≠ 0 := by exact_mod_cast hN
  have hnk := Nk_ne_zero adj k hkd
  rw [vec_getD _ _ k hle, Pk_graph, Sk0G_getD adj st k hle]
  field_simp

/-- (A) explicit disjoint sets of graph nodes: `R0` = number of recovered nodes, `SS0`, `SI0` = ordered-pair counts,
`N`, and the three closures: `psihat(x) = Σ_{k∈Pk} Sk0[k]·x^k / N` (here `Sk0[k]` COUNTS the susceptible nodes of degree
`k`) = the graph's own `ψ̂(x)` for ALL `x`; `psihatPrime = ψ̂'` for `x ≠ 0` or a graph without isolated nodes — it RAISES
ZeroDivisionError at 0 otherwise (`0.0 ** (-1)`); `psihatDPrime = ψ̂''` for `x ≠ 0` or a graph without nodes of degree
0 or 1 — it RAISES at 0 as soon as the graph has a LEAF (`0.0 ** (-1)` for `k = 1`, although its coefficient
`k(k-1)` is 0); `N·psihat(1)` = number of susceptible nodes -/
theorem SIR_super_compact_pairwise_args_spec (A : WArgs) (adj : List (List Nat)) (hG : GraphOK A.toIArgs adj)
    (tau gamma : Rat) (infs : List Node) (recs : Option (List Node)) (hS : SetsOK adj infs (recs.getD []))
    (hN : adj.length ≠ 0) (tmin tmax : Rat) (tcount : Int) (full : Bool) :
    ∃ a, SIR_super_compact_pairwise_from_graph_args A tau gamma (some infs) recs none tmin tmax tcount full = .ok a ∧
      a.R0 = (count adj (statusOf infs (recs.getD [])) St.R : Rat) ∧
      (infs.Nodup → (recs.getD []).Nodup → a.R0 = ((recs.getD []).length : Rat)) ∧
      a.SS0 = (pairCount adj (statusOf infs (recs.getD [])) St.S St.S : Rat) ∧
      a.SI0 = (pairCount adj (statusOf infs (recs.getD [])) St.S St.I : Rat) ∧
      a.N = (adj.length : Rat) ∧
      (∀ x, a.psihat x = .ok (psiHatG adj (statusOf infs (recs.getD [])) x)) ∧
      (∀ x, a.psihatPrime x = if x = 0 ∧ 0 ∈ adj.map (·.length) then .error "ZeroDivisionError"
        else .ok (psiHatPG adj (statusOf infs (recs.getD [])) x)) ∧
      (∀ x, a.psihatDPrime x = if x = 0 ∧ (0 ∈ adj.map (·.length) ∨ 1 ∈ adj.map (·.length)) then
        .error "ZeroDivisionError" else .ok (psiHatDPG adj (statusOf infs (recs.getD [])) x)) ∧
      a.N * psiHatG adj (statusOf infs (recs.getD [])) 1 = (count adj (statusOf infs (recs.getD [])) St.S : Rat) ∧
      a.tau = tau ∧ a.gamma = gamma ∧ a.tmin = tmin ∧ a.tmax = tmax ∧ a.tcount = tcount ∧
      a.return_full_data = full := by
  have hst := status_of_setsOK A adj hG hS
  have hne := nodes_ne_nil A adj hG hN
  have hNr : (adj.length : Rat) ≠ 0 := by exact_mod_cast hN
  have hct := class_term adj (statusOf infs (recs.getD [])) hN
  have hcl := closures _ (adj.map (·.length)) (keys_PkAL_iff _) _ _
    (keys_lt _ (vec (maxDeg adj) fun k => (classCount adj (statusOf infs (recs.getD [])) St.S k : Rat)) (vec_length _ _))
  unfold SIR_super_compact_pairwise_from_graph_args
  rw [Int.cast_natCast (R := Rat) A.nodes.length]
  simp only [Option.isSome_none, Option.isSome_some, Bool.false_and, Bool.false_eq_true, if_false, arrays_closed,
    Option.isNone_none, Option.isNone_some, Bool.and_false, Bool.false_and, pure_eq_ok,
    and_true, false_and, hne, sets_ok A.toIArgs adj hG infs (recs.getD []) _ hst, ok_bind,
    count_ok A.toIArgs adj hG infs (recs.getD []) _ hst, GenHelpProofs.get_Pk_eq, degs_eq A.toIArgs adj hG,
    nodes_length A.toIArgs adj hG, Bool.true_eq_false]
  refine ⟨_, rfl, sum_class _ _ _, fun hi hr => (sum_class _ _ _).trans (request_counts adj infs _ hS hi hr).2.1,
    by simp, by simp, rfl, fun x => ?_, fun x => ?_, fun x => ?_,
    psiHat_one adj _ hN, rfl, rfl, rfl, rfl, rfl, rfl⟩
  -- the closures divide the sums over the class counts `cS(k) = N·Pk[k]·Sk0[k]` by `N`
  · simp only [(hcl x).1, ok_bind]
    simp only [Int.cast_natCast, GenHelpProofs.fdiv_ok _ _ hNr]
    congr 1
    unfold psiHatG psiHatV sum0
    apply div_terms _ _ _ _ hNr
    intro k hk; simp only [hct k hk]; ring
  · simp only [(hcl x).2.1]
    by_cases hc : x = 0 ∧ 0 ∈ adj.map (·.length)
    · simp only [if_pos hc, err_bind]
    · simp only [if_neg hc, ok_bind, Int.cast_natCast, GenHelpProofs.fdiv_ok _ _ hNr]
      congr 1
      unfold psiHatPG psiHatPV sum1
      apply div_terms _ _ _ _ hNr
      intro k hk; simp only [hct k hk]; split <;> ring
  · simp only [(hcl x).2.2]
    by_cases hc : x = 0 ∧ (0 ∈ adj.map (·.length) ∨ 1 ∈ adj.map (·.length))
    · simp only [if_pos hc, err_bind]
    · simp only [if_neg hc, ok_bind, Int.cast_natCast, GenHelpProofs.fdiv_ok _ _ hNr]
      congr 1
      unfold psiHatDPG sum2
      apply div_terms _ _ _ _ hNr
      intro k hk; simp only [hct k hk]; split <;> ring

/-- (A) without `initial_infecteds` and `initial_recovereds`: `rho` (default `1/N`): `R0 = 0`,
`SS0 = (1-rho)·(1-rho)·2|E|`, `SI0 = rho·(1-rho)·2|E|`, `psihat = (1-rho)ψ`, `psihatPrime = (1-rho)ψ'`,
`psihatDPrime = (1-rho)ψ''` (same exceptions at 0), `N·psihat(1) = (1-rho)N` -/
theorem SIR_super_compact_pairwise_args_rho (A : WArgs) (adj : List (List Nat)) (hG : GraphOK A.toIArgs adj)
    (tau gamma : Rat) (rho : Option Rat) (hN : adj.length ≠ 0) (tmin tmax : Rat) (tcount : Int) (full : Bool) :
    ∃ a, SIR_super_compact_pairwise_from_graph_args A tau gamma none none rho tmin tmax tcount full = .ok a ∧
      a.R0 = 0 ∧ a.SS0 = rhoSS adj (rho.getD (1 / (adj.length : Rat))) ∧
      a.SI0 = rhoSI adj (rho.getD (1 / (adj.length : Rat))) ∧ a.N = (adj.length : Rat) ∧
      (∀ x, a.psihat x = .ok ((1 - rho.getD (1 / (adj.length : Rat))) * psiK (PkAL (adj.map (·.length))) x)) ∧
      (∀ x, a.psihatPrime x = if x = 0 ∧ 0 ∈ adj.map (·.length) then .error "ZeroDivisionError"
        else .ok ((1 - rho.getD (1 / (adj.length : Rat))) * psiKP (PkAL (adj.map (·.length))) x)) ∧
      (∀ x, a.psihatDPrime x = if x = 0 ∧ (0 ∈ adj.map (·.length) ∨ 1 ∈ adj.map (·.length)) then
        .error "ZeroDivisionError"
        else .ok ((1 - rho.getD (1 / (adj.length : Rat))) * psiKDP (PkAL (adj.map (·.length))) x)) ∧
      a.N * ((1 - rho.getD (1 / (adj.length : Rat))) * psiK (PkAL (adj.map (·.length))) 1)
        = rhoS adj (rho.getD (1 / (adj.length : Rat))) ∧
      a.tau = tau ∧ a.gamma = gamma ∧ a.tmin = tmin ∧ a.tmax = tmax ∧ a.tcount = tcount ∧
      a.return_full_data = full := by
  have hne := nodes_ne_nil A adj hG hN
  have hd : adj.map (·.length) ≠ [] := fun e => hN (by simpa using congrArg List.length e)
  rw [SIRscp_rho_eq A tau gamma rho tmin tmax tcount full hne, nodes_length A.toIArgs adj hG]
  generalize rho.getD (1 / (adj.length : Rat)) = r
  have hcl := closures _ (adj.map (·.length)) (keys_PkAL_iff _) _ _ (fun k hk => wdictGet_key _ k hk)
  unfold SIR_super_compact_pairwise_from_graph_args
  rw [Int.cast_natCast (R := Rat) A.nodes.length]
  simp only [Option.isSome_none, Option.isSome_some, Bool.and_false, Bool.false_eq_true, if_false, arrays_closed,
    Option.isNone_none, Option.isNone_some, Bool.false_and, pure_eq_ok, 
    and_false, hne, Option.getD_some, rho_ok A.toIArgs adj hG, ok_bind,
    GenHelpProofs.get_Pk_eq, vec_length, ks_eq, degs_eq A.toIArgs adj hG, maxDeg_eq, dot_rhoSk, PyWrap.num,
    nodes_length A.toIArgs adj hG, Int.cast_one]
  refine ⟨_, rfl, by simp [vec, sumRat_eq_sum], by rw [rhoSS]; ring, by rw [rhoSI]; ring, rfl, fun x => ?_,
    fun x => ?_, fun x => ?_, ?_, rfl, rfl, rfl, rfl, rfl, rfl⟩
  · simp only [(hcl x).1, ok_bind]; rfl
  · simp only [(hcl x).2.1]; split <;> rfl
  · simp only [(hcl x).2.2]; split <;> rfl
  · show (adj.length : Rat) * _ = _
    rw [psiK_one _ hd, rhoS]; ring

/-- (B) the exceptions, ALL inputs, with the precedence of the generated code: `EoNError` for `rho` with
`initial_infecteds`; with neither: ZeroDivisionError on a graph without nodes (the default `rho = 1/N` first); then —
SURPRISE — `EoNError` for `initial_recovereds` WITHOUT `initial_infecteds`, also when NO `rho` was given (the default
`rho` has just been filled in, and `_get_Nk_and_IC_as_arrays_` rejects `rho` together with `initial_recovereds`); then
ValueError on a graph without nodes; then the `EoNError` of the status builder -/
theorem SIR_super_compact_pairwise_args_error (A : WArgs) (tau gamma : Rat) (tmin tmax : Rat) (tcount : Int)
    (full : Bool) :
    (∀ infs recs r, SIR_super_compact_pairwise_from_graph_args A tau gamma (some infs) recs (some r) tmin tmax tcount full
      = .error "EoNError") ∧
    (∀ recs, A.nodes.length = 0 →
      SIR_super_compact_pairwise_from_graph_args A tau gamma none recs none tmin tmax tcount full
        = .error "ZeroDivisionError") ∧
    (∀ l rho, rho.isSome ∨ A.nodes.length ≠ 0 →
      SIR_super_compact_pairwise_from_graph_args A tau gamma none (some l) rho tmin tmax tcount full
        = .error "EoNError") ∧
    (∀ infs recs, A.nodes = [] →
      SIR_super_compact_pairwise_from_graph_args A tau gamma (some infs) recs none tmin tmax tcount full
        = .error "ValueError") ∧
    (∀ r, A.nodes = [] →
      SIR_super_compact_pairwise_from_graph_args A tau gamma none none (some r) tmin tmax tcount full
        = .error "ValueError") ∧
    (∀ infs recs e, A.nodes ≠ [] → initialize_node_status A.toIArgs infs (recs.getD []) = .error e →
      SIR_super_compact_pairwise_from_graph_args A tau gamma (some infs) recs none tmin tmax tcount full = .error e) := by
  unfold SIR_super_compact_pairwise_from_graph_args
  refine ⟨fun infs recs r => rfl, fun recs hN => ?_, fun l rho h => ?_, fun infs recs hN => ?_, fun r hN => ?_,
    fun infs recs e hne he => ?_⟩
  · simp only [Option.isSome_none, Bool.false_eq_true, if_false, Option.isNone_none, Bool.and_self,
      if_true, hN, Nat.cast_zero, Int.cast_zero, GenHelpProofs.fdiv_zero, err_bind]
  · cases rho with
    | some r =>
      simp only [Option.isSome_none, Option.isSome_some, Option.isNone_some, Bool.and_false, Bool.false_and,
        Bool.false_eq_true, if_false, pure_eq_ok, ok_bind, arrays_closed, and_self, and_false, if_true,
        err_bind]
    | none =>
      have hne : A.nodes ≠ [] := fun e => by simp [e] at h
      simp only [Option.isSome_none, Option.isSome_some, Option.isNone_none, Bool.and_self, 
        Bool.false_eq_true, if_false, if_true, fdiv_one_N A hne, pure_eq_ok, ok_bind, arrays_closed, and_self, and_false,
        err_bind]
  · simp only [Option.isSome_none, Option.isSome_some, Option.isNone_none, Option.isNone_some, Bool.false_and,
      Bool.and_false, Bool.false_eq_true, Bool.true_eq_false, if_false, pure_eq_ok, ok_bind, arrays_closed, 
      false_and, and_true, hN, if_true, err_bind]
  · simp only [Option.isSome_none, Option.isSome_some, Option.isNone_none, Option.isNone_some, Bool.false_and,
      Bool.and_false, Bool.false_eq_true, Bool.true_eq_false, if_false, pure_eq_ok, ok_bind, arrays_closed, and_false,
      hN, if_true, err_bind]
  · simp only [Option.isSome_none, Option.isSome_some, Bool.false_and, Bool.false_eq_true, if_false, arrays_closed,
      Option.isNone_none, Option.isNone_some, Bool.and_false, Bool.false_and, pure_eq_ok, Bool.true_eq_false,
      and_true, false_and, hne, ok_bind, sets_unfold, he, err_bind]

/-- (C) a successful call read backwards, any request: the graph has nodes, `a.N = N`, `psihat` is total, a request without
`initial_infecteds` has no `initial_recovereds`, an explicit-sets request has no `rho` and its lists are disjoint lists
of graph nodes; the scalar parameters are passed on.  (`S + I + R = N` needs no more than `a.N = N`:
`C06d.SIR_super_compact_pairwise_conserve`.) -/
theorem SIR_super_compact_pairwise_args_total (A : WArgs) (adj : List (List Nat)) (hG : GraphOK A.toIArgs adj)
    (tau gamma : Rat) (infs recs : Option (List Node)) (rho : Option Rat) (tmin tmax : Rat) (tcount : Int)
    (full : Bool) (a : SIR_super_compact_pairwise_Args)
    (h : SIR_super_compact_pairwise_from_graph_args A tau gamma infs recs rho tmin tmax tcount full = .ok a) :
    adj.length ≠ 0 ∧ a.N = (adj.length : Rat) ∧ (∃ f : Rat → Rat, ∀ x, a.psihat x = .ok (f x)) ∧
    (infs = none → recs = none) ∧
    (∀ l, infs = some l → rho = none ∧ SetsOK adj l (recs.getD [])) ∧
    a.tau = tau ∧ a.gamma = gamma ∧ a.tmin = tmin ∧ a.tmax = tmax ∧ a.tcount = tcount ∧ a.return_full_data = full := by
  obtain ⟨e1, e2, e3, e4, e5, e6⟩ := SIR_super_compact_pairwise_args_error A tau gamma tmin tmax tcount full
  have hlen := nodes_length A.toIArgs adj hG
  cases infs with
  | some l =>
    cases rho with
    | some r => rw [e1] at h; cases h
    | none =>
      have hN : adj.length ≠ 0 := by
        intro e; rw [e4 l recs (nodes_eq_nil A adj hG e)] at h; cases h
      cases hst : initialize_node_status A.toIArgs l (recs.getD []) with
      | error e => rw [e6 l recs e (nodes_ne_nil A adj hG hN) hst] at h; cases h
      | ok st =>
        have hS := setsOK_of_status A adj hG hst
        obtain ⟨a', ha', -, -, -, -, h5, h6, -, -, -, h13⟩ :=
          SIR_super_compact_pairwise_args_spec A adj hG tau gamma l recs hS hN tmin tmax tcount full
        rw [h] at ha'; injection ha' with ha'; subst ha'
        exact ⟨hN, h5, ⟨_, h6⟩, (fun hh => by cases hh),
          (fun l' hl' => by injection hl' with hl'; subst hl'; exact ⟨rfl, hS⟩), h13⟩
  | none =>
    cases recs with
    | some l =>
      by_cases hc : rho.isSome ∨ A.nodes.length ≠ 0
      · rw [e3 l rho hc] at h; cases h
      · have hr : rho = none := by
          cases rho with
          | none => rfl
          | some r => exact absurd (Or.inl rfl) hc
        subst hr
        rw [e2 (some l) (by by_contra hh; exact hc (Or.inr hh))] at h; cases h
    | none =>
      have hN : adj.length ≠ 0 := by
        intro e
        cases rho with
        | none => rw [e2 none (by rw [hlen]; exact e)] at h; cases h
        | some r => rw [e5 r (nodes_eq_nil A adj hG e)] at h; cases h
      obtain ⟨a', ha', -, -, -, h5, h6, -, -, -, h13⟩ :=
        SIR_super_compact_pairwise_args_rho A adj hG tau gamma rho hN tmin tmax tcount full
      rw [h] at ha'; injection ha' with ha'; subst ha'
      exact ⟨hN, h5, ⟨_, h6⟩, (fun _ => rfl), (fun l' hl' => by cases hl'), h13⟩

theorem SIR_super_compact_pairwise_from_graph_inv (odeint : Solver) (A : WArgs) (tau gamma : Rat)
    (infs recs : Option (List Node)) (rho : Option Rat) (tmin tmax : Rat) (tcount : Int) (full : Bool) (l : List Ser)
    (h : SIR_super_compact_pairwise_from_graph odeint A tau gamma infs recs rho tmin tmax tcount full = .ok l) :
    ∃ a, SIR_super_compact_pairwise_from_graph_args A tau gamma infs recs rho tmin tmax tcount full = .ok a ∧
      GenGlue.SIR_super_compact_pairwise odeint a.R0 a.SS0 a.SI0 a.N a.tau a.gamma (PyWrap.total a.psihat)
        (PyWrap.total a.psihatPrime) (PyWrap.total a.psihatDPrime) a.tmin a.tmax a.tcount.toNat a.return_full_data
        = .ok l :=
  bind_ok_inv _ _ l h

/-- (D) end to end, ANY request, with or without full data, EVERY solver: **`S + I + R = N` at every time index** -/
theorem SIR_super_compact_pairwise_from_graph_conserve (odeint : Solver) (A : WArgs) (adj : List (List Nat))
    (hG : GraphOK A.toIArgs adj) (tau gamma : Rat) (infs recs : Option (List Node)) (rho : Option Rat)
    (tmin tmax : Rat) (tcount : Int) (full : Bool) (l : List Ser)
    (h : SIR_super_compact_pairwise_from_graph odeint A tau gamma infs recs rho tmin tmax tcount full = .ok l) (i : Nat) :
    get l 1 i + get l 2 i + get l 3 i = (adj.length : Rat) := by
  obtain ⟨a, ha, hl⟩ := bind_ok_inv _ _ _ h
  obtain ⟨-, t, -⟩ := SIR_super_compact_pairwise_args_total A adj hG tau gamma infs recs rho tmin tmax tcount full a ha
  rw [C06d.SIR_super_compact_pairwise_conserve odeint _ _ _ _ _ _ _ _ _ _ _ _ _ l hl i]
  exact t

/-- (D) with `odeint rhs X0 0 = X0`, explicit sets: the series start from the numbers of susceptible / infected /
recovered nodes (`len(…)` for duplicate-free lists); `rho` / default: from `(1-rho)N`, `rho·N`, `0` -/
theorem SIR_super_compact_pairwise_from_graph_init (odeint : Solver) (h0 : RowZero odeint) (A : WArgs)
    (adj : List (List Nat)) (hG : GraphOK A.toIArgs adj) (tau gamma : Rat) (tmin tmax : Rat) (tcount : Int)
    (full : Bool) (l : List Ser) :
    (∀ infs recs,
      SIR_super_compact_pairwise_from_graph odeint A tau gamma (some infs) recs none tmin tmax tcount full = .ok l →
      get l 1 0 = (count adj (statusOf infs (recs.getD [])) St.S : Rat) ∧
      get l 2 0 = (count adj (statusOf infs (recs.getD [])) St.I : Rat) ∧
      get l 3 0 = (count adj (statusOf infs (recs.getD [])) St.R : Rat) ∧
      (infs.Nodup → (recs.getD []).Nodup →
        get l 2 0 = (infs.length : Rat) ∧ get l 3 0 = ((recs.getD []).length : Rat))) ∧
    (∀ rho, SIR_super_compact_pairwise_from_graph odeint A tau gamma none none rho tmin tmax tcount full = .ok l →
      get l 1 0 = rhoS adj (rho.getD (1 / (adj.length : Rat))) ∧
      get l 2 0 = rhoI adj (rho.getD (1 / (adj.length : Rat))) ∧ get l 3 0 = 0) := by
  constructor
  · intro infs recs h
    obtain ⟨a, ha, hl⟩ := bind_ok_inv _ _ _ h
    obtain ⟨hN, -, -, -, hs, -⟩ := SIR_super_compact_pairwise_args_total A adj hG tau gamma _ _ _ tmin tmax tcount full a ha
    obtain ⟨-, hS⟩ := hs infs rfl
    obtain ⟨a', ha', r0, -, -, -, hNN, hp, -, -, hone, -⟩ :=
      SIR_super_compact_pairwise_args_spec A adj hG tau gamma infs recs hS hN tmin tmax tcount full
    rw [ha] at ha'; injection ha' with ha'; subst ha'
    obtain ⟨i1, i2, i3⟩ := C06d.SIR_super_compact_pairwise_init odeint h0 _ _ _ _ _ _ _ _ _ _ _ _ _ l hl
    rw [total_of_ok _ 1 _ (hp 1), hone] at i1 i2
    have h2 := count_total_rat adj (statusOf infs (recs.getD []))
    have hI : get l 2 0 = (count adj (statusOf infs (recs.getD [])) St.I : Rat) := by
      rw [i2, r0, hNN]; linarith
    refine ⟨i1, hI, i3.trans r0, fun hi hr => ?_⟩
    obtain ⟨cI, cR, -⟩ := request_counts adj infs (recs.getD []) hS hi hr
    exact ⟨hI.trans cI, (i3.trans r0).trans cR⟩
  · intro rho h
    obtain ⟨a, ha, hl⟩ := bind_ok_inv _ _ _ h
    obtain ⟨hN, -⟩ := SIR_super_compact_pairwise_args_total A adj hG tau gamma _ _ _ tmin tmax tcount full a ha
    obtain ⟨a', ha', r0, -, -, hNN, hp, -, -, hone, -⟩ :=
      SIR_super_compact_pairwise_args_rho A adj hG tau gamma rho hN tmin tmax tcount full
    rw [ha] at ha'; injection ha' with ha'; subst ha'
    obtain ⟨i1, i2, i3⟩ := C06d.SIR_super_compact_pairwise_init odeint h0 _ _ _ _ _ _ _ _ _ _ _ _ _ l hl
    rw [total_of_ok _ 1 _ (hp 1), hone] at i1 i2
    refine ⟨i1, ?_, i3.trans r0⟩
    rw [i2, r0, hNN]; simp only [rhoS, rhoI]; ring

/-! ## 4. `EBCM_pref_mix_from_graph`, `EBCM_pref_mix_discrete_from_graph`: the argument records -/

theorem nbrDegs_graph (A : WArgs) (adj : List (List Nat)) (hW : GraphOKW A adj) :
    A.nodes.map (fun u_ => (A.neighbors u_).map A.degree) = GenHelpProofs.nbrDegs adj := by
  have hG := hW.toGraphOK
  have h := congrArg (List.map (fun nb : List Nat => nb.map (fun v => (adj.getD v []).length)))
    (GenHelpProofs.map_getD_range adj []).symm
  rw [hG.nodes, GenHelpProofs.nbrDegs, h, List.map_map]
  apply List.map_congr_left
  intro u hu
  have hu' := List.mem_range.mp hu
  simp only [Function.comp]
  rw [hW.nbrs u hu']
  apply List.map_congr_left
  intro v hv
  have hv' : v < adj.length := lt_of_mem_getD adj v u ((hG.symm u v).mp hv)
  rw [hG.degree v hv']; rfl

/-- (A)(B) ALL inputs, no hypothesis: the two wrappers NEVER raise — not on the empty graph either (`get_Pk`, `get_Pnk`
return empty dicts, `N = 0`; it is the BASE function that then fails) — and pass `N = G.order()`, `Pk = get_Pk(G)`, `rho`
AS GIVEN (`None` stays `None`: the default `1/N` is the base function's), and the other parameters on -/
theorem EBCM_pref_mix_args_total (A : WArgs) (tau gamma p : Rat) (rho : Option Rat) (tmin tmax : Rat) (tcount : Int)
    (dmin dmax : Int) (full : Bool) :
    (∃ a, EBCM_pref_mix_from_graph_args A tau gamma rho tmin tmax tcount full = .ok a ∧
      a.N = (A.nodes.length : Rat) ∧ a.Pk = PkAL (A.nodes.map A.degree) ∧
      GenHelp.get_Pnk (A.nodes.map (fun u_ => (A.neighbors u_).map A.degree)) = .ok a.Pnk ∧ a.rho = rho ∧
      a.tau = tau ∧ a.gamma = gamma ∧ a.tmin = tmin ∧ a.tmax = tmax ∧ a.tcount = tcount ∧ a.return_full_data = full) ∧
    (∃ a, EBCM_pref_mix_discrete_from_graph_args A p rho dmin dmax full = .ok a ∧
      a.N = (A.nodes.length : Rat) ∧ a.Pk = PkAL (A.nodes.map A.degree) ∧
      GenHelp.get_Pnk (A.nodes.map (fun u_ => (A.neighbors u_).map A.degree)) = .ok a.Pnk ∧ a.rho = rho ∧
      a.p = p ∧ a.tmin = dmin ∧ a.tmax = dmax ∧ a.return_full_data = full) := by
  obtain ⟨P, hP, -⟩ := GenHelpProofs.get_Pnk_eq (A.nodes.map (fun u_ => (A.neighbors u_).map A.degree))
  constructor
  · unfold EBCM_pref_mix_from_graph_args
    rw [GenHelpProofs.get_Pk_eq, hP]
    exact ⟨_, rfl, by simp, rfl, rfl, rfl, rfl, rfl, rfl, rfl, rfl, rfl⟩
  · unfold EBCM_pref_mix_discrete_from_graph_args
    rw [GenHelpProofs.get_Pk_eq, hP]
    exact ⟨_, rfl, by simp, rfl, rfl, rfl, rfl, rfl, rfl, rfl⟩

/-- (A) on a graph: `N`, `Pk[k] = N_k/N` with the degrees present as keys (first-seen order), and
`Pnk[k1][k2]` = the model `Helpers.Pnk adj k1 k2` of C20 / C20c (fraction of the neighbours of degree-`k1` nodes that have
degree `k2`) — both wrappers build the SAME `N`, `Pk`, `Pnk` -/
theorem EBCM_pref_mix_args_spec (A : WArgs) (adj : List (List Nat)) (hW : GraphOKW A adj) (tau gamma p : Rat)
    (rho : Option Rat) (tmin tmax : Rat) (tcount : Int) (dmin dmax : Int) (full : Bool) :
    ∃ P, GenHelp.get_Pnk (GenHelpProofs.nbrDegs adj) = .ok P ∧
      (∀ k1 k2, alGet (alGet P [] k1) 0 k2 = Helpers.Pnk adj k1 k2) ∧
      (∀ k, alGet (PkAL (adj.map (·.length))) 0 k = (Nk adj k : Rat) / (adj.length : Rat)) ∧
      (PkAL (adj.map (·.length))).map (·.1) = (adj.map (·.length)).eraseDups ∧
      EBCM_pref_mix_from_graph_args A tau gamma rho tmin tmax tcount full =
        .ok { N := (adj.length : Rat), Pk := PkAL (adj.map (·.length)), Pnk := P, tau := tau, gamma := gamma, rho := rho,
              tmin := tmin, tmax := tmax, tcount := tcount, return_full_data := full } ∧
      EBCM_pref_mix_discrete_from_graph_args A p rho dmin dmax full =
        .ok { N := (adj.length : Rat), Pk := PkAL (adj.map (·.length)), Pnk := P, p := p, rho := rho,
              tmin := dmin, tmax := dmax, return_full_data := full } := by
  have hG := hW.toGraphOK
  obtain ⟨P, hP, hv⟩ := GenHelpDeg.gen_get_Pnk_eq adj
  refine ⟨P, hP, hv, Pk_graph adj, GenHelpProofs.PkAL_keys _, ?_, ?_⟩
  · unfold EBCM_pref_mix_from_graph_args
    rw [GenHelpProofs.get_Pk_eq, nbrDegs_graph A adj hW, hP, degs_eq A.toIArgs adj hG, nodes_length A.toIArgs adj hG]
    simp [GenHelpProofs.ok_bind]
  · unfold EBCM_pref_mix_discrete_from_graph_args
    rw [GenHelpProofs.get_Pk_eq, nbrDegs_graph A adj hW, hP, degs_eq A.toIArgs adj hG, nodes_length A.toIArgs adj hG]
    simp [GenHelpProofs.ok_bind]

/-! ## 5. non-vacuity on the triangle 0–1–2 with the pendant node 3 (`exW` of C06e), kernel-checked -/

/-- `SIR_compact_effective_degree_from_graph`, node 0 infected, node 3 recovered: the theorem instantiated, and the class
counts evaluated — nodes 1 and 2 are susceptible with 2 non-recovered neighbours each (node 2's neighbour 3 is recovered) -/
example : SIR_compact_effective_degree_from_graph_args exW 1 1 (some [0]) (some [3]) none 0 10 11 false =
    .ok { Skappa0 := vec (maxDeg C06c.exAdj) (fun k => (kappaCount C06c.exAdj (statusOf [0] [3]) k : Rat)),
          I0 := (count C06c.exAdj (statusOf [0] [3]) St.I : Rat), R0 := (count C06c.exAdj (statusOf [0] [3]) St.R : Rat),
          SI0 := (pairCount C06c.exAdj (statusOf [0] [3]) St.S St.I : Rat),
          tau := 1, gamma := 1, tmin := 0, tmax := 10, tcount := 11, return_full_data := false } :=
  SIR_compact_effective_degree_args_spec exW C06c.exAdj exW_okW 1 1 [0] (some [3]) ⟨by decide, by decide, by decide⟩
    (by decide) 0 10 11 false
example : (List.range 4).map (kappaCount C06c.exAdj (statusOf [0] [3])) = [0, 0, 2, 0] ∧
    pairCount C06c.exAdj (statusOf [0] [3]) St.S St.I = 2 ∧ maxDeg C06c.exAdj = 3 := by
  refine ⟨by decide +kernel, by decide +kernel, by decide +kernel⟩
/-- error cases with their precedence: on the empty graph ValueError comes BEFORE the check of the sets (node 7 is
foreign); `rho` with a set; a foreign node; an overlap -/
example : (match SIR_compact_effective_degree_from_graph_args emptyW 1 1 (some [7]) none none 0 10 11 false with
    | .error e => e == "ValueError" | .ok _ => false) = true := by decide +kernel
example : (match SIR_compact_effective_degree_from_graph_args exW 1 1 (some [7]) none none 0 10 11 false with
    | .error e => e == "EoNError" | .ok _ => false) = true := by decide +kernel
example : (match SIR_compact_effective_degree_from_graph_args exW 1 1 (some [0]) (some [0]) none 0 10 11 false with
    | .error e => e == "EoNError" | .ok _ => false) = true := by decide +kernel
/-- COUNTER-EXAMPLE (the hypothesis `G.neighbors(u)` = adjacency list of `GraphOKW` is needed): with a neighbour function
listing five neighbours while `maxdeg = 3`, `Skappa0[kappa] += 1` is out of range: IndexError -/
example : (match SIR_compact_effective_degree_from_graph_args { exW with neighbors := fun _ => [1, 1, 1, 1, 2] } 1 1
    (some [0]) (some [3]) none 0 10 11 false with | .error e => e == "IndexError" | .ok _ => false) = true := by
  decide +kernel
example : ∃ l, SIR_compact_effective_degree_from_graph toyOdeint exW 1 1 (some [0]) (some [3]) none 0 10 11 true = .ok l ∧
    (∀ i, get l 1 i + get l 2 i + get l 3 i = 4) ∧ get l 1 0 = 2 ∧ get l 2 0 = 1 ∧ get l 3 0 = 1 := by
  have hex : ∃ l, SIR_compact_effective_degree_from_graph toyOdeint exW 1 1 (some [0]) (some [3]) none 0 10 11 true
      = .ok l := by
    unfold SIR_compact_effective_degree_from_graph
    rw [SIR_compact_effective_degree_args_spec exW C06c.exAdj exW_okW 1 1 [0] (some [3])
      ⟨by decide, by decide, by decide⟩ (by decide) 0 10 11 true]
    simp only [GenHelpProofs.ok_bind]
    exact (C06d.SIR_compact_effective_degree_shape toyOdeint _ _ _ _ _ _ _ _ _ _).imp fun _ h => h.1
  obtain ⟨l, h⟩ := hex
  obtain ⟨hc, hi⟩ := SIR_compact_effective_degree_from_graph_init_conserve toyOdeint exW C06c.exAdj exW_okW 1 1 [0]
    (some [3]) 0 10 11 true l h
  obtain ⟨i1, i2, i3, -⟩ := hi toyOdeint_zero
  exact ⟨l, h, fun i => (hc i).trans (by decide +kernel), i1.trans (by decide +kernel), i2.trans (by decide +kernel),
    i3.trans (by decide +kernel)⟩

/-- `SIS_super_compact_pairwise_from_graph`: node 0 infected: `S0 I0 SS0 SI0 II0 = 3 1 4 2 0`, moments
`2, 18/4, 44/4`; default `rho = 1/4`: `3 1 (3/4)²·8 (1/4)(3/4)·8 (1/4)²·8` -/
example : ((SIS_super_compact_pairwise_from_graph_args exW 1 1 (some [0]) none 0 10 11 false).toOption.map
    fun a => (a.S0, a.I0, a.SS0, a.SI0)) = some (3, 1, 4, 2) ∧
    ((SIS_super_compact_pairwise_from_graph_args exW 1 1 (some [0]) none 0 10 11 false).toOption.map
    fun a => (a.II0, a.k_ave, a.ksquare_ave, a.kcube_ave)) = some (0, 2, 9 / 2, 11) := by
  constructor <;> decide +kernel
example : ((SIS_super_compact_pairwise_from_graph_args exW 1 1 none none 0 10 11 false).toOption.map
    fun a => (a.S0, a.I0, a.SS0, a.SI0)) = some (3, 1, 9 / 2, 3 / 2) ∧
    ((SIS_super_compact_pairwise_from_graph_args exW 1 1 none none 0 10 11 false).toOption.map
    fun a => (a.II0, a.k_ave, a.ksquare_ave, a.kcube_ave)) = some (1 / 2, 2, 9 / 2, 11) := by
  constructor <;> decide +kernel
/-- errors: `rho` with a set; a foreign node; the empty graph with NOTHING given is a ValueError here (ZeroDivisionError
for `SIS_compact_pairwise_from_graph`, C06e) -/
example : (match SIS_super_compact_pairwise_from_graph_args exW 1 1 (some [0]) (some (1 / 4)) 0 10 11 false with
    | .error e => e == "EoNError" | .ok _ => false) = true := by decide +kernel
example : (match SIS_super_compact_pairwise_from_graph_args exW 1 1 (some [7]) none 0 10 11 false with
    | .error e => e == "EoNError" | .ok _ => false) = true := by decide +kernel
example : (match SIS_super_compact_pairwise_from_graph_args emptyW 1 1 none none 0 10 11 false with
    | .error e => e == "ValueError" | .ok _ => false) = true := by decide +kernel
/-- `Nodup` is necessary for `I0 = len(initial_infecteds)`: here `I0` is the class-array sum (ONE infected node) -/
example : ((SIS_super_compact_pairwise_from_graph_args exW 1 1 (some [0, 0]) none 0 10 11 false).toOption.map
    fun a => (a.S0, a.I0)) = some (3, 1) := by decide +kernel
example : ∃ l, SIS_super_compact_pairwise_from_graph toyOdeint exW 1 1 (some [0]) none 0 10 11 true = .ok l ∧
    (∀ i, get l 1 i + get l 2 i = 4) ∧ get l 1 0 = 3 ∧ get l 2 0 = 1 ∧ get l 3 0 = 4 ∧ get l 4 0 = 2 := by
  have hex : ∃ l, SIS_super_compact_pairwise_from_graph toyOdeint exW 1 1 (some [0]) none 0 10 11 true = .ok l := by
    unfold SIS_super_compact_pairwise_from_graph
    rw [SIS_super_compact_pairwise_args_spec exW C06c.exAdj exW_ok 1 1 [0] (by decide) (by decide) 0 10 11 true]
    simp only [GenHelpProofs.ok_bind]
    exact (C06d.SIS_super_compact_pairwise_shape toyOdeint _ _ _ _ _ _ _ _ _ _ _ _ _ _).imp fun _ h => h.1
  obtain ⟨l, h⟩ := hex
  have hc := SIS_super_compact_pairwise_from_graph_conserve toyOdeint exW C06c.exAdj exW_ok 1 1 _ _ 0 10 11 true l h
  obtain ⟨i1, i2, -, i4⟩ := (SIS_super_compact_pairwise_from_graph_init toyOdeint toyOdeint_zero exW C06c.exAdj exW_ok
    1 1 0 10 11 true l).1 [0] h
  obtain ⟨i5, i6, -⟩ := i4 rfl
  exact ⟨l, h, fun i => (hc i).trans (by decide +kernel), i1.trans (by decide +kernel), i2.trans (by decide +kernel),
    i5.trans (by decide +kernel), i6.trans (by decide +kernel)⟩

/-- `SIR_super_compact_pairwise_from_graph`: node 0 infected, node 3 recovered: `R0 SS0 SI0 N = 1 2 2 4`,
`psihat(1) = 2/4`, `psihatPrime(1) = (2+3)/4`, `psihatDPrime(1) = (2+6)/4`; the graph has a LEAF (node 3), so
`psihatDPrime(0)` RAISES (while `psihatPrime(0) = 0`: no isolated node) -/
example : ((SIR_super_compact_pairwise_from_graph_args exW 1 1 (some [0]) (some [3]) none 0 10 11 false).toOption.map
    fun a => (a.R0, a.SS0, a.SI0, a.N)) = some (1, 2, 2, 4) ∧
    ((SIR_super_compact_pairwise_from_graph_args exW 1 1 (some [0]) (some [3]) none 0 10 11 false).toOption.map
    fun a => ((a.psihat 1).toOption, (a.psihatPrime 1).toOption, (a.psihatDPrime 1).toOption))
      = some (some (1 / 2), some (5 / 4), some 2) ∧
    ((SIR_super_compact_pairwise_from_graph_args exW 1 1 (some [0]) (some [3]) none 0 10 11 false).toOption.map
    fun a => ((a.psihatPrime 0).toOption,
      (match a.psihatDPrime 0 with | .error e => e == "ZeroDivisionError" | .ok _ => false))) = some (some 0, true) := by
  refine ⟨by decide +kernel, by decide +kernel, by decide +kernel⟩
example : ((SIR_super_compact_pairwise_from_graph_args exW 1 1 none none none 0 10 11 false).toOption.map
    fun a => (a.R0, a.SS0, a.SI0, a.N)) = some (0, 9 / 2, 3 / 2, 4) ∧
    ((SIR_super_compact_pairwise_from_graph_args exW 1 1 none none none 0 10 11 false).toOption.map
    fun a => ((a.psihat 1).toOption, (a.psihatPrime 1).toOption, (a.psihatDPrime 1).toOption))
      = some (some (3 / 4), some (3 / 2), some (15 / 8)) := by
  constructor <;> decide +kernel
/-- SURPRISE: `initial_recovereds` alone (no `rho`, no `initial_infecteds`) is an `EoNError`; the empty graph: default
request ZeroDivisionError, with `rho` ValueError -/
example : (match SIR_super_compact_pairwise_from_graph_args exW 1 1 none (some [3]) none 0 10 11 false with
    | .error e => e == "EoNError" | .ok _ => false) = true := by decide +kernel
example : (match SIR_super_compact_pairwise_from_graph_args emptyW 1 1 none none none 0 10 11 false with
    | .error e => e == "ZeroDivisionError" | .ok _ => false) = true := by decide +kernel
example : (match SIR_super_compact_pairwise_from_graph_args emptyW 1 1 none none (some (1 / 2)) 0 10 11 false with
    | .error e => e == "ValueError" | .ok _ => false) = true := by decide +kernel
example : ∃ l, SIR_super_compact_pairwise_from_graph toyOdeint exW 1 1 (some [0]) (some [3]) none 0 10 11 false = .ok l ∧
    (∀ i, get l 1 i + get l 2 i + get l 3 i = 4) ∧ get l 1 0 = 2 ∧ get l 2 0 = 1 ∧ get l 3 0 = 1 := by
  have hS : SetsOK C06c.exAdj [0] ((some [3] : Option (List Node)).getD []) := ⟨by decide, by decide, by decide⟩
  have hex : ∃ l, SIR_super_compact_pairwise_from_graph toyOdeint exW 1 1 (some [0]) (some [3]) none 0 10 11 false
      = .ok l := by
    obtain ⟨a, ha, -⟩ := SIR_super_compact_pairwise_args_spec exW C06c.exAdj exW_ok 1 1 [0] (some [3]) hS (by decide)
      0 10 11 false
    unfold SIR_super_compact_pairwise_from_graph
    rw [ha]
    simp only [GenHelpProofs.ok_bind]
    exact (C06d.SIR_super_compact_pairwise_shape toyOdeint _ _ _ _ _ _ _ _ _ _ _ _ _).imp fun _ h => h.1
  obtain ⟨l, h⟩ := hex
  have hc := SIR_super_compact_pairwise_from_graph_conserve toyOdeint exW C06c.exAdj exW_ok 1 1 _ _ _ 0 10 11 false l h
  obtain ⟨i1, i2, i3, -⟩ := (SIR_super_compact_pairwise_from_graph_init toyOdeint toyOdeint_zero exW C06c.exAdj exW_ok
    1 1 0 10 11 false l).1 [0] (some [3]) h
  exact ⟨l, h, fun i => (hc i).trans (by decide +kernel), i1.trans (by decide +kernel), i2.trans (by decide +kernel),
    i3.trans (by decide +kernel)⟩

/-- `EBCM_pref_mix(_discrete)_from_graph` on `exW`: `N = 4`, `Pk = {2: 1/2, 3: 1/4, 1: 1/4}`,
`Pnk = {2: {2: 1/2, 3: 1/2}, 3: {2: 2/3, 1: 1/3}, 1: {3: 1}}`, `rho` passed on as `None`; the key condition `KeysOK`
(`Proofs/GenGlue3.lean`) holds for these dicts (every neighbour degree is a degree present) — kernel-checked here (in general: C06k
`KeysOK_graph`);
and on the empty graph the record is built without exception (`N = 0`, empty dicts) -/
example : ((EBCM_pref_mix_discrete_from_graph_args exW (1 / 2) none 0 2 false).toOption.map
    fun a => (a.N, a.Pk, a.rho)) = some (4, [(2, 1 / 2), (3, 1 / 4), (1, 1 / 4)], none) ∧
    ((EBCM_pref_mix_discrete_from_graph_args exW (1 / 2) none 0 2 false).toOption.map fun a => a.Pnk) =
    some [(2, [(2, 1 / 2), (3, 1 / 2)]), (3, [(2, 2 / 3), (1, 1 / 3)]), (1, [(3, 1)])] := by
  constructor <;> decide +kernel
example : ((EBCM_pref_mix_from_graph_args exW 1 1 (some (1 / 10)) 0 10 11 false).toOption.map
    fun a => (a.N, a.Pk, a.rho)) = some (4, [(2, 1 / 2), (3, 1 / 4), (1, 1 / 4)], some (1 / 10)) ∧
    ((EBCM_pref_mix_from_graph_args exW 1 1 (some (1 / 10)) 0 10 11 false).toOption.map fun a => a.Pnk) =
    some [(2, [(2, 1 / 2), (3, 1 / 2)]), (3, [(2, 2 / 3), (1, 1 / 3)]), (1, [(3, 1)])] := by
  constructor <;> decide +kernel
example : GenGlue3Proofs.KeysOK [(2, 1 / 2), (3, 1 / 4), (1, 1 / 4)]
    [(2, [(2, 1 / 2), (3, 1 / 2)]), (3, [(2, 2 / 3), (1, 1 / 3)]), (1, [(3, 1)])] := by
  unfold GenGlue3Proofs.KeysOK; decide +kernel
example : ((EBCM_pref_mix_discrete_from_graph_args emptyW (1 / 2) none 0 2 false).toOption.map
    fun a => (a.N, a.Pk, a.rho)) = some (0, [], none) ∧
    ((EBCM_pref_mix_discrete_from_graph_args emptyW (1 / 2) none 0 2 false).toOption.map fun a => a.Pnk) = some [] := by
  constructor <;> decide +kernel

end GenWrapProps4
