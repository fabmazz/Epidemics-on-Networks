import EoNVerif.Proofs.GenLabel
import EoNVerif.Props.GenLoops
import EoNVerif.Props.GenLoops2
/-!
C14 (node labels) for the node-level ODE right-hand sides of `EoN/analytic.py`, on the code GENERATED from the Python
source.  `_dSIS_individual_based_`, `_dSIR_individual_based_`, `_dSIS_pair_based_`, `_dSIR_pair_based_` receive the
nodes as arbitrary hashable labels (`nodelist`), the dict `index_of_node = {node: i for i, node in enumerate(nodelist)}`,
and call `G.neighbors`, `trans_rate_fxn`, `rec_rate_fxn` on LABELS.  Labels are modelled as `Nat`: the code only compares
labels for equality and uses them as dict keys, so any countable label type embeds; the renaming `f` of `*_relabel` need
not be a permutation of the labels in use (example below: 7, 3, 5 ↦ 10, 20, 30).  Two translations of the same source are
regenerated on every run by `harness/py2lean_loops.py`:
* `Gen/AnalyticLoopsL.lean` (`GenL.*L`) keeps the labels: `nodelist : List Nat`, `idx = index_of_node`,
  `nbrs`/`tr`/`rr` take labels;
* `Gen/AnalyticLoops.lean` (`Gen.*`) identifies a node with its array position (the one tied to the hand models in
  `Props/GenLoops.lean`, `Props/GenLoops2.lean`).

Statements (all for an arbitrary state vector, arbitrary rate functions; tools in `Proofs/GenLabel.lean`):
1. `*_label_erasure`: for a well-formed labelled instance (`LabelOK`) the labelled function returns LITERALLY the same
   vector (`V`, length and index function) as the index-level function on the erased data `eraseNbrs`/`eraseTr`/`eraseRr`.
2. `*_relabel`: renaming every label by `f` (with `g ∘ f = id` on the labels, i.e. `f` injective on `nodelist`) — in
   `nodelist`, in the neighbour lists, in the rate functions and in `index_of_node` — returns literally the same vector.
   Only "neighbours of listed nodes are listed" is used.  (`*_mor` is the general form: a label morphism.)
3. `*_nbr_perm`: reordering every neighbour list (edge insertion order) returns literally the same vector; no
   hypothesis on the instance at all.
4. `*_nodelist_perm`: listing the nodes in another order (node insertion order; `index_of_node` changes with it) and
   permuting the state accordingly permutes the output accordingly (entrywise statements, all four functions);
   `*_label_form`: the individual-based entries as functions of label-indexed data.
5. `*L_eq_model`: through 1., the labelled code computes the hand models of `Model/ODE.lean`, `Model/ODE2.lean`.
-/
namespace GenLabel
open Gen

/-! ## 1. label erasure -/

theorem sisIndividual_label_erasure (nodelist : List Nat) (idx : Nat → Nat) (nbrs : Nat → List Nat)
    (h : LabelOK nodelist idx nbrs) (tr : Nat → Nat → Rat) (rr : Nat → Rat) (Y : V) :
    GenL.dSIS_individual_basedL Y nodelist idx nbrs tr rr
      = Gen.dSIS_individual_based Y nodelist.length (eraseNbrs nodelist idx nbrs) (eraseTr nodelist tr)
          (eraseRr nodelist rr) := by
  rw [← sisInd_range, ← h.map_idx]; exact (sisInd_mor (h.mor_erase tr rr) Y).symm

theorem sirIndividual_label_erasure (nodelist : List Nat) (idx : Nat → Nat) (nbrs : Nat → List Nat)
    (h : LabelOK nodelist idx nbrs) (tr : Nat → Nat → Rat) (rr : Nat → Rat) (Vst : V) :
    GenL.dSIR_individual_basedL Vst nodelist idx nbrs tr rr
      = Gen.dSIR_individual_based Vst nodelist.length (eraseNbrs nodelist idx nbrs) (eraseTr nodelist tr)
          (eraseRr nodelist rr) := by
  rw [← sirInd_range, ← h.map_idx]; exact (sirInd_mor (h.mor_erase tr rr) Vst).symm

/-- `_dSIS_pair_based_` on labels = on array positions (the loops run over `nodelist` / `G.neighbors(u)` with labels
and index with `index_of_node`; the `if w == u: continue` guards compare labels) -/
theorem sisPairBased_label_erasure (nodelist : List Nat) (idx : Nat → Nat) (nbrs : Nat → List Nat)
    (h : LabelOK nodelist idx nbrs) (tr : Nat → Nat → Rat) (rr : Nat → Rat) (Vst : V) :
    GenL.dSIS_pair_basedL Vst nodelist idx nbrs tr rr
      = Gen.dSIS_pair_based Vst nodelist.length (eraseNbrs nodelist idx nbrs) (eraseTr nodelist tr)
          (eraseRr nodelist rr) := by
  rw [← sisPair_range, ← h.map_idx]; exact (sisPair_mor (h.mor_erase tr rr) Vst).symm

theorem sirPairBased_label_erasure (nodelist : List Nat) (idx : Nat → Nat) (nbrs : Nat → List Nat)
    (h : LabelOK nodelist idx nbrs) (tr : Nat → Nat → Rat) (rr : Nat → Rat) (Vst : V) :
    GenL.dSIR_pair_basedL Vst nodelist idx nbrs tr rr
      = Gen.dSIR_pair_based Vst nodelist.length (eraseNbrs nodelist idx nbrs) (eraseTr nodelist tr)
          (eraseRr nodelist rr) := by
  rw [← sirPair_range, ← h.map_idx]; exact (sirPair_mor (h.mor_erase tr rr) Vst).symm

/-! ## 2. relabelling invariance -/

/-- the renamed instance is again well-formed (so 1. applies to it as well) -/
theorem labelOK_relabel (f g : Nat → Nat) (nodelist : List Nat) (idx : Nat → Nat) (nbrs : Nat → List Nat)
    (h : LabelOK nodelist idx nbrs) (hg : ∀ u ∈ nodelist, g (f u) = u) :
    LabelOK (nodelist.map f) (idx ∘ g) (fun u => (nbrs (g u)).map f) := by
  refine ⟨?_, ?_, ?_⟩
  · exact List.Nodup.map_on (fun u hu v hv e => by rw [← hg u hu, ← hg v hv, e]) h.1
  · intro i hi
    have hi' : i < nodelist.length := by simpa using hi
    rw [List.getElem_map, Function.comp, hg _ (List.getElem_mem hi')]
    exact h.2.1 i hi'
  · intro u hu v hv
    obtain ⟨u0, hu0, rfl⟩ := List.mem_map.1 hu
    simp only [hg u0 hu0] at hv
    obtain ⟨v0, hv0, rfl⟩ := List.mem_map.1 hv
    exact List.mem_map.2 ⟨v0, h.2.2 u0 hu0 v0 hv0, rfl⟩

theorem sisIndividual_relabel (f g : Nat → Nat) (nodelist : List Nat) (idx : Nat → Nat) (nbrs : Nat → List Nat)
    (h : LabelOK nodelist idx nbrs) (hg : ∀ u ∈ nodelist, g (f u) = u)
    (tr : Nat → Nat → Rat) (rr : Nat → Rat) (Y : V) :
    GenL.dSIS_individual_basedL Y (nodelist.map f) (idx ∘ g) (fun u => (nbrs (g u)).map f)
        (fun u v => tr (g u) (g v)) (fun u => rr (g u))
      = GenL.dSIS_individual_basedL Y nodelist idx nbrs tr rr :=
  sisInd_mor (mor_rename f g nodelist idx nbrs tr rr hg h.2.2) Y

theorem sirIndividual_relabel (f g : Nat → Nat) (nodelist : List Nat) (idx : Nat → Nat) (nbrs : Nat → List Nat)
    (h : LabelOK nodelist idx nbrs) (hg : ∀ u ∈ nodelist, g (f u) = u)
    (tr : Nat → Nat → Rat) (rr : Nat → Rat) (Vst : V) :
    GenL.dSIR_individual_basedL Vst (nodelist.map f) (idx ∘ g) (fun u => (nbrs (g u)).map f)
        (fun u v => tr (g u) (g v)) (fun u => rr (g u))
      = GenL.dSIR_individual_basedL Vst nodelist idx nbrs tr rr :=
  sirInd_mor (mor_rename f g nodelist idx nbrs tr rr hg h.2.2) Vst

theorem sisPairBased_relabel (f g : Nat → Nat) (nodelist : List Nat) (idx : Nat → Nat) (nbrs : Nat → List Nat)
    (h : LabelOK nodelist idx nbrs) (hg : ∀ u ∈ nodelist, g (f u) = u)
    (tr : Nat → Nat → Rat) (rr : Nat → Rat) (Vst : V) :
    GenL.dSIS_pair_basedL Vst (nodelist.map f) (idx ∘ g) (fun u => (nbrs (g u)).map f)
        (fun u v => tr (g u) (g v)) (fun u => rr (g u))
      = GenL.dSIS_pair_basedL Vst nodelist idx nbrs tr rr :=
  sisPair_mor (mor_rename f g nodelist idx nbrs tr rr hg h.2.2) Vst

theorem sirPairBased_relabel (f g : Nat → Nat) (nodelist : List Nat) (idx : Nat → Nat) (nbrs : Nat → List Nat)
    (h : LabelOK nodelist idx nbrs) (hg : ∀ u ∈ nodelist, g (f u) = u)
    (tr : Nat → Nat → Rat) (rr : Nat → Rat) (Vst : V) :
    GenL.dSIR_pair_basedL Vst (nodelist.map f) (idx ∘ g) (fun u => (nbrs (g u)).map f)
        (fun u v => tr (g u) (g v)) (fun u => rr (g u))
      = GenL.dSIR_pair_basedL Vst nodelist idx nbrs tr rr :=
  sirPair_mor (mor_rename f g nodelist idx nbrs tr rr hg h.2.2) Vst

/-- an injective `f` has such a `g` -/
theorem exists_left_inverse (f : Nat → Nat) (hf : Function.Injective f) : ∃ g : Nat → Nat, ∀ u, g (f u) = u :=
  ⟨Function.invFun f, Function.leftInverse_invFun hf⟩

/-! ## 3. order of the neighbour lists (insertion order of the edges)

Literal equality of the returned vectors; NO hypothesis on the instance (labels may repeat, neighbours may be unlisted
or repeated).  Individual-based: the sum over `G.neighbors(node)` is order independent.  Pair-based: every cell of
the result is a sum over `nodelist` and neighbour lists of terms that are themselves sums over neighbour lists
(`GenEqLoops2.sisLoop_cells`, `sirLoop_cells`). -/

theorem sisIndividual_nbr_perm (nodelist : List Nat) (idx : Nat → Nat) (nbrs nbrs' : Nat → List Nat)
    (hp : ∀ u, (nbrs u).Perm (nbrs' u)) (tr : Nat → Nat → Rat) (rr : Nat → Rat) (Y : V) :
    GenL.dSIS_individual_basedL Y nodelist idx nbrs tr rr = GenL.dSIS_individual_basedL Y nodelist idx nbrs' tr rr := by
  unfold GenL.dSIS_individual_basedL
  dsimp only
  congr 1
  apply foldl_congr_mem
  intro i hi st
  rw [sumRat_perm ((hp _).map _)]

theorem sirIndividual_nbr_perm (nodelist : List Nat) (idx : Nat → Nat) (nbrs nbrs' : Nat → List Nat)
    (hp : ∀ u, (nbrs u).Perm (nbrs' u)) (tr : Nat → Nat → Rat) (rr : Nat → Rat) (Vst : V) :
    GenL.dSIR_individual_basedL Vst nodelist idx nbrs tr rr = GenL.dSIR_individual_basedL Vst nodelist idx nbrs' tr rr := by
  unfold GenL.dSIR_individual_basedL
  dsimp only
  refine congrArg (fun r : (Nat → Rat) × (Nat → Rat) => V.append ⟨nodelist.length, r.1⟩ ⟨nodelist.length, r.2⟩)
    (foldl_congr_mem _ _ _ ?_ _)
  intro i hi st
  rw [sumRat_perm ((hp _).map _)]

theorem sisPairBased_nbr_perm (nodelist : List Nat) (idx : Nat → Nat) (nbrs nbrs' : Nat → List Nat)
    (hp : ∀ u, (nbrs u).Perm (nbrs' u)) (tr : Nat → Nat → Rat) (rr : Nat → Rat) (Vst : V) :
    GenL.dSIS_pair_basedL Vst nodelist idx nbrs tr rr = GenL.dSIS_pair_basedL Vst nodelist idx nbrs' tr rr := by
  rw [genL_sis_loop, genL_sis_loop]
  simp only [sisLoop_nbr_perm idx hp]

theorem sirPairBased_nbr_perm (nodelist : List Nat) (idx : Nat → Nat) (nbrs nbrs' : Nat → List Nat)
    (hp : ∀ u, (nbrs u).Perm (nbrs' u)) (tr : Nat → Nat → Rat) (rr : Nat → Rat) (Vst : V) :
    GenL.dSIR_pair_basedL Vst nodelist idx nbrs tr rr = GenL.dSIR_pair_basedL Vst nodelist idx nbrs' tr rr := by
  rw [genL_sir_loop, genL_sir_loop]
  simp only [sirLoop_nbr_perm idx hp]

/-! ## 4. order of `nodelist`

`*_label_form`: the entry of node `u` (position `idx u`) is a function of the label-indexed data only.
`*_nodelist_perm`: listing the nodes in another order `nodelist'` (with its own `index_of_node`, `idx'`) and
permuting the state accordingly permutes the output accordingly. -/

theorem sisIndividual_label_form (nodelist : List Nat) (idx : Nat → Nat) (nbrs : Nat → List Nat)
    (h : LabelOK nodelist idx nbrs) (tr : Nat → Nat → Rat) (rr : Nat → Rat) (Y : V) (u : Nat) (hu : u ∈ nodelist) :
    (GenL.dSIS_individual_basedL Y nodelist idx nbrs tr rr).f (idx u)
      = sumRat ((nbrs u).map fun v => tr u v * (1 - Y.f (idx u)) * Y.f (idx v)) - rr u * Y.f (idx u) := by
  rw [sisIndL_entry Y nodelist idx nbrs tr rr (idx u) (h.idx_lt u hu), h.getD_idx u hu]

theorem sirIndividual_label_form (nodelist : List Nat) (idx : Nat → Nat) (nbrs : Nat → List Nat)
    (h : LabelOK nodelist idx nbrs) (tr : Nat → Nat → Rat) (rr : Nat → Rat) (Vst : V) (u : Nat) (hu : u ∈ nodelist) :
    (GenL.dSIR_individual_basedL Vst nodelist idx nbrs tr rr).f (idx u)
      = (-(Vst.f (idx u))) * sumRat ((nbrs u).map fun v => tr u v * Vst.f (nodelist.length + idx v)) ∧
    (GenL.dSIR_individual_basedL Vst nodelist idx nbrs tr rr).f (nodelist.length + idx u)
      = (-((-(Vst.f (idx u))) * sumRat ((nbrs u).map fun v => tr u v * Vst.f (nodelist.length + idx v))))
        - rr u * Vst.f (nodelist.length + idx u) := by
  have := sirIndL_entry Vst nodelist idx nbrs tr rr (idx u) (h.idx_lt u hu)
  rw [h.getD_idx u hu] at this
  exact this

theorem sisIndividual_nodelist_perm (nodelist nodelist' : List Nat) (idx idx' : Nat → Nat) (nbrs : Nat → List Nat)
    (h : LabelOK nodelist idx nbrs) (h' : LabelOK nodelist' idx' nbrs) (hp : nodelist.Perm nodelist')
    (tr : Nat → Nat → Rat) (rr : Nat → Rat) (Y Y' : V) (hY : ∀ u ∈ nodelist, Y'.f (idx' u) = Y.f (idx u))
    (u : Nat) (hu : u ∈ nodelist) :
    (GenL.dSIS_individual_basedL Y' nodelist' idx' nbrs tr rr).f (idx' u)
      = (GenL.dSIS_individual_basedL Y nodelist idx nbrs tr rr).f (idx u) := by
  rw [sisIndividual_label_form nodelist idx nbrs h tr rr Y u hu,
    sisIndividual_label_form nodelist' idx' nbrs h' tr rr Y' u (hp.mem_iff.1 hu), hY u hu]
  congr 1
  apply sumRat_map_congr
  intro v hv
  rw [hY v (h.2.2 u hu v hv)]

theorem sirIndividual_nodelist_perm (nodelist nodelist' : List Nat) (idx idx' : Nat → Nat) (nbrs : Nat → List Nat)
    (h : LabelOK nodelist idx nbrs) (h' : LabelOK nodelist' idx' nbrs) (hp : nodelist.Perm nodelist')
    (tr : Nat → Nat → Rat) (rr : Nat → Rat) (Vst Vst' : V)
    (hX : ∀ u ∈ nodelist, Vst'.f (idx' u) = Vst.f (idx u))
    (hY : ∀ u ∈ nodelist, Vst'.f (nodelist'.length + idx' u) = Vst.f (nodelist.length + idx u))
    (u : Nat) (hu : u ∈ nodelist) :
    (GenL.dSIR_individual_basedL Vst' nodelist' idx' nbrs tr rr).f (idx' u)
      = (GenL.dSIR_individual_basedL Vst nodelist idx nbrs tr rr).f (idx u) ∧
    (GenL.dSIR_individual_basedL Vst' nodelist' idx' nbrs tr rr).f (nodelist'.length + idx' u)
      = (GenL.dSIR_individual_basedL Vst nodelist idx nbrs tr rr).f (nodelist.length + idx u) := by
  obtain ⟨a1, a2⟩ := sirIndividual_label_form nodelist idx nbrs h tr rr Vst u hu
  obtain ⟨b1, b2⟩ := sirIndividual_label_form nodelist' idx' nbrs h' tr rr Vst' u (hp.mem_iff.1 hu)
  have hs : sumRat ((nbrs u).map fun v => tr u v * Vst'.f (nodelist'.length + idx' v))
      = sumRat ((nbrs u).map fun v => tr u v * Vst.f (nodelist.length + idx v)) := by
    apply sumRat_map_congr
    intro v hv
    rw [hY v (h.2.2 u hu v hv)]
  rw [a1, a2, b1, b2, hs, hX u hu, hY u hu]
  exact ⟨rfl, rfl⟩

/-- `_dSIS_pair_based_`: listing the nodes in another order `nodelist'` (with its own `index_of_node`) and permuting
the state `(Y, XY, XX)` accordingly permutes the output `(dY, dXY, dXX)` accordingly.  (The cell of a label holds the
term of that label only, and the terms are functions of the label-indexed data: `sisLoop_listings`.) -/
theorem sisPairBased_nodelist_perm (nodelist nodelist' : List Nat) (idx idx' : Nat → Nat) (nbrs : Nat → List Nat)
    (h : LabelOK nodelist idx nbrs) (h' : LabelOK nodelist' idx' nbrs) (hp : nodelist.Perm nodelist')
    (tr : Nat → Nat → Rat) (rr : Nat → Rat) (Vst Vst' : V)
    (hY : ∀ u ∈ nodelist, Vst'.f (idx' u) = Vst.f (idx u))
    (hXY : ∀ u ∈ nodelist, ∀ v ∈ nodelist,
      Vst'.f (nodelist.length + (idx' u * nodelist.length + idx' v))
        = Vst.f (nodelist.length + (idx u * nodelist.length + idx v)))
    (hXX : ∀ u ∈ nodelist, ∀ v ∈ nodelist,
      Vst'.f (nodelist.length + (nodelist.length * nodelist.length + (idx' u * nodelist.length + idx' v)))
        = Vst.f (nodelist.length + (nodelist.length * nodelist.length + (idx u * nodelist.length + idx v)))) :
    let N := nodelist.length
    let r := GenL.dSIS_pair_basedL Vst nodelist idx nbrs tr rr
    let r' := GenL.dSIS_pair_basedL Vst' nodelist' idx' nbrs tr rr
    (∀ u ∈ nodelist, r'.f (idx' u) = r.f (idx u)) ∧
    (∀ u ∈ nodelist, ∀ v ∈ nodelist, r'.f (N + (idx' u * N + idx' v)) = r.f (N + (idx u * N + idx v)) ∧
      r'.f (N + (N * N + (idx' u * N + idx' v))) = r.f (N + (N * N + (idx u * N + idx v)))) := by
  intro N r r'
  obtain ⟨hN, -, hlt, hlt'⟩ := h.perm_bounds h' hp
  obtain ⟨k1, k2⟩ := sisLoop_listings h h' hp tr rr
    (xi := onL idx fun i => GenEqLoops2.xinvG (1 - Vst.f (0 + i)))
    (xi' := onL idx' fun i => GenEqLoops2.xinvG (1 - Vst'.f (0 + i)))
    (xy := onL2 idx fun a b => Vst.f (N + (a * N + b))) (xy' := onL2 idx' fun a b => Vst'.f (N + (a * N + b)))
    (xx := onL2 idx fun a b => Vst.f ((N + N * N) + (a * N + b)))
    (xx' := onL2 idx' fun a b => Vst'.f ((N + N * N) + (a * N + b)))
    (y := onL idx fun i => Vst.f (0 + i)) (y' := onL idx' fun i => Vst'.f (0 + i))
    (fun u hu => by simp only [onL, Nat.zero_add, hY u hu]) (fun u hu v hv => hXY u hu v hv)
    (fun u hu v hv => by simp only [onL2, Nat.add_assoc]; exact hXX u hu v hv)
    (fun u hu => by simp only [onL, Nat.zero_add, hY u hu])
  simp only [r, r', genL_sis_loop, hN]
  refine ⟨fun u hu => ?_, fun u hu v hv => ⟨?_, ?_⟩⟩
  · rw [(GenEqLoops2.packed3 N _ _ _).2.1 _ (hlt' u hu), (GenEqLoops2.packed3 N _ _ _).2.1 _ (hlt u hu)]
    exact k1 u hu
  · rw [((GenEqLoops2.packed3 N _ _ _).2.2 _ _ (hlt' u hu) (hlt' v hv)).1,
      ((GenEqLoops2.packed3 N _ _ _).2.2 _ _ (hlt u hu) (hlt v hv)).1]
    exact (k2 u hu v hv).1
  · rw [((GenEqLoops2.packed3 N _ _ _).2.2 _ _ (hlt' u hu) (hlt' v hv)).2,
      ((GenEqLoops2.packed3 N _ _ _).2.2 _ _ (hlt u hu) (hlt v hv)).2]
    exact (k2 u hu v hv).2

/-- `_dSIR_pair_based_`: the same for the state `(X, Y, XY, XX)` and the output `(dX, dY, dXY, dXX)` -/
theorem sirPairBased_nodelist_perm (nodelist nodelist' : List Nat) (idx idx' : Nat → Nat) (nbrs : Nat → List Nat)
    (h : LabelOK nodelist idx nbrs) (h' : LabelOK nodelist' idx' nbrs) (hp : nodelist.Perm nodelist')
    (tr : Nat → Nat → Rat) (rr : Nat → Rat) (Vst Vst' : V)
    (hX : ∀ u ∈ nodelist, Vst'.f (idx' u) = Vst.f (idx u))
    (hY : ∀ u ∈ nodelist, Vst'.f (nodelist.length + idx' u) = Vst.f (nodelist.length + idx u))
    (hXY : ∀ u ∈ nodelist, ∀ v ∈ nodelist,
      Vst'.f (nodelist.length + (nodelist.length + (idx' u * nodelist.length + idx' v)))
        = Vst.f (nodelist.length + (nodelist.length + (idx u * nodelist.length + idx v))))
    (hXX : ∀ u ∈ nodelist, ∀ v ∈ nodelist,
      Vst'.f (nodelist.length + (nodelist.length + (nodelist.length * nodelist.length
          + (idx' u * nodelist.length + idx' v))))
        = Vst.f (nodelist.length + (nodelist.length + (nodelist.length * nodelist.length
          + (idx u * nodelist.length + idx v))))) :
    let N := nodelist.length
    let r := GenL.dSIR_pair_basedL Vst nodelist idx nbrs tr rr
    let r' := GenL.dSIR_pair_basedL Vst' nodelist' idx' nbrs tr rr
    (∀ u ∈ nodelist, r'.f (idx' u) = r.f (idx u) ∧ r'.f (N + idx' u) = r.f (N + idx u)) ∧
    (∀ u ∈ nodelist, ∀ v ∈ nodelist,
      r'.f (N + (N + (idx' u * N + idx' v))) = r.f (N + (N + (idx u * N + idx v))) ∧
      r'.f (N + (N + (N * N + (idx' u * N + idx' v)))) = r.f (N + (N + (N * N + (idx u * N + idx v))))) := by
  intro N r r'
  obtain ⟨hN, -, hlt, hlt'⟩ := h.perm_bounds h' hp
  obtain ⟨k1, k2⟩ := sirLoop_listings h h' hp tr rr
    (xi := onL idx fun i => GenEqLoops2.xinvG (Vst.f (0 + i))) (xi' := onL idx' fun i => GenEqLoops2.xinvG (Vst'.f (0 + i)))
    (xy := onL2 idx fun a b => Vst.f ((2 * N) + (a * N + b))) (xy' := onL2 idx' fun a b => Vst'.f ((2 * N) + (a * N + b)))
    (xx := onL2 idx fun a b => Vst.f (((2 * N) + N * N) + (a * N + b)))
    (xx' := onL2 idx' fun a b => Vst'.f (((2 * N) + N * N) + (a * N + b)))
    (y := onL idx fun i => Vst.f (N + i)) (y' := onL idx' fun i => Vst'.f (N + i))
    (fun u hu => by simp only [onL, Nat.zero_add, hX u hu])
    (fun u hu v hv => by simp only [onL2, Nat.two_mul, Nat.add_assoc]; exact hXY u hu v hv)
    (fun u hu v hv => by simp only [onL2, Nat.two_mul, Nat.add_assoc]; exact hXX u hu v hv)
    (fun u hu => hY u hu)
  simp only [r, r', genL_sir_loop, hN]
  refine ⟨fun u hu => ⟨?_, ?_⟩, fun u hu v hv => ⟨?_, ?_⟩⟩
  · rw [((GenEqLoops2.packed4 N _ _ _ _).2.1 _ (hlt' u hu)).1, ((GenEqLoops2.packed4 N _ _ _ _).2.1 _ (hlt u hu)).1]
    exact (k1 u hu).2
  · rw [((GenEqLoops2.packed4 N _ _ _ _).2.1 _ (hlt' u hu)).2, ((GenEqLoops2.packed4 N _ _ _ _).2.1 _ (hlt u hu)).2]
    exact (k1 u hu).1
  · rw [((GenEqLoops2.packed4 N _ _ _ _).2.2 _ _ (hlt' u hu) (hlt' v hv)).1,
      ((GenEqLoops2.packed4 N _ _ _ _).2.2 _ _ (hlt u hu) (hlt v hv)).1]
    exact (k2 u hu v hv).1
  · rw [((GenEqLoops2.packed4 N _ _ _ _).2.2 _ _ (hlt' u hu) (hlt' v hv)).2,
      ((GenEqLoops2.packed4 N _ _ _ _).2.2 _ _ (hlt u hu) (hlt v hv)).2]
    exact (k2 u hu v hv).2

/-! ## 5. consequences: the labelled code computes the hand models (on the erased data)

Through 1. every theorem of `Props/GenLoops.lean` / `Props/GenLoops2.lean` about the index-level code (hence every
theorem about the hand models `ODE.sisIndividual`, …, `ODE.sirPairBased`) applies to the code as it runs on labels. -/

theorem sisIndividualL_eq_model (nodelist : List Nat) (idx : Nat → Nat) (nbrs : Nat → List Nat)
    (h : LabelOK nodelist idx nbrs) (tr : Nat → Nat → Rat) (rr : Nat → Rat) (Y : Nat → Rat) :
    let N := nodelist.length
    let r := GenL.dSIS_individual_basedL ⟨N, Y⟩ nodelist idx nbrs tr rr
    r.n = N ∧ ∀ i, i < N →
      r.f i = ODE.sisIndividual (eraseNbrs nodelist idx nbrs) (eraseTr nodelist tr) (eraseRr nodelist rr) Y i := by
  intro N r
  simp only [r, sisIndividual_label_erasure nodelist idx nbrs h]
  exact GenEqLoops.gen_sisIndividual N _ _ _ Y

theorem sirIndividualL_eq_model (nodelist : List Nat) (idx : Nat → Nat) (nbrs : Nat → List Nat)
    (h : LabelOK nodelist idx nbrs) (tr : Nat → Nat → Rat) (rr : Nat → Rat) (X Y : Nat → Rat) :
    let N := nodelist.length
    let r := GenL.dSIR_individual_basedL (V.append ⟨N, X⟩ ⟨N, Y⟩) nodelist idx nbrs tr rr
    let m := ODE.sirIndividual (eraseNbrs nodelist idx nbrs) (eraseTr nodelist tr) (eraseRr nodelist rr) X Y
    r.n = N + N ∧ ∀ i, i < N → r.f i = m.1 i ∧ r.f (N + i) = m.2 i := by
  intro N r m
  simp only [r, sirIndividual_label_erasure nodelist idx nbrs h]
  exact GenEqLoops.gen_sirIndividual N _ _ _ X Y

/-- `_dSIS_pair_based_` on labels: on any state that reads as `concatenate((Y, XY.flat, XX.flat))` the result reads as
the packed hand model (on the erased data); `G.neighbors` lists every neighbour once -/
theorem sisPairBasedL_packed {nodelist : List Nat} {idx : Nat → Nat} {nbrs : Nat → List Nat}
    (h : LabelOK nodelist idx nbrs) (hn : ∀ u ∈ nodelist, (nbrs u).Nodup) (tr : Nat → Nat → Rat) (rr : Nat → Rat)
    (Y : Nat → Rat) (XY XX : Nat → Nat → Rat) (Vst : V) (hV : GenEqLoops2.Packed3 nodelist.length Vst Y XY XX) :
    let m := ODE.sisPairBased (eraseNbrs nodelist idx nbrs) (eraseTr nodelist tr) (eraseRr nodelist rr) Y XY XX
    GenEqLoops2.Packed3 nodelist.length (GenL.dSIS_pair_basedL Vst nodelist idx nbrs tr rr) m.1 m.2.1 m.2.2 := by
  rw [sisPairBased_label_erasure nodelist idx nbrs h]
  exact GenEqLoops2.gen_sisPairBased _ _ _ _ Y XY XX Vst hV (h.erase_nodup hn) h.erase_bound

/-- the same for `_dSIR_pair_based_` and `concatenate((X, Y, XY.flat, XX.flat))` -/
theorem sirPairBasedL_packed {nodelist : List Nat} {idx : Nat → Nat} {nbrs : Nat → List Nat}
    (h : LabelOK nodelist idx nbrs) (hn : ∀ u ∈ nodelist, (nbrs u).Nodup) (tr : Nat → Nat → Rat) (rr : Nat → Rat)
    (X Y : Nat → Rat) (XY XX : Nat → Nat → Rat) (Vst : V) (hV : GenEqLoops2.Packed4 nodelist.length Vst X Y XY XX) :
    let m := ODE.sirPairBased (eraseNbrs nodelist idx nbrs) (eraseTr nodelist tr) (eraseRr nodelist rr) X Y XY XX
    GenEqLoops2.Packed4 nodelist.length (GenL.dSIR_pair_basedL Vst nodelist idx nbrs tr rr) m.1 m.2.1 m.2.2.1
      m.2.2.2 := by
  rw [sirPairBased_label_erasure nodelist idx nbrs h]
  exact GenEqLoops2.gen_sirPairBased _ _ _ _ X Y XY XX Vst hV (h.erase_nodup hn) h.erase_bound

/-- `_dSIS_pair_based_` on labels, packed state `concatenate((Y, XY.flat, XX.flat))`; `G.neighbors` lists every
neighbour once -/
theorem sisPairBasedL_eq_model (nodelist : List Nat) (idx : Nat → Nat) (nbrs : Nat → List Nat)
    (h : LabelOK nodelist idx nbrs) (hn : ∀ u ∈ nodelist, (nbrs u).Nodup) (tr : Nat → Nat → Rat) (rr : Nat → Rat)
    (Y : Nat → Rat) (XY XX : Nat → Nat → Rat) :
    let N := nodelist.length
    let Vst := V.append ⟨N, Y⟩ (V.append (GenEqLoops2.flat N N XY) (GenEqLoops2.flat N N XX))
    let r := GenL.dSIS_pair_basedL Vst nodelist idx nbrs tr rr
    let m := ODE.sisPairBased (eraseNbrs nodelist idx nbrs) (eraseTr nodelist tr) (eraseRr nodelist rr) Y XY XX
    r.n = N + (N * N + N * N) ∧ (∀ i, i < N → r.f i = m.1 i) ∧
    (∀ i j, i < N → j < N → r.f (N + (i * N + j)) = m.2.1 i j ∧ r.f (N + (N * N + (i * N + j))) = m.2.2 i j) :=
  sisPairBasedL_packed h hn tr rr Y XY XX _ (GenEqLoops2.packed3 _ Y XY XX)

/-- `_dSIR_pair_based_` on labels, packed state `concatenate((X, Y, XY.flat, XX.flat))` -/
theorem sirPairBasedL_eq_model (nodelist : List Nat) (idx : Nat → Nat) (nbrs : Nat → List Nat)
    (h : LabelOK nodelist idx nbrs) (hn : ∀ u ∈ nodelist, (nbrs u).Nodup) (tr : Nat → Nat → Rat) (rr : Nat → Rat)
    (X Y : Nat → Rat) (XY XX : Nat → Nat → Rat) :
    let N := nodelist.length
    let Vst := V.append ⟨N, X⟩ (V.append ⟨N, Y⟩ (V.append (GenEqLoops2.flat N N XY) (GenEqLoops2.flat N N XX)))
    let r := GenL.dSIR_pair_basedL Vst nodelist idx nbrs tr rr
    let m := ODE.sirPairBased (eraseNbrs nodelist idx nbrs) (eraseTr nodelist tr) (eraseRr nodelist rr) X Y XY XX
    r.n = N + (N + (N * N + N * N)) ∧ (∀ i, i < N → r.f i = m.1 i ∧ r.f (N + i) = m.2.1 i) ∧
    (∀ i j, i < N → j < N → r.f (N + (N + (i * N + j))) = m.2.2.1 i j ∧
      r.f (N + (N + (N * N + (i * N + j)))) = m.2.2.2 i j) :=
  sirPairBasedL_packed h hn tr rr X Y XY XX _ (GenEqLoops2.packed4 _ X Y XY XX)

/-! ## non-vacuity: the path `7 - 3 - 5` (array order `[7, 3, 5]`) against the path `0 - 1 - 2` -/
namespace C14bEx
open GenEqLoops2 (pathNbrs exTr exRr exY exX exXY exXX exVsis exVsir)

def nl : List Nat := [7, 3, 5]
/-- `index_of_node = {7: 0, 3: 1, 5: 2}` -/
def idx : Nat → Nat := fun u => match u with | 7 => 0 | 3 => 1 | 5 => 2 | _ => 99
def nbrsL : Nat → List Nat := fun u => match u with | 7 => [3] | 3 => [7, 5] | 5 => [3] | _ => []
/-- rates given on labels (node 7 plays the role of position 0, …) -/
def trL : Nat → Nat → Rat := fun u v => exTr (idx u) (idx v)
def rrL : Nat → Rat := fun u => exRr (idx u)

theorem nl_ok : LabelOK nl idx nbrsL := by
  refine ⟨by decide, ?_, by decide⟩
  intro i hi
  have : i < 3 := hi
  match i, this with
  | 0, _ => rfl
  | 1, _ => rfl
  | 2, _ => rfl

/-- its erasure is the path `0 - 1 - 2` with the rates of `Props/GenLoops2.lean` (on the three positions) -/
example : ∀ i, i < 3 → eraseNbrs nl idx nbrsL i = pathNbrs i ∧ eraseRr nl rrL i = exRr i ∧
    ∀ j, j < 3 → eraseTr nl trL i j = exTr i j := by decide +kernel

/-- labelled code on `[7, 3, 5]` evaluated by the kernel = index-level code on `0 - 1 - 2`, all components -/
example : (GenL.dSIS_individual_basedL ⟨3, exY⟩ nl idx nbrsL trL rrL).toList
    = (Gen.dSIS_individual_based ⟨3, exY⟩ 3 pathNbrs exTr exRr).toList := by decide +kernel
example : (GenL.dSIR_individual_basedL (V.append ⟨3, exX⟩ ⟨3, exY⟩) nl idx nbrsL trL rrL).toList
    = (Gen.dSIR_individual_based (V.append ⟨3, exX⟩ ⟨3, exY⟩) 3 pathNbrs exTr exRr).toList := by decide +kernel
example : (GenL.dSIS_pair_basedL exVsis nl idx nbrsL trL rrL).toList
    = (Gen.dSIS_pair_based exVsis 3 pathNbrs exTr exRr).toList := by decide +kernel
example : (GenL.dSIR_pair_basedL exVsir nl idx nbrsL trL rrL).toList
    = (Gen.dSIR_pair_based exVsir 3 pathNbrs exTr exRr).toList := by decide +kernel
/-- and the common values are non-trivial -/
example : (GenL.dSIS_individual_basedL ⟨3, exY⟩ nl idx nbrsL trL rrL).toList = [-7/96, 1/48, 5/16] := by decide +kernel
example : (GenL.dSIS_pair_basedL exVsis nl idx nbrsL trL rrL).f (3 + (1 * 3 + 2)) = -47 / 25 := by decide +kernel

/-- the theorem applies: the labelled code equals the index-level code on the erased data -/
example : GenL.dSIS_pair_basedL exVsis nl idx nbrsL trL rrL
    = Gen.dSIS_pair_based exVsis 3 (eraseNbrs nl idx nbrsL) (eraseTr nl trL) (eraseRr nl rrL) :=
  sisPairBased_label_erasure nl idx nbrsL nl_ok trL rrL exVsis

/-- relabelling `7 ↦ 10, 3 ↦ 20, 5 ↦ 30` (not monotone w.r.t. the array order, not a permutation of the labels) -/
def f : Nat → Nat := fun u => match u with | 7 => 10 | 3 => 20 | 5 => 30 | _ => 0
def g : Nat → Nat := fun u => match u with | 10 => 7 | 20 => 3 | 30 => 5 | _ => 0
theorem gf : ∀ u ∈ nl, g (f u) = u := by decide

example : nl.map f = [10, 20, 30] ∧ (fun u => (nbrsL (g u)).map f) 20 = [10, 30] ∧ (idx ∘ g) 30 = 2 := by decide
example : GenL.dSIR_pair_basedL exVsir (nl.map f) (idx ∘ g) (fun u => (nbrsL (g u)).map f)
      (fun u v => trL (g u) (g v)) (fun u => rrL (g u))
    = GenL.dSIR_pair_basedL exVsir nl idx nbrsL trL rrL :=
  sirPairBased_relabel f g nl idx nbrsL nl_ok gf trL rrL exVsir
example : (GenL.dSIR_pair_basedL exVsir (nl.map f) (idx ∘ g) (fun u => (nbrsL (g u)).map f)
      (fun u v => trL (g u) (g v)) (fun u => rrL (g u))).toList
    = (GenL.dSIR_pair_basedL exVsir nl idx nbrsL trL rrL).toList := by decide +kernel

/-- edge insertion order: node 3 lists its neighbours as `[5, 7]` instead of `[7, 5]` -/
def nbrsL' : Nat → List Nat := fun u => (nbrsL u).reverse
theorem nbrs_perm : ∀ u, (nbrsL u).Perm (nbrsL' u) := fun _ => (List.reverse_perm _).symm
example : nbrsL 3 = [7, 5] ∧ nbrsL' 3 = [5, 7] := by decide
example : GenL.dSIS_pair_basedL exVsis nl idx nbrsL trL rrL = GenL.dSIS_pair_basedL exVsis nl idx nbrsL' trL rrL :=
  sisPairBased_nbr_perm nl idx nbrsL nbrsL' nbrs_perm trL rrL exVsis
example : (GenL.dSIS_pair_basedL exVsis nl idx nbrsL' trL rrL).toList
    = (GenL.dSIS_pair_basedL exVsis nl idx nbrsL trL rrL).toList := by decide +kernel

/-- order of `nodelist`: the same labelled graph listed as `[5, 7, 3]` -/
def nl' : List Nat := [5, 7, 3]
def idx' : Nat → Nat := fun u => match u with | 5 => 0 | 7 => 1 | 3 => 2 | _ => 99
theorem nl'_ok : LabelOK nl' idx' nbrsL := by
  refine ⟨by decide, ?_, by decide⟩
  intro i hi
  have : i < 3 := hi
  match i, this with
  | 0, _ => rfl
  | 1, _ => rfl
  | 2, _ => rfl
/-- the state listed in the order of `nl'` -/
def exY' : Nat → Rat := fun i => exY (idx (nl'.getD i 0))
theorem exY'_ok : ∀ u ∈ nl, (⟨3, exY'⟩ : V).f (idx' u) = (⟨3, exY⟩ : V).f (idx u) := by decide +kernel
example : (GenL.dSIS_individual_basedL ⟨3, exY'⟩ nl' idx' nbrsL trL rrL).f (idx' 7)
    = (GenL.dSIS_individual_basedL ⟨3, exY⟩ nl idx nbrsL trL rrL).f (idx 7) :=
  sisIndividual_nodelist_perm nl nl' idx idx' nbrsL nl_ok nl'_ok (by decide) trL rrL ⟨3, exY⟩ ⟨3, exY'⟩ exY'_ok 7
    (by decide)
/-- entries `[r₀, r₁, r₂]` for `[7, 3, 5]` become `[r₂, r₀, r₁]` for `[5, 7, 3]` -/
example : (GenL.dSIS_individual_basedL ⟨3, exY'⟩ nl' idx' nbrsL trL rrL).toList = [5/16, -7/96, 1/48] := by
  decide +kernel

/-- pair-based: the packed state `(Y, XY, XX)` listed in the order of `nl'` -/
def exXY' : Nat → Nat → Rat := fun i j => exXY (idx (nl'.getD i 0)) (idx (nl'.getD j 0))
def exXX' : Nat → Nat → Rat := fun i j => exXX (idx (nl'.getD i 0)) (idx (nl'.getD j 0))
def exVsis' : V := V.append ⟨3, exY'⟩ (V.append (GenEqLoops2.flat 3 3 exXY') (GenEqLoops2.flat 3 3 exXX'))
/-- `d[X_3 Y_5]/dt` sits at cell `(1, 2)` for `[7, 3, 5]` and at cell `(2, 0)` for `[5, 7, 3]` -/
example : (GenL.dSIS_pair_basedL exVsis' nl' idx' nbrsL trL rrL).f (3 + (idx' 3 * 3 + idx' 5))
    = (GenL.dSIS_pair_basedL exVsis nl idx nbrsL trL rrL).f (3 + (idx 3 * 3 + idx 5)) :=
  ((sisPairBased_nodelist_perm nl nl' idx idx' nbrsL nl_ok nl'_ok (by decide) trL rrL exVsis exVsis'
    (by decide +kernel) (by decide +kernel) (by decide +kernel)).2 3 (by decide) 5 (by decide)).1
example : (GenL.dSIS_pair_basedL exVsis' nl' idx' nbrsL trL rrL).f (3 + (2 * 3 + 0)) = -47 / 25 := by decide +kernel

/-- the labelled code computes the hand model: `d[X_3 Y_5]/dt` (positions 1, 2) -/
example : (GenL.dSIS_pair_basedL exVsis nl idx nbrsL trL rrL).f (3 + (1 * 3 + 2))
    = (ODE.sisPairBased (eraseNbrs nl idx nbrsL) (eraseTr nl trL) (eraseRr nl rrL) exY exXY exXX).2.1 1 2 :=
  have hn : ∀ u ∈ nl, (nbrsL u).Nodup := by decide
  ((sisPairBasedL_packed nl_ok hn trL rrL exY exXY exXX exVsis (GenEqLoops2.packed3 3 exY exXY exXX)).2.2 1 2
    (by decide) (by decide)).1

end C14bEx

end GenLabel
