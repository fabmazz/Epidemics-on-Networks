import EoNVerif.Proofs.GenInvest
import EoNVerif.Proofs.DegList
/-!
C10b — the Lean code GENERATED from the Python source of `Simulation_Investigation.node_status / get_statuses /
summary` and `_transform_to_node_history_` (Gen/InvestGen.lean, namespace `GenInvest`) equals the hand-written
specifications of C10 (`Pred.nodeStatusImpl`, `Pred.statusAt`, `Pred.summarySpec`, `History.sirHist/sisHist`).

`unzipH h = (h.map (·.1), h.map (·.2))` : the pair of parallel lists Python stores for the zipped history `h`.
-/
namespace C10b
open Pred GenInvest GenInvestProofs

/-- the generated `node_status` IS `Pred.nodeStatusImpl`, for every history (empty: both fail) and every time,
including Python's wrap-around `statuses[-1]` when no change time is `≤ t` -/
theorem gen_node_status_toOption (h : Hist) (t : Rat) :
    (node_status (unzipH h) t).toOption = nodeStatusImpl h t := by
  rw [node_status_eq]; cases nodeStatusImpl h t <;> rfl

theorem gen_node_status_eq (h : Hist) (t : Rat) (s : String) :
    node_status (unzipH h) t = .ok s ↔ nodeStatusImpl h t = some s := by
  rw [node_status_eq]; cases nodeStatusImpl h t <;> simp

theorem gen_get_status_of_eq (h : Hist) (t : Rat) (s : String) :
    get_status_of (unzipH h) t = .ok s ↔ nodeStatusImpl h t = some s :=
  gen_node_status_eq h t s

/-- no IndexError on a non-empty history -/
theorem gen_node_status_total (h : Hist) (hne : h ≠ []) (t : Rat) : ∃ s, node_status (unzipH h) t = .ok s := by
  obtain ⟨s, hs⟩ := Option.isSome_iff_exists.mp (nodeStatusImpl_isSome h hne t)
  exact ⟨s, (gen_node_status_eq h t s).mpr hs⟩

/-- query before the first change time: the LAST status is returned (index −1), not an error -/
theorem gen_node_status_wrap (h : Hist) (hne : h ≠ []) (t : Rat) (hlt : ∀ e ∈ h, t < e.1) :
    node_status (unzipH h) t = .ok (h.getLast hne).2 := by
  rw [gen_node_status_eq]
  unfold nodeStatusImpl
  have : h.filter (fun e => e.1 ≤ t) = [] := by
    rw [List.filter_eq_nil_iff]
    intro e he
    simpa using hlt e he
  simp [this, List.getLast?_eq_some_getLast hne]

/-- **node_status == spec**: time-ordered history starting at `tmin`, query time `t ≥ tmin`: the generated code
returns the status of the latest change at or before `t` -/
theorem gen_node_status_spec (h : Hist) (tmin t : Rat) (s : String) (hord : histTimesOrdered h = true)
    (hhead : h.head?.map (·.1) = some tmin) (ht : tmin ≤ t) :
    node_status (unzipH h) t = .ok s ↔ statusAt h t = some s := by
  rw [gen_node_status_eq, nodeStatusImpl_eq_statusAt_of_ordered h tmin t hord hhead ht]

theorem gen_get_status_of_spec (h : Hist) (tmin t : Rat) (s : String) (hord : histTimesOrdered h = true)
    (hhead : h.head?.map (·.1) = some tmin) (ht : tmin ≤ t) :
    get_status_of (unzipH h) t = .ok s ↔ statusAt h t = some s :=
  gen_node_status_spec h tmin t s hord hhead ht

theorem gen_transform_sir_eq (tmin : Rat) (inf rec : Option Rat) :
    transform_sir tmin inf rec = unzipH (History.sirHist tmin inf rec) := by
  cases inf with
  | none =>
    cases rec with
    | none => rfl
    | some tr => exact unzipH_reset_append (tr = tmin) [(tmin, "S")] tr "R"
  | some ti =>
    have h1 := unzipH_reset_append (ti = tmin) [(tmin, "S")] ti "I"
    cases rec with
    | none => exact h1
    | some tr =>
      have h2 := unzipH_reset_append (tr = tmin) ((if ti = tmin then [] else [(tmin, "S")]) ++ [(ti, "I")]) tr "R"
      rw [← h1] at h2
      exact h2

theorem gen_transform_sis_eq (tmin : Rat) (is rs : List Rat) :
    transform_sis tmin is rs = unzipH (History.sisHist tmin is rs) :=
  gen_transform_sis_loop_eq tmin is rs [(tmin, "S")]

/-- end to end: `node_status` on the generated SIR / SIS history -/
theorem gen_node_status_transform_sir (tmin : Rat) (inf rec : Option Rat) (t : Rat) (s : String) :
    node_status (transform_sir tmin inf rec) t = .ok s ↔
      nodeStatusImpl (History.sirHist tmin inf rec) t = some s := by
  rw [gen_transform_sir_eq]; exact gen_node_status_eq _ t s

theorem gen_node_status_transform_sis (tmin : Rat) (is rs : List Rat) (t : Rat) (s : String) :
    node_status (transform_sis tmin is rs) t = .ok s ↔
      nodeStatusImpl (History.sisHist tmin is rs) t = some s := by
  rw [gen_transform_sis_eq]; exact gen_node_status_eq _ t s

/-- `summary(nodelist=nodes)` for an arbitrary node list (repetitions allowed) -/
theorem gen_summary_eq_nodes (H : Node → Hist) (sts : List String) (nodes : List Node) (hne : nodes ≠ [])
    (hall : ∀ v ∈ nodes, H v ≠ []) (hord : ∀ v ∈ nodes, histTimesOrdered (H v) = true) :
    summary (fun v => unzipH (H v)) sts nodes =
      .ok ((summarySpec (nodes.map H) sts).times, (summarySpec (nodes.map H) sts).cols) := by
  rw [summary_eq_def, foldlM_nodeStepM H nodes [] (delta0 sts) hall]
  show finish sts _ _ = _
  rw [finish_ok sts (nodes.map H) (by simpa using hne) (List.forall_mem_map.mpr hall) (List.forall_mem_map.mpr hord)
    _ _ (sortedRat_times_eq _) (fun s hs' t => by
      rw [deltaGet_foldl_estep sts s hs' t _ _ (alHasS_delta0 sts), deltaGet_delta0, Int.zero_add])]
  rfl

/-- **summary == spec**: all histories non-empty and time-ordered (and at least one node: Python raises IndexError
on an empty node list).  No hypothesis on `sts` (duplicates allowed: `Nodup` is not needed). -/
theorem gen_summary_eq (hs : List Hist) (sts : List String) (hne : hs ≠ []) (hall : ∀ h ∈ hs, h ≠ [])
    (hord : ∀ h ∈ hs, histTimesOrdered h = true) :
    summary (fun v => unzipH (hs.getD v [])) sts (List.range hs.length) =
      .ok ((summarySpec hs sts).times, (summarySpec hs sts).cols) := by
  have h := gen_summary_eq_nodes (fun v => hs.getD v []) sts (List.range hs.length) (by simpa using hne)
    (forall_range_getD hs hall) (forall_range_getD hs hord)
  rwa [GenHelpProofs.map_getD_range] at h

/-- the TIMES half needs no ordering hypothesis: the call succeeds and its time vector is `Pred.allTimes` -/
theorem gen_summary_times_eq (hs : List Hist) (sts : List String) (hne : hs ≠ []) (hall : ∀ h ∈ hs, h ≠ []) :
    ∃ cols, summary (fun v => unzipH (hs.getD v [])) sts (List.range hs.length) =
      .ok ((summarySpec hs sts).times, cols) := by
  have h := summary_times_eq_nodes (fun v => hs.getD v []) sts (List.range hs.length) (by simpa using hne)
    (forall_range_getD hs hall)
  rwa [GenHelpProofs.map_getD_range] at h

/-- the hypothesis `hs ≠ []` is necessary: on an empty node list the generated code raises (`t[0]`) -/
theorem gen_summary_nil (hist : Node → List Rat × List String) (sts : List String) :
    summary hist sts [] = .error "IndexError" := rfl

end C10b

/-! ### non-vacuity (all evaluated by the kernel) -/
section Examples
open GenInvest GenInvestProofs Pred

def exSIR : Hist := [(0, "S"), (1, "I"), (3, "R")]
example : transform_sir 0 (some 1) (some 3) = unzipH exSIR := by decide +kernel
example : History.sirHist 0 (some 1) (some 3) = exSIR := by decide +kernel
example : node_status (transform_sir 0 (some 1) (some 3)) 2 = .ok "I" := by decide +kernel
example : statusAt exSIR 2 = some "I" := by decide +kernel
example : histTimesOrdered exSIR = true ∧ exSIR.head?.map (·.1) = some 0 := by decide +kernel
/-- the reset quirk: an initially infected node (infection time = tmin) has a history starting with 'I' -/
example : transform_sir 0 (some 0) (some 2) = ([0, 2], ["I", "R"]) := by decide +kernel

/-- an SIS history with a reinfection: infected at 1, recovered at 2, reinfected at 5/2 -/
def exSIS : Hist := [(0, "S"), (1, "I"), (2, "S"), (5/2, "I")]
example : transform_sis 0 [1, 5/2] [2] = unzipH exSIS := by decide +kernel
example : History.sisHist 0 [1, 5/2] [2] = exSIS := by decide +kernel
example : node_status (transform_sis 0 [1, 5/2] [2]) (9/4) = .ok "S" := by decide +kernel
example : get_status_of (transform_sis 0 [1, 5/2] [2]) 3 = .ok "I" := by decide +kernel
/-- the wrap-around: a query before tmin returns the LAST status -/
example : node_status (transform_sis 0 [1, 5/2] [2]) (-1) = .ok "I" := by decide +kernel
example : statusAt exSIS (-1) = none := by decide +kernel
example : node_status ([], []) 0 = .error "IndexError" := by decide +kernel

/-- a 3-node summary: node 0 = the SIS history above, node 1 infected at 1 (simultaneously with node 0), node 2
initially infected -/
def exHs : List Hist := [exSIS, [(0, "S"), (1, "I")], [(0, "I")]]
example : summary (fun v => unzipH (exHs.getD v [])) ["S", "I"] (List.range exHs.length) =
    .ok ([0, 1, 2, 5/2], [[2, 0, 1, 0], [1, 3, 2, 3]]) := by decide +kernel
example : (summarySpec exHs ["S", "I"]).times = [0, 1, 2, 5/2] ∧
    (summarySpec exHs ["S", "I"]).cols = [[2, 0, 1, 0], [1, 3, 2, 3]] := by decide +kernel
/-- the hypotheses of `gen_summary_eq` hold for it -/
example : exHs ≠ [] ∧ (∀ h ∈ exHs, h ≠ []) ∧ (∀ h ∈ exHs, histTimesOrdered h = true) := by decide +kernel
/-- a status that is not listed is ignored; a listed status that never occurs has a zero column; node subset -/
example : summary (fun v => unzipH (exHs.getD v [])) ["R", "I"] [2, 0] =
    .ok ([0, 1, 2, 5/2], [[0, 0, 0, 0], [1, 2, 1, 2]]) := by decide +kernel
example : summary (fun v => unzipH (([exSIS, []] : List Hist).getD v [])) ["S", "I"] [0, 1] =
    .error "IndexError" := by decide +kernel

end Examples

#print axioms C10b.gen_node_status_toOption
#print axioms C10b.gen_node_status_eq
#print axioms C10b.gen_get_status_of_eq
#print axioms C10b.gen_node_status_total
#print axioms C10b.gen_node_status_wrap
#print axioms C10b.gen_node_status_spec
#print axioms C10b.gen_get_status_of_spec
#print axioms C10b.gen_transform_sir_eq
#print axioms C10b.gen_transform_sis_eq
#print axioms C10b.gen_node_status_transform_sir
#print axioms C10b.gen_node_status_transform_sis
#print axioms C10b.gen_summary_eq
#print axioms C10b.gen_summary_eq_nodes
#print axioms C10b.gen_summary_times_eq
#print axioms C10b.gen_summary_nil
