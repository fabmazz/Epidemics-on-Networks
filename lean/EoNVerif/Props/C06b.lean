import EoNVerif.Proofs.ODE2
import Mathlib.Tactic.LinearCombination
/-!
C06 / C07 / C08 — properties of the array-valued right-hand sides (Model/ODE2.lean): heterogeneous
pairwise, effective degree, pair-based, preferential-mixing EBCM.
-/
namespace ODE

/-! ## C06: conservation and signs -/
/-- SIS effective degree conserves the number of nodes on the feasible support (class (s,i) is empty when s+i ≥ A;
square arrays A = B as built by the wrappers) -/
theorem sisEffDeg_conserve (A : Nat) (tau gamma : Rat) (Ssi Isi : Nat → Nat → Rat)
    (hS : ∀ s i, A ≤ s + i → Ssi s i = 0) (hI : ∀ s i, A ≤ s + i → Isi s i = 0) :
    sum2 A A (fun s i => (sisEffDeg A A tau gamma Ssi Isi).1 s i + (sisEffDeg A A tau gamma Ssi Isi).2 s i) = 0 := by
  dsimp only [sisEffDeg]
  generalize (if sum2 A A (fun s i => kf s * Ssi s i) = 0 then (0 : Rat) else _) = r1
  generalize (if sum2 A A (fun s i => kf i * Ssi s i) = 0 then (0 : Rat) else _) = r2
  -- infection and recovery of the node itself cancel between the two arrays; the four neighbour shifts remain
  rw [sum2_congr A A _ (fun s i => (gamma * shiftUp A Ssi s i + tau * r1 * shiftDn A Ssi s i)
      + (gamma * shiftUp A Isi s i + tau * (r2 + 1) * shiftDn A Isi s i))
    (fun s i _ _ => by simp only [shiftUp, shiftDn]; ring),
    sum2_add, sum2_add, sum2_add, sum2_mul_left, sum2_mul_left, sum2_mul_left, sum2_mul_left,
    sum2_shiftUp A Ssi hS, sum2_shiftUp A Isi hI, sum2_shiftDn A Ssi hS, sum2_shiftDn A Isi hI]
  ring

theorem sirEffDeg_dR (A B : Nat) (tau gamma N : Rat) (Ssi : Nat → Nat → Rat) (R : Rat) :
    (sirEffDeg A B tau gamma N Ssi R).2 = gamma * (N - sum2 A B Ssi - R) := rfl

theorem sirHetPW_signs (K : Nat) (tau gamma : Rat) (Ks S I : Nat → Rat) (SS SI : Nat → Nat → Rat)
    (h2 : 0 ≤ tau) (hSI : ∀ k l, 0 ≤ SI k l) (k : Nat) :
    (sirHetPW K tau gamma Ks S I SS SI).1 k ≤ 0 ∧
    -((sirHetPW K tau gamma Ks S I SS SI).1 k + (sirHetPW K tau gamma Ks S I SS SI).2.1 k) = gamma * I k := by
  dsimp only [sirHetPW]
  have h := sumTo_nonneg K (fun l => SI k l) (fun l _ => hSI k l)
  refine ⟨?_, by ring⟩
  have := mul_nonneg h2 h
  linarith

theorem sirPairBased_signs (nbrs : Nat → List Nat) (tr : Nat → Nat → Rat) (rr : Nat → Rat)
    (X Y : Nat → Rat) (XY XX : Nat → Nat → Rat) (htr : ∀ i j, 0 ≤ tr i j) (hXY : ∀ i j, 0 ≤ XY i j) (i : Nat) :
    let r := sirPairBased nbrs tr rr X Y XY XX
    r.1 i ≤ 0 ∧ -(r.1 i + r.2.1 i) = rr i * Y i := by
  dsimp only [sirPairBased]
  have h := sumRat_map_nonneg (nbrs i) (fun j => tr i j * XY i j) (fun j _ => mul_nonneg (htr i j) (hXY i j))
  refine ⟨by linarith, by ring⟩

/-- the symmetric part of the pair equations: [S_kS_l] stays symmetric -/
theorem sisHetPW_SS_symm (K : Nat) (tau gamma : Rat) (Ks Nk : Nat → Rat) (NkNl : Nat → Nat → Rat)
    (S : Nat → Rat) (SS SI : Nat → Nat → Rat) (k l : Nat) :
    (sisHetPW K tau gamma Ks Nk NkNl S SS SI).2.1 k l = (sisHetPW K tau gamma Ks Nk NkNl S SS SI).2.1 l k := by
  dsimp only [sisHetPW]; ring

/-! ## C08: tau = 0 -/
theorem tau0_sirHetPW (K : Nat) (gamma : Rat) (Ks S I : Nat → Rat) (SS SI : Nat → Nat → Rat) (k : Nat) :
    (sirHetPW K 0 gamma Ks S I SS SI).1 k = 0 ∧ (sirHetPW K 0 gamma Ks S I SS SI).2.1 k = -gamma * I k := by
  dsimp only [sirHetPW]
  constructor <;> ring
theorem tau0_sisHetPW (K : Nat) (gamma : Rat) (Ks Nk : Nat → Rat) (NkNl : Nat → Nat → Rat) (S : Nat → Rat) (SS SI : Nat → Nat → Rat) (k : Nat) :
    (sisHetPW K 0 gamma Ks Nk NkNl S SS SI).1 k = gamma * (Nk k - S k) := by
  dsimp only [sisHetPW]; ring
theorem tau0_sirPairBased (nbrs : Nat → List Nat) (rr : Nat → Rat) (X Y : Nat → Rat) (XY XX : Nat → Nat → Rat) (i : Nat) :
    (sirPairBased nbrs (fun _ _ => 0) rr X Y XY XX).1 i = 0 ∧
    (sirPairBased nbrs (fun _ _ => 0) rr X Y XY XX).2.1 i = -rr i * Y i := by
  dsimp only [sirPairBased]
  rw [sumRat_map_zero (nbrs i) (fun j => 0 * XY i j) (fun j _ => zero_mul _)]
  constructor <;> ring
theorem tau0_sisPairBased (nbrs : Nat → List Nat) (rr : Nat → Rat) (Y : Nat → Rat) (XY XX : Nat → Nat → Rat) (i : Nat) :
    (sisPairBased nbrs (fun _ _ => 0) rr Y XY XX).1 i = -rr i * Y i := by
  dsimp only [sisPairBased]
  rw [sumRat_map_zero (nbrs i) (fun j => 0 * XY i j) (fun j _ => zero_mul _)]
  ring
theorem tau0_ebcmPrefMix (ks : List Nat) (rho gamma : Rat) (Pk : Nat → Rat) (Pnk : Nat → Nat → Rat)
    (R : Rat) (theta phiR : Nat → Rat) (d : Nat) :
    (ebcmPrefMix ks rho 0 gamma Pk Pnk R theta phiR).2.1 d = 0 := by
  dsimp only [ebcmPrefMix]; ring
/-- effective degree with tau = 0: the number of susceptible nodes is constant.  Only the `i+1 → i` recovery shift
survives, which stays in its row and telescopes there (`sum2_ip1`); the proof below does not use the hypothesis `hS`. -/
theorem tau0_sirEffDeg_total (A : Nat) (gamma N : Rat) (Ssi : Nat → Nat → Rat) (R : Rat)
    (hS : ∀ s i, A ≤ s + i → Ssi s i = 0) :
    sum2 A A (sirEffDeg A A 0 gamma N Ssi R).1 = 0 := by
  dsimp only [sirEffDeg]
  rw [sum2_congr A A _
    (fun s i => gamma * ((kf i + 1) * (if i + 1 = A then 0 else Ssi s (i + 1)) - kf i * Ssi s i))
    (fun s i _ _ => by ring)]
  rw [sum2_mul_left, sum2_sub, sum2_ip1]
  ring

/-! ## C08: gamma = 0 -/
theorem gamma0_hetPW (K : Nat) (tau : Rat) (Ks Nk : Nat → Rat) (NkNl : Nat → Nat → Rat)
    (S I : Nat → Rat) (SS SI : Nat → Nat → Rat) (hK : ∀ k, Ks k ≠ 0) (hS : ∀ k, S k ≠ 0) (k l : Nat) :
    (sisHetPW K tau 0 Ks Nk NkNl S SS SI).1 k = (sirHetPW K tau 0 Ks S I SS SI).1 k ∧
    (sisHetPW K tau 0 Ks Nk NkNl S SS SI).2.1 k l = (sirHetPW K tau 0 Ks S I SS SI).2.2.1 k l ∧
    (sisHetPW K tau 0 Ks Nk NkNl S SS SI).2.2 k l = (sirHetPW K tau 0 Ks S I SS SI).2.2.2 k l := by
  have e1 : ∀ k, nz (Ks k) = Ks k := fun k => if_neg (hK k)
  have e2 : ∀ k, nz (S k) = S k := fun k => if_neg (hS k)
  have e3 : ∀ k, nz (Ks k * S k) = Ks k * S k := fun k => if_neg (mul_ne_zero (hK k) (hS k))
  dsimp only [sisHetPW, sirHetPW]
  simp only [e1, e2, e3]
  refine ⟨by ring, by ring, by ring⟩

theorem gamma0_pairBased (nbrs : Nat → List Nat) (tr : Nat → Nat → Rat) (Y : Nat → Rat) (XY XX : Nat → Nat → Rat) (i j : Nat) :
    let a := sisPairBased nbrs tr (fun _ => 0) Y XY XX
    let b := sirPairBased nbrs tr (fun _ => 0) (fun u => 1 - Y u) Y XY XX
    b.1 i = -(a.1 i) ∧ a.2.1 i j = b.2.2.1 i j ∧ a.2.2 i j = b.2.2.2 i j := by
  dsimp only [sisPairBased, sirPairBased]
  refine ⟨by ring, ?_, ?_⟩
  · split
    · ring
    · rfl
  · split
    · ring
    · rfl

/-! ## C07: preferential mixing with uncorrelated mixing = EBCM -/
/-- uncorrelated mixing: `Pnk d d' = d' P_{d'} / ⟨k⟩`; on the invariant subspace θ_d ≡ θ, φR_d ≡ γ(1-θ)/τ the
preferential-mixing model moves exactly like EBCM with ψ̂ = (1-ρ)ψ, φ_S(0) = 1-ρ, φ_R(0) = 0 (K > every degree in ks,
c d = P_d for d ∈ ks and 0 otherwise) -/
theorem prefMix_uncorrelated (ks : List Nat) (hks : ks.Nodup) (K : Nat) (hK : ∀ d ∈ ks, d < K)
    (rho tau gamma N : Rat) (Pk : Nat → Rat) (hP0 : ∀ d, d ∉ ks → Pk d = 0)
    (ht : tau ≠ 0) (hN : N ≠ 0) (hr : 1 - rho ≠ 0)
    (hmean : psiHP K Pk 1 ≠ 0) (theta R : Rat) (d : Nat) (hd : d ∈ ks) :
    let kave := psiHP K Pk 1
    let r := ebcmPrefMix ks rho tau gamma Pk (fun _ d' => (d' : Rat) * Pk d' / kave) R (fun _ => theta) (fun _ => gamma * (1 - theta) / tau)
    let e := ebcm K (fun k => (1 - rho) * Pk k) N tau gamma (1 - rho) 0 theta (N * R)
    r.2.1 d = e.1 ∧ r.2.2 d = -(gamma / tau) * e.1 ∧ N * r.1 = e.2 := by
  dsimp only [ebcmPrefMix, ebcm]
  rw [sumRat_ks_psiHP K ks hks hK Pk (fun d hd => by rw [hP0 d hd, mul_zero]), sumRat_ks_psiH K ks hks hK Pk hP0, psiHP_smul, psiHP_smul, psiH_smul,
    mul_div_assoc (tau * (1 - rho)), mul_div_mul_left _ _ hr]
  have et : tau * tau⁻¹ = 1 := mul_inv_cancel₀ ht
  refine ⟨?_, ?_, by ring⟩
  · linear_combination (gamma * (1 - theta)) * et
  · linear_combination (-gamma * (theta - (1 - rho) * (psiHP K Pk theta / psiHP K Pk 1))) * et

/-! ## C07: pair-based on an n-regular graph with uniform state = homogeneous pairwise -/
theorem pairBased_sir_regular (nbrs : Nat → List Nat) (n : Nat) (tau gamma x y xy xx Ntot : Rat)
    (hdeg : ∀ i, (nbrs i).length = n) (hnd : ∀ i, (nbrs i).Nodup) (i j : Nat) (hij : j ∈ nbrs i) (hji : i ∈ nbrs j)
    (hx : x ≠ 0) (hn : (n : Rat) ≠ 0) (hN : Ntot ≠ 0) :
    let r := sirPairBased nbrs (fun _ _ => tau) (fun _ => gamma) (fun _ => x) (fun _ => y) (fun _ _ => xy) (fun _ _ => xx)
    let h := sirHomPW (n : Rat) tau gamma (Ntot * x) (Ntot * y) (Ntot * n * xy) (Ntot * n * xx)
    Ntot * r.1 i = h.1 ∧ Ntot * r.2.1 i = h.2.1 ∧
    Ntot * n * r.2.2.1 i j = h.2.2.1 ∧ Ntot * n * r.2.2.2 i j = h.2.2.2 := by
  have hc : (nbrs i).contains j = true := by simpa using hij
  have l1 := filter_ne_length_cast (nbrs j) i n (hnd j) hji (hdeg j)
  have l2 := filter_ne_length_cast (nbrs i) j n (hnd i) hij (hdeg i)
  have hxi : xinv x = 1 / x := if_neg hx
  -- the only cancellation: the closure `(n-1)/n · [SI] [S·] / [S]` carries `n/n` and `N/N`
  have e : (n : Rat)⁻¹ * n * (Ntot * Ntot⁻¹) = 1 := by rw [inv_mul_cancel₀ hn, mul_inv_cancel₀ hN, one_mul]
  dsimp only [sirPairBased, sirHomPW]
  rw [if_pos hc, if_pos hc]
  simp only [sumRat_map_const, l1, l2, hdeg, hxi]
  refine ⟨by ring, by ring, ?_, ?_⟩
  · linear_combination (-(tau * (n - 1) * Ntot * n * xy * (xx - xy) / x)) * e
  · linear_combination (2 * tau * (n - 1) * Ntot * n * xy * xx / x) * e

/-! ## non-vacuity -/
/-- `sirPairBased` on a triangle (nodes 0,1,2) in a uniform state -/
example :
    let nbrs : Nat → List Nat := fun i => if i = 0 then [1, 2] else if i = 1 then [0, 2] else if i = 2 then [0, 1] else []
    let r := sirPairBased nbrs (fun _ _ => 2) (fun _ => 1) (fun _ => 1 / 2) (fun _ => 1 / 4) (fun _ _ => 1 / 8) (fun _ _ => 1 / 4)
    r.1 0 = -1 / 2 ∧ r.2.1 0 = 1 / 4 ∧ r.2.2.1 0 1 = -5 / 16 ∧ r.2.2.2 0 1 = -1 / 4 ∧ r.2.2.1 0 0 = 0 := by
  decide +kernel

/-- `sisEffDeg` on a 2×2 array (degree ≤ 1 nodes): the entries are non-trivial and sum to zero -/
example :
    let S : Nat → Nat → Rat := fun s i => if s = 0 ∧ i = 0 then 1 else if s = 1 ∧ i = 0 then 3 else if s = 0 ∧ i = 1 then 2 else 0
    let I : Nat → Nat → Rat := fun s i => if s = 0 ∧ i = 0 then 1 else if s = 1 ∧ i = 0 then 2 else if s = 0 ∧ i = 1 then 1 else 0
    let r := sisEffDeg 2 2 3 5 S I
    r.1 0 1 = -11 ∧ r.1 1 0 = 20 ∧ r.2 0 1 = 2 ∧ r.2 1 0 = -11 ∧
    sum2 2 2 (fun s i => r.1 s i + r.2 s i) = 0 := by
  decide +kernel

end ODE
