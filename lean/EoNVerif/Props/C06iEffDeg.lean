import EoNVerif.Proofs.GenGlue3
import EoNVerif.Proofs.DegList

/-!
C06i (effective-degree and preferential-mixing entry points of the GENERATED `Gen/OdeGlue2.lean`, namespace `GenGlue2`):
`SIS_effective_degree`, `SIR_effective_degree`, `EBCM_pref_mix`, for ALL inputs and EVERY solver
`odeint myodeint : (V → V) → V → Nat → V` (all three call `odeint`, SciPy's).

A. `SIS_effective_degree` / `SIR_effective_degree`: the call (X0, right-hand side, shape arguments, returned arrays as a
   closed form of the solution), the exact exception domain, the initial row under `RowZero odeint`, conservation
   (SIR: by subtraction, at every index, for every solver; SIS: none — shown with `driftOdeint`), shapes.
B. `EBCM_pref_mix`: the two `for` loops are eliminated by induction (`forIn_ok_of_mem`); the call, `rho` default and its
   `ZeroDivisionError`, no `IndexError`/`KeyError` ever, `S + I + R = N` at every index, the initial row, `phiR = theta`.
C. closed kernel-checked examples.
-/
namespace GenGlue3Props
open Gen PyGlue PyGlue2 GenGlue2Proofs
open ODE (sumTo)
open GenGlueProofs (Solver RowZero linspace_zero)
open GenGlue3Proofs (reshape_ok reshape_error getRow_mk vslice_left vslice_right forIn_ok_of_mem forIn_ok_yield)
open GenStep (bind_ok bind_err)

/-- the first `n` entries of the row-major flattening of a table (`a.reshape(1, n)[0]`, `a.shape = n`): entry `k` is
`a[k / c, k % c]` with `c` the number of columns of `a` -/
def flatN (a : Mx) (n : Nat) : V := ⟨n, fun k => a.f (k / a.c) (k % a.c)⟩

@[simp] theorem flatN_n (a : Mx) (n : Nat) : (flatN a n).n = n := rfl
@[simp] theorem flatN_f (a : Mx) (n k : Nat) : (flatN a n).f k = a.f (k / a.c) (k % a.c) := rfl

theorem sumTo_rowMajor (r c : Nat) (f : Nat → Nat → Rat) :
    sumTo (r * c) (fun k => f (k / c) (k % c)) = sumTo r (fun i => sumTo c (fun j => f i j)) := by
  induction r with
  | zero => simp [ODE.sumTo_zero_left]
  | succ r ih =>
    rw [Nat.succ_mul, GenGlueProofs.sumTo_split, ih, ODE.sumTo_succ]
    congr 1
    apply ODE.sumTo_congr
    intro k hk
    simp only [RowMajor.rm_div c r k hk, RowMajor.rm_mod c r k hk]

theorem sumTo_flatN (a : Mx) : sumTo (a.r * a.c) (flatN a (a.r * a.c)).f = a.total := sumTo_rowMajor a.r a.c a.f

theorem flat_ok (a : Mx) : a.flat (a.r * a.c) = .ok (flatN a (a.r * a.c)) := if_neg (not_not.2 rfl)

/-! ## A.1 `SIS_effective_degree` -/

/-- `SIS_effective_degree` (`a × b` = shape of `Ssi0`): `Ssi = X.T[:ab]`, `Isi = X.T[ab:]`, `S`, `I` their sums; with full
data the two tables (row-major, declared shape `a × b`) -/
def outSISEff (T : Nat → Rat) (a b : Nat) (full : Bool) (X : Nat → V) : List Out :=
  if full then
    [Out.s T, Out.s (fun i => sumTo (a * b) (X i).f), Out.s (fun i => sumTo (a * b) (fun k => (X i).f (a * b + k))),
     Out.c a b (fun i => ⟨a * b, (X i).f⟩), Out.c a b (fun i => ⟨a * b, fun k => (X i).f (a * b + k)⟩)]
  else
    [Out.s T, Out.s (fun i => sumTo (a * b) (X i).f), Out.s (fun i => sumTo (a * b) (fun k => (X i).f (a * b + k)))]

/-- the `X0` handed to the solver: `Ssi0` flattened row-major, then `Isi0` flattened row-major (along ITS OWN number of
columns) -/
def sisEffX0 (Ssi0 Isi0 : Mx) : V := V.append (flatN Ssi0 (Ssi0.r * Ssi0.c)) (flatN Isi0 (Ssi0.r * Ssi0.c))

/-- the function in closed form: `ValueError` unless `Isi0` has as many entries as `Ssi0` (only the NUMBER of entries is
compared, not the shape); then `odeint` (not `myodeint`) solves the generated `Gen.dSIS_effective_degree` with the shape
`(Ssi0.r, Ssi0.c)` of **`Ssi0`** from `X0 = sisEffX0`, and the returned arrays are `outSISEff` of that solution -/
theorem SIS_effective_degree_eq (odeint myodeint : Solver) (Ssi0 Isi0 : Mx) (tau gamma tmin tmax : Rat)
    (tcount : Nat) (full : Bool) :
    GenGlue2.SIS_effective_degree odeint myodeint Ssi0 Isi0 tau gamma tmin tmax tcount full =
      if Isi0.r * Isi0.c = Ssi0.r * Ssi0.c then
        .ok (sisEffX0 Ssi0 Isi0, outSISEff (linspace tmin tmax tcount) Ssi0.r Ssi0.c full
          (odeint (fun st => Gen.dSIS_effective_degree st Ssi0.r Ssi0.c tau gamma) (sisEffX0 Ssi0 Isi0)))
      else .error "ValueError" := by
  unfold GenGlue2.SIS_effective_degree
  have hS := reshape_ok Ssi0 1 _ (Nat.one_mul _).symm
  by_cases h : Isi0.r * Isi0.c = Ssi0.r * Ssi0.c
  · -- both reshapes succeed, row 0 of each is the flattening, and the two slices of `X` are its halves
    rw [if_pos h]
    simp only [hS, reshape_ok Isi0 1 _ (h.trans (Nat.one_mul _).symm), ok_bind, getRow_mk _ _ _ 0 Nat.one_pos,
      Nat.zero_mul, Nat.zero_add, V.append_n, vslice_left, vslice_right, sliceLen_left, sliceLen_right, vsum, ne_eq,
      not_true_eq_false, if_false, pure_eq_ok]
    cases full <;> rfl
  · rw [if_neg h]
    exact (bind_ok hS _).trans (bind_err (reshape_error Isi0 1 _ fun e => h (e.trans (Nat.one_mul _))) _)

theorem SIS_effective_degree_call (odeint myodeint : Solver) (Ssi0 Isi0 : Mx) (tau gamma tmin tmax : Rat)
    (tcount : Nat) (full : Bool) (h : Isi0.r * Isi0.c = Ssi0.r * Ssi0.c) :
    GenGlue2.SIS_effective_degree odeint myodeint Ssi0 Isi0 tau gamma tmin tmax tcount full =
      .ok (sisEffX0 Ssi0 Isi0, outSISEff (linspace tmin tmax tcount) Ssi0.r Ssi0.c full
          (odeint (fun st => Gen.dSIS_effective_degree st Ssi0.r Ssi0.c tau gamma) (sisEffX0 Ssi0 Isi0))) := by
  rw [SIS_effective_degree_eq, if_pos h]

/-- an `Isi0` whose number of entries differs from that of `Ssi0`: `Isi0.shape = (1, ksq)` fails -/
theorem SIS_effective_degree_error (odeint myodeint : Solver) (Ssi0 Isi0 : Mx) (tau gamma tmin tmax : Rat)
    (tcount : Nat) (full : Bool) (h : Isi0.r * Isi0.c ≠ Ssi0.r * Ssi0.c) :
    GenGlue2.SIS_effective_degree odeint myodeint Ssi0 Isi0 tau gamma tmin tmax tcount full = .error "ValueError" := by
  rw [SIS_effective_degree_eq, if_neg h]

/-- **exact domain**: normal return iff the two tables have the same number of entries; nothing else can raise (no
`IndexError`, no second `ValueError` from the final reshapes) -/
theorem SIS_effective_degree_ok_iff (odeint myodeint : Solver) (Ssi0 Isi0 : Mx) (tau gamma tmin tmax : Rat)
    (tcount : Nat) (full : Bool) :
    (∃ x0 l, GenGlue2.SIS_effective_degree odeint myodeint Ssi0 Isi0 tau gamma tmin tmax tcount full = .ok (x0, l)) ↔
      Isi0.r * Isi0.c = Ssi0.r * Ssi0.c := by
  rw [SIS_effective_degree_eq]
  by_cases h : Isi0.r * Isi0.c = Ssi0.r * Ssi0.c
  · rw [if_pos h]; exact ⟨fun _ => h, fun _ => ⟨_, _, rfl⟩⟩
  · rw [if_neg h]; exact ⟨fun ⟨_, _, e⟩ => (nomatch e), fun e => absurd e h⟩

theorem SIS_effective_degree_only_valueError (odeint myodeint : Solver) (Ssi0 Isi0 : Mx) (tau gamma tmin tmax : Rat)
    (tcount : Nat) (full : Bool) (e : String)
    (h : GenGlue2.SIS_effective_degree odeint myodeint Ssi0 Isi0 tau gamma tmin tmax tcount full = .error e) :
    e = "ValueError" ∧ Isi0.r * Isi0.c ≠ Ssi0.r * Ssi0.c := by
  rw [SIS_effective_degree_eq] at h
  by_cases hne : Isi0.r * Isi0.c = Ssi0.r * Ssi0.c
  · rw [if_pos hne] at h; cases h
  · rw [if_neg hne] at h
    injection h with h
    exact ⟨h.symm, hne⟩

/-- **shapes and sums** (full data, any solution `X`, every time index): both tables are declared `a × b`, have `a·b`
entries; `S` and `I` are the sums of the returned tables; the time array is the grid -/
theorem outSISEff_full (T : Nat → Rat) (a b : Nat) (X : Nat → V) (i : Nat) :
    let l := outSISEff T a b true X
    l.length = 5 ∧ getN l 3 = a * b ∧ getN l 4 = a * b ∧ (getV l 3 i).n = a * b ∧ (getV l 4 i).n = a * b ∧
    get l 0 i = T i ∧ get l 1 i = sumTo (a * b) (getM l 3 i) ∧ get l 2 i = sumTo (a * b) (getM l 4 i) ∧
    (∀ k, getM l 3 i k = (X i).f k) ∧ (∀ k, getM l 4 i k = (X i).f (a * b + k)) :=
  ⟨rfl, rfl, rfl, rfl, rfl, rfl, rfl, rfl, fun _ => rfl, fun _ => rfl⟩

/-- without full data: three time series, the same `S` and `I` -/
theorem outSISEff_short (T : Nat → Rat) (a b : Nat) (X : Nat → V) (i : Nat) :
    (outSISEff T a b false X).length = 3 ∧
    get (outSISEff T a b false X) 1 i = get (outSISEff T a b true X) 1 i ∧
    get (outSISEff T a b false X) 2 i = get (outSISEff T a b true X) 2 i := ⟨rfl, rfl, rfl⟩

theorem get_outSISEff (T : Nat → Rat) (a b : Nat) (full : Bool) (X : Nat → V) (i : Nat) :
    get (outSISEff T a b full X) 0 i = T i ∧ get (outSISEff T a b full X) 1 i = sumTo (a * b) (X i).f ∧
    get (outSISEff T a b full X) 2 i = sumTo (a * b) (fun k => (X i).f (a * b + k)) := by
  cases full <;> exact ⟨rfl, rfl, rfl⟩

theorem sumTo_sisEffX0 (Ssi0 Isi0 : Mx) (h : Isi0.r * Isi0.c = Ssi0.r * Ssi0.c) :
    sumTo (Ssi0.r * Ssi0.c) (sisEffX0 Ssi0 Isi0).f = Ssi0.total ∧
    sumTo (Ssi0.r * Ssi0.c) (fun k => (sisEffX0 Ssi0 Isi0).f (Ssi0.r * Ssi0.c + k)) = Isi0.total := by
  constructor
  · rw [← sumTo_flatN Ssi0]
    exact GenGlueProofs.sumTo_append_left (flatN Ssi0 _) (flatN Isi0 _)
  · rw [← sumTo_flatN Isi0, h]
    exact GenGlueProofs.sumTo_append_right (flatN Ssi0 _) (flatN Isi0 _)

/-- **initial row** under `RowZero odeint` (the solver returns `X0` in row 0; necessary — see `shiftOdeint` below):
`S(0) = Σ Ssi0`, `I(0) = Σ Isi0`, `t(0) = tmin` -/
theorem SIS_effective_degree_init {odeint myodeint : Solver} (h0 : RowZero odeint) (Ssi0 Isi0 : Mx)
    (tau gamma tmin tmax : Rat) (tcount : Nat) (full : Bool) (h : Isi0.r * Isi0.c = Ssi0.r * Ssi0.c) :
    ∃ x0 l, GenGlue2.SIS_effective_degree odeint myodeint Ssi0 Isi0 tau gamma tmin tmax tcount full = .ok (x0, l) ∧
      get l 0 0 = tmin ∧ get l 1 0 = Ssi0.total ∧ get l 2 0 = Isi0.total := by
  refine ⟨_, _, (SIS_effective_degree_eq ..).trans (if_pos h), ?_⟩
  simp only [get_outSISEff, h0 _ _, linspace_zero, true_and]
  exact sumTo_sisEffX0 Ssi0 Isi0 h

/-- **initial row, full data**: entry `k < a·b` of the returned `Ssi` table at time index 0 is `Ssi0[k / c, k % c]`; that
of `Isi` is `Isi0[k / c', k % c']` with `c'` the number of columns of **`Isi0`** (re-read along `Ssi0`'s shape) -/
theorem SIS_effective_degree_init_full {odeint myodeint : Solver} (h0 : RowZero odeint) (Ssi0 Isi0 : Mx)
    (tau gamma tmin tmax : Rat) (tcount : Nat) (h : Isi0.r * Isi0.c = Ssi0.r * Ssi0.c) :
    ∃ x0 l, GenGlue2.SIS_effective_degree odeint myodeint Ssi0 Isi0 tau gamma tmin tmax tcount true = .ok (x0, l) ∧
      getN l 3 = Ssi0.r * Ssi0.c ∧ getN l 4 = Ssi0.r * Ssi0.c ∧
      ∀ k, k < Ssi0.r * Ssi0.c → getM l 3 0 k = Ssi0.f (k / Ssi0.c) (k % Ssi0.c) ∧
        getM l 4 0 k = Isi0.f (k / Isi0.c) (k % Isi0.c) := by
  refine ⟨_, _, (SIS_effective_degree_eq ..).trans (if_pos h), rfl, rfl, ?_⟩
  intro k hk
  show (odeint _ (sisEffX0 Ssi0 Isi0) 0).f k = _ ∧ (odeint _ (sisEffX0 Ssi0 Isi0) 0).f (Ssi0.r * Ssi0.c + k) = _
  rw [h0]
  exact ⟨V.append_f_lt (flatN Ssi0 _) _ k hk, V.append_f_ge (flatN Ssi0 _) (flatN Isi0 _) k⟩

/-! ## A.2 `SIR_effective_degree` -/

/-- `SIR_effective_degree` (`a × b` = shape of `S_si0`): `R = X[:, -1]`, `S_si = X.T[:-1]`, `S = Σ S_si`,
`I = N − R − S` -/
def outSIREff (T : Nat → Rat) (N : Rat) (a b : Nat) (full : Bool) (X : Nat → V) : List Out :=
  if full then
    [Out.s T, Out.s (fun i => sumTo (a * b) (X i).f), Out.s (fun i => N - (X i).f (a * b) - sumTo (a * b) (X i).f),
     Out.s (fun i => (X i).f (a * b)), Out.c a b (fun i => ⟨a * b, (X i).f⟩)]
  else
    [Out.s T, Out.s (fun i => sumTo (a * b) (X i).f), Out.s (fun i => N - (X i).f (a * b) - sumTo (a * b) (X i).f),
     Out.s (fun i => (X i).f (a * b))]

/-- the `X0` handed to the solver: `S_si0` flattened row-major, then `[R0]` -/
def sirEffX0 (S_si0 : Mx) (R0 : Rat) : V := V.append (flatN S_si0 (S_si0.r * S_si0.c)) (V.ofList [R0])

/-- **call — and it never raises**: for ALL inputs (also an empty table) `odeint` solves the generated
`Gen.dSIR_effective_degree` with `N = Σ S_si0 + I0 + R0` and the shape of `S_si0`, from `X0 = sirEffX0`; the returned
arrays are `outSIREff` of the solution.  (`X[:, -1]` cannot fail as `X0` always has the entry `R0`.) -/
theorem SIR_effective_degree_call (odeint myodeint : Solver) (S_si0 : Mx) (I0 R0 tau gamma tmin tmax : Rat)
    (tcount : Nat) (full : Bool) :
    GenGlue2.SIR_effective_degree odeint myodeint S_si0 I0 R0 tau gamma tmin tmax tcount full =
      .ok (sirEffX0 S_si0 R0,
        outSIREff (linspace tmin tmax tcount) (S_si0.total + I0 + R0) S_si0.r S_si0.c full
          (odeint (fun st => Gen.dSIR_effective_degree st (S_si0.total + I0 + R0) S_si0.r S_si0.c tau gamma)
            (sirEffX0 S_si0 R0))) := by
  unfold GenGlue2.SIR_effective_degree
  have hR : vreshape (V.ofList [R0]) 1 = .ok (V.ofList [R0]) := rfl
  have hn : (V.ofList [R0]).n = 1 := rfl
  -- `X0` has `a·b + 1` entries, so `X[:, -1]` is entry `a·b` and `X.T[:-1]` the first `a·b`
  simp only [flat_ok, hR, ok_bind, V.append_n, flatN_n, hn, Nat.add_sub_cancel, Nat.lt_succ_self, not_true_eq_false,
    if_false, vslice_left, sliceLen_left, vsum, ne_eq, pure_eq_ok]
  cases full <;> rfl

theorem get_outSIREff (T : Nat → Rat) (N : Rat) (a b : Nat) (full : Bool) (X : Nat → V) (i : Nat) :
    get (outSIREff T N a b full X) 0 i = T i ∧ get (outSIREff T N a b full X) 1 i = sumTo (a * b) (X i).f ∧
    get (outSIREff T N a b full X) 2 i = N - (X i).f (a * b) - sumTo (a * b) (X i).f ∧
    get (outSIREff T N a b full X) 3 i = (X i).f (a * b) := by
  cases full <;> exact ⟨rfl, rfl, rfl, rfl⟩

theorem SIR_effective_degree_no_error (odeint myodeint : Solver) (S_si0 : Mx) (I0 R0 tau gamma tmin tmax : Rat)
    (tcount : Nat) (full : Bool) (e : String) :
    GenGlue2.SIR_effective_degree odeint myodeint S_si0 I0 R0 tau gamma tmin tmax tcount full ≠ .error e := by
  rw [SIR_effective_degree_call]; intro h; cases h

/-- **conservation** `S + I + R = N = Σ S_si0 + I0 + R0` at EVERY time index for EVERY solver (`I` is obtained by
subtraction), the length of `X0`, and the number of returned arrays -/
theorem SIR_effective_degree_conserve (odeint myodeint : Solver) (S_si0 : Mx) (I0 R0 tau gamma tmin tmax : Rat)
    (tcount : Nat) (full : Bool) :
    ∃ x0 l, GenGlue2.SIR_effective_degree odeint myodeint S_si0 I0 R0 tau gamma tmin tmax tcount full = .ok (x0, l) ∧
      x0.n = S_si0.r * S_si0.c + 1 ∧ l.length = (if full then 5 else 4) ∧
      ∀ i, get l 1 i + get l 2 i + get l 3 i = S_si0.total + I0 + R0 := by
  refine ⟨_, _, SIR_effective_degree_call .., rfl, ?_, ?_⟩
  · cases full <;> rfl
  · intro i
    simp only [get_outSIREff]; ring

/-- **initial row** under `RowZero odeint`: `S(0) = Σ S_si0`, `R(0) = R0`, `I(0) = I0`, `t(0) = tmin` -/
theorem SIR_effective_degree_init {odeint myodeint : Solver} (h0 : RowZero odeint) (S_si0 : Mx)
    (I0 R0 tau gamma tmin tmax : Rat) (tcount : Nat) (full : Bool) :
    ∃ x0 l, GenGlue2.SIR_effective_degree odeint myodeint S_si0 I0 R0 tau gamma tmin tmax tcount full = .ok (x0, l) ∧
      get l 0 0 = tmin ∧ get l 1 0 = S_si0.total ∧ get l 2 0 = I0 ∧ get l 3 0 = R0 := by
  refine ⟨_, _, SIR_effective_degree_call .., ?_⟩
  have e1 : sumTo (S_si0.r * S_si0.c) (sirEffX0 S_si0 R0).f = S_si0.total := by
    rw [← sumTo_flatN S_si0]
    exact GenGlueProofs.sumTo_append_left (flatN S_si0 _) _
  have e2 : (sirEffX0 S_si0 R0).f (S_si0.r * S_si0.c) = R0 := GenGlueProofs.append_f_n (flatN S_si0 _) _
  simp only [get_outSIREff, h0 _ _, e1, e2, linspace_zero, true_and, and_true]
  ring

/-- **full data**: the returned table is declared `a × b` with `a·b` entries, `S` is its sum at every index, and under
`RowZero odeint` its row 0 is `S_si0` read row-major -/
theorem SIR_effective_degree_full (odeint myodeint : Solver) (S_si0 : Mx) (I0 R0 tau gamma tmin tmax : Rat)
    (tcount : Nat) :
    ∃ x0 l, GenGlue2.SIR_effective_degree odeint myodeint S_si0 I0 R0 tau gamma tmin tmax tcount true = .ok (x0, l) ∧
      getN l 4 = S_si0.r * S_si0.c ∧ (∀ i, (getV l 4 i).n = S_si0.r * S_si0.c) ∧
      (∀ i, get l 1 i = sumTo (S_si0.r * S_si0.c) (getM l 4 i)) ∧
      (RowZero odeint → ∀ k, k < S_si0.r * S_si0.c → getM l 4 0 k = S_si0.f (k / S_si0.c) (k % S_si0.c)) := by
  refine ⟨_, _, SIR_effective_degree_call .., rfl, fun _ => rfl, fun _ => rfl, ?_⟩
  intro h0 k hk
  show (odeint _ (sirEffX0 S_si0 R0) 0).f k = _
  rw [h0]
  exact V.append_f_lt (flatN S_si0 _) _ k hk

/-! ## B. `EBCM_pref_mix` -/

open GenHelpProofs (mem_sortNat mem_enum enum_lt enum_of_mem)

/-- `d[k]` as a total function (`dflt` when the key is absent); the same function as `GenGlue3Proofs.lkD` -/
def dGetD {α : Type} (d : List (Nat × α)) (k : Nat) (dflt : α) : α :=
  match d.find? (fun kv => kv.1 == k) with
  | some kv => kv.2
  | none => dflt

theorem dGetD_of_ok {α : Type} (d : List (Nat × α)) (k : Nat) (dflt v : α) (h : dGet d k = .ok v) :
    dGetD d k dflt = v := by
  rw [GenHelpProofs.dGet_eq_dictGet] at h
  exact (GenGlue3Proofs.lkD_eq_alGet d k dflt).trans (alGet_of_dictGet_ok d k dflt v h)

theorem dGet_dSet_same {α : Type} (d : List (Nat × α)) (k : Nat) (v : α) : dGet (dSet d k v) k = .ok v := by
  rw [GenHelpProofs.dGet_eq_dictGet, GenHelpProofs.dSet_eq_alSet, dictGet_alSet_self]

theorem dGet_dSet_other {α : Type} (d : List (Nat × α)) (k k2 : Nat) (v : α) (hk : k2 ≠ k) :
    dGet (dSet d k v) k2 = dGet d k2 := by
  rw [GenHelpProofs.dGet_eq_dictGet, GenHelpProofs.dGet_eq_dictGet, GenHelpProofs.dSet_eq_alSet,
    dictGet_alSet_ne _ _ _ _ hk]

/-- `[1, 0, 1, 0, …]` of length `2m` -/
def icTail : Nat → List Rat
  | 0 => []
  | m + 1 => 1 :: 0 :: icTail m
/-- `[0, 1, 0, 1, 0, …]` of length `1 + 2m` -/
def icList (m : Nat) : List Rat := 0 :: icTail m

theorem icTail_length (m : Nat) : (icTail m).length = 2 * m := by
  induction m with
  | zero => rfl
  | succ m ih => simp only [icTail, List.length_cons, ih]; omega

theorem icList_length (m : Nat) : (icList m).length = 1 + 2 * m := by
  rw [icList, List.length_cons, icTail_length]; omega

theorem icTail_getD_even (m j : Nat) (h : j < m) : (icTail m).getD (2 * j) 0 = 1 := by
  induction m generalizing j with
  | zero => omega
  | succ m ih =>
    cases j with
    | zero => rfl
    -- `(1 :: 0 :: icTail m).getD (2 * (j + 1)) 0` unfolds to `(icTail m).getD (2 * j) 0`
    | succ j => exact ih j (Nat.lt_of_succ_lt_succ h)

theorem icTail_getD_odd (m j : Nat) : (icTail m).getD (2 * j + 1) 0 = 0 := by
  induction m generalizing j with
  | zero => rfl
  | succ m ih =>
    cases j with
    | zero => rfl
    | succ j => exact ih j

/-- `IC`: `1 + 2m` entries; entry 0 (`R`) is `0`; the odd entries `1 + 2j` (`theta_k`) are `1`; the even entries
`2 + 2j` (`phiR_k`) are `0` -/
theorem icList_spec (m : Nat) :
    (V.ofList (icList m)).n = 1 + 2 * m ∧ (V.ofList (icList m)).f 0 = 0 ∧
    (∀ j, j < m → (V.ofList (icList m)).f (1 + 2 * j) = 1) ∧ (∀ j, (V.ofList (icList m)).f (2 + 2 * j) = 0) := by
  refine ⟨icList_length m, rfl, fun j hj => ?_, fun j => ?_⟩
  · rw [Nat.add_comm]; exact icTail_getD_even m j hj
  · rw [Nat.add_comm]; exact icTail_getD_odd m j

/-- the first loop (`IC = IC + [1, 0]` once per key) appends `icTail` -/
theorem foldl_ic {α : Type} (l : List α) (init : List Rat) :
    l.foldl (fun r _ => r ++ [(1 : Rat), 0]) init = init ++ icTail l.length := by
  induction l generalizing init with
  | nil => simp [icTail]
  | cons a t ih => rw [List.foldl_cons, ih]; simp [icTail]

/-- the dict `theta` after the second loop, for the solution `X` and the sorted keys `sks`: `theta[k] = X.T[1 + 2*index]`
for `(index, k)` in `enumerate(sks)` -/
def thetaOf (X : Nat → V) (sks : List Nat) : List (Nat × (Nat → Rat)) :=
  (enum sks).foldl (fun th x => dSet th x.2 (fun i => (X i).f (1 + 2 * x.1))) []

/-- **the quirk recorded in DESIGN.md §2.7**: the second loop, as generated (state `(theta, phiR)`), ends with `phiR = theta` — both
dicts read the SAME columns `X.T[1 + 2*index]` (the `phiR` columns `2 + 2*index` of the solution are never read), and
`phiR` does not occur in the returned arrays (`outPrefMix` mentions `thetaOf` only) -/
theorem EBCM_pref_mix_phiR_eq_theta (X : Nat → V) (sks : List Nat) :
    forIn (m := Except String) (enum sks) (([], []) : List (Nat × (Nat → Rat)) × List (Nat × (Nat → Rat)))
      (fun x s => do
        if ¬ ((1 + (2 * x.1)) < 1 + 2 * sks.length) then throw "IndexError"
        let theta := dSet s.1 x.2 (fun i => (X i).f (1 + (2 * x.1)))
        if ¬ ((1 + (2 * x.1)) < 1 + 2 * sks.length) then throw "IndexError"
        let phiR := dSet s.2 x.2 (fun i => (X i).f (1 + (2 * x.1)))
        pure (ForInStep.yield (theta, phiR)))
      = .ok (thetaOf X sks, thetaOf X sks) := by
  rw [forIn_ok_of_mem (enum sks) _
    (fun x s => (dSet s.1 x.2 (fun i => (X i).f (1 + 2 * x.1)), dSet s.2 x.2 (fun i => (X i).f (1 + 2 * x.1))))
    (by
      intro x hx s
      have h1 := enum_lt _ x hx
      have h2 : 1 + 2 * x.1 < 1 + 2 * sks.length := by omega
      simp [h2])]
  rw [GenHelpProofs.foldl_pair (fun th (x : Nat × Nat) => dSet th x.2 (fun i => (X i).f (1 + 2 * x.1)))
    (fun th (x : Nat × Nat) => dSet th x.2 (fun i => (X i).f (1 + 2 * x.1)))]
  rfl

theorem dGet_foldl_dSet {α : Type} (v : Nat → α) (L : List (Nat × Nat)) (d : List (Nat × α)) (k : Nat) :
    (∃ x ∈ L, x.2 = k ∧ dGet (L.foldl (fun th x => dSet th x.2 (v x.1)) d) k = .ok (v x.1)) ∨
    ((∀ x ∈ L, x.2 ≠ k) ∧ dGet (L.foldl (fun th x => dSet th x.2 (v x.1)) d) k = dGet d k) := by
  induction L generalizing d with
  | nil => right; exact ⟨fun x hx => (by cases hx), rfl⟩
  | cons x t ih =>
    rw [List.foldl_cons]
    rcases ih (dSet d x.2 (v x.1)) with ⟨y, hy, hyk, hg⟩ | ⟨hall, hg⟩
    · left; exact ⟨y, List.mem_cons_of_mem _ hy, hyk, hg⟩
    · by_cases hx : x.2 = k
      · left
        refine ⟨x, List.mem_cons_self .., hx, ?_⟩
        rw [hg, hx, dGet_dSet_same]
      · right
        refine ⟨fun y hy => ?_, ?_⟩
        · rcases List.mem_cons.1 hy with rfl | hy
          · exact hx
          · exact hall y hy
        · rw [hg, dGet_dSet_other _ _ _ _ (fun h => hx h.symm)]

theorem thetaOf_get (X : Nat → V) (sks : List Nat) (k : Nat) (hk : k ∈ sks) :
    ∃ j, sks[j]? = some k ∧ dGet (thetaOf X sks) k = .ok (fun i => (X i).f (1 + 2 * j)) := by
  unfold thetaOf
  rcases dGet_foldl_dSet (fun j => fun i => (X i).f (1 + 2 * j)) (enum sks) [] k with ⟨x, hx, hxk, hg⟩ | ⟨hall, -⟩
  · refine ⟨x.1, ?_, hg⟩
    rw [← hxk]; exact (mem_enum sks x).1 hx
  · exfalso
    obtain ⟨x, hx, hxk⟩ := enum_of_mem sks k hk
    exact hall x hx hxk

/-- `EBCM_pref_mix`: `R' = X[:,0]`, `theta` = `thetaOf`, `S' = (1 − ρ) Σ_{k ∈ Pk.keys()} Pk[k]·theta[k]^k`,
`I' = 1 − S' − R'`; returned `N·S'`, `N·I'`, `N·R'` (and the dict `theta` with full data).  The `phiR` columns `2 + 2j`
of the solution do not occur. -/
def outPrefMix (T : Nat → Rat) (N ρ : Rat) (Pk : List (Nat × Rat)) (full : Bool) (X : Nat → V) : List Out :=
  let th := thetaOf X (sortNat (Pk.map (·.1)))
  let S : Nat → Rat := fun i =>
    (1 - ρ) * sumRat ((Pk.map (·.1)).map (fun k => dGetD Pk k 0 * (dGetD th k (fun _ => 0) i) ^ k))
  if full then
    [Out.s T, Out.s (fun i => N * S i), Out.s (fun i => N * (1 - S i - (X i).f 0)), Out.s (fun i => N * (X i).f 0),
     Out.d th]
  else
    [Out.s T, Out.s (fun i => N * S i), Out.s (fun i => N * (1 - S i - (X i).f 0)), Out.s (fun i => N * (X i).f 0)]

theorem EBCM_pref_mix_call_rho (odeint myodeint : Solver)
    (rhs : Rat → Rat → Rat → List (Nat × Rat) → List (Nat × List (Nat × Rat)) → V → V)
    (N : Rat) (Pk : List (Nat × Rat)) (Pnk : List (Nat × List (Nat × Rat))) (tau gamma r tmin tmax : Rat)
    (tcount : Nat) (full : Bool) :
    GenGlue2.EBCM_pref_mix odeint myodeint rhs N Pk Pnk tau gamma (some r) tmin tmax tcount full =
      .ok (V.ofList (icList Pk.length), outPrefMix (linspace tmin tmax tcount) N r Pk full
        (odeint (fun st => rhs r tau gamma Pk Pnk st) (V.ofList (icList Pk.length)))) := by
  have hm : (sortNat (Pk.map (·.1))).length = Pk.length := by rw [GenHelpProofs.sortNat_length, List.length_map]
  have hic : [(0 : Rat)] ++ icTail Pk.length = icList Pk.length := rfl
  have hn : (V.ofList (icList Pk.length)).n = 1 + 2 * Pk.length := icList_length _
  have h0 : 0 < 1 + 2 * Pk.length := by omega
  -- the second loop, with `X_n = 1 + 2·|Pk|`, for any solution
  have loop := fun X => EBCM_pref_mix_phiR_eq_theta X (sortNat (Pk.map (·.1)))
  rw [hm] at loop
  simp only [pure_eq_ok, throw_eq_err] at loop
  unfold GenGlue2.EBCM_pref_mix
  simp only [↓reduceIte, Option.isNone_some, Bool.false_eq_true, ok_bind, forIn_ok_yield, foldl_ic, hm, hic, hn, h0,
    not_true_eq_false, need_some, pure_eq_ok, throw_eq_err, loop]
  generalize odeint (fun st => rhs r tau gamma Pk Pnk st) (V.ofList (icList Pk.length)) = X
  rw [GenHelpProofs.mapM_ok_mem _
    (fun k i => dGetD Pk k 0 * dGetD (thetaOf X (sortNat (Pk.map (·.1)))) k (fun _ => 0) i ^ k) (Pk.map (·.1))
    (by
      intro k hk
      obtain ⟨j, -, hg⟩ := thetaOf_get X _ k ((mem_sortNat _ _).2 hk)
      rw [GenGlue3Proofs.dGet_of_mem Pk k 0 hk, ok_bind, hg, ok_bind, dGetD_of_ok _ _ _ _ hg]; rfl)]
  simp only [outPrefMix, ok_bind, List.map_map, Function.comp_def]
  cases full <;> rfl

theorem EBCM_pref_mix_default (odeint myodeint : Solver)
    (rhs : Rat → Rat → Rat → List (Nat × Rat) → List (Nat × List (Nat × Rat)) → V → V)
    (N : Rat) (Pk : List (Nat × Rat)) (Pnk : List (Nat × List (Nat × Rat))) (tau gamma tmin tmax : Rat)
    (tcount : Nat) (full : Bool) (hN : N ≠ 0) :
    GenGlue2.EBCM_pref_mix odeint myodeint rhs N Pk Pnk tau gamma none tmin tmax tcount full =
      GenGlue2.EBCM_pref_mix odeint myodeint rhs N Pk Pnk tau gamma (some (1 / N)) tmin tmax tcount full := by
  -- `rho is None` holds and `N = 0` fails, which sets `rho = 1/N`; with `rho = 1/N` given, `rho is None` fails
  unfold GenGlue2.EBCM_pref_mix
  exact (if_pos rfl).trans ((if_neg hN).trans (if_neg Bool.false_ne_true).symm)

/-- `rho = None` on `N = 0`: `rho = 1./N` is a `ZeroDivisionError` (first statement, whatever the other arguments) -/
theorem EBCM_pref_mix_error_zeroDiv (odeint myodeint : Solver)
    (rhs : Rat → Rat → Rat → List (Nat × Rat) → List (Nat × List (Nat × Rat)) → V → V)
    (Pk : List (Nat × Rat)) (Pnk : List (Nat × List (Nat × Rat))) (tau gamma tmin tmax : Rat)
    (tcount : Nat) (full : Bool) :
    GenGlue2.EBCM_pref_mix odeint myodeint rhs 0 Pk Pnk tau gamma none tmin tmax tcount full
      = .error "ZeroDivisionError" := by
  unfold GenGlue2.EBCM_pref_mix
  exact (if_pos rfl).trans (if_pos rfl)

/-- the value of `rho` used: the argument, or `1/N` -/
def rhoOf (N : Rat) (rho : Option Rat) : Rat := rho.getD (1 / N)

/-- **call, all inputs**: unless (`rho = None` and `N = 0`) the function returns normally — in particular **no
`IndexError` (`X.T[1+2*index]`) and no `KeyError` (`Pk[k]`, `theta[k]`) for any `Pk`** (also empty, also with repeated
keys), any `Pnk` (it is only passed on), any solver.  `odeint` solves `rhs_dEBCM_pref_mix(rho, tau, gamma, Pk, Pnk)` from
`IC = [0, 1, 0, 1, 0, …]` (`1 + 2·|Pk|` entries); the returned arrays are `outPrefMix` of the solution. -/
theorem EBCM_pref_mix_call (odeint myodeint : Solver)
    (rhs : Rat → Rat → Rat → List (Nat × Rat) → List (Nat × List (Nat × Rat)) → V → V)
    (N : Rat) (Pk : List (Nat × Rat)) (Pnk : List (Nat × List (Nat × Rat))) (tau gamma : Rat) (rho : Option Rat)
    (tmin tmax : Rat) (tcount : Nat) (full : Bool) (h : rho.isSome ∨ N ≠ 0) :
    GenGlue2.EBCM_pref_mix odeint myodeint rhs N Pk Pnk tau gamma rho tmin tmax tcount full =
      .ok (V.ofList (icList Pk.length), outPrefMix (linspace tmin tmax tcount) N (rhoOf N rho) Pk full
        (odeint (fun st => rhs (rhoOf N rho) tau gamma Pk Pnk st) (V.ofList (icList Pk.length)))) := by
  cases rho with
  | some r => exact EBCM_pref_mix_call_rho ..
  | none =>
    rw [EBCM_pref_mix_default _ _ _ _ _ _ _ _ _ _ _ _ (h.resolve_left Bool.false_ne_true)]
    exact EBCM_pref_mix_call_rho ..

/-- **exact domain**: normal return iff `rho` is given or `N ≠ 0`; the only exception is that `ZeroDivisionError` -/
theorem EBCM_pref_mix_ok_iff (odeint myodeint : Solver)
    (rhs : Rat → Rat → Rat → List (Nat × Rat) → List (Nat × List (Nat × Rat)) → V → V)
    (N : Rat) (Pk : List (Nat × Rat)) (Pnk : List (Nat × List (Nat × Rat))) (tau gamma : Rat) (rho : Option Rat)
    (tmin tmax : Rat) (tcount : Nat) (full : Bool) :
    ((∃ x0 l, GenGlue2.EBCM_pref_mix odeint myodeint rhs N Pk Pnk tau gamma rho tmin tmax tcount full = .ok (x0, l)) ↔
      (rho.isSome ∨ N ≠ 0)) ∧
    (∀ e, GenGlue2.EBCM_pref_mix odeint myodeint rhs N Pk Pnk tau gamma rho tmin tmax tcount full = .error e →
      e = "ZeroDivisionError" ∧ rho = none ∧ N = 0) := by
  by_cases h : rho.isSome ∨ N ≠ 0
  · have hc := EBCM_pref_mix_call odeint myodeint rhs N Pk Pnk tau gamma rho tmin tmax tcount full h
    refine ⟨⟨fun _ => h, fun _ => ⟨_, _, hc⟩⟩, fun e he => ?_⟩
    rw [hc] at he; cases he
  · obtain ⟨rfl, rfl⟩ : rho = none ∧ N = 0 := by
      cases rho with
      | none => exact ⟨rfl, not_not.1 fun hN => h (.inr hN)⟩
      | some r => exact absurd (.inl rfl) h
    have he := EBCM_pref_mix_error_zeroDiv odeint myodeint rhs Pk Pnk tau gamma tmin tmax tcount full
    refine ⟨⟨fun ⟨x0, l, hl⟩ => ?_, fun hh => absurd hh h⟩, fun e hee => ?_⟩
    · rw [he] at hl; cases hl
    · rw [he] at hee; injection hee with hee; exact ⟨hee.symm, rfl, rfl⟩

/-- **conservation** `S + I + R = N` at EVERY time index for ANY solution (returned `S = N·S'`, `I = N·(1 − S' − R')`,
`R = N·R'`), and `R` is `N ×` column 0 -/
theorem outPrefMix_conserve (T : Nat → Rat) (N ρ : Rat) (Pk : List (Nat × Rat)) (full : Bool) (X : Nat → V) (i : Nat) :
    get (outPrefMix T N ρ Pk full X) 1 i + get (outPrefMix T N ρ Pk full X) 2 i + get (outPrefMix T N ρ Pk full X) 3 i
      = N ∧ get (outPrefMix T N ρ Pk full X) 3 i = N * (X i).f 0 ∧ get (outPrefMix T N ρ Pk full X) 0 i = T i ∧
    (outPrefMix T N ρ Pk full X).length = (if full then 5 else 4) := by
  cases full <;> exact ⟨by show N * _ + N * (1 - _ - _) + N * _ = N; ring, rfl, rfl, rfl⟩

/-- for a key `k` of `Pk`, `theta[k]` is an odd column `1 + 2j` of the solution, `j < |Pk|` a position of `k` in
`sorted(Pk.keys())` -/
theorem theta_column (X : Nat → V) (Pk : List (Nat × Rat)) (k : Nat) (hk : k ∈ Pk.map (·.1)) (dflt : Nat → Rat) :
    ∃ j, j < Pk.length ∧ (sortNat (Pk.map (·.1)))[j]? = some k ∧
      dGetD (thetaOf X (sortNat (Pk.map (·.1)))) k dflt = fun i => (X i).f (1 + 2 * j) := by
  obtain ⟨j, hj, hg⟩ := thetaOf_get X _ k ((mem_sortNat _ _).2 hk)
  refine ⟨j, ?_, hj, dGetD_of_ok _ _ _ _ hg⟩
  have hm : (sortNat (Pk.map (·.1))).length = Pk.length := by rw [GenHelpProofs.sortNat_length, List.length_map]
  by_contra hc
  rw [List.getElem?_eq_none (by omega)] at hj; cases hj

/-- **theta per key at time 0**: `theta_k(0) = 1` for every key (full data: the returned dict is `thetaOf`) -/
theorem theta_init (X : Nat → V) (Pk : List (Nat × Rat)) (hX : X 0 = V.ofList (icList Pk.length))
    (k : Nat) (hk : k ∈ Pk.map (·.1)) (dflt : Nat → Rat) :
    dGetD (thetaOf X (sortNat (Pk.map (·.1)))) k dflt 0 = 1 := by
  obtain ⟨j, hj, -, hg⟩ := theta_column X Pk k hk dflt
  rw [hg]
  show (X 0).f (1 + 2 * j) = 1
  rw [hX]
  exact (icList_spec Pk.length).2.2.1 j hj

/-- **initial row** for a solution with `X 0 = IC`: `R(0) = 0`, `S(0) = N (1 − ρ) Σ_{k ∈ keys} Pk[k]` (every
`theta_k(0) = 1`), `I(0) = N − S(0)`, `t(0)` -/
theorem outPrefMix_init (T : Nat → Rat) (N ρ : Rat) (Pk : List (Nat × Rat)) (full : Bool) (X : Nat → V)
    (hX : X 0 = V.ofList (icList Pk.length)) :
    get (outPrefMix T N ρ Pk full X) 3 0 = 0 ∧
    get (outPrefMix T N ρ Pk full X) 1 0 = N * ((1 - ρ) * sumRat ((Pk.map (·.1)).map (fun k => dGetD Pk k 0))) ∧
    get (outPrefMix T N ρ Pk full X) 2 0
      = N - N * ((1 - ρ) * sumRat ((Pk.map (·.1)).map (fun k => dGetD Pk k 0))) := by
  have hz : (V.ofList (icList Pk.length)).f 0 = 0 := rfl
  have hmap : (Pk.map (·.1)).map (fun k => dGetD Pk k 0 *
        (dGetD (thetaOf X (sortNat (Pk.map (·.1)))) k (fun _ => 0) 0) ^ k)
      = (Pk.map (·.1)).map (fun k => dGetD Pk k 0) := by
    apply List.map_congr_left
    intro k hk
    rw [theta_init X Pk hX k hk, one_pow, mul_one]
  cases full <;>
    simp only [outPrefMix, Bool.false_eq_true, if_false, if_true, get_succ, get_zero_s, hmap, hX, hz] <;>
    refine ⟨by ring, trivial, by ring⟩

/-- **spec, all inputs with `rho` given or `N ≠ 0`, every solver**: normal return; `S + I + R = N` at every index; with
`RowZero odeint` (necessary: the solver fixes row 0) `R(0) = 0`, `S(0) = N (1 − rho) Σ_k Pk[k]`, `I(0) = N − S(0)`;
with full data the fifth array is the dict `theta` -/
theorem EBCM_pref_mix_spec (odeint myodeint : Solver)
    (rhs : Rat → Rat → Rat → List (Nat × Rat) → List (Nat × List (Nat × Rat)) → V → V)
    (N : Rat) (Pk : List (Nat × Rat)) (Pnk : List (Nat × List (Nat × Rat))) (tau gamma : Rat) (rho : Option Rat)
    (tmin tmax : Rat) (tcount : Nat) (full : Bool) (h : rho.isSome ∨ N ≠ 0) :
    ∃ x0 l, GenGlue2.EBCM_pref_mix odeint myodeint rhs N Pk Pnk tau gamma rho tmin tmax tcount full = .ok (x0, l) ∧
      x0.n = 1 + 2 * Pk.length ∧ l.length = (if full then 5 else 4) ∧
      (∀ i, get l 1 i + get l 2 i + get l 3 i = N) ∧
      (RowZero odeint → get l 3 0 = 0 ∧
        get l 1 0 = N * ((1 - rhoOf N rho) * sumRat ((Pk.map (·.1)).map (fun k => dGetD Pk k 0))) ∧
        get l 2 0 = N - N * ((1 - rhoOf N rho) * sumRat ((Pk.map (·.1)).map (fun k => dGetD Pk k 0)))) := by
  refine ⟨_, _, EBCM_pref_mix_call odeint myodeint rhs N Pk Pnk tau gamma rho tmin tmax tcount full h,
    icList_length _, (outPrefMix_conserve _ _ _ _ _ _ 0).2.2.2, fun i => (outPrefMix_conserve ..).1, fun h0 => ?_⟩
  exact outPrefMix_init _ _ _ _ _ _ (h0 _ _)

/-- `Pk[k]` read through `dGetD` is the listed value when the keys are distinct (a Python dict): the sum in `S(0)` is
then the sum of all values of `Pk` -/
theorem sum_dGetD_nodup (Pk : List (Nat × Rat)) (h : (Pk.map (·.1)).Nodup) :
    (Pk.map (·.1)).map (fun k => dGetD Pk k 0) = Pk.map (·.2) := by
  rw [List.map_map]
  apply List.map_congr_left
  intro kv hkv
  simp only [Function.comp]
  unfold dGetD
  cases hf : Pk.find? (fun p => p.1 == kv.1) with
  | none =>
    rw [List.find?_eq_none] at hf
    exact absurd (by simp) (hf kv hkv)
  | some p =>
    have hp := List.mem_of_find?_eq_some hf
    have hpk : p.1 = kv.1 := by simpa using List.find?_some hf
    have : p = kv := by
      have hinj := List.inj_on_of_nodup_map h
      exact hinj hp hkv hpk
    rw [this]

/-! ## C. closed examples (kernel-checked).  `rowAt r i` = the exception, or (`X0`, the returned arrays read at time
index `i`); `constOdeint` returns `X0` in every row, `driftOdeint` adds `i` to every component in row `i` (both
`RowZero`), `shiftOdeint` adds 1 in every row (not `RowZero`) -/

/-- a solver that is NOT `RowZero`: every row is `X0 + 1` -/
def shiftOdeint : Solver := fun _ X0 _ => ⟨X0.n, fun k => X0.f k + 1⟩

theorem driftOdeint_zero : RowZero driftOdeint := fun _ X0 => by
  cases X0; simp [driftOdeint]

theorem shiftOdeint_not_zero : ¬ RowZero shiftOdeint := fun h => by
  have := congrArg (fun v : V => v.f 0) (h id (V.ofList [0]))
  revert this; decide +kernel

def exS : Mx := Mx.ofLists [[1, 2], [3, 4]]
def exI : Mx := Mx.ofLists [[0, 1], [1, 0]]
def exRhs : Rat → Rat → Rat → List (Nat × Rat) → List (Nat × List (Nat × Rat)) → V → V := fun _ _ _ _ _ st => st

/-- `SIS_effective_degree`, full data: `X0` = both tables row-major; `[t, S, I, Ssi, Isi]` at index 0 -/
example : rowAt (GenGlue2.SIS_effective_degree constOdeint constOdeint exS exI 1 1 0 10 11 true) 0
    = .inr ([1, 2, 3, 4, 0, 1, 1, 0], [[0], [10], [2], [1, 2, 3, 4], [0, 1, 1, 0]]) := by decide +kernel
/-- **`S + I` is not conserved by construction** (nothing is obtained by subtraction): with the `RowZero` solver
`driftOdeint`, `S + I = 12` at index 0 and `14 + 6 = 20` at index 1 -/
example : rowAt (GenGlue2.SIS_effective_degree driftOdeint constOdeint exS exI 1 1 0 10 11 false) 1
    = .inr ([1, 2, 3, 4, 0, 1, 1, 0], [[1], [14], [6]]) := by decide +kernel
/-- the same as a statement: there is a `RowZero` solver for which `S + I` changes between two time indices -/
theorem SIS_effective_degree_not_conserved :
    ∃ odeint : Solver, RowZero odeint ∧ ∃ x0 l,
      GenGlue2.SIS_effective_degree odeint odeint exS exI 1 1 0 10 11 false = .ok (x0, l) ∧
      get l 1 0 + get l 2 0 ≠ get l 1 1 + get l 2 1 :=
  ⟨driftOdeint, driftOdeint_zero, _, _, (SIS_effective_degree_eq ..).trans (if_pos rfl), by decide +kernel⟩
example : rowAt (GenGlue2.SIS_effective_degree constOdeint constOdeint exS (Mx.ofLists [[0, 1, 1]]) 1 1 0 10 11 true) 0
    = .inl "ValueError" := by decide +kernel
/-- **surprise**: an `Isi0` of shape `1 × 4` is accepted next to an `Ssi0` of shape `2 × 2` (only the number of entries
is compared) and is returned as a `2 × 2` table -/
example : rowAt (GenGlue2.SIS_effective_degree constOdeint constOdeint exS (Mx.ofLists [[0, 1, 1, 0]]) 1 1 0 10 11 true) 0
    = .inr ([1, 2, 3, 4, 0, 1, 1, 0], [[0], [10], [2], [1, 2, 3, 4], [0, 1, 1, 0]]) := by decide +kernel
/-- `SIR_effective_degree`, `N = 10 + 2 + 1 = 13`; drifting solver at index 2: `S = 18`, `R = 3`, `I = 13 − 3 − 18 = −8`:
`S + I + R = 13` whatever the solver does -/
example : rowAt (GenGlue2.SIR_effective_degree driftOdeint constOdeint exS 2 1 1 1 0 10 11 true) 2
    = .inr ([1, 2, 3, 4, 1], [[2], [18], [-8], [3], [3, 4, 5, 6]]) := by decide +kernel
/-- the empty table is accepted: `X0 = [R0]`, `S = 0`, `I = I0` -/
example : rowAt (GenGlue2.SIR_effective_degree constOdeint constOdeint Mx0 2 1 1 1 0 10 11 true) 0
    = .inr ([1], [[0], [0], [2], [1], []]) := by decide +kernel
/-- **`RowZero` is necessary for the initial-row theorems**: with `shiftOdeint` row 0 is `X0 + 1`, so `S(0) = 14 ≠ 10`,
`R(0) = 2 ≠ 1`, `I(0) = −3 ≠ 2` (and still `S + I + R = 13`) -/
example : rowAt (GenGlue2.SIR_effective_degree shiftOdeint constOdeint exS 2 1 1 1 0 10 11 false) 0
    = .inr ([1, 2, 3, 4, 1], [[0], [14], [-3], [2]]) := by decide +kernel
/-- `EBCM_pref_mix`, keys given unsorted: `IC = [0,1,0,1,0]`; `S, I, R = 90, 10, 0`; `theta = {1: 1, 2: 1}` -/
example : rowAt (GenGlue2.EBCM_pref_mix constOdeint constOdeint exRhs 100 [(2, 1/2), (1, 1/2)] [] 1 1 (some (1/10))
    0 10 11 true) 0 = .inr ([0, 1, 0, 1, 0], [[0], [90], [10], [0], [1, 1]]) := by decide +kernel
/-- drifting solver, index 1: `theta_k = 2`, `S' = 0.9·(2/2 + 4/2) = 2.7`, `R' = 1`: `S + I + R = 270 − 270 + 100 = 100` -/
example : rowAt (GenGlue2.EBCM_pref_mix driftOdeint constOdeint exRhs 100 [(2, 1/2), (1, 1/2)] [] 1 1 (some (1/10))
    0 10 11 false) 1 = .inr ([0, 1, 0, 1, 0], [[1], [270], [-270], [100]]) := by decide +kernel
/-- `rho = None`: `rho = 1/N = 1/100`, `S(0) = 99` -/
example : rowAt (GenGlue2.EBCM_pref_mix constOdeint constOdeint exRhs 100 [(2, 1/2), (1, 1/2)] [] 1 1 none
    0 10 11 false) 0 = .inr ([0, 1, 0, 1, 0], [[0], [99], [1], [0]]) := by decide +kernel
example : rowAt (GenGlue2.EBCM_pref_mix constOdeint constOdeint exRhs 0 [(2, 1/2), (1, 1/2)] [] 1 1 none
    0 10 11 false) 0 = .inl "ZeroDivisionError" := by decide +kernel
/-- a repeated key (impossible for a Python dict, possible for the association list): no `KeyError`/`IndexError`; `IC`
has `1 + 2·2` entries, `Pk[1]` is the first listed value both times, the dict `theta` has one key -/
example : rowAt (GenGlue2.EBCM_pref_mix constOdeint constOdeint exRhs 100 [(1, 1/2), (1, 1/4)] [] 1 1 (some (1/10))
    0 10 11 true) 0 = .inr ([0, 1, 0, 1, 0], [[0], [90], [10], [0], [1]]) := by decide +kernel
/-- empty `Pk`: `IC = [0]`, `S = 0`, `I = N` -/
example : rowAt (GenGlue2.EBCM_pref_mix constOdeint constOdeint exRhs 100 [] [] 1 1 (some (1/10))
    0 10 11 true) 0 = .inr ([0], [[0], [0], [100], [0], []]) := by decide +kernel
/-- the hypotheses of the spec theorems are satisfiable -/
example : ∃ x0 l, GenGlue2.EBCM_pref_mix constOdeint constOdeint exRhs 100 [(2, 1/2), (1, 1/2)] [] 1 1 none 0 10 11 true
    = .ok (x0, l) ∧ x0.n = 1 + 2 * 2 ∧ l.length = 5 ∧ (∀ i, get l 1 i + get l 2 i + get l 3 i = 100) :=
  let ⟨x0, l, h, a, b, c, _⟩ := EBCM_pref_mix_spec constOdeint constOdeint exRhs 100 [(2, 1/2), (1, 1/2)] [] 1 1 none
    0 10 11 true (Or.inr (by decide +kernel))
  ⟨x0, l, h, a, b, c⟩

end GenGlue3Props
