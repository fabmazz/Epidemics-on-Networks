import EoNVerif.Proofs.GenComplex
import EoNVerif.Props.C15
/-!
C15b — refinement: the Lean code GENERATED statement by statement from `Gillespie_complex_contagion`
(`/repo/EoN/simulation.py`, from `status = {node: IC[node] …}` to the `t += delay` that closes the `while` loop; the
conversion of the lists to arrays after it is not translated; generated file `EoNVerif/Gen/ComplexGen.lean`, namespace
`GenCC`, regenerated from the Python source on every verification run, calling the generated `_ListDict_` code
`Gen/ListDictGen.lean` / `Gen/ListDictTM.lean`) and the hand-written model `Complex.run` (`EoNVerif/Model/Complex.lean`) are BISIMILAR on every
tape state, so the C15 theorems proved about the model hold for the generated code.

* `GenCC.Agree A P ic tmin tmax cfuel` — the two programs are given the same arguments.
* `GenCC.Rel A σ s` (defined in `EoNVerif/Proofs/GenComplex.lean`) — same status map; `GenLD.R σ.nodes_by_rate s.ld`
  (the C16b relation between the two `_ListDict_` states); `σ.times = s.times.reverse.map some`; the dict `σ.data` has
  the keys `return_statuses` in order, and the column stored under the `i`-th return status is the `i`-th (reversed)
  column of the model (`GenCC.DRel`; all columns non-empty).  `node_history` (full data) is not related.
* Hypotheses: `Complex.WF P` (only `rate_nonneg` and `infl_mem` are used by the refinement itself, see
  `gen_run_bisim_weak`) and `P.ret.Nodup` (with a repeated entry in `return_statuses` the Python dict has one key where
  the model keeps two columns).
* Part 1: simulation in both directions, same final tape state (same draws consumed, same calls logged with the same
  arguments).  Part 2: the C15 facts transported to the generated code.
* `gen_run_refines` is model ⇒ generated, `gen_run_refines_back` is generated ⇒ model: the direction Part 2 uses.
Helper lemmas are in `EoNVerif/Proofs/GenComplex.lean`.
-/
namespace GenCC
variable {τ : Type} [DecidableEq τ]

/-! ## Part 1 — simulation -/

/-- **bisimulation of `run`** on every tape state: the generated function and the model both raise (and then neither
raises `KeyError`), or both return with the same tape state and related states.  Only the non-negativity of the rates, `infl ⊆ nodes` and
`return_statuses` duplicate-free are needed. -/
theorem gen_run_bisim_weak (A : PyTM.CArgs τ) (hnn : ∀ st u, 0 ≤ A.rate st u)
    (hmem : ∀ st u, ∀ x ∈ A.infl st u, x ∈ A.nodes) (hnd : A.ret.Nodup) (fuel : Nat) (ts : TapeSt) :
    ResRel A (run A fuel ts) (Complex.run (toP A) A.ic A.tmin A.tmax fuel A.cfuel ts) :=
  resRel_eq A ▸ run_bisim A ⟨hnn, hmem, hnd⟩ fuel ts

theorem gen_run_bisim (A : PyTM.CArgs τ) (P : CCParams τ) (ic : Node → τ) (tmin : Rat) (tmax : ERat) (cfuel : Nat)
    (hAg : Agree A P ic tmin tmax cfuel) (hwf : Complex.WF P) (hnd : P.ret.Nodup) (fuel : Nat) (ts : TapeSt) :
    ResRel A (run A fuel ts) (Complex.run P ic tmin tmax fuel cfuel ts) := by
  obtain rfl := hAg.toP_eq
  obtain rfl := hAg.ic
  obtain rfl := hAg.tmin
  obtain rfl := hAg.tmax
  obtain rfl := hAg.cfuel
  exact resRel_eq A ▸ run_bisim A (Hyp.of_wf hwf hnd) fuel ts

/-- **forward simulation**: every normally returning run of the model, on every tape state, is matched by the
generated code: it returns normally, with the SAME final tape state and a related state. -/
theorem gen_run_refines (A : PyTM.CArgs τ) (P : CCParams τ) (ic : Node → τ) (tmin : Rat) (tmax : ERat) (cfuel : Nat)
    (hAg : Agree A P ic tmin tmax cfuel) (hwf : Complex.WF P) (hnd : P.ret.Nodup) (fuel : Nat) (ts ts' : TapeSt)
    (s : CCState τ) (h : Complex.run P ic tmin tmax fuel cfuel ts = .ok (s, ts')) :
    ∃ σ, run A fuel ts = .ok (σ, ts') ∧ Rel A σ s :=
  (resRel_eq A ▸ gen_run_bisim A P ic tmin tmax cfuel hAg hwf hnd fuel ts).fwd h

/-- **backward simulation**: every normally returning run of the generated code is a run of the model, with the same
final tape state and a related state. -/
theorem gen_run_refines_back (A : PyTM.CArgs τ) (P : CCParams τ) (ic : Node → τ) (tmin : Rat) (tmax : ERat)
    (cfuel : Nat) (hAg : Agree A P ic tmin tmax cfuel) (hwf : Complex.WF P) (hnd : P.ret.Nodup) (fuel : Nat)
    (ts ts' : TapeSt) (σ : Loc τ) (h : run A fuel ts = .ok (σ, ts')) :
    ∃ s, Complex.run P ic tmin tmax fuel cfuel ts = .ok (s, ts') ∧ Rel A σ s :=
  (resRel_eq A ▸ gen_run_bisim A P ic tmin tmax cfuel hAg hwf hnd fuel ts).bwd h

theorem gen_run_fails_iff (A : PyTM.CArgs τ) (P : CCParams τ) (ic : Node → τ) (tmin : Rat) (tmax : ERat)
    (cfuel : Nat) (hAg : Agree A P ic tmin tmax cfuel) (hwf : Complex.WF P) (hnd : P.ret.Nodup) (fuel : Nat)
    (ts : TapeSt) :
    (∃ e, run A fuel ts = .error e) ↔ (∃ e, Complex.run P ic tmin tmax fuel cfuel ts = .error e) :=
  (resRel_eq A ▸ gen_run_bisim A P ic tmin tmax cfuel hAg hwf hnd fuel ts).fails_iff

/-- the loop alone, from any related pair of states satisfying the simulation's loop invariant (the model's clock
argument is the generated local `t`) -/
theorem gen_loop_bisim (A : PyTM.CArgs τ) (hwf : Complex.WF (toP A)) (hnd : A.ret.Nodup) (fuel : Nat) (σ : Loc τ)
    (s : CCState τ) (ts : TapeSt) (hR : Rel A σ s) (hI : Complex.Inv (toP A) s)
    (hh : A.full = true → ∀ u ∈ A.nodes, alHas σ.node_history u = true) :
    ResRel A (loop A fuel σ ts) (Complex.loop (toP A) A.tmax A.cfuel fuel s σ.t ts) :=
  resRel_eq A ▸ loop_bisim A (Hyp.of_wf hwf hnd) fuel σ s (LInv.of_inv hR hI hh) ts

/-- what `Rel` says about the reported data: the column of the `i`-th return status -/
theorem rel_column (A : PyTM.CArgs τ) (σ : Loc τ) (s : CCState τ) (h : Rel A σ s) (i : Nat) (hi : i < A.ret.length) :
    alGet σ.data [] (A.ret[i]) = (s.data.getD i []).reverse ∧ σ.data.map (·.1) = A.ret ∧
      s.data.length = A.ret.length :=
  ⟨h.data.cols i hi, h.data.keys, h.data.len⟩

/-! ## Part 2 — the C15 facts, for the generated code -/

/-- **invariant (C15 `run_inv`)**: in the state returned by the generated function, on every tape, the candidate
structure `nodes_by_rate` lists exactly the nodes of positive rate, without repetition, with weight = the user's rate
function on the final statuses; **clock (C15 `clock_eq`)**: `nodes_by_rate.total_weight()` — the argument the generated
loop hands to `random.expovariate` — is the sum of the user rates; **counts**: the last entry of every reported column
is the number of nodes in that status. -/
theorem gen_run_inv (A : PyTM.CArgs τ) (P : CCParams τ) (ic : Node → τ) (tmin : Rat) (tmax : ERat) (cfuel : Nat)
    (hAg : Agree A P ic tmin tmax cfuel) (hwf : Complex.WF P) (hnd : P.ret.Nodup) (fuel : Nat) (ts ts' : TapeSt)
    (σ : Loc τ) (h : run A fuel ts = .ok (σ, ts')) :
    (∀ x ∈ A.nodes, 0 < A.rate σ.status x →
      x ∈ σ.nodes_by_rate.items ∧ alGet σ.nodes_by_rate.weight 0 x = A.rate σ.status x) ∧
    (∀ x ∈ A.nodes, A.rate σ.status x = 0 → x ∉ σ.nodes_by_rate.items) ∧
    (∀ x ∈ σ.nodes_by_rate.items, x ∈ A.nodes ∧ 0 < A.rate σ.status x) ∧
    σ.nodes_by_rate.items.Nodup ∧
    GenLD.total_weight σ.nodes_by_rate =
      .ok (σ.nodes_by_rate, sumRat (A.nodes.map (A.rate σ.status))) ∧
    (∀ x ∈ A.ret, lastI (alGet σ.data [] x) = PyTM.countSt A.nodes σ.status x) := by
  obtain rfl := hAg.toP_eq
  obtain ⟨s, hs, hR⟩ := (run_bisim A (Hyp.of_wf hwf hnd) fuel ts).bwd h
  exact GInv.facts hwf ⟨s, hR, (Complex.run_safe (toP A) hwf A.ic A.tmin A.tmax fuel A.cfuel).ok hs⟩

/-- the same facts (`GInv.facts`) hold after the generated loop from any state that satisfies them in the sense of
`GInv` (i.e. at every iteration, not only at the end of `run`) -/
theorem gen_loop_inv (A : PyTM.CArgs τ) (hwf : Complex.WF (toP A)) (hnd : A.ret.Nodup) (fuel : Nat) (ts ts' : TapeSt)
    (σ σ' : Loc τ) (hG : GInv A σ) (hh : A.full = true → ∀ u ∈ A.nodes, alHas σ.node_history u = true)
    (h : loop A fuel σ ts = .ok (σ', ts')) : GInv A σ' := by
  obtain ⟨s, hR, hI⟩ := hG
  obtain ⟨s', hs', hR'⟩ := (loop_bisim A (Hyp.of_wf hwf hnd) fuel σ s (LInv.of_inv hR hI hh) ts).bwd h
  exact ⟨s', hR', (Complex.loop_safe (toP A) hwf A.tmax A.cfuel fuel s σ.t hI).ok hs'⟩

/-- **stop condition (C15 `stop_iff`)** on a generated state satisfying the invariant: the loop guard
`total_weight() > 0` holds iff some node has a positive rate -/
theorem gen_stop_iff (A : PyTM.CArgs τ) (hwf : Complex.WF (toP A)) (σ : Loc τ) (hG : GInv A σ) :
    (∃ w, GenLD.total_weight σ.nodes_by_rate = .ok (σ.nodes_by_rate, w) ∧ 0 < w) ↔
      ∃ x ∈ A.nodes, 0 < A.rate σ.status x := by
  obtain ⟨s, hR, hI⟩ := hG
  rw [GenLD.total_weight_sim _ _ hR.ld, hR.status]
  constructor
  · rintro ⟨w, hw, hp⟩
    obtain ⟨-, rfl⟩ := Prod.mk.inj (Except.ok.inj hw)
    exact (Complex.stop_iff (toP A) hwf s hI).1 hp
  · intro hx
    exact ⟨_, rfl, (Complex.stop_iff (toP A) hwf s hI).2 hx⟩

/-- **selection law (C15 `next_node_law`)** for the generated candidate structure: the rejection sampler run on
(the abstraction of) `σ.nodes_by_rate` returns `x` with probability rate(x)/Σ rates, times the probability `1-ρ^k`
of having stopped within `k` rounds -/
theorem gen_next_node_law (A : PyTM.CArgs τ) (hwf : Complex.WF (toP A)) (σ : Loc τ) (hG : GInv A σ) (x : Node)
    (hx : x ∈ A.nodes) (hpos : 0 < A.rate σ.status x) (k : Nat) :
    Dist.mass ((GenLD.toLD σ.nodes_by_rate).chooseDist k) (fun o => o == some x) =
      A.rate σ.status x / sumRat (A.nodes.map (A.rate σ.status)) *
        (1 - (GenLD.toLD σ.nodes_by_rate).rejProb ^ k) := by
  obtain ⟨s, hR, hI⟩ := hG
  rw [← GenLD.R_toLD hR.ld, hR.status] at *
  exact Complex.next_node_law (toP A) hwf s hI x hx hpos k

/-- a node of rate zero is never selected (C15 `zero_rate_never`) -/
theorem gen_zero_rate_never (A : PyTM.CArgs τ) (hwf : Complex.WF (toP A)) (σ : Loc τ) (hG : GInv A σ) (x : Node)
    (hx : x ∈ A.nodes) (h0 : A.rate σ.status x = 0) (k : Nat) :
    Dist.mass ((GenLD.toLD σ.nodes_by_rate).chooseDist k) (fun o => o == some x) = 0 := by
  obtain ⟨s, hR, hI⟩ := hG
  rw [← GenLD.R_toLD hR.ld, hR.status] at *
  exact Complex.zero_rate_never (toP A) hwf s hI x hx h0 k

/-- **no `KeyError`** (C15 `loop_no_keyerror_inv`, for the generated code and for the whole function): on every tape
state the generated function does not raise `KeyError` — neither from `nodes_by_rate` (`remove` of an unlisted node)
nor from the dict reads `data[status]`, `node_history[node]`.  Needs only non-negative rates, `infl ⊆ nodes` (for
`node_history[node]` with full data) and duplicate-free `return_statuses`. -/
theorem gen_run_no_keyerror (A : PyTM.CArgs τ) (hnn : ∀ st u, 0 ≤ A.rate st u)
    (hmem : ∀ st u, ∀ x ∈ A.infl st u, x ∈ A.nodes) (hnd : A.ret.Nodup) (fuel : Nat) (ts : TapeSt) :
    run A fuel ts ≠ .error "KeyError" :=
  (run_bisim A ⟨hnn, hmem, hnd⟩ fuel).no_keyerror ts

/-- the same for the loop from any state satisfying the transported invariant -/
theorem gen_loop_no_keyerror (A : PyTM.CArgs τ) (hwf : Complex.WF (toP A)) (hnd : A.ret.Nodup) (fuel : Nat)
    (σ : Loc τ) (ts : TapeSt) (hG : GInv A σ) (hh : A.full = true → ∀ u ∈ A.nodes, alHas σ.node_history u = true) :
    loop A fuel σ ts ≠ .error "KeyError" := by
  obtain ⟨s, hR, hI⟩ := hG
  exact (loop_bisim A (Hyp.of_wf hwf hnd) fuel σ s (LInv.of_inv hR hI hh)).no_keyerror ts

end GenCC

/-! ## non-vacuity: the SIR-like family on the path 0 – 1 – 2 (`P3`, `ic3` of `Props/C15.lean`) -/
namespace GenCC.Example
open Complex.Example

/-- the arguments of the generated function for the example of C15, full data on -/
def A3 : PyTM.CArgs St where
  nodes := [0, 1, 2]
  ic := ic3
  rate := P3.rate
  choose := P3.choose
  infl := P3.infl
  ret := [St.S, St.I, St.R]
  tmin := 0
  tmax := some 1
  full := true
  cfuel := 5

theorem A3_agree : Agree A3 P3 ic3 0 (some 1) 5 := ⟨rfl, rfl, rfl, rfl, rfl, rfl, rfl, rfl, rfl⟩

theorem P3_ret_nodup : P3.ret.Nodup := by decide

/-- a short explicit tape: first clock draw 1/2, `random.choice` index 1 (node 1), uniform 0 (accepted), second clock
draw 1 (the next event time 3/2 exceeds `tmax = 1`) -/
def tape3 : TapeSt := { tape := [.expo (1/2), .choice 1, .unif 0, .expo 1] }

/-- the GENERATED code on that tape: node 1 is infected at time 1/2, the reported columns move, node 1 is re-weighted
to γ = 1/2 and its neighbour 2 enters with rate τ = 1 -/
example : ((run A3 2 tape3).toOption.map fun (σ, _) => (σ.times, σ.data)) =
    some ([some 0, some (1/2)], [(St.S, [2, 1]), (St.I, [1, 2]), (St.R, [0, 0])]) := by decide +kernel

example : ((run A3 2 tape3).toOption.map fun (σ, _) => (σ.nodes_by_rate.items, σ.nodes_by_rate.weight)) =
    some ([1, 0, 2], [(1, 1/2), (0, 1/2), (2, 1)]) := by decide +kernel

/-- … the next event time is 3/2 > tmax, the tape is consumed, and the logged calls carry the clock rates 3/2 and 2 and
the candidate list `[0, 1]` -/
example : ((run A3 2 tape3).toOption.map fun (σ, ts) => (σ.t, ts.tape, ts.trace.toList)) =
    some (some (3/2), [], [Call.expo (3/2), Call.choice [[0], [1]], Call.unif, Call.expo 2]) := by decide +kernel

/-- the MODEL on the same tape: same results, reversed lists … -/
example : ((Complex.run P3 ic3 0 (some 1) 2 5 tape3).toOption.map fun (s, _) =>
      (s.times, s.data, s.ld.items, s.ld.weight)) =
    some ([1/2, 0], [[1, 2], [2, 1], [0, 0]], [1, 0, 2], [(1, 1/2), (0, 1/2), (2, 1)]) := by decide +kernel

/-- … and the same tape state -/
example : ((Complex.run P3 ic3 0 (some 1) 2 5 tape3).toOption.map fun (_, ts) => (ts.tape, ts.trace.toList)) =
    some ([], [Call.expo (3/2), Call.choice [[0], [1]], Call.unif, Call.expo 2]) := by decide +kernel

/-- a failing tape (the uniform draw is missing): both programs raise -/
example : (run A3 2 { tape := [.expo (1/2), .choice 1] }).toOption.isNone = true ∧
    (Complex.run P3 ic3 0 (some 1) 2 5 { tape := [.expo (1/2), .choice 1] }).toOption.isNone = true := by
  decide +kernel

/-- all hypotheses of the refinement theorems hold for the concrete arguments, so they apply: the two programs are
bisimilar on EVERY tape state and every amount of fuel -/
example (fuel : Nat) (ts : TapeSt) : ResRel A3 (run A3 fuel ts) (Complex.run P3 ic3 0 (some 1) fuel 5 ts) :=
  gen_run_bisim A3 P3 ic3 0 (some 1) 5 A3_agree P3_wf P3_ret_nodup fuel ts

/-- … and every state returned by the generated code satisfies the transported C15 invariant, e.g. the clock -/
example (fuel : Nat) (ts ts' : TapeSt) (σ : Loc St) (h : run A3 fuel ts = .ok (σ, ts')) :
    GenLD.total_weight σ.nodes_by_rate = .ok (σ.nodes_by_rate, sumRat (A3.nodes.map (A3.rate σ.status))) :=
  (gen_run_inv A3 P3 ic3 0 (some 1) 5 A3_agree P3_wf P3_ret_nodup fuel ts ts' σ h).2.2.2.2.1

/-- the run above is a successful one (the hypothesis of the previous example is satisfiable) -/
example : ∃ σ ts', run A3 2 tape3 = .ok (σ, ts') := by
  cases h : run A3 2 tape3 with
  | ok q => exact ⟨q.1, q.2, rfl⟩
  | error e =>
    have : (run A3 2 tape3).toOption.isSome = true := by decide +kernel
    rw [h] at this; simp [Except.toOption] at this

end GenCC.Example

#print axioms GenCC.gen_run_bisim_weak
#print axioms GenCC.gen_run_bisim
#print axioms GenCC.gen_run_refines
#print axioms GenCC.gen_run_refines_back
#print axioms GenCC.gen_run_fails_iff
#print axioms GenCC.gen_loop_bisim
#print axioms GenCC.rel_column
#print axioms GenCC.gen_run_inv
#print axioms GenCC.gen_loop_inv
#print axioms GenCC.gen_stop_iff
#print axioms GenCC.gen_next_node_law
#print axioms GenCC.gen_zero_rate_never
#print axioms GenCC.gen_run_no_keyerror
#print axioms GenCC.gen_loop_no_keyerror
