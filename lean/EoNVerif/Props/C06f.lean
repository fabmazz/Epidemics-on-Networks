import EoNVerif.Proofs.PairBased
import EoNVerif.Proofs.GenStep
import EoNVerif.Proofs.GenGlue2
import EoNVerif.Proofs.ExceptDict
/-!
C06f — ten of the sixteen ODE entry points GENERATED from `EoN/analytic.py` into `Gen/OdeGlue2.lean` (namespace
`GenGlue2`), translated whole with the ODE solver as a parameter: the individual-based and pair-based families,
`SIS_compact_effective_degree`, `EBCM_uniform_introduction` (the other six: `Props/C06i*.lean`; §9 has two loop-free cases
of `EBCM_pref_mix_discrete`; the file's seventeenth and eighteenth definitions are second copies of `SIS_compact_pairwise` and
`EBCM` of `Gen/OdeGlue.lean`, which the two thin wrappers call: §8).  The `f_eq` theorems are for ALL inputs and for EVERY pair of solvers `odeint myodeint :
Solver` (`(V → V) → V → Nat → V`: right-hand side, initial vector ↦ row `i` of the solution at time index `i`).  `odeint` stands for `scipy.integrate.odeint`, `myodeint`
for EoN's `_my_odeint_` (called by `SIS_pair_based` and `SIS_heterogeneous_pairwise` only).  Theorems named `…_init…` assume
`RowZero` (`solver rhs X0 0 = X0`) of the solver that the entry point actually calls: SciPy's documented contract for
`odeint`; for `myodeint` it holds because `_my_odeint_` starts its list of rows with `V0`.

For each entry point `f` (result: `Except String (X0 × returned arrays)`):
* `f_eq` / `f_call` — the result for all inputs: exactly when which exception is raised, in the order of the generated
                  code, and otherwise which generated right-hand side is solved from which `X0`, the returned arrays
                  being a closed form `out… (odeint rhs X0)` (closed forms in `Proofs/GenGlue2.lean`; `outEBCM2` in §8);
* `f_form`      — what a normal return consists of (the shape in which the theorems below use `f_eq`);
* `f_conserve…` — `S + I (+ R) = N` at every time index (compartments obtained by subtraction);
* `f_init…`     — the returned arrays at time index 0 are the requested initial state.
Accessors (`Proofs/GenGlue2.lean`): `get l j i` = value at time index `i` of the `j`-th returned array (a series);
`getM l j i k` = entry of class `k`; `getN l j` = its declared number of classes; `getX l j` = a 1-D array.
-/
set_option linter.unusedSimpArgs false
namespace GenGlue2Props
open Gen PyGlue PyGlue2 GenGlue2Proofs
open ODE (sumTo)
open GenGlueProofs (Solver RowZero)
open GenStep (bind_ok bind_err)
open GenGlue3Props (pairGuard pairY0 shapeOk_none shapeOk_some SIS_pair_based_eq SIS_pair_based_ok
  SIS_pair_based_guard_error SIS_pair_based_shape_error SIR_pair_based_ok SIR_pair_based_guard_error
  SIR_pair_based_shape_error)

/-! ## 1. `SIS_individual_based` (`Ss = 1 − Is`) -/

/-- the `X0 = Y0` handed to the solver by `SIS_individual_based` -/
def sisIndX0 (GN : Nat) (rho : Option Rat) (Y0 : Option V) (nodelist : Option (List Nat)) : V :=
  match Y0, rho with
  | some y, _ => y
  | none, some r => vrep r (nodesOf GN nodelist).length
  | none, none => PyGlue2.V0  -- a filler: never reached under `sisIndOk`

/-- the accepted argument combinations: `rho` without `Y0`, or `Y0` with `nodelist` and without `rho` -/
def sisIndOk (rho : Option Rat) (Y0 : Option V) (nodelist : Option (List Nat)) : Prop :=
  (rho.isSome ∧ Y0.isNone) ∨ (rho.isNone ∧ Y0.isSome ∧ nodelist.isSome)

instance (rho : Option Rat) (Y0 : Option V) (nodelist : Option (List Nat)) : Decidable (sisIndOk rho Y0 nodelist) :=
  inferInstanceAs (Decidable (_ ∨ _))

/-- **the result for all inputs**: every rejected combination raises `EoNError` (`Y0` without `nodelist`; neither `rho`
nor `Y0`; both), and nothing else is ever raised — in particular no length check of `Y0` against the node list; for an
accepted combination `Gen.dSIS_individual_based` (node count = length of the node list) is solved by `odeint` from
`sisIndX0` (`Y0`, or `rho·ones`) and the returned arrays are the closed form `outSISInd` of the solution -/
theorem SIS_individual_based_eq (odeint myodeint : Solver) (GN : Nat) (nbrs : Nat → List Nat) (tr : Nat → Nat → Rat)
    (rr : Nat → Rat) (rho : Option Rat) (Y0 : Option V) (nodelist : Option (List Nat)) (tmin tmax : Rat) (tcount : Nat)
    (full : Bool) :
    GenGlue2.SIS_individual_based odeint myodeint GN nbrs tr rr rho Y0 nodelist tmin tmax tcount full =
      if sisIndOk rho Y0 nodelist then
        runSISInd odeint (nodesOf GN nodelist).length nbrs tr rr (sisIndX0 GN rho Y0 nodelist)
          (linspace tmin tmax tcount) full
      else .error "EoNError" := by
  -- the join points of the `do` block are specified on resolved arguments, as in `Proofs/PairBased.lean`
  unfold GenGlue2.SIS_individual_based
  extract_lets Y0' nl' T jp1 nlr jp0
  have h1 : ∀ nl, jp1 () (some nl) = if rho.isSome ∧ Y0.isNone ∨ rho.isNone ∧ Y0.isSome then
      runSISInd odeint nl.length nbrs tr rr (sisIndX0 GN rho Y0 (some nl)) (linspace tmin tmax tcount) full
      else .error "EoNError" := by
    intro nl
    unfold jp1
    extract_lets jp2
    have h2 : ∀ y, jp2 () (some y) = runSISInd odeint nl.length nbrs tr rr y (linspace tmin tmax tcount) full := by
      intro y
      cases full <;> simp [jp2, T, runSISInd, outSISInd, vsum]
    clear_value jp2
    cases rho <;> cases Y0 <;> simp [Y0', h2, sisIndX0, nodesOf] <;> rfl
  clear_value jp1
  cases nodelist <;> cases Y0 <;> simp [nl', Y0', jp0, nlr, h1, sisIndOk, nodesOf, sisIndX0]

theorem SIS_individual_based_call (odeint myodeint : Solver) (GN : Nat) (nbrs : Nat → List Nat) (tr : Nat → Nat → Rat)
    (rr : Nat → Rat) (rho : Option Rat) (Y0 : Option V) (nodelist : Option (List Nat)) (tmin tmax : Rat) (tcount : Nat)
    (full : Bool) :
    GenGlue2.SIS_individual_based odeint myodeint GN nbrs tr rr rho Y0 nodelist tmin tmax tcount full =
      match nodelist, rho, Y0 with
      | none, _, some _ => .error "EoNError"
      | none, none, none => .error "EoNError"
      | none, some r, none => runSISInd odeint GN nbrs tr rr (vrep r GN) (linspace tmin tmax tcount) full
      | some _, none, none => .error "EoNError"
      | some _, some _, some _ => .error "EoNError"
      | some nl, none, some y => runSISInd odeint nl.length nbrs tr rr y (linspace tmin tmax tcount) full
      | some nl, some r, none =>
          runSISInd odeint nl.length nbrs tr rr (vrep r nl.length) (linspace tmin tmax tcount) full := by
  rw [SIS_individual_based_eq]
  cases nodelist <;> cases rho <;> cases Y0 <;> simp [sisIndOk, sisIndX0, nodesOf]

theorem SIS_individual_based_error (odeint myodeint : Solver) (GN : Nat) (nbrs : Nat → List Nat) (tr : Nat → Nat → Rat)
    (rr : Nat → Rat) (rho : Option Rat) (Y0 : Option V) (nodelist : Option (List Nat)) (tmin tmax : Rat) (tcount : Nat)
    (full : Bool) (h : ¬ sisIndOk rho Y0 nodelist) :
    GenGlue2.SIS_individual_based odeint myodeint GN nbrs tr rr rho Y0 nodelist tmin tmax tcount full
      = .error "EoNError" := by
  rw [SIS_individual_based_eq, if_neg h]

theorem SIS_individual_based_ok (odeint myodeint : Solver) (GN : Nat) (nbrs : Nat → List Nat) (tr : Nat → Nat → Rat)
    (rr : Nat → Rat) (rho : Option Rat) (Y0 : Option V) (nodelist : Option (List Nat)) (tmin tmax : Rat) (tcount : Nat)
    (full : Bool) (h : sisIndOk rho Y0 nodelist) :
    GenGlue2.SIS_individual_based odeint myodeint GN nbrs tr rr rho Y0 nodelist tmin tmax tcount full
      = runSISInd odeint (nodesOf GN nodelist).length nbrs tr rr (sisIndX0 GN rho Y0 nodelist)
          (linspace tmin tmax tcount) full := by
  rw [SIS_individual_based_eq, if_pos h]

theorem SIS_individual_based_ok_iff (odeint myodeint : Solver) (GN : Nat) (nbrs : Nat → List Nat) (tr : Nat → Nat → Rat)
    (rr : Nat → Rat) (rho : Option Rat) (Y0 : Option V) (nodelist : Option (List Nat)) (tmin tmax : Rat) (tcount : Nat)
    (full : Bool) :
    (∃ r, GenGlue2.SIS_individual_based odeint myodeint GN nbrs tr rr rho Y0 nodelist tmin tmax tcount full = .ok r)
      ↔ sisIndOk rho Y0 nodelist := by
  rw [SIS_individual_based_eq]
  by_cases h : sisIndOk rho Y0 nodelist
  · rw [if_pos h]; exact ⟨fun _ => h, fun _ => ⟨_, rfl⟩⟩
  · rw [if_neg h]; exact ⟨fun ⟨_, e⟩ => (nomatch e), fun h' => absurd h' h⟩

theorem SIS_individual_based_form {odeint myodeint : Solver} {GN : Nat} {nbrs : Nat → List Nat} {tr : Nat → Nat → Rat}
    {rr : Nat → Rat} {rho : Option Rat} {Y0 : Option V} {nodelist : Option (List Nat)} {tmin tmax : Rat} {tcount : Nat}
    {full : Bool} {x0 : V} {l : List Out}
    (h : GenGlue2.SIS_individual_based odeint myodeint GN nbrs tr rr rho Y0 nodelist tmin tmax tcount full = .ok (x0, l)) :
    sisIndOk rho Y0 nodelist ∧ x0 = sisIndX0 GN rho Y0 nodelist ∧
    l = outSISInd (linspace tmin tmax tcount) x0.n full
      (odeint (fun st => Gen.dSIS_individual_based st (nodesOf GN nodelist).length nbrs tr rr) x0) := by
  rw [SIS_individual_based_eq] at h
  split at h
  · rename_i hok
    cases h
    exact ⟨hok, rfl, rfl⟩
  · cases h

/-- the number of returned arrays is 3; the first one is the time grid `linspace(tmin, tmax, tcount)` -/
theorem SIS_individual_based_shape {odeint myodeint : Solver} {GN : Nat} {nbrs : Nat → List Nat} {tr : Nat → Nat → Rat}
    {rr : Nat → Rat} {rho : Option Rat} {Y0 : Option V} {nodelist : Option (List Nat)} {tmin tmax : Rat} {tcount : Nat}
    {full : Bool} {x0 : V} {l : List Out}
    (h : GenGlue2.SIS_individual_based odeint myodeint GN nbrs tr rr rho Y0 nodelist tmin tmax tcount full = .ok (x0, l)) :
    l.length = 3 ∧ (∀ i, get l 0 i = linspace tmin tmax tcount i) := by
  obtain ⟨-, -, rfl⟩ := SIS_individual_based_form h
  cases full <;> exact ⟨rfl, fun _ => rfl⟩

/-- **conservation**: `S + I =` number of entries of `Y0` at EVERY time index, for every solver -/
theorem SIS_individual_based_conserve {odeint myodeint : Solver} {GN : Nat} {nbrs : Nat → List Nat}
    {tr : Nat → Nat → Rat} {rr : Nat → Rat} {rho : Option Rat} {Y0 : Option V} {nodelist : Option (List Nat)}
    {tmin tmax : Rat} {tcount : Nat} {x0 : V} {l : List Out}
    (h : GenGlue2.SIS_individual_based odeint myodeint GN nbrs tr rr rho Y0 nodelist tmin tmax tcount false = .ok (x0, l))
    (i : Nat) : get l 1 i + get l 2 i = (x0.n : Rat) := by
  obtain ⟨-, -, rfl⟩ := SIS_individual_based_form h
  exact outSISInd_conserve _ _ _ i

/-- **conservation, full data**: `Ss` and `Is` have `N` rows, `S_k + I_k = 1` for every node `k` and
`Σ_k (S_k + I_k) = N` at every time index, for every solver; `Is` is the solver's row -/
theorem SIS_individual_based_conserve_full {odeint myodeint : Solver} {GN : Nat} {nbrs : Nat → List Nat}
    {tr : Nat → Nat → Rat} {rr : Nat → Rat} {rho : Option Rat} {Y0 : Option V} {nodelist : Option (List Nat)}
    {tmin tmax : Rat} {tcount : Nat} {x0 : V} {l : List Out}
    (h : GenGlue2.SIS_individual_based odeint myodeint GN nbrs tr rr rho Y0 nodelist tmin tmax tcount true = .ok (x0, l))
    (i : Nat) :
    getN l 1 = x0.n ∧ getN l 2 = x0.n ∧ (∀ k, k < x0.n → getM l 1 i k + getM l 2 i k = 1) ∧
    sumTo x0.n (getM l 1 i) + sumTo x0.n (getM l 2 i) = (x0.n : Rat) ∧
    (∀ k, getM l 2 i k =
      (odeint (fun st => Gen.dSIS_individual_based st (nodesOf GN nodelist).length nbrs tr rr) x0 i).f k) := by
  obtain ⟨-, -, rfl⟩ := SIS_individual_based_form h
  exact outSISInd_conserve_full _ _ _ i

/-- the population size in the `rho` form is the length of the node list (`G.order()` by default) -/
theorem SIS_individual_based_N_rho {odeint myodeint : Solver} {GN : Nat} {nbrs : Nat → List Nat}
    {tr : Nat → Nat → Rat} {rr : Nat → Rat} {r : Rat} {nodelist : Option (List Nat)}
    {tmin tmax : Rat} {tcount : Nat} {full : Bool} {x0 : V} {l : List Out}
    (h : GenGlue2.SIS_individual_based odeint myodeint GN nbrs tr rr (some r) none nodelist tmin tmax tcount full
      = .ok (x0, l)) : x0 = vrep r (nodesOf GN nodelist).length := by
  obtain ⟨-, rfl, -⟩ := SIS_individual_based_form h
  rfl

/-- **initial state, `rho` form**: `I(0) = rho·N`, `S(0) = (1 − rho)·N` with `N` the number of nodes -/
theorem SIS_individual_based_init_rho {odeint myodeint : Solver} (h0 : RowZero odeint) {GN : Nat}
    {nbrs : Nat → List Nat} {tr : Nat → Nat → Rat} {rr : Nat → Rat} {r : Rat} {nodelist : Option (List Nat)}
    {tmin tmax : Rat} {tcount : Nat} {x0 : V} {l : List Out}
    (h : GenGlue2.SIS_individual_based odeint myodeint GN nbrs tr rr (some r) none nodelist tmin tmax tcount false
      = .ok (x0, l)) :
    get l 2 0 = r * ((nodesOf GN nodelist).length : Rat) ∧
    get l 1 0 = (1 - r) * ((nodesOf GN nodelist).length : Rat) := by
  obtain ⟨-, rfl, rfl⟩ := SIS_individual_based_form h
  obtain ⟨h1, h2⟩ := outSISInd_init (linspace tmin tmax tcount) _ _ (h0 _ _)
  rw [h1, h2]
  simp only [sisIndX0, vrep_n]
  have : sumTo (nodesOf GN nodelist).length (vrep r (nodesOf GN nodelist).length).f
      = ((nodesOf GN nodelist).length : Rat) * r := sumTo_const _ r
  rw [this]
  constructor <;> ring

/-- **initial state, explicit `Y0`**: `I(0) = Σ Y0`, `S(0) = N − Σ Y0` (`N` = number of entries of `Y0`) -/
theorem SIS_individual_based_init_Y0 {odeint myodeint : Solver} (h0 : RowZero odeint) {GN : Nat}
    {nbrs : Nat → List Nat} {tr : Nat → Nat → Rat} {rr : Nat → Rat} {rho : Option Rat} {y : V}
    {nodelist : Option (List Nat)} {tmin tmax : Rat} {tcount : Nat} {x0 : V} {l : List Out}
    (h : GenGlue2.SIS_individual_based odeint myodeint GN nbrs tr rr rho (some y) nodelist tmin tmax tcount false
      = .ok (x0, l)) :
    x0 = y ∧ get l 2 0 = sumTo y.n y.f ∧ get l 1 0 = (y.n : Rat) - sumTo y.n y.f := by
  obtain ⟨-, rfl, rfl⟩ := SIS_individual_based_form h
  exact ⟨rfl, outSISInd_init (linspace tmin tmax tcount) _ _ (h0 _ _)⟩

/-- **initial state, full data**: node by node `I_k(0) = X0_k`, `S_k(0) = 1 − X0_k` (any accepted argument form) -/
theorem SIS_individual_based_init_full {odeint myodeint : Solver} (h0 : RowZero odeint) {GN : Nat}
    {nbrs : Nat → List Nat} {tr : Nat → Nat → Rat} {rr : Nat → Rat} {rho : Option Rat} {Y0 : Option V}
    {nodelist : Option (List Nat)} {tmin tmax : Rat} {tcount : Nat} {x0 : V} {l : List Out}
    (h : GenGlue2.SIS_individual_based odeint myodeint GN nbrs tr rr rho Y0 nodelist tmin tmax tcount true = .ok (x0, l))
    (k : Nat) (hk : k < x0.n) : getM l 2 0 k = x0.f k ∧ getM l 1 0 k = 1 - x0.f k := by
  obtain ⟨-, -, rfl⟩ := SIS_individual_based_form h
  exact outSISInd_init_full _ _ _ (h0 _ _) k hk

/-! ## 2. `SIR_individual_based` (`Rs = 1 − Ss − Is`) -/

/-- accepted argument combinations: `rho` alone, or `Y0` (optionally `X0`) with `nodelist` and without `rho` -/
def sirIndOk (rho : Option Rat) (Y0 X0 : Option V) (nodelist : Option (List Nat)) : Prop :=
  (rho.isSome ∧ Y0.isNone ∧ X0.isNone) ∨ (rho.isNone ∧ Y0.isSome ∧ nodelist.isSome)

/-- the `X0` (susceptible probabilities) used: the given one, by default `1 − Y0` -/
def sirIndX0 (GN : Nat) (rho : Option Rat) (Y0 X0 : Option V) (nodelist : Option (List Nat)) : V :=
  X0.getD (vcompl (sisIndX0 GN rho Y0 nodelist))

instance (rho : Option Rat) (Y0 X0 : Option V) (nodelist : Option (List Nat)) :
    Decidable (sirIndOk rho Y0 X0 nodelist) := inferInstanceAs (Decidable (_ ∨ _))

/-- **the result for all inputs**: every rejected argument combination is an `EoNError`; otherwise
`Gen.dSIR_individual_based` (node count = length of the node list) is solved by `odeint` from `concatenate((X0, Y0))`,
with `Y0 = rho·ones` / `X0 = 1 − Y0` by default; the only other exception is the broadcasting `ValueError` inside
`runSIRInd` -/
theorem SIR_individual_based_eq (odeint myodeint : Solver) (GN : Nat) (nbrs : Nat → List Nat) (tr : Nat → Nat → Rat)
    (rr : Nat → Rat) (rho : Option Rat) (Y0 X0 : Option V) (nodelist : Option (List Nat)) (tmin tmax : Rat) (tcount : Nat)
    (full : Bool) :
    GenGlue2.SIR_individual_based odeint myodeint GN nbrs tr rr rho Y0 X0 nodelist tmin tmax tcount full =
      if sirIndOk rho Y0 X0 nodelist then
        runSIRInd odeint (nodesOf GN nodelist).length nbrs tr rr (sirIndX0 GN rho Y0 X0 nodelist)
          (sisIndX0 GN rho Y0 nodelist) (linspace tmin tmax tcount) full
      else .error "EoNError" := by
  unfold GenGlue2.SIR_individual_based
  extract_lets Y01 X01 nl1 T jNl nlr j2 j1 j0
  -- the continuation after the default node list, for any node list
  have hNl : ∀ nl, jNl () (some nl) = match rho, Y0 with
      | some _, some _ => .error "EoNError"
      | some r, none => runSIRInd odeint nl.length nbrs tr rr (X0.getD (vcompl (vrep r nl.length))) (vrep r nl.length)
          (linspace tmin tmax tcount) full
      | none, some y => runSIRInd odeint nl.length nbrs tr rr (X0.getD (vcompl y)) y (linspace tmin tmax tcount) full
      | none, none => .error "TypeError" := by
    intro nl
    unfold jNl
    extract_lets jY
    -- the continuation after the default `X0 = 1 − Y0`, for any `X0`, `Y0`
    have hY : ∀ y, jY () (some y)
        = runSIRInd odeint nl.length nbrs tr rr (X0.getD (vcompl y)) y (linspace tmin tmax tcount) full := by
      intro y
      unfold jY
      extract_lets jX
      have hX : ∀ x, jX () (some x) = runSIRInd odeint nl.length nbrs tr rr x y (linspace tmin tmax tcount) full := by
        intro x
        unfold jX
        refine (bind_ok rfl _).trans ((bind_ok rfl _).trans ((bind_ok rfl _).trans ((bind_ok rfl _).trans
          ((bind_ok rfl _).trans ?_))))
        -- `Rs = ones(N) − Ss − Is`: the first subtraction always broadcasts, the second iff `bdim len(X0) len(Y0)`
        refine (bind_ok (x := x.n) ((congrArg (bdim x.n) (sliceLen_left x.n y.n)).trans (bdim_self _)) _).trans ?_
        have h1 : sliceLen (x.n + y.n) x.n (x.n + y.n) = y.n := sliceLen_right _ _
        unfold runSIRInd
        cases hb : bdim x.n y.n with
        | error e => exact bind_err ((congrArg (bdim x.n) h1).trans hb) _
        | ok m =>
          refine (bind_ok ((congrArg (bdim x.n) h1).trans hb) _).trans ?_
          cases full <;> simp only [vsum, vslice, V.append_n, sliceLen_left, sliceLen_right, sliceLo_zero, sliceLo_left,
            Nat.zero_add, outSIRInd, T] <;> rfl
      clear_value jX
      cases X0 with
      | none => exact (bind_ok rfl _).trans (hX _)
      | some x => exact hX x
    cases rho <;> cases Y0
    · cases X0 <;> rfl
    · simp [Y01, hY]
    · simp [Y01, hY]
      rfl
    · simp [Y01]
  clear_value jNl
  cases rho <;> cases Y0 <;> cases X0 <;> cases nodelist <;>
    simp [Y01, X01, nl1, nlr, j0, j1, j2, hNl, sirIndOk, sirIndX0, sisIndX0, nodesOf]

theorem SIR_individual_based_call (odeint myodeint : Solver) (GN : Nat) (nbrs : Nat → List Nat) (tr : Nat → Nat → Rat)
    (rr : Nat → Rat) (rho : Option Rat) (Y0 X0 : Option V) (nodelist : Option (List Nat)) (tmin tmax : Rat) (tcount : Nat)
    (full : Bool) :
    GenGlue2.SIR_individual_based odeint myodeint GN nbrs tr rr rho Y0 X0 nodelist tmin tmax tcount full =
      match nodelist, rho, Y0, X0 with
      | none, some r, none, none =>
          runSIRInd odeint GN nbrs tr rr (vcompl (vrep r GN)) (vrep r GN) (linspace tmin tmax tcount) full
      | some nl, some r, none, none =>
          runSIRInd odeint nl.length nbrs tr rr (vcompl (vrep r nl.length)) (vrep r nl.length)
            (linspace tmin tmax tcount) full
      | some nl, none, some y, none => runSIRInd odeint nl.length nbrs tr rr (vcompl y) y (linspace tmin tmax tcount) full
      | some nl, none, some y, some x => runSIRInd odeint nl.length nbrs tr rr x y (linspace tmin tmax tcount) full
      | _, _, _, _ => .error "EoNError" := by
  rw [SIR_individual_based_eq]
  cases nodelist <;> cases rho <;> cases Y0 <;> cases X0 <;> simp [sirIndOk, sirIndX0, sisIndX0, nodesOf]

theorem SIR_individual_based_error (odeint myodeint : Solver) (GN : Nat) (nbrs : Nat → List Nat) (tr : Nat → Nat → Rat)
    (rr : Nat → Rat) (rho : Option Rat) (Y0 X0 : Option V) (nodelist : Option (List Nat)) (tmin tmax : Rat) (tcount : Nat)
    (full : Bool) (h : ¬ sirIndOk rho Y0 X0 nodelist) :
    GenGlue2.SIR_individual_based odeint myodeint GN nbrs tr rr rho Y0 X0 nodelist tmin tmax tcount full
      = .error "EoNError" := by
  rw [SIR_individual_based_eq, if_neg h]

theorem SIR_individual_based_ok (odeint myodeint : Solver) (GN : Nat) (nbrs : Nat → List Nat) (tr : Nat → Nat → Rat)
    (rr : Nat → Rat) (rho : Option Rat) (Y0 X0 : Option V) (nodelist : Option (List Nat)) (tmin tmax : Rat) (tcount : Nat)
    (full : Bool) (h : sirIndOk rho Y0 X0 nodelist) :
    GenGlue2.SIR_individual_based odeint myodeint GN nbrs tr rr rho Y0 X0 nodelist tmin tmax tcount full
      = runSIRInd odeint (nodesOf GN nodelist).length nbrs tr rr (sirIndX0 GN rho Y0 X0 nodelist)
          (sisIndX0 GN rho Y0 nodelist) (linspace tmin tmax tcount) full := by
  rw [SIR_individual_based_eq, if_pos h]

/-- **exact success condition**: an accepted combination and broadcastable lengths of `X0`, `Y0` -/
theorem SIR_individual_based_ok_iff (odeint myodeint : Solver) (GN : Nat) (nbrs : Nat → List Nat) (tr : Nat → Nat → Rat)
    (rr : Nat → Rat) (rho : Option Rat) (Y0 X0 : Option V) (nodelist : Option (List Nat)) (tmin tmax : Rat) (tcount : Nat)
    (full : Bool) :
    (∃ r, GenGlue2.SIR_individual_based odeint myodeint GN nbrs tr rr rho Y0 X0 nodelist tmin tmax tcount full = .ok r)
      ↔ sirIndOk rho Y0 X0 nodelist ∧
        ((sirIndX0 GN rho Y0 X0 nodelist).n = (sisIndX0 GN rho Y0 nodelist).n ∨
          (sirIndX0 GN rho Y0 X0 nodelist).n = 1 ∨ (sisIndX0 GN rho Y0 nodelist).n = 1) := by
  rw [SIR_individual_based_eq, ← bdim_ok_iff]
  by_cases h : sirIndOk rho Y0 X0 nodelist
  · rw [if_pos h]
    unfold runSIRInd
    cases bdim (sirIndX0 GN rho Y0 X0 nodelist).n (sisIndX0 GN rho Y0 nodelist).n <;> simp [h]
  · rw [if_neg h]; exact ⟨fun ⟨_, e⟩ => (nomatch e), fun h' => absurd h'.1 h⟩

/-- **`ValueError`**: explicit `X0`, `Y0` of different lengths, none of length 1 (NumPy broadcasting of
`ones(N) − Ss − Is`), raised after the solver has run -/
theorem SIR_individual_based_valueError (odeint myodeint : Solver) (GN : Nat) (nbrs : Nat → List Nat)
    (tr : Nat → Nat → Rat) (rr : Nat → Rat) (x y : V) (nl : List Nat) (tmin tmax : Rat) (tcount : Nat) (full : Bool)
    (h1 : x.n ≠ y.n) (h2 : x.n ≠ 1) (h3 : y.n ≠ 1) :
    GenGlue2.SIR_individual_based odeint myodeint GN nbrs tr rr none (some y) (some x) (some nl) tmin tmax tcount full
      = .error "ValueError" := by
  rw [SIR_individual_based_eq, if_pos (.inr ⟨rfl, rfl, rfl⟩)]
  simp only [runSIRInd, sirIndX0, sisIndX0, Option.getD_some, bdim_error _ _ h1 h2 h3]

theorem SIR_individual_based_form {odeint myodeint : Solver} {GN : Nat} {nbrs : Nat → List Nat} {tr : Nat → Nat → Rat}
    {rr : Nat → Rat} {rho : Option Rat} {Y0 X0 : Option V} {nodelist : Option (List Nat)} {tmin tmax : Rat}
    {tcount : Nat} {full : Bool} {x0 : V} {l : List Out}
    (h : GenGlue2.SIR_individual_based odeint myodeint GN nbrs tr rr rho Y0 X0 nodelist tmin tmax tcount full
      = .ok (x0, l)) :
    sirIndOk rho Y0 X0 nodelist ∧ x0 = V.append (sirIndX0 GN rho Y0 X0 nodelist) (sisIndX0 GN rho Y0 nodelist) ∧
    ∃ m, bdim (sirIndX0 GN rho Y0 X0 nodelist).n (sisIndX0 GN rho Y0 nodelist).n = .ok m ∧
    l = outSIRInd (linspace tmin tmax tcount) (sirIndX0 GN rho Y0 X0 nodelist).n (sisIndX0 GN rho Y0 nodelist).n m full
      (odeint (fun st => Gen.dSIR_individual_based st (nodesOf GN nodelist).length nbrs tr rr) x0) := by
  rw [SIR_individual_based_eq] at h
  split at h
  · rename_i hok
    unfold runSIRInd at h
    split at h
    · cases h
    · rename_i m hm
      cases h
      exact ⟨hok, rfl, m, hm, rfl⟩
  · cases h

theorem SIR_individual_based_form_eq {odeint myodeint : Solver} {GN : Nat} {nbrs : Nat → List Nat}
    {tr : Nat → Nat → Rat} {rr : Nat → Rat} {rho : Option Rat} {Y0 X0 : Option V} {nodelist : Option (List Nat)}
    {tmin tmax : Rat} {tcount : Nat} {full : Bool} {x0 : V} {l : List Out}
    (h : GenGlue2.SIR_individual_based odeint myodeint GN nbrs tr rr rho Y0 X0 nodelist tmin tmax tcount full
      = .ok (x0, l))
    (hn : (sirIndX0 GN rho Y0 X0 nodelist).n = (sisIndX0 GN rho Y0 nodelist).n) :
    x0 = V.append (sirIndX0 GN rho Y0 X0 nodelist) (sisIndX0 GN rho Y0 nodelist) ∧
    l = outSIRInd (linspace tmin tmax tcount) (sirIndX0 GN rho Y0 X0 nodelist).n (sirIndX0 GN rho Y0 X0 nodelist).n
      (sirIndX0 GN rho Y0 X0 nodelist).n full
      (odeint (fun st => Gen.dSIR_individual_based st (nodesOf GN nodelist).length nbrs tr rr) x0) := by
  obtain ⟨-, h1, m, hm, h2⟩ := SIR_individual_based_form h
  rw [← hn, bdim_self] at hm
  obtain rfl : (sirIndX0 GN rho Y0 X0 nodelist).n = m := by injection hm
  rw [← hn] at h2
  exact ⟨h1, h2⟩

/-- the default `X0 = 1 − Y0` has the length of `Y0` -/
theorem sirIndX0_n_none (GN : Nat) (rho : Option Rat) (Y0 : Option V) (nodelist : Option (List Nat)) :
    (sirIndX0 GN rho Y0 none nodelist).n = (sisIndX0 GN rho Y0 nodelist).n := rfl

/-- **conservation**: `S + I + R = N` (`N` = common length of `X0`, `Y0`) at EVERY time index, for every solver.  The
hypothesis `hn` is needed only for explicit `X0`: with lengths `(N, 1)` NumPy broadcasts `Is` in `Rs` (see the closed
example at the end of the section) -/
theorem SIR_individual_based_conserve {odeint myodeint : Solver} {GN : Nat} {nbrs : Nat → List Nat}
    {tr : Nat → Nat → Rat} {rr : Nat → Rat} {rho : Option Rat} {Y0 X0 : Option V} {nodelist : Option (List Nat)}
    {tmin tmax : Rat} {tcount : Nat} {full : Bool} {x0 : V} {l : List Out}
    (h : GenGlue2.SIR_individual_based odeint myodeint GN nbrs tr rr rho Y0 X0 nodelist tmin tmax tcount full
      = .ok (x0, l))
    (hn : (sirIndX0 GN rho Y0 X0 nodelist).n = (sisIndX0 GN rho Y0 nodelist).n) (i : Nat) :
    get l 1 i + get l 2 i + get l 3 i = ((sirIndX0 GN rho Y0 X0 nodelist).n : Rat) := by
  obtain ⟨-, rfl⟩ := SIR_individual_based_form_eq h hn
  exact outSIRInd_conserve _ _ _ _ i

/-- conservation without explicit `X0` (no hypothesis): `N` = length of `Y0` -/
theorem SIR_individual_based_conserve_default {odeint myodeint : Solver} {GN : Nat} {nbrs : Nat → List Nat}
    {tr : Nat → Nat → Rat} {rr : Nat → Rat} {rho : Option Rat} {Y0 : Option V} {nodelist : Option (List Nat)}
    {tmin tmax : Rat} {tcount : Nat} {full : Bool} {x0 : V} {l : List Out}
    (h : GenGlue2.SIR_individual_based odeint myodeint GN nbrs tr rr rho Y0 none nodelist tmin tmax tcount full
      = .ok (x0, l)) (i : Nat) :
    get l 1 i + get l 2 i + get l 3 i = ((sisIndX0 GN rho Y0 nodelist).n : Rat) :=
  SIR_individual_based_conserve h rfl i

/-- **conservation, full data**: per node `S_k + I_k + R_k = 1`; the three arrays have `N` rows and `S, I, R` are their
sums, at every time index -/
theorem SIR_individual_based_conserve_full {odeint myodeint : Solver} {GN : Nat} {nbrs : Nat → List Nat}
    {tr : Nat → Nat → Rat} {rr : Nat → Rat} {rho : Option Rat} {Y0 X0 : Option V} {nodelist : Option (List Nat)}
    {tmin tmax : Rat} {tcount : Nat} {x0 : V} {l : List Out}
    (h : GenGlue2.SIR_individual_based odeint myodeint GN nbrs tr rr rho Y0 X0 nodelist tmin tmax tcount true
      = .ok (x0, l))
    (hn : (sirIndX0 GN rho Y0 X0 nodelist).n = (sisIndX0 GN rho Y0 nodelist).n) (i : Nat) :
    let N := (sirIndX0 GN rho Y0 X0 nodelist).n
    getN l 4 = N ∧ getN l 5 = N ∧ getN l 6 = N ∧
    (∀ k, k < N → getM l 4 i k + getM l 5 i k + getM l 6 i k = 1) ∧
    get l 1 i = sumTo N (getM l 4 i) ∧ get l 2 i = sumTo N (getM l 5 i) ∧ get l 3 i = sumTo N (getM l 6 i) := by
  obtain ⟨-, rfl⟩ := SIR_individual_based_form_eq h hn
  exact outSIRInd_conserve_full _ _ _ i

/-- **initial state**: `S(0) = Σ X0`, `I(0) = Σ Y0`, `R(0) = N − Σ X0 − Σ Y0` -/
theorem SIR_individual_based_init {odeint myodeint : Solver} (h0 : RowZero odeint) {GN : Nat} {nbrs : Nat → List Nat}
    {tr : Nat → Nat → Rat} {rr : Nat → Rat} {rho : Option Rat} {Y0 X0 : Option V} {nodelist : Option (List Nat)}
    {tmin tmax : Rat} {tcount : Nat} {full : Bool} {x0 : V} {l : List Out}
    (h : GenGlue2.SIR_individual_based odeint myodeint GN nbrs tr rr rho Y0 X0 nodelist tmin tmax tcount full
      = .ok (x0, l))
    (hn : (sirIndX0 GN rho Y0 X0 nodelist).n = (sisIndX0 GN rho Y0 nodelist).n) :
    let N := (sirIndX0 GN rho Y0 X0 nodelist).n
    get l 1 0 = sumTo N (sirIndX0 GN rho Y0 X0 nodelist).f ∧ get l 2 0 = sumTo N (sisIndX0 GN rho Y0 nodelist).f ∧
    get l 3 0 = (N : Rat) - sumTo N (sirIndX0 GN rho Y0 X0 nodelist).f - sumTo N (sisIndX0 GN rho Y0 nodelist).f := by
  obtain ⟨rfl, rfl⟩ := SIR_individual_based_form_eq h hn
  exact outSIRInd_init _ _ _ hn.symm full _ (h0 _ _)

/-- **initial state, `rho` form**: `S(0) = (1 − rho)·N`, `I(0) = rho·N`, `R(0) = 0`, `N` = number of nodes -/
theorem SIR_individual_based_init_rho {odeint myodeint : Solver} (h0 : RowZero odeint) {GN : Nat}
    {nbrs : Nat → List Nat} {tr : Nat → Nat → Rat} {rr : Nat → Rat} {r : Rat} {nodelist : Option (List Nat)}
    {tmin tmax : Rat} {tcount : Nat} {full : Bool} {x0 : V} {l : List Out}
    (h : GenGlue2.SIR_individual_based odeint myodeint GN nbrs tr rr (some r) none none nodelist tmin tmax tcount full
      = .ok (x0, l)) :
    get l 1 0 = (1 - r) * ((nodesOf GN nodelist).length : Rat) ∧
    get l 2 0 = r * ((nodesOf GN nodelist).length : Rat) ∧ get l 3 0 = 0 := by
  obtain ⟨h1, h2, h3⟩ := SIR_individual_based_init h0 h rfl
  have e1 : sumTo (nodesOf GN nodelist).length (vcompl (vrep r (nodesOf GN nodelist).length)).f
      = ((nodesOf GN nodelist).length : Rat) * (1 - r) := sumTo_const _ (1 - r)
  have e2 : sumTo (nodesOf GN nodelist).length (vrep r (nodesOf GN nodelist).length).f
      = ((nodesOf GN nodelist).length : Rat) * r := sumTo_const _ r
  simp only [sirIndX0, sisIndX0, Option.getD_none, vcompl_n, vrep_n] at h1 h2 h3
  rw [e1] at h1 h3
  rw [e2] at h2 h3
  refine ⟨by rw [h1]; ring, by rw [h2]; ring, by rw [h3]; ring⟩

/-- **initial state, full data**: per node `S_k(0) = X0_k`, `I_k(0) = Y0_k`, `R_k(0) = 1 − X0_k − Y0_k` -/
theorem SIR_individual_based_init_full {odeint myodeint : Solver} (h0 : RowZero odeint) {GN : Nat}
    {nbrs : Nat → List Nat} {tr : Nat → Nat → Rat} {rr : Nat → Rat} {rho : Option Rat} {Y0 X0 : Option V}
    {nodelist : Option (List Nat)} {tmin tmax : Rat} {tcount : Nat} {x0 : V} {l : List Out}
    (h : GenGlue2.SIR_individual_based odeint myodeint GN nbrs tr rr rho Y0 X0 nodelist tmin tmax tcount true
      = .ok (x0, l))
    (hn : (sirIndX0 GN rho Y0 X0 nodelist).n = (sisIndX0 GN rho Y0 nodelist).n) (k : Nat)
    (hk : k < (sirIndX0 GN rho Y0 X0 nodelist).n) :
    getM l 4 0 k = (sirIndX0 GN rho Y0 X0 nodelist).f k ∧ getM l 5 0 k = (sisIndX0 GN rho Y0 nodelist).f k ∧
    getM l 6 0 k = 1 - (sirIndX0 GN rho Y0 X0 nodelist).f k - (sisIndX0 GN rho Y0 nodelist).f k := by
  obtain ⟨rfl, rfl⟩ := SIR_individual_based_form_eq h hn
  exact outSIRInd_init_full _ _ _ _ (h0 _ _) k hk

/-! ## 3. `SIS_individual_based_pure_IC`, `SIR_individual_based_pure_IC` (initial sets of nodes) -/

/-- membership test as the generated code performs it (`u in initial_infecteds`) -/
def memB (s : List Nat) : Nat → Bool := fun u => s.contains u

def countIn (nl : List Nat) (p : Nat → Bool) : Nat := (nl.filter p).length

theorem countIn_memB (nl s : List Nat) (h1 : nl.Nodup) (h2 : s.Nodup) (h3 : ∀ u ∈ s, u ∈ nl) :
    countIn nl (memB s) = s.length := by
  apply List.Perm.length_eq
  rw [List.perm_ext_iff_of_nodup (h1.filter _) h2]
  intro a
  simp [memB]
  exact fun h => h3 a h

/-- **call**: never raises; `Y0` is the indicator of `initial_infecteds` along the node list and the run is that of
`SIS_individual_based` -/
theorem SIS_individual_based_pure_IC_call (odeint myodeint : Solver) (GN : Nat) (nbrs : Nat → List Nat)
    (tr : Nat → Nat → Rat) (rr : Nat → Rat) (inf : List Nat) (nodelist : Option (List Nat)) (tmin tmax : Rat)
    (tcount : Nat) (full : Bool) :
    GenGlue2.SIS_individual_based_pure_IC odeint myodeint GN nbrs tr rr inf nodelist tmin tmax tcount full =
      runSISInd odeint (nodesOf GN nodelist).length nbrs tr rr (indV (nodesOf GN nodelist) (memB inf) 1 0)
        (linspace tmin tmax tcount) full := by
  -- `Y0 = np.array([1 if u in initial_infecteds else 0 for u in nodelist])`, then the call with `Y0` and the node list
  cases nodelist <;>
    refine (bind_ok rfl _).trans ((SIS_individual_based_eq ..).trans (if_pos ?_)) <;>
    exact .inr ⟨rfl, rfl, rfl⟩

theorem SIS_individual_based_pure_IC_no_error (odeint myodeint : Solver) (GN : Nat) (nbrs : Nat → List Nat)
    (tr : Nat → Nat → Rat) (rr : Nat → Rat) (inf : List Nat) (nodelist : Option (List Nat)) (tmin tmax : Rat)
    (tcount : Nat) (full : Bool) :
    ∃ r, GenGlue2.SIS_individual_based_pure_IC odeint myodeint GN nbrs tr rr inf nodelist tmin tmax tcount full = .ok r :=
  ⟨_, SIS_individual_based_pure_IC_call ..⟩

theorem SIS_individual_based_pure_IC_form {odeint myodeint : Solver} {GN : Nat} {nbrs : Nat → List Nat}
    {tr : Nat → Nat → Rat} {rr : Nat → Rat} {inf : List Nat} {nodelist : Option (List Nat)} {tmin tmax : Rat}
    {tcount : Nat} {full : Bool} {x0 : V} {l : List Out}
    (h : GenGlue2.SIS_individual_based_pure_IC odeint myodeint GN nbrs tr rr inf nodelist tmin tmax tcount full
      = .ok (x0, l)) :
    x0 = indV (nodesOf GN nodelist) (memB inf) 1 0 ∧
    l = outSISInd (linspace tmin tmax tcount) (nodesOf GN nodelist).length full
      (odeint (fun st => Gen.dSIS_individual_based st (nodesOf GN nodelist).length nbrs tr rr) x0) := by
  rw [SIS_individual_based_pure_IC_call] at h
  cases h
  exact ⟨rfl, by rw [indV_n]⟩

/-- **conservation**: `S + I = N` (number of nodes) at every time index, for every solver -/
theorem SIS_individual_based_pure_IC_conserve {odeint myodeint : Solver} {GN : Nat} {nbrs : Nat → List Nat}
    {tr : Nat → Nat → Rat} {rr : Nat → Rat} {inf : List Nat} {nodelist : Option (List Nat)} {tmin tmax : Rat}
    {tcount : Nat} {x0 : V} {l : List Out}
    (h : GenGlue2.SIS_individual_based_pure_IC odeint myodeint GN nbrs tr rr inf nodelist tmin tmax tcount false
      = .ok (x0, l)) (i : Nat) :
    get l 1 i + get l 2 i = ((nodesOf GN nodelist).length : Rat) := by
  obtain ⟨-, rfl⟩ := SIS_individual_based_pure_IC_form h
  exact outSISInd_conserve _ _ _ i

/-- conservation, full data: per node `S_k + I_k = 1`, and the sum over the nodes is `N` -/
theorem SIS_individual_based_pure_IC_conserve_full {odeint myodeint : Solver} {GN : Nat} {nbrs : Nat → List Nat}
    {tr : Nat → Nat → Rat} {rr : Nat → Rat} {inf : List Nat} {nodelist : Option (List Nat)} {tmin tmax : Rat}
    {tcount : Nat} {x0 : V} {l : List Out}
    (h : GenGlue2.SIS_individual_based_pure_IC odeint myodeint GN nbrs tr rr inf nodelist tmin tmax tcount true
      = .ok (x0, l)) (i : Nat) :
    let N := (nodesOf GN nodelist).length
    getN l 1 = N ∧ getN l 2 = N ∧ (∀ k, k < N → getM l 1 i k + getM l 2 i k = 1) ∧
    sumTo N (getM l 1 i) + sumTo N (getM l 2 i) = (N : Rat) := by
  obtain ⟨-, rfl⟩ := SIS_individual_based_pure_IC_form h
  obtain ⟨a, b, c, d, -⟩ := outSISInd_conserve_full (linspace tmin tmax tcount) (nodesOf GN nodelist).length
    (odeint (fun st => Gen.dSIS_individual_based st (nodesOf GN nodelist).length nbrs tr rr) x0) i
  exact ⟨a, b, c, d⟩

/-- **initial state**: `I(0)` = number of nodes of the node list in `initial_infecteds`, `S(0) = N − I(0)` -/
theorem SIS_individual_based_pure_IC_init {odeint myodeint : Solver} (h0 : RowZero odeint) {GN : Nat}
    {nbrs : Nat → List Nat} {tr : Nat → Nat → Rat} {rr : Nat → Rat} {inf : List Nat} {nodelist : Option (List Nat)}
    {tmin tmax : Rat} {tcount : Nat} {x0 : V} {l : List Out}
    (h : GenGlue2.SIS_individual_based_pure_IC odeint myodeint GN nbrs tr rr inf nodelist tmin tmax tcount false
      = .ok (x0, l)) :
    get l 2 0 = (countIn (nodesOf GN nodelist) (memB inf) : Rat) ∧
    get l 1 0 = ((nodesOf GN nodelist).length : Rat) - (countIn (nodesOf GN nodelist) (memB inf) : Rat) := by
  obtain ⟨rfl, rfl⟩ := SIS_individual_based_pure_IC_form h
  have := outSISInd_init (linspace tmin tmax tcount) (indV (nodesOf GN nodelist) (memB inf) 1 0)
    (odeint (fun st => Gen.dSIS_individual_based st (nodesOf GN nodelist).length nbrs tr rr) _) (h0 _ _)
  rw [indV_n, sumTo_indV] at this
  exact this

/-- initial state when the sets are duplicate-free subsets of a duplicate-free node list: `I(0) = |initial_infecteds|` -/
theorem SIS_individual_based_pure_IC_init_card {odeint myodeint : Solver} (h0 : RowZero odeint) {GN : Nat}
    {nbrs : Nat → List Nat} {tr : Nat → Nat → Rat} {rr : Nat → Rat} {inf : List Nat} {nodelist : Option (List Nat)}
    {tmin tmax : Rat} {tcount : Nat} {x0 : V} {l : List Out}
    (h : GenGlue2.SIS_individual_based_pure_IC odeint myodeint GN nbrs tr rr inf nodelist tmin tmax tcount false
      = .ok (x0, l))
    (h1 : (nodesOf GN nodelist).Nodup) (h2 : inf.Nodup) (h3 : ∀ u ∈ inf, u ∈ nodesOf GN nodelist) :
    get l 2 0 = (inf.length : Rat) ∧ get l 1 0 = ((nodesOf GN nodelist).length : Rat) - (inf.length : Rat) := by
  have := SIS_individual_based_pure_IC_init h0 h
  rwa [countIn_memB _ _ h1 h2 h3] at this

/-- **initial state, per node**: `Y_k(0) = 1` iff the `k`-th node of the node list is in `initial_infecteds`
(otherwise `0`), and `S_k(0) = 1 − Y_k(0)` -/
theorem SIS_individual_based_pure_IC_init_full {odeint myodeint : Solver} (h0 : RowZero odeint) {GN : Nat}
    {nbrs : Nat → List Nat} {tr : Nat → Nat → Rat} {rr : Nat → Rat} {inf : List Nat} {nodelist : Option (List Nat)}
    {tmin tmax : Rat} {tcount : Nat} {x0 : V} {l : List Out}
    (h : GenGlue2.SIS_individual_based_pure_IC odeint myodeint GN nbrs tr rr inf nodelist tmin tmax tcount true
      = .ok (x0, l)) (k : Nat) (hk : k < (nodesOf GN nodelist).length) :
    getM l 2 0 k = (if (nodesOf GN nodelist).getD k 0 ∈ inf then 1 else 0) ∧
    (getM l 2 0 k = 1 ↔ (nodesOf GN nodelist).getD k 0 ∈ inf) ∧
    getM l 1 0 k = 1 - getM l 2 0 k := by
  obtain ⟨rfl, rfl⟩ := SIS_individual_based_pure_IC_form h
  have := outSISInd_init_full (linspace tmin tmax tcount) (indV (nodesOf GN nodelist) (memB inf) 1 0)
    (odeint (fun st => Gen.dSIS_individual_based st (nodesOf GN nodelist).length nbrs tr rr) _) (h0 _ _) k
    (by rw [indV_n]; exact hk)
  rw [indV_n, indV_f _ _ _ _ _ hk] at this
  obtain ⟨e1, e2⟩ := this
  rw [e1, e2]
  generalize (nodesOf GN nodelist).getD k 0 = u
  by_cases hm : u ∈ inf <;> simp [memB, hm]

/-- the `X0` of `SIR_individual_based_pure_IC`: `1 − Y0` without `initial_recovereds`, else the indicator of the nodes
in neither set -/
def pureX0 (nl inf : List Nat) (rc : Option (List Nat)) : V :=
  match rc with
  | none => vcompl (indV nl (memB inf) 1 0)
  | some rc => indV nl (memB (rc ++ inf)) 0 1

@[simp] theorem pureX0_n (nl inf : List Nat) (rc : Option (List Nat)) : (pureX0 nl inf rc).n = nl.length := by
  cases rc <;> simp [pureX0]

/-- **call**: never raises an argument error; `X0`, `Y0` are the indicator vectors and the run is that of
`SIR_individual_based` -/
theorem SIR_individual_based_pure_IC_call (odeint myodeint : Solver) (GN : Nat) (nbrs : Nat → List Nat)
    (tr : Nat → Nat → Rat) (rr : Nat → Rat) (inf : List Nat) (rc : Option (List Nat)) (nodelist : Option (List Nat))
    (tmin tmax : Rat) (tcount : Nat) (full : Bool) :
    GenGlue2.SIR_individual_based_pure_IC odeint myodeint GN nbrs tr rr inf rc nodelist tmin tmax tcount full =
      runSIRInd odeint (nodesOf GN nodelist).length nbrs tr rr (pureX0 (nodesOf GN nodelist) inf rc)
        (indV (nodesOf GN nodelist) (memB inf) 1 0) (linspace tmin tmax tcount) full := by
  unfold GenGlue2.SIR_individual_based_pure_IC
  cases nodelist <;> cases rc <;>
    simp only [Option.isNone_none, Option.isNone_some, if_true, if_false, Bool.false_eq_true, need_some, ok_bind,
      SIR_individual_based_eq, nodesOf, Option.getD, bind_pure, pure_bind] <;> rfl

theorem SIR_individual_based_pure_IC_form {odeint myodeint : Solver} {GN : Nat} {nbrs : Nat → List Nat}
    {tr : Nat → Nat → Rat} {rr : Nat → Rat} {inf : List Nat} {rc : Option (List Nat)} {nodelist : Option (List Nat)}
    {tmin tmax : Rat} {tcount : Nat} {full : Bool} {x0 : V} {l : List Out}
    (h : GenGlue2.SIR_individual_based_pure_IC odeint myodeint GN nbrs tr rr inf rc nodelist tmin tmax tcount full
      = .ok (x0, l)) :
    x0 = V.append (pureX0 (nodesOf GN nodelist) inf rc) (indV (nodesOf GN nodelist) (memB inf) 1 0) ∧
    l = outSIRInd (linspace tmin tmax tcount) (nodesOf GN nodelist).length (nodesOf GN nodelist).length
          (nodesOf GN nodelist).length full
          (odeint (fun st => Gen.dSIR_individual_based st (nodesOf GN nodelist).length nbrs tr rr) x0) := by
  -- `X0` and `Y0` both have one entry per node: no broadcasting
  rw [SIR_individual_based_pure_IC_call, runSIRInd, pureX0_n, indV_n, bdim_self] at h
  cases h
  exact ⟨rfl, rfl⟩

theorem SIR_individual_based_pure_IC_no_error (odeint myodeint : Solver) (GN : Nat) (nbrs : Nat → List Nat)
    (tr : Nat → Nat → Rat) (rr : Nat → Rat) (inf : List Nat) (rc : Option (List Nat)) (nodelist : Option (List Nat))
    (tmin tmax : Rat) (tcount : Nat) (full : Bool) :
    ∃ r, GenGlue2.SIR_individual_based_pure_IC odeint myodeint GN nbrs tr rr inf rc nodelist tmin tmax tcount full
      = .ok r := by
  rw [SIR_individual_based_pure_IC_call, runSIRInd, pureX0_n, indV_n, bdim_self]
  exact ⟨_, rfl⟩

/-- **conservation**: `S + I + R = N` (number of nodes) at every time index, for every solver -/
theorem SIR_individual_based_pure_IC_conserve {odeint myodeint : Solver} {GN : Nat} {nbrs : Nat → List Nat}
    {tr : Nat → Nat → Rat} {rr : Nat → Rat} {inf : List Nat} {rc : Option (List Nat)} {nodelist : Option (List Nat)}
    {tmin tmax : Rat} {tcount : Nat} {full : Bool} {x0 : V} {l : List Out}
    (h : GenGlue2.SIR_individual_based_pure_IC odeint myodeint GN nbrs tr rr inf rc nodelist tmin tmax tcount full
      = .ok (x0, l)) (i : Nat) :
    get l 1 i + get l 2 i + get l 3 i = ((nodesOf GN nodelist).length : Rat) := by
  obtain ⟨-, rfl⟩ := SIR_individual_based_pure_IC_form h
  exact outSIRInd_conserve _ _ _ _ i

/-- conservation, full data: per node `S_k + I_k + R_k = 1` -/
theorem SIR_individual_based_pure_IC_conserve_full {odeint myodeint : Solver} {GN : Nat} {nbrs : Nat → List Nat}
    {tr : Nat → Nat → Rat} {rr : Nat → Rat} {inf : List Nat} {rc : Option (List Nat)} {nodelist : Option (List Nat)}
    {tmin tmax : Rat} {tcount : Nat} {x0 : V} {l : List Out}
    (h : GenGlue2.SIR_individual_based_pure_IC odeint myodeint GN nbrs tr rr inf rc nodelist tmin tmax tcount true
      = .ok (x0, l)) (i : Nat) :
    let N := (nodesOf GN nodelist).length
    getN l 4 = N ∧ getN l 5 = N ∧ getN l 6 = N ∧
    (∀ k, k < N → getM l 4 i k + getM l 5 i k + getM l 6 i k = 1) ∧
    get l 1 i = sumTo N (getM l 4 i) ∧ get l 2 i = sumTo N (getM l 5 i) ∧ get l 3 i = sumTo N (getM l 6 i) := by
  obtain ⟨-, rfl⟩ := SIR_individual_based_pure_IC_form h
  exact outSIRInd_conserve_full _ _ _ i

/-- the three indicator counts partition the node list -/
theorem pure_counts (nl inf rc : List Nat) :
    (nl.length : Rat) - (countIn nl (fun u => !memB (rc ++ inf) u) : Rat) - (countIn nl (memB inf) : Rat)
      = (countIn nl (fun u => memB rc u && !memB inf u) : Rat) := by
  have hN : (nl.length : Rat) = sumTo nl.length (fun _ => (1 : Rat)) := by rw [sumTo_const]; ring
  unfold countIn
  rw [← sumTo_indV', ← sumTo_indV, ← sumTo_indV nl (fun u => memB rc u && !memB inf u), hN, ← GenGlueProofs.sumTo_sub3]
  apply ODE.sumTo_congr
  intro k hk
  rw [indV_f _ _ _ _ _ hk, indV_f _ _ _ _ _ hk, indV_f _ _ _ _ _ hk]
  have : memB (rc ++ inf) (nl.getD k 0) = (memB rc (nl.getD k 0) || memB inf (nl.getD k 0)) := by simp [memB]
  rw [this]
  cases memB rc (nl.getD k 0) <;> cases memB inf (nl.getD k 0) <;> simp

/-- **initial state** (`initial_recovereds` given): `I(0)` = number of listed nodes in `initial_infecteds`, `S(0)` =
number in neither set, `R(0)` = number in `initial_recovereds` and not in `initial_infecteds` (a node in both sets starts
infected) -/
theorem SIR_individual_based_pure_IC_init {odeint myodeint : Solver} (h0 : RowZero odeint) {GN : Nat}
    {nbrs : Nat → List Nat} {tr : Nat → Nat → Rat} {rr : Nat → Rat} {inf rc : List Nat} {nodelist : Option (List Nat)}
    {tmin tmax : Rat} {tcount : Nat} {full : Bool} {x0 : V} {l : List Out}
    (h : GenGlue2.SIR_individual_based_pure_IC odeint myodeint GN nbrs tr rr inf (some rc) nodelist tmin tmax tcount full
      = .ok (x0, l)) :
    get l 1 0 = (countIn (nodesOf GN nodelist) (fun u => !memB (rc ++ inf) u) : Rat) ∧
    get l 2 0 = (countIn (nodesOf GN nodelist) (memB inf) : Rat) ∧
    get l 3 0 = (countIn (nodesOf GN nodelist) (fun u => memB rc u && !memB inf u) : Rat) := by
  obtain ⟨rfl, rfl⟩ := SIR_individual_based_pure_IC_form h
  have := outSIRInd_init (linspace tmin tmax tcount) (pureX0 (nodesOf GN nodelist) inf (some rc))
    (indV (nodesOf GN nodelist) (memB inf) 1 0) (by rw [pureX0_n, indV_n]) full
    (odeint (fun st => Gen.dSIR_individual_based st (nodesOf GN nodelist).length nbrs tr rr) _) (h0 _ _)
  rw [pureX0_n] at this
  simp only [pureX0] at this
  rw [sumTo_indV, sumTo_indV'] at this
  obtain ⟨a, b, c⟩ := this
  exact ⟨a, b, c.trans (pure_counts _ _ _)⟩

/-- **initial state** (`initial_recovereds=None`): `I(0)` = number of listed nodes in `initial_infecteds`,
`S(0) = N − I(0)`, `R(0) = 0` -/
theorem SIR_individual_based_pure_IC_init_none {odeint myodeint : Solver} (h0 : RowZero odeint) {GN : Nat}
    {nbrs : Nat → List Nat} {tr : Nat → Nat → Rat} {rr : Nat → Rat} {inf : List Nat} {nodelist : Option (List Nat)}
    {tmin tmax : Rat} {tcount : Nat} {full : Bool} {x0 : V} {l : List Out}
    (h : GenGlue2.SIR_individual_based_pure_IC odeint myodeint GN nbrs tr rr inf none nodelist tmin tmax tcount full
      = .ok (x0, l)) :
    get l 1 0 = ((nodesOf GN nodelist).length : Rat) - (countIn (nodesOf GN nodelist) (memB inf) : Rat) ∧
    get l 2 0 = (countIn (nodesOf GN nodelist) (memB inf) : Rat) ∧ get l 3 0 = 0 := by
  obtain ⟨rfl, rfl⟩ := SIR_individual_based_pure_IC_form h
  have := outSIRInd_init (linspace tmin tmax tcount) (pureX0 (nodesOf GN nodelist) inf none)
    (indV (nodesOf GN nodelist) (memB inf) 1 0) (by rw [pureX0_n, indV_n]) full
    (odeint (fun st => Gen.dSIR_individual_based st (nodesOf GN nodelist).length nbrs tr rr) _) (h0 _ _)
  rw [pureX0_n] at this
  simp only [pureX0] at this
  have e : sumTo (nodesOf GN nodelist).length (vcompl (indV (nodesOf GN nodelist) (memB inf) 1 0)).f
      = ((nodesOf GN nodelist).length : Rat) - (countIn (nodesOf GN nodelist) (memB inf) : Rat) := by
    have : (vcompl (indV (nodesOf GN nodelist) (memB inf) 1 0)).f
        = fun k => (1 : Rat) - (indV (nodesOf GN nodelist) (memB inf) 1 0).f k := rfl
    rw [this, GenGlueProofs.sumTo_sub, sumTo_const, sumTo_indV]; unfold countIn; ring
  rw [e, sumTo_indV] at this
  obtain ⟨a, b, c⟩ := this
  exact ⟨a, b, c.trans (by unfold countIn; ring)⟩

/-- **initial state, per node**: `Y_k(0) = 1` iff node `k` of the node list is in `initial_infecteds`; `X_k(0) = 0` iff
it is in `initial_recovereds ∪ initial_infecteds`; `R_k(0) = 1 − X_k(0) − Y_k(0)` -/
theorem SIR_individual_based_pure_IC_init_full {odeint myodeint : Solver} (h0 : RowZero odeint) {GN : Nat}
    {nbrs : Nat → List Nat} {tr : Nat → Nat → Rat} {rr : Nat → Rat} {inf rc : List Nat} {nodelist : Option (List Nat)}
    {tmin tmax : Rat} {tcount : Nat} {x0 : V} {l : List Out}
    (h : GenGlue2.SIR_individual_based_pure_IC odeint myodeint GN nbrs tr rr inf (some rc) nodelist tmin tmax tcount true
      = .ok (x0, l)) (k : Nat) (hk : k < (nodesOf GN nodelist).length) :
    getM l 5 0 k = (if (nodesOf GN nodelist).getD k 0 ∈ inf then 1 else 0) ∧
    getM l 4 0 k = (if (nodesOf GN nodelist).getD k 0 ∈ rc ∨ (nodesOf GN nodelist).getD k 0 ∈ inf then 0 else 1) ∧
    getM l 6 0 k = 1 - getM l 4 0 k - getM l 5 0 k := by
  obtain ⟨rfl, rfl⟩ := SIR_individual_based_pure_IC_form h
  have := outSIRInd_init_full (linspace tmin tmax tcount) (pureX0 (nodesOf GN nodelist) inf (some rc))
    (indV (nodesOf GN nodelist) (memB inf) 1 0)
    (odeint (fun st => Gen.dSIR_individual_based st (nodesOf GN nodelist).length nbrs tr rr) _) (h0 _ _) k (by rw [pureX0_n]; exact hk)
  rw [pureX0_n] at this
  simp only [pureX0] at this
  rw [indV_f _ _ _ _ _ hk, indV_f _ _ _ _ _ hk] at this
  obtain ⟨e1, e2, e3⟩ := this
  simp only [pureX0]
  rw [e1, e2, e3]
  generalize (nodesOf GN nodelist).getD k 0 = u
  simp [memB]

/-! ## 4. `SIS_pair_based` (`Xs = 1 − Ys`; solved by `myodeint`)

The function is reduced once, in `Proofs/PairBased.lean`, to its argument guards (`pairGuard`), the shape checks and the
return (`pairRunSIS`); the statements of this section are instances of `SIS_pair_based_guard_error`,
`SIS_pair_based_shape_error` and `SIS_pair_based_ok`; the docstring of each says which case (guards 1–3 are `pairGuard`, 4–6
the shape checks). -/

/-- guard 1: neither `Y0` nor `rho` on a graph without nodes: `rho = 1.0/N` is a `ZeroDivisionError` -/
theorem SIS_pair_based_error_zeroDiv (odeint myodeint : Solver) (nbrs : Nat → List Nat) (tr : Nat → Nat → Rat)
    (rr : Nat → Rat) (nodelist : Option (List Nat)) (XY0 XX0 : Option Mx) (tmin tmax : Rat) (tcount : Nat) (full : Bool) :
    GenGlue2.SIS_pair_based odeint myodeint 0 nbrs tr rr none nodelist none XY0 XX0 tmin tmax tcount full
      = .error "ZeroDivisionError" :=
  SIS_pair_based_guard_error _ _ _ _ _ _ _ _ _ _ _ _ _ _ _ _ rfl

/-- guard 2: `Y0` together with `rho` -/
theorem SIS_pair_based_error_both (odeint myodeint : Solver) (GN : Nat) (nbrs : Nat → List Nat) (tr : Nat → Nat → Rat)
    (rr : Nat → Rat) (r : Rat) (y : V) (nodelist : Option (List Nat)) (XY0 XX0 : Option Mx) (tmin tmax : Rat)
    (tcount : Nat) (full : Bool) :
    GenGlue2.SIS_pair_based odeint myodeint GN nbrs tr rr (some r) nodelist (some y) XY0 XX0 tmin tmax tcount full
      = .error "EoNError" :=
  SIS_pair_based_guard_error _ _ _ _ _ _ _ _ _ _ _ _ _ _ _ _ rfl

/-- guard 3: `Y0` without `nodelist` -/
theorem SIS_pair_based_error_nodelist (odeint myodeint : Solver) (GN : Nat) (nbrs : Nat → List Nat)
    (tr : Nat → Nat → Rat) (rr : Nat → Rat) (rho : Option Rat) (y : V) (XY0 XX0 : Option Mx) (tmin tmax : Rat)
    (tcount : Nat) (full : Bool) :
    GenGlue2.SIS_pair_based odeint myodeint GN nbrs tr rr rho none (some y) XY0 XX0 tmin tmax tcount full
      = .error "EoNError" :=
  SIS_pair_based_guard_error _ _ _ _ _ _ _ _ _ _ _ _ _ _ _ _ (by cases rho <;> rfl)

/-- guard 4: `Y0` of the wrong length -/
theorem SIS_pair_based_error_length (odeint myodeint : Solver) (GN : Nat) (nbrs : Nat → List Nat)
    (tr : Nat → Nat → Rat) (rr : Nat → Rat) (nl : List Nat) (y : V) (XY0 XX0 : Option Mx) (tmin tmax : Rat)
    (tcount : Nat) (full : Bool) (hy : y.n ≠ GN) :
    GenGlue2.SIS_pair_based odeint myodeint GN nbrs tr rr none (some nl) (some y) XY0 XX0 tmin tmax tcount full
      = .error "EoNError" :=
  SIS_pair_based_shape_error _ _ _ _ _ _ _ _ _ _ _ _ _ _ _ rfl fun h => hy h.1

/-- guard 5: `XY0` of the wrong shape (after the guards on `Y0`) -/
theorem SIS_pair_based_error_XY0 (odeint myodeint : Solver) (GN : Nat) (nbrs : Nat → List Nat)
    (tr : Nat → Nat → Rat) (rr : Nat → Rat) (nl : List Nat) (y : V) (xy : Mx) (XX0 : Option Mx) (tmin tmax : Rat)
    (tcount : Nat) (full : Bool) (hy : y.n = GN) (hs : ¬ (xy.r = GN ∧ xy.c = GN)) :
    GenGlue2.SIS_pair_based odeint myodeint GN nbrs tr rr none (some nl) (some y) (some xy) XX0 tmin tmax tcount full
      = .error "EoNError" :=
  SIS_pair_based_shape_error _ _ _ _ _ _ _ _ _ _ _ _ _ _ _ rfl fun h => hs ((shapeOk_some _ _).1 h.2.1)

/-- guard 6: `XX0` of the wrong shape (after the guards on `Y0` and `XY0`) -/
theorem SIS_pair_based_error_XX0 (odeint myodeint : Solver) (GN : Nat) (nbrs : Nat → List Nat)
    (tr : Nat → Nat → Rat) (rr : Nat → Rat) (nl : List Nat) (y : V) (xy xx : Mx) (tmin tmax : Rat)
    (tcount : Nat) (full : Bool) (hy : y.n = GN) (hs : xy.r = GN ∧ xy.c = GN) (hx : ¬ (xx.r = GN ∧ xx.c = GN)) :
    GenGlue2.SIS_pair_based odeint myodeint GN nbrs tr rr none (some nl) (some y) (some xy) (some xx) tmin tmax tcount full
      = .error "EoNError" :=
  SIS_pair_based_shape_error _ _ _ _ _ _ _ _ _ _ _ _ _ _ _ rfl fun h => hx ((shapeOk_some _ _).1 h.2.2)

theorem SIS_pair_based_rho_form (odeint myodeint : Solver) (GN : Nat) (nbrs : Nat → List Nat) (tr : Nat → Nat → Rat)
    (rr : Nat → Rat) (r : Rat) (nodelist : Option (List Nat)) (tmin tmax : Rat) (tcount : Nat) (full : Bool)
    (hl : (nodesOf GN nodelist).length = GN) :
    ∃ x0, GenGlue2.SIS_pair_based odeint myodeint GN nbrs tr rr (some r) nodelist none none none tmin tmax tcount full
      = .ok (x0, outSISPair (linspace tmin tmax tcount) GN full
          (myodeint (fun st => Gen.dSIS_pair_based st GN nbrs tr rr) x0)) ∧
      x0.n = GN + GN ^ 2 + GN ^ 2 ∧ (∀ k, k < GN → x0.f k = r) := by
  obtain ⟨x0, h, -⟩ := SIS_pair_based_ok odeint myodeint GN nbrs tr rr (some r) nodelist none none none tmin tmax tcount
    full rfl rfl (shapeOk_none _) (shapeOk_none _) (Or.inl hl)
  obtain ⟨-, hn, hf, -⟩ := GenGlue3Props.SIS_pair_based_form h
  rw [hl] at h
  exact ⟨x0, h, hn, hf⟩

/-- neither `rho` nor `Y0` on a graph with nodes: `rho = 1/N` -/
theorem SIS_pair_based_default_form (odeint myodeint : Solver) (GN : Nat) (nbrs : Nat → List Nat)
    (tr : Nat → Nat → Rat) (rr : Nat → Rat) (nodelist : Option (List Nat)) (tmin tmax : Rat) (tcount : Nat) (full : Bool)
    (hN : GN ≠ 0) :
    GenGlue2.SIS_pair_based odeint myodeint GN nbrs tr rr none nodelist none none none tmin tmax tcount full
      = GenGlue2.SIS_pair_based odeint myodeint GN nbrs tr rr (some (1 / (GN : Rat))) nodelist none none none tmin tmax
          tcount full := by
  rw [SIS_pair_based_eq, SIS_pair_based_eq]
  simp [pairGuard, pairY0, hN]

theorem SIS_pair_based_Y0_form (odeint myodeint : Solver) (GN : Nat) (nbrs : Nat → List Nat) (tr : Nat → Nat → Rat)
    (rr : Nat → Rat) (y : V) (nl : List Nat) (tmin tmax : Rat) (tcount : Nat) (full : Bool)
    (hy : y.n = GN) (hl : nl.length = GN) :
    ∃ x0, GenGlue2.SIS_pair_based odeint myodeint GN nbrs tr rr none (some nl) (some y) none none tmin tmax tcount full
      = .ok (x0, outSISPair (linspace tmin tmax tcount) GN full
          (myodeint (fun st => Gen.dSIS_pair_based st GN nbrs tr rr) x0)) ∧
      x0.n = GN + GN ^ 2 + GN ^ 2 ∧ (∀ k, k < GN → x0.f k = y.f k) := by
  have hl' : (nodesOf GN (some nl)).length = GN := hl
  obtain ⟨x0, h, -⟩ := SIS_pair_based_ok odeint myodeint GN nbrs tr rr none (some nl) (some y) none none tmin tmax tcount
    full rfl hy (shapeOk_none _) (shapeOk_none _) (Or.inl hl')
  obtain ⟨-, hn, hf, -⟩ := GenGlue3Props.SIS_pair_based_form h
  rw [hl'] at h
  exact ⟨x0, h, hn, hf⟩

/-- **`rho` form: conservation and initial state**: `S + I = N` at EVERY time index for every solver; with
`RowZero myodeint`, `I(0) = rho·N` and `S(0) = (1 − rho)·N` — with or without `nodelist` -/
theorem SIS_pair_based_rho {odeint myodeint : Solver} {GN : Nat} {nbrs : Nat → List Nat} {tr : Nat → Nat → Rat}
    {rr : Nat → Rat} {r : Rat} {nodelist : Option (List Nat)} {tmin tmax : Rat} {tcount : Nat} {full : Bool}
    (hl : (nodesOf GN nodelist).length = GN) :
    ∃ x0 l, GenGlue2.SIS_pair_based odeint myodeint GN nbrs tr rr (some r) nodelist none none none tmin tmax tcount full
      = .ok (x0, l) ∧ (∀ i, get l 1 i + get l 2 i = (GN : Rat)) ∧
      (RowZero myodeint → get l 2 0 = r * (GN : Rat) ∧ get l 1 0 = (1 - r) * (GN : Rat)) := by
  obtain ⟨x0, h, hf⟩ := SIS_pair_based_ok odeint myodeint GN nbrs tr rr (some r) nodelist none none none tmin tmax tcount
    full rfl rfl (shapeOk_none _) (shapeOk_none _) (Or.inl hl)
  refine ⟨x0, _, h, fun i => outSISPair_conserve _ _ _ _ i, fun h0 => ?_⟩
  obtain ⟨a, b⟩ := outSISPair_init (linspace tmin tmax tcount) GN full _ x0 (fun _ => r) (h0 _ _) hf
  rw [a, b, sumTo_const]
  constructor <;> ring

/-- **explicit `Y0`: conservation and initial state**: `S + I = N` at every time index; `I(0) = Σ Y0`,
`S(0) = N − Σ Y0` -/
theorem SIS_pair_based_Y0 {odeint myodeint : Solver} {GN : Nat} {nbrs : Nat → List Nat} {tr : Nat → Nat → Rat}
    {rr : Nat → Rat} {y : V} {nl : List Nat} {tmin tmax : Rat} {tcount : Nat} {full : Bool}
    (hy : y.n = GN) (hl : nl.length = GN) :
    ∃ x0 l, GenGlue2.SIS_pair_based odeint myodeint GN nbrs tr rr none (some nl) (some y) none none tmin tmax tcount full
      = .ok (x0, l) ∧ (∀ i, get l 1 i + get l 2 i = (GN : Rat)) ∧
      (RowZero myodeint → get l 2 0 = sumTo GN y.f ∧ get l 1 0 = (GN : Rat) - sumTo GN y.f) := by
  obtain ⟨x0, h, hf⟩ := SIS_pair_based_ok odeint myodeint GN nbrs tr rr none (some nl) (some y) none none tmin tmax tcount
    full rfl hy (shapeOk_none _) (shapeOk_none _) (Or.inl hl)
  exact ⟨x0, _, h, fun i => outSISPair_conserve _ _ _ _ i, fun h0 =>
    outSISPair_init (linspace tmin tmax tcount) GN full _ x0 y.f (h0 _ _) hf⟩

/-- full data: per node `X_k + Y_k = 1`, the declared shapes, `S`, `I` are the sums (every normal return has this list:
`SIS_pair_based_form`) -/
theorem SIS_pair_based_full (T : Nat → Rat) (N : Nat) (X : Nat → V) (i : Nat) :
    let l := outSISPair T N true X
    getN l 3 = N ∧ getN l 4 = N ∧ getN l 5 = N * N ∧ getN l 6 = N * N ∧
    (∀ k, k < N → getM l 3 i k + getM l 4 i k = 1) ∧
    get l 1 i = sumTo N (getM l 3 i) ∧ get l 2 i = sumTo N (getM l 4 i) := by
  refine ⟨rfl, rfl, rfl, rfl, fun k hk => ?_, rfl, rfl⟩
  simp only [outSISPair, if_true, getM, getV_succ, getV_zero_m, bidx_lt N k hk]; ring

/-! ## 5. `SIS_pair_based_pure_IC` -/

/-- `SIS_pair_based_pure_IC` calls `SIS_pair_based` with the node list and `Y0` = the indicator vector of
`initial_infecteds` on it -/
theorem SIS_pair_based_pure_IC_eq (odeint myodeint : Solver) (GN : Nat) (nbrs : Nat → List Nat)
    (tr : Nat → Nat → Rat) (rr : Nat → Rat) (inf : List Nat) (nodelist : Option (List Nat)) (tmin tmax : Rat)
    (tcount : Nat) (full : Bool) :
    GenGlue2.SIS_pair_based_pure_IC odeint myodeint GN nbrs tr rr inf nodelist tmin tmax tcount full =
      GenGlue2.SIS_pair_based odeint myodeint GN nbrs tr rr none (some (nodesOf GN nodelist))
        (some (indV (nodesOf GN nodelist) (memB inf) 1 0)) none none tmin tmax tcount full := by
  cases nodelist <;> rfl

/-- **pure initial condition** (node list of `GN` nodes): no exception; `S + I = N` at every time index; `I(0)` = number
of listed nodes in `initial_infecteds`, `S(0) = N − I(0)` -/
theorem SIS_pair_based_pure_IC_spec {odeint myodeint : Solver} {GN : Nat} {nbrs : Nat → List Nat}
    {tr : Nat → Nat → Rat} {rr : Nat → Rat} {inf : List Nat} {nodelist : Option (List Nat)} {tmin tmax : Rat}
    {tcount : Nat} {full : Bool} (hl : (nodesOf GN nodelist).length = GN) :
    ∃ x0 l, GenGlue2.SIS_pair_based_pure_IC odeint myodeint GN nbrs tr rr inf nodelist tmin tmax tcount full
      = .ok (x0, l) ∧ (∀ i, get l 1 i + get l 2 i = (GN : Rat)) ∧
      (RowZero myodeint → get l 2 0 = (countIn (nodesOf GN nodelist) (memB inf) : Rat) ∧
        get l 1 0 = (GN : Rat) - (countIn (nodesOf GN nodelist) (memB inf) : Rat)) := by
  rw [SIS_pair_based_pure_IC_eq]
  have e := sumTo_indV (nodesOf GN nodelist) (memB inf)
  rw [hl] at e
  rw [show (countIn (nodesOf GN nodelist) (memB inf) : Rat) = _ from e.symm]
  exact SIS_pair_based_Y0 (by rw [indV_n, hl]) hl

/-- a node list whose length differs from `G.order()` is rejected with `EoNError` (`len(Y0) != N`) -/
theorem SIS_pair_based_pure_IC_error (odeint myodeint : Solver) (GN : Nat) (nbrs : Nat → List Nat)
    (tr : Nat → Nat → Rat) (rr : Nat → Rat) (inf nl : List Nat) (tmin tmax : Rat) (tcount : Nat) (full : Bool)
    (hl : nl.length ≠ GN) :
    GenGlue2.SIS_pair_based_pure_IC odeint myodeint GN nbrs tr rr inf (some nl) tmin tmax tcount full
      = .error "EoNError" := by
  rw [SIS_pair_based_pure_IC_eq]
  exact SIS_pair_based_error_length _ _ _ _ _ _ _ _ _ _ _ _ _ _ (by simpa [nodesOf] using hl)

/-! ## 6. `SIR_pair_based` (`Zs = 1 − Xs − Ys`; solved by `odeint`) -/

theorem SIR_pair_based_error_zeroDiv (odeint myodeint : Solver) (nbrs : Nat → List Nat) (tr : Nat → Nat → Rat)
    (rr : Nat → Rat) (nodelist : Option (List Nat)) (X0 : Option V) (XY0 XX0 : Option Mx) (tmin tmax : Rat)
    (tcount : Nat) (full : Bool) :
    GenGlue2.SIR_pair_based odeint myodeint 0 nbrs tr rr none nodelist none X0 XY0 XX0 tmin tmax tcount full
      = .error "ZeroDivisionError" :=
  SIR_pair_based_guard_error _ _ _ _ _ _ _ _ _ _ _ _ _ _ _ _ _ rfl

theorem SIR_pair_based_error_both (odeint myodeint : Solver) (GN : Nat) (nbrs : Nat → List Nat) (tr : Nat → Nat → Rat)
    (rr : Nat → Rat) (r : Rat) (y : V) (nodelist : Option (List Nat)) (X0 : Option V) (XY0 XX0 : Option Mx)
    (tmin tmax : Rat) (tcount : Nat) (full : Bool) :
    GenGlue2.SIR_pair_based odeint myodeint GN nbrs tr rr (some r) nodelist (some y) X0 XY0 XX0 tmin tmax tcount full
      = .error "EoNError" :=
  SIR_pair_based_guard_error _ _ _ _ _ _ _ _ _ _ _ _ _ _ _ _ _ rfl

theorem SIR_pair_based_error_nodelist (odeint myodeint : Solver) (GN : Nat) (nbrs : Nat → List Nat)
    (tr : Nat → Nat → Rat) (rr : Nat → Rat) (rho : Option Rat) (y : V) (X0 : Option V) (XY0 XX0 : Option Mx)
    (tmin tmax : Rat) (tcount : Nat) (full : Bool) :
    GenGlue2.SIR_pair_based odeint myodeint GN nbrs tr rr rho none (some y) X0 XY0 XX0 tmin tmax tcount full
      = .error "EoNError" :=
  SIR_pair_based_guard_error _ _ _ _ _ _ _ _ _ _ _ _ _ _ _ _ _ (by cases rho <;> rfl)

theorem SIR_pair_based_error_length (odeint myodeint : Solver) (GN : Nat) (nbrs : Nat → List Nat)
    (tr : Nat → Nat → Rat) (rr : Nat → Rat) (nl : List Nat) (y : V) (X0 : Option V) (XY0 XX0 : Option Mx)
    (tmin tmax : Rat) (tcount : Nat) (full : Bool) (hy : y.n ≠ GN) :
    GenGlue2.SIR_pair_based odeint myodeint GN nbrs tr rr none (some nl) (some y) X0 XY0 XX0 tmin tmax tcount full
      = .error "EoNError" :=
  SIR_pair_based_shape_error _ _ _ _ _ _ _ _ _ _ _ _ _ _ _ _ rfl fun h => hy h.1

/-- `XY0` of the wrong shape (after the guards on `Y0`) -/
theorem SIR_pair_based_error_XY0 (odeint myodeint : Solver) (GN : Nat) (nbrs : Nat → List Nat)
    (tr : Nat → Nat → Rat) (rr : Nat → Rat) (nl : List Nat) (y x : V) (xy : Mx) (XX0 : Option Mx) (tmin tmax : Rat)
    (tcount : Nat) (full : Bool) (hy : y.n = GN) (hs : ¬ (xy.r = GN ∧ xy.c = GN)) :
    GenGlue2.SIR_pair_based odeint myodeint GN nbrs tr rr none (some nl) (some y) (some x) (some xy) XX0 tmin tmax tcount
      full = .error "EoNError" :=
  SIR_pair_based_shape_error _ _ _ _ _ _ _ _ _ _ _ _ _ _ _ _ rfl fun h => hs ((shapeOk_some _ _).1 h.2.1)

theorem SIR_pair_based_rho_form (odeint myodeint : Solver) (GN : Nat) (nbrs : Nat → List Nat) (tr : Nat → Nat → Rat)
    (rr : Nat → Rat) (r : Rat) (nodelist : Option (List Nat)) (tmin tmax : Rat) (tcount : Nat) (full : Bool)
    (hl : (nodesOf GN nodelist).length = GN) :
    ∃ x0, GenGlue2.SIR_pair_based odeint myodeint GN nbrs tr rr (some r) nodelist none none none none tmin tmax tcount
        full = .ok (x0, outSIRPair (linspace tmin tmax tcount) GN full
          (odeint (fun st => Gen.dSIR_pair_based st GN nbrs tr rr) x0)) ∧
      x0.n = GN + GN + GN ^ 2 + GN ^ 2 ∧ (∀ k, k < GN → x0.f k = 1 - r) ∧ (∀ k, k < GN → x0.f (GN + k) = r) := by
  have hx' : ∀ x, (none : Option V) = some x → x.n = GN := fun _ e => nomatch e
  obtain ⟨x0, h, -⟩ := SIR_pair_based_ok odeint myodeint GN nbrs tr rr (some r) nodelist none none none none tmin tmax
    tcount full hx' rfl rfl (shapeOk_none _) (shapeOk_none _) (Or.inl hl)
  obtain ⟨-, hn, hx, hf, -⟩ := GenGlue3Props.SIR_pair_based_form hx' h
  rw [hl] at h
  exact ⟨x0, h, hn, hx, hf⟩

theorem SIR_pair_based_Y0_form (odeint myodeint : Solver) (GN : Nat) (nbrs : Nat → List Nat) (tr : Nat → Nat → Rat)
    (rr : Nat → Rat) (y : V) (nl : List Nat) (tmin tmax : Rat) (tcount : Nat) (full : Bool)
    (hy : y.n = GN) (hl : nl.length = GN) :
    ∃ x0, GenGlue2.SIR_pair_based odeint myodeint GN nbrs tr rr none (some nl) (some y) none none none tmin tmax tcount
        full = .ok (x0, outSIRPair (linspace tmin tmax tcount) GN full
          (odeint (fun st => Gen.dSIR_pair_based st GN nbrs tr rr) x0)) ∧
      x0.n = GN + GN + GN ^ 2 + GN ^ 2 ∧ (∀ k, k < GN → x0.f k = 1 - y.f k) ∧
      (∀ k, k < GN → x0.f (GN + k) = y.f k) := by
  have hl' : (nodesOf GN (some nl)).length = GN := hl
  have hx' : ∀ x, (none : Option V) = some x → x.n = GN := fun _ e => nomatch e
  obtain ⟨x0, h, -⟩ := SIR_pair_based_ok odeint myodeint GN nbrs tr rr none (some nl) (some y) none none none tmin tmax
    tcount full hx' rfl hy (shapeOk_none _) (shapeOk_none _) (Or.inl hl')
  obtain ⟨-, hn, hx, hf, -⟩ := GenGlue3Props.SIR_pair_based_form hx' h
  rw [hl'] at h
  exact ⟨x0, h, hn, hx, hf⟩

theorem SIR_pair_based_X0_form (odeint myodeint : Solver) (GN : Nat) (nbrs : Nat → List Nat) (tr : Nat → Nat → Rat)
    (rr : Nat → Rat) (y x : V) (nl : List Nat) (tmin tmax : Rat) (tcount : Nat) (full : Bool)
    (hy : y.n = GN) (hx : x.n = GN) (hl : nl.length = GN) :
    ∃ x0, GenGlue2.SIR_pair_based odeint myodeint GN nbrs tr rr none (some nl) (some y) (some x) none none tmin tmax
        tcount full = .ok (x0, outSIRPair (linspace tmin tmax tcount) GN full
          (odeint (fun st => Gen.dSIR_pair_based st GN nbrs tr rr) x0)) ∧
      x0.n = GN + GN + GN ^ 2 + GN ^ 2 ∧ (∀ k, k < GN → x0.f k = x.f k) ∧
      (∀ k, k < GN → x0.f (GN + k) = y.f k) := by
  have hl' : (nodesOf GN (some nl)).length = GN := hl
  have hx' : ∀ x', some x = some x' → x'.n = GN := fun _ e => Option.some.inj e ▸ hx
  obtain ⟨x0, h, -⟩ := SIR_pair_based_ok odeint myodeint GN nbrs tr rr none (some nl) (some y) (some x) none none tmin
    tmax tcount full hx' rfl hy (shapeOk_none _) (shapeOk_none _) (Or.inl hl')
  obtain ⟨-, hn, hx0, hf, -⟩ := GenGlue3Props.SIR_pair_based_form hx' h
  rw [hl'] at h
  exact ⟨x0, h, hn, hx0, hf⟩

/-- **`rho` form: conservation and initial state**: `S + I + R = N` at EVERY time index for every solver; with
`RowZero odeint`, `S(0) = (1 − rho)·N`, `I(0) = rho·N`, `R(0) = 0` — with or without `nodelist` -/
theorem SIR_pair_based_rho {odeint myodeint : Solver} {GN : Nat} {nbrs : Nat → List Nat} {tr : Nat → Nat → Rat}
    {rr : Nat → Rat} {r : Rat} {nodelist : Option (List Nat)} {tmin tmax : Rat} {tcount : Nat} {full : Bool}
    (hl : (nodesOf GN nodelist).length = GN) :
    ∃ x0 l, GenGlue2.SIR_pair_based odeint myodeint GN nbrs tr rr (some r) nodelist none none none none tmin tmax tcount
        full = .ok (x0, l) ∧ (∀ i, get l 1 i + get l 2 i + get l 3 i = (GN : Rat)) ∧
      (RowZero odeint → get l 1 0 = (1 - r) * (GN : Rat) ∧ get l 2 0 = r * (GN : Rat) ∧ get l 3 0 = 0) := by
  obtain ⟨x0, h, hx, hy⟩ := SIR_pair_based_ok odeint myodeint GN nbrs tr rr (some r) nodelist none none none none tmin tmax
    tcount full (fun _ e => nomatch e) rfl rfl (shapeOk_none _) (shapeOk_none _) (Or.inl hl)
  refine ⟨x0, _, h, fun i => outSIRPair_conserve _ _ _ _ i, fun h0 => ?_⟩
  obtain ⟨a, b, c⟩ := outSIRPair_init (linspace tmin tmax tcount) GN full _ x0 (fun _ => 1 - r) (fun _ => r) (h0 _ _) hx hy
  rw [a, b, c, sumTo_const, sumTo_const]
  refine ⟨by ring, by ring, by ring⟩

/-- **explicit `Y0` (and optionally `X0`): conservation and initial state**: `S + I + R = N` at every time index;
`S(0) = Σ X0`, `I(0) = Σ Y0`, `R(0) = N − Σ X0 − Σ Y0` with `X0 = 1 − Y0` by default -/
theorem SIR_pair_based_Y0 {odeint myodeint : Solver} {GN : Nat} {nbrs : Nat → List Nat} {tr : Nat → Nat → Rat}
    {rr : Nat → Rat} {y : V} {X0 : Option V} {nl : List Nat} {tmin tmax : Rat} {tcount : Nat} {full : Bool}
    (hy : y.n = GN) (hx : ∀ x, X0 = some x → x.n = GN) (hl : nl.length = GN) :
    ∃ x0 l, GenGlue2.SIR_pair_based odeint myodeint GN nbrs tr rr none (some nl) (some y) X0 none none tmin tmax tcount
        full = .ok (x0, l) ∧ (∀ i, get l 1 i + get l 2 i + get l 3 i = (GN : Rat)) ∧
      (RowZero odeint → get l 1 0 = sumTo GN (X0.getD (vcompl y)).f ∧ get l 2 0 = sumTo GN y.f ∧
        get l 3 0 = (GN : Rat) - sumTo GN (X0.getD (vcompl y)).f - sumTo GN y.f) := by
  obtain ⟨x0, h, hx', hy'⟩ := SIR_pair_based_ok odeint myodeint GN nbrs tr rr none (some nl) (some y) X0 none none tmin tmax
    tcount full hx rfl hy (shapeOk_none _) (shapeOk_none _) (Or.inl hl)
  exact ⟨x0, _, h, fun i => outSIRPair_conserve _ _ _ _ i, fun h0 =>
    outSIRPair_init (linspace tmin tmax tcount) GN full _ x0 _ y.f (h0 _ _) hx' hy'⟩

/-- full data: per node `X_k + Y_k + Z_k = 1`, the declared shapes, `S, I, R` are the sums -/
theorem SIR_pair_based_full (T : Nat → Rat) (N : Nat) (X : Nat → V) (i : Nat) :
    let l := outSIRPair T N true X
    getN l 4 = N ∧ getN l 5 = N ∧ getN l 6 = N ∧ getN l 7 = N * N ∧ getN l 8 = N * N ∧
    (∀ k, k < N → getM l 4 i k + getM l 5 i k + getM l 6 i k = 1) ∧
    get l 1 i = sumTo N (getM l 4 i) ∧ get l 2 i = sumTo N (getM l 5 i) ∧ get l 3 i = sumTo N (getM l 6 i) := by
  refine ⟨rfl, rfl, rfl, rfl, rfl, fun k hk => ?_, rfl, rfl, rfl⟩
  simp only [outSIRPair, if_true, getM, getV_succ, getV_zero_m, bidx_lt N k hk]; ring

/-! ## 7. `SIR_pair_based_pure_IC` -/

/-- `SIR_pair_based_pure_IC` calls `SIR_pair_based` with the node list, `Y0` = the indicator vector of
`initial_infecteds` and `X0` = the indicator of the nodes in neither initial set (`1 − Y0` when `initial_recovereds` is
`None`) -/
theorem SIR_pair_based_pure_IC_eq (odeint myodeint : Solver) (GN : Nat) (nbrs : Nat → List Nat)
    (tr : Nat → Nat → Rat) (rr : Nat → Rat) (inf : List Nat) (rc : Option (List Nat)) (nodelist : Option (List Nat))
    (tmin tmax : Rat) (tcount : Nat) (full : Bool) :
    GenGlue2.SIR_pair_based_pure_IC odeint myodeint GN nbrs tr rr inf rc nodelist tmin tmax tcount full =
      GenGlue2.SIR_pair_based odeint myodeint GN nbrs tr rr none (some (nodesOf GN nodelist))
        (some (indV (nodesOf GN nodelist) (memB inf) 1 0))
        (some (match rc with
          | none => vcompl (indV (nodesOf GN nodelist) (memB inf) 1 0)
          | some rc => indV (nodesOf GN nodelist) (memB (rc ++ inf)) 0 1)) none none tmin tmax tcount full := by
  cases nodelist <;> cases rc <;> rfl

/-- **pure initial condition** (node list of `GN` nodes, `initial_recovereds` given): no exception; `S + I + R = N` at
every time index; `S(0), I(0), R(0)` are the numbers of listed nodes in neither set / in `initial_infecteds` / in
`initial_recovereds` only -/
theorem SIR_pair_based_pure_IC_spec {odeint myodeint : Solver} {GN : Nat} {nbrs : Nat → List Nat}
    {tr : Nat → Nat → Rat} {rr : Nat → Rat} {inf rc : List Nat} {nodelist : Option (List Nat)} {tmin tmax : Rat}
    {tcount : Nat} {full : Bool} (hl : (nodesOf GN nodelist).length = GN) :
    ∃ x0 l, GenGlue2.SIR_pair_based_pure_IC odeint myodeint GN nbrs tr rr inf (some rc) nodelist tmin tmax tcount full
      = .ok (x0, l) ∧ (∀ i, get l 1 i + get l 2 i + get l 3 i = (GN : Rat)) ∧
      (RowZero odeint →
        get l 1 0 = (countIn (nodesOf GN nodelist) (fun u => !memB (rc ++ inf) u) : Rat) ∧
        get l 2 0 = (countIn (nodesOf GN nodelist) (memB inf) : Rat) ∧
        get l 3 0 = (countIn (nodesOf GN nodelist) (fun u => memB rc u && !memB inf u) : Rat)) := by
  rw [SIR_pair_based_pure_IC_eq]
  obtain ⟨x0, l, h, hc, hi⟩ := SIR_pair_based_Y0 (odeint := odeint) (myodeint := myodeint) (nbrs := nbrs) (tr := tr)
    (rr := rr) (tmin := tmin) (tmax := tmax) (tcount := tcount) (full := full)
    (y := indV (nodesOf GN nodelist) (memB inf) 1 0) (X0 := some (indV (nodesOf GN nodelist) (memB (rc ++ inf)) 0 1))
    (nl := nodesOf GN nodelist) (by rw [indV_n, hl]) (by intro x hx; cases hx; rw [indV_n, hl]) hl
  refine ⟨x0, l, h, hc, fun h0 => ?_⟩
  have e1 := sumTo_indV' (nodesOf GN nodelist) (memB (rc ++ inf))
  have e2 := sumTo_indV (nodesOf GN nodelist) (memB inf)
  have e3 := pure_counts (nodesOf GN nodelist) inf rc
  rw [hl] at e1 e2 e3
  obtain ⟨a, b, c⟩ := hi h0
  simp only [Option.getD_some] at a c
  rw [e1] at a c
  rw [e2] at b c
  exact ⟨a, b, c.trans e3⟩

/-! ## 8. `SIS_compact_effective_degree`, `EBCM_uniform_introduction` (thin wrappers), `EBCM` -/

/-- `SIS_compact_effective_degree` IS `SIS_compact_pairwise` (same arguments, same exceptions, same arrays): the copy
`GenGlue2.SIS_compact_pairwise` of `Gen/OdeGlue2.lean`.  Nothing is proved about that copy: the theorems of C06d §10 are
about `GenGlue.SIS_compact_pairwise` (`Gen/OdeGlue.lean`), and C06g composes the wrapper with that one. -/
theorem SIS_compact_effective_degree_eq (odeint myodeint : Solver) (Sk0 Ik0 : V) (SI0 SS0 II0 tau gamma tmin tmax : Rat)
    (tcount : Nat) (full : Bool) :
    GenGlue2.SIS_compact_effective_degree odeint myodeint Sk0 Ik0 SI0 SS0 II0 tau gamma tmin tmax tcount full =
      GenGlue2.SIS_compact_pairwise odeint myodeint Sk0 Ik0 SI0 SS0 II0 tau gamma tmin tmax tcount full := by
  unfold GenGlue2.SIS_compact_effective_degree
  simp only [bind_pure]

/-- `EBCM`: `theta = X[:,0]`, `R = X[:,1]`, `S = N ψ̂(theta)`, `I = N − S − R` -/
def outEBCM2 (T : Nat → Rat) (N : Rat) (psihat : Rat → Rat) (full : Bool) (X : Nat → V) : List Out :=
  if full then
    [Out.s T, Out.s (fun i => N * psihat ((X i).f 0)), Out.s (fun i => N - N * psihat ((X i).f 0) - (X i).f 1),
     Out.s (fun i => (X i).f 1), Out.s (fun i => (X i).f 0)]
  else
    [Out.s T, Out.s (fun i => N * psihat ((X i).f 0)), Out.s (fun i => N - N * psihat ((X i).f 0) - (X i).f 1),
     Out.s (fun i => (X i).f 1)]

/-- **call**: never raises; `odeint` solves `Gen.dEBCM` from `X0 = [1, R0]` -/
theorem EBCM_call (odeint myodeint : Solver) (N : Rat) (psihat psihatPrime : Rat → Rat)
    (tau gamma phiS0 phiR0 R0 tmin tmax : Rat) (tcount : Nat) (full : Bool) :
    GenGlue2.EBCM odeint myodeint N psihat psihatPrime tau gamma phiS0 phiR0 R0 tmin tmax tcount full =
      .ok (V.ofList [1, R0], outEBCM2 (linspace tmin tmax tcount) N psihat full
        (odeint (fun st => Gen.dEBCM st N tau gamma psihat psihatPrime phiS0 phiR0) (V.ofList [1, R0]))) := by
  cases full <;> rfl

/-- **call**: `EBCM_uniform_introduction` is `EBCM` with `ψ̂ = (1 − rho) ψ`, `ψ̂' = (1 − rho) ψ'`, `phiS0 = 1 − rho`,
`phiR0 = 0`, `R0 = 0` -/
theorem EBCM_uniform_introduction_call (odeint myodeint : Solver) (N : Rat) (psi psiPrime : Rat → Rat)
    (tau gamma rho tmin tmax : Rat) (tcount : Nat) (full : Bool) :
    GenGlue2.EBCM_uniform_introduction odeint myodeint N psi psiPrime tau gamma rho tmin tmax tcount full =
      .ok (V.ofList [1, 0], outEBCM2 (linspace tmin tmax tcount) N (fun x => (1 - rho) * psi x) full
        (odeint (fun st => Gen.dEBCM st N tau gamma (fun x => (1 - rho) * psi x) (fun x => (1 - rho) * psiPrime x)
          (1 - rho) 0) (V.ofList [1, 0]))) := by
  unfold GenGlue2.EBCM_uniform_introduction
  rw [EBCM_call]

/-- **conservation** `S + I + R = N` at every time index for every solver, and with `RowZero odeint` the initial state
`S(0) = N (1 − rho) ψ(1)`, `R(0) = 0`, `I(0) = N − S(0)` -/
theorem EBCM_uniform_introduction_spec (odeint myodeint : Solver) (N : Rat) (psi psiPrime : Rat → Rat)
    (tau gamma rho tmin tmax : Rat) (tcount : Nat) (full : Bool) :
    ∃ x0 l, GenGlue2.EBCM_uniform_introduction odeint myodeint N psi psiPrime tau gamma rho tmin tmax tcount full
      = .ok (x0, l) ∧ l.length = (if full then 5 else 4) ∧
      (∀ i, get l 1 i + get l 2 i + get l 3 i = N) ∧
      (RowZero odeint → get l 1 0 = N * ((1 - rho) * psi 1) ∧ get l 3 0 = 0 ∧
        get l 2 0 = N - N * ((1 - rho) * psi 1)) := by
  refine ⟨_, _, EBCM_uniform_introduction_call .., ?_, fun i => ?_, fun h0 => ?_⟩
  · cases full <;> rfl
  · cases full <;> simp [outEBCM2] <;> ring
  · cases full <;> simp [outEBCM2, h0 _ _, V.ofList]


/-! ## 9. `EBCM_pref_mix_discrete` (no solver call): the cases without loop passes -/

/-- `rho = None` on an empty population: `rho = 1.0/N` is a `ZeroDivisionError` (first statement) -/
theorem EBCM_pref_mix_discrete_error_zeroDiv (odeint myodeint : Solver) (Pk : List (Nat × Rat))
    (Pnk : List (Nat × List (Nat × Rat))) (p : Rat) (tmin tmax : Int) (full : Bool) :
    GenGlue2.EBCM_pref_mix_discrete odeint myodeint 0 Pk Pnk p none tmin tmax full = .error "ZeroDivisionError" :=
  rfl

/-- `tmax ≤ tmin`: the loop is empty; one row `times = [tmin]`, `S = N(1 − rho)`, `I = N rho`, `R = 0` — no `KeyError`
whatever `Pnk` is -/
theorem EBCM_pref_mix_discrete_empty (odeint myodeint : Solver) (N : Rat) (Pk : List (Nat × Rat))
    (Pnk : List (Nat × List (Nat × Rat))) (p r : Rat) (tmin tmax : Int) (h : tmax ≤ tmin) :
    GenGlue2.EBCM_pref_mix_discrete odeint myodeint N Pk Pnk p (some r) tmin tmax false =
      .ok (PyGlue2.V0, [Out.v (V.ofList [(tmin : Rat)]), Out.v (V.ofList [N * (1 - r)]), Out.v (V.ofList [N * r]),
        Out.v (V.ofList [0])]) := by
  have hr : irange (tmin + 1) (tmax + 1) = [] := by
    have : (tmax + 1 - (tmin + 1)).toNat = 0 := by omega
    unfold irange
    rw [this]; rfl
  -- `theta`, `S`, `I`, `phiS`, `phiI`, `phiR`: the four comprehensions over the keys of `Pk` cannot fail
  refine (bind_ok (GenHelpProofs.mapM_pure _ _) _).trans ((bind_ok rfl _).trans ((bind_ok rfl _).trans
    ((bind_ok (GenHelpProofs.mapM_pure _ _) _).trans ((bind_ok (GenHelpProofs.mapM_pure _ _) _).trans ((bind_ok (GenHelpProofs.mapM_pure _ _) _).trans ?_)))))
  rw [hr]
  rfl


/-! ## 10. closed examples (kernel-checked): the constant solver `constOdeint` (`RowZero`), the drifting solver
`driftOdeint` (row `i` = `X0 + i`), a path graph `0 — 1 — 2`; `rowAt r i` = the exception, or (`X0`, the returned arrays
read at time index `i`) -/

def exNbrs : Nat → List Nat := fun u => if u = 0 then [1] else if u = 1 then [0, 2] else [1]
def exTr : Nat → Nat → Rat := fun _ _ => 1
def exRr : Nat → Rat := fun _ => 1

example : RowZero constOdeint := constOdeint_zero
/-- `rho` form: `X0 = [1/4, 1/4, 1/4]`, `[t, S, I] = [5, 9/4, 3/4]` -/
example : rowAt (GenGlue2.SIS_individual_based constOdeint constOdeint 3 exNbrs exTr exRr (some (1/4)) none none
    0 10 11 false) 5 = .inr ([1/4, 1/4, 1/4], [[5], [9/4], [3/4]]) := by decide +kernel
/-- a solver that does not preserve anything: still `S_k + I_k = 1` per node (full data, time index 2) -/
example : rowAt (GenGlue2.SIS_individual_based driftOdeint constOdeint 3 exNbrs exTr exRr (some (1/4)) none none
    0 10 11 true) 2 = .inr ([1/4, 1/4, 1/4], [[2], [-5/4, -5/4, -5/4], [9/4, 9/4, 9/4]]) := by decide +kernel
/-- error case: `Y0` without `nodelist` -/
example : rowAt (GenGlue2.SIS_individual_based constOdeint constOdeint 3 exNbrs exTr exRr none
    (some (V.ofList [1, 0, 0])) none 0 10 11 false) 5 = .inl "EoNError" := by decide +kernel
/-- **counter-example to conservation without `hn`**: `X0` of length 3 and `Y0` of length 1 are accepted (NumPy
broadcasting in `Rs`), and `S + I + R = 3/2 + 1/2 + 0 = 2 ≠ 3` -/
example : rowAt (GenGlue2.SIR_individual_based constOdeint constOdeint 3 exNbrs exTr exRr none (some (V.ofList [1/2]))
    (some (V.ofList [1/2, 1/2, 1/2])) (some [0, 1, 2]) 0 10 11 false) 0
    = .inr ([1/2, 1/2, 1/2, 1/2], [[0], [3/2], [1/2], [0]]) := by decide +kernel
/-- lengths 3 and 2: `ValueError` -/
example : rowAt (GenGlue2.SIR_individual_based constOdeint constOdeint 3 exNbrs exTr exRr none
    (some (V.ofList [1/2, 1/2])) (some (V.ofList [1/2, 1/2, 1/2])) (some [0, 1, 2]) 0 10 11 false) 0
    = .inl "ValueError" := by decide +kernel
/-- pure initial condition, node 0 infected and also listed as recovered (with node 2): node 0 starts infected;
`X0 = [0,1,0]`, `Y0 = [1,0,0]`, `S, I, R = 1, 1, 1` -/
example : rowAt (GenGlue2.SIR_individual_based_pure_IC driftOdeint constOdeint 3 exNbrs exTr exRr [0] (some [2, 0]) none
    0 10 11 true) 0 = .inr ([0, 1, 0, 1, 0, 0], [[0], [1], [1], [1], [0, 1, 0], [1, 0, 0], [0, 0, 1]]) := by
  decide +kernel
/-- `SIS_pair_based` with `rho` AND `nodelist` returns normally (`myodeint` is the solver used: the drift shows) -/
example : rowAt (GenGlue2.SIS_pair_based constOdeint driftOdeint 2 exNbrs exTr exRr (some (1/4)) (some [1, 0]) none none
    none 0 10 11 false) 3
    = .inr ([1/4, 1/4, 0, 3/16, 3/16, 0, 0, 9/16, 9/16, 0], [[3], [-9/2], [13/2]]) := by decide +kernel
/-- **surprise**: a node list of length 1 on a graph with 2 nodes is accepted (the 1×1 adjacency matrix is broadcast:
all pair variables are multiplied by "node 0 has a self-loop" = 0) -/
example : rowAt (GenGlue2.SIS_pair_based constOdeint constOdeint 2 exNbrs exTr exRr (some (1/4)) (some [0]) none none
    none 0 10 11 true) 0
    = .inr ([1/4, 1/4, 0, 0, 0, 0, 0, 0, 0, 0],
        [[0], [3/2], [1/2], [3/4, 3/4], [1/4, 1/4], [0, 0, 0, 0], [0, 0, 0, 0]]) := by decide +kernel
/-- a node list of length 3 on a graph with 2 nodes: `ValueError` (broadcasting of `XY0 * A`) -/
example : rowAt (GenGlue2.SIS_pair_based constOdeint constOdeint 2 exNbrs exTr exRr (some (1/4)) (some [0, 1, 2]) none
    none none 0 10 11 true) 0 = .inl "ValueError" := by decide +kernel
/-- `SIR_pair_based`, `rho` and `nodelist`; and neither `rho` nor `Y0` (`rho = 1/N = 1/2`) -/
example : rowAt (GenGlue2.SIR_pair_based constOdeint constOdeint 2 exNbrs exTr exRr (some (1/4)) (some [1, 0]) none none
    none none 0 10 11 false) 3
    = .inr ([3/4, 3/4, 1/4, 1/4, 0, 3/16, 3/16, 0, 0, 9/16, 9/16, 0], [[3], [3/2], [1/2], [0]]) := by decide +kernel
example : rowAt (GenGlue2.SIR_pair_based constOdeint constOdeint 2 exNbrs exTr exRr none (some [1, 0]) none none
    none none 0 10 11 false) 3
    = .inr ([1/2, 1/2, 1/2, 1/2, 0, 1/4, 1/4, 0, 0, 1/4, 1/4, 0], [[3], [1], [1], [0]]) := by decide +kernel
/-- `EBCM_pref_mix_discrete`, two passes: `times = 0,1,2`; `S + I + R = 100` in every column; `R(n+1) = R(n) + I(n)` -/
example : rowAt (GenGlue2.EBCM_pref_mix_discrete constOdeint constOdeint 100 [(1, 1/2), (2, 1/2)]
    [(1, [(1, 1/3), (2, 2/3)]), (2, [(1, 1/3), (2, 2/3)])] (1/2) (some (1/10)) 0 2 false) 0
    = .inr ([], [[0, 1, 2], [90, 6669/80, 651321/8000], [10, 531/80, 15579/8000], [0, 10, 1331/80]]) := by
  decide +kernel
/-- a key (3) of `Pnk[1]` that is not a key of `Pk`: `KeyError` (`theta[k2]`) — but only once the loop runs -/
example : rowAt (GenGlue2.EBCM_pref_mix_discrete constOdeint constOdeint 100 [(1, 1/2), (2, 1/2)]
    [(1, [(1, 1/3), (3, 2/3)]), (2, [(1, 1/3), (2, 2/3)])] (1/2) (some (1/10)) 0 2 false) 0 = .inl "KeyError" := by
  decide +kernel
example : rowAt (GenGlue2.EBCM_pref_mix_discrete constOdeint constOdeint 100 [(1, 1/2), (2, 1/2)]
    [(1, [(1, 1/3), (3, 2/3)]), (2, [(1, 1/3), (2, 2/3)])] (1/2) (some (1/10)) 0 0 false) 0
    = .inr ([], [[0], [90], [10], [0]]) := by decide +kernel
/-- the hypotheses of the pair-based theorems are satisfiable -/
example : ∃ x0 l, GenGlue2.SIR_pair_based constOdeint constOdeint 2 exNbrs exTr exRr (some (1/4)) (some [1, 0]) none none
    none none 0 10 11 false = .ok (x0, l) ∧ (∀ i, get l 1 i + get l 2 i + get l 3 i = ((2 : Nat) : Rat)) ∧
    (RowZero constOdeint → get l 1 0 = (1 - 1/4) * ((2 : Nat) : Rat) ∧ get l 2 0 = 1/4 * ((2 : Nat) : Rat) ∧ get l 3 0 = 0) :=
  SIR_pair_based_rho (nodelist := some [1, 0]) rfl

end GenGlue2Props
