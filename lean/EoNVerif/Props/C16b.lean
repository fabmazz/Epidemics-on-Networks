import EoNVerif.Gen.ListDictGen
import EoNVerif.Model.GenLDOps
import EoNVerif.Proofs.GenLD
import EoNVerif.Props.C16
/-!
C16b — refinement: the Lean code GENERATED statement by statement from the Python class `_ListDict_`
(`/repo/EoN/simulation.py`; generated file `EoNVerif/Gen/ListDictGen.lean`, namespace `GenLD`, re-generated from the Python
source on every verification run) and the hand-written model `LD` (`EoNVerif/Model/ListDict.lean`) simulate each other,
so the C16 theorems proved about `LD` hold for the generated code.

* `gen_*_refines` is the direction model ⇒ generated (where `LD` performs an operation the generated code returns normally
  in a related state: it does not get stuck); `gen_*_refines_back` is generated ⇒ model (every normal return is a step of
  `LD`, for calls that pass a weight iff the structure is weighted, `opTyped`).  The C16 facts (from `gen_history_inv` on) rest on the second.

* `GenLD.R p l` (defined in `EoNVerif/Proofs/GenLD.lean`): every modelled attribute of the generated state `p` equals
  the corresponding field of `l` (items, weighted, weight as association lists, max_weight, max_weight_count,
  _total_weight) and `item_to_position` — which the hand model abstracts away — is exactly the position map of `items`.
  Equivalently (`gen_R_iff`): `l = GenLD.toLD p` and `item_to_position` is the position map.
-/
namespace GenLD
variable {α : Type} [DecidableEq α]

/-- `__init__`: a freshly constructed `_ListDict_` is related to the empty hand model. -/
theorem gen_init_R (b : Bool) : R (init b : PyLD α) (LD.empty b) := init_R b

/-- the relation is functional: `l` is the abstraction of `p` (all attributes except `item_to_position`), and
`item_to_position[x]` is the index of `x` in `items` for exactly the listed `x`. -/
theorem gen_R_iff (p : PyLD α) (l : LD α) :
    R p l ↔ (l = toLD p ∧ (∀ x, alHas p.item_to_position x = true ↔ x ∈ p.items) ∧
      (∀ x ∈ p.items, PyRT.alFind? p.item_to_position x = some (p.items.idxOf x))) :=
  ⟨fun h => ⟨R_toLD h, h.pos_keys, h.pos_val⟩,
    fun ⟨hl, h1, h2⟩ => hl ▸ ⟨rfl, rfl, rfl, rfl, rfl, rfl, h1, h2⟩⟩

/-- `remove`, forward: whenever the hand model removes `x` (i.e. `x` is listed), the generated
code returns normally — no `KeyError` from either `pop`, no `IndexError` from `items[position] = last_item`, no
`ValueError` from `max` in `_update_max_weight` — and the resulting states are related.  In particular the explicit
`self._total_weight = 0` on an emptied list (`if len(self.items) == 0`) agrees with the hand model's exact `total - w`. -/
theorem gen_remove_refines (p : PyLD α) (l l' : LD α) (x : α) (hR : R p l) (hI : LD.Inv l)
    (h : l.remove x = some l') : ∃ p', remove p x = .ok p' ∧ R p' l' :=
  remove_sim p l l' x hR hI h

/-- `remove` of an item that is not listed raises `KeyError` (`self.item_to_position.pop(choice)`, its first statement); this is
the case in which the hand model returns `none`. -/
theorem gen_remove_keyError (p : PyLD α) (l : LD α) (x : α) (hR : R p l) (hx : x ∉ l.items) :
    remove p x = .error "KeyError" ∧ l.remove x = none :=
  remove_keyError p l x hR hx

/-- `remove`, backward: every normal return of the generated code is a step of the hand model. -/
theorem gen_remove_refines_back (p p' : PyLD α) (l : LD α) (x : α) (hR : R p l) (hI : LD.Inv l)
    (h : remove p x = .ok p') : ∃ l', l.remove x = some l' ∧ R p' l' :=
  remove_sim_back p p' l x hR hI h

/-- `update`, forward: whenever the hand model performs the update the generated code returns
normally with a related state.  The reads `self.weight[item]` of the `defaultdict` (which insert a 0 entry — not
modelled by hand) never change the result, and `len(self.items)-1` is the index of the appended item.
(The converse fails only for a weight passed to an unweighted structure, where Python raises `AttributeError`; see
`gen_update_refines_back`.) -/
theorem gen_update_refines (p : PyLD α) (l l' : LD α) (x : α) (w : Option Rat) (hR : R p l)
    (h : l.update x w = some l') : ∃ p', update p x w = .ok p' ∧ R p' l' :=
  update_sim p l l' x w hR h

/-- `update`, backward, for the calls the simulators make (a weight increment is passed iff the structure is
weighted). -/
theorem gen_update_refines_back (p p' : PyLD α) (l : LD α) (x : α) (w : Option Rat) (hR : R p l)
    (hw : w.isSome = l.weighted) (h : update p x w = .ok p') : ∃ l', l.update x w = some l' ∧ R p' l' :=
  update_sim_back p p' l x w hR hw h

/-- `insert`, forward. -/
theorem gen_insert_refines (p : PyLD α) (l l' : LD α) (x : α) (w : Option Rat) (hR : R p l) (hI : LD.Inv l)
    (h : l.insert x w = some l') : ∃ p', insert p x w = .ok p' ∧ R p' l' :=
  insert_sim p l l' x w hR hI h

/-- `insert`, backward, for the calls the simulators make. -/
theorem gen_insert_refines_back (p p' : PyLD α) (l : LD α) (x : α) (w : Option Rat) (hR : R p l) (hI : LD.Inv l)
    (hw : w.isSome = l.weighted) (h : insert p x w = .ok p') : ∃ l', l.insert x w = some l' ∧ R p' l' :=
  insert_sim_back p p' l x w hR hI hw h

/-- histories, forward: every run of the hand model on a history of insert / update / remove with non-negative weights,
started from the empty structure, is matched step by step by the generated code started from `__init__`. -/
theorem gen_history_refines (b : Bool) (ops : List (LD.Op α)) (l' : LD α) (hw : ∀ o ∈ ops, o.nonneg)
    (h : (LD.empty b : LD α).applyOps ops = some l') :
    ∃ p', applyOps (init b : PyLD α) ops = .ok p' ∧ R p' l' :=
  applyOps_sim_from _ _ l' ops (init_R b) (LD.inv_empty b) hw h

/-- histories, backward: every normally terminating run of the generated code on a non-negative history in which a
weight is passed iff the structure is weighted is a run of the hand model. -/
theorem gen_history_refines_back (b : Bool) (ops : List (LD.Op α)) (p' : PyLD α) (hw : ∀ o ∈ ops, o.nonneg)
    (ht : ∀ o ∈ ops, opTyped b o = true) (h : applyOps (init b : PyLD α) ops = .ok p') :
    ∃ l', (LD.empty b : LD α).applyOps ops = some l' ∧ R p' l' :=
  applyOps_sim_back_from _ p' _ ops (init_R b) (LD.inv_empty b) hw ht h

/-- `choose_random` on a tape of scripted draws: the generated code returns the item the hand
model selects; its only possible state change (the `defaultdict` read `self.weight[choice]`) is void because every
listed item has a weight entry, so the state stays related (indeed unchanged, `choose_random_eq`). -/
theorem gen_choose_refines (p : PyLD α) (l : LD α) (draws : List (Nat × Rat)) (c : α) (k : Nat)
    (hR : R p l) (hI : LD.Inv l) (h : l.chooseRandom draws = some (c, k)) :
    ∃ p', choose_random p draws = .ok (p', c) ∧ R p' l :=
  ⟨p, choose_random_sim p l draws c k hR hI h, hR⟩

/-- `choose_random`: generated code and hand model select the same item on every tape, and fail together. -/
theorem gen_choose_iff (p : PyLD α) (l : LD α) (draws : List (Nat × Rat)) (c : α) (hR : R p l) (hI : LD.Inv l) :
    choose_random p draws = .ok (p, c) ↔ ∃ k, l.chooseRandom draws = some (c, k) :=
  ⟨fun h => (choose_random_sim_back p p l draws c hR hI h).2,
    fun ⟨k, hk⟩ => choose_random_sim p l draws c k hR hI hk⟩

/-- `total_weight()` returns the hand model's `totalWeight` and does not change the state. -/
theorem gen_total_weight_refines (p : PyLD α) (l : LD α) (hR : R p l) :
    total_weight p = .ok (p, l.totalWeight) :=
  total_weight_sim p l hR

/-! ## the C16 facts, for the generated code

Setting: `p` is the state reached by the generated code from `__init__(weighted = b)` after a history `ops` of
`insert` / `update` / `remove` calls that returned normally, all weights non-negative (`LD.Op.nonneg`), a weight being
passed iff `b` (`opTyped`). -/

/-- the reached state is the abstraction of a hand-model run and satisfies the C16 invariant `LD.Inv` -/
theorem gen_history_inv (b : Bool) (ops : List (LD.Op α)) (p : PyLD α) (hw : ∀ o ∈ ops, o.nonneg)
    (ht : ∀ o ∈ ops, opTyped b o = true) (h : applyOps (init b : PyLD α) ops = .ok p) :
    (LD.empty b : LD α).applyOps ops = some (toLD p) ∧ R p (toLD p) ∧ LD.Inv (toLD p) := by
  obtain ⟨l, hl, hR⟩ := gen_history_refines_back b ops p hw ht h
  obtain rfl := R_toLD hR
  exact ⟨hl, hR, LD.ld_inv b ops _ hw hl⟩

/-- (a) **the clock**: `total_weight()` returns the sum of the current weights of the listed items (weighted) or the
number of items (unweighted): the incrementally maintained `_total_weight` never drifts from the true sum. -/
theorem gen_total (b : Bool) (ops : List (LD.Op α)) (p : PyLD α) (hw : ∀ o ∈ ops, o.nonneg)
    (ht : ∀ o ∈ ops, opTyped b o = true) (h : applyOps (init b : PyLD α) ops = .ok p) :
    total_weight p = .ok (p, if p.weighted then sumRat (p.items.map fun x => alGet p.weight 0 x)
                             else (p.items.length : Rat)) := by
  obtain ⟨hl, hR, -⟩ := gen_history_inv b ops p hw ht h
  rw [total_weight_sim p _ hR, LD.ld_total b ops _ hw hl]
  rfl

/-- (b) **positions**: `items` has no duplicates, `item_to_position` has exactly the listed items as keys, and
`item_to_position[items[i]] = i` for every index `i` — so `remove` always swaps the right slot. -/
theorem gen_positions (b : Bool) (ops : List (LD.Op α)) (p : PyLD α) (hw : ∀ o ∈ ops, o.nonneg)
    (ht : ∀ o ∈ ops, opTyped b o = true) (h : applyOps (init b : PyLD α) ops = .ok p) :
    p.items.Nodup ∧ (∀ x, contains__ p x = true ↔ x ∈ p.items) ∧
      (∀ x ∈ p.items, PyRT.alFind? p.item_to_position x = some (p.items.idxOf x)) ∧
      (∀ i (hi : i < p.items.length), PyRT.alFind? p.item_to_position p.items[i] = some i) := by
  obtain ⟨-, hR, hI⟩ := gen_history_inv b ops p hw ht h
  have hn : p.items.Nodup := hI.nodup
  refine ⟨hn, hR.pos_keys, hR.pos_val, ?_⟩
  intro i hi
  rw [hR.pos_val _ (List.getElem_mem hi), hn.idxOf_getElem]

/-- (c1) **weights**: every listed item has a weight entry with `0 ≤ weight ≤ max_weight`, so the acceptance
threshold `weight[c]/max_weight` of the rejection step is a probability. -/
theorem gen_weight_bounds (b : Bool) (ops : List (LD.Op α)) (p : PyLD α) (hw : ∀ o ∈ ops, o.nonneg)
    (ht : ∀ o ∈ ops, opTyped b o = true) (h : applyOps (init b : PyLD α) ops = .ok p)
    (hwt : p.weighted = true) (x : α) (hx : x ∈ p.items) :
    alHas p.weight x = true ∧ 0 ≤ alGet p.weight 0 x ∧ alGet p.weight 0 x ≤ p.max_weight := by
  obtain ⟨-, -, hI⟩ := gen_history_inv b ops p hw ht h
  exact ⟨(hI.keys hwt x).2 hx, hI.nonneg hwt x hx, hI.le_max hwt x hx⟩

/-- (c2) **one round of `choose_random`**: the item `c` at the drawn index is accepted exactly when the drawn number
`r` is below `weight[c]/max_weight` (so, given `c`, with probability proportional to its weight); otherwise the next
round runs on the unchanged state. -/
theorem gen_choose_round (b : Bool) (ops : List (LD.Op α)) (p : PyLD α) (hw : ∀ o ∈ ops, o.nonneg)
    (ht : ∀ o ∈ ops, opTyped b o = true) (h : applyOps (init b : PyLD α) ops = .ok p)
    (hwt : p.weighted = true) (i : Nat) (r : Rat) (rest : List (Nat × Rat)) (c : α) (hi : p.items[i]? = some c) :
    choose_random p ((i, r) :: rest) =
      if r < alGet p.weight 0 c / p.max_weight then .ok (p, c) else choose_random p rest := by
  obtain ⟨-, hR, hI⟩ := gen_history_inv b ops p hw ht h
  have htouch : PyRT.ddTouch p.weight c = p.weight :=
    ddTouch_of_alHas _ _ ((hI.keys hwt c).2 (List.mem_of_getElem? hi))
  obtain ⟨itp, items, wd, wt, mw, tw, mc⟩ := p
  simp only at hwt htouch hi
  subst hwt
  rw [choose_random]
  simp only [PyRT.listChoice, hi, ExceptStep.pure_eq_ok, ExceptStep.ok_bind, if_true, htouch]

/-- (c3) **pathwise**: on every tape of draws with `random.random()` values `≥ 0`, the selected element is a listed
item, has positive weight (zero-weight items are never selected), and the state is unchanged. -/
theorem gen_choose_tape (b : Bool) (ops : List (LD.Op α)) (p : PyLD α) (hw : ∀ o ∈ ops, o.nonneg)
    (ht : ∀ o ∈ ops, opTyped b o = true) (h : applyOps (init b : PyLD α) ops = .ok p)
    (draws : List (Nat × Rat)) (hd : ∀ d ∈ draws, 0 ≤ d.2) (p' : PyLD α) (c : α)
    (hc : choose_random p draws = .ok (p', c)) :
    p' = p ∧ c ∈ p.items ∧ (p.weighted = true → 0 < alGet p.weight 0 c) := by
  obtain ⟨-, hR, hI⟩ := gen_history_inv b ops p hw ht h
  obtain ⟨hp, k, hk⟩ := choose_random_sim_back p p' _ draws c hR hI hc
  exact ⟨hp, LD.ld_choose_tape _ hI draws hd c k hk⟩

/-- (c4) **selection law**: the tape run of the generated `choose_random` is the tape run of `(toLD p).chooseRandom`
(first conjunct), whose law `chooseDist` — uniform index, then Bernoulli with the same threshold expression — selects
`x` within `k` rounds with probability `w_x/Σw · (1-ρ^k)`, where `ρ ∈ [0,1)` is the one-round rejection probability. -/
theorem gen_choose_law (b : Bool) (ops : List (LD.Op α)) (p : PyLD α) (hw : ∀ o ∈ ops, o.nonneg)
    (ht : ∀ o ∈ ops, opTyped b o = true) (h : applyOps (init b : PyLD α) ops = .ok p)
    (hwt : p.weighted = true) (hpos : 0 < sumRat (p.items.map fun x => alGet p.weight 0 x))
    (x : α) (hx : x ∈ p.items) (k : Nat) :
    (∀ draws c, choose_random p draws = .ok (p, c) ↔ ∃ n, (toLD p).chooseRandom draws = some (c, n)) ∧
    Dist.mass ((toLD p).chooseDist k) (fun o => o == some x)
      = alGet p.weight 0 x / sumRat (p.items.map fun x => alGet p.weight 0 x) * (1 - (toLD p).rejProb ^ k) ∧
    0 ≤ (toLD p).rejProb ∧ (toLD p).rejProb < 1 := by
  obtain ⟨-, hR, hI⟩ := gen_history_inv b ops p hw ht h
  exact ⟨fun draws c => gen_choose_iff p _ draws c hR hI,
    LD.ld_choose_law (toLD p) hI hwt hpos x hx k, LD.ld_rej_lt_one (toLD p) hI hwt hpos⟩

end GenLD

/-! ## non-vacuity: a concrete 5-operation weighted history (with a change of the heaviest element, which exercises
`_update_max_weight`, and a swap-remove of an inner element) -/
namespace GenLD.Example

def ops : List (LD.Op Nat) := [.ins 1 (some 3), .ins 2 (some 1), .upd 2 (some (1/2)), .rem 1, .ins 3 (some 2)]

def final : PyLD Nat :=
  { item_to_position := [(2, 0), (3, 1)], items := [2, 3], weighted := true, weight := [(2, 3/2), (3, 2)],
    max_weight := 2, total_weight_ := 7/2, max_weight_count := 1 }

/-- observable attributes of a run result (for `decide`), in two halves -/
def obs1 (r : Except String (PyLD Nat)) : Option (List (Nat × Nat) × List Nat × Bool) :=
  match r with
  | .ok s => some (s.item_to_position, s.items, s.weighted)
  | .error _ => none

def obs2 (r : Except String (PyLD Nat)) : Option (List (Nat × Rat) × Rat × Rat × Int) :=
  match r with
  | .ok s => some (s.weight, s.max_weight, s.total_weight_, s.max_weight_count)
  | .error _ => none

/-- the generated code runs on the history and reaches `final` -/
theorem run : applyOps (init true : PyLD Nat) ops = .ok final := by
  obtain ⟨h1, h2⟩ : obs1 (applyOps (init true) ops) = obs1 (.ok final) ∧
      obs2 (applyOps (init true) ops) = obs2 (.ok final) := by decide +kernel
  cases hr : applyOps (init true : PyLD Nat) ops with
  | error e => rw [hr] at h1; simp [obs1] at h1
  | ok s =>
    rw [hr] at h1 h2
    obtain ⟨itp, items, wd, wt, mw, tw, mc⟩ := s
    simp only [obs1, obs2, final, Option.some.injEq, Prod.mk.injEq] at h1 h2
    obtain ⟨rfl, rfl, rfl⟩ := h1
    obtain ⟨rfl, rfl, rfl, rfl⟩ := h2
    rfl

theorem ops_nonneg : ∀ o ∈ ops, o.nonneg := by
  intro o ho
  simp only [ops, List.mem_cons, List.not_mem_nil, or_false] at ho
  rcases ho with rfl | rfl | rfl | rfl | rfl <;> simp [LD.Op.nonneg]

theorem ops_typed : ∀ o ∈ ops, opTyped true o = true := by decide

/-- the hand model runs on the same history (hypothesis of the forward theorems) -/
example : ((LD.empty true : LD Nat).applyOps ops).map (fun s => (s.items, s.weight, s.maxW, s.maxCnt, s.total))
    = some ([2, 3], [(2, 3/2), (3, 2)], 2, 1, 7/2) := by decide +kernel

/-- `gen_history_refines` instantiated: some generated run is related to the hand-model run -/
example : ∃ l' p', (LD.empty true : LD Nat).applyOps ops = some l' ∧
    applyOps (init true : PyLD Nat) ops = .ok p' ∧ R p' l' := by
  obtain ⟨hl, hR, -⟩ := gen_history_inv true ops final ops_nonneg ops_typed run
  obtain ⟨p', hp', hR'⟩ := gen_history_refines true ops _ ops_nonneg hl
  exact ⟨_, p', hl, hp', hR'⟩

/-- `gen_total` instantiated: the clock of the reached state is 3/2 + 2 -/
example : total_weight final = .ok (final, 7/2) := by
  rw [gen_total true ops final ops_nonneg ops_typed run]
  have : (if final.weighted = true then sumRat (final.items.map fun x => alGet final.weight 0 x)
      else (final.items.length : Rat)) = 7/2 := by decide +kernel
  rw [this]

/-- `gen_positions` instantiated -/
example : final.items.Nodup ∧ PyRT.alFind? final.item_to_position 3 = some 1 := by
  obtain ⟨h1, -, h3, -⟩ := gen_positions true ops final ops_nonneg ops_typed run
  exact ⟨h1, h3 3 (by decide)⟩

/-- `gen_remove_keyError` instantiated: removing the already removed item 1 raises KeyError -/
example : remove final 1 = .error "KeyError" :=
  (gen_remove_keyError final _ 1 (gen_history_inv true ops final ops_nonneg ops_typed run).2.1 (by decide)).1

/-- `gen_choose_round` / `gen_choose_tape` instantiated: item 2 (weight 3/2, threshold 3/4) is rejected by the draw
9/10, then item 3 (threshold 1) is accepted by the draw 1/2 -/
theorem choose_run : choose_random final [(0, 9/10), (1, 1/2)] = .ok (final, 3) := by
  rw [gen_choose_round true ops final ops_nonneg ops_typed run rfl 0 (9/10) _ 2 rfl,
    if_neg (by decide +kernel),
    gen_choose_round true ops final ops_nonneg ops_typed run rfl 1 (1/2) _ 3 rfl,
    if_pos (by decide +kernel)]

example : (3 : Nat) ∈ final.items ∧ 0 < alGet final.weight 0 3 :=
  have h := gen_choose_tape true ops final ops_nonneg ops_typed run [(0, 9/10), (1, 1/2)]
    (by decide +kernel) final 3 choose_run
  ⟨h.2.1, h.2.2 rfl⟩

/-- `gen_choose_law` instantiated: item 3 is selected within 2 rounds with probability (2 / (7/2)) (1 - (1/8)^2) -/
example : Dist.mass ((toLD final).chooseDist 2) (fun o => o == some 3) = 4/7 * (1 - (1/8)^2) := by
  have h := (gen_choose_law true ops final ops_nonneg ops_typed run rfl (by decide +kernel) 3 (by decide) 2).2.1
  rw [h]
  norm_num [toLD, final, LD.rejProb, LD.weightSum, LD.getW, alGet]

/-- single steps from the reached state: `gen_remove_refines` (swap-remove of the inner item 2),
`gen_update_refines` (a zero increment on the heaviest item 3: the double decrement of `max_weight_count`),
`gen_insert_refines` (replacement of the present item 2 = `remove` then `update`) -/
theorem final_R : R final (toLD final) ∧ LD.Inv (toLD final) :=
  (gen_history_inv true ops final ops_nonneg ops_typed run).2

example : ∃ l' p', (toLD final).remove 2 = some l' ∧ remove final 2 = .ok p' ∧ R p' l' := by
  obtain ⟨l', hl', -⟩ := LD.remove_shape (toLD final) 2 (by decide)
  obtain ⟨p', hp', hR'⟩ := gen_remove_refines final _ l' 2 final_R.1 final_R.2 hl'
  exact ⟨l', p', hl', hp', hR'⟩

example : obs1 (remove final 2) = some ([(3, 0)], [3], true) ∧
    obs2 (remove final 2) = some ([(3, 2)], 2, 2, 1) := by decide +kernel

example : ∃ l' p', (toLD final).update 3 (some 0) = some l' ∧ update final 3 (some 0) = .ok p' ∧ R p' l' := by
  obtain ⟨l', hl'⟩ := LD.update_exists (toLD final) 3 (some 0) rfl
  obtain ⟨p', hp', hR'⟩ := gen_update_refines final _ l' 3 (some 0) final_R.1 hl'
  exact ⟨l', p', hl', hp', hR'⟩

example : obs2 (update final 3 (some 0)) = some ([(2, 3/2), (3, 2)], 2, 7/2, -1) := by decide +kernel

example : ∃ l' p', (toLD final).insert 2 (some 5) = some l' ∧ insert final 2 (some 5) = .ok p' ∧ R p' l' := by
  obtain ⟨l', hl'⟩ := insert_isSome (toLD final) 2 (some 5) rfl
  obtain ⟨p', hp', hR'⟩ := gen_insert_refines final _ l' 2 (some 5) final_R.1 final_R.2 hl'
  exact ⟨l', p', hl', hp', hR'⟩

example : obs1 (insert final 2 (some 5)) = some ([(3, 0), (2, 1)], [3, 2], true) ∧
    obs2 (insert final 2 (some 5)) = some ([(3, 2), (2, 5)], 5, 7, 1) := by decide +kernel

/-- backward theorems instantiated on the same steps -/
example : ∃ l', (toLD final).remove 2 = some l' := by
  cases hr : remove final 2 with
  | error e => exact absurd (show obs1 (remove final 2) = none by rw [hr]; rfl) (by decide +kernel)
  | ok p' =>
    obtain ⟨l', hl', -⟩ := gen_remove_refines_back final p' _ 2 final_R.1 final_R.2 hr
    exact ⟨l', hl'⟩

/-- `gen_weight_bounds` instantiated -/
example : 0 ≤ alGet final.weight 0 2 ∧ alGet final.weight 0 2 ≤ final.max_weight :=
  (gen_weight_bounds true ops final ops_nonneg ops_typed run rfl 2 (by decide)).2

/-- `gen_total_weight_refines`, `gen_choose_refines` instantiated -/
example : total_weight final = .ok (final, (toLD final).totalWeight) :=
  gen_total_weight_refines final _ final_R.1

example : ∃ p', choose_random final [(0, 9/10), (1, 1/2)] = .ok (p', 3) ∧ R p' (toLD final) :=
  gen_choose_refines final _ _ 3 2 final_R.1 final_R.2 (by decide +kernel)

end GenLD.Example
