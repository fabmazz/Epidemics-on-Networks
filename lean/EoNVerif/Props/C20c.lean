import EoNVerif.Proofs.GenHelp
import EoNVerif.Props.C20
/-!
C20c — the C20 statements about the degree-distribution helpers for the Lean code GENERATED from `EoN/analytic.py`
(`GenHelp.get_Pk`, `get_PGF`, `get_PGFPrime`, `get_PGFDPrime`, `get_Pnk`, `estimate_R0` of Gen/HelpersGen.lean), obtained by proving
the generated code equal to the hand-written models `Helpers.Pk / psi / psiP / psiDP / R0` of C20, for ALL inputs.
Lemmas: Proofs/GenHelp.lean.

Error domains (exact):
* `get_Pk` never raises — not even for an empty degree list (`Counter([])` is empty, the division by `len(degs) = 0` sits
  inside the comprehension and is never reached): `get_Pk [] = .ok []`.
* `get_PGF*` raise ValueError exactly for the empty dict (`max(Pk.keys())`).
* `get_Pnk` never raises, for any list of neighbour-degree lists (the division `1/(k1·N_k1)` is reached only for a node of
  degree `k1 ≥ 1`, which is itself counted in `N_k1`).
* `estimate_R0`: first the transmissibility (EoNError when `transmissibility`, and `tau` or `gamma`, are missing;
  ZeroDivisionError when `tau + gamma = 0`), THEN ValueError for an empty graph (from `get_PGFDPrime({})`, not a
  ZeroDivisionError), then ZeroDivisionError when `ψ'(1) = 0`, i.e. when every degree is 0.
-/
namespace GenHelpDeg
open GenHelpProofs

/-! ### 1. get_Pk -/

theorem eq_PkAL {degs : List Nat} {d : List (Nat × Rat)} (h : GenHelp.get_Pk degs = .ok d) : d = PkAL degs := by
  rw [get_Pk_eq] at h
  exact (Except.ok.inj h).symm

/-- **generated get_Pk**, every `degs` (also `[]`): never an error; the keys are the distinct degrees in order of first
occurrence (`List.eraseDups` keeps first occurrences), without repetition, and the stored / defaulted value at every `k`
(key or not) is `Helpers.Pk degs k = N_k / N` -/
theorem gen_get_Pk_spec (degs : List Nat) :
    ∃ d : List (Nat × Rat), GenHelp.get_Pk degs = .ok d ∧
      d.map (·.1) = degs.eraseDups ∧ (d.map (·.1)).Nodup ∧ (∀ k, k ∈ d.map (·.1) ↔ k ∈ degs) ∧
      ∀ k, alGet d 0 k = Helpers.Pk degs k := by
  refine ⟨PkAL degs, get_Pk_eq degs, PkAL_keys degs, ?_, ?_, PkAL_get degs⟩
  · rw [PkAL_keys]; exact nodup_eraseDups degs
  · intro k; rw [PkAL_keys]; exact List.mem_eraseDups

/-- the empty degree list gives the empty dict — no ZeroDivisionError -/
theorem gen_get_Pk_nil : GenHelp.get_Pk [] = .ok [] := rfl

/-- a degree that does not occur: the dict has no such key and both sides are 0 -/
theorem gen_get_Pk_absent (degs : List Nat) (d : List (Nat × Rat)) (h : GenHelp.get_Pk degs = .ok d) (k : Nat)
    (hk : k ∉ degs) : alHas d k = false ∧ alGet d 0 k = 0 ∧ Helpers.Pk degs k = 0 := by
  obtain rfl := eq_PkAL h
  have h0 : Helpers.Pk degs k = 0 := by
    have : Helpers.countEq degs k = 0 := by
      unfold Helpers.countEq
      rw [List.length_eq_zero_iff, List.filter_eq_nil_iff]
      intro a ha
      have : a ≠ k := fun e => hk (e ▸ ha)
      simpa using this
    simp [Helpers.Pk, this]
  refine ⟨?_, by rw [PkAL_get, h0], h0⟩
  cases hh : alHas (PkAL degs) k with
  | false => rfl
  | true =>
    have := (mem_alKeys_iff (PkAL degs) k).2 hh
    rw [alKeys, PkAL_keys, List.mem_eraseDups] at this
    exact absurd this hk

/-- the stored value times `N` is the number of nodes of degree `k` (C20 `Pk_hist`) -/
theorem gen_Pk_hist (degs : List Nat) (hne : degs ≠ []) (d : List (Nat × Rat)) (h : GenHelp.get_Pk degs = .ok d) (k : Nat) :
    alGet d 0 k * (degs.length : Rat) = (Helpers.countEq degs k : Rat) := by
  obtain rfl := eq_PkAL h
  rw [PkAL_get]
  exact Helpers.Pk_hist degs hne k

/-! ### 2. the generating functions -/

/-- **generated get_PGF ∘ get_Pk = ψ** (as functions), for every non-empty degree list -/
theorem gen_get_PGF_eq (degs : List Nat) (hne : degs ≠ []) (d : List (Nat × Rat)) (h : GenHelp.get_Pk degs = .ok d) :
    GenHelp.get_PGF d = .ok (Helpers.psi degs) :=
  eq_PkAL h ▸ get_PGF_PkAL degs hne
theorem gen_get_PGFPrime_eq (degs : List Nat) (hne : degs ≠ []) (d : List (Nat × Rat)) (h : GenHelp.get_Pk degs = .ok d) :
    GenHelp.get_PGFPrime d = .ok (Helpers.psiP degs) :=
  eq_PkAL h ▸ get_PGFPrime_PkAL degs hne
theorem gen_get_PGFDPrime_eq (degs : List Nat) (hne : degs ≠ []) (d : List (Nat × Rat)) (h : GenHelp.get_Pk degs = .ok d) :
    GenHelp.get_PGFDPrime d = .ok (Helpers.psiDP degs) :=
  eq_PkAL h ▸ get_PGFDPrime_PkAL degs hne

/-- the empty dict: `max()` of an empty sequence -/
theorem gen_get_PGF_valueError : GenHelp.get_PGF [] = .error "ValueError" := rfl
theorem gen_get_PGFPrime_valueError : GenHelp.get_PGFPrime [] = .error "ValueError" := rfl
theorem gen_get_PGFDPrime_valueError : GenHelp.get_PGFDPrime [] = .error "ValueError" := rfl

/-- the three PGF helpers raise ValueError on the result of `get_Pk` for an empty graph (it is the empty dict) -/
theorem gen_get_PGF_empty_graph (d : List (Nat × Rat)) (h : GenHelp.get_Pk [] = .ok d) :
    GenHelp.get_PGF d = .error "ValueError" := by
  injection h with h
  subst h
  rfl

/-- an arbitrary non-empty dict `Pk` (keys possibly repeated — `alGet` reads the first binding —, values arbitrary):
`get_PGF(Pk)(x) = Σ_{k ≤ max key} Pk.get(k,0)·x^k`, and the two derivatives term by term -/
theorem gen_get_PGF_general (Pk : List (Nat × Rat)) (h : Pk ≠ []) :
    GenHelp.get_PGF Pk = .ok (fun x =>
      sumRat ((List.range (maxKeyVal Pk + 1)).map fun k => alGet Pk 0 k * x ^ k)) :=
  get_PGF_ok Pk h
theorem gen_get_PGFPrime_general (Pk : List (Nat × Rat)) (h : Pk ≠ []) :
    GenHelp.get_PGFPrime Pk = .ok (fun x =>
      sumRat ((List.range (maxKeyVal Pk + 1)).map fun k => alGet Pk 0 k * (((k : Nat) : Rat) * x ^ (k - 1)))) :=
  get_PGFPrime_ok Pk h
theorem gen_get_PGFDPrime_general (Pk : List (Nat × Rat)) (h : Pk ≠ []) :
    GenHelp.get_PGFDPrime Pk = .ok (fun x =>
      sumRat ((List.range (maxKeyVal Pk + 1)).map fun k =>
        alGet Pk 0 k * ((((k : Nat) : Rat) * (((k : Nat) : Rat) - 1)) * x ^ (k - 2)))) :=
  get_PGFDPrime_ok Pk h

/-- `maxKeyVal` is the largest key: an upper bound that is attained -/
theorem maxKeyVal_spec (Pk : List (Nat × Rat)) (h : Pk ≠ []) :
    (∀ k ∈ Pk.map (·.1), k ≤ maxKeyVal Pk) ∧ maxKeyVal Pk ∈ Pk.map (·.1) := by
  refine ⟨Helpers.le_maxDeg _, ?_⟩
  unfold maxKeyVal Helpers.maxDeg
  generalize hl : Pk.map (·.1) = l
  have hne : l ≠ [] := by
    rw [← hl]
    simpa using h
  clear hl h
  have key : ∀ (t : List Nat) (init : Nat), t.foldl max init = init ∨ t.foldl max init ∈ t := by
    intro t
    induction t with
    | nil => intro init; left; rfl
    | cons a t ih =>
      intro init
      rcases ih (max init a) with h | h
      · rcases Nat.le_total init a with hia | hia
        · right; rw [List.foldl_cons, h, Nat.max_eq_right hia]; simp
        · left; rw [List.foldl_cons, h, Nat.max_eq_left hia]
      · right; rw [List.foldl_cons]; exact List.mem_cons_of_mem _ h
  cases l with
  | nil => exact absurd rfl hne
  | cons a t =>
    rw [List.foldl_cons, Nat.zero_max]
    rcases key t a with h | h
    · rw [h]; simp
    · exact List.mem_cons_of_mem _ h

/-! ### 3. get_Pnk -/

/-- **generated get_Pnk, any list of neighbour-degree lists** (no graph needed): never an error — in particular no
ZeroDivisionError: `1/(k1·N_{k1})` is only evaluated inside the loop over the neighbours of a node of degree `k1 ≥ 1`, and
that node is counted in `N_{k1}` — and `Pnk[k1][k2] = Σ_{nodes of degree k1} #{neighbours of degree k2} / (k1·N_{k1})` -/
theorem gen_get_Pnk_general (nbrdegs : List (List Nat)) :
    ∃ P, GenHelp.get_Pnk nbrdegs = .ok P ∧ ∀ k1 k2, alGet (alGet P [] k1) 0 k2 = sumRat (nbrdegs.map fun row =>
      if row.length = k1 then (Helpers.countEq row k2 : Rat) *
        (1 / (((k1 : Nat) : Rat) * ((Helpers.countEq (nbrdegs.map (·.length)) k1 : Nat) : Rat))) else 0) :=
  get_Pnk_eq nbrdegs

/-- **generated get_Pnk = model `Helpers.Pnk`** for the neighbour-degree lists `nbrDegs adj` of ANY adjacency lists `adj`
(`nbrDegs adj = adj.map (fun nb => nb.map (fun v => (adj.getD v []).length))`).  No hypothesis is needed: neither
symmetry, nor absence of repeated neighbours / loops, nor indices `< adj.length` (an out-of-range index has degree 0 on
both sides). -/
theorem gen_get_Pnk_eq (adj : List (List Nat)) :
    ∃ P, GenHelp.get_Pnk (nbrDegs adj) = .ok P ∧ ∀ k1 k2, alGet (alGet P [] k1) 0 k2 = Helpers.Pnk adj k1 k2 := by
  obtain ⟨P, h1, h2⟩ := get_Pnk_eq (nbrDegs adj)
  refine ⟨P, h1, fun k1 k2 => (h2 k1 k2).trans ?_⟩
  have hdegs : (nbrDegs adj).map (·.length) = adj.map (·.length) := by
    simp [nbrDegs, List.map_map, Function.comp_def]
  rw [hdegs]
  have hR : ∀ G : List Nat → Rat,
      sumRat ((List.range adj.length).map fun u => G (adj.getD u [])) = sumRat (adj.map G) := by
    intro G
    conv_rhs => rw [← map_getD_range adj []]
    rw [List.map_map]
    rfl
  rw [nbrDegs, List.map_map]
  refine Eq.trans ?_ (hR (fun nb => if nb.length = k1 then
    ((nb.filter fun v => (adj.getD v []).length = k2).length : Rat) *
      (1 / ((k1 : Rat) * (Helpers.countEq (adj.map (·.length)) k1 : Rat))) else 0)).symm
  apply sumRat_map_congr
  intro nb _
  simp only [Function.comp_apply, List.length_map, Helpers.countEq_map_deg]

/-- the rows of the generated `Pnk` sum to 1 for every degree `k1 ≥ 1` that occurs (C20 `Pnk_row_sum`, transported; its
well-formedness hypothesis on the neighbour indices is not used) -/
theorem gen_Pnk_row_sum (adj : List (List Nat))
    (k1 : Nat) (hk : 0 < k1) (hex : 0 < Helpers.countEq (adj.map (·.length)) k1) :
    ∃ P, GenHelp.get_Pnk (nbrDegs adj) = .ok P ∧
      sumRat ((List.range (Helpers.maxDeg (adj.map (·.length)) + 1)).map fun k2 => alGet (alGet P [] k1) 0 k2) = 1 := by
  obtain ⟨P, h1, h2⟩ := gen_get_Pnk_eq adj
  refine ⟨P, h1, ?_⟩
  have := Helpers.Pnk_row_sum_aux adj k1 hk hex
  rw [← this]
  apply sumRat_map_congr
  intro k2 _
  exact h2 k1 k2

/-! ### 4. estimate_R0 -/

/-- **generated estimate_R0, all inputs**: the transmissibility is resolved first (`resolveT`: the given one, else
`tau/(tau+gamma)`; EoNError when `tau` or `gamma` is missing, ZeroDivisionError when `tau + gamma = 0`); then an empty
graph raises ValueError, a graph with `ψ'(1) = 0` raises ZeroDivisionError, and otherwise the result is the model
`Helpers.R0 degs T = T ψ''(1)/ψ'(1)` -/
theorem gen_estimate_R0_eq (degs : List Nat) (tau gamma tr : Option Rat) :
    GenHelp.estimate_R0 degs tau gamma tr = resolveT tau gamma tr >>= fun T =>
      if degs = [] then .error "ValueError"
      else if Helpers.psiP degs 1 = 0 then .error "ZeroDivisionError"
      else .ok (Helpers.R0 degs T) :=
  estimate_R0_eq degs tau gamma tr

/-- `ψ'(1) = 0` means: every node is isolated -/
theorem gen_psiP_one_eq_zero_iff (degs : List Nat) (hne : degs ≠ []) :
    Helpers.psiP degs 1 = 0 ↔ ∀ d ∈ degs, d = 0 := psiP_one_eq_zero_iff degs hne

/-- success, transmissibility given (`tau`, `gamma` are then ignored, even if their sum is 0) -/
theorem gen_estimate_R0_ok_T (degs : List Nat) (tau gamma : Option Rat) (T : Rat) (hne : degs ≠ [])
    (hpos : ∃ d ∈ degs, d ≠ 0) : GenHelp.estimate_R0 degs tau gamma (some T) = .ok (Helpers.R0 degs T) := by
  have h0 : ¬ Helpers.psiP degs 1 = 0 := by
    rw [psiP_one_eq_zero_iff degs hne]
    intro hall
    obtain ⟨d, hd, hd0⟩ := hpos
    exact hd0 (hall d hd)
  simp [estimate_R0_eq, resolveT, hne, h0]

/-- success, transmissibility computed from the rates -/
theorem gen_estimate_R0_ok_rates (degs : List Nat) (tau gamma : Rat) (hne : degs ≠ []) (hpos : ∃ d ∈ degs, d ≠ 0)
    (hr : tau + gamma ≠ 0) :
    GenHelp.estimate_R0 degs (some tau) (some gamma) none = .ok (Helpers.R0 degs (tau / (tau + gamma))) := by
  have h0 : ¬ Helpers.psiP degs 1 = 0 := by
    rw [psiP_one_eq_zero_iff degs hne]
    intro hall
    obtain ⟨d, hd, hd0⟩ := hpos
    exact hd0 (hall d hd)
  simp [estimate_R0_eq, resolveT, hne, h0, hr]

/-- EoNError exactly when no transmissibility is given and a rate is missing — whatever the graph (also the empty one) -/
theorem gen_estimate_R0_EoNError (degs : List Nat) (tau gamma tr : Option Rat) :
    GenHelp.estimate_R0 degs tau gamma tr = .error "EoNError" ↔ tr = none ∧ (tau = none ∨ gamma = none) := by
  rw [estimate_R0_eq]
  cases tr with
  | some t =>
    simp only [resolveT, ok_bind]
    split
    · simp
    · split <;> simp
  | none =>
    cases tau with
    | none => simp [resolveT]
    | some a =>
      cases gamma with
      | none => simp [resolveT]
      | some b =>
        simp only [resolveT]
        split
        · simp
        · simp only [ok_bind]
          split
          · simp
          · split <;> simp

/-- ValueError exactly for an empty graph whose transmissibility could be resolved -/
theorem gen_estimate_R0_valueError (degs : List Nat) (tau gamma tr : Option Rat) :
    GenHelp.estimate_R0 degs tau gamma tr = .error "ValueError" ↔ degs = [] ∧ ∃ T, resolveT tau gamma tr = .ok T := by
  rw [estimate_R0_eq]
  cases hT : resolveT tau gamma tr with
  | error e =>
    have he : e = "ZeroDivisionError" ∨ e = "EoNError" := by
      unfold resolveT at hT
      split at hT
      · cases hT
      · split at hT
        · split at hT
          · injection hT with hT; left; exact hT.symm
          · cases hT
        · injection hT with hT; right; exact hT.symm
    rcases he with rfl | rfl <;> simp
  | ok T =>
    simp only [ok_bind]
    split
    · simp [*]
    · split <;> simp [*]

/-- ZeroDivisionError exactly when (no transmissibility and `tau + gamma = 0`) or (the transmissibility is resolved,
the graph is non-empty and all degrees are 0) -/
theorem gen_estimate_R0_zeroDivision (degs : List Nat) (tau gamma tr : Option Rat) :
    GenHelp.estimate_R0 degs tau gamma tr = .error "ZeroDivisionError" ↔
      resolveT tau gamma tr = .error "ZeroDivisionError" ∨
      ((∃ T, resolveT tau gamma tr = .ok T) ∧ degs ≠ [] ∧ ∀ d ∈ degs, d = 0) := by
  rw [estimate_R0_eq]
  cases hT : resolveT tau gamma tr with
  | error e => simp
  | ok T =>
    simp only [ok_bind]
    by_cases hne : degs = []
    · simp [hne]
    · rw [← psiP_one_eq_zero_iff degs hne]
      by_cases h0 : Helpers.psiP degs 1 = 0 <;> simp [hne, h0]

theorem gen_resolveT_zeroDivision (tau gamma tr : Option Rat) :
    resolveT tau gamma tr = .error "ZeroDivisionError" ↔
      tr = none ∧ ∃ a b, tau = some a ∧ gamma = some b ∧ a + b = 0 := by
  rcases tr with _ | t
  · rcases tau with _ | a
    · simp [resolveT]
    · rcases gamma with _ | b
      · simp [resolveT]
      · simp only [resolveT, true_and, Option.some.injEq, exists_and_left, exists_eq_left']
        split <;> simp [*]
  · simp [resolveT]

/-! ### 5. the C20 facts, on the generated code -/

/-- Σ_k of the generated `Pk` is 1 (sum over `0..max key` through `dict.get(k, 0)`) -/
theorem gen_Pk_sum_one (degs : List Nat) (hne : degs ≠ []) (d : List (Nat × Rat)) (h : GenHelp.get_Pk degs = .ok d) :
    sumRat ((List.range (maxKeyVal d + 1)).map fun k => alGet d 0 k) = 1 := by
  obtain rfl := eq_PkAL h
  rw [PkAL_maxKey]
  simp only [PkAL_get]
  exact Helpers.Pk_sum_one degs hne

/-- the largest key of the generated dict is the largest degree -/
theorem gen_Pk_maxKey (degs : List Nat) (d : List (Nat × Rat)) (h : GenHelp.get_Pk degs = .ok d) :
    maxKeyVal d = Helpers.maxDeg degs := by
  obtain rfl := eq_PkAL h
  exact PkAL_maxKey degs

/-- ψ(1) = 1, ψ'(1) = ⟨k⟩, ψ''(1) = ⟨k(k−1)⟩ for the functions returned by the generated code -/
theorem gen_PGF_at_one (degs : List Nat) (hne : degs ≠ []) (d : List (Nat × Rat)) (h : GenHelp.get_Pk degs = .ok d) :
    ∃ f f1 f2 : Rat → Rat, GenHelp.get_PGF d = .ok f ∧ GenHelp.get_PGFPrime d = .ok f1 ∧
      GenHelp.get_PGFDPrime d = .ok f2 ∧ f 1 = 1 ∧ f1 1 = Helpers.meanDeg degs (fun k => (k : Rat)) ∧
      f2 1 = Helpers.meanDeg degs (fun k => (k : Rat) * ((k : Rat) - 1)) :=
  ⟨_, _, _, gen_get_PGF_eq degs hne d h, gen_get_PGFPrime_eq degs hne d h, gen_get_PGFDPrime_eq degs hne d h,
    Helpers.psi_one degs hne, Helpers.psiP_one degs hne, Helpers.psiDP_one degs hne⟩

/-- the returned functions are a polynomial, its derivative and its second derivative (C20, transported) -/
theorem gen_PGF_derivatives (degs : List Nat) (hne : degs ≠ []) (d : List (Nat × Rat)) (h : GenHelp.get_Pk degs = .ok d) :
    ∃ f f1 f2 : Rat → Rat, GenHelp.get_PGF d = .ok f ∧ GenHelp.get_PGFPrime d = .ok f1 ∧
      GenHelp.get_PGFDPrime d = .ok f2 ∧ ∀ x, f x = (Helpers.psiPoly degs).eval x ∧
        f1 x = (Polynomial.derivative (Helpers.psiPoly degs)).eval x ∧
        f2 x = (Polynomial.derivative (Polynomial.derivative (Helpers.psiPoly degs))).eval x :=
  ⟨_, _, _, gen_get_PGF_eq degs hne d h, gen_get_PGFPrime_eq degs hne d h, gen_get_PGFDPrime_eq degs hne d h,
    fun x => ⟨Helpers.psi_eval degs x, Helpers.psiP_is_derivative degs x, Helpers.psiDP_is_second_derivative degs x⟩⟩

/-- **generated estimate_R0 = T⟨k²−k⟩/⟨k⟩** whenever it returns -/
theorem gen_R0_formula (degs : List Nat) (tau gamma tr : Option Rat) (r : Rat)
    (h : GenHelp.estimate_R0 degs tau gamma tr = .ok r) :
    ∃ T, resolveT tau gamma tr = .ok T ∧ degs ≠ [] ∧
      r = T * Helpers.meanDeg degs (fun k => (k : Rat) * ((k : Rat) - 1)) / Helpers.meanDeg degs (fun k => (k : Rat)) := by
  rw [estimate_R0_eq] at h
  cases hT : resolveT tau gamma tr with
  | error e => rw [hT] at h; cases h
  | ok T =>
    rw [hT] at h
    simp only [ok_bind] at h
    by_cases hne : degs = []
    · simp [hne] at h
    · by_cases h0 : Helpers.psiP degs 1 = 0
      · simp [hne, h0] at h
      · simp only [hne, h0, if_false] at h
        injection h with h
        exact ⟨T, rfl, hne, by rw [← h, Helpers.R0_formula degs hne]⟩

end GenHelpDeg

/-! ### non-vacuity (kernel-checked runs of the generated code) -/

-- first-occurrence key order, exact fractions
example : GenHelp.get_Pk [3, 1, 3, 2] = .ok [(3, 1/2), (1, 1/4), (2, 1/4)] := by decide +kernel
example : GenHelp.get_Pk [] = .ok [] := by decide +kernel
-- ψ(2), ψ'(2), ψ''(2) for Pk = {1: 1/2, 3: 1/2}: (2 + 8)/2, (1 + 12)/2, 6·2/2
example : (GenHelp.get_PGF [(1, 1/2), (3, 1/2)]).map (· 2) = .ok 5 ∧
    (GenHelp.get_PGFPrime [(1, 1/2), (3, 1/2)]).map (· 2) = .ok (13/2) ∧
    (GenHelp.get_PGFDPrime [(1, 1/2), (3, 1/2)]).map (· 2) = .ok 6 := by decide +kernel
example : (GenHelp.get_PGF ([] : List (Nat × Rat))).map (· 2) = .error "ValueError" := by decide +kernel
-- estimate_R0 on the star with 3 leaves: ⟨k²−k⟩/⟨k⟩ = (6/4)/(6/4) = 1
example : GenHelp.estimate_R0 [3, 1, 1, 1] (some 1) (some 1) none = .ok (1/2) := by decide +kernel
example : GenHelp.estimate_R0 [3, 1, 1, 1] none none (some (1/3)) = .ok (1/3) := by decide +kernel
example : GenHelp.estimate_R0 [3, 1, 1, 1] (some 1) none none = .error "EoNError" ∧
    GenHelp.estimate_R0 [] none (some 1) none = .error "EoNError" ∧
    GenHelp.estimate_R0 [] (some 1) (some (-1)) none = .error "ZeroDivisionError" ∧
    GenHelp.estimate_R0 [] (some 1) (some 1) none = .error "ValueError" ∧
    GenHelp.estimate_R0 [0, 0] (some 1) (some 1) none = .error "ZeroDivisionError" ∧
    GenHelp.estimate_R0 [0, 0] (some 1) (some (-1)) (some 2) = .error "ZeroDivisionError" ∧
    GenHelp.estimate_R0 [1, 1] (some 1) (some (-1)) (some 2) = .ok 0 := by decide +kernel
-- get_Pnk on the path 0 – 1 – 2 (degrees 1, 2, 1): a degree-1 node always sees degree 2, a degree-2 node degree 1
example : GenHelp.get_Pnk (GenHelpProofs.nbrDegs [[1], [0, 2], [1]]) = .ok [(1, [(2, 1)]), (2, [(1, 1)])] := by
  decide +kernel
-- an isolated node: its (empty) row exists, no division is attempted
example : GenHelp.get_Pnk [[], [1], [1]] = .ok [(0, []), (1, [(1, 1)])] := by decide +kernel
example : GenHelp.get_Pnk [] = .ok [] := by decide +kernel
