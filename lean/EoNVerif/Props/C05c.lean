import EoNVerif.Proofs.GenArgs
/-!
C05c — the code GENERATED from the argument normalisation at the head of the simulators (`Gen/ArgsGen.lean`, namespace
`GenArgs`, translated by `harness/pyargs2lean.py`) is the hand model `InitArgs.normInit` of C05 / C05b.

Conventions.
* `GenArgsProofs.Sim` lists the ten simulators (seven translated bodies, three forwarding wrappers), `X.norm` is the
  generated function of `X` (`norm_table` below: the table, by `rfl`), `X.guardsRecs` is true for
  `fast_nonMarkov_SIR` and its wrapper `fast_SIR` only: they also reject `rho` together with `initial_recovereds`.
* arguments of a generated function: `A : NArgs` (`A.nodes = list(G)`), `rho : Option Rat`,
  `initial_infecteds : Option Src` (`Src = Node ⊕ List Node`: a scalar or a collection), `initial_recovereds : Option Src`.
* the hand model works on the index graph: `A = ⟨List.range n⟩`.
* `GenArgsProofs.initialNumber N rho` is `1` for `rho = None` and `int(round(N*rho))` otherwise.
-/
open PyPM PyArgs GenArgsProofs

namespace C05c

/-- the table `X ↦ generated function` used by every theorem below -/
theorem norm_table :
    Sim.norm .discrete_SIR = GenArgs.norm_discrete_SIR ∧
    Sim.norm .basic_discrete_SIS = GenArgs.norm_basic_discrete_SIS ∧
    Sim.norm .fast_nonMarkov_SIR = GenArgs.norm_fast_nonMarkov_SIR ∧
    Sim.norm .fast_SIS = GenArgs.norm_fast_SIS ∧
    Sim.norm .fast_nonMarkov_SIS = GenArgs.norm_fast_nonMarkov_SIS ∧
    Sim.norm .Gillespie_SIR = GenArgs.norm_Gillespie_SIR ∧
    Sim.norm .Gillespie_SIS = GenArgs.norm_Gillespie_SIS ∧
    Sim.norm .fast_SIR = GenArgs.norm_fast_SIR ∧
    Sim.norm .basic_discrete_SIR = GenArgs.norm_basic_discrete_SIR ∧
    Sim.norm .percolation_based_discrete_SIR = GenArgs.norm_percolation_based_discrete_SIR ∧
    (∀ X : Sim, X.guardsRecs = true ↔ X = .fast_nonMarkov_SIR ∨ X = .fast_SIR) :=
  ⟨rfl, rfl, rfl, rfl, rfl, rfl, rfl, rfl, rfl, rfl, Sim.guardsRecs_iff⟩

/-- **1 — `int(round(x))`**: the rounding the generated code calls (`PyArgs.intRound`, written by hand in `Gen/PyArgs.lean`) is the
hand model's round-half-to-even -/
theorem intRound_eq_roundHalfEven : PyArgs.intRound = InitArgs.roundHalfEven := rfl

/-! ### 2 — on the index graph every generated function is `InitArgs.normInit` -/

/-- neither `rho` nor `initial_infecteds`: one sampled node, whatever `initial_recovereds` -/
theorem norm_default (X : Sim) (n : Nat) (recs : Option Src) (ts : TapeSt) :
    X.norm ⟨List.range n⟩ none none recs ts = InitArgs.normInit n .default ts := by
  rw [X.norm_eq _ _ _ _ (fun _ => Or.inl rfl), normCommon_sample, sample_range]
  rfl

/-- `rho` given: `int(round(N*rho))` sampled nodes (ValueError for a negative or too large number).  For
`fast_nonMarkov_SIR` / `fast_SIR` this needs `initial_recovereds = None` (see `norm_rho_and_recovereds`). -/
theorem norm_rho (X : Sim) (n : Nat) (r : Rat) (recs : Option Src) (hrecs : X.guardsRecs = true → recs = none)
    (ts : TapeSt) :
    X.norm ⟨List.range n⟩ (some r) none recs ts = InitArgs.normInit n (.rho r) ts := by
  rw [X.norm_eq _ _ _ _ (fun h => Or.inr (Or.inl (hrecs h))), normCommon_sample, sample_range]
  simp only [initialNumber, List.length_range, show PyArgs.intRound = InitArgs.roundHalfEven from rfl]
  show _ = (if InitArgs.roundHalfEven ((n : Rat) * r) < 0 then TM.fail "ValueError"
    else TM.popSample n (InitArgs.roundHalfEven ((n : Rat) * r)).toNat) ts
  split <;> rfl

/-- `fast_nonMarkov_SIR` / `fast_SIR` only: `rho` together with `initial_recovereds` is an EoNError (any graph, any
`initial_infecteds`); the hand model `InitSpec` has no `initial_recovereds`, so no such case -/
theorem norm_rho_and_recovereds (X : Sim) (hX : X.guardsRecs = true) (A : NArgs) (r : Rat) (ii : Option Src) (x : Src)
    (ts : TapeSt) :
    X.norm A (some r) ii (some x) ts = .error "EoNError" := by
  rw [X.norm_guarded hX]
  cases ii <;> rfl

/-- both `rho` and `initial_infecteds`: EoNError on any graph, for any values — `normInit n (.both l r)` -/
theorem norm_both (X : Sim) (A : NArgs) (r : Rat) (x : Src) (recs : Option Src) (ts : TapeSt) (n : Nat) (l : List Node) :
    X.norm A (some r) (some x) recs ts = .error "EoNError" ∧
    X.norm A (some r) (some x) recs ts = InitArgs.normInit n (.both l r) ts := by
  have h : X.norm A (some r) (some x) recs ts = .error "EoNError" := by
    rw [X.norm_eq _ _ _ _ (fun _ => Or.inr (Or.inr rfl))]
    rfl
  exact ⟨h, h⟩

/-- a single node of the graph becomes the one-element list; no randomness is consumed -/
theorem norm_single (X : Sim) (n : Nat) (u : Node) (hu : u < n) (recs : Option Src) (ts : TapeSt) :
    X.norm ⟨List.range n⟩ none (some (.inl u)) recs ts = InitArgs.normInit n (.single u) ts ∧
    X.norm ⟨List.range n⟩ none (some (.inl u)) recs ts = .ok ([u], ts) := by
  rw [X.norm_eq _ _ _ _ (fun _ => Or.inl rfl), normCommon_scalar, if_pos (List.mem_range.mpr hu)]
  exact ⟨rfl, rfl⟩

/-- a collection is used as it is, on any graph (also one with entries that are not nodes); no randomness is consumed -/
theorem norm_nodes (X : Sim) (A : NArgs) (n : Nat) (l : List Node) (recs : Option Src) (ts : TapeSt) :
    X.norm A none (some (.inr l)) recs ts = InitArgs.normInit n (.nodes l) ts ∧
    X.norm A none (some (.inr l)) recs ts = .ok (l, ts) := by
  rw [X.norm_eq _ _ _ _ (fun _ => Or.inl rfl)]
  exact ⟨rfl, rfl⟩

/-- a scalar that is not a node of the graph is not iterable: TypeError.  The hand model has no such case
(`InitSpec.single u` is only meant for a node `u` of `G`; `normInit n (.single u)` returns `[u]` for every `u`). -/
theorem norm_not_a_node (X : Sim) (n : Nat) (u : Node) (hu : n ≤ u) (recs : Option Src) (ts : TapeSt) :
    X.norm ⟨List.range n⟩ none (some (.inl u)) recs ts = .error "TypeError" := by
  rw [X.norm_eq _ _ _ _ (fun _ => Or.inl rfl), normCommon_scalar, if_neg (fun h => Nat.not_lt.mpr hu (List.mem_range.mp h))]

/-! ### 3 — any graph -/

/-- a scalar on any graph: `[u]` when `G.has_node(u)`, TypeError otherwise -/
theorem norm_scalar_general (X : Sim) (A : NArgs) (u : Node) (recs : Option Src) (ts : TapeSt) :
    X.norm A none (some (.inl u)) recs ts = if u ∈ A.nodes then .ok ([u], ts) else .error "TypeError" := by
  rw [X.norm_eq _ _ _ _ (fun _ => Or.inl rfl)]
  exact normCommon_scalar A u ts

/-- default / `rho` on any node list: ValueError for a negative `initial_number`; otherwise `random.sample` pops
`initial_number` scripted indices below `N = |list(G)|` (ValueError when `initial_number > N`) and the result is the nodes
at these indices -/
theorem norm_sample_general (X : Sim) (A : NArgs) (rho : Option Rat) (recs : Option Src)
    (hrecs : X.guardsRecs = true → rho = none ∨ recs = none) (ts : TapeSt) :
    X.norm A rho none recs ts =
      if initialNumber A.nodes.length rho < 0 then .error "ValueError" else
      match TM.popSample A.nodes.length (initialNumber A.nodes.length rho).toNat ts with
      | .ok (idx, ts') => .ok (idx.map (fun i => A.nodes.getD i 0), ts')
      | .error e => .error e := by
  rw [X.norm_eq _ _ _ _ (fun h => (hrecs h).elim Or.inl (fun h => Or.inr (Or.inl h)))]
  rw [normCommon_sample]
  exact sample_eq _ _ _

/-- default / `rho` on any node list, successful runs: exactly `initial_number` nodes of the graph, at distinct
positions of `list(G)` (so distinct nodes when `list(G)` is duplicate free), `0 ≤ initial_number ≤ N`, one `sample` draw
consumed -/
theorem norm_sample_ok (X : Sim) (A : NArgs) (rho : Option Rat) (recs : Option Src) (ts ts' : TapeSt) (l : List Node)
    (h : X.norm A rho none recs ts = .ok (l, ts')) :
    0 ≤ initialNumber A.nodes.length rho ∧ initialNumber A.nodes.length rho ≤ A.nodes.length ∧
    ∃ idx, TM.popSample A.nodes.length (initialNumber A.nodes.length rho).toNat ts = .ok (idx, ts') ∧
      l = idx.map (fun i => A.nodes.getD i 0) ∧ idx.Nodup ∧ (∀ i ∈ idx, i < A.nodes.length) ∧
      (l.length : Int) = initialNumber A.nodes.length rho ∧ (∀ u ∈ l, u ∈ A.nodes) ∧ (A.nodes.Nodup → l.Nodup) := by
  have hc : normCommon A rho none ts = .ok (l, ts') := by
    cases hg : X.guardsRecs with
    | false => rw [← X.norm_unguarded hg]; exact h
    | true =>
      rw [X.norm_guarded hg] at h
      split at h
      · cases h
      · exact h
  rw [normCommon_sample] at hc
  obtain ⟨h0, h1, idx, h2, h3, _, h5, h6, h7, h8, h9⟩ := sample_ok _ _ _ _ _ hc
  exact ⟨h0, h1, idx, h2, h3, h5, h6, h7, h8, h9⟩

/-- `int(round(N*rho)) < 0` or `> N`: ValueError (raised by `random.sample`), on any graph -/
theorem norm_rho_ValueError (X : Sim) (A : NArgs) (r : Rat) (recs : Option Src)
    (hrecs : X.guardsRecs = true → recs = none) (ts : TapeSt)
    (h : PyArgs.intRound ((A.nodes.length : Rat) * r) < 0 ∨ (A.nodes.length : Int) < PyArgs.intRound ((A.nodes.length : Rat) * r)) :
    X.norm A (some r) none recs ts = .error "ValueError" := by
  rw [X.norm_eq _ _ _ _ (fun h => Or.inr (Or.inl (hrecs h))), normCommon_sample]
  rcases h with h | h
  · rw [sample_eq, if_pos (show initialNumber A.nodes.length (some r) < 0 from h)]
  · exact sample_big _ _ _ h

/-- the default on the empty graph: ValueError (`random.sample([], 1)`) -/
theorem norm_default_empty (X : Sim) (recs : Option Src) (ts : TapeSt) :
    X.norm ⟨[]⟩ none none recs ts = .error "ValueError" := by
  rw [X.norm_eq _ _ _ _ (fun _ => Or.inl rfl), normCommon_sample]
  exact sample_big _ _ _ (by decide)

/-! ### 4 — the generated functions against each other -/

/-- all generated functions agree on every input with `initial_recovereds = None`; two simulators of the same kind
(both with or both without the `rho`/`initial_recovereds` guard) agree on every input -/
theorem norm_all_agree (X Y : Sim) (A : NArgs) (rho : Option Rat) (ii recs : Option Src)
    (h : recs = none ∨ X.guardsRecs = Y.guardsRecs) :
    X.norm A rho ii recs = Y.norm A rho ii recs := by
  rcases h with h | h
  · subst h
    rw [X.norm_eq _ _ _ _ (fun _ => Or.inr (Or.inl rfl)), Y.norm_eq _ _ _ _ (fun _ => Or.inr (Or.inl rfl))]
  · cases hg : Y.guardsRecs with
    | false => rw [X.norm_unguarded (h.trans hg), Y.norm_unguarded hg]
    | true => rw [X.norm_guarded (h.trans hg), Y.norm_guarded hg]

/-- `fast_nonMarkov_SIR` / `fast_SIR` differ from the other simulators exactly when `rho` and `initial_recovereds` are
given and `initial_infecteds` is not: there they raise EoNError and the others never do -/
theorem norm_differ_iff (X Y : Sim) (hX : X.guardsRecs = true) (hY : Y.guardsRecs = false) (A : NArgs)
    (rho : Option Rat) (ii recs : Option Src) (ts : TapeSt) :
    (X.norm A rho ii recs ts ≠ Y.norm A rho ii recs ts ↔ rho.isSome = true ∧ recs.isSome = true ∧ ii = none) ∧
    (rho.isSome = true ∧ recs.isSome = true ∧ ii = none →
      X.norm A rho ii recs ts = .error "EoNError" ∧ Y.norm A rho ii recs ts ≠ .error "EoNError") := by
  by_cases hg : rho.isSome = true ∧ recs.isSome = true ∧ ii = none
  · obtain ⟨h1, h2, h3⟩ := hg
    obtain ⟨r, rfl⟩ := Option.isSome_iff_exists.mp h1
    obtain ⟨x, rfl⟩ := Option.isSome_iff_exists.mp h2
    subst h3
    have hX' := norm_rho_and_recovereds X hX A r none x ts
    have hY' : Y.norm A (some r) none (some x) ts ≠ .error "EoNError" := by
      rw [Y.norm_unguarded hY, normCommon_sample]
      exact sample_ne_EoNError _ _ _
    exact ⟨⟨fun _ => ⟨rfl, rfl, rfl⟩, fun _ hEq => hY' (hEq ▸ hX')⟩, fun _ => ⟨hX', hY'⟩⟩
  · have heq : X.norm A rho ii recs ts = Y.norm A rho ii recs ts := by
      rw [X.norm_guarded hX, Y.norm_unguarded hY, if_neg]
      rwa [Bool.and_eq_true, and_assoc]
    exact ⟨⟨fun hne => absurd heq hne, fun h => absurd h hg⟩, fun h => absurd h hg⟩

section Examples

/-- what is compared: the returned list and the number of draws left, or the exception -/
private def obs (r : Except String (List Node × TapeSt)) : Except String (List Node × Nat) :=
  match r with
  | .ok (l, ts) => .ok (l, ts.tape.length)
  | .error e => .error e

private def G5 : NArgs := ⟨List.range 5⟩

/-! `N = 5`, `rho = 1/2`: `N*rho = 5/2` rounds half-to-even to 2; `rho = 3/10`: `3/2` rounds to 2; `rho = 7/10`: `7/2`
rounds to 4 -/
example : PyArgs.intRound ((5 : Rat) * (1/2)) = 2 := by decide +kernel
example : PyArgs.intRound ((5 : Rat) * (3/10)) = 2 := by decide +kernel
example : PyArgs.intRound ((5 : Rat) * (7/10)) = 4 := by decide +kernel
example : InitArgs.roundHalfEven ((5 : Rat) * (1/2)) = 2 := by decide +kernel

example : obs (GenArgs.norm_Gillespie_SIR G5 (some (1/2)) none none { tape := [.sample [3, 0]] }) = .ok ([3, 0], 0) := by
  decide +kernel
example : obs (InitArgs.normInit 5 (.rho (1/2)) { tape := [.sample [3, 0]] }) = .ok ([3, 0], 0) := by
  decide +kernel
example : obs (GenArgs.norm_fast_SIS G5 (some (3/10)) none (some (.inr [4])) { tape := [.sample [1, 4], .unif 0] })
    = .ok ([1, 4], 1) := by decide +kernel
/-- the tape proxy refuses a draw of the wrong size: `rho = 1/2` asks for 2 nodes, not 3 -/
example : obs (GenArgs.norm_discrete_SIR G5 (some (1/2)) none none { tape := [.sample [3, 0, 1]] })
    = .error "tape-bad-sample" := by decide +kernel
example : obs (GenArgs.norm_basic_discrete_SIS G5 none none none { tape := [.sample [2]] }) = .ok ([2], 0) := by
  decide +kernel
example : obs (GenArgs.norm_fast_nonMarkov_SIR G5 none none (some (.inl 1)) { tape := [.sample [2]] }) = .ok ([2], 0) := by
  decide +kernel
/-- a graph whose node list is not `0..n-1`: the sampled positions 2, 0 are the nodes 30, 10 -/
example : obs (GenArgs.norm_fast_nonMarkov_SIS ⟨[10, 20, 30, 40]⟩ (some (1/2)) none none { tape := [.sample [2, 0]] })
    = .ok ([30, 10], 0) := by decide +kernel
example : obs (GenArgs.norm_Gillespie_SIS G5 (some (1/2)) (some (.inr [0])) none { tape := [] }) = .error "EoNError" := by
  decide +kernel
example : obs (GenArgs.norm_Gillespie_SIS G5 (some 0) (some (.inl 0)) none { tape := [] }) = .error "EoNError" := by
  decide +kernel
/-- `rho` with `initial_recovereds`: an error for `fast_nonMarkov_SIR` / `fast_SIR` only -/
example : obs (GenArgs.norm_fast_nonMarkov_SIR G5 (some (1/2)) none (some (.inr [4])) { tape := [.sample [3, 0]] })
    = .error "EoNError" := by decide +kernel
example : obs (GenArgs.norm_fast_SIR G5 (some (1/2)) none (some (.inr [4])) { tape := [.sample [3, 0]] })
    = .error "EoNError" := by decide +kernel
example : obs (GenArgs.norm_Gillespie_SIR G5 (some (1/2)) none (some (.inr [4])) { tape := [.sample [3, 0]] })
    = .ok ([3, 0], 0) := by decide +kernel
/-- a single node; a collection; a scalar that is not a node -/
example : obs (GenArgs.norm_fast_SIS G5 none (some (.inl 4)) none { tape := [.unif 0] }) = .ok ([4], 1) := by
  decide +kernel
example : obs (GenArgs.norm_fast_SIS G5 none (some (.inr [4, 1])) none { tape := [.unif 0] }) = .ok ([4, 1], 1) := by
  decide +kernel
example : obs (GenArgs.norm_fast_SIS G5 none (some (.inl 5)) none { tape := [.unif 0] }) = .error "TypeError" := by
  decide +kernel
/-- `rho` out of range: `rho = -1/5` gives `-1`, `rho = 2` gives 10 > 5 -/
example : obs (GenArgs.norm_percolation_based_discrete_SIR G5 (some (-1/5)) none none { tape := [.sample []] })
    = .error "ValueError" := by decide +kernel
example : obs (GenArgs.norm_basic_discrete_SIR G5 (some 2) none none { tape := [.sample [0, 1, 2, 3, 4]] })
    = .error "ValueError" := by decide +kernel
/-- the hypotheses of the theorems are satisfiable -/
example : Sim.guardsRecs .fast_SIR = true ∧ Sim.guardsRecs .Gillespie_SIS = false := by decide
example : (3 : Node) < 5 ∧ (5 : Nat) ≤ (5 : Node) := by decide

end Examples

end C05c

#print axioms C05c.norm_table
#print axioms C05c.intRound_eq_roundHalfEven
#print axioms C05c.norm_default
#print axioms C05c.norm_rho
#print axioms C05c.norm_rho_and_recovereds
#print axioms C05c.norm_both
#print axioms C05c.norm_single
#print axioms C05c.norm_nodes
#print axioms C05c.norm_not_a_node
#print axioms C05c.norm_scalar_general
#print axioms C05c.norm_sample_general
#print axioms C05c.norm_sample_ok
#print axioms C05c.norm_rho_ValueError
#print axioms C05c.norm_default_empty
#print axioms C05c.norm_all_agree
#print axioms C05c.norm_differ_iff
