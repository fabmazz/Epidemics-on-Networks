import EoNVerif.Proofs.GenWrap
import EoNVerif.Props.C06c
import EoNVerif.Props.C06d
/-!
C06e — "the initial vector matches the request and sums to N", from the GRAPH to the returned arrays, for the
`*_from_graph` wrappers of `EoN/analytic.py` as GENERATED into `Gen/WrapGen.lean` (namespace `GenWrap`; the check regenerates it
from the Python source).  Lemmas: `Proofs/GenWrap.lean`.

Hypotheses (those of C06c): `GraphOK A.toIArgs adj` ties what the generated code reads from the graph (node list, edge
list with every undirected edge once, `degree`, `has_node`) to the adjacency lists `adj` of the model
`Model/InitCond.lean`; `SetsOK adj infs recs` = the initial lists are disjoint lists of graph nodes.  Where a statement
identifies `len(initial_infecteds)` with a number of NODES, `infs.Nodup` (`recs.Nodup`) is assumed in addition, and the
counter-examples below show that it cannot be dropped.  `N = adj.length = A.nodes.length`, `2|E| = twoM adj`.

Names, here and in C06g, C06h, C06j, C06k (the tags (A)–(D) stand in the docstrings), for a wrapper `f`:
* `f_args_spec`                   — the record for a valid explicit-sets request, in the vocabulary of `Model/InitCond.lean` (A);
* `f_args_sets / _rho / _default` — the record for the other requests (A);
* `f_args_error`                  — exactly when which exception is raised, with the precedence of the code (B);
* `f_args_total(_rho)`            — a successful call read backwards: the initial state sums to `N`, what is passed on (C);
* `f_from_graph_inv`              — a successful composed call splits into a record and a call of the base function;
* `f_from_graph_init / _conserve(0) / _init_conserve / _sets / _rho` — composed with the generated base function (C06d,
                                    C06f, C06i, C08c): the returned series start from the requested state of the graph and
                                    keep `S+I(+R) = N` (D).
For `SIS_heterogeneous_meanfield_from_graph` there are only the records (A).

Index of the twenty wrappers — what is not here and where it stands: `SIS/SIR_compact_pairwise` `rho` C06g §1, §3 (full data of
the SIR one C06h §6); `SIS_compact_effective_degree`, `EBCM` C06g; `Attack_rate_*`, `EBCM_discrete`, `SIR_compact_effective_degree`
`rho` C06h (explicit sets C06j §1); `SIS/SIR_super_compact_pairwise`, the `EBCM_pref_mix*` records C06j; `SIS/SIR_effective_degree`,
`EBCM_pref_mix_discrete` end to end, the attack rate of a `rho` request C06k.
-/
namespace GenWrapProps
open GenInit InitCond GenInitProofs GenWrap GenWrapProofs GenGlueProofs
open Gen PyGlue

/-! ## 0. counting -/

/-- `len(initial_infecteds)` / `len(initial_recovereds)` / `N - len - len` are the numbers of nodes with status
`I` / `R` / `S` — for duplicate-free, disjoint lists of graph nodes -/
theorem request_counts (adj : List (List Nat)) (infs recs : List Node) (hS : SetsOK adj infs recs)
    (hi : infs.Nodup) (hr : recs.Nodup) :
    (count adj (statusOf infs recs) St.I : Rat) = (infs.length : Rat) ∧
    (count adj (statusOf infs recs) St.R : Rat) = (recs.length : Rat) ∧
    (count adj (statusOf infs recs) St.S : Rat) = (adj.length : Rat) - (infs.length : Rat) - (recs.length : Rat) := by
  refine ⟨by rw [count_I adj infs recs hi hS], by rw [count_R adj infs recs hr hS.recIn], ?_⟩
  have := count_S adj infs recs hi hr hS
  exact_mod_cast this

theorem classCount_sum (adj : List (List Nat)) (st : Nat → St) (x : St) :
    (vec (maxDeg adj) fun k => (classCount adj st x k : Rat)).sum = (count adj st x : Rat) := by
  rw [vec_sum_cast, sum_classCount]

theorem rho_vec_sums (A : IArgs) (adj : List (List Nat)) (hG : GraphOK A adj) (r : Rat) :
    (vec (maxDeg adj) fun k => rhoSk adj r k).sum + (vec (maxDeg adj) fun k => rhoIk adj r k).sum = (adj.length : Rat) ∧
    (vec (maxDeg adj) fun k => rhoSk adj r k).sum = rhoS adj r ∧
    (vec (maxDeg adj) fun k => rhoIk adj r k).sum = rhoI adj r ∧ (vec (maxDeg adj) fun _ => (0 : Rat)).sum = 0 := by
  have := C06c.gen_rho_total A adj hG r
  rwa [C06c.gen_rho_eq_vec A adj hG] at this

theorem status_of_setsOK (A : WArgs) (adj : List (List Nat)) (hG : GraphOK A.toIArgs adj) {infs recs : List Node}
    (hS : SetsOK adj infs recs) : initialize_node_status A.toIArgs infs recs = .ok (statusOf infs recs) :=
  C06c.gen_status_eq A.toIArgs adj hG.hasNode infs recs hS.disj hS.infIn hS.recIn

theorem setsOK_of_status (A : WArgs) (adj : List (List Nat)) (hG : GraphOK A.toIArgs adj) {infs recs : List Node}
    {st : Node → St} (h : initialize_node_status A.toIArgs infs recs = .ok st) : SetsOK adj infs recs :=
  let ⟨d, i, r⟩ := (C06c.gen_status_ok_iff A.toIArgs adj hG.hasNode infs recs).mp ⟨st, h⟩
  ⟨d, i, r⟩

/-- `Nodup` is necessary: `len()` counts a repeated node twice, the status map (hence every edge / class count) once -/
example : SetsOK C06c.exAdj [0, 0] [] ∧ count C06c.exAdj (statusOf [0, 0] []) St.I = 1 ∧ [0, 0].length = 2 := by
  refine ⟨⟨by decide, by decide, by decide⟩, by decide +kernel, rfl⟩

theorem kave_eq (A : WArgs) (adj : List (List Nat)) (hG : GraphOK A.toIArgs adj) :
    kave A = (twoM adj : Rat) / (adj.length : Rat) ∧ meanK (A.nodes.map A.degree) = kave A := by
  have h1 : kave A = (twoM adj : Rat) / (adj.length : Rat) := by
    unfold kave
    rw [nodes_length A.toIArgs adj hG, ← two_edges A.toIArgs adj hG]
    push_cast; rfl
  exact ⟨h1, by rw [h1, meanK_graph A.toIArgs adj hG]⟩

/-- the left sides: `SI0`, `SS0` of the `rho` request of the homogeneous pairwise wrappers, with `n = 2|E|/N` -/
theorem rho_pairs (adj : List (List Nat)) (hN : adj.length ≠ 0) (r : Rat) :
    (1 - r) * (adj.length : Rat) * ((twoM adj : Rat) / (adj.length : Rat)) * r = rhoSI adj r ∧
    (1 - r) * (adj.length : Rat) * ((twoM adj : Rat) / (adj.length : Rat)) * (1 - r) = rhoSS adj r := by
  have h : (adj.length : Rat) * ((twoM adj : Rat) / (adj.length : Rat)) = (twoM adj : Rat) :=
    mul_div_cancel₀ _ (by exact_mod_cast hN)
  rw [rhoSI, rhoSS, mul_assoc (1 - r), h]
  constructor <;> ring

/-! ## 1. `SIS_homogeneous_meanfield_from_graph` -/

/-- (B) exactly three outcomes, for ALL inputs (no hypothesis): `EoNError` iff `rho` and `initial_infecteds` are both
given; otherwise `ZeroDivisionError` iff the graph has no nodes (`2|E|/N`); otherwise a record.  The initial set is NOT
validated by this wrapper (no `EoNError` for a foreign node). -/
theorem SIS_homogeneous_meanfield_args_error (A : WArgs) (tau gamma : Rat) (infs : Option (List Node))
    (rho : Option Rat) (tmin tmax : Rat) (tcount : Int) :
    (rho.isSome ∧ infs.isSome →
      SIS_homogeneous_meanfield_from_graph_args A tau gamma infs rho tmin tmax tcount = .error "EoNError") ∧
    (¬ (rho.isSome ∧ infs.isSome) → A.nodes.length = 0 →
      SIS_homogeneous_meanfield_from_graph_args A tau gamma infs rho tmin tmax tcount = .error "ZeroDivisionError") ∧
    (¬ (rho.isSome ∧ infs.isSome) → A.nodes.length ≠ 0 →
      ∃ a, SIS_homogeneous_meanfield_from_graph_args A tau gamma infs rho tmin tmax tcount = .ok a) := by
  rw [SIS_hom_mf_closed]
  refine ⟨fun h => by rw [if_pos h], fun h hN => by rw [if_neg h, if_pos hN], fun h hN => ?_⟩
  rw [if_neg h, if_neg hN]; exact ⟨_, rfl⟩

/-- (A) explicit initial set, ANY list (not validated): `I0 = len(infs)`, `S0 = N - len(infs)`, `n = 2|E|/N`, the
remaining arguments are passed through -/
theorem SIS_homogeneous_meanfield_args_sets (A : WArgs) (tau gamma : Rat) (infs : List Node) (tmin tmax : Rat)
    (tcount : Int) (hN : A.nodes.length ≠ 0) :
    SIS_homogeneous_meanfield_from_graph_args A tau gamma (some infs) none tmin tmax tcount =
      .ok { S0 := (A.nodes.length : Rat) - (infs.length : Rat), I0 := (infs.length : Rat), n := kave A, tau := tau,
            gamma := gamma, tmin := tmin, tmax := tmax, tcount := tcount } := by
  rw [SIS_hom_mf_closed]; simp [hN]

/-- (A) for a duplicate-free list of graph nodes the record is the requested state of the graph -/
theorem SIS_homogeneous_meanfield_args_spec (A : WArgs) (adj : List (List Nat)) (hG : GraphOK A.toIArgs adj)
    (tau gamma : Rat) (infs : List Node) (hin : ∀ u ∈ infs, u < adj.length) (hnd : infs.Nodup) (hN : adj.length ≠ 0)
    (tmin tmax : Rat) (tcount : Int) :
    ∃ a, SIS_homogeneous_meanfield_from_graph_args A tau gamma (some infs) none tmin tmax tcount = .ok a ∧
      a.I0 = (infs.length : Rat) ∧ a.I0 = (count adj (statusOf infs []) St.I : Rat) ∧
      a.S0 = (count adj (statusOf infs []) St.S : Rat) ∧ a.n = (twoM adj : Rat) / (adj.length : Rat) := by
  have hN' : A.nodes.length ≠ 0 := by rw [nodes_length A.toIArgs adj hG]; exact hN
  obtain ⟨cI, -, cS⟩ := request_counts adj infs [] (SetsOK.nil_recs hin) hnd List.nodup_nil
  refine ⟨_, SIS_homogeneous_meanfield_args_sets A tau gamma infs tmin tmax tcount hN', rfl, cI.symm, ?_,
    (kave_eq A adj hG).1⟩
  rw [cS, nodes_length A.toIArgs adj hG]; simp

/-- (A) `rho` given: `I0 = rho·N`, `S0 = N - rho·N = (1-rho)·N` -/
theorem SIS_homogeneous_meanfield_args_rho (A : WArgs) (adj : List (List Nat)) (hG : GraphOK A.toIArgs adj)
    (tau gamma r : Rat) (hN : adj.length ≠ 0) (tmin tmax : Rat) (tcount : Int) :
    ∃ a, SIS_homogeneous_meanfield_from_graph_args A tau gamma none (some r) tmin tmax tcount = .ok a ∧
      a.I0 = rhoI adj r ∧ a.S0 = rhoS adj r ∧ a.n = (twoM adj : Rat) / (adj.length : Rat) := by
  have hN' : A.nodes.length ≠ 0 := by rw [nodes_length A.toIArgs adj hG]; exact hN
  rw [SIS_hom_mf_closed]
  simp only [Option.isSome_none, if_false, hN']
  refine ⟨_, rfl, ?_, ?_, (kave_eq A adj hG).1⟩
  · simp only [rhoI, nodes_length A.toIArgs adj hG]
  · simp only [rhoS, nodes_length A.toIArgs adj hG]; ring

/-- (A) neither given: ONE infected node, `I0 = 1` exactly (an int in Python), `S0 = N - 1` -/
theorem SIS_homogeneous_meanfield_args_default (A : WArgs) (tau gamma : Rat) (tmin tmax : Rat) (tcount : Int)
    (hN : A.nodes.length ≠ 0) :
    SIS_homogeneous_meanfield_from_graph_args A tau gamma none none tmin tmax tcount =
      .ok { S0 := (A.nodes.length : Rat) - 1, I0 := 1, n := kave A, tau := tau, gamma := gamma, tmin := tmin,
            tmax := tmax, tcount := tcount } := by
  rw [SIS_hom_mf_closed]; simp [hN]

/-- (C) in EVERY non-error case (any inputs, no hypothesis) `S0 + I0 = G.order()` -/
theorem SIS_homogeneous_meanfield_args_total (A : WArgs) (tau gamma : Rat) (infs : Option (List Node))
    (rho : Option Rat) (tmin tmax : Rat) (tcount : Int) (a : SIS_homogeneous_meanfield_Args)
    (h : SIS_homogeneous_meanfield_from_graph_args A tau gamma infs rho tmin tmax tcount = .ok a) :
    a.S0 + a.I0 = (A.nodes.length : Rat) := by
  rw [SIS_hom_mf_closed] at h
  split at h
  · cases h
  · split at h
    · cases h
    · injection h with h; subst h; simp

theorem SIS_homogeneous_meanfield_from_graph_inv (odeint : Solver) (A : WArgs) (tau gamma : Rat)
    (infs : Option (List Node)) (rho : Option Rat) (tmin tmax : Rat) (tcount : Int) (l : List Ser)
    (h : SIS_homogeneous_meanfield_from_graph odeint A tau gamma infs rho tmin tmax tcount = .ok l) :
    ∃ a, SIS_homogeneous_meanfield_from_graph_args A tau gamma infs rho tmin tmax tcount = .ok a ∧
      GenGlue.SIS_homogeneous_meanfield odeint a.S0 a.I0 a.n a.tau a.gamma a.tmin a.tmax a.tcount.toNat = .ok l :=
  bind_ok_inv _ _ l h

/-- (D) end to end, every solver with `odeint rhs X0 0 = X0`, ANY inputs: the returned `S`, `I` at time index 0 sum to
`G.order()` -/
theorem SIS_homogeneous_meanfield_from_graph_conserve0 (odeint : Solver) (h0 : RowZero odeint) (A : WArgs)
    (tau gamma : Rat) (infs : Option (List Node)) (rho : Option Rat) (tmin tmax : Rat) (tcount : Int) (l : List Ser)
    (h : SIS_homogeneous_meanfield_from_graph odeint A tau gamma infs rho tmin tmax tcount = .ok l) :
    get l 1 0 + get l 2 0 = (A.nodes.length : Rat) := by
  obtain ⟨a, ha, hl⟩ := bind_ok_inv _ _ l h
  rw [C06d.SIS_homogeneous_meanfield_conserve0 odeint h0 _ _ _ _ _ _ _ _ l hl]
  exact SIS_homogeneous_meanfield_args_total A tau gamma infs rho tmin tmax tcount a ha

/-- (D) end to end: the returned series start from the requested state of the graph -/
theorem SIS_homogeneous_meanfield_from_graph_init (odeint : Solver) (h0 : RowZero odeint) (A : WArgs)
    (adj : List (List Nat)) (hG : GraphOK A.toIArgs adj) (tau gamma : Rat) (infs : List Node)
    (hin : ∀ u ∈ infs, u < adj.length) (hnd : infs.Nodup) (tmin tmax : Rat) (tcount : Int) (l : List Ser)
    (h : SIS_homogeneous_meanfield_from_graph odeint A tau gamma (some infs) none tmin tmax tcount = .ok l) :
    get l 1 0 = (count adj (statusOf infs []) St.S : Rat) ∧ get l 2 0 = (infs.length : Rat) ∧
    get l 2 0 = (count adj (statusOf infs []) St.I : Rat) ∧ get l 1 0 + get l 2 0 = (adj.length : Rat) := by
  obtain ⟨a, ha, hl⟩ := bind_ok_inv _ _ l h
  have hN : adj.length ≠ 0 := by
    intro e
    have : A.nodes.length = 0 := by rw [nodes_length A.toIArgs adj hG]; exact e
    rw [(SIS_homogeneous_meanfield_args_error A tau gamma (some infs) none tmin tmax tcount).2.1 (by simp) this] at ha
    cases ha
  obtain ⟨a', ha', e1, e2, e3, -⟩ :=
    SIS_homogeneous_meanfield_args_spec A adj hG tau gamma infs hin hnd hN tmin tmax tcount
  rw [ha] at ha'; injection ha' with ha'; subst ha'
  obtain ⟨i1, i2⟩ := C06d.SIS_homogeneous_meanfield_init odeint h0 _ _ _ _ _ _ _ _ l hl
  refine ⟨i1.trans e3, i2.trans e1, i2.trans e2, ?_⟩
  rw [i1, i2, SIS_homogeneous_meanfield_args_total A tau gamma _ _ tmin tmax tcount a ha,
    nodes_length A.toIArgs adj hG]

/-! ## 2. `SIR_homogeneous_meanfield_from_graph` -/

/-- (B) for ALL inputs: `EoNError` iff `rho` is given together with `initial_infecteds` or `initial_recovereds`;
otherwise `ZeroDivisionError` iff the graph has no nodes; otherwise a record.  The sets are not validated. -/
theorem SIR_homogeneous_meanfield_args_error (A : WArgs) (tau gamma : Rat) (infs recs : Option (List Node))
    (rho : Option Rat) (tmin tmax : Rat) (tcount : Int) :
    (rho.isSome ∧ (infs.isSome ∨ recs.isSome) →
      SIR_homogeneous_meanfield_from_graph_args A tau gamma infs recs rho tmin tmax tcount = .error "EoNError") ∧
    (¬ (rho.isSome ∧ (infs.isSome ∨ recs.isSome)) → A.nodes.length = 0 →
      SIR_homogeneous_meanfield_from_graph_args A tau gamma infs recs rho tmin tmax tcount
        = .error "ZeroDivisionError") ∧
    (¬ (rho.isSome ∧ (infs.isSome ∨ recs.isSome)) → A.nodes.length ≠ 0 →
      ∃ a, SIR_homogeneous_meanfield_from_graph_args A tau gamma infs recs rho tmin tmax tcount = .ok a) := by
  rw [SIR_hom_mf_closed]
  refine ⟨fun h => ?_, fun h hN => ?_, fun h hN => ?_⟩
  · by_cases h1 : rho.isSome ∧ infs.isSome
    · rw [if_pos h1]
    · rw [if_neg h1, if_pos]
      rcases h with ⟨hr, hi | hr'⟩
      · exact absurd ⟨hr, hi⟩ h1
      · exact ⟨hr, hr'⟩
  · rw [if_neg (fun h1 => h ⟨h1.1, Or.inl h1.2⟩), if_neg (fun h1 => h ⟨h1.1, Or.inr h1.2⟩), if_pos hN]
  · rw [if_neg (fun h1 => h ⟨h1.1, Or.inl h1.2⟩), if_neg (fun h1 => h ⟨h1.1, Or.inr h1.2⟩), if_neg hN]
    exact ⟨_, rfl⟩

/-- (A) explicit sets (`initial_recovereds=None` is the empty list), ANY lists: `I0 = len(infs)`, `R0 = len(recs)`,
`S0 = N - I0 - R0` -/
theorem SIR_homogeneous_meanfield_args_sets (A : WArgs) (tau gamma : Rat) (infs : List Node)
    (recs : Option (List Node)) (tmin tmax : Rat) (tcount : Int) (hN : A.nodes.length ≠ 0) :
    SIR_homogeneous_meanfield_from_graph_args A tau gamma (some infs) recs none tmin tmax tcount =
      .ok { S0 := (A.nodes.length : Rat) - (infs.length : Rat) - ((recs.getD []).length : Rat),
            I0 := (infs.length : Rat), R0 := ((recs.getD []).length : Rat), n := kave A, tau := tau,
            gamma := gamma, tmin := tmin, tmax := tmax, tcount := tcount } := by
  rw [SIR_hom_mf_closed]; simp [hN]

/-- (A) for duplicate-free disjoint lists of graph nodes the record is the requested state of the graph -/
theorem SIR_homogeneous_meanfield_args_spec (A : WArgs) (adj : List (List Nat)) (hG : GraphOK A.toIArgs adj)
    (tau gamma : Rat) (infs : List Node) (recs : Option (List Node)) (hS : SetsOK adj infs (recs.getD []))
    (hi : infs.Nodup) (hr : (recs.getD []).Nodup) (hN : adj.length ≠ 0) (tmin tmax : Rat) (tcount : Int) :
    ∃ a, SIR_homogeneous_meanfield_from_graph_args A tau gamma (some infs) recs none tmin tmax tcount = .ok a ∧
      a.I0 = (infs.length : Rat) ∧ a.R0 = ((recs.getD []).length : Rat) ∧
      a.I0 = (count adj (statusOf infs (recs.getD [])) St.I : Rat) ∧
      a.R0 = (count adj (statusOf infs (recs.getD [])) St.R : Rat) ∧
      a.S0 = (count adj (statusOf infs (recs.getD [])) St.S : Rat) ∧ a.n = (twoM adj : Rat) / (adj.length : Rat) := by
  have hN' : A.nodes.length ≠ 0 := by rw [nodes_length A.toIArgs adj hG]; exact hN
  obtain ⟨cI, cR, cS⟩ := request_counts adj infs (recs.getD []) hS hi hr
  refine ⟨_, SIR_homogeneous_meanfield_args_sets A tau gamma infs recs tmin tmax tcount hN', rfl, rfl, cI.symm,
    cR.symm, ?_, (kave_eq A adj hG).1⟩
  rw [cS, nodes_length A.toIArgs adj hG]

/-- (A) without `initial_infecteds`: `I0 = rho·N`, or `I0 = 1` when `rho` is absent too; `R0 = len(recs)` (only
possible without `rho`), `S0 = N - I0 - R0` -/
theorem SIR_homogeneous_meanfield_args_rho (A : WArgs) (tau gamma : Rat) (recs : Option (List Node))
    (rho : Option Rat) (hrr : ¬ (rho.isSome ∧ recs.isSome)) (tmin tmax : Rat) (tcount : Int)
    (hN : A.nodes.length ≠ 0) :
    SIR_homogeneous_meanfield_from_graph_args A tau gamma none recs rho tmin tmax tcount =
      .ok { S0 := (A.nodes.length : Rat) - (match rho with | some r => r * (A.nodes.length : Rat) | none => 1)
                    - ((recs.getD []).length : Rat),
            I0 := (match rho with | some r => r * (A.nodes.length : Rat) | none => 1),
            R0 := ((recs.getD []).length : Rat), n := kave A, tau := tau,
            gamma := gamma, tmin := tmin, tmax := tmax, tcount := tcount } := by
  rw [SIR_hom_mf_closed]
  cases rho <;> cases recs <;> simp [hN] at hrr ⊢

/-- (C) in EVERY non-error case `S0 + I0 + R0 = G.order()` -/
theorem SIR_homogeneous_meanfield_args_total (A : WArgs) (tau gamma : Rat) (infs recs : Option (List Node))
    (rho : Option Rat) (tmin tmax : Rat) (tcount : Int) (a : SIR_homogeneous_meanfield_Args)
    (h : SIR_homogeneous_meanfield_from_graph_args A tau gamma infs recs rho tmin tmax tcount = .ok a) :
    a.S0 + a.I0 + a.R0 = (A.nodes.length : Rat) := by
  rw [SIR_hom_mf_closed] at h
  split at h
  · cases h
  · split at h
    · cases h
    · split at h
      · cases h
      · injection h with h; subst h; simp only []; ring

theorem SIR_homogeneous_meanfield_from_graph_inv (odeint : Solver) (A : WArgs) (tau gamma : Rat)
    (infs recs : Option (List Node)) (rho : Option Rat) (tmin tmax : Rat) (tcount : Int) (l : List Ser)
    (h : SIR_homogeneous_meanfield_from_graph odeint A tau gamma infs recs rho tmin tmax tcount = .ok l) :
    ∃ a, SIR_homogeneous_meanfield_from_graph_args A tau gamma infs recs rho tmin tmax tcount = .ok a ∧
      GenGlue.SIR_homogeneous_meanfield odeint a.S0 a.I0 a.R0 a.n a.tau a.gamma a.tmin a.tmax a.tcount.toNat
        = .ok l :=
  bind_ok_inv _ _ l h

/-- (D) end to end, EVERY solver, ANY inputs, EVERY time index: `S + I + R = G.order()` -/
theorem SIR_homogeneous_meanfield_from_graph_conserve (odeint : Solver) (A : WArgs)
    (tau gamma : Rat) (infs recs : Option (List Node)) (rho : Option Rat) (tmin tmax : Rat) (tcount : Int)
    (l : List Ser)
    (h : SIR_homogeneous_meanfield_from_graph odeint A tau gamma infs recs rho tmin tmax tcount = .ok l) (i : Nat) :
    get l 1 i + get l 2 i + get l 3 i = (A.nodes.length : Rat) := by
  obtain ⟨a, ha, hl⟩ := bind_ok_inv _ _ l h
  rw [C06d.SIR_homogeneous_meanfield_conserve odeint _ _ _ _ _ _ _ _ _ l hl i]
  exact SIR_homogeneous_meanfield_args_total A tau gamma infs recs rho tmin tmax tcount a ha

/-- (D) end to end: the returned series start from the requested state of the graph -/
theorem SIR_homogeneous_meanfield_from_graph_init (odeint : Solver) (h0 : RowZero odeint) (A : WArgs)
    (adj : List (List Nat)) (hG : GraphOK A.toIArgs adj) (tau gamma : Rat) (infs : List Node)
    (recs : Option (List Node)) (hS : SetsOK adj infs (recs.getD []))
    (hi : infs.Nodup) (hr : (recs.getD []).Nodup) (tmin tmax : Rat) (tcount : Int) (l : List Ser)
    (h : SIR_homogeneous_meanfield_from_graph odeint A tau gamma (some infs) recs none tmin tmax tcount = .ok l) :
    get l 1 0 = (count adj (statusOf infs (recs.getD [])) St.S : Rat) ∧
    get l 2 0 = (infs.length : Rat) ∧ get l 3 0 = ((recs.getD []).length : Rat) ∧
    get l 2 0 = (count adj (statusOf infs (recs.getD [])) St.I : Rat) ∧
    get l 3 0 = (count adj (statusOf infs (recs.getD [])) St.R : Rat) := by
  obtain ⟨a, ha, hl⟩ := bind_ok_inv _ _ l h
  have hN : adj.length ≠ 0 := by
    intro e
    have : A.nodes.length = 0 := by rw [nodes_length A.toIArgs adj hG]; exact e
    rw [(SIR_homogeneous_meanfield_args_error A tau gamma (some infs) recs none tmin tmax tcount).2.1 (by simp) this]
      at ha
    cases ha
  obtain ⟨a', ha', e1, e2, e3, e4, e5, -⟩ :=
    SIR_homogeneous_meanfield_args_spec A adj hG tau gamma infs recs hS hi hr hN tmin tmax tcount
  rw [ha] at ha'; injection ha' with ha'; subst ha'
  obtain ⟨i1, i2, i3⟩ := C06d.SIR_homogeneous_meanfield_init odeint h0 _ _ _ _ _ _ _ _ _ l hl
  exact ⟨i1.trans e5, i2.trans e1, i3.trans e2, i2.trans e3, i3.trans e4⟩

/-! ## 3. `SIS_homogeneous_pairwise_from_graph` -/

theorem pair_from_ec (A : IArgs) (adj : List (List Nat)) (hG : GraphOK A adj) (st : Nat → St) :
    ((ec st A.edges St.S St.I + ec st A.edges St.I St.S : Nat) : Int) = (pairCount adj st St.S St.I : Int) ∧
    (2 * (ec st A.edges St.S St.S : Int)) = (pairCount adj st St.S St.S : Int) := by
  rw [pairCount_eq_edges A adj hG, pairCount_eq_edges A adj hG]
  constructor <;> push_cast <;> ring

/-- (A) explicit initial set of graph nodes: `I0 = len(infs)`, `S0 = N - I0`, `SI0` = number of ordered neighbour
pairs (S,I) = number of S–I edges, `SS0` = number of ordered pairs (S,S) = TWICE the number of S–S edges,
`n = Σ_k k·Pk[k] = 2|E|/N`.  For a duplicate-free list `I0`, `S0` are the status counts (`request_counts`). -/
theorem SIS_homogeneous_pairwise_args_spec (A : WArgs) (adj : List (List Nat)) (hG : GraphOK A.toIArgs adj)
    (tau gamma : Rat) (infs : List Node) (hin : ∀ u ∈ infs, u < adj.length)
    (tmin tmax : Rat) (tcount : Int) (full : Bool) :
    SIS_homogeneous_pairwise_from_graph_args A tau gamma (some infs) none tmin tmax tcount full =
      .ok { S0 := (adj.length : Rat) - (infs.length : Rat), I0 := (infs.length : Rat),
            SI0 := (pairCount adj (statusOf infs []) St.S St.I : Rat),
            SS0 := (pairCount adj (statusOf infs []) St.S St.S : Rat),
            n := (twoM adj : Rat) / (adj.length : Rat), tau := tau, gamma := gamma, tmin := tmin, tmax := tmax,
            tcount := tcount, return_full_data := full } := by
  have hst := status_of_setsOK A adj hG (SetsOK.nil_recs hin)
  rw [SIS_hom_pw_sets, hst, GenHelpProofs.ok_bind, foldl_sisPwStep _ (statusOf_nil_ne_R infs),
    (kave_eq A adj hG).2, (kave_eq A adj hG).1, nodes_length A.toIArgs adj hG]
  simp only [zero_add, (pair_from_ec A.toIArgs adj hG (statusOf infs [])).1,
    (pair_from_ec A.toIArgs adj hG (statusOf infs [])).2, Int.cast_natCast]

/-- (A) without `initial_infecteds`: `rho` (default `1/N`), `S0 = (1-rho)N`, `I0 = rho·N`, `SI0 = (1-rho)·N·n·rho`,
`SS0 = (1-rho)·N·n·(1-rho)`; on a graph with nodes these are `rhoS, rhoI, rhoSI, rhoSS` of the model -/
theorem SIS_homogeneous_pairwise_args_rho (A : WArgs) (adj : List (List Nat)) (hG : GraphOK A.toIArgs adj)
    (tau gamma : Rat) (rho : Option Rat) (hN : adj.length ≠ 0) (tmin tmax : Rat) (tcount : Int) (full : Bool) :
    ∃ a, SIS_homogeneous_pairwise_from_graph_args A tau gamma none rho tmin tmax tcount full = .ok a ∧
      a.S0 = rhoS adj (rho.getD (1 / (adj.length : Rat))) ∧ a.I0 = rhoI adj (rho.getD (1 / (adj.length : Rat))) ∧
      a.SI0 = rhoSI adj (rho.getD (1 / (adj.length : Rat))) ∧ a.SS0 = rhoSS adj (rho.getD (1 / (adj.length : Rat))) ∧
      a.n = (twoM adj : Rat) / (adj.length : Rat) := by
  rw [SIS_hom_pw_rho, rhoOr_graph A adj hG hN, (kave_eq A adj hG).2, (kave_eq A adj hG).1,
    nodes_length A.toIArgs adj hG]
  generalize rho.getD (1 / (adj.length : Rat)) = r
  exact ⟨_, rfl, rfl, rfl, (rho_pairs adj hN r).1, (rho_pairs adj hN r).2, rfl⟩

/-- (B) `EoNError` when both are given; `EoNError` for an initial node that is not in the graph; ZeroDivisionError
(from the default `rho = 1/N`) on the empty graph when neither is given — but NOT when `rho` is given (`get_Pk` of
no degrees is the empty dict, `n = 0`) -/
theorem SIS_homogeneous_pairwise_args_error (A : WArgs) (adj : List (List Nat)) (hG : GraphOK A.toIArgs adj)
    (tau gamma : Rat) (tmin tmax : Rat) (tcount : Int) (full : Bool) :
    (∀ infs r, SIS_homogeneous_pairwise_from_graph_args A tau gamma (some infs) (some r) tmin tmax tcount full
        = .error "EoNError") ∧
    (∀ infs u, u ∈ infs → adj.length ≤ u →
      SIS_homogeneous_pairwise_from_graph_args A tau gamma (some infs) none tmin tmax tcount full
        = .error "EoNError") ∧
    (adj.length = 0 → SIS_homogeneous_pairwise_from_graph_args A tau gamma none none tmin tmax tcount full
        = .error "ZeroDivisionError") ∧
    (∀ r, ∃ a, SIS_homogeneous_pairwise_from_graph_args A tau gamma none (some r) tmin tmax tcount full = .ok a) := by
  refine ⟨fun infs r => rfl, fun infs u hu hf => ?_, fun hN => ?_, fun r => ?_⟩
  · rw [SIS_hom_pw_sets, C06c.gen_status_error_foreign A.toIArgs adj hG.hasNode infs [] (by simp) u (Or.inl hu) hf]
    rfl
  · rw [SIS_hom_pw_rho]
    simp [rhoOr, nodes_length A.toIArgs adj hG, hN]
  · rw [SIS_hom_pw_rho]; exact ⟨_, rfl⟩

/-- (C) `S0 + I0 = N` in every non-error case (explicit set of graph nodes; or `rho`) -/
theorem SIS_homogeneous_pairwise_args_total (A : WArgs) (adj : List (List Nat)) (hG : GraphOK A.toIArgs adj)
    (tau gamma : Rat) (infs : Option (List Node)) (rho : Option Rat) (tmin tmax : Rat) (tcount : Int) (full : Bool)
    (a : SIS_homogeneous_pairwise_Args)
    (h : SIS_homogeneous_pairwise_from_graph_args A tau gamma infs rho tmin tmax tcount full = .ok a) :
    a.S0 + a.I0 = (adj.length : Rat) := by
  cases infs with
  | some l =>
    cases rho with
    | some r => cases h
    | none =>
      rw [SIS_hom_pw_sets] at h
      obtain ⟨st, -, h⟩ := bind_ok_inv _ _ _ h
      injection h with h; subst h
      simp [nodes_length A.toIArgs adj hG]
  | none =>
    rw [SIS_hom_pw_rho] at h
    obtain ⟨r, -, h⟩ := bind_ok_inv _ _ _ h
    injection h with h; subst h
    simp only [nodes_length A.toIArgs adj hG]; ring

theorem SIS_homogeneous_pairwise_from_graph_inv (odeint : Solver) (A : WArgs) (tau gamma : Rat)
    (infs : Option (List Node)) (rho : Option Rat) (tmin tmax : Rat) (tcount : Int) (full : Bool) (l : List Ser)
    (h : SIS_homogeneous_pairwise_from_graph odeint A tau gamma infs rho tmin tmax tcount full = .ok l) :
    ∃ a, SIS_homogeneous_pairwise_from_graph_args A tau gamma infs rho tmin tmax tcount full = .ok a ∧
      GenGlue.SIS_homogeneous_pairwise odeint a.S0 a.I0 a.SI0 a.SS0 a.n a.tau a.gamma a.tmin a.tmax a.tcount.toNat
        a.return_full_data = .ok l :=
  bind_ok_inv _ _ l h

/-- (D) end to end, EVERY solver, EVERY time index, any request: `S + I = N` -/
theorem SIS_homogeneous_pairwise_from_graph_conserve (odeint : Solver) (A : WArgs) (adj : List (List Nat))
    (hG : GraphOK A.toIArgs adj) (tau gamma : Rat) (infs : Option (List Node)) (rho : Option Rat) (tmin tmax : Rat)
    (tcount : Int) (full : Bool) (l : List Ser)
    (h : SIS_homogeneous_pairwise_from_graph odeint A tau gamma infs rho tmin tmax tcount full = .ok l) (i : Nat) :
    get l 1 i + get l 2 i = (adj.length : Rat) := by
  obtain ⟨a, ha, hl⟩ := bind_ok_inv _ _ l h
  rw [C06d.SIS_homogeneous_pairwise_conserve odeint _ _ _ _ _ _ _ _ _ _ _ l hl i]
  exact SIS_homogeneous_pairwise_args_total A adj hG tau gamma infs rho tmin tmax tcount full a ha

/-- (D) end to end: the returned `S`, `I` start from the requested state of the graph -/
theorem SIS_homogeneous_pairwise_from_graph_init (odeint : Solver) (h0 : RowZero odeint) (A : WArgs)
    (adj : List (List Nat)) (hG : GraphOK A.toIArgs adj) (tau gamma : Rat) (infs : List Node)
    (hin : ∀ u ∈ infs, u < adj.length) (hnd : infs.Nodup) (tmin tmax : Rat) (tcount : Int) (full : Bool)
    (l : List Ser)
    (h : SIS_homogeneous_pairwise_from_graph odeint A tau gamma (some infs) none tmin tmax tcount full = .ok l) :
    get l 1 0 = (count adj (statusOf infs []) St.S : Rat) ∧ get l 2 0 = (infs.length : Rat) ∧
    get l 2 0 = (count adj (statusOf infs []) St.I : Rat) := by
  have hl := (bind_ok (SIS_homogeneous_pairwise_args_spec A adj hG tau gamma infs hin tmin tmax tcount full)
    _).symm.trans h
  obtain ⟨i1, i2⟩ := C06d.SIS_homogeneous_pairwise_init odeint h0 _ _ _ _ _ _ _ _ _ _ _ l hl
  obtain ⟨cI, -, cS⟩ := request_counts adj infs [] (SetsOK.nil_recs hin) hnd List.nodup_nil
  exact ⟨i1.trans (by rw [cS]; simp), i2, i2.trans cI.symm⟩

/-! ## 4. `SIR_homogeneous_pairwise_from_graph` -/

/-- (A) explicit disjoint sets of graph nodes: `I0 = len(infs)`, `R0 = len(recs)`, `S0 = N - I0 - R0`, `SI0` = number
of ordered neighbour pairs (S,I) (= S–I edges), `SS0` = number of ordered pairs (S,S) (= twice the S–S edges) -/
theorem SIR_homogeneous_pairwise_args_spec (A : WArgs) (adj : List (List Nat)) (hG : GraphOK A.toIArgs adj)
    (tau gamma : Rat) (infs : List Node) (recs : Option (List Node)) (hS : SetsOK adj infs (recs.getD []))
    (tmin tmax : Rat) (tcount : Int) (full : Bool) :
    SIR_homogeneous_pairwise_from_graph_args A tau gamma (some infs) recs none tmin tmax tcount full =
      .ok { S0 := (adj.length : Rat) - (infs.length : Rat) - ((recs.getD []).length : Rat),
            I0 := (infs.length : Rat), R0 := ((recs.getD []).length : Rat),
            SI0 := (pairCount adj (statusOf infs (recs.getD [])) St.S St.I : Rat),
            SS0 := (pairCount adj (statusOf infs (recs.getD [])) St.S St.S : Rat),
            n := (twoM adj : Rat) / (adj.length : Rat), tau := tau, gamma := gamma, tmin := tmin, tmax := tmax,
            tcount := tcount, return_full_data := full } := by
  have hst := status_of_setsOK A adj hG hS
  rw [SIR_hom_pw_sets, hst, GenHelpProofs.ok_bind, foldl_sirPwStep,
    (kave_eq A adj hG).2, (kave_eq A adj hG).1, nodes_length A.toIArgs adj hG]
  simp only [zero_add, (pair_from_ec A.toIArgs adj hG (statusOf infs (recs.getD []))).1,
    (pair_from_ec A.toIArgs adj hG (statusOf infs (recs.getD []))).2, Int.cast_natCast]

/-- (A) without `initial_infecteds` (an `initial_recovereds` given without `rho` is IGNORED: `R0 = 0`) -/
theorem SIR_homogeneous_pairwise_args_rho (A : WArgs) (adj : List (List Nat)) (hG : GraphOK A.toIArgs adj)
    (tau gamma : Rat) (recs : Option (List Node)) (rho : Option Rat) (hrr : ¬ (rho.isSome ∧ recs.isSome))
    (hN : adj.length ≠ 0) (tmin tmax : Rat) (tcount : Int) (full : Bool) :
    ∃ a, SIR_homogeneous_pairwise_from_graph_args A tau gamma none recs rho tmin tmax tcount full = .ok a ∧
      a.S0 = rhoS adj (rho.getD (1 / (adj.length : Rat))) ∧ a.I0 = rhoI adj (rho.getD (1 / (adj.length : Rat))) ∧
      a.R0 = 0 ∧
      a.SI0 = rhoSI adj (rho.getD (1 / (adj.length : Rat))) ∧ a.SS0 = rhoSS adj (rho.getD (1 / (adj.length : Rat))) ∧
      a.n = (twoM adj : Rat) / (adj.length : Rat) := by
  rw [SIR_hom_pw_rho A tau gamma recs rho hrr, rhoOr_graph A adj hG hN, (kave_eq A adj hG).2, (kave_eq A adj hG).1,
    nodes_length A.toIArgs adj hG]
  generalize rho.getD (1 / (adj.length : Rat)) = r
  exact ⟨_, rfl, rfl, rfl, rfl, (rho_pairs adj hN r).1, (rho_pairs adj hN r).2, rfl⟩

/-- (B) `EoNError`: `rho` with a set; a node in both sets; a node outside the graph.  ZeroDivisionError: neither given,
no nodes. -/
theorem SIR_homogeneous_pairwise_args_error (A : WArgs) (adj : List (List Nat)) (hG : GraphOK A.toIArgs adj)
    (tau gamma : Rat) (tmin tmax : Rat) (tcount : Int) (full : Bool) :
    (∀ infs recs r, infs.isSome ∨ recs.isSome →
      SIR_homogeneous_pairwise_from_graph_args A tau gamma infs recs (some r) tmin tmax tcount full
        = .error "EoNError") ∧
    (∀ infs recs u, u ∈ infs → u ∈ recs.getD [] →
      SIR_homogeneous_pairwise_from_graph_args A tau gamma (some infs) recs none tmin tmax tcount full
        = .error "EoNError") ∧
    (∀ infs recs u, (∀ v ∈ infs, v ∉ recs.getD []) → (u ∈ infs ∨ u ∈ recs.getD []) → adj.length ≤ u →
      SIR_homogeneous_pairwise_from_graph_args A tau gamma (some infs) recs none tmin tmax tcount full
        = .error "EoNError") ∧
    (∀ recs, adj.length = 0 →
      SIR_homogeneous_pairwise_from_graph_args A tau gamma none recs none tmin tmax tcount full
        = .error "ZeroDivisionError") := by
  refine ⟨fun infs recs r h => SIR_hom_pw_both A tau gamma infs recs r tmin tmax tcount full h,
    fun infs recs u hu hu' => ?_, fun infs recs u hd hu hf => ?_, fun recs hN => ?_⟩
  · rw [SIR_hom_pw_sets, C06c.gen_status_error_overlap A.toIArgs infs (recs.getD []) u hu hu']; rfl
  · rw [SIR_hom_pw_sets, C06c.gen_status_error_foreign A.toIArgs adj hG.hasNode infs (recs.getD []) hd u hu hf]; rfl
  · rw [SIR_hom_pw_rho A tau gamma recs none (by simp)]
    simp [rhoOr, nodes_length A.toIArgs adj hG, hN]

/-- (C) `S0 + I0 + R0 = N` in every non-error case -/
theorem SIR_homogeneous_pairwise_args_total (A : WArgs) (adj : List (List Nat)) (hG : GraphOK A.toIArgs adj)
    (tau gamma : Rat) (infs recs : Option (List Node)) (rho : Option Rat) (tmin tmax : Rat) (tcount : Int)
    (full : Bool) (a : SIR_homogeneous_pairwise_Args)
    (h : SIR_homogeneous_pairwise_from_graph_args A tau gamma infs recs rho tmin tmax tcount full = .ok a) :
    a.S0 + a.I0 + a.R0 = (adj.length : Rat) := by
  rcases request_cases infs recs rho with ⟨r, rfl, hb⟩ | ⟨l, rfl, rfl⟩ | ⟨rfl, hrr⟩
  · rw [SIR_hom_pw_both A tau gamma infs recs r tmin tmax tcount full hb] at h; cases h
  · rw [SIR_hom_pw_sets] at h
    obtain ⟨st, -, h⟩ := bind_ok_inv _ _ _ h
    injection h with h; subst h
    simp only [nodes_length A.toIArgs adj hG]; ring
  · rw [SIR_hom_pw_rho A tau gamma recs rho hrr] at h
    obtain ⟨r, -, h⟩ := bind_ok_inv _ _ _ h
    injection h with h; subst h
    simp only [nodes_length A.toIArgs adj hG]; ring

theorem SIR_homogeneous_pairwise_from_graph_inv (odeint : Solver) (A : WArgs) (tau gamma : Rat)
    (infs recs : Option (List Node)) (rho : Option Rat) (tmin tmax : Rat) (tcount : Int) (full : Bool) (l : List Ser)
    (h : SIR_homogeneous_pairwise_from_graph odeint A tau gamma infs recs rho tmin tmax tcount full = .ok l) :
    ∃ a, SIR_homogeneous_pairwise_from_graph_args A tau gamma infs recs rho tmin tmax tcount full = .ok a ∧
      GenGlue.SIR_homogeneous_pairwise odeint a.S0 a.I0 a.R0 a.SI0 a.SS0 a.n a.tau a.gamma a.tmin a.tmax
        a.tcount.toNat a.return_full_data = .ok l :=
  bind_ok_inv _ _ l h

/-- (D) end to end, EVERY solver, EVERY time index, any request: `S + I + R = N` -/
theorem SIR_homogeneous_pairwise_from_graph_conserve (odeint : Solver) (A : WArgs) (adj : List (List Nat))
    (hG : GraphOK A.toIArgs adj) (tau gamma : Rat) (infs recs : Option (List Node)) (rho : Option Rat)
    (tmin tmax : Rat) (tcount : Int) (full : Bool) (l : List Ser)
    (h : SIR_homogeneous_pairwise_from_graph odeint A tau gamma infs recs rho tmin tmax tcount full = .ok l)
    (i : Nat) : get l 1 i + get l 2 i + get l 3 i = (adj.length : Rat) := by
  obtain ⟨a, ha, hl⟩ := bind_ok_inv _ _ l h
  rw [C06d.SIR_homogeneous_pairwise_conserve odeint _ _ _ _ _ _ _ _ _ _ _ _ l hl i]
  exact SIR_homogeneous_pairwise_args_total A adj hG tau gamma infs recs rho tmin tmax tcount full a ha

/-- (D) end to end: the returned `S`, `I`, `R` start from the requested state of the graph -/
theorem SIR_homogeneous_pairwise_from_graph_init (odeint : Solver) (h0 : RowZero odeint) (A : WArgs)
    (adj : List (List Nat)) (hG : GraphOK A.toIArgs adj) (tau gamma : Rat) (infs : List Node)
    (recs : Option (List Node)) (hS : SetsOK adj infs (recs.getD [])) (hi : infs.Nodup) (hr : (recs.getD []).Nodup)
    (tmin tmax : Rat) (tcount : Int) (full : Bool) (l : List Ser)
    (h : SIR_homogeneous_pairwise_from_graph odeint A tau gamma (some infs) recs none tmin tmax tcount full = .ok l) :
    get l 1 0 = (count adj (statusOf infs (recs.getD [])) St.S : Rat) ∧
    get l 2 0 = (infs.length : Rat) ∧ get l 3 0 = ((recs.getD []).length : Rat) ∧
    get l 2 0 = (count adj (statusOf infs (recs.getD [])) St.I : Rat) ∧
    get l 3 0 = (count adj (statusOf infs (recs.getD [])) St.R : Rat) := by
  have hl := (bind_ok (SIR_homogeneous_pairwise_args_spec A adj hG tau gamma infs recs hS tmin tmax tcount full)
    _).symm.trans h
  obtain ⟨i1, i2, i3⟩ := C06d.SIR_homogeneous_pairwise_init odeint h0 _ _ _ _ _ _ _ _ _ _ _ _ l hl
  obtain ⟨cI, cR, cS⟩ := request_counts adj infs (recs.getD []) hS hi hr
  exact ⟨i1.trans cS.symm, i2, i3, i2.trans cI.symm, i3.trans cR.symm⟩

/-! ## 5. `SIS/SIR_heterogeneous_meanfield_from_graph` -/

theorem sumTo_ofList (l : List Rat) : ODE.sumTo (V.ofList l).n (V.ofList l).f = l.sum := by
  unfold ODE.sumTo
  rw [sumRat_eq_sum]
  congr 1
  apply List.ext_getElem
  · simp
  · intro i h1 h2
    simp at h1
    simp [V.ofList, List.getD_eq_getElem?_getD, h1]

/-- (A) SIR, explicit disjoint sets of graph nodes: `Sk0/Ik0/Rk0[k]` = number of nodes of degree `k` and status
`S/I/R`, `k = 0..maxdeg` -/
theorem SIR_heterogeneous_meanfield_args_spec (A : WArgs) (adj : List (List Nat)) (hG : GraphOK A.toIArgs adj)
    (tau gamma : Rat) (infs : List Node) (recs : Option (List Node)) (hS : SetsOK adj infs (recs.getD []))
    (hN : adj.length ≠ 0) (tmin tmax : Rat) (tcount : Int) (full : Bool) :
    SIR_heterogeneous_meanfield_from_graph_args A tau gamma (some infs) recs none tmin tmax tcount full =
      .ok { Sk0 := vec (maxDeg adj) (fun k => (classCount adj (statusOf infs (recs.getD [])) St.S k : Rat)),
            Ik0 := vec (maxDeg adj) (fun k => (classCount adj (statusOf infs (recs.getD [])) St.I k : Rat)),
            Rk0 := vec (maxDeg adj) (fun k => (classCount adj (statusOf infs (recs.getD [])) St.R k : Rat)),
            tau := tau, gamma := gamma, tmin := tmin, tmax := tmax, tcount := tcount, return_full_data := full } := by
  have hne : A.nodes ≠ [] := mt (nodes_nil_iff A.toIArgs adj hG).mp hN
  rw [SIR_het_mf_closed, arrays_closed]
  simp only [Option.isSome_none, false_and, if_false, Bool.true_eq_false, hne,
    C06c.gen_sets_eq_vec A.toIArgs adj hG infs (recs.getD []) hS.disj hS.infIn hS.recIn]
  rfl

/-- (A) SIS, explicit set of graph nodes -/
theorem SIS_heterogeneous_meanfield_args_spec (A : WArgs) (adj : List (List Nat)) (hG : GraphOK A.toIArgs adj)
    (tau gamma : Rat) (infs : List Node) (hin : ∀ u ∈ infs, u < adj.length)
    (hN : adj.length ≠ 0) (tmin tmax : Rat) (tcount : Int) (full : Bool) :
    SIS_heterogeneous_meanfield_from_graph_args A tau gamma (some infs) none tmin tmax tcount full =
      .ok { Sk0 := vec (maxDeg adj) (fun k => (classCount adj (statusOf infs []) St.S k : Rat)),
            Ik0 := vec (maxDeg adj) (fun k => (classCount adj (statusOf infs []) St.I k : Rat)),
            tau := tau, gamma := gamma, tmin := tmin, tmax := tmax, tcount := tcount, return_full_data := full } := by
  have hne : A.nodes ≠ [] := mt (nodes_nil_iff A.toIArgs adj hG).mp hN
  have hS := SetsOK.nil_recs (adj := adj) hin
  rw [SIS_het_mf_closed, arrays_closed]
  simp only [Option.isSome_none, if_false, hne, Option.getD_none,
    C06c.gen_sets_eq_vec A.toIArgs adj hG infs [] hS.disj hS.infIn hS.recIn]
  rfl

/-- (A) without initial sets: `rho` (default `1/N`): `Sk0[k] = (1-rho)·N_k`, `Ik0[k] = rho·N_k`, `Rk0 = 0` -/
theorem SIR_heterogeneous_meanfield_args_rho (A : WArgs) (adj : List (List Nat)) (hG : GraphOK A.toIArgs adj)
    (tau gamma : Rat) (rho : Option Rat) (hN : adj.length ≠ 0) (tmin tmax : Rat) (tcount : Int) (full : Bool) :
    SIR_heterogeneous_meanfield_from_graph_args A tau gamma none none rho tmin tmax tcount full =
      .ok { Sk0 := vec (maxDeg adj) (fun k => rhoSk adj (rho.getD (1 / (adj.length : Rat))) k),
            Ik0 := vec (maxDeg adj) (fun k => rhoIk adj (rho.getD (1 / (adj.length : Rat))) k),
            Rk0 := vec (maxDeg adj) (fun _ => 0),
            tau := tau, gamma := gamma, tmin := tmin, tmax := tmax, tcount := tcount, return_full_data := full } := by
  have hne : A.nodes ≠ [] := mt (nodes_nil_iff A.toIArgs adj hG).mp hN
  rw [SIR_het_mf_closed, arrays_closed]
  simp only [Option.isSome_none, Bool.false_eq_true, and_false, if_false, Bool.true_eq_false, hne,
    C06c.gen_rho_eq_vec A.toIArgs adj hG, nodes_length A.toIArgs adj hG]
  rfl

theorem SIS_heterogeneous_meanfield_args_rho (A : WArgs) (adj : List (List Nat)) (hG : GraphOK A.toIArgs adj)
    (tau gamma : Rat) (rho : Option Rat) (hN : adj.length ≠ 0) (tmin tmax : Rat) (tcount : Int) (full : Bool) :
    SIS_heterogeneous_meanfield_from_graph_args A tau gamma none rho tmin tmax tcount full =
      .ok { Sk0 := vec (maxDeg adj) (fun k => rhoSk adj (rho.getD (1 / (adj.length : Rat))) k),
            Ik0 := vec (maxDeg adj) (fun k => rhoIk adj (rho.getD (1 / (adj.length : Rat))) k),
            tau := tau, gamma := gamma, tmin := tmin, tmax := tmax, tcount := tcount, return_full_data := full } := by
  have hne : A.nodes ≠ [] := mt (nodes_nil_iff A.toIArgs adj hG).mp hN
  rw [SIS_het_mf_closed, arrays_closed]
  simp only [Option.isSome_none, Bool.false_eq_true, and_false, if_false, hne,
    C06c.gen_rho_eq_vec A.toIArgs adj hG, nodes_length A.toIArgs adj hG]
  rfl

/-- (B) SIR: `EoNError` for `rho` with a set, ValueError (NOT ZeroDivisionError: `max` of no degrees comes before
`1/N`) for a graph without nodes, `EoNError` of the status builder (overlap / foreign node) afterwards -/
theorem SIR_heterogeneous_meanfield_args_error (A : WArgs) (tau gamma : Rat) (infs recs : Option (List Node))
    (rho : Option Rat) (tmin tmax : Rat) (tcount : Int) (full : Bool) :
    (rho.isSome ∧ (infs.isSome ∨ recs.isSome) →
      SIR_heterogeneous_meanfield_from_graph_args A tau gamma infs recs rho tmin tmax tcount full
        = .error "EoNError") ∧
    (¬ (rho.isSome ∧ (infs.isSome ∨ recs.isSome)) → A.nodes = [] →
      SIR_heterogeneous_meanfield_from_graph_args A tau gamma infs recs rho tmin tmax tcount full
        = .error "ValueError") ∧
    (∀ l e, infs = some l → rho = none → A.nodes ≠ [] →
      initialize_node_status A.toIArgs l (recs.getD []) = .error e →
      SIR_heterogeneous_meanfield_from_graph_args A tau gamma infs recs rho tmin tmax tcount full = .error e) ∧
    (infs = none → ¬ (rho.isSome ∧ recs.isSome) → A.nodes ≠ [] →
      ∃ a, SIR_heterogeneous_meanfield_from_graph_args A tau gamma infs recs rho tmin tmax tcount full = .ok a) := by
  rw [SIR_het_mf_closed, arrays_closed]
  refine ⟨fun h => ?_, fun h hN => ?_, fun l e hl hr hN he => ?_, fun hi hrr hN => ?_⟩
  · by_cases h1 : rho.isSome ∧ infs.isSome
    · rw [if_pos h1]; rfl
    · rw [if_neg h1, if_pos]
      · rfl
      · rcases h with ⟨hr, hi | hr'⟩
        · exact absurd ⟨hr, hi⟩ h1
        · exact ⟨hr, hr'⟩
  · rw [if_neg (fun h1 => h ⟨h1.1, Or.inl h1.2⟩), if_neg (fun h1 => h ⟨h1.1, Or.inr h1.2⟩), if_neg (by simp),
      if_pos hN]; rfl
  · subst hl; subst hr
    simp only [Option.isSome_none, false_and, if_false, Bool.true_eq_false, hN, C06c.gen_sets_error _ _ _ e he]
    rfl
  · subst hi
    simp only [Option.isSome_none, Bool.false_eq_true, and_false, if_false, Bool.true_eq_false, false_and, hN, hrr]
    exact ⟨_, rfl⟩

/-- (C) SIR: `Σ_k (Sk0 + Ik0 + Rk0)[k] = N`, the class sums are the status counts, `return_full_data` is passed on -/
theorem SIR_heterogeneous_meanfield_args_total (A : WArgs) (adj : List (List Nat)) (hG : GraphOK A.toIArgs adj)
    (tau gamma : Rat) (infs : List Node) (recs : Option (List Node)) (hS : SetsOK adj infs (recs.getD []))
    (tmin tmax : Rat) (tcount : Int) (full : Bool) (a : SIR_heterogeneous_meanfield_Args)
    (h : SIR_heterogeneous_meanfield_from_graph_args A tau gamma (some infs) recs none tmin tmax tcount full = .ok a) :
    a.Sk0.sum + a.Ik0.sum + a.Rk0.sum = (adj.length : Rat) ∧
    a.Sk0.sum = (count adj (statusOf infs (recs.getD [])) St.S : Rat) ∧
    a.Ik0.sum = (count adj (statusOf infs (recs.getD [])) St.I : Rat) ∧
    a.Rk0.sum = (count adj (statusOf infs (recs.getD [])) St.R : Rat) ∧ a.return_full_data = full := by
  have hN : adj.length ≠ 0 := by
    intro e
    have hne := (nodes_nil_iff A.toIArgs adj hG).mpr e
    rw [(SIR_heterogeneous_meanfield_args_error A tau gamma (some infs) recs none tmin tmax tcount full).2.1
      (by simp) hne] at h
    cases h
  rw [SIR_heterogeneous_meanfield_args_spec A adj hG tau gamma infs recs hS hN] at h
  injection h with h; subst h
  obtain ⟨t1, -, t2, t3, t4⟩ := C06c.gen_sets_total A.toIArgs adj hG infs (recs.getD []) hS.disj hS.infIn hS.recIn
    _ _ _ _ (C06c.gen_sets_eq_vec A.toIArgs adj hG infs (recs.getD []) hS.disj hS.infIn hS.recIn)
  exact ⟨t1, t2, t3, t4, rfl⟩

/-- (C) rho branch: `Σ_k (Sk0 + Ik0)[k] = N`, `Σ Rk0 = 0` -/
theorem SIR_heterogeneous_meanfield_args_total_rho (A : WArgs) (adj : List (List Nat)) (hG : GraphOK A.toIArgs adj)
    (tau gamma : Rat) (rho : Option Rat) (hN : adj.length ≠ 0) (tmin tmax : Rat) (tcount : Int) (full : Bool)
    (a : SIR_heterogeneous_meanfield_Args)
    (h : SIR_heterogeneous_meanfield_from_graph_args A tau gamma none none rho tmin tmax tcount full = .ok a) :
    a.Sk0.sum + a.Ik0.sum + a.Rk0.sum = (adj.length : Rat) ∧
    a.Sk0.sum = rhoS adj (rho.getD (1 / (adj.length : Rat))) ∧
    a.Ik0.sum = rhoI adj (rho.getD (1 / (adj.length : Rat))) := by
  rw [SIR_heterogeneous_meanfield_args_rho A adj hG tau gamma rho hN] at h
  injection h with h; subst h
  obtain ⟨t1, t2, t3, t4⟩ := rho_vec_sums A.toIArgs adj hG (rho.getD (1 / (adj.length : Rat)))
  refine ⟨?_, t2, t3⟩
  simp only [] at t1 t4 ⊢
  rw [t4, add_zero]; exact t1

theorem SIR_heterogeneous_meanfield_from_graph_inv (odeint : Solver) (A : WArgs) (tau gamma : Rat)
    (infs recs : Option (List Node)) (rho : Option Rat) (tmin tmax : Rat) (tcount : Int) (full : Bool) (l : List Ser)
    (h : SIR_heterogeneous_meanfield_from_graph odeint A tau gamma infs recs rho tmin tmax tcount full = .ok l) :
    ∃ a, SIR_heterogeneous_meanfield_from_graph_args A tau gamma infs recs rho tmin tmax tcount full = .ok a ∧
      GenGlue.SIR_heterogeneous_meanfield odeint (V.ofList a.Sk0) (V.ofList a.Ik0) (V.ofList a.Rk0) a.tau a.gamma
        a.tmin a.tmax a.tcount.toNat a.return_full_data = .ok l :=
  bind_ok_inv _ _ l h

/-- (D) end to end (`return_full_data=False`), EVERY solver: `S + I + R = N` at EVERY time index, and with
`odeint rhs X0 0 = X0` the series start from the status counts of the graph -/
theorem SIR_heterogeneous_meanfield_from_graph_init_conserve (odeint : Solver) (A : WArgs)
    (adj : List (List Nat)) (hG : GraphOK A.toIArgs adj) (tau gamma : Rat) (infs : List Node)
    (recs : Option (List Node)) (hS : SetsOK adj infs (recs.getD []))
    (tmin tmax : Rat) (tcount : Int) (l : List Ser)
    (h : SIR_heterogeneous_meanfield_from_graph odeint A tau gamma (some infs) recs none tmin tmax tcount false
      = .ok l) :
    (∀ i, get l 1 i + get l 2 i + get l 3 i = (adj.length : Rat)) ∧
    (RowZero odeint →
      get l 1 0 = (count adj (statusOf infs (recs.getD [])) St.S : Rat) ∧
      get l 2 0 = (count adj (statusOf infs (recs.getD [])) St.I : Rat) ∧
      get l 3 0 = (count adj (statusOf infs (recs.getD [])) St.R : Rat) ∧
      (infs.Nodup → (recs.getD []).Nodup →
        get l 2 0 = (infs.length : Rat) ∧ get l 3 0 = ((recs.getD []).length : Rat))) := by
  obtain ⟨a, ha, hl⟩ := bind_ok_inv _ _ l h
  obtain ⟨t1, t2, t3, t4, hf⟩ := SIR_heterogeneous_meanfield_args_total A adj hG tau gamma infs recs hS tmin tmax
    tcount false a ha
  rw [hf] at hl
  refine ⟨fun i => ?_, fun h0 => ?_⟩
  · rw [C06d.SIR_heterogeneous_meanfield_conserve odeint _ _ _ _ _ _ _ _ l hl i, sumTo_ofList, sumTo_ofList,
      sumTo_ofList]
    exact t1
  · obtain ⟨i1, i2, i3⟩ := C06d.SIR_heterogeneous_meanfield_init odeint h0 _ _ _ _ _ _ _ _ l hl
    rw [sumTo_ofList] at i1 i2 i3
    refine ⟨i1.trans t2, i2.trans t3, i3.trans t4, fun hi hr => ?_⟩
    obtain ⟨cI, cR, -⟩ := request_counts adj infs (recs.getD []) hS hi hr
    exact ⟨(i2.trans t3).trans cI, (i3.trans t4).trans cR⟩

/-! ## 6. `SIS/SIR_compact_pairwise_from_graph` (explicit sets) -/

/-- (A) SIS: class vectors and the three ordered-pair counts (`SS0`, `II0` count every edge twice, `SI0` once) -/
theorem SIS_compact_pairwise_args_spec (A : WArgs) (adj : List (List Nat)) (hG : GraphOK A.toIArgs adj)
    (tau gamma : Rat) (infs : List Node) (hin : ∀ u ∈ infs, u < adj.length)
    (hN : adj.length ≠ 0) (tmin tmax : Rat) (tcount : Int) (full : Bool) :
    SIS_compact_pairwise_from_graph_args A tau gamma (some infs) none tmin tmax tcount full =
      .ok { Sk0 := vec (maxDeg adj) (fun k => (classCount adj (statusOf infs []) St.S k : Rat)),
            Ik0 := vec (maxDeg adj) (fun k => (classCount adj (statusOf infs []) St.I k : Rat)),
            SI0 := (pairCount adj (statusOf infs []) St.S St.I : Rat),
            SS0 := (pairCount adj (statusOf infs []) St.S St.S : Rat),
            II0 := (pairCount adj (statusOf infs []) St.I St.I : Rat),
            tau := tau, gamma := gamma, tmin := tmin, tmax := tmax, tcount := tcount, return_full_data := full } := by
  have hne : A.nodes ≠ [] := mt (nodes_nil_iff A.toIArgs adj hG).mp hN
  have hS := SetsOK.nil_recs (adj := adj) hin
  rw [SIS_cp_sets, if_neg hne, C06c.gen_sets_eq_vec A.toIArgs adj hG infs [] hS.disj hS.infIn hS.recIn,
    C06c.gen_count_edges_eq A.toIArgs adj hG infs [] hS.disj hS.infIn hS.recIn]
  simp [GenHelpProofs.ok_bind]

/-- (A) SIR: `Sk0` class vector, `I0`/`R0` = number of infected / recovered nodes (sums of the class vectors),
`SS0`, `SI0` ordered-pair counts; the class vector sums to the number of susceptible nodes (`classCount_sum`) -/
theorem SIR_compact_pairwise_args_spec (A : WArgs) (adj : List (List Nat)) (hG : GraphOK A.toIArgs adj)
    (tau gamma : Rat) (infs : List Node) (recs : Option (List Node)) (hS : SetsOK adj infs (recs.getD []))
    (hN : adj.length ≠ 0) (tmin tmax : Rat) (tcount : Int) (full : Bool) :
    SIR_compact_pairwise_from_graph_args A tau gamma (some infs) recs none tmin tmax tcount full =
      .ok { Sk0 := vec (maxDeg adj) (fun k => (classCount adj (statusOf infs (recs.getD [])) St.S k : Rat)),
            I0 := (count adj (statusOf infs (recs.getD [])) St.I : Rat),
            R0 := (count adj (statusOf infs (recs.getD [])) St.R : Rat),
            SS0 := (pairCount adj (statusOf infs (recs.getD [])) St.S St.S : Rat),
            SI0 := (pairCount adj (statusOf infs (recs.getD [])) St.S St.I : Rat),
            tau := tau, gamma := gamma, tmin := tmin, tmax := tmax, tcount := tcount, return_full_data := full } := by
  have hne : A.nodes ≠ [] := mt (nodes_nil_iff A.toIArgs adj hG).mp hN
  rw [SIR_cp_sets, if_neg hne, C06c.gen_sets_eq_vec A.toIArgs adj hG infs (recs.getD []) hS.disj hS.infIn hS.recIn,
    C06c.gen_count_edges_eq A.toIArgs adj hG infs (recs.getD []) hS.disj hS.infIn hS.recIn]
  simp only [GenHelpProofs.ok_bind, sumRat_eq_sum, classCount_sum, Int.cast_natCast]

theorem SIR_compact_pairwise_from_graph_inv (odeint : Solver) (A : WArgs) (tau gamma : Rat)
    (infs recs : Option (List Node)) (rho : Option Rat) (tmin tmax : Rat) (tcount : Int) (full : Bool) (l : List Ser)
    (h : SIR_compact_pairwise_from_graph odeint A tau gamma infs recs rho tmin tmax tcount full = .ok l) :
    ∃ a, SIR_compact_pairwise_from_graph_args A tau gamma infs recs rho tmin tmax tcount full = .ok a ∧
      GenGlue.SIR_compact_pairwise odeint (V.ofList a.Sk0) a.I0 a.R0 a.SS0 a.SI0 a.tau a.gamma
        a.tmin a.tmax a.tcount.toNat a.return_full_data = .ok l :=
  bind_ok_inv _ _ l h

/-- (D) end to end (`return_full_data=False`), EVERY solver: `S + I + R = N` at EVERY time index, and with
`odeint rhs X0 0 = X0` the series start from the status counts of the graph -/
theorem SIR_compact_pairwise_from_graph_init_conserve (odeint : Solver) (A : WArgs)
    (adj : List (List Nat)) (hG : GraphOK A.toIArgs adj) (tau gamma : Rat) (infs : List Node)
    (recs : Option (List Node)) (hS : SetsOK adj infs (recs.getD [])) (hN : adj.length ≠ 0)
    (tmin tmax : Rat) (tcount : Int) (l : List Ser)
    (h : SIR_compact_pairwise_from_graph odeint A tau gamma (some infs) recs none tmin tmax tcount false = .ok l) :
    (∀ i, get l 1 i + get l 2 i + get l 3 i = (adj.length : Rat)) ∧
    (RowZero odeint →
      get l 1 0 = (count adj (statusOf infs (recs.getD [])) St.S : Rat) ∧
      get l 2 0 = (count adj (statusOf infs (recs.getD [])) St.I : Rat) ∧
      get l 3 0 = (count adj (statusOf infs (recs.getD [])) St.R : Rat) ∧
      (infs.Nodup → (recs.getD []).Nodup →
        get l 2 0 = (infs.length : Rat) ∧ get l 3 0 = ((recs.getD []).length : Rat))) := by
  have hl := (bind_ok (SIR_compact_pairwise_args_spec A adj hG tau gamma infs recs hS hN tmin tmax tcount false)
    _).symm.trans h
  refine ⟨fun i => ?_, fun h0 => ?_⟩
  · rw [C06d.SIR_compact_pairwise_conserve odeint _ _ _ _ _ _ _ _ _ _ l hl i, sumTo_ofList]
    exact (congrArg (· + _ + _) (classCount_sum ..)).trans (count_total_rat ..)
  · obtain ⟨i1, i2, i3⟩ := C06d.SIR_compact_pairwise_init odeint h0 _ _ _ _ _ _ _ _ _ _ l hl
    rw [sumTo_ofList] at i1
    refine ⟨i1.trans (classCount_sum ..), i2, i3, fun hi hr => ?_⟩
    obtain ⟨cI, cR, -⟩ := request_counts adj infs (recs.getD []) hS hi hr
    exact ⟨i2.trans cI, i3.trans cR⟩

/-! ## 7. non-vacuity: the triangle 0–1–2 with the pendant node 3 of C06c -/

/-- the graph of C06c as the wrappers read it -/
def exW : WArgs := { C06c.exA with neighbors := fun u => C06c.exAdj.getD u [] }

theorem exW_ok : GraphOK exW.toIArgs C06c.exAdj := C06c.exOK

/-- node 0 infected, node 3 recovered: `S0 I0 R0 SI0 SS0 n = 2 1 1 2 2 2` (edges 0–1, 0–2 are S–I, edge 1–2 is S–S and
counts twice, `n = 8/4`) -/
example : ((SIR_homogeneous_pairwise_from_graph_args exW 1 1 (some [0]) (some [3]) none 0 10 11 false).toOption.map
    fun a => (a.S0, a.I0, a.R0, a.SI0, a.SS0, a.n)) = some (2, 1, 1, 2, 2, 2) := by decide +kernel
/-- the default: ONE infected node for the homogeneous mean-field wrapper … -/
example : ((SIS_homogeneous_meanfield_from_graph_args exW 1 1 none none 0 10 11).toOption.map
    fun a => (a.S0, a.I0, a.n)) = some (3, 1, 2) := by decide +kernel
/-- … and `rho = 1/N` for the pairwise wrapper: `S0 I0 SI0 SS0 = 3 1 3/2 9/2` -/
example : ((SIS_homogeneous_pairwise_from_graph_args exW 1 1 none none 0 10 11 false).toOption.map
    fun a => (a.S0, a.I0, a.SI0, a.SS0, a.n)) = some (3, 1, 3 / 2, 9 / 2, 2) := by decide +kernel
/-- class vectors over degrees `0..3` -/
example : ((SIR_heterogeneous_meanfield_from_graph_args exW 1 1 (some [0]) (some [3]) none 0 10 11 false).toOption.map
    fun a => (a.Sk0, a.Ik0, a.Rk0)) = some ([0, 0, 1, 1], [0, 0, 1, 0], [0, 1, 0, 0]) := by decide +kernel
example : ((SIR_compact_pairwise_from_graph_args exW 1 1 (some [0]) (some [3]) none 0 10 11 false).toOption.map
    fun a => (a.Sk0, a.I0, a.R0, a.SS0, a.SI0)) = some ([0, 0, 1, 1], 1, 1, 2, 2) := by decide +kernel
/-- error cases: `rho` with a set; node 1 in both sets; a foreign node; the empty graph -/
example : (match SIR_homogeneous_pairwise_from_graph_args exW 1 1 (some [0]) none (some (1 / 4)) 0 10 11 false with
    | .error e => e == "EoNError" | .ok _ => false) = true := by decide +kernel
example : (match SIR_homogeneous_pairwise_from_graph_args exW 1 1 (some [0, 1]) (some [1]) none 0 10 11 false with
    | .error e => e == "EoNError" | .ok _ => false) = true := by decide +kernel
example : (match SIS_compact_pairwise_from_graph_args exW 1 1 (some [7]) none 0 10 11 false with
    | .error e => e == "EoNError" | .ok _ => false) = true := by decide +kernel
def emptyW : WArgs := { nodes := [], edges := [], degree := fun _ => 0, hasNode := fun _ => false,
                        neighbors := fun _ => [] }
example : (match SIS_homogeneous_meanfield_from_graph_args emptyW 1 1 none none 0 10 11 with
    | .error e => e == "ZeroDivisionError" | .ok _ => false) = true := by decide +kernel
/-- the heterogeneous wrapper raises ValueError (`max` of no degrees) on the empty graph, the compact pairwise wrapper
ZeroDivisionError (it computes the default `rho = 1/N` first) -/
example : (match SIS_heterogeneous_meanfield_from_graph_args emptyW 1 1 none none 0 10 11 false with
    | .error e => e == "ValueError" | .ok _ => false) = true := by decide +kernel
example : (match SIS_compact_pairwise_from_graph_args emptyW 1 1 none none 0 10 11 false with
    | .error e => e == "ZeroDivisionError" | .ok _ => false) = true := by decide +kernel
/-- the homogeneous mean-field wrappers do not validate the sets: a foreign node and an overlap are accepted, and a
repeated node is counted twice (`I0 = 3`, `S0 = 1` on four nodes with ONE infected node in the status map) -/
example : ((SIR_homogeneous_meanfield_from_graph_args exW 1 1 (some [0, 0, 7]) (some [0]) none 0 10 11).toOption.map
    fun a => (a.S0, a.I0, a.R0)) = some (0, 3, 1) := by decide +kernel
/-- `Nodup` is necessary in `…_args_spec` / `…_from_graph_init`: `I0 = len = 2` but one infected node; the pair counts
are those of the status map (one infected node) -/
example : ((SIS_homogeneous_pairwise_from_graph_args exW 1 1 (some [0, 0]) none 0 10 11 false).toOption.map
    fun a => (a.S0, a.I0, a.SI0, a.SS0)) = some (2, 2, 2, 4) ∧ count C06c.exAdj (statusOf [0, 0] []) St.I = 1 := by
  constructor <;> decide +kernel
/-- `initial_recovereds` without `initial_infecteds` (and without `rho`) is silently ignored by the pairwise wrapper -/
example : ((SIR_homogeneous_pairwise_from_graph_args exW 1 1 none (some [3]) none 0 10 11 false).toOption.map
    fun a => (a.S0, a.I0, a.R0)) = some (3, 1, 0) := by decide +kernel
/-- the theorems instantiated; end to end with the toy solver `toyOdeint` (Proofs/GenGlue.lean) -/
example : ∃ a, SIR_homogeneous_pairwise_from_graph_args exW 1 1 (some [0]) (some [3]) none 0 10 11 false = .ok a ∧
    a.SI0 = (pairCount C06c.exAdj (statusOf [0] [3]) St.S St.I : Rat) := by
  exact ⟨_, SIR_homogeneous_pairwise_args_spec exW C06c.exAdj exW_ok 1 1 [0] (some [3])
    ⟨by decide, by decide, by decide⟩ 0 10 11 false, rfl⟩
example : ∃ l, SIR_homogeneous_meanfield_from_graph toyOdeint exW 1 1 (some [0]) (some [3]) none 0 10 11 = .ok l ∧
    (∀ i, get l 1 i + get l 2 i + get l 3 i = 4) ∧ get l 1 0 = 2 ∧ get l 2 0 = 1 ∧ get l 3 0 = 1 := by
  have hex : ∃ l, SIR_homogeneous_meanfield_from_graph toyOdeint exW 1 1 (some [0]) (some [3]) none 0 10 11 = .ok l :=
    ⟨_, rfl⟩
  obtain ⟨l, h⟩ := hex
  have hc := SIR_homogeneous_meanfield_from_graph_conserve toyOdeint exW 1 1 _ _ _ 0 10 11 l h
  obtain ⟨-, i2, i3, -, -⟩ := SIR_homogeneous_meanfield_from_graph_init toyOdeint toyOdeint_zero exW C06c.exAdj exW_ok
    1 1 [0] (some [3]) ⟨by decide, by decide, by decide⟩ (by decide) (by decide) 0 10 11 l h
  have h4 : ((exW.nodes.length : Nat) : Rat) = 4 := by decide +kernel
  have hs := hc 0
  rw [h4] at hc hs
  refine ⟨l, h, hc, ?_, ?_, ?_⟩
  · rw [i2, i3] at hs; simp at hs; linarith
  · rw [i2]; simp
  · rw [i3]; simp

end GenWrapProps
