import EoNVerif.Proofs.TreeExact
/-!
C08 (`SIR_pair_based` with a pure initial condition equals the exact master-equation expectation of S, I, R on every
tree) — mechanised for the two smallest trees, against an explicit master equation, over ℚ.

* `ODE.sirPairBased nbrs tr rr X Y XY XX` (`Model/ODE2.lean`) is the right-hand side `_dSIR_pair_based_`;
  it is tied to the source by `GenEqLoops2.sir_pair_based_generated_eq_model` (`Props/GenLoops2.lean`).
* Index convention of that model, confirmed here both by proof and by evaluation (`example`s below):
  `XY i j = P(i susceptible ∧ j infectious)`, and `tr i j` is the rate at which infectious `j` infects susceptible `i`
  (the term `-(tr i j + rr j) * XY i j` of `dXY i j`); `rr i` is the recovery rate of `i`.  With the transposed
  convention the identities below are false (last `example` of Part A).
* `TreeExact.me2` / `TreeExact.me3` (`Proofs/TreeExact.lean`) are the Kolmogorov forward equations of the node-level
  SIR Markov chain on the edge `0 – 1` (9 joint states) and on the path `0 – 1 – 2` (27 joint states):
  `d/dt p(σ)` = inflow − outflow, a node moves `S → I` at rate `Σ_{infectious neighbours j} tr i j` and `I → R` at
  rate `rr i`.  `mX, mY, mXY, mXX` are the marginals the pair-based system tracks, as linear functionals of `p`; the
  time derivative of a marginal is the same functional applied to `me p`.

Results.
* Part A (`edge_exact`): on a single edge the pair-based system IS the marginal system of the master equation, for
  every `p` whatsoever (no closure enters, the triple sums are empty).
* Part B (`path_exact_given_closure`): on the path the same holds at every `p` with `P(1 = S) ≠ 0` for which the
  statuses of 0 and 2 are conditionally independent given that the middle node is susceptible (`TreeExact.Closure`).
  Exactly three instances of the relation are used (`(a,b) = (S,I), (I,I), (I,S)`), see `path_dXY`, `path_dXX`;
  `dX`, `dY` need nothing.  For every `p` each pair component differs from the master equation by a rate times the
  error of one closed triple, `P(0=a,1=S,2=b) − P(0=a,1=S)·P(1=S,2=b)/P(1=S)` (`TreeExact.path_pair_defect`).
* The relation holds for every pure initial condition (`closure_holds_pure`), and it is propagated by the master
  equation: its defect `F a b = p a S b · P(1=S) − PA a · PB b` satisfies a homogeneous linear system
  `d/dt F = C(p) F` (`closure_invariant`, `closure_invariant_coeff`), and the 2×2 minors of the slice `p · S ·`
  (whose vanishing is equivalent to the relation, `closure_iff_minors`) satisfy a closed linear system with CONSTANT
  coefficients (`minors_invariant`).
* NOT mechanised (cited): uniqueness of solutions of linear ODE systems, which turns `minors_invariant` +
  `minors_pure` into "the relation holds along the whole solution of the master equation started at a pure state", and
  then `path_exact_given_closure` + uniqueness for the (locally Lipschitz where `X_1 ≠ 0`) pair-based system into
  "the pair-based solution equals the marginals of the master-equation solution".  Trees with more than three nodes
  are not covered.
-/
namespace TreeExact
open St

/-! ## Part A: single edge -/

/-- probability is conserved by the edge master equation: `Σ_{a,b} d/dt p(a,b) = 0`, for every `p` -/
theorem me2_conserves (tr : Nat → Nat → Rat) (rr : Nat → Rat) (p : St → St → Rat) :
    sumSt (fun a => sumSt fun b => me2 tr rr p a b) = 0 := by
  simp only [sumSt, me2, leave2_0, leave2_1, ind, reduceCtorEq, if_true, if_false]
  ring

/-- **C08, single edge.**  For arbitrary rates `tr 0 1`, `tr 1 0`, `rr 0`, `rr 1` and EVERY `p : St → St → ℚ` (no
positivity, no normalisation), the derivative under the master equation `me2` of each marginal
`X_i, Y_i, XY_{ij}, XX_{ij}` equals the corresponding component of `_dSIR_pair_based_` evaluated at the marginals of
`p` — as an equality of the whole output tuples (all `i`, `j`; off-edge cells and nodes `≥ 2` are `0` on both sides). -/
theorem edge_exact (tr : Nat → Nat → Rat) (rr : Nat → Rat) (p : St → St → Rat) :
    (mX2 (me2 tr rr p), mY2 (me2 tr rr p), mXY2 (me2 tr rr p), mXX2 (me2 tr rr p))
      = ODE.sirPairBased nbrs2 tr rr (mX2 p) (mY2 p) (mXY2 p) (mXX2 p) :=
  Prod.ext (funext (edge_dX tr rr p)) (Prod.ext (funext (edge_dY tr rr p))
    (Prod.ext (funext fun i => funext (edge_dXY tr rr p i)) (funext fun i => funext (edge_dXX tr rr p i))))

/-- the eight live components of `edge_exact`, written out -/
theorem edge_exact_components (tr : Nat → Nat → Rat) (rr : Nat → Rat) (p : St → St → Rat) :
    let m := ODE.sirPairBased nbrs2 tr rr (mX2 p) (mY2 p) (mXY2 p) (mXX2 p)
    mX2 (me2 tr rr p) 0 = m.1 0 ∧ mX2 (me2 tr rr p) 1 = m.1 1 ∧
    mY2 (me2 tr rr p) 0 = m.2.1 0 ∧ mY2 (me2 tr rr p) 1 = m.2.1 1 ∧
    mXY2 (me2 tr rr p) 0 1 = m.2.2.1 0 1 ∧ mXY2 (me2 tr rr p) 1 0 = m.2.2.1 1 0 ∧
    mXX2 (me2 tr rr p) 0 1 = m.2.2.2 0 1 ∧ mXX2 (me2 tr rr p) 1 0 = m.2.2.2 1 0 :=
  ⟨edge_dX tr rr p 0, edge_dX tr rr p 1, edge_dY tr rr p 0, edge_dY tr rr p 1,
   edge_dXY tr rr p 0 1, edge_dXY tr rr p 1 0, edge_dXX tr rr p 0 1, edge_dXX tr rr p 1 0⟩

/-! ### concrete evaluation (also fixes the index convention) -/
/-- asymmetric rates: `tr i j` = rate at which `j` infects `i` -/
def exTr : Nat → Nat → Rat := fun i j =>
  match i, j with
  | 0, 1 => 2 | 1, 0 => 3 | 1, 2 => 5 | 2, 1 => 7 | _, _ => 0
def exRr : Nat → Rat := fun i => (i + 1 : Rat) / 2
/-- a (non-product) probability vector on the 9 edge states -/
def exP2 : St → St → Rat
  | S, S => 1/10 | S, I => 2/10 | S, R => 1/20
  | I, S => 3/20 | I, I => 1/10 | I, R => 1/20
  | R, S => 1/10 | R, I => 3/20 | R, R => 1/10

example : sumSt (fun a => sumSt fun b => exP2 a b) = 1 := by decide +kernel
/-- master-equation side: `d/dt P(0 = S, 1 = I) = −(tr 0 1 + rr 1)·p(S,I) = −(2 + 1)·(1/5)` -/
example : mXY2 (me2 exTr exRr exP2) 0 1 = -3/5 := by decide +kernel
/-- code side: the same number -/
example : (ODE.sirPairBased nbrs2 exTr exRr (mX2 exP2) (mY2 exP2) (mXY2 exP2) (mXX2 exP2)).2.2.1 0 1 = -3/5 := by
  decide +kernel
/-- with the transposed reading of `tr` (`tr i j` = rate at which `i` infects `j`) the master equation gives a
different number (`−(3 + 1)/5`): the convention used in `me2` is the one of the code -/
example : mXY2 (me2 (fun i j => exTr j i) exRr exP2) 0 1 = -4/5 := by decide +kernel

/-! ## Part B: path 0 – 1 – 2 -/

theorem me3_conserves (tr : Nat → Nat → Rat) (rr : Nat → Rat) (p : St → St → St → Rat) :
    sumSt (fun a => sumSt fun b => sumSt fun c => me3 tr rr p a b c) = 0 := by
  simp only [sumSt, me3, leave3_0, leave3_1, leave3_2, ind, reduceCtorEq, if_true, if_false]
  ring

/-- **C08, path of three nodes, given the closure relation.**  For arbitrary rates and every `p : St → St → St → ℚ`
with `X_1 = P(1 = S) ≠ 0` that satisfies `p a S b · X_1 = PA a · PB b` for all `a b`
(`PA a = Σ_b p a S b = P(0 = a, 1 = S)`, `PB b = Σ_a p a S b = P(1 = S, 2 = b)`), the derivative under the master
equation `me3` of every marginal equals the corresponding component of `_dSIR_pair_based_` at the marginals of `p`
(equality of the whole output tuples). -/
theorem path_exact_given_closure (tr : Nat → Nat → Rat) (rr : Nat → Rat) (p : St → St → St → Rat)
    (hx : mX3 p 1 ≠ 0)
    (hcl : ∀ a b : St, p a S b * mX3 p 1 = PA p a * PB p b) :
    (mX3 (me3 tr rr p), mY3 (me3 tr rr p), mXY3 (me3 tr rr p), mXX3 (me3 tr rr p))
      = ODE.sirPairBased nbrs3 tr rr (mX3 p) (mY3 p) (mXY3 p) (mXX3 p) :=
  Prod.ext (funext (path_dX tr rr p)) (Prod.ext (funext (path_dY tr rr p))
    (Prod.ext (funext fun i => funext (path_dXY tr rr p hx (hcl S I) (hcl I I) (hcl I S) i))
      (funext fun i => funext (path_dXX tr rr p hx (hcl S I) (hcl I S) i))))

/-- which components need which instance of the relation: `dX`, `dY` none; `dXY 0 1`, `dXX 0 1`, `dXX 1 0` the
instance `(S, I)` (triple `S_0 S_1 I_2`); `dXY 1 0`, `dXY 1 2` the instance `(I, I)` (triple `I_0 S_1 I_2`);
`dXY 2 1`, `dXX 1 2`, `dXX 2 1` the instance `(I, S)` (triple `I_0 S_1 S_2`) -/
theorem path_exact_components (tr : Nat → Nat → Rat) (rr : Nat → Rat) (p : St → St → St → Rat) :
    let m := ODE.sirPairBased nbrs3 tr rr (mX3 p) (mY3 p) (mXY3 p) (mXX3 p)
    (∀ i, mX3 (me3 tr rr p) i = m.1 i) ∧ (∀ i, mY3 (me3 tr rr p) i = m.2.1 i) ∧
    (PS p ≠ 0 → p S S I * PS p = PA p S * PB p I →
      mXY3 (me3 tr rr p) 0 1 = m.2.2.1 0 1 ∧ mXX3 (me3 tr rr p) 0 1 = m.2.2.2 0 1 ∧
      mXX3 (me3 tr rr p) 1 0 = m.2.2.2 1 0) ∧
    (PS p ≠ 0 → p I S I * PS p = PA p I * PB p I →
      mXY3 (me3 tr rr p) 1 0 = m.2.2.1 1 0 ∧ mXY3 (me3 tr rr p) 1 2 = m.2.2.1 1 2) ∧
    (PS p ≠ 0 → p I S S * PS p = PA p I * PB p S →
      mXY3 (me3 tr rr p) 2 1 = m.2.2.1 2 1 ∧ mXX3 (me3 tr rr p) 1 2 = m.2.2.2 1 2 ∧
      mXX3 (me3 tr rr p) 2 1 = m.2.2.2 2 1) := by
  obtain ⟨⟨xy01, xy10, xy12, xy21⟩, xx01, xx10, xx12, xx21⟩ := path_pair_defect tr rr p
  refine ⟨path_dX tr rr p, path_dY tr rr p, fun hx h => ?_, fun hx h => ?_, fun hx h => ?_⟩
  · rw [xy01, xx01, xx10, tripleErr_eq_zero hx h, mul_zero, add_zero, sub_zero, sub_zero]; exact ⟨rfl, rfl, rfl⟩
  · rw [xy10, xy12, tripleErr_eq_zero hx h, mul_zero, mul_zero, sub_zero, sub_zero]; exact ⟨rfl, rfl⟩
  · rw [xy21, xx12, xx21, tripleErr_eq_zero hx h, mul_zero, add_zero, sub_zero, sub_zero]; exact ⟨rfl, rfl, rfl⟩

/-- the relation holds whenever the slice `1 = S` of `p` has product form -/
theorem closure_holds_prod (p : St → St → St → Rat) (u v : St → Rat) (h : ∀ a b, p a S b = u a * v b) :
    ∀ a b : St, p a S b * PS p = PA p a * PB p b := by
  intro a b
  simp only [PS, PA, PB, sumSt, h]
  ring

/-- **a pure (point-mass) initial condition satisfies the closure relation** -/
theorem closure_holds_pure (a0 b0 c0 : St) :
    ∀ a b : St, pure3 a0 b0 c0 a S b * PS (pure3 a0 b0 c0) = PA (pure3 a0 b0 c0) a * PB (pure3 a0 b0 c0) b :=
  closure_holds_prod _ (fun a => ind a a0 * ind S b0) (fun b => ind b c0) (fun _ _ => rfl)

/-- `dFcl p v` is the derivative of the defect `Fcl` at `p` in direction `v`: the first-order coefficient of the
(exact, quadratic) expansion of `Fcl (p + e·v)` -/
theorem Fcl_derivative (p v : St → St → St → Rat) (e : Rat) (a b : St) :
    Fcl (fun x y z => p x y z + e * v x y z) a b = Fcl p a b + e * dFcl p v a b + e ^ 2 * Fcl v a b := by
  simp only [Fcl, dFcl, PS, PA, PB, sumSt]
  ring

/-- **The closure relation is infinitesimally invariant under the master equation.**  With
`F a b = p a S b · P(1=S) − PA a · PB b` and `d/dt F = dFcl p (me3 tr rr p)`, for EVERY `p`:
`P(1=S) · d/dt F a b` is the displayed linear combination of the `F a' b'`, coefficients polynomial in `p` and the
rates.  (`M0`, `M2`: nodes 0 and 2 can only recover while 1 is susceptible, and the slice loses mass at rate
`tr 1 0·[0 = I] + tr 1 2·[2 = I]`.)  What dropping the factor `P(1=S)` costs is shown by `closure_invariant_coeff`:
coefficients rational in `p`. -/
theorem closure_invariant (tr : Nat → Nat → Rat) (rr : Nat → Rat) (p : St → St → St → Rat) (a b : St) :
    PS p * dFcl p (me3 tr rr p) a b =
      PS p * (sumSt (fun x => M0 tr rr a x * Fcl p x b) + sumSt (fun y => M2 tr rr b y * Fcl p a y))
      - tr 1 0 * (PA p I * Fcl p a b - PA p a * Fcl p I b)
      - tr 1 2 * (PB p I * Fcl p a b - PB p b * Fcl p a I) := by
  -- a polynomial identity in `p a S b`, `PS p`, `PA p ·`, `PB p ·` and the entries of `M0`, `M2`
  simp only [dFcl, Fcl, me3_mid_S, PS_me3, PA_me3, PB_me3, sumSt]
  ring

/-- the same with explicit coefficient functions `cF` (rational in `p`): wherever `P(1 = S) ≠ 0`,
`d/dt F a b = Σ_{a',b'} cF a b a' b' · F a' b'` -/
theorem closure_invariant_coeff (tr : Nat → Nat → Rat) (rr : Nat → Rat) (p : St → St → St → Rat) (hx : PS p ≠ 0)
    (a b : St) :
    dFcl p (me3 tr rr p) a b = sumSt fun a' => sumSt fun b' => cF tr rr p a b a' b' * Fcl p a' b' := by
  have hx' : PS p * ODE.xinv (PS p) = 1 := by rw [ODE.xinv, if_neg hx, mul_one_div_cancel hx]
  rw [cF_apply]
  apply mul_left_cancel₀ hx
  rw [closure_invariant]
  linear_combination (tr 1 0 * (PA p I * Fcl p a b - PA p a * Fcl p I b)
                             + tr 1 2 * (PB p I * Fcl p a b - PB p b * Fcl p a I)) * hx'

/-- consequence: where the closure relation holds, its defect has zero derivative along the master equation -/
theorem closure_stationary_aux (tr : Nat → Nat → Rat) (rr : Nat → Rat) (p : St → St → St → Rat) (hx : PS p ≠ 0)
    (hcl : Closure p) (a b : St) : dFcl p (me3 tr rr p) a b = 0 := by
  rw [closure_invariant_coeff tr rr p hx]
  simp only [sumSt, (closure_iff_Fcl p).1 hcl, mul_zero, add_zero]

/-- the relation is equivalent to the vanishing of all 2×2 minors of the slice `(a,b) ↦ p a S b` (where
`P(1=S) ≠ 0`) -/
theorem closure_iff_minors (p : St → St → St → Rat) (hx : PS p ≠ 0) :
    (∀ a b : St, p a S b * PS p = PA p a * PB p b) ↔ ∀ a b a' b', Gm p a b a' b' = 0 := by
  constructor
  · intro hcl a b a' b'
    have h : PS p * PS p * Gm p a b a' b' = 0 := by
      have e : PS p * PS p * Gm p a b a' b'
          = (p a S b * PS p) * (p a' S b' * PS p) - (p a S b' * PS p) * (p a' S b * PS p) := by
        simp only [Gm]; ring
      rw [e, hcl a b, hcl a' b', hcl a b', hcl a' b]; ring
    exact (mul_eq_zero.1 h).resolve_left (mul_self_ne_zero.2 hx)
  · intro h a b
    rw [← sub_eq_zero]
    show Fcl p a b = 0
    rw [Fcl_eq_sum_Gm]; simp only [sumSt, h, add_zero]

/-- **The minors obey a closed linear system with constant coefficients** (`dGm p v` = derivative of the minor in
direction `v`, `Gm_expand`): with linear-ODE uniqueness, minors that vanish initially vanish forever, with no
condition on `P(1=S)`. -/
theorem minors_invariant (tr : Nat → Nat → Rat) (rr : Nat → Rat) (p : St → St → St → Rat) (a b a' b' : St) :
    dGm p (me3 tr rr p) a b a' b' =
      sumSt (fun x => M0 tr rr a x * Gm p x b a' b') + sumSt (fun x => M0 tr rr a' x * Gm p a b x b')
      + sumSt (fun y => M2 tr rr b y * Gm p a y a' b') + sumSt (fun y => M2 tr rr b' y * Gm p a b a' y) := by
  simp only [dGm, Gm, me3_mid_S, sumSt]
  ring

theorem minors_pure (a0 b0 c0 a b a' b' : St) : Gm (pure3 a0 b0 c0) a b a' b' = 0 := by
  simp only [Gm, pure3]; ring

/-- pure initial condition "node 0 infectious, nodes 1, 2 susceptible": hypotheses of `path_exact_given_closure` hold -/
example : mX3 (pure3 I S S) 1 ≠ 0 := by decide +kernel
example :
    (mX3 (me3 exTr exRr (pure3 I S S)), mY3 (me3 exTr exRr (pure3 I S S)), mXY3 (me3 exTr exRr (pure3 I S S)),
      mXX3 (me3 exTr exRr (pure3 I S S)))
    = ODE.sirPairBased nbrs3 exTr exRr (mX3 (pure3 I S S)) (mY3 (pure3 I S S)) (mXY3 (pure3 I S S))
        (mXX3 (pure3 I S S)) :=
  path_exact_given_closure exTr exRr _ (by decide +kernel) (closure_holds_pure I S S)
/-- at that state node 1 is being infected by node 0 at rate `tr 1 0 = 3`: `d/dt P(1 = S, 0 = I) = −(tr 1 0 + rr 0) = −7/2` -/
example : mXY3 (me3 exTr exRr (pure3 I S S)) 1 0 = -7/2 := by decide +kernel
example : (ODE.sirPairBased nbrs3 exTr exRr (mX3 (pure3 I S S)) (mY3 (pure3 I S S)) (mXY3 (pure3 I S S))
        (mXX3 (pure3 I S S))).2.2.1 1 0 = -7/2 := by decide +kernel

/-- a mixed state with a genuinely used closure term: `p a b c = u a · m b · v c` on the slice `b = S`, arbitrary
(here: zero) elsewhere -/
def exU : St → Rat | S => 1/2 | I => 1/3 | R => 1/6
def exV : St → Rat | S => 1/4 | I => 1/2 | R => 1/4
def exP3 : St → St → St → Rat := fun a b c => if b = S then exU a * exV c else 0

example : mX3 exP3 1 = 1 := by decide +kernel
/-- master equation: `d/dt P(0 = S, 1 = I) = tr 1 2 · p(S,S,I) = 5 · (1/2 · 1/2)` (no `S_0 I_1` mass yet) -/
example : mXY3 (me3 exTr exRr exP3) 0 1 = 5/4 := by decide +kernel
/-- code: `tr 1 2 · XX 0 1 · XY 1 2 / X 1 = 5 · (1/2) · (1/2) / 1` -/
example : (ODE.sirPairBased nbrs3 exTr exRr (mX3 exP3) (mY3 exP3) (mXY3 exP3) (mXX3 exP3)).2.2.1 0 1 = 5/4 := by
  decide +kernel
example : ∀ a b : St, exP3 a S b * mX3 exP3 1 = PA exP3 a * PB exP3 b :=
  closure_holds_prod exP3 exU exV (fun a b => by simp [exP3])

/-- the hypothesis cannot be dropped: for the anticorrelated state `½ δ_{(S,S,I)} + ½ δ_{(I,S,S)}` the relation fails and
the pair-based right-hand side differs from the master equation (`5/2` against `5/4`) -/
def exBad : St → St → St → Rat := fun a b c => (pure3 S S I a b c + pure3 I S S a b c) / 2
example : mXY3 (me3 exTr exRr exBad) 0 1 = 5/2 := by decide +kernel
example : (ODE.sirPairBased nbrs3 exTr exRr (mX3 exBad) (mY3 exBad) (mXY3 exBad) (mXX3 exBad)).2.2.1 0 1 = 5/4 := by
  decide +kernel
example : ¬ (exBad S S I * PS exBad = PA exBad S * PB exBad I) := by decide +kernel

end TreeExact
