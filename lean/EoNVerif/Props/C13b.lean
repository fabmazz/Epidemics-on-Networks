import EoNVerif.Proofs.GenEventSIS
import EoNVerif.Props.C13
/-!
C13b — the C13 statements for the code GENERATED from `fast_nonMarkov_SIS` / `_process_trans_SIS_nonMarkov_` /
`_process_rec_SIS_` / `myQueue` (`Gen/EventSISGen.lean`, namespace `GenNMSIS`).

`Proofs/GenEventSIS.lean` shows that `GenNMSIS.pop_and_run` and `EventSIS.step` run in lock step (`Rel`), so the
objects returned by `GenNMSIS.run` are functions (`Out`) of the final state of the hand-written lazy-queue model
`EventSIS.run`; the C13 theorems about the model then become theorems about the generated code.

Hypothesis `Agree A P`: the user rule `A.transRec k u nbrs` returns the tables `P.delays u · k` / `P.dur u k` without
touching the tape.  No well-formedness of the graph is needed for the refinement itself.
-/

namespace GenNMSIS

/-- **the generated code refines the lazy-queue model** (forward): if `GenNMSIS.run` returns, the tape is untouched,
the model's queue is empty after `fuel` steps (indeed after fewer), and the returned columns / transmissions /
per-node times are those of the model's final state -/
theorem gen_run_refines_model {A : NArgs} {P : SSParams} (hA : Agree A P) (infs : List Node) (fuel : Nat)
    (ts ts' : TapeSt) (σ : Loc) (h : run A infs fuel ts = .ok (σ, ts')) :
    ts' = ts ∧ (EventSIS.run P infs fuel).queue = [] ∧ (∃ k, k < fuel ∧ (EventSIS.run P infs k).queue = []) ∧
      Out P infs σ (EventSIS.run P infs fuel) :=
  gen_run_refines hA infs fuel ts ts' σ h

/-- (backward) if the model's queue is empty after fewer than `fuel` steps, the generated code returns: none of
`listLast` / `listGet` / `popMin` / `dictGet` raises and the fuel suffices -/
theorem gen_run_refines_model_back {A : NArgs} {P : SSParams} (hA : Agree A P) (infs : List Node) (fuel : Nat)
    (ts : TapeSt) (k : Nat) (hk : k < fuel) (hq : (EventSIS.run P infs k).queue = []) :
    ∃ σ, run A infs fuel ts = .ok (σ, ts) ∧ Out P infs σ (EventSIS.run P infs fuel) ∧
      EventSIS.run P infs fuel = EventSIS.run P infs k := by
  have hst : EventSIS.run P infs fuel = EventSIS.run P infs k := by
    have := EventSIS.loop_stable (P := P) k (fuel - k) (EventSIS.init P infs) hq
    rwa [show k + (fuel - k) = fuel by omega] at this
  rcases run_sim hA infs fuel ts with ⟨_, hne⟩ | ⟨σ', hσ', hout, _, _⟩
  · exact absurd hq (hne k hk)
  · exact ⟨σ', hσ', hout, hst⟩

/-- the only failure of the generated code is the harness's fuel bound -/
theorem gen_run_only_fuel_error {A : NArgs} {P : SSParams} (hA : Agree A P) (infs : List Node) (fuel : Nat)
    (ts : TapeSt) (e : String) (h : run A infs fuel ts = .error e) :
    e = "fuel" ∧ ∀ k, k < fuel → (EventSIS.run P infs k).queue ≠ [] := by
  rcases run_sim hA infs fuel ts with ⟨he, hne⟩ | ⟨σ', hσ', _⟩
  · rw [he] at h; injection h with h; exact ⟨h.symm, hne⟩
  · rw [hσ'] at h; cases h

/-- the returned columns in closed form: `times` lists `tmin` and the times of the status changes, `I` is the running
balance of infections and recoveries, `S + I = N`; all three without the first `len(initial_infecteds)` rows -/
theorem gen_columns {A : NArgs} {P : SSParams} (hA : Agree A P) (infs : List Node) (fuel : Nat)
    (ts ts' : TapeSt) (σ : Loc) (h : run A infs fuel ts = .ok (σ, ts')) :
    let log := (EventSIS.run P infs fuel).log
    σ.times = (some P.tmin :: log.reverse.map (fun c => some c.1)).drop infs.length ∧
    σ.I = (colI log).drop infs.length ∧
    (∀ i, i ≤ log.length → (colI log)[i]? =
      some (((log.reverse.take i).countP (fun c => c.2.2) : Int) - ((log.reverse.take i).countP (fun c => !c.2.2) : Int))) ∧
    σ.S = σ.I.map (fun i => (P.nodes.length : Int) - i) := by
  obtain ⟨_, _, _, hout⟩ := gen_run_refines hA infs fuel ts ts' σ h
  refine ⟨by rw [hout.times, colT_eq], hout.I, ?_, ?_⟩
  · intro i hi
    rw [colI_getElem _ i hi, lastI_eq]
    have hrev : (EventSIS.run P infs fuel).log.reverse.take i =
        ((EventSIS.run P infs fuel).log.drop ((EventSIS.run P infs fuel).log.length - i)).reverse := by
      rw [List.reverse_drop]
      congr 1
      omega
    rw [hrev, List.countP_reverse, List.countP_reverse]
  · rw [hout.S, hout.I, colS_eq, List.map_drop]

/-- nothing at or after `tmax` is reported -/
theorem gen_before_tmax {A : NArgs} {P : SSParams} (hA : Agree A P) (infs : List Node) (fuel : Nat)
    (ts ts' : TapeSt) (σ : Loc) (h : run A infs fuel ts = .ok (σ, ts')) :
    (∀ t ∈ σ.times, t = some P.tmin ∨ ∃ r, t = some r ∧ r < P.tmax) ∧
    (∀ u, ∀ t ∈ alGet σ.infection_times [] u, ∃ r, t = some r ∧ r < P.tmax) ∧
    (∀ u, ∀ t ∈ alGet σ.recovery_times [] u, ∃ r, t = some r ∧ r < P.tmax) := by
  obtain ⟨_, _, _, hout⟩ := gen_run_refines hA infs fuel ts ts' σ h
  have hlt := EventSIS.log_before_tmax P infs fuel
  refine ⟨?_, ?_, ?_⟩
  · intro t ht
    rw [hout.times, colT_eq] at ht
    have ht := List.mem_of_mem_drop ht
    rcases List.mem_cons.1 ht with rfl | ht
    · left; rfl
    · right
      obtain ⟨c, hc, rfl⟩ := List.mem_map.1 ht
      exact ⟨c.1, rfl, hlt c (List.mem_reverse.1 hc)⟩
  · intro u t ht
    rw [hout.infection_times u, evTimes_eq] at ht
    obtain ⟨c, hc, rfl⟩ := List.mem_map.1 ht
    exact ⟨c.1, rfl, hlt c (List.mem_reverse.1 (List.mem_filter.1 hc).1)⟩
  · intro u t ht
    rw [hout.recovery_times u, evTimes_eq] at ht
    obtain ⟨c, hc, rfl⟩ := List.mem_map.1 ht
    exact ⟨c.1, rfl, hlt c (List.mem_reverse.1 (List.mem_filter.1 hc).1)⟩

/-- the `i`-th recovery of `v` happens exactly `dur v i` after its `i`-th infection -/
theorem gen_recovery_after_dur {A : NArgs} {P : SSParams} (hA : Agree A P) (infs : List Node) (fuel : Nat)
    (ts ts' : TapeSt) (σ : Loc) (h : run A infs fuel ts = .ok (σ, ts')) (v : Node) (i : Nat) (ti tr : ERat)
    (hi : (alGet σ.infection_times [] v)[i]? = some ti) (hr : (alGet σ.recovery_times [] v)[i]? = some tr) :
    tr = ERat.add ti (some (P.dur v i)) := by
  obtain ⟨_, _, _, hout⟩ := gen_run_refines hA infs fuel ts ts' σ h
  have hB := EventSIS.InvB_run P infs fuel v
  have hf := (alt_filter_true hB.alt).1 i
  rw [hout.infection_times v, evTimes_nlog, List.getElem?_map, hf.1] at hi
  rw [hout.recovery_times v, evTimes_nlog, List.getElem?_map, hf.2] at hr
  cases h1 : (EventSIS.nlog (EventSIS.run P infs fuel).log v)[2 * i]? with
  | none => rw [h1] at hi; simp at hi
  | some ci =>
    cases h2 : (EventSIS.nlog (EventSIS.run P infs fuel).log v)[2 * i + 1]? with
    | none => rw [h2] at hr; simp at hr
    | some cr =>
      rw [h1] at hi; rw [h2] at hr
      simp only [Option.map_some, Option.some.injEq] at hi hr
      subst hi hr
      rw [hB.pair i ci cr h1 h2]; rfl

/-- infections and recoveries of a node alternate, starting with an infection; the node ends infected iff it has
one more infection than recoveries -/
theorem gen_alternates {A : NArgs} {P : SSParams} (hA : Agree A P) (infs : List Node) (fuel : Nat)
    (ts ts' : TapeSt) (σ : Loc) (h : run A infs fuel ts = .ok (σ, ts')) (v : Node) :
    (alGet σ.recovery_times [] v).length ≤ (alGet σ.infection_times [] v).length ∧
    (alGet σ.infection_times [] v).length ≤ (alGet σ.recovery_times [] v).length + 1 ∧
    (σ.status v = St.I ↔ (alGet σ.infection_times [] v).length = (alGet σ.recovery_times [] v).length + 1) := by
  obtain ⟨_, _, _, hout⟩ := gen_run_refines hA infs fuel ts ts' σ h
  have hB := EventSIS.InvB_run P infs fuel v
  obtain ⟨-, hI, hR⟩ := alt_filter_true hB.alt
  rw [hout.infection_times v, hout.recovery_times v, evTimes_nlog, evTimes_nlog, hout.status v, hB.infl,
    List.length_map, List.length_map, hI, hR]
  generalize (EventSIS.nlog (EventSIS.run P infs fuel).log v).length = n
  refine ⟨by omega, by omega, ?_⟩
  rcases Nat.mod_two_eq_zero_or_one n with hn | hn <;> rw [hn]
  · exact ⟨(fun h => nomatch h), fun h => by omega⟩
  · exact ⟨fun _ => by omega, fun _ => rfl⟩

/-- every reported transmission is a listed attempt of the infector's current infection -/
theorem gen_trans_is_listed_attempt {A : NArgs} {P : SSParams} (hA : Agree A P) (infs : List Node)
    (hW : EventSIS.WF P infs) (fuel : Nat) (ts ts' : TapeSt) (σ : Loc) (h : run A infs fuel ts = .ok (σ, ts')) :
    ∀ e ∈ σ.transmissions,
      match e.2.1 with
      | none => e.2.2 ∈ infs ∧ e.1 = some P.tmin
      | some u => e.2.2 ∈ P.nbrs u ∧
          ∃ eu ∈ σ.transmissions, eu.2.2 = u ∧ ∃ k d, d ∈ P.delays u e.2.2 k ∧ ERat.add eu.1 (some d) = e.1 := by
  obtain ⟨_, _, _, hout⟩ := gen_run_refines hA infs fuel ts ts' σ h
  intro e he
  rw [hout.transmissions] at he
  obtain ⟨e', he', rfl⟩ := List.mem_map.1 he
  have hm := EventSIS.trans_is_listed_attempt P infs hW fuel e' (List.mem_reverse.1 he')
  simp only
  cases hsrc : e'.2.1 with
  | none =>
    rw [hsrc] at hm
    simp only at hm ⊢
    exact ⟨hm.1, by rw [hm.2]⟩
  | some u =>
    rw [hsrc] at hm
    simp only at hm ⊢
    obtain ⟨h1, eu, h2, h3, k, d, h4, h5⟩ := hm
    refine ⟨h1, (some eu.1, eu.2.1, eu.2.2), ?_, h3, k, d, h4, ?_⟩
    · rw [hout.transmissions]
      exact List.mem_map.2 ⟨eu, List.mem_reverse.2 h2, rfl⟩
    · simp only [ERat.add_some, h5]

/-- **the generated code refines the reference semantics**: for ascending positive delay lists, positive durations
and pairwise distinct event times, once the reference agenda is empty, everything `GenNMSIS.run` returns is
determined by the status-change log and the transmission list of the naive reference run (`EventSIS.refRun`: every
listed attempt is an agenda entry; an attempt infects iff the target is susceptible at that instant) -/
theorem gen_run_refines_reference {A : NArgs} {P : SSParams} (hA : Agree A P) (infs : List Node)
    (hW : EventSIS.WF P infs) (fuel : Nat) (ts ts' : TapeSt) (σ : Loc) (h : run A infs fuel ts = .ok (σ, ts'))
    (ha : (EventSIS.refRun P infs fuel).agenda = [])
    (hd : EventSIS.distinctTimes P.tmin (EventSIS.refRun P infs fuel).seen = true) :
    let log := (EventSIS.refRun P infs fuel).log
    σ.times = (some P.tmin :: log.reverse.map (fun c => some c.1)).drop infs.length ∧
    σ.S = (colS (P.nodes.length : Int) log).drop infs.length ∧
    σ.I = (colI log).drop infs.length ∧
    σ.transmissions = (EventSIS.refRun P infs fuel).trans.reverse.map (fun e => (some e.1, e.2.1, e.2.2)) ∧
    (∀ u, alGet σ.infection_times [] u =
      (log.reverse.filter (fun c => c.2.1 == u && c.2.2 == true)).map (fun c => some c.1)) ∧
    (∀ u, alGet σ.recovery_times [] u =
      (log.reverse.filter (fun c => c.2.1 == u && c.2.2 == false)).map (fun c => some c.1)) := by
  obtain ⟨_, hq, _, hout⟩ := gen_run_refines hA infs fuel ts ts' σ h
  obtain ⟨hlog, htr⟩ := EventSIS.nmSIS_refines P infs hW fuel hq ha hd
  simp only
  rw [← hlog, ← htr]
  exact ⟨by rw [hout.times, colT_eq], hout.S, hout.I, hout.transmissions,
    fun u => by rw [hout.infection_times u, evTimes_eq], fun u => by rw [hout.recovery_times u, evTimes_eq]⟩

end GenNMSIS

/-! ### non-vacuity

Example 1 (`exS` of `C13.lean`, two nodes, node 0 initially infected): node 1 is infected at 1/4; its first attempt on
node 0 (at 3/4) falls into node 0's infectious period and is dropped when the chain is queued, its second attempt
(at 9/4) **reinfects** node 0 (second infection, duration 1/2).  -/

namespace C13b
open GenNMSIS

/-- what `fast_nonMarkov_SIS` returns (`times, S, I`, `transmissions`, the per-node infection / recovery times) -/
structure NSView where
  times : List ERat
  S : List Int
  I : List Int
  transmissions : List (ERat × Option Node × Node)
  infection_times : List (Node × List ERat)
  recovery_times : List (Node × List ERat)
deriving DecidableEq, Repr

def nsView (r : Except String (Loc × TapeSt)) : Option NSView :=
  match r with
  | .ok (σ, _) => some ⟨σ.times, σ.S, σ.I, σ.transmissions, σ.infection_times, σ.recovery_times⟩
  | .error _ => none

def exA : NArgs :=
  { nbrs := exS.nbrs, order := 2, tmin := 0, tmax := some 10,
    transRec := fun k u nbrs => pure (nbrs.map (fun v => (v, (exS.delays u v k).map some)), some (exS.dur u k)) }

theorem exA_agree : Agree exA exS := ⟨rfl, rfl, rfl, rfl, fun _ _ _ => rfl⟩

example : nsView (run exA [0] 100 { tape := [] }) = some
    ⟨[some 0, some (1 / 4), some 1, some (9 / 4), some (11 / 4), some (13 / 4)], [1, 0, 1, 0, 1, 2], [1, 2, 1, 2, 1, 0],
     [(some 0, none, 0), (some (1 / 4), some 0, 1), (some (9 / 4), some 1, 0)],
     [(0, [some 0, some (9 / 4)]), (1, [some (1 / 4)])], [(0, [some 1, some (11 / 4)]), (1, [some (13 / 4)])]⟩ := by
  decide +kernel

theorem exS_WF : EventSIS.WF exS [0] where
  nodup := by decide
  nbr_nodup := by decide
  nbr_mem := by decide
  noloop := by
    intro u
    match u with
    | 0 | 1 => decide
    | _ + 2 => exact fun h => nomatch h
  infs_nodup := by decide
  infs_mem := by decide
  dur_pos := by
    intro u k; simp only [exS]
    split
    · split <;> decide +kernel
    · decide +kernel
  delay_pos := by
    intro u v k d hd; simp only [exS] at hd
    split at hd
    · simp at hd; rcases hd with rfl | rfl <;> decide +kernel
    · simp at hd; subst hd; decide +kernel
  delay_sorted := by
    intro u v k; simp only [exS]
    split <;> decide +kernel

theorem exS_ref_done : (EventSIS.refRun exS [0] 100).agenda = [] ∧
    EventSIS.distinctTimes exS.tmin (EventSIS.refRun exS [0] 100).seen = true := by
  constructor <;> decide +kernel

/-- all hypotheses of `gen_run_refines_reference` hold in example 1: the generated run returns, the reference agenda
is empty and the executed event times are pairwise distinct -/
example : ∃ σ ts', run exA [0] 100 { tape := [] } = .ok (σ, ts') ∧
    (EventSIS.refRun exS [0] 100).agenda = [] ∧
    EventSIS.distinctTimes exS.tmin (EventSIS.refRun exS [0] 100).seen = true := by
  have hq : (EventSIS.run exS [0] 20).queue = [] := by decide +kernel
  obtain ⟨σ, hσ, _⟩ := gen_run_refines_model_back exA_agree [0] 100 { tape := [] } 20 (by decide) hq
  exact ⟨σ, _, hσ, exS_ref_done.1, exS_ref_done.2⟩

/-- `gen_run_refines_reference` applied to example 1: the transmissions returned by the generated code are those of
the reference run -/
example (σ : Loc) (ts' : TapeSt) (h : run exA [0] 100 { tape := [] } = .ok (σ, ts')) :
    σ.transmissions = (EventSIS.refRun exS [0] 100).trans.reverse.map (fun e => (some e.1, e.2.1, e.2.2)) :=
  (gen_run_refines_reference exA_agree [0] exS_WF 100 _ _ σ h exS_ref_done.1 exS_ref_done.2).2.2.2.1

/-! Example 2: a path 0 – 1 – 2 with both ends initially infected (two synthetic rows dropped), simultaneous events
(the counters break the ties), `tmax = 3` cutting the schedule, node 1 infected three times. -/

def exS2 : SSParams :=
  { nodes := [0, 1, 2], nbrs := fun u => if u = 0 then [1] else if u = 1 then [0, 2] else if u = 2 then [1] else [],
    dur := fun u _ => if u = 1 then 1 / 2 else 1, delays := fun _ _ _ => [1 / 2, 3 / 2, 5 / 2],
    tmin := 0, tmax := 3 }

def exA2 : NArgs :=
  { nbrs := exS2.nbrs, order := 3, tmin := 0, tmax := some 3,
    transRec := fun k u nbrs => pure (nbrs.map (fun v => (v, (exS2.delays u v k).map some)), some (exS2.dur u k)) }

theorem exA2_agree : Agree exA2 exS2 := ⟨rfl, rfl, rfl, rfl, fun _ _ _ => rfl⟩

example : nsView (run exA2 [0, 2] 100 { tape := [] }) = some
    ⟨[some 0, some (1 / 2), some 1, some 1, some 1, some (3 / 2), some 2, some 2, some 2, some (5 / 2)],
     [1, 0, 1, 2, 3, 2, 1, 0, 1, 0], [2, 3, 2, 1, 0, 1, 2, 3, 2, 3],
     [(some 0, none, 0), (some 0, none, 2), (some (1 / 2), some 0, 1), (some (3 / 2), some 0, 1), (some 2, some 1, 0),
      (some 2, some 1, 2), (some (5 / 2), some 0, 1)],
     [(0, [some 0, some 2]), (2, [some 0, some 2]), (1, [some (1 / 2), some (3 / 2), some (5 / 2)])],
     [(0, [some 1]), (2, [some 1]), (1, [some 1, some 2])]⟩ := by
  decide +kernel

/-- the refinement theorem applies to example 2 and the returned state is the model's -/
example : ∃ σ, run exA2 [0, 2] 100 { tape := [] } = .ok (σ, { tape := [] }) ∧
    Out exS2 [0, 2] σ (EventSIS.run exS2 [0, 2] 100) ∧ (EventSIS.run exS2 [0, 2] 100).queue = [] := by
  have hq : (EventSIS.run exS2 [0, 2] 30).queue = [] := by decide +kernel
  obtain ⟨σ, hσ, hout, hst⟩ := gen_run_refines_model_back exA2_agree [0, 2] 100 { tape := [] } 30 (by decide) hq
  exact ⟨σ, hσ, hout, by rw [hst]; exact hq⟩

end C13b

#print axioms GenNMSIS.gen_run_refines_model
#print axioms GenNMSIS.gen_run_refines_model_back
#print axioms GenNMSIS.gen_run_only_fuel_error
#print axioms GenNMSIS.gen_columns
#print axioms GenNMSIS.gen_before_tmax
#print axioms GenNMSIS.gen_recovery_after_dur
#print axioms GenNMSIS.gen_alternates
#print axioms GenNMSIS.gen_trans_is_listed_attempt
#print axioms GenNMSIS.gen_run_refines_reference
#print axioms C13b.exS_WF
