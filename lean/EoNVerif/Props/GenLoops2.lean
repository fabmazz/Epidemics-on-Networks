import EoNVerif.Proofs.GenEqLoops2
/-!
Tie by translation for the pair-based models (C08).  `Gen/AnalyticLoops.lean` is regenerated from `EoN/analytic.py`
on every run by `harness/py2lean_loops.py`; Python `for` loops are `List.foldl`s over the tuple of mutated arrays,
`a[i] += e` is `upd1 a i (a i + e)`, `a[i,j] += e` is `upd2 a i j (a i j + e)`, `continue` is "return the state
unchanged".  The first section states the loop idioms of the generated code as theorems of their own (`loop_*`); the
refinement theorems do not go through them (tools: `Proofs/GenEqLoops2.lean`).  They state that the generated
triple-nested loops of `_dSIS_pair_based_` and `_dSIR_pair_based_` compute, cell by
cell, the closed-form sums of the hand-written models `ODE.sisPairBased` / `ODE.sirPairBased` (`Model/ODE2.lean`),
for every `N`, neighbour function, rate functions and state.

Hypotheses (both are facts about `networkx` graphs with `index_of_node` a bijection onto `0..N-1`):
* `(nbrs u).Nodup` for `u < N` — `G.neighbors(u)` lists every neighbour once.  NECESSARY: with a repeated neighbour
  the loops add the `(u, v)` terms twice and the model once (`nodup_needed` below).
* `v ∈ nbrs u → v < N` for `u < N` — needed only to read `XY[i, j]` out of the flat vector (`(i*N+j)/N = i`).
No hypothesis on self-loops, symmetry of the graph, signs or ranges of rates/state, or `X[i] ≠ 0`:
the code's `1/v if v != 0 else 0` and the model's `xinv` agree everywhere, and the code's `if w == u: continue`
is the model's `filter (· ≠ u)`.
-/
namespace GenEqLoops2
open Gen ODE

/-! ### accumulation lemmas (the loop idioms of the generated code) -/

/-- `for v in l: a[i] += f(v)` leaves `a0[i] + Σ_{v∈l} f(v)` in cell `i` and does not touch any other cell. -/
theorem loop_upd1 (l : List Nat) (i : Nat) (f : Nat → Rat) (a0 : A) (k : Nat) :
    (l.foldl (fun a v => upd1 a i (a i + f v)) a0) k = if k = i then a0 i + sumRat (l.map f) else a0 k := by
  by_cases h : k = i
  · subst h; simp only [if_true]
    exact foldl_acc_sumRat (fun a : A => a k) _ f l (fun s v _ => by simp) a0
  · simp only [h, if_false]
    exact foldl_keep (fun a : A => a k) _ l (fun s v _ => upd1_other _ _ _ _ h) a0

/-- `for v in l: a[i,j] += f(v)` leaves `a0[i,j] + Σ_{v∈l} f(v)` in cell `(i,j)` and touches no other cell. -/
theorem loop_upd2 (l : List Nat) (i j : Nat) (f : Nat → Rat) (a0 : M) (k m : Nat) :
    (l.foldl (fun a v => upd2 a i j (a i j + f v)) a0) k m
      = if k = i ∧ m = j then a0 i j + sumRat (l.map f) else a0 k m := by
  by_cases h : k = i ∧ m = j
  · obtain ⟨rfl, rfl⟩ := h; simp only [and_self, if_true]
    exact foldl_acc_sumRat (fun a : M => a k m) _ f l (fun s v _ => by simp) a0
  · simp only [h, if_false]
    exact foldl_keep (fun a : M => a k m) _ l (fun s v _ => upd2_other _ _ _ _ _ _ h) a0

/-- `for w in l: if w == s: continue; a[i,j] += f(w)` sums `f` over
`l.filter (· ≠ s)`. -/
theorem loop_upd2_continue (l : List Nat) (s i j : Nat) (f : Nat → Rat) (a0 : M) (k m : Nat) :
    (l.foldl (fun a w => if w = s then a else upd2 a i j (a i j + f w)) a0) k m
      = if k = i ∧ m = j then a0 i j + sumRat ((l.filter fun w => w ≠ s).map f) else a0 k m := by
  refine (foldl_skip_cell id _ s i j f (fun _ _ => rfl) l a0 k m).trans ?_
  by_cases h : k = i ∧ m = j <;> simp [h]

/-- `for u in range(N): a[u] += g(u)`: cell `i` is touched only in iteration `u = i`. -/
theorem loop_outer1 (N : Nat) (g : Nat → Rat) (a0 : A) (i : Nat) :
    ((List.range N).foldl (fun a u => upd1 a u (a u + g u)) a0) i = a0 i + if i < N then g i else 0 := by
  rw [← sumRat_pick_range]
  exact foldl_acc_sumRat (fun a : A => a i) _ _ _ (fun a u _ => upd1_add a u (g u) i) a0

/-- `for u in range(N): for v in nbrs(u): a[u,v] += T(u,v)`: cell `(i,j)` is touched only in iteration `u = i`,
`v = j`, which happens exactly once when `j` is a neighbour of `i` (neighbour list without repetition). -/
theorem loop_outer2 (N : Nat) (nbrs : Nat → List Nat) (T : Nat → Nat → Rat) (a0 : M) (i j : Nat)
    (hn : (nbrs i).Nodup) :
    ((List.range N).foldl (fun a u => (nbrs u).foldl (fun a v => upd2 a u v (a u v + T u v)) a) a0) i j
      = a0 i j + if i < N ∧ j ∈ nbrs i then T i j else 0 := by
  rw [← sumRat_pick2 N nbrs i j T hn]
  refine foldl_acc_sumRat (fun a : M => a i j) _ _ _ (fun a u _ => ?_) a0
  exact foldl_acc_sumRat (fun a : M => a i j) _ _ _ (fun a v _ => upd2_add a u v (T u v) i j) a

/-! ### the generated functions equal the hand models -/

/-- `_dSIS_pair_based_`, as generated from the source, applied to the packed state
`V = concatenate((Y, XY.flat, XX.flat))` returns `concatenate((dY, dXY.flat, dXX.flat))` where `dY`, `dXY`, `dXX`
are exactly the closed forms of the hand model `ODE.sisPairBased`: every `+=` of the three nested loops lands in the
right cell exactly once, the `continue`s are the `k ≠ i` / `k ≠ j` restrictions of the triple sums, and cells that are
not edges keep derivative 0. -/
theorem sis_pair_based_generated_eq_model (N : Nat) (nbrs : Nat → List Nat) (tr : Nat → Nat → Rat) (rr : Nat → Rat)
    (Y : Nat → Rat) (XY XX : Nat → Nat → Rat)
    (hn : ∀ u, u < N → (nbrs u).Nodup) (hb : ∀ u, u < N → ∀ v ∈ nbrs u, v < N) :
    let Vst := V.append ⟨N, Y⟩ (V.append (flat N N XY) (flat N N XX))
    let r := Gen.dSIS_pair_based Vst N nbrs tr rr
    let m := sisPairBased nbrs tr rr Y XY XX
    r.n = N + (N * N + N * N) ∧ (∀ i, i < N → r.f i = m.1 i) ∧
    (∀ i j, i < N → j < N → r.f (N + (i * N + j)) = m.2.1 i j ∧ r.f (N + (N * N + (i * N + j))) = m.2.2 i j) :=
  gen_sisPairBased N nbrs tr rr Y XY XX _ (packed3 N Y XY XX) hn hb

/-- `_dSIR_pair_based_`, as generated from the source, applied to the packed state
`V = concatenate((X, Y, XY.flat, XX.flat))` returns the packed hand model `ODE.sirPairBased`
(`dX`, `dY`, `dXY`, `dXX` in this order). -/
theorem sir_pair_based_generated_eq_model (N : Nat) (nbrs : Nat → List Nat) (tr : Nat → Nat → Rat) (rr : Nat → Rat)
    (X Y : Nat → Rat) (XY XX : Nat → Nat → Rat)
    (hn : ∀ u, u < N → (nbrs u).Nodup) (hb : ∀ u, u < N → ∀ v ∈ nbrs u, v < N) :
    let Vst := V.append ⟨N, X⟩ (V.append ⟨N, Y⟩ (V.append (flat N N XY) (flat N N XX)))
    let r := Gen.dSIR_pair_based Vst N nbrs tr rr
    let m := sirPairBased nbrs tr rr X Y XY XX
    r.n = N + (N + (N * N + N * N)) ∧ (∀ i, i < N → r.f i = m.1 i ∧ r.f (N + i) = m.2.1 i) ∧
    (∀ i j, i < N → j < N → r.f (N + (N + (i * N + j))) = m.2.2.1 i j ∧
      r.f (N + (N + (N * N + (i * N + j)))) = m.2.2.2 i j) :=
  gen_sirPairBased N nbrs tr rr X Y XY XX _ (packed4 N X Y XY XX) hn hb

/-- Same statement for an ARBITRARY input vector (any length, any content): the output of the generated
`_dSIS_pair_based_` is the hand model evaluated on the slices `V[0:N]`, `V[N:N+N²]`, `V[N+N²:]` as the code indexes
them.  Only the absence of repeated neighbours is used. -/
theorem sis_pair_based_generated_cells (Vst : V) (N : Nat) (nbrs : Nat → List Nat) (tr : Nat → Nat → Rat)
    (rr : Nat → Rat) (hn : ∀ u, u < N → (nbrs u).Nodup) :
    let y : A := fun i => Vst.f (0 + i)
    let xy : M := fun a b => Vst.f (N + (a * N + b))
    let xx : M := fun a b => Vst.f ((N + N * N) + (a * N + b))
    let r := Gen.dSIS_pair_based Vst N nbrs tr rr
    let m := sisPairBased nbrs tr rr y xy xx
    r.n = N + (N * N + N * N) ∧ (∀ i, i < N → r.f i = m.1 i) ∧
    (∀ i j, i < N → j < N → r.f (N + (i * N + j)) = m.2.1 i j ∧ r.f (N + (N * N + (i * N + j))) = m.2.2 i j) :=
  gen_sis_cells Vst N nbrs tr rr hn

/-- The same for `_dSIR_pair_based_` and the slices `V[0:N]`, `V[N:2N]`, `V[2N:2N+N²]`, `V[2N+N²:]`. -/
theorem sir_pair_based_generated_cells (Vst : V) (N : Nat) (nbrs : Nat → List Nat) (tr : Nat → Nat → Rat)
    (rr : Nat → Rat) (hn : ∀ u, u < N → (nbrs u).Nodup) :
    let x : A := fun i => Vst.f (0 + i)
    let y : A := fun i => Vst.f (N + i)
    let xy : M := fun a b => Vst.f ((2 * N) + (a * N + b))
    let xx : M := fun a b => Vst.f (((2 * N) + N * N) + (a * N + b))
    let r := Gen.dSIR_pair_based Vst N nbrs tr rr
    let m := sirPairBased nbrs tr rr x y xy xx
    r.n = N + (N + (N * N + N * N)) ∧ (∀ i, i < N → r.f i = m.1 i ∧ r.f (N + i) = m.2.1 i) ∧
    (∀ i j, i < N → j < N → r.f (N + (N + (i * N + j))) = m.2.2.1 i j ∧
      r.f (N + (N + (N * N + (i * N + j)))) = m.2.2.2 i j) :=
  gen_sir_cells Vst N nbrs tr rr hn

/-! ### non-vacuity: path graph 0 - 1 - 2 -/

def pathNbrs : Nat → List Nat := fun u => match u with | 0 => [1] | 1 => [0, 2] | 2 => [1] | _ => []
def exTr : Nat → Nat → Rat := fun u v => ((u + 2 * v + 1 : Nat) : Rat) / 4
def exRr : Nat → Rat := fun u => ((u + 1 : Nat) : Rat) / 3
def exY : Nat → Rat := fun i => [1/2, 1/4, 0].getD i 0
def exX : Nat → Rat := fun i => [1/2, 1/2, 3/4].getD i 0
def exXY : Nat → Nat → Rat := fun i j => ((i + 2 * j + 1 : Nat) : Rat) / 10
def exXX : Nat → Nat → Rat := fun i j => ((3 * i + j + 2 : Nat) : Rat) / 20
def exVsis : V := V.append ⟨3, exY⟩ (V.append (flat 3 3 exXY) (flat 3 3 exXX))
def exVsir : V := V.append ⟨3, exX⟩ (V.append ⟨3, exY⟩ (V.append (flat 3 3 exXY) (flat 3 3 exXX)))

theorem path_nodup : ∀ u, u < 3 → (pathNbrs u).Nodup := by decide
theorem path_bound : ∀ u, u < 3 → ∀ v ∈ pathNbrs u, v < 3 := by decide

/-- the theorem applies to the path graph: `d[X_1 Y_2]/dt` of the generated SIS code is the model's (through
`gen_sisPairBased` with `exVsis` as the packed state, which spares the unifier two spellings of that vector) -/
example : (Gen.dSIS_pair_based exVsis 3 pathNbrs exTr exRr).f (3 + (1 * 3 + 2))
    = (sisPairBased pathNbrs exTr exRr exY exXY exXX).2.1 1 2 :=
  ((gen_sisPairBased 3 pathNbrs exTr exRr exY exXY exXX exVsis (packed3 3 exY exXY exXX) path_nodup path_bound).2.2
    1 2 (by decide) (by decide)).1

/-- and the common value is non-trivial (computed by evaluating the generated loops) -/
example : (Gen.dSIS_pair_based exVsis 3 pathNbrs exTr exRr).f (3 + (1 * 3 + 2)) = -47 / 25 := by decide +kernel
example : (sisPairBased pathNbrs exTr exRr exY exXY exXX).2.1 1 2 = -47 / 25 := by decide +kernel

/-- SIR, `d[X_1 X_0]/dt` -/
example : (Gen.dSIR_pair_based exVsir 3 pathNbrs exTr exRr).f (3 + (3 + (3 * 3 + (1 * 3 + 0))))
    = (sirPairBased pathNbrs exTr exRr exX exY exXY exXX).2.2.2 1 0 :=
  ((gen_sirPairBased 3 pathNbrs exTr exRr exX exY exXY exXX exVsir (packed4 3 exX exY exXY exXX) path_nodup
    path_bound).2.2 1 0 (by decide) (by decide)).2
example : (Gen.dSIR_pair_based exVsir 3 pathNbrs exTr exRr).f (3 + (3 + (3 * 3 + (1 * 3 + 0)))) = -9 / 20 := by
  decide +kernel

/-- accumulation lemma on a concrete loop: `for v in [1,5,1]: a[2] += v/2` from `a[2] = 1` gives `1 + 7/2` -/
example : (([1, 5, 1] : List Nat).foldl (fun a v => upd1 a 2 (a 2 + ((v : Nat) : Rat) / 2)) (fun _ => 1)) 2
    = 9 / 2 :=
  (loop_upd1 [1, 5, 1] 2 (fun v => ((v : Nat) : Rat) / 2) (fun _ => 1) 2).trans (by decide +kernel)

/-- `(nbrs u).Nodup` cannot be dropped: if node 0 lists neighbour 1 twice, the loops add the `(0,1)` terms twice
(`d[X_0 Y_1]/dt = -37/60`) while the closed-form model counts the edge once (`-37/120`). -/
def dupNbrs : Nat → List Nat := fun u => match u with | 0 => [1, 1] | 1 => [0] | _ => []
theorem nodup_needed :
    (Gen.dSIS_pair_based (V.append ⟨2, exY⟩ (V.append (flat 2 2 exXY) (flat 2 2 exXX))) 2 dupNbrs exTr exRr).f
        (2 + (0 * 2 + 1))
      ≠ (sisPairBased dupNbrs exTr exRr exY exXY exXX).2.1 0 1 := by decide +kernel

end GenEqLoops2
