import EoNVerif.Proofs.CompetingExp
/-!
C01d — competing exponential clocks and memorylessness, in the uniform-draw model of C01c.

The verification of the event-driven simulators `fast_SIR` / `fast_SIS` (`/repo/EoN/simulation.py`) *cites* two
classical facts:

* "first-passage percolation with independent exponential delays has the law of the continuous-time Markov chain":
  when several independent exponential clocks (rates `r_1, …, r_n`) are started together, the time of the first ring
  is Exp(`Σ r_j`), the ringing clock is `i` with probability `r_i / Σ r_j`, and the two are independent — this is
  exactly the jump law of the Gillespie / CTMC description (`first_and_when`, `nary_first_and_when`);
* "re-drawing an exponential delay after the target recovers (`fast_SIS`) is harmless": an exponential clock that
  has not rung by time `s` is, from `s` on, a fresh exponential clock (`memoryless`, `memoryless_cond`,
  `memoryless_residual`).

They are mechanised here in the SAME model as C01c (`Props/C01c.lean`, `Proofs/FastSIRLaw2.lean`):
`random.expovariate(r)` is `expovariate r u = -log(1-u)/r` with `u = random.random() ∈ [0,1)`; a probability is the
Lebesgue measure (`volume`) of the set of uniform draws; independent draws are modelled by the product measure on
the unit square `[0,1)²` (`volume` on `ℝ × ℝ` is `volume.prod volume`, see the first `example`) or on the unit
cube `[0,1)^n` (`volume` on `Fin n → ℝ` is `Measure.pi fun _ => volume`).  The restriction to the unit square/cube
is the conjunct `… ∈ Set.Ico 0 1` inside the set, as in C01c.  Real numbers stand for the floats.

Like C01c, this file imports nothing from the project besides `Proofs/FastSIRLaw2.lean` (via
`Proofs/CompetingExp.lean`): Mathlib's `Dist` clashes with the project's.  Check it on its own with
`lake build EoNVerif.Props.C01d`; do not add it to `EoNVerif/Props.lean`.
-/
namespace FastSIRLaw
open MeasureTheory

/-! ### one clock: survival function and memorylessness -/

/-- `P(X > t) = exp(-a t)` for `X = random.expovariate(a)`, `t ≥ 0` -/
theorem exp_survival {a : ℝ} (ha : 0 < a) {t : ℝ} (ht : 0 ≤ t) :
    volume {u : ℝ | u ∈ Set.Ico (0 : ℝ) 1 ∧ t < expovariate a u} = ENNReal.ofReal (Real.exp (-a * t)) := by
  rw [survival_event_eq ha ht, Real.volume_Ioo, sub_sub_cancel]

/-- memorylessness: `P(X > s + t) = P(X > s) · P(X > t)` -/
theorem memoryless {a : ℝ} (ha : 0 < a) {s t : ℝ} (hs : 0 ≤ s) (ht : 0 ≤ t) :
    volume {u : ℝ | u ∈ Set.Ico (0 : ℝ) 1 ∧ s + t < expovariate a u}
      = volume {u : ℝ | u ∈ Set.Ico (0 : ℝ) 1 ∧ s < expovariate a u}
        * volume {u : ℝ | u ∈ Set.Ico (0 : ℝ) 1 ∧ t < expovariate a u} := by
  rw [exp_survival ha (add_nonneg hs ht), exp_survival ha hs, exp_survival ha ht,
    ← ENNReal.ofReal_mul (Real.exp_pos _).le, ← Real.exp_add, mul_add]

/-- memorylessness in conditional form: `P(X > s + t | X > s) = P(X > t)`
(`{X > s+t} ⊆ {X > s}`, so the conditional probability is the quotient of the two measures) -/
theorem memoryless_cond {a : ℝ} (ha : 0 < a) {s t : ℝ} (hs : 0 ≤ s) (ht : 0 ≤ t) :
    volume {u : ℝ | u ∈ Set.Ico (0 : ℝ) 1 ∧ s + t < expovariate a u}
        / volume {u : ℝ | u ∈ Set.Ico (0 : ℝ) 1 ∧ s < expovariate a u}
      = volume {u : ℝ | u ∈ Set.Ico (0 : ℝ) 1 ∧ t < expovariate a u} := by
  rw [memoryless ha hs ht, exp_survival ha hs, mul_comm]
  exact ENNReal.mul_div_cancel_right (ENNReal.ofReal_pos.2 (Real.exp_pos _)).ne' ENNReal.ofReal_ne_top

/-- the form used for the re-draw in `fast_SIS`: the residual delay `X - s` of a clock that has not rung by time `s`
has the law of a fresh draw: `P(X > s, X - s > t) = P(X > s) · P(X > t)` -/
theorem memoryless_residual {a : ℝ} (ha : 0 < a) {s t : ℝ} (hs : 0 ≤ s) (ht : 0 ≤ t) :
    volume {u : ℝ | u ∈ Set.Ico (0 : ℝ) 1 ∧ s < expovariate a u ∧ t < expovariate a u - s}
      = volume {u : ℝ | u ∈ Set.Ico (0 : ℝ) 1 ∧ s < expovariate a u}
        * volume {u : ℝ | u ∈ Set.Ico (0 : ℝ) 1 ∧ t < expovariate a u} := by
  rw [← memoryless ha hs ht]
  congr 1
  ext u
  simp only [Set.mem_ofPred_eq, lt_sub_iff_add_lt']
  exact and_congr_right fun _ => and_iff_right_of_imp (le_add_of_nonneg_right ht).trans_lt

/-! ### two competing clocks `X = expovariate a u`, `Y = expovariate b v`, `(u,v)` uniform on `[0,1)²` -/

/-- the first of two competing clocks is Exp(`a+b`): `P(min(X,Y) > t) = exp(-(a+b) t)` -/
theorem min_survival {a b : ℝ} (ha : 0 < a) (hb : 0 < b) {t : ℝ} (ht : 0 ≤ t) :
    (volume : Measure (ℝ × ℝ))
      {p : ℝ × ℝ | p.1 ∈ Set.Ico (0 : ℝ) 1 ∧ p.2 ∈ Set.Ico (0 : ℝ) 1 ∧
        t < min (expovariate a p.1) (expovariate b p.2)}
      = ENNReal.ofReal (Real.exp (-(a + b) * t)) := by
  -- `exp(-(a+b) t) = P(X > t) · P(Y > t)`, the measure of a rectangle in the product measure
  rw [neg_add, add_mul, Real.exp_add, ENNReal.ofReal_mul (Real.exp_pos _).le, ← exp_survival ha ht,
    ← exp_survival hb ht, ← Measure.prod_prod]
  congr 1
  ext p
  simp only [Set.mem_ofPred_eq, Set.mem_prod, lt_min_iff]
  exact and_assoc.symm.trans and_and_and_comm

/-- Clock `a` fires before clock `b` and its draw lies in `J`, where `J` is, up to a null set, the draws giving
`X > t`: rate share × Exp(total rate) survival.  `first_is_a` is `J = [0,1)`, `t = 0`. -/
theorem first_in {a b t : ℝ} (ha : 0 < a) (hb : 0 < b) {J : Set ℝ} (hJ : J ⊆ Set.Ico 0 1)
    (hJt : J =ᵐ[volume] Set.Ioc (1 - Real.exp (-a * t)) 1) (hJm : MeasurableSet J) :
    (volume : Measure (ℝ × ℝ))
      {p : ℝ × ℝ | p.1 ∈ J ∧ p.2 ∈ Set.Ico (0 : ℝ) 1 ∧ expovariate a p.1 < expovariate b p.2}
      = ENNReal.ofReal (a / (a + b) * Real.exp (-(a + b) * t)) :=
  competing_general volume ha hb.le hJ hJt hJm
    (T := fun x => {v : ℝ | v ∈ Set.Ico (0 : ℝ) 1 ∧ x < expovariate b v})
    (fun _ hx => exp_survival hb hx) (measurableSet_first_pair a b hJm) rfl

/-- which clock fires first: `P(X < Y) = a / (a+b)` -/
theorem first_is_a {a b : ℝ} (ha : 0 < a) (hb : 0 < b) :
    (volume : Measure (ℝ × ℝ))
      {p : ℝ × ℝ | p.1 ∈ Set.Ico (0 : ℝ) 1 ∧ p.2 ∈ Set.Ico (0 : ℝ) 1 ∧ expovariate a p.1 < expovariate b p.2}
      = ENNReal.ofReal (a / (a + b)) := by
  have h := first_in (t := 0) ha hb subset_rfl (by rw [one_sub_exp_zero]; exact Ico_ae_eq_Ioc) measurableSet_Ico
  rwa [mul_zero, Real.exp_zero, mul_one] at h

/-- the Gillespie jump law: `P(X < Y, X > t) = a/(a+b) · exp(-(a+b) t)` — rate share × Exp(total rate)
waiting time -/
theorem first_and_when {a b : ℝ} (ha : 0 < a) (hb : 0 < b) {t : ℝ} (ht : 0 ≤ t) :
    (volume : Measure (ℝ × ℝ))
      {p : ℝ × ℝ | p.1 ∈ Set.Ico (0 : ℝ) 1 ∧ p.2 ∈ Set.Ico (0 : ℝ) 1 ∧
        expovariate a p.1 < expovariate b p.2 ∧ t < expovariate a p.1}
      = ENNReal.ofReal (a / (a + b) * Real.exp (-(a + b) * t)) := by
  rw [← first_in ha hb (Ioo_one_sub_exp_subset ha ht) Ioo_ae_eq_Ioc measurableSet_Ioo,
    ← survival_event_eq ha ht]
  congr 1
  ext p
  simp only [Set.mem_ofPred_eq]
  constructor
  · rintro ⟨h1, h2, h3, h4⟩; exact ⟨⟨h1, h4⟩, h2, h3⟩
  · rintro ⟨⟨h1, h4⟩, h2, h3⟩; exact ⟨h1, h2, h3, h4⟩

/-- "who" and "when" are independent: `P(X < Y, min(X,Y) > t) = P(X < Y) · P(min(X,Y) > t)` -/
theorem first_and_when_indep {a b : ℝ} (ha : 0 < a) (hb : 0 < b) {t : ℝ} (ht : 0 ≤ t) :
    (volume : Measure (ℝ × ℝ))
      {p : ℝ × ℝ | p.1 ∈ Set.Ico (0 : ℝ) 1 ∧ p.2 ∈ Set.Ico (0 : ℝ) 1 ∧
        expovariate a p.1 < expovariate b p.2 ∧ t < min (expovariate a p.1) (expovariate b p.2)}
      = (volume : Measure (ℝ × ℝ))
          {p : ℝ × ℝ | p.1 ∈ Set.Ico (0 : ℝ) 1 ∧ p.2 ∈ Set.Ico (0 : ℝ) 1 ∧
            expovariate a p.1 < expovariate b p.2}
        * (volume : Measure (ℝ × ℝ))
          {p : ℝ × ℝ | p.1 ∈ Set.Ico (0 : ℝ) 1 ∧ p.2 ∈ Set.Ico (0 : ℝ) 1 ∧
            t < min (expovariate a p.1) (expovariate b p.2)} := by
  have hab : 0 < a + b := add_pos ha hb
  rw [first_is_a ha hb, min_survival ha hb ht, ← ENNReal.ofReal_mul (div_pos ha hab).le,
    ← first_and_when ha hb ht]
  congr 1
  ext p
  simp only [Set.mem_ofPred_eq, lt_min_iff]
  constructor
  · rintro ⟨h1, h2, h3, h4, _⟩; exact ⟨h1, h2, h3, h4⟩
  · rintro ⟨h1, h2, h3, h4⟩; exact ⟨h1, h2, h3, h4, lt_trans h4 h3⟩

/-! ### `n` competing clocks `X_j = expovariate (r j) (w j)`, `w` uniform on `[0,1)^n` -/

/-- all of finitely many independent clocks exceed `t` (i.e. their minimum does) with probability
`exp(-(Σ r_j) t)` -/
theorem nary_min_survival {ι : Type*} [Fintype ι] {r : ι → ℝ} (hr : ∀ i, 0 < r i) {t : ℝ} (ht : 0 ≤ t) :
    (volume : Measure (ι → ℝ)) {w : ι → ℝ | ∀ i, w i ∈ Set.Ico (0 : ℝ) 1 ∧ t < expovariate (r i) (w i)}
      = ENNReal.ofReal (Real.exp (-(∑ i, r i) * t)) := by
  -- `exp(-(Σ r_i) t) = ∏ P(X_i > t)`, the measure of a box in the product measure
  rw [neg_mul, Finset.sum_mul, ← Finset.sum_neg_distrib, Real.exp_sum,
    ENNReal.ofReal_prod_of_nonneg (fun i _ => (Real.exp_pos _).le)]
  simp only [← neg_mul, ← exp_survival (hr _) ht]
  rw [← volume_pi_pi]
  congr 1
  ext w
  simp only [Set.mem_ofPred_eq, Set.mem_univ_pi]

/-- the same with the minimum written out (`Finset.inf'` over the `n+1` clocks) -/
theorem nary_min_survival' {n : ℕ} {r : Fin (n + 1) → ℝ} (hr : ∀ i, 0 < r i) {t : ℝ} (ht : 0 ≤ t) :
    (volume : Measure (Fin (n + 1) → ℝ))
      {w : Fin (n + 1) → ℝ | (∀ i, w i ∈ Set.Ico (0 : ℝ) 1) ∧
        t < Finset.univ.inf' Finset.univ_nonempty (fun i => expovariate (r i) (w i))}
      = ENNReal.ofReal (Real.exp (-(∑ i, r i) * t)) := by
  rw [← nary_min_survival hr ht]
  congr 1
  ext w
  simp only [Set.mem_ofPred_eq, Finset.lt_inf'_iff, Finset.mem_univ, true_implies, forall_and]

/-- Clock `i` is the first of `n+1` clocks and its draw lies in `J`, where `J` is, up to a null set, the draws
giving `X_i > t`: the `n`-ary form of `first_in`. -/
theorem nary_first_in {n : ℕ} {r : Fin (n + 1) → ℝ} (hr : ∀ j, 0 < r j) (i : Fin (n + 1)) {t : ℝ}
    {J : Set ℝ} (hJ : J ⊆ Set.Ico 0 1) (hJt : J =ᵐ[volume] Set.Ioc (1 - Real.exp (-r i * t)) 1)
    (hJm : MeasurableSet J) :
    (volume : Measure (Fin (n + 1) → ℝ))
      {w : Fin (n + 1) → ℝ | (∀ j, w j ∈ Set.Ico (0 : ℝ) 1) ∧
        (∀ j, j ≠ i → expovariate (r i) (w i) < expovariate (r j) (w j)) ∧ w i ∈ J}
      = ENNReal.ofReal (r i / (∑ j, r j) * Real.exp (-(∑ j, r j) * t)) := by
  rw [pi_first_event_eq r i J hJ, volume_pi,
    (measurePreserving_piFinSuccAbove (fun _ : Fin (n + 1) => (volume : Measure ℝ)) i).measure_preimage_equiv,
    Fin.sum_univ_succAbove r i]
  exact competing_general (Measure.pi fun _ => volume) (hr i)
    (Finset.sum_nonneg fun k _ => (hr _).le) hJ hJt hJm
    (T := fun x => {z : Fin n → ℝ | ∀ k, z k ∈ Set.Ico (0 : ℝ) 1 ∧ x < expovariate (r (i.succAbove k)) (z k)})
    (fun x hx => by rw [← volume_pi]; exact nary_min_survival (fun k => hr _) hx)
    (measurableSet_first_pi (r i) (fun k => r (i.succAbove k)) hJm) rfl

/-- clock `i` is the first of `n+1` clocks with probability `r_i / Σ r_j` -/
theorem nary_first_is_i {n : ℕ} {r : Fin (n + 1) → ℝ} (hr : ∀ j, 0 < r j) (i : Fin (n + 1)) :
    (volume : Measure (Fin (n + 1) → ℝ))
      {w : Fin (n + 1) → ℝ | (∀ j, w j ∈ Set.Ico (0 : ℝ) 1) ∧
        (∀ j, j ≠ i → expovariate (r i) (w i) < expovariate (r j) (w j))}
      = ENNReal.ofReal (r i / (∑ j, r j)) := by
  have h := nary_first_in (t := 0) hr i subset_rfl (by rw [one_sub_exp_zero]; exact Ico_ae_eq_Ioc) measurableSet_Ico
  rw [mul_zero, Real.exp_zero, mul_one] at h
  rw [← h]
  congr 1
  ext w
  exact and_congr_right fun h1 => (and_iff_left (h1 i)).symm

/-- the `n`-ary Gillespie jump law: clock `i` is the first and fires after `t` with probability
`r_i / Σ r_j · exp(-(Σ r_j) t)` -/
theorem nary_first_and_when {n : ℕ} {r : Fin (n + 1) → ℝ} (hr : ∀ j, 0 < r j) (i : Fin (n + 1))
    {t : ℝ} (ht : 0 ≤ t) :
    (volume : Measure (Fin (n + 1) → ℝ))
      {w : Fin (n + 1) → ℝ | (∀ j, w j ∈ Set.Ico (0 : ℝ) 1) ∧
        (∀ j, j ≠ i → expovariate (r i) (w i) < expovariate (r j) (w j)) ∧ t < expovariate (r i) (w i)}
      = ENNReal.ofReal (r i / (∑ j, r j) * Real.exp (-(∑ j, r j) * t)) := by
  rw [← nary_first_in hr i (Ioo_one_sub_exp_subset (hr i) ht) Ioo_ae_eq_Ioc measurableSet_Ioo,
    ← survival_event_eq (hr i) ht]
  congr 1
  ext w
  exact and_congr_right fun h1 => and_congr_right fun _ => (and_iff_right (h1 i)).symm

/-- `volume` on `ℝ × ℝ` is the product of the two Lebesgue measures: two independent uniform draws -/
example : (volume : Measure (ℝ × ℝ)) = (volume : Measure ℝ).prod (volume : Measure ℝ) := rfl
/-- `volume` on `Fin 3 → ℝ` is the product of three Lebesgue measures -/
example : (volume : Measure (Fin 3 → ℝ)) = Measure.pi fun _ => (volume : Measure ℝ) := rfl

example : volume {u : ℝ | u ∈ Set.Ico (0 : ℝ) 1 ∧ 3 < expovariate 2 u} = ENNReal.ofReal (Real.exp (-2 * 3)) :=
  exp_survival (by norm_num) (by norm_num)
example : volume {u : ℝ | u ∈ Set.Ico (0 : ℝ) 1 ∧ 1 + 2 < expovariate 5 u}
    = volume {u : ℝ | u ∈ Set.Ico (0 : ℝ) 1 ∧ 1 < expovariate 5 u}
      * volume {u : ℝ | u ∈ Set.Ico (0 : ℝ) 1 ∧ 2 < expovariate 5 u} :=
  memoryless (by norm_num) (by norm_num) (by norm_num)
example : volume {u : ℝ | u ∈ Set.Ico (0 : ℝ) 1 ∧ 1 + 2 < expovariate 5 u}
      / volume {u : ℝ | u ∈ Set.Ico (0 : ℝ) 1 ∧ 1 < expovariate 5 u}
    = ENNReal.ofReal (Real.exp (-5 * 2)) := by
  rw [memoryless_cond (by norm_num) (by norm_num) (by norm_num), exp_survival (by norm_num) (by norm_num)]
example : (volume : Measure (ℝ × ℝ))
    {p : ℝ × ℝ | p.1 ∈ Set.Ico (0 : ℝ) 1 ∧ p.2 ∈ Set.Ico (0 : ℝ) 1 ∧ 4 < min (expovariate 1 p.1) (expovariate 3 p.2)}
    = ENNReal.ofReal (Real.exp (-(1 + 3) * 4)) :=
  min_survival (by norm_num) (by norm_num) (by norm_num)
/-- transmission at rate `1` against recovery at rate `3`: the transmission comes first with probability `1/4` -/
example : ((volume : Measure ℝ).prod (volume : Measure ℝ))
    {p : ℝ × ℝ | p.1 ∈ Set.Ico (0 : ℝ) 1 ∧ p.2 ∈ Set.Ico (0 : ℝ) 1 ∧ expovariate 1 p.1 < expovariate 3 p.2}
    = ENNReal.ofReal (1 / 4) :=
  (first_is_a (by norm_num) (by norm_num)).trans (by norm_num)
example : (volume : Measure (ℝ × ℝ))
    {p : ℝ × ℝ | p.1 ∈ Set.Ico (0 : ℝ) 1 ∧ p.2 ∈ Set.Ico (0 : ℝ) 1 ∧
      expovariate 1 p.1 < expovariate 3 p.2 ∧ 2 < expovariate 1 p.1}
    = ENNReal.ofReal (1 / (1 + 3) * Real.exp (-(1 + 3) * 2)) :=
  first_and_when (by norm_num) (by norm_num) (by norm_num)
/-- at `t = 0` the jump law gives back the rate share -/
example : (volume : Measure (ℝ × ℝ))
    {p : ℝ × ℝ | p.1 ∈ Set.Ico (0 : ℝ) 1 ∧ p.2 ∈ Set.Ico (0 : ℝ) 1 ∧
      expovariate 2 p.1 < expovariate 3 p.2 ∧ 0 < expovariate 2 p.1}
    = ENNReal.ofReal (2 / (2 + 3)) := by
  rw [first_and_when (by norm_num) (by norm_num) (le_refl _), mul_zero, Real.exp_zero, mul_one]
theorem rates123_pos : ∀ j : Fin 3, 0 < (![1, 2, 3] : Fin 3 → ℝ) j := by
  intro j; fin_cases j <;> simp

/-- three clocks with rates `1, 2, 3`: the middle one is the first with probability `2/6` -/
example : (volume : Measure (Fin 3 → ℝ))
    {w : Fin 3 → ℝ | (∀ j, w j ∈ Set.Ico (0 : ℝ) 1) ∧
      (∀ j, j ≠ 1 → expovariate (![1, 2, 3] 1) (w 1) < expovariate (![1, 2, 3] j) (w j))}
    = ENNReal.ofReal (2 / (1 + 2 + 3)) := by
  rw [nary_first_is_i rates123_pos 1, Fin.sum_univ_three]
  rfl
example : (volume : Measure (Fin 3 → ℝ))
    {w : Fin 3 → ℝ | ∀ i, w i ∈ Set.Ico (0 : ℝ) 1 ∧ 5 < expovariate (![1, 2, 3] i) (w i)}
    = ENNReal.ofReal (Real.exp (-(1 + 2 + 3) * 5)) := by
  rw [nary_min_survival rates123_pos (by norm_num), Fin.sum_univ_three]
  rfl

end FastSIRLaw
