import EoNVerif.Proofs.GenFastSIR
import EoNVerif.Props.C11b
/-!
C01f — the Lean code GENERATED from `fast_SIR`'s own part (`EoNVerif/Gen/FastSIRGen.lean`, namespace `GenFSIR`:
`_truncated_exponential_`, `_get_rate_functions_`, `_trans_and_rec_time_Markovian_const_trans_`,
`_find_trans_and_rec_delays_SIR_`, the dispatch at the head of `fast_SIR`) against the scripted random tape.

1. `truncated_exponential` returns the scripted `expovariate` draw reduced modulo `T` (`truncMod t T`, the rational
   twin of the real-valued `FastSIRLaw.reduceMod` whose law C01c computes), in `[0,T)`; its four error cases.
2. `get_rate_functions`: the four combinations of weights.
3. `const_trans`: which draws are consumed, which calls are logged, what is returned; every returned delay is
   `< duration`, so every sampled recipient is a kept edge of the percolation picture.
4. the dispatch `fast_SIR_rule` and the per-edge rule (`_find_trans_and_rec_delays_SIR_` with the two nested time
   functions): which draws are consumed in which order.
5. tape determinisation: a successful run of `fast_nonMarkov_SIR` (hence of `fast_SIR`) with an effectful rule asks the
   rule at most once per node; run with a PURE rule returning the drawn values it gives the same objects on any tape.
   Consequences: `fast_SIR` refines the event-queue model `EventSIR` whose rule is the table of drawn values, and its
   output is first-passage percolation (C11 `isFPP`) of the delays and durations it drew — on BOTH branches
   (`fast_SIR_fpp`).  On the per-edge branch the run equals the run with the pure table rule `jointOfTables`
   (`fast_SIR_perEdge_fpp`); on the constant-`tau` branch this equality is false in general (the dict lists the
   recipients in sample order, which decides the order of simultaneous events — see the star example at the end); the
   invariant of C11 holds for every rule that returns rows of the tables, in any order (`RuleFits`,
   `Proofs/EventSIRInv.lean`).

Helper definitions (`truncMod`, `dictOf`, `timeOfRate`, `perEdgeRule`, `constRule`, `Fits`, `drawsOf`, `callsOf`,
`Chain`, `RuleCall`, `withRule`, `pureRule`, `tableOf`, `delayOf`, `durOf`, `drawnParams`, `TapeNonneg`,
`ConstRowOK`, `DrawnRowOK`, `view`) are in
`EoNVerif/Proofs/GenFastSIR.lean`, and so are the statements of parts 1, 3 and 4 on which its later proofs rest
(`GenFSIR.truncated_exponential_spec`, `…_errors`, `…_real`, `const_trans_spec`, `const_trans_none_infected`,
`const_trans_errors`, `find_trans_and_rec_delays_SIR_spec`, `…_inv`, `…_error`).
-/
open PyFS GenESIR EventSIR GenFSIRProofs

namespace GenFSIR

/-! ## 1. `_truncated_exponential_` -/

theorem truncMod_def (t T : Rat) : truncMod t T = t - ((PyFS.intTrunc (t / T) : Int) : Rat) * T := rfl

/-- for a non-negative draw and a positive `T` the result is `t mod T`: `t - ⌊t/T⌋ T`, in `[0,T)`, and differs from
`t` by a natural multiple of `T` -/
theorem truncated_exponential_mod {t T : Rat} (ht : 0 ≤ t) (hT : 0 < T) :
    truncMod t T = t - (⌊t / T⌋ : Rat) * T ∧ 0 ≤ truncMod t T ∧ truncMod t T < T ∧
      ∃ k : Nat, t = truncMod t T + (k : Rat) * T :=
  ⟨truncMod_eq_floor ht hT, (truncMod_range ht hT).1, (truncMod_range ht hT).2, truncMod_decomp ht hT⟩

/-- hence, when the scripted draw is `expovariate(r)` of the uniform `u`, the returned value is `truncExp r T u`, whose
law C01c computes -/
theorem truncated_exponential_truncExp (t T : Rat) (r u : ℝ) (h : (t : ℝ) = FastSIRLaw.expovariate r u) :
    ((truncMod t T : Rat) : ℝ) = FastSIRLaw.truncExp r (T : ℝ) u := by
  rw [truncated_exponential_real, h]; rfl

example : view (truncated_exponential 2 (3/4) ⟨[Draw.expo (7/4)], #[]⟩) = .ok (1/4, [], [Call.expo 2]) := by
  decide +kernel
example : truncMod (7/4) (3/4) = 1/4 ∧ (0 : Rat) ≤ 1/4 ∧ (1/4 : Rat) < 3/4 ∧ (7/4 : Rat) = 1/4 + (2 : Nat) * (3/4) := by
  decide +kernel
example : view (truncated_exponential 0 1 ⟨[Draw.expo 1], #[]⟩) = .error "ZeroDivisionError" := by decide +kernel
example : view (truncated_exponential 2 0 ⟨[Draw.expo 1], #[]⟩) = .error "ZeroDivisionError" := by decide +kernel
example : view (truncated_exponential 2 1 ⟨[Draw.unif 1], #[]⟩) = .error "tape-kind-mismatch:expo" := by decide +kernel
example : view (truncated_exponential 2 1 ⟨[], #[]⟩) = .error "tape-exhausted" := by decide +kernel

/-! ## 2. `_get_rate_functions_` -/

theorem get_rate_functions_spec (tau gamma : Rat) :
    (∀ x y, (get_rate_functions tau gamma none none).1 x y = .ok tau) ∧
    (∀ x, (get_rate_functions tau gamma none none).2 x = .ok gamma) ∧
    (∀ (rw : Option Rate1) x y, (get_rate_functions tau gamma none rw).1 x y = .ok tau) ∧
    (∀ (tw : Option Rate2) x, (get_rate_functions tau gamma tw none).2 x = .ok gamma) ∧
    (∀ (tw : Rate2) (rw : Option Rate1) x y,
      (get_rate_functions tau gamma (some tw) rw).1 x y = (tw x y).map (tau * ·)) ∧
    (∀ (tw : Option Rate2) (rw : Rate1) x,
      (get_rate_functions tau gamma tw (some rw)).2 x = (rw x).map (gamma * ·)) :=
  ⟨fun _ _ => rfl, fun _ => rfl, fun _ _ _ => rfl, fun _ _ => rfl,
    fun tw rw x y => get_rate_functions_trans_some tau gamma tw rw x y,
    fun tw rw x => get_rate_functions_rec_some tau gamma tw rw x⟩

example : (get_rate_functions 2 3 (some fun x y => .ok ((x + y : Nat) : Rat)) none).1 1 4 = .ok 10 := by decide +kernel
example : (get_rate_functions 2 3 (some fun _ _ => .error "KeyError") none).1 1 4 = .error "KeyError" := by
  decide +kernel
example : (get_rate_functions 2 3 none (some fun x => .ok ((x : Nat) : Rat))).2 5 = .ok 15 := by decide +kernel

/-! ## 3. `_trans_and_rec_time_Markovian_const_trans_` -/

/-- when the susceptible neighbours are distinct, so are the recipients, and the dict is the list of pairs
(recipient, delay) in sample order: its keys are exactly the recipients, `dict[recipient i] = t_i mod d`, and no other
node has an entry -/
theorem const_trans_dict {sus : List Node} (hs : sus.Nodup) {idx : List Nat} (hlt : ∀ i ∈ idx, i < sus.length)
    (hnd : idx.Nodup) (ts : List Rat) (hts : ts.length = idx.length) (d : Rat) :
    let recips := idx.map (sus.getD · 0)
    let vals := ts.map fun t => some (truncMod t d)
    let dict := dictOf [] recips vals
    recips.Nodup ∧ dict = recips.zip vals ∧ dict.map (·.1) = recips ∧
      (∀ (i : Nat) (h1 : i < recips.length) (h2 : i < ts.length),
        alGet dict none recips[i] = some (truncMod ts[i] d)) ∧
      ∀ v, v ∉ recips → alGet dict none v = none := by
  intro recips vals dict
  have hrn : recips.Nodup := recipients_nodup hs hlt hnd
  have hlen : recips.length = vals.length := by simp [recips, vals, hts]
  have hd : dict = recips.zip vals := dictOf_nil_nodup recips vals hlen hrn
  refine ⟨hrn, hd, ?_, ?_, ?_⟩
  · rw [hd, List.map_fst_zip]; omega
  · intro i h1 h2
    rw [hd, alGet_zip hrn vals hlen i h1 (by omega)]
    simp [vals]
  · intro v hv
    rw [hd]; exact alGet_zip_not_mem hv vals

/-- **every returned delay is strictly below the duration** (for non-negative draws and a positive duration): each
entry of the dict is `some x` with `0 ≤ x < d`, in particular `delay ≤ duration` — every sampled recipient is a kept
edge.  (No `Nodup` assumption: holds for the raw `dictOf`.) -/
theorem const_trans_delay_lt_duration (recips : List Node) (ts : List Rat) {d : Rat} (hd : 0 < d)
    (hts : ∀ t ∈ ts, 0 ≤ t) :
    ∀ p ∈ dictOf [] recips (ts.map fun t => some (truncMod t d)),
      p.1 ∈ recips ∧ (∃ x, p.2 = some x ∧ 0 ≤ x ∧ x < d) ∧ ERat.lt p.2 (some d) = true ∧
        ERat.le p.2 (some d) = true := by
  intro p hp
  rcases mem_dictOf recips _ [] p hp with hp | ⟨h1, h2⟩
  · cases hp
  · obtain ⟨t, ht, e⟩ := List.mem_map.1 h2
    obtain ⟨g1, g2⟩ := truncMod_range (hts t ht) hd
    refine ⟨h1, ⟨_, e.symm, g1, g2⟩, ?_, ?_⟩
    · rw [← e]; simpa [ERat.lt] using g2
    · rw [← e]; simpa [ERat.le] using g2.le

/-- `exp ≡ 1/2`, three susceptible neighbours `5, 6, 7`, two of them (`7` then `5`) receive a transmission, the draws
`1` and `4` are reduced modulo the duration `3/2` (both to `1`); the unrelated draw at the end is left -/
example : view (const_trans (fun _ => 1/2) 0 [5, 6, 7] 2 (fun _ => .ok 1)
      ⟨[Draw.expo (3/2), Draw.binom 2, Draw.sample [2, 0], Draw.expo 1, Draw.expo 4, Draw.unif 0], #[]⟩) =
    .ok (([(7, some 1), (5, some 1)], some (3/2)), [Draw.unif 0],
      [Call.expo 1, Call.binom 3 (1/2), Call.sample 3 2, Call.expo 2, Call.expo 2]) := by
  decide +kernel
/-- the same through `const_trans_spec` -/
example : const_trans (fun _ => 1/2) 0 [5, 6, 7] 2 (fun _ => .ok 1)
      ⟨Draw.expo (3/2) :: Draw.binom 2 :: Draw.sample [2, 0] :: ([1, 4].map Draw.expo ++ [Draw.unif 0]), #[]⟩ =
    .ok ((dictOf [] ([2, 0].map ([5, 6, 7].getD · 0)) ([1, 4].map fun t => some (truncMod t (3/2))), some (3/2)),
      ⟨[Draw.unif 0], #[] ++ ([Call.expo 1, Call.binom 3 (1 - (fun _ => (1/2 : Rat)) (-2 * (3/2))), Call.sample 3 2]
        ++ List.replicate 2 (Call.expo 2)).toArray⟩) :=
  const_trans_spec _ 0 [5, 6, 7] _ rfl (by decide) (by decide) (by decide +kernel) (by decide) [2, 0] rfl (by decide)
    (by decide) [1, 4] rfl _ _
example : view (const_trans (fun _ => 1/2) 0 [5, 6, 7] 2 (fun _ => .ok 1)
      ⟨[Draw.expo (3/2), Draw.binom 0, Draw.sample [], Draw.unif 0], #[]⟩) =
    .ok (([], some (3/2)), [Draw.unif 0], [Call.expo 1, Call.binom 3 (1/2), Call.sample 3 0]) := by
  decide +kernel
example : view (const_trans (fun _ => 1/2) 0 [5, 6, 7] 2 (fun _ => .ok 0) ⟨[Draw.expo 1], #[]⟩) =
    .error "ZeroDivisionError" := by decide +kernel
/-- a sample of the wrong size is refused by the tape -/
example : view (const_trans (fun _ => 1/2) 0 [5, 6, 7] 2 (fun _ => .ok 1)
      ⟨[Draw.expo (3/2), Draw.binom 2, Draw.sample [2], Draw.expo 1], #[]⟩) = .error "tape-bad-sample" := by
  decide +kernel

/-! ## 4. the dispatch and `_find_trans_and_rec_delays_SIR_` -/

/-- `fast_SIR` uses the constant-`tau` rule exactly when there is no transmission weight and `tau * gamma ≠ 0`,
otherwise `_find_trans_and_rec_delays_SIR_` with the two nested time functions -/
theorem fast_SIR_rule_dispatch (exp : Rat → Rat) (tau gamma : Rat) (tw : Option Rate2) (rw : Option Rate1) :
    fast_SIR_rule exp tau gamma tw rw =
      if tw = none ∧ tau * gamma ≠ 0 then
        fun node sus => const_trans exp node sus tau (get_rate_functions tau gamma tw rw).2
      else
        fun node sus => find_trans_and_rec_delays_SIR node sus
          (fun u v => timeOfRate ((get_rate_functions tau gamma tw rw).1 u v))
          (fun u => timeOfRate ((get_rate_functions tau gamma tw rw).2 u)) :=
  fast_SIR_rule_eq exp tau gamma tw rw

/-- the nested time functions: `∞` without a draw at a non-positive rate, one `expovariate(rate)` otherwise, the
rate function's `KeyError` propagates -/
theorem timeOfRate_spec :
    (∀ r, ¬ 0 < r → ∀ ts, timeOfRate (.ok r) ts = .ok (none, ts)) ∧
    (∀ r, 0 < r → ∀ d rest tr,
      timeOfRate (.ok r) ⟨Draw.expo d :: rest, tr⟩ = .ok (some d, ⟨rest, tr.push (.expo r)⟩)) ∧
    (∀ e ts, timeOfRate (.error e) ts = .error e) :=
  ⟨fun _ h ts => timeOfRate_nonpos h ts, fun _ h d rest tr => timeOfRate_pos h d rest tr, timeOfRate_error⟩

/-- for distinct susceptible neighbours the dict is `sus` zipped with the values -/
theorem find_trans_and_rec_delays_SIR_dict (sus : List Node) (xs : List ERat) (hl : sus.length = xs.length)
    (hs : sus.Nodup) : dictOf [] sus xs = sus.zip xs ∧ (dictOf [] sus xs).map (·.1) = sus := by
  rw [dictOf_nil_nodup sus xs hl hs, List.map_fst_zip (by omega)]
  exact ⟨rfl, rfl⟩

/-- no weights, `tau * gamma ≠ 0`: the constant-`tau` rule (the first call is `expovariate(gamma)`, then `binomial`) -/
example : fast_SIR_rule (fun _ => 1/2) 2 1 none none =
    fun node sus => const_trans (fun _ => 1/2) node sus 2 (get_rate_functions 2 1 none none).2 := by
  rw [fast_SIR_rule_dispatch, if_pos (by decide +kernel)]
example : view (fast_SIR_rule (fun _ => 1/2) 2 1 none none 0 [5, 6, 7]
      ⟨[Draw.expo (3/2), Draw.binom 2, Draw.sample [2, 0], Draw.expo 1, Draw.expo 4, Draw.unif 0], #[]⟩) =
    .ok (([(7, some 1), (5, some 1)], some (3/2)), [Draw.unif 0],
      [Call.expo 1, Call.binom 3 (1/2), Call.sample 3 2, Call.expo 2, Call.expo 2]) := by
  decide +kernel
/-- a transmission weight (here `0` on the edge to `6`): per-edge rule; the zero-rate edge gets `∞` without a draw -/
example : view (fast_SIR_rule (fun _ => 1/2) 2 1 (some fun _ y => .ok (if y = 6 then 0 else 1)) none 0 [5, 6, 7]
      ⟨[Draw.expo 3, Draw.expo 1, Draw.expo 2, Draw.unif 0], #[]⟩) =
    .ok (([(5, some 1), (6, none), (7, some 2)], some 3), [Draw.unif 0], [Call.expo 1, Call.expo 2, Call.expo 2]) := by
  decide +kernel
/-- `tau * gamma = 0` (here `gamma = 0`): per-edge rule, infinite duration, nothing drawn for it -/
example : view (fast_SIR_rule (fun _ => 1/2) 2 0 none none 0 [5, 6]
      ⟨[Draw.expo 1, Draw.expo 2, Draw.unif 0], #[]⟩) =
    .ok (([(5, some 1), (6, some 2)], none), [Draw.unif 0], [Call.expo 2, Call.expo 2]) := by
  decide +kernel
example : fast_SIR_rule (fun _ => 1/2) 2 0 none none = perEdgeRule 2 0 none none := by
  rw [fast_SIR_rule_eq, if_neg (by decide +kernel)]
/-- a missing edge weight raises `KeyError` after the duration has been drawn -/
example : view (fast_SIR_rule (fun _ => 1/2) 2 1 (some fun _ _ => .error "KeyError") none 0 [5]
      ⟨[Draw.expo 3, Draw.expo 1], #[]⟩) = .error "KeyError" := by
  decide +kernel
/-- the shape theorem instantiated on the weighted example -/
example : find_trans_and_rec_delays_SIR 0 [5, 6, 7]
      (fun a b => timeOfRate ((fun _ y => .ok (if y = 6 then 0 else 2) : Rate2) a b))
      (fun a => timeOfRate ((fun _ => .ok 1 : Rate1) a))
      ⟨drawsOf (some 3 :: [some 1, none, some 2]) ++ [Draw.unif 0], #[]⟩ =
    .ok ((dictOf [] [5, 6, 7] [some 1, none, some 2], some 3),
      ⟨[Draw.unif 0], #[] ++ (callsOf (1 :: [2, 0, 2])).toArray⟩) :=
  find_trans_and_rec_delays_SIR_spec _ _ 0 [5, 6, 7] rfl [2, 0, 2]
    (.cons rfl (.cons rfl (.cons rfl .nil))) (by unfold Fits; decide +kernel) [some 1, none, some 2]
    (.cons (by unfold Fits; decide +kernel) (.cons (by unfold Fits; decide +kernel)
      (.cons (by unfold Fits; decide +kernel) .nil))) _ _

/-! ## 5. tape determinisation -/

/-- **one event**: a successful call of `_process_trans_SIR_` with an effectful rule called the rule at most once (for
`target`, which was susceptible and no longer is; `Chain` threads the tape through that call and says nothing else
touched it) and equals, on any tape, the call with any pure rule returning the drawn value at that argument -/
theorem process_trans_determinise (A : EArgs) (time : ERat) (source : Option Node) (target : Node) (σ : Loc)
    (ts : TapeSt) (σ' : Loc) (ts' : TapeSt) (h : process_trans A time source target σ ts = .ok (σ', ts')) :
    ∃ calls : List RuleCall, Chain A.transRec ts calls ts' ∧ calls.length ≤ 1 ∧
      (∀ c ∈ calls, c.1 = target ∧ σ.status c.1 = St.S ∧ σ'.status c.1 ≠ St.S ∧
        ∃ p, c.2.1 = (A.nbrs c.1).filter p) ∧
      ∀ J, (∀ c ∈ calls, J c.1 c.2.1 = c.2.2) → ∀ ts0,
        process_trans (withRule A (pureRule J)) time source target σ ts0 = .ok (σ', ts0) := by
  obtain ⟨calls, hS, hJ⟩ := process_trans_det A time source target σ ts σ' ts' h
  exact ⟨calls, hS.1.chain, hS.1.len, fun c hc => ⟨hS.2 c hc, hS.1.called c hc⟩, hJ⟩

/-- **the whole of `fast_nonMarkov_SIR`, any effectful rule**: a successful run asked the rule at most once per node,
always with a sublist of the node's neighbours; the calls consumed the tape one after the other and nothing else
touched it; with any PURE rule returning the drawn values at these arguments the run returns the same objects, on
any tape -/
theorem run_determinise (A : EArgs) (infs recs : List Node) (fuel : Nat) (ts : TapeSt) (σ : Loc) (ts' : TapeSt)
    (h : run A infs recs fuel ts = .ok (σ, ts')) :
    ∃ calls : List RuleCall, Chain A.transRec ts calls ts' ∧ (calls.map (·.1)).Nodup ∧
      (∀ c ∈ calls, ∃ p, c.2.1 = (A.nbrs c.1).filter p) ∧
      (∀ J, (∀ c ∈ calls, J c.1 c.2.1 = c.2.2) → ∀ ts0,
        run (withRule A (pureRule J)) infs recs fuel ts0 = .ok (σ, ts0)) ∧
      ∀ ts0, run (withRule A (pureRule fun u _ => tableOf calls u)) infs recs fuel ts0 = .ok (σ, ts0) := by
  obtain ⟨calls, hC, hN, hP, hJ⟩ := run_det A infs recs fuel ts σ ts' h
  exact ⟨calls, hC, hN, hP, hJ, hJ _ (tableOf_agrees calls hN)⟩

/-- `run_det` at the arguments `fast_SIR` hands over (`fsirArgs`, `fast_SIR_eq`): the rule is `fast_SIR_rule …`, whichever
branch the dispatch takes -/
theorem fast_SIR_determinise (exp : Rat → Rat) (nbrs : Node → List Node) (n : Nat) (tmin : Rat) (tmax : ERat)
    (tau gamma : Rat) (tw : Option Rate2) (rw : Option Rate1) (infs recs : List Node) (fuel : Nat) (ts : TapeSt)
    (σ : Loc) (ts' : TapeSt) (h : fast_SIR exp nbrs n tmin tmax tau gamma tw rw infs recs fuel ts = .ok (σ, ts')) :
    ∃ calls : List RuleCall, Chain (fast_SIR_rule exp tau gamma tw rw) ts calls ts' ∧ (calls.map (·.1)).Nodup ∧
      (∀ c ∈ calls, ∃ p, c.2.1 = (nbrs c.1).filter p) ∧
      ∀ J, (∀ c ∈ calls, J c.1 c.2.1 = c.2.2) → ∀ ts0,
        run { nbrs := nbrs, order := n, tmin := tmin, tmax := tmax, transRec := pureRule J } infs recs fuel ts0 =
          .ok (σ, ts0) :=
  run_det (fsirArgs exp nbrs n tmin tmax tau gamma tw rw) infs recs fuel ts σ ts' h

/-- **`fast_SIR` refines the event-queue model** (both branches): whenever it returns, its objects are those of the
hand-written model `EventSIR` (with `heapq`'s tie-breaking) whose rule is the table of the values drawn from the tape
(`drawnParams … calls`: node `u ↦` what the rule returned for `u`), and the model's queue is empty -/
theorem fast_SIR_refines_model (exp : Rat → Rat) (nodes : List Node) (nbrs : Node → List Node) (tmin : Rat)
    (tmax : ERat) (tau gamma : Rat) (tw : Option Rate2) (rw : Option Rate1) (infs recs : List Node) (fuel : Nat)
    (ts : TapeSt) (σ : Loc) (ts' : TapeSt)
    (h : fast_SIR exp nbrs nodes.length tmin tmax tau gamma tw rw infs recs fuel ts = .ok (σ, ts')) :
    ∃ calls : List RuleCall, Chain (fast_SIR_rule exp tau gamma tw rw) ts calls ts' ∧ (calls.map (·.1)).Nodup ∧
      (EventSIR.run (drawnParams nodes nbrs tmin tmax calls) (fun _ => 0) infs recs fuel).queue = [] ∧
      OutRel infs.length σ (EventSIR.run (drawnParams nodes nbrs tmin tmax calls) (fun _ => 0) infs recs fuel) := by
  obtain ⟨calls, hC, hN, hk, _, _, hJ⟩ := run_rows (fsirArgs exp nbrs nodes.length tmin tmax tau gamma tw rw)
    (I := fun _ => True) (Q := fun c => (c.2.2.1.map (·.1)).Nodup)
    (fun u sus t r t' _ e => ⟨trivial, fast_SIR_rule_keys exp tau gamma tw rw u sus t r t' e⟩) infs recs fuel ts trivial σ ts' h
  exact ⟨calls, hC, hN, drawn_refines hN hk hJ⟩

/-- **`fast_SIR` on the constant-`tau` branch**: on a tape of non-negative `expovariate` values, whenever `fast_SIR`
returns, every value the rule returned (`ConstRowOK`) has a finite duration `≥ 0`, distinct keys among the susceptible
neighbours it was called with, and finite delays `0 ≤ x < duration`; in the tables read off the calls every edge with
a finite delay is therefore a kept edge (`delay < duration`) — the percolation picture of the constant-`tau` sampler —
and the returned objects are those of the event-queue model run on these drawn values.
(First-passage percolation for this branch: `fast_SIR_const_fpp` below.) -/
theorem fast_SIR_const_kept (exp : Rat → Rat) (nodes : List Node) (nbrs : Node → List Node) (tmin : Rat) (tmax : ERat)
    (tau gamma : Rat) (tw : Option Rate2) (rw : Option Rate1) (hbranch : tw = none ∧ tau * gamma ≠ 0)
    (infs recs : List Node) (fuel : Nat) (ts : TapeSt) (hts : TapeNonneg ts) (σ : Loc) (ts' : TapeSt)
    (h : fast_SIR exp nbrs nodes.length tmin tmax tau gamma tw rw infs recs fuel ts = .ok (σ, ts')) :
    ∃ calls : List RuleCall,
      Chain (fun node sus => const_trans exp node sus tau (get_rate_functions tau gamma tw rw).2) ts calls ts' ∧
      (calls.map (·.1)).Nodup ∧ (∀ c ∈ calls, ConstRowOK c) ∧
      (∀ u v, delayOf calls u v ≠ none →
        (∃ x, delayOf calls u v = some x ∧ 0 ≤ x) ∧ (∃ d, durOf calls u = some d ∧ 0 ≤ d) ∧
          ERat.lt (delayOf calls u v) (durOf calls u) = true) ∧
      (EventSIR.run (drawnParams nodes nbrs tmin tmax calls) (fun _ => 0) infs recs fuel).queue = [] ∧
      OutRel infs.length σ (EventSIR.run (drawnParams nodes nbrs tmin tmax calls) (fun _ => 0) infs recs fuel) := by
  obtain ⟨calls, hC, hN, hrow, _, _, hJ⟩ :=
    fast_SIR_const_rows exp nbrs nodes.length tmin tmax tau gamma tw rw hbranch infs recs fuel ts hts σ ts' h
  exact ⟨calls, hC, hN, hrow, const_tables_kept hrow, drawn_refines hN (fun c hc => (hrow c hc).2.1) hJ⟩

/-- **`fast_SIR` is first-passage percolation of the values it drew — both branches, one statement.**  On a
well-formed graph (`WF` with trivial tables = its graph part) and a tape of non-negative `expovariate` values, whenever
`fast_SIR` returns: the rule was asked at most once per node, the calls consumed the tape one after the other and
nothing else touched it (`Chain`), every returned row has distinct keys among the susceptible neighbours it was asked
about and non-negative values (`DrawnRowOK`), the returned objects are those of the event-queue model run on the drawn
rows, and the reported transmissions and recoveries satisfy C11's `isFPP` for the delay / duration tables read off the
calls (`delayOf`, `durOf`: `∞` where nothing was drawn) -/
theorem fast_SIR_fpp (exp : Rat → Rat) (nodes : List Node) (nbrs : Node → List Node) (tmin : Rat) (tmax : ERat)
    (tau gamma : Rat) (tw : Option Rate2) (rw : Option Rate1)
    (infs recs : List Node) (hG : WF nodes nbrs (fun _ _ => none) (fun _ => none) infs recs)
    (fuel : Nat) (ts : TapeSt) (hts : TapeNonneg ts) (σ : Loc) (ts' : TapeSt)
    (h : fast_SIR exp nbrs nodes.length tmin tmax tau gamma tw rw infs recs fuel ts = .ok (σ, ts')) :
    ∃ calls : List RuleCall, Chain (fast_SIR_rule exp tau gamma tw rw) ts calls ts' ∧ (calls.map (·.1)).Nodup ∧
      (∀ c ∈ calls, DrawnRowOK c) ∧ TapeNonneg ts' ∧
      WF nodes nbrs (delayOf calls) (durOf calls) infs recs ∧
      OutRel infs.length σ (EventSIR.run (drawnParams nodes nbrs tmin tmax calls) (fun _ => 0) infs recs fuel) ∧
      isFPP nodes nbrs (delayOf calls) (durOf calls) tmin tmax infs recs (genTrans σ) (genRecov nodes recs σ) = true := by
  obtain ⟨calls, hC, hN, hrow, hn', hP, hJ⟩ := run_rows (fsirArgs exp nbrs nodes.length tmin tmax tau gamma tw rw)
    (fun u sus t r t' hI e => fast_SIR_rule_drawnRowOK exp tau gamma tw rw u sus t r t' e hI) infs recs fuel ts hts σ ts' h
  obtain ⟨hq, hO⟩ := drawn_refines (nodes := nodes) hN (fun c hc => (hrow c hc).1) hJ
  exact ⟨calls, hC, hN, hrow, hn', drawn_WF hG hrow, hO, drawn_fpp hG hrow hP hq hO⟩

/-- **`fast_SIR` on the constant-`tau` branch is first-passage percolation of the values it drew.**  The rule returns
the recipients in *sample* order (and only them), whereas C11's `fpp` is stated for rules listing the susceptible
neighbours in `G.neighbors` order; the invariant step (`InvC.infect`) does not depend on the order of the row, so: on
a well-formed graph and a tape of non-negative `expovariate` values, whenever `fast_SIR` returns, the
reported transmissions and recoveries satisfy the C11 predicate `isFPP` for the delay / duration tables read off the
successive calls of the rule (non-recipients have delay `∞`; every finite delay is `< duration`,
`fast_SIR_const_kept`). -/
theorem fast_SIR_const_fpp (exp : Rat → Rat) (nodes : List Node) (nbrs : Node → List Node) (tmin : Rat) (tmax : ERat)
    (tau gamma : Rat) (tw : Option Rate2) (rw : Option Rate1) (hbranch : tw = none ∧ tau * gamma ≠ 0)
    (infs recs : List Node) (hG : WF nodes nbrs (fun _ _ => none) (fun _ => none) infs recs)
    (fuel : Nat) (ts : TapeSt) (hts : TapeNonneg ts) (σ : Loc) (ts' : TapeSt)
    (h : fast_SIR exp nbrs nodes.length tmin tmax tau gamma tw rw infs recs fuel ts = .ok (σ, ts')) :
    ∃ calls : List RuleCall,
      Chain (fun node sus => const_trans exp node sus tau (get_rate_functions tau gamma tw rw).2) ts calls ts' ∧
      (calls.map (·.1)).Nodup ∧ (∀ c ∈ calls, ConstRowOK c) ∧
      WF nodes nbrs (delayOf calls) (durOf calls) infs recs ∧
      isFPP nodes nbrs (delayOf calls) (durOf calls) tmin tmax infs recs (genTrans σ) (genRecov nodes recs σ) = true := by
  obtain ⟨calls, hC, hN, hrow, _, hP, hJ⟩ :=
    fast_SIR_const_rows exp nbrs nodes.length tmin tmax tau gamma tw rw hbranch infs recs fuel ts hts σ ts' h
  have hrow' : ∀ c ∈ calls, DrawnRowOK c := fun c hc => (hrow c hc).toDrawn
  obtain ⟨hq, hO⟩ := drawn_refines (nodes := nodes) hN (fun c hc => (hrow c hc).2.1) hJ
  exact ⟨calls, hC, hN, hrow, drawn_WF hG hrow', drawn_fpp hG hrow' hP hq hO⟩

/-- **`fast_SIR` on the per-edge branch is first-passage percolation of the values it drew**: on a well-formed graph
(`WF` with trivial tables = its graph part) with duplicate-free neighbour lists and a tape of non-negative
`expovariate` values, whenever `fast_SIR` returns there are delay and duration tables — read off the successive calls
of the rule (`Chain`), each call having returned exactly the table row `jointOfTables … u sus` — such that the
generated `fast_nonMarkov_SIR` with the pure table rule returns the same objects on any tape, and the reported
transmissions and recoveries satisfy the C11 predicate `isFPP` for these tables -/
theorem fast_SIR_perEdge_fpp (exp : Rat → Rat) (nodes : List Node) (nbrs : Node → List Node) (tmin : Rat) (tmax : ERat)
    (tau gamma : Rat) (tw : Option Rate2) (rw : Option Rate1) (hbranch : ¬ (tw = none ∧ tau * gamma ≠ 0))
    (infs recs : List Node) (hG : WF nodes nbrs (fun _ _ => none) (fun _ => none) infs recs)
    (hN : ∀ u, (nbrs u).Nodup) (fuel : Nat) (ts : TapeSt) (hts : TapeNonneg ts) (σ : Loc) (ts' : TapeSt)
    (h : fast_SIR exp nbrs nodes.length tmin tmax tau gamma tw rw infs recs fuel ts = .ok (σ, ts')) :
    ∃ calls : List RuleCall, Chain (perEdgeRule tau gamma tw rw) ts calls ts' ∧ (calls.map (·.1)).Nodup ∧
      (∀ c ∈ calls, c.2.2 = jointOfTables (delayOf calls) (durOf calls) c.1 c.2.1) ∧
      WF nodes nbrs (delayOf calls) (durOf calls) infs recs ∧
      (∀ ts0, run (tableArgs nodes nbrs (delayOf calls) (durOf calls) tmin tmax) infs recs fuel ts0 = .ok (σ, ts0)) ∧
      isFPP nodes nbrs (delayOf calls) (durOf calls) tmin tmax infs recs (genTrans σ) (genRecov nodes recs σ) = true := by
  obtain ⟨calls, hC, hNd, hrow, _, hP, hJ⟩ := run_rows (fsirArgs exp nbrs nodes.length tmin tmax tau gamma tw rw)
    (fun u sus t r t' hI e => fast_SIR_rule_drawnRowOK exp tau gamma tw rw u sus t r t' e hI) infs recs fuel ts hts σ ts' h
  have hC : Chain (fast_SIR_rule exp tau gamma tw rw) ts calls ts' := hC
  rw [fast_SIR_rule_eq, if_neg hbranch] at hC
  -- every call was made with distinct neighbours, so it returned the table row in `G.neighbors` order
  have hsus : ∀ c ∈ calls, c.2.1.Nodup := by
    intro c hc
    obtain ⟨p, hp⟩ := hP c hc
    rw [hp]; exact (hN c.1).filter _
  obtain ⟨_, hshape⟩ := Chain.forall (I := fun _ => True) (Pre := fun c => c.2.1.Nodup)
    (Q := fun c => c.2.2.1 = c.2.1.map (fun v => (v, alGet c.2.2.1 none v)))
    (fun u sus t r t' _ hpre e => ⟨trivial, perEdge_row e hpre⟩) hC trivial hsus
  have hag := jointOfTables_agrees hNd hshape
  have hrun := hJ _ hag
  refine ⟨calls, hC, hNd, fun c hc => (hag c hc).symm, drawn_WF hG hrow, hrun, ?_⟩
  exact gen_fpp nodes nbrs (delayOf calls) (durOf calls) tmin tmax infs recs (drawn_WF hG hrow)
    (agree_tableArgs nodes nbrs (delayOf calls) (durOf calls) tmin tmax) fuel ts σ ts (hrun ts)

end GenFSIR

/-! ### a whole run: the path 0 – 1 – 2 with unit edge weights (per-edge branch), node 0 infected at time 0 -/
open GenFSIR

theorem returns_of_trans {r : Except String (Loc × TapeSt)} (h : c11bTrans r ≠ none) : ∃ σ ts', r = .ok (σ, ts') := by
  cases r with
  | error e => exact absurd rfl h
  | ok p => exact ⟨p.1, p.2, rfl⟩

/-- `fast_SIR` on the tape … -/
example : c11bRows (fast_SIR (fun _ => 0) c01fNb 3 0 none 1 1 (some fun _ _ => .ok 1) none [0] [] 40 c01fTape) =
      some ([some 0, some 1, some (3/2), some 2, some (5/2), some 4], [2, 1, 0, 0, 0, 0], [1, 2, 3, 2, 1, 0],
        [0, 0, 0, 1, 2, 3]) ∧
    c11bTrans (fast_SIR (fun _ => 0) c01fNb 3 0 none 1 1 (some fun _ _ => .ok 1) none [0] [] 40 c01fTape) =
      some [(some 0, none, 0), (some 1, some 0, 1), (some (3/2), some 1, 2)] ∧
    (view (fast_SIR (fun _ => 0) c01fNb 3 0 none 1 1 (some fun _ _ => .ok 1) none [0] [] 40 c01fTape)).map (·.2) =
      .ok ([], [Call.expo 1, Call.expo 1, Call.expo 1, Call.expo 1, Call.expo 1]) := by
  decide +kernel
/-- … equals `fast_nonMarkov_SIR` with the pure table rule on an empty tape -/
example : c11bRows (run (tableArgs [0, 1, 2] c01fNb c01fDelay c01fDur 0 none) [0] [] 40 { tape := [] }) =
      some ([some 0, some 1, some (3/2), some 2, some (5/2), some 4], [2, 1, 0, 0, 0, 0], [1, 2, 3, 2, 1, 0],
        [0, 0, 0, 1, 2, 3]) ∧
    c11bTrans (run (tableArgs [0, 1, 2] c01fNb c01fDelay c01fDur 0 none) [0] [] 40 { tape := [] }) =
      some [(some 0, none, 0), (some 1, some 0, 1), (some (3/2), some 1, 2)] := by
  decide +kernel
/-- the constant-`tau` branch on the same graph (`exp ≡ 1/2`): node 0 lasts 2 and infects its one neighbour (delay
`3 mod 2 = 1`), node 1 lasts 1 and infects nobody -/
example : c11bTrans (fast_SIR (fun _ => 1/2) c01fNb 3 0 none 1 1 none none [0] [] 40
      ⟨[Draw.expo 2, Draw.binom 1, Draw.sample [0], Draw.expo 3, Draw.expo 1, Draw.binom 0, Draw.sample []], #[]⟩) =
    some [(some 0, none, 0), (some 1, some 0, 1)] := by
  decide +kernel

/-- the hypotheses of `fast_SIR_perEdge_fpp` are satisfiable: the run above is first-passage percolation of the
values it drew -/
example : ∃ σ ts', fast_SIR (fun _ => 0) c01fNb 3 0 none 1 1 (some fun _ _ => .ok 1) none [0] [] 40 c01fTape =
      .ok (σ, ts') ∧
    ∃ calls : List RuleCall, (calls.map (·.1)).Nodup ∧
      isFPP [0, 1, 2] c01fNb (delayOf calls) (durOf calls) 0 none [0] [] (genTrans σ) (genRecov [0, 1, 2] [] σ) = true := by
  obtain ⟨σ, ts', hr⟩ := returns_of_trans
    (r := fast_SIR (fun _ => 0) c01fNb 3 0 none 1 1 (some fun _ _ => .ok 1) none [0] [] 40 c01fTape) (by decide +kernel)
  obtain ⟨calls, _, hN, _, _, _, hF⟩ := fast_SIR_perEdge_fpp (fun _ => 0) [0, 1, 2] c01fNb 0 none 1 1
    (some fun _ _ => .ok 1) none (by simp) [0] [] c01fWF c01fNb_nodup 40 c01fTape (.of_all (by decide +kernel)) σ ts' hr
  exact ⟨σ, ts', hr, calls, hN, hF⟩

/-! ### the constant-`tau` branch: the star 0 – {1, 2}; both leaves receive the transmission at time 1, the sample
lists leaf 2 first -/
/-- `fast_SIR` reports leaf 2 before leaf 1 (sample order) … -/
example : c11bTrans (fast_SIR (fun _ => 1/2) c01fStar 3 0 none 1 1 none none [0] [] 40 c01fStarTape) =
    some [(some 0, none, 0), (some 1, some 0, 2), (some 1, some 0, 1)] := by
  decide +kernel
/-- … whereas `fast_nonMarkov_SIR` with the pure table rule of the same delays and durations reports leaf 1 first
(`G.neighbors` order): on this branch the determinised run is NOT the `jointOfTables` run, only `isFPP`-equivalent -/
example : c11bTrans (run (tableArgs [0, 1, 2] c01fStar (fun u _ => if u = 0 then some 1 else none) (fun _ => some 2)
      0 none) [0] [] 40 { tape := [] }) =
    some [(some 0, none, 0), (some 1, some 0, 1), (some 1, some 0, 2)] := by
  decide +kernel

/-- the hypotheses of `fast_SIR_fpp` are satisfiable on the constant-`tau` branch -/
example : ∃ σ ts', fast_SIR (fun _ => 1/2) c01fStar 3 0 none 1 1 none none [0] [] 40 c01fStarTape = .ok (σ, ts') ∧
    ∃ calls : List RuleCall, (calls.map (·.1)).Nodup ∧
      isFPP [0, 1, 2] c01fStar (delayOf calls) (durOf calls) 0 none [0] [] (genTrans σ) (genRecov [0, 1, 2] [] σ) = true := by
  obtain ⟨σ, ts', hr⟩ := returns_of_trans
    (r := fast_SIR (fun _ => 1/2) c01fStar 3 0 none 1 1 none none [0] [] 40 c01fStarTape) (by decide +kernel)
  obtain ⟨calls, _, hN, _, _, _, _, hF⟩ := fast_SIR_fpp (fun _ => 1/2) [0, 1, 2] c01fStar 0 none 1 1 none none
    [0] [] c01fStarWF 40 c01fStarTape (.of_all (by decide +kernel)) σ ts' hr
  exact ⟨σ, ts', hr, calls, hN, hF⟩

#print axioms GenFSIR.truncated_exponential_spec
#print axioms GenFSIR.truncMod_def
#print axioms GenFSIR.truncated_exponential_mod
#print axioms GenFSIR.truncated_exponential_errors
#print axioms GenFSIR.truncated_exponential_real
#print axioms GenFSIR.truncated_exponential_truncExp
#print axioms GenFSIR.get_rate_functions_spec
#print axioms GenFSIR.const_trans_spec
#print axioms GenFSIR.const_trans_dict
#print axioms GenFSIR.const_trans_delay_lt_duration
#print axioms GenFSIR.const_trans_none_infected
#print axioms GenFSIR.const_trans_errors
#print axioms GenFSIR.fast_SIR_rule_dispatch
#print axioms GenFSIR.timeOfRate_spec
#print axioms GenFSIR.find_trans_and_rec_delays_SIR_spec
#print axioms GenFSIR.find_trans_and_rec_delays_SIR_dict
#print axioms GenFSIR.find_trans_and_rec_delays_SIR_inv
#print axioms GenFSIR.find_trans_and_rec_delays_SIR_error
#print axioms GenFSIR.process_trans_determinise
#print axioms GenFSIR.run_determinise
#print axioms GenFSIR.fast_SIR_determinise
#print axioms GenFSIR.fast_SIR_refines_model
#print axioms GenFSIR.fast_SIR_const_kept
#print axioms GenFSIR.fast_SIR_fpp
#print axioms GenFSIR.fast_SIR_const_fpp
#print axioms GenFSIR.fast_SIR_perEdge_fpp
