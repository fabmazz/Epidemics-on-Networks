import EoNVerif.Proofs.EffDegAgg
/-!
C07 (the ODE models return the same S, I, R curves) — two further reductions:

* the SIR effective-degree model (`_dSIR_effective_degree_`) aggregates onto the compact
  effective-degree model (`_dSIR_compact_effective_degree_`);
* the loop of `EBCM_pref_mix_discrete` with uncorrelated mixing reduces to the loop of `EBCM_discrete`.

Aggregation map (`Model/EffDegAgg.lean`): `aggSk S κ = Σ_{s+i=κ} S[s,i]`, `aggSI A S = Σ_{s,i} i·S[s,i]`, `R ↦ R`;
`aggEff A S = aggSI A S / Σ_κ κ·aggSk S κ` is `effectiveI` of the compact model at the aggregated state.
-/
namespace ODE

/-! ## effective degree → compact effective degree -/

/-- **Semiconjugacy.**  Let `S[s,i]` (square `A × A` array as the wrappers build it, `S[s,i] = 0` for `s+i ≥ A`)
be a state of `_dSIR_effective_degree_` that satisfies the closure assumption under which the compact model is
derived: every one of the `κ = s+i` live stubs of a susceptible node is infected independently with probability
`effectiveI = [SI]/Σ κ S_κ`, i.e. `S[s,i] = S_{s+i}·C(s+i,i)·eff^i·(1-eff)^s`; and let the only denominator of
`_dSIR_compact_effective_degree_`, `SX = Σ κ S_κ`, be non-zero.  Then the derivative returned by
`_dSIR_effective_degree_`, pushed through the aggregation map, is exactly the derivative returned
by `_dSIR_compact_effective_degree_` at the aggregated state: component by component for
`dSkappa`, for `dR`, and for `dSI`.  (The `ISS_over_SS` quotient, including its `SS == 0` branch, needs no
extra hypothesis.)  The initial arrays built by `SIR_effective_degree_from_graph` are of this closed
form: see `effDeg_to_compactED_binomState`. -/
theorem effDeg_to_compactED (A : Nat) (tau gamma N R : Rat) (Ssi : Nat → Nat → Rat)
    (hS : ∀ s i, A ≤ s + i → Ssi s i = 0)
    (hX : sumTo A (fun k => aggSk Ssi k * kf k) ≠ 0)
    (hcl : ∀ s i, s + i < A →
      Ssi s i = aggSk Ssi (s + i) * (Nat.choose (s + i) i : Rat) * aggEff A Ssi ^ i * (1 - aggEff A Ssi) ^ s) :
    let d := sirEffDeg A A tau gamma N Ssi R
    let c := sirCompactED A tau gamma N (aggSk Ssi) R (aggSI A Ssi)
    (∀ κ, κ < A → aggSk d.1 κ = c.1 κ) ∧ d.2 = c.2.1 ∧ aggSI A d.1 = c.2.2 := by
  have h := effDeg_to_compactED_core A Ssi (aggSk Ssi) (aggEff A Ssi) hS hcl tau gamma N R hX
  have e : aggEff A Ssi * sumTo A (fun k => aggSk Ssi k * kf k) = aggSI A Ssi := by
    unfold aggEff; exact div_mul_cancel₀ _ hX
  rw [e] at h
  exact h

/-- The hypotheses of `effDeg_to_compactED` hold for every binomial state `binomState A Sk e`
(`S[s,i] = Sk(s+i)·C(s+i,i)·e^i·(1-e)^s`, the shape of the initial condition of
`SIR_effective_degree_from_graph`, with `e = rho`, `Sk κ = (1-rho)·N_κ`) as soon as `Σ κ·Sk κ ≠ 0`; its
aggregate is `(Sk, R, e·Σ κ Sk κ)`, so the semiconjugacy holds there. -/
theorem effDeg_to_compactED_binomState (A : Nat) (tau gamma N R : Rat) (Sk : Nat → Rat) (e : Rat)
    (hX : sumTo A (fun k => Sk k * kf k) ≠ 0) :
    let S := binomState A Sk e
    let d := sirEffDeg A A tau gamma N S R
    let c := sirCompactED A tau gamma N (aggSk S) R (aggSI A S)
    ((∀ κ, κ < A → aggSk S κ = Sk κ) ∧ aggSI A S = e * sumTo A (fun k => Sk k * kf k) ∧ aggEff A S = e) ∧
    (∀ κ, κ < A → aggSk d.1 κ = c.1 κ) ∧ d.2 = c.2.1 ∧ aggSI A d.1 = c.2.2 :=
  ⟨⟨binomState_aggSk A Sk e, binomState_aggSI A Sk e, binomState_aggEff A Sk e hX⟩,
   effDeg_to_compactED A tau gamma N R (binomState A Sk e) (binomState_support A Sk e)
     (by rw [binomState_Xs]; exact hX) (binomState_hcl A Sk e hX)⟩

/-- **Invariance of the closed states (tangency).**  `h ↦ binomStatePoly A Sk dSk e de s i` is the polynomial
`h ↦ binomState A (Sk + h·dSk) (e + h·de) s i` (`binomStatePoly_eval`).  Take for `dSk` the `dSkappa` returned by
`_dSIR_compact_effective_degree_` at the aggregate `(Sk, R, [SI] = e·Σ κ Sk κ)` of the closed state, and for
`de` the quotient-rule derivative of `effectiveI = [SI]/Σ κ S_κ` computed from the returned `dSI` and
`dSkappa`.  Then the derivative returned by `_dSIR_effective_degree_` at the closed state is, entry by
entry, the `h`-derivative at 0 of that curve of closed states: the effective-degree vector field is tangent to the
family of closed states and moves their parameters exactly as the compact model says.  Together with
`effDeg_to_compactED` (and uniqueness of ODE solutions, not formalised) this is why the two solvers return the same
S, I, R curves from the initial conditions of the `*_from_graph` wrappers. -/
theorem effDeg_closed_invariant (A : Nat) (tau gamma N R : Rat) (Sk : Nat → Rat) (e : Rat)
    (hX : sumTo A (fun k => Sk k * kf k) ≠ 0) :
    let c := sirCompactED A tau gamma N Sk R (e * sumTo A (fun k => Sk k * kf k))
    let de := (c.2.2 - e * sumTo A (fun k => kf k * c.1 k)) / sumTo A (fun k => Sk k * kf k)
    ∀ s i, (sirEffDeg A A tau gamma N (binomState A Sk e) R).1 s i
      = (Polynomial.derivative (binomStatePoly A Sk c.1 e de s i)).eval 0 := by
  intro c de s i
  rw [binomStatePoly_derivative]
  have hS := binomState_support A Sk e
  by_cases h : s + i < A
  swap
  · rw [sirEffDeg_support A tau gamma N _ R hS s i (by omega)]
    unfold binomStateVel; rw [if_neg h]
  have hr := closed_r1 A (binomState A Sk e) Sk e hS (binomState_closed A Sk e) hX
  have heff : e * sumTo A (fun k => Sk k * kf k) / sumTo A (fun k => Sk k * kf k) = e := mul_div_cancel_right₀ e hX
  -- the quotient rule for `e = [SI] / Σ κ S_κ`, in the variables of the effective-degree code
  have hde : de = tau * (effR1 A (binomState A Sk e) * (1 - e)) - (tau + gamma) * e * (1 - e) := by
    dsimp only [de, c, sirCompactED]
    rw [heff, kdS_sum, div_eq_iff hX]
    linear_combination (-tau) * hr
  rw [hde, sirEffDeg_fst A tau gamma N _ R hS, binomState_ip1, binomState_dn A Sk e s i h, binomState_closed A Sk e s i h]
  unfold binomStateVel
  rw [if_pos h]
  dsimp only [c, sirCompactED]
  rw [heff]
  have hk : kf (s + i) = kf s + kf i := by simp [kf]
  rw [hk]
  have P1 := kf_pow_pred i e
  have P2 := kf_pow_pred s (1 - e)
  generalize (if s + i + 1 < A then kf (s + i + 1) * Sk (s + i + 1) else 0) = w
  generalize effR1 A (binomState A Sk e) = r1
  linear_combination ((tau + gamma) * Sk (s + i) * (Nat.choose (s + i) i : Rat) * (1 - e) ^ s * (1 - e)) * P1
    + (-(tau + gamma) * Sk (s + i) * (Nat.choose (s + i) i : Rat) * e ^ i * e
        + tau * r1 * Sk (s + i) * (Nat.choose (s + i) i : Rat) * e ^ i) * P2

/-- Without any closure assumption (only the support condition): `dR` agrees exactly, because
`Ssi.sum()` is `Skappa.sum()` of the aggregated state. -/
theorem effDeg_to_compactED_dR (A : Nat) (tau gamma N R SI : Rat) (Ssi : Nat → Nat → Rat)
    (hS : ∀ s i, A ≤ s + i → Ssi s i = 0) :
    (sirEffDeg A A tau gamma N Ssi R).2 = (sirCompactED A tau gamma N (aggSk Ssi) R SI).2.1 := by
  dsimp only [sirEffDeg, sirCompactED]
  rw [sum2_eq_sumTo_aggSk A Ssi hS]; ring

/-- Without any closure assumption: the total susceptible count moves identically in both models,
`Σ_{s,i} dS[s,i] = -τ·[SI] = Σ_κ dS_κ`, provided `SX = Σ κ S_κ ≠ 0`. -/
theorem effDeg_to_compactED_totalS (A : Nat) (tau gamma N R : Rat) (Ssi : Nat → Nat → Rat)
    (hS : ∀ s i, A ≤ s + i → Ssi s i = 0) (hX : sumTo A (fun k => aggSk Ssi k * kf k) ≠ 0) :
    sum2 A A (sirEffDeg A A tau gamma N Ssi R).1
      = sumTo A (sirCompactED A tau gamma N (aggSk Ssi) R (aggSI A Ssi)).1 := by
  rw [effDeg_total_dS A tau gamma N Ssi R hS, sirCompactED_total, div_mul_cancel₀ _ hX]

/-- Without any closure assumption: the exact equations obeyed by the aggregated variables.  With
`m1 κ = Σ_{s+i=κ} i·S[s,i]`:  `dS_κ = -(τ+γ)·m1 κ + γ·m1 (κ+1)` and
`d[SI] = -τ·Σ i²·S[s,i] - γ·[SI] + τ·ISS_over_SS·[SS]`.  The compact model is what these become when
`m1 κ = eff·κ·S_κ` and the second moments are binomial. -/
theorem effDeg_aggregated_unclosed (A : Nat) (tau gamma N R : Rat) (Ssi : Nat → Nat → Rat)
    (hS : ∀ s i, A ≤ s + i → Ssi s i = 0) :
    (∀ κ, aggSk (sirEffDeg A A tau gamma N Ssi R).1 κ
        = -(tau + gamma) * aggSk (fun s i => kf i * Ssi s i) κ + gamma * aggSk (fun s i => kf i * Ssi s i) (κ + 1)) ∧
    aggSI A (sirEffDeg A A tau gamma N Ssi R).1
      = -tau * sum2 A A (fun s i => kf i * kf i * Ssi s i) - gamma * aggSI A Ssi
        + tau * effR1 A Ssi * sum2 A A (fun s i => kf s * Ssi s i) :=
  ⟨effDeg_agg_dSk A tau gamma N Ssi R hS, effDeg_agg_dSI A tau gamma N Ssi R hS⟩

/-! ### non-vacuity: `A = 3`, `S_κ = (1, 2, 4)`, `e = 1/3`, `τ = 2`, `γ = 1`, `N = 10`, `R = 1` -/

def exSk : Nat → Rat := fun k => if k = 0 then 1 else if k = 1 then 2 else if k = 2 then 4 else 0

example : sumTo 3 (fun k => exSk k * kf k) ≠ 0 := by decide +kernel

/-- the theorem applies to the instance … -/
example :
    let S := binomState 3 exSk (1 / 3)
    let d := sirEffDeg 3 3 2 1 10 S 1
    let c := sirCompactED 3 2 1 10 (aggSk S) 1 (aggSI 3 S)
    (∀ κ, κ < 3 → aggSk d.1 κ = c.1 κ) ∧ d.2 = c.2.1 ∧ aggSI 3 d.1 = c.2.2 :=
  (effDeg_to_compactED_binomState 3 2 1 10 1 exSk (1 / 3) (by decide +kernel)).2

/-- … on which both sides are non-trivial (values computed by evaluation of the two models) -/
example :
    let S := binomState 3 exSk (1 / 3)
    let d := sirEffDeg 3 3 2 1 10 S 1
    let c := sirCompactED 3 2 1 10 (aggSk S) 1 (aggSI 3 S)
    d.1 0 1 = -2 / 5 ∧ d.1 1 1 = -592 / 135 ∧
    aggSk d.1 0 = 2 / 3 ∧ c.1 0 = 2 / 3 ∧ aggSk d.1 2 = -8 ∧ c.1 2 = -8 ∧
    d.2 = 2 ∧ c.2.1 = 2 ∧ aggSI 3 d.1 = -74 / 9 ∧ c.2.2 = -74 / 9 := by
  decide +kernel

/-- the tangency theorem applies to the instance -/
example :
    let c := sirCompactED 3 2 1 10 exSk 1 (1 / 3 * sumTo 3 (fun k => exSk k * kf k))
    let de := (c.2.2 - 1 / 3 * sumTo 3 (fun k => kf k * c.1 k)) / sumTo 3 (fun k => exSk k * kf k)
    ∀ s i, (sirEffDeg 3 3 2 1 10 (binomState 3 exSk (1 / 3)) 1).1 s i
      = (Polynomial.derivative (binomStatePoly 3 exSk c.1 (1 / 3) de s i)).eval 0 :=
  effDeg_closed_invariant 3 2 1 10 1 exSk (1 / 3) (by decide +kernel)

/-! ## discrete preferential mixing → discrete EBCM -/

/-- **One pass of the loop.**  Run the loop body of `EBCM_pref_mix_discrete` with uncorrelated mixing
`Pnk[d][d'] = d'·Pk[d']/⟨k⟩` (`⟨k⟩ = Σ d·Pk[d] = psiHP K Pk 1`) from a degree-independent state
(`PMInv … st x`: for every key `d`, `theta[d][-1] = x`, `phiR[d] = (1-p)(1-x)/p`, `phiI[d] = x - φ_S(x) - phiR[d]` with
`φ_S(x) = (1-ρ)ψ'(x)/ψ'(1)`).  Then the new `theta[d][-1]` (all `d`), `S[-1]`, `I[-1]`, `R[-1]` are exactly what one
pass of the loop of `EBCM_discrete` (model `ebcmDiscreteStep`) produces from `(x, I, R)` with
`psihat = (1-ρ)ψ`, `phiS0 = 1-ρ`, `phiR0 = 0`; the new state is again degree-independent (now with the new θ), and
the new `phiS[d]` is `φ_S(θ_new)`.  Key lists: `ks = Pk.keys()` without repetitions, all below `K`, `Pk` zero off `ks`;
`nks d = Pnk[d].keys() ⊆ ks` without repetitions and containing every degree `d'` with `d'·Pk[d'] ≠ 0` (the `d' = 0`
key, where Python evaluates `theta ** -1`, may or may not be present).  Denominators: `p ≠ 0`, `⟨k⟩ ≠ 0`. -/
theorem ebcmDiscrete_prefmix_uncorrelated (ks : List Nat) (hks : ks.Nodup) (K : Nat) (hK : ∀ d ∈ ks, d < K)
    (nks : Nat → List Nat) (hnd : ∀ d ∈ ks, (nks d).Nodup) (hsub : ∀ d ∈ ks, ∀ d' ∈ nks d, d' ∈ ks)
    (N rho p : Rat) (Pk : Nat → Rat) (hP0 : ∀ d, d ∉ ks → Pk d = 0)
    (hfull : ∀ d ∈ ks, ∀ d', d' ∉ nks d → (d' : Rat) * Pk d' = 0)
    (hp : p ≠ 0) (hmean : psiHP K Pk 1 ≠ 0)
    (st : PrefMixDiscState) (x : Rat) (hinv : PMInv ks K Pk rho p st x) :
    let st' := prefMixDiscStep ks nks N rho p Pk (fun _ d' => (d' : Rat) * Pk d' / psiHP K Pk 1) st
    let e := ebcmDiscreteStep K (fun k => (1 - rho) * Pk k) N p (1 - rho) 0 x st.I st.R
    PMInv ks K Pk rho p st' e.1 ∧ st'.S = e.2.1 ∧ st'.I = e.2.2.1 ∧ st'.R = e.2.2.2 ∧
    ∀ d ∈ ks, st'.phiS d = pmPhiS K Pk rho e.1 := by
  intro st' e
  have h := prefMixDiscStep_on_inv ks hks K hK nks hnd hsub N rho p Pk hP0 hfull st x hinv hp
  have e1 : e.1 = x - p * (x - pmPhiS K Pk rho x - pmPhiR p x) :=
    ebcmDiscreteStep_theta K Pk N rho p x st.I st.R hp hmean
  have e2 : e.2.1 = N * psiH K (fun k => (1 - rho) * Pk k) e.1 := rfl
  have e3 : e.2.2.1 = N - (st.R + st.I) - e.2.1 := rfl
  have e4 : e.2.2.2 = st.R + st.I := rfl
  rw [e3, e4, e2, e1, psiH_smul]
  obtain ⟨a, b, c, d, f⟩ := h
  exact ⟨a, by rw [b]; ring, by rw [d]; ring, c, f⟩

/-- **Whole runs.**  The state before the loop of `EBCM_pref_mix_discrete` is degree-independent with
θ = 1, so by induction: with uncorrelated mixing and `Σ Pk = 1`, after any number `n` of passes the lists `S`, `I`,
`R` and every `theta[d]` of `EBCM_pref_mix_discrete(N, Pk, Pnk, p, rho)` coincide with the lists `S`, `I`, `R`, `theta`
of `EBCM_discrete(N, (1-ρ)ψ, (1-ρ)ψ', p, phiS0 = 1-ρ, phiR0 = 0, R0 = 0)`. -/
theorem ebcmDiscrete_prefmix_uncorrelated_run (ks : List Nat) (hks : ks.Nodup) (K : Nat) (hK : ∀ d ∈ ks, d < K)
    (nks : Nat → List Nat) (hnd : ∀ d ∈ ks, (nks d).Nodup) (hsub : ∀ d ∈ ks, ∀ d' ∈ nks d, d' ∈ ks)
    (N rho p : Rat) (Pk : Nat → Rat) (hP0 : ∀ d, d ∉ ks → Pk d = 0)
    (hfull : ∀ d ∈ ks, ∀ d', d' ∉ nks d → (d' : Rat) * Pk d' = 0)
    (hp : p ≠ 0) (hmean : psiHP K Pk 1 ≠ 0) (hsum : psiH K Pk 1 = 1) (n : Nat) :
    let st := prefMixDiscRun ks nks N rho p Pk (fun _ d' => (d' : Rat) * Pk d' / psiHP K Pk 1) n
    let y := ebcmDiscRun K (fun k => (1 - rho) * Pk k) N p (1 - rho) 0 0 n
    (∀ d ∈ ks, st.theta d = y.1) ∧ st.S = y.2.1 ∧ st.I = y.2.2.1 ∧ st.R = y.2.2.2 := by
  intro st y
  -- by induction with the degree-independence `PMInv` of the whole state as invariant
  suffices h : PMInv ks K Pk rho p st y.1 ∧ st.S = y.2.1 ∧ st.I = y.2.2.1 ∧ st.R = y.2.2.2 from
    ⟨fun d hd => (h.1 d hd).1, h.2⟩
  induction n with
  | zero =>
    refine ⟨prefMixDiscInit_inv ks K Pk N rho p hmean, ?_, ?_, rfl⟩
    · show N * (1 - rho) = N * psiH K (fun k => (1 - rho) * Pk k) 1
      rw [psiH_smul, hsum]; ring
    · show N * rho = N - N * psiH K (fun k => (1 - rho) * Pk k) 1 - 0
      rw [psiH_smul, hsum]; ring
  | succ n ih =>
    obtain ⟨i1, _, i3, i4⟩ := ih
    have h := ebcmDiscrete_prefmix_uncorrelated ks hks K hK nks hnd hsub N rho p Pk hP0 hfull hp hmean _ _ i1
    rw [i3, i4] at h
    exact ⟨h.1, h.2.1, h.2.2.1, h.2.2.2.1⟩

/-! ### non-vacuity: degrees 1 and 3 with probability 1/2 each, `N = 100`, `ρ = 1/10`, `p = 1/2` -/

def exPk : Nat → Rat := fun k => if k = 1 then 1 / 2 else if k = 3 then 1 / 2 else 0

/-- the run theorem applies to the instance (all hypotheses are satisfiable together) … -/
example (n : Nat) :
    let st := prefMixDiscRun [1, 3] (fun _ => [1, 3]) 100 (1 / 10) (1 / 2) exPk
      (fun _ d' => (d' : Rat) * exPk d' / psiHP 4 exPk 1) n
    let y := ebcmDiscRun 4 (fun k => (1 - 1 / 10) * exPk k) 100 (1 / 2) (1 - 1 / 10) 0 0 n
    (∀ d ∈ [1, 3], st.theta d = y.1) ∧ st.S = y.2.1 ∧ st.I = y.2.2.1 ∧ st.R = y.2.2.2 :=
  ebcmDiscrete_prefmix_uncorrelated_run [1, 3] (by decide) 4 (by decide) (fun _ => [1, 3]) (by decide) (by decide)
    100 (1 / 10) (1 / 2) exPk
    (by intro d hd
        have h1 : d ≠ 1 := fun h => hd (by simp [h])
        have h3 : d ≠ 3 := fun h => hd (by simp [h])
        simp [exPk, h1, h3])
    (by intro d _ d' hd'
        have h1 : d' ≠ 1 := fun h => hd' (by simp [h])
        have h3 : d' ≠ 3 := fun h => hd' (by simp [h])
        simp [exPk, h1, h3])
    (by decide +kernel) (by decide +kernel) (by decide +kernel) n

/-- … and the two codes' second loop pass gives these (non-trivial, equal) numbers -/
example :
    let st := prefMixDiscRun [1, 3] (fun _ => [1, 3]) 100 (1 / 10) (1 / 2) exPk
      (fun _ d' => (d' : Rat) * exPk d' / psiHP 4 exPk 1) 2
    let y := ebcmDiscRun 4 (fun k => (1 - 1 / 10) * exPk k) 100 (1 / 2) (1 - 1 / 10) 0 0 2
    st.theta 1 = 29347 / 32000 ∧ st.theta 3 = 29347 / 32000 ∧ y.1 = 29347 / 32000 ∧
    st.R = 29869 / 1600 ∧ y.2.2.2 = 29869 / 1600 ∧ st.S = y.2.1 ∧ st.I = y.2.2.1 := by
  decide +kernel

end ODE
