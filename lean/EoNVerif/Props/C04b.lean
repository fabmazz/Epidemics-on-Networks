import EoNVerif.Proofs.EventSIRRows
/-!
C04 / C05 — statements about the rows returned by the event-driven SIR model (`EventSIR.rows`, the arrays of
`fast_nonMarkov_SIR` / `fast_SIR` after the `len(initial_infecteds)` synthetic rows have been stripped).

`traj` (the arrays as a `Traj`) is defined in `EoNVerif/Proofs/EventSIRRows.lean`.
-/
namespace EventSIR

/-- **C04**: for every delay/duration table and every tie-breaking order the returned arrays are well-formed
(equal lengths, first time tmin, ordered, below tmax, non-negative counts summing to N, one legal move per row,
S non-increasing, R non-decreasing).  `hrn`: `WF` does not ask `recs` to be duplicate-free; the initial `R` count
`len(recs)` needs it. -/
theorem rows_wf (nodes : List Node) (nbrs : Node → List Node) (delay : Node → Node → ERat) (dur : Node → ERat)
    (tmin : Rat) (tmax : ERat) (infs recs : List Node) (h : WF nodes nbrs delay dur infs recs)
    (hrn : recs.Nodup) (htm : ERat.lt (some tmin) tmax = true) (sel : Nat → Nat) (fuel : Nat)
    (hq : (run (tableParams nodes nbrs delay dur tmin tmax) sel infs recs fuel).queue = []) :
    Pred.wellFormed TrajKind.sirCont nodes.length tmin tmax false false
      (traj (run (tableParams nodes nbrs delay dur tmin tmax) sel infs recs fuel) infs.length) = true :=
  rows_wf_core h htm (Inv.run h (RuleFits.tables nbrs delay dur) sel fuel)
    (RInv.run h (RuleFits.tables nbrs delay dur) hrn htm sel fuel) hq

set_option linter.unusedVariables false in -- no proof uses `hrn`: `row0_ic` has the signature of `rows_wf`
/-- **C05**: with heapq's tie-breaking (`sel = 0`: smallest insertion counter first) row 0 is the requested initial
condition -/
theorem row0_ic (nodes : List Node) (nbrs : Node → List Node) (delay : Node → Node → ERat) (dur : Node → ERat)
    (tmin : Rat) (tmax : ERat) (infs recs : List Node) (h : WF nodes nbrs delay dur infs recs)
    (hrn : recs.Nodup) (htm : ERat.lt (some tmin) tmax = true) (fuel : Nat)
    (hq : (run (tableParams nodes nbrs delay dur tmin tmax) (fun _ => 0) infs recs fuel).queue = []) :
    Pred.initialOK nodes.length infs recs
      (Pred.row (traj (run (tableParams nodes nbrs delay dur tmin tmax) (fun _ => 0) infs recs fuel) infs.length).cols 0)
      none true = true := by
  have hrow := Ph.final h (RuleFits.tables nbrs delay dur) infs.length 0 _ (by omega)
    (Ph.init (tmin := tmin) (tmax := tmax) h htm) fuel 0 hq
  have hrow' : Pred.row (traj (run (tableParams nodes nbrs delay dur tmin tmax) (fun _ => 0) infs recs fuel)
      infs.length).cols 0 =
      [(nodes.length : Int) - (infs.length : Int) - (recs.length : Int), (infs.length : Int), (recs.length : Int)] := hrow
  rw [hrow']
  simp [Pred.initialOK]

/-- **C05**: initially recovered nodes are never infected -/
theorem recovered_never_infected (nodes : List Node) (nbrs : Node → List Node) (delay : Node → Node → ERat) (dur : Node → ERat)
    (tmin : Rat) (tmax : ERat) (infs recs : List Node) (h : WF nodes nbrs delay dur infs recs)
    (sel : Nat → Nat) (fuel : Nat) :
    ∀ e ∈ (run (tableParams nodes nbrs delay dur tmin tmax) sel infs recs fuel).trans, e.2.2 ∉ recs := by
  intro e he
  obtain ⟨p, hp⟩ := (Inv.run (tmin := tmin) (tmax := tmax) h (RuleFits.tables nbrs delay dur) sel fuel).tr_walk e he
  exact TW.not_recs hp

end EventSIR

/-! non-vacuity: a 4-clique with two initial infecteds and one initially recovered node, a zero delay `0 → 2`, a zero
duration of node `0` (both events happen at `tmin` and may be popped before the initial event of node `1`) and a
horizon that cuts the last recovery -/
def c04bNb (u : Node) : List Node :=
  match u with | 0 => [1, 2, 3] | 1 => [0, 2, 3] | 2 => [0, 1, 3] | 3 => [0, 1, 2] | _ => []
def c04bDelay (u v : Node) : ERat := if u = 0 ∧ v = 2 then some 0 else some 1
def c04bDur (u : Node) : ERat := if u = 0 then some 0 else some 2

theorem c04b_wf : EventSIR.WF [0, 1, 2, 3] c04bNb c04bDelay c04bDur [0, 1] [3] where
  nodup := by decide
  nbr_nodup := by
    intro u hu
    simp only [List.mem_cons, List.not_mem_nil, or_false] at hu
    rcases hu with rfl | rfl | rfl | rfl <;> decide
  nbr_mem := by
    intro u hu
    simp only [List.mem_cons, List.not_mem_nil, or_false] at hu
    rcases hu with rfl | rfl | rfl | rfl <;> decide
  delay_nonneg := by
    intro u v d hd
    unfold c04bDelay at hd
    split at hd <;> (injection hd with hd; subst hd; decide +kernel)
  dur_nonneg := by
    intro u d hd
    unfold c04bDur at hd
    split at hd <;> (injection hd with hd; subst hd; decide +kernel)
  infs_nodup := by decide
  infs_mem := by decide
  recs_mem := by decide
  disjoint := by decide

/-- the run terminates under both tie orders used below … -/
example : (EventSIR.run (EventSIR.tableParams [0, 1, 2, 3] c04bNb c04bDelay c04bDur 0 (some 3)) (fun k => k)
    [0, 1] [3] 30).queue = [] := by decide +kernel
example : (EventSIR.run (EventSIR.tableParams [0, 1, 2, 3] c04bNb c04bDelay c04bDur 0 (some 3)) (fun _ => 0)
    [0, 1] [3] 30).queue = [] := by decide +kernel

/-- … under the tie order `sel k = k` the recovery of node `0` (zero duration, at `tmin`) is popped before the initial
event of node `1`; the returned arrays then start with the non-initial row `(S, I, R) = (2, 0, 2)` -/
example : EventSIR.rows (EventSIR.run (EventSIR.tableParams [0, 1, 2, 3] c04bNb c04bDelay c04bDur 0 (some 3))
    (fun k => k) [0, 1] [3] 30) 2 = ([0, 0, 0, 2, 2], [2, 1, 0, 0, 0], [0, 1, 2, 1, 0], [2, 2, 2, 3, 4]) := by
  decide +kernel

/-- `rows_wf` applies to it -/
example : Pred.wellFormed TrajKind.sirCont 4 0 (some 3) false false
    (EventSIR.traj (EventSIR.run (EventSIR.tableParams [0, 1, 2, 3] c04bNb c04bDelay c04bDur 0 (some 3)) (fun k => k)
      [0, 1] [3] 30) 2) = true :=
  EventSIR.rows_wf _ _ _ _ _ _ _ _ c04b_wf (by decide) (by decide +kernel) _ _ (by decide +kernel)

/-- `row0_ic` applies under `heapq` order … -/
example : Pred.initialOK 4 [0, 1] [3]
    (Pred.row (EventSIR.traj (EventSIR.run (EventSIR.tableParams [0, 1, 2, 3] c04bNb c04bDelay c04bDur 0 (some 3))
      (fun _ => 0) [0, 1] [3] 30) 2).cols 0) none true = true :=
  EventSIR.row0_ic _ _ _ _ _ _ _ _ c04b_wf (by decide) (by decide +kernel) _ (by decide +kernel)

/-- … and its restriction to `heapq` order is necessary: under `sel k = k` row 0 is `[2, 0, 2]`, not the requested
`[4 - 2 - 1, 2, 1]`, so the conclusion of `row0_ic` fails for that tie order -/
example : Pred.initialOK 4 [0, 1] [3]
    (Pred.row (EventSIR.traj (EventSIR.run (EventSIR.tableParams [0, 1, 2, 3] c04bNb c04bDelay c04bDur 0 (some 3))
      (fun k => k) [0, 1] [3] 30) 2).cols 0) none true = false := by decide +kernel
