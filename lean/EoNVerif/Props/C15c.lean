import EoNVerif.Props.C15
import EoNVerif.Proofs.ComplexTraj
/-!
C15c — **the induction over events** for `Gillespie_complex_contagion`: the one-step selection law of `Props/C15`
(`next_node_law`, `zero_rate_never`, `clock_eq`, `stop_iff`, `applyEvent_inv`) lifted to the law of whole finite
histories, exactly as `Props/C01g` does for `Gillespie_SIR/SIS`.

Definitions (in `Proofs/ComplexTraj.lean`, restated here in words; `σ` is the user's type of statuses):

* `Complex.Spec.totalRate P st = Σ_{x ∈ P.nodes} P.rate st x`, `Complex.Spec.apply P st x = fset st x (P.choose st x)`
  (the model's field is called `choose`: the user's `transition_choice`, a deterministic function of the statuses).
* `Complex.Spec.jumpDist P n st : Dist (List (Node × Rat))` — first `n` jumps of the specification chain: if
  `Σ rates = 0` the history ends; else node `x ∈ P.nodes` is next with probability `rate x / Σ rates`, the pair
  `(x, Σ rates)` is recorded (holding time `Exp(Σ rates)`), and the chain continues from `Spec.apply P st x`.
* `Complex.trajDist P k n s` — law of the first `n` events of the model's loop from state `s`, each recorded with the
  rate handed to `expovariate` in the state the node was selected in (`s.ld.totalWeight`).  Stop test = the loop's
  (`Complex.halted s`: `total_weight() > 0` fails; no horizon, `tmax = ∞`); selection = `s.ld.chooseDist k` (the
  `k`-round rejection sampler on the single weighted `_ListDict_` `nodes_by_rate`); continuation from `applyEvent`.
  **What the model forces on the statement**: (1) "sampler budget exhausted" (`none`) is an *error* of the
  tape model (`chooseTM … 0 = fail "fuel"`), not a stop, so it contributes no history: `trajDist` is a
  sub-distribution (as in C01g); same for `applyEvent = none` (KeyError), unreachable by `traj_status`.  (2) the
  loop does not test `Σ rates = 0`, it tests `total_weight() > 0` on the data structure (and `t < tmax` with `t = inf`
  exactly when that test failed one event earlier, `loop_stops`/`loop_continues`); under `WF`/`Inv` the two agree
  (`halt_iff_absorbing`).  (3) `applyEvent` takes the event time; it is only recorded (`times`, `log`); `trajDist`
  passes `0` and `traj_time_irrelevant` shows any other supply of times gives the same law.  (4) the structure is
  always weighted, so there is no "unweighted" special case and no `0 < k` hypothesis: for `k = 0` both sides of
  `traj_law` are `0` on non-empty histories (`1 - ρ^0 = 0`).
* `Complex.accProd P k s h = Π_i (1 - ρ_i^k)`, `ρ_i = s_i.ld.rejProb` the one-round rejection probability of
  `nodes_by_rate` in the state reached after `i-1` events; `Complex.defectSum P k s h = Σ_i ρ_i^k`.
* `Complex.Spec.Legal P st h` — `h` is a path of the chain from `st`: each selected node is in `P.nodes` and has a
  positive rate in the status reached so far, the recorded clock rate is the (positive) sum of the rates there.
  `Complex.Spec.applyHist`, `Complex.applyHist` — status / model state after a history.

Hypotheses, as in C15: `WF P` (`P.nodes` duplicate-free — otherwise a node would be counted twice in `Σ rates` but
once in `nodes_by_rate`; rates non-negative — `_ListDict_` needs non-negative weights; influence sets inside
`P.nodes`; `InfluenceCovers P` — the user's influence set contains every *other* node whose rate changes, otherwise
`nodes_by_rate` goes stale and neither the clock nor the selection law hold) and `Inv P s` (holds after `init`,
`Complex.init_inv`, and is preserved, `traj_status`).

The theorems of this file are in namespace `ComplexTraj` (not the namespace of `Proofs/ComplexTraj.lean`, which is
`Complex`).
-/
namespace ComplexTraj
open Complex
variable {σ : Type} [DecidableEq σ]

/-- the loop's stop test is, under the invariant, "the chain is absorbed" (`Σ rates = 0`) -/
theorem halt_iff_absorbing (P : CCParams σ) (h : WF P) (s : CCState σ) (hs : Inv P s) :
    halted s ↔ Spec.totalRate P s.status = 0 :=
  halted_iff P h s hs

/-- the rate recorded with an event is the sum of the user's rates in the current status (C15 `clock_eq`) -/
theorem clock_is_total (P : CCParams σ) (h : WF P) (s : CCState σ) (hs : Inv P s) :
    s.ld.totalWeight = Spec.totalRate P s.status :=
  clock_spec P h s hs

/-- `trajDist` mirrors `Complex.loop` (no time horizon, next-event time computed as `loop`/`run` do from the current
total weight): on `halted` the tape loop returns the current state … -/
theorem loop_stops (P : CCParams σ) (cfuel fuel : Nat) (s : CCState σ) (tv : Rat) (hh : halted s) :
    loop P none cfuel (fuel + 1) s (if s.ld.totalWeight > 0 then some tv else none) = pure s := by
  have hp : ¬ (s.ld.totalWeight > 0) := hh
  rw [if_neg hp, loop]

/-- … and otherwise it selects a node with `chooseTM` on `nodes_by_rate` (whose law is `chooseDist`) in `s`, applies
the event, and draws the next holding time with the total weight of the new state -/
theorem loop_continues (P : CCParams σ) (cfuel fuel : Nat) (s : CCState σ) (tv : Rat) (hh : ¬ halted s) :
    loop P none cfuel (fuel + 1) s (if s.ld.totalWeight > 0 then some tv else none) =
      (do
        let node ← Gillespie.chooseTM Gillespie.encNode s.ld cfuel
        match applyEvent P s node tv with
        | none => TM.fail "KeyError"
        | some s' =>
          if s'.ld.totalWeight > 0 then do
            let d ← TM.popExpo s'.ld.totalWeight
            loop P none cfuel fuel s' (some (tv + d))
          else loop P none cfuel fuel s' none) := by
  have hp : s.ld.totalWeight > 0 := not_not.1 hh
  rw [if_pos hp, loop, if_neg (by simp [hp, ERat.lt])]
  rfl

/-- **trajectory law**: for every history `h = [(x₁,r₁),…,(x_m,r_m)]`, every length `n` and every budget `k` of
rejection rounds, the model produces `h` with the probability the jump chain gives it, times `Π_i (1 - ρ_i^k)` — the
probability that none of the `m` rejection samplers ran out of rounds -/
theorem traj_law (P : CCParams σ) (h : WF P) (k n : Nat) (s : CCState σ) (hs : Inv P s)
    (hist : List (Node × Rat)) :
    Dist.mass (trajDist P k n s) (fun x => x == hist) =
      Dist.mass (Spec.jumpDist P n s.status) (fun x => x == hist) * accProd P k s hist :=
  Complex.traj_law P h k n s hs hist

/-- the acceptance product is a probability -/
theorem accProd_unit (P : CCParams σ) (h : WF P) (k : Nat) (s : CCState σ) (hs : Inv P s)
    (hist : List (Node × Rat)) : 0 ≤ accProd P k s hist ∧ accProd P k s hist ≤ 1 := by
  rw [accProd_eq]
  exact ⟨(TrajLaw.accProd_bounds (sim P h) k s hs hist).1, (TrajLaw.accProd_bounds (sim P h) k s hs hist).2.1⟩

omit [DecidableEq σ] in
theorem jump_mass_nonneg (P : CCParams σ) (h : WF P) (n : Nat) (st : Node → σ) (Q : List (Node × Rat) → Bool) :
    0 ≤ Dist.mass (Spec.jumpDist P n st) Q := by
  rw [jumpDist_eq]
  exact Dist.mass_nonneg _ ((chain P).jump_nonneg (chain_wf P h) n st) Q

/-- the model never over-weights a history -/
theorem traj_law_le (P : CCParams σ) (h : WF P) (k n : Nat) (s : CCState σ) (hs : Inv P s)
    (hist : List (Node × Rat)) :
    Dist.mass (trajDist P k n s) (fun x => x == hist) ≤
      Dist.mass (Spec.jumpDist P n s.status) (fun x => x == hist) := by
  rw [trajDist_eq, jumpDist_eq]
  exact TrajLaw.traj_law_le (sim P h) k trivial n s hs hist

/-- … and under-weights it by at most the relative defect `Σ_i ρ_i^k` (union bound over the `m` samplers) -/
theorem traj_law_ge (P : CCParams σ) (h : WF P) (k n : Nat) (s : CCState σ) (hs : Inv P s)
    (hist : List (Node × Rat)) :
    Dist.mass (Spec.jumpDist P n s.status) (fun x => x == hist) * (1 - defectSum P k s hist) ≤
      Dist.mass (trajDist P k n s) (fun x => x == hist) := by
  rw [trajDist_eq, jumpDist_eq, defectSum_eq]
  exact TrajLaw.traj_law_ge (sim P h) k trivial n s hs hist

omit [DecidableEq σ] in
/-- the jump chain's law is a probability distribution (total mass 1), whatever the parameters (no hypothesis:
`Σ_x rate x / Σ rates = 1` as soon as `Σ rates ≠ 0`) -/
theorem jump_total (P : CCParams σ) (n : Nat) (st : Node → σ) :
    Dist.mass (Spec.jumpDist P n st) (fun _ => true) = 1 := by
  rw [jumpDist_eq]
  exact (chain P).jump_total n st

/-- **the defect vanishes as `k → ∞`** (stated without analysis): for every history and every `ε > 0` there is a
budget `K` of rejection rounds from which on the model's mass of the history is within `ε` below the chain's (it is
never above: `traj_law_le`).  Uses `ρ_i < 1` (C16 `ld_rej_lt_one`) in every non-absorbed state of the path. -/
theorem traj_law_limit (P : CCParams σ) (h : WF P) (n : Nat) (s : CCState σ) (hs : Inv P s)
    (hist : List (Node × Rat)) (ε : Rat) (hε : 0 < ε) :
    ∃ K : Nat, ∀ k, K ≤ k →
      Dist.mass (Spec.jumpDist P n s.status) (fun x => x == hist) - ε ≤
        Dist.mass (trajDist P k n s) (fun x => x == hist) := by
  simpa only [trajDist_eq, jumpDist_eq] using TrajLaw.traj_law_limit (sim P h) n s hs hist ε hε

/-- **support**: a history the model produces with positive probability is a legal path of the chain — each `x_i` is
a node of the network with a positive rate in the status reached by `Spec.apply` of its predecessors and `r_i` (the
rate of the `Exp` holding-time draw) is the sum of the rates in that status —, has at most `n` events, and fewer
only if the chain is absorbed -/
theorem traj_support (P : CCParams σ) (h : WF P) (k n : Nat) (s : CCState σ) (hs : Inv P s)
    (hist : List (Node × Rat)) (hm : Dist.mass (trajDist P k n s) (fun x => x == hist) ≠ 0) :
    Spec.Legal P s.status hist ∧ hist.length ≤ n ∧
      (hist.length < n → Spec.totalRate P (Spec.applyHist P s.status hist) = 0) := by
  rw [trajDist_eq] at hm
  rw [legal_iff, spec_applyHist_eq]
  exact TrajLaw.traj_support (sim P h) k trivial n s hs hist hm

omit [DecidableEq σ] in
/-- the same for the chain itself -/
theorem jump_support (P : CCParams σ) (h : WF P) (n : Nat) (st : Node → σ) (hist : List (Node × Rat))
    (hm : Dist.mass (Spec.jumpDist P n st) (fun x => x == hist) ≠ 0) :
    Spec.Legal P st hist ∧ hist.length ≤ n ∧
      (hist.length < n → Spec.totalRate P (Spec.applyHist P st hist) = 0) := by
  rw [jumpDist_eq] at hm
  rw [legal_iff, spec_applyHist_eq]
  exact (chain P).jump_support (chain_wf P h) n st hist hm

/-- **status along a legal path** of the chain, whether or not `n` and `k` let the model reach it: the model does not
raise KeyError, ends in a state that satisfies `Inv`, and its status is the iterated `Spec.apply` -/
theorem legal_status (P : CCParams σ) (h : WF P) (s : CCState σ) (hs : Inv P s) (hist : List (Node × Rat))
    (hl : Spec.Legal P s.status hist) :
    ∃ s', applyHist P s hist = some s' ∧ Inv P s' ∧ s'.status = Spec.applyHist P s.status hist := by
  rw [legal_iff] at hl
  rw [applyHist_eq, spec_applyHist_eq]
  exact TrajLaw.legal_applyHist (sim P h) s hs hist hl

/-- in particular after every prefix of a history of positive probability -/
theorem traj_status (P : CCParams σ) (h : WF P) (k n : Nat) (s : CCState σ) (hs : Inv P s)
    (hist : List (Node × Rat)) (hm : Dist.mass (trajDist P k n s) (fun x => x == hist) ≠ 0)
    (h1 h2 : List (Node × Rat)) (hsplit : hist = h1 ++ h2) :
    ∃ s', applyHist P s h1 = some s' ∧ Inv P s' ∧ s'.status = Spec.applyHist P s.status h1 := by
  have hl := (traj_support P h k n s hs hist hm).1
  rw [hsplit, legal_iff] at hl
  exact legal_status P h s hs h1 ((legal_iff P _ h1).2 ((chain P).legal_prefix _ h1 h2 hl))

/-- the recorded event time does not influence what `applyEvent` does to the rest of the state (statuses, candidate
structure, counters) -/
theorem applyEvent_time (P : CCParams σ) (s : CCState σ) (x : Node) (t t' : Rat) :
    match applyEvent P s x t, applyEvent P s x t' with
    | some a, some b => Core a b
    | none, none => True
    | _, _ => False :=
  applyEvent_core P s s (core_refl s) x t t'

/-- **times do not influence node selection**: whatever event times are recorded (`ts`, one per event), the law of
the first `ts.length` events is `trajDist` -/
theorem traj_time_irrelevant (P : CCParams σ) (k : Nat) (ts : List Rat) (s : CCState σ) :
    trajDistT P k ts s = trajDist P k ts.length s :=
  trajDistT_eq' P k ts s s (core_refl s)

/-- from the initial condition: `init` succeeds and the trajectory law holds from its result -/
theorem traj_law_init (P : CCParams σ) (h : WF P) (ic : Node → σ) (tmin : Rat) (k n : Nat)
    (hist : List (Node × Rat)) :
    ∃ s, init P ic tmin = some s ∧
      Dist.mass (trajDist P k n s) (fun x => x == hist) =
        Dist.mass (Spec.jumpDist P n ic) (fun x => x == hist) * accProd P k s hist := by
  obtain ⟨s, h1, h2, h3⟩ := init_inv' P h ic tmin
  exact ⟨s, h1, by rw [traj_law P h k n s h2 hist, h3]⟩

end ComplexTraj

/-! ### non-vacuity

The SIR-like family on the path 0 – 1 – 2 of `Props/C15` (`P3`: τ = 1, γ = 1/2; node 0 infected).  Rates: node 0
(recovers): 1/2, node 1 (one infected neighbour): 1; total 3/2.  After node 1 is infected: node 0: 1/2, node 1: 1/2,
node 2: 1; total 2.  History `[(1, 3/2), (2, 2)]`: chain mass `1/(3/2) · 1/2 = 1/3`; `ρ₁ = 1 - (3/2)/(2·1) = 1/4`,
`ρ₂ = 1 - 2/(3·1) = 1/3`, so the model's mass is `1/3 · (1 - 4^{-k}) (1 - 3^{-k})`. -/
namespace Complex.Example

def exH : List (Node × Rat) := [(1, 3/2), (2, 2)]

example : Dist.mass (Spec.jumpDist P3 2 ic3) (fun x => x == exH) = 1 / 3 := by decide +kernel
example : (init P3 ic3 0).map (fun s => accProd P3 2 s exH) = some (15 / 16 * (8 / 9)) := by decide +kernel
example : (init P3 ic3 0).map (fun s => Dist.mass (trajDist P3 1 2 s) (fun x => x == exH))
    = some (1 / 3 * ((1 - 1/4) * (1 - 1/3))) := by decide +kernel
example : (init P3 ic3 0).map (fun s => Dist.mass (trajDist P3 2 2 s) (fun x => x == exH))
    = some (1 / 3 * ((1 - (1/4)^2) * (1 - (1/3)^2))) := by decide +kernel
example : (init P3 ic3 0).map (fun s => Dist.mass (trajDist P3 3 2 s) (fun x => x == exH))
    = some (1 / 3 * ((1 - (1/4)^3) * (1 - (1/3)^3))) := by decide +kernel
/-- a history with a wrong recorded rate, or a node of rate 0 (node 2 before node 1 is infected), or the empty
history while the chain is not absorbed, has mass 0 in both laws -/
example : (init P3 ic3 0).map (fun s =>
      (Dist.mass (trajDist P3 2 2 s) (fun x => x == [(1, 3/2), (2, 1)]),
       Dist.mass (trajDist P3 2 2 s) (fun x => x == [(2, 3/2), (1, 2)]),
       Dist.mass (trajDist P3 2 2 s) (fun x => x == [])))
    = some (0, 0, 0) := by decide +kernel
example : (Dist.mass (Spec.jumpDist P3 2 ic3) (fun x => x == [(1, 3/2), (2, 1)]),
           Dist.mass (Spec.jumpDist P3 2 ic3) (fun x => x == [(2, 3/2), (1, 2)])) = (0, 0) := by decide +kernel
example : Dist.mass (Spec.jumpDist P3 2 ic3) (fun _ => true) = 1 := by decide +kernel
/-- absorption: after node 0 recovers first nothing can happen; the one-event history has the same mass for every
`n ≥ 1` -/
example : Dist.mass (Spec.jumpDist P3 3 ic3) (fun x => x == [(0, 3/2)]) = 1 / 3 := by decide +kernel
example : (init P3 ic3 0).map (fun s => Dist.mass (trajDist P3 2 3 s) (fun x => x == [(0, 3/2)]))
    = some (1 / 3 * (1 - (1/4)^2)) := by decide +kernel

/-- the hypotheses are satisfiable (`P3_wf` of `Props/C15`, `init_inv`), and the general theorem, instantiated, gives
for **every** budget `k` the value the direct computations above give for `k = 1, 2, 3` -/
example (k : Nat) :
    ∃ s, init P3 ic3 0 = some s ∧
      Dist.mass (trajDist P3 k 2 s) (fun x => x == exH) = 1 / 3 * accProd P3 k s exH := by
  obtain ⟨s, h1, h2⟩ := ComplexTraj.traj_law_init P3 P3_wf ic3 0 k 2 exH
  refine ⟨s, h1, ?_⟩
  rw [h2]
  congr 1
  decide +kernel

end Complex.Example
