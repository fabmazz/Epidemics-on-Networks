import EoNVerif.Proofs.GenSimple
import EoNVerif.Props.C03
/-!
C03b — refinement: the Lean code GENERATED statement by statement from `Gillespie_simple_contagion`
(`/repo/EoN/simulation.py`, from `status = {node: IC[node] …}` to the end of the `while` loop, without the specification
set-up between `try: spontaneous_transitions = sorted(…)` and `#initialize all potential events to start.`; generated file
`EoNVerif/Gen/SimpleGen.lean`, namespace `GenSC`, regenerated from the Python source on every verification run, calling
the generated `_ListDict_` code `Gen/ListDictGen.lean` / `Gen/ListDictTM.lean`) and the hand-written model `Simple.run`
(`EoNVerif/Model/Simple.lean`) are BISIMILAR on every tape state, so the C03 theorems proved about the model hold for
the generated code.

* `GenSC.Agree A P ic tmin tmax cfuel` (defined in `EoNVerif/Proofs/GenSimple.lean`) — the two programs are given the
  same arguments: same graph, same initial condition, `A.spont`/`A.induced` are the keys `(src, dst)` /
  `((a, b), (a, c))` of the model's transition lists, same rates, `spOut`/`inOut` = the keys with the given source (in
  list order), one empty `_ListDict_` per key in `pt0`, and `gw0` satisfies `GenSC.GWInv`: for every WEIGHTED transition
  the table holds every node `[u]` / every ordered neighbour pair `[u, v]` with the tabulated weight, for an unweighted
  transition every read returns `None`.
* `GenSC.Rel P σ s` — same status map; for the `i`-th spontaneous (induced) transition the dict
  `potential_transitions` holds, under its key, a `_ListDict_` related by `GenLD.R` (C16b) to the `i`-th structure of the
  model, which satisfies `LD.Inv`; `σ.times = s.times.reverse.map some`; the count table as in C15b (`GenCC.DRel`); the
  `get_weight` invariant `GWInv`.  `node_history`, `transmissions` (full data) are not related.
* Hypotheses: `Simple.WF P`, distinct keys within each kind (`(P.spont.map kS).Nodup`, `(P.ind.map kI).Nodup` — a
  spontaneous and an induced key are always different), `P.ret.Nodup`.
* The generated code contains two things the model does not have: the fill-in statements
  `if (a,b) not in get_weight[tr]: get_weight[tr][(a,b)] = get_weight[tr][(b,a)]` (they preserve `GWInv`,
  `GenSC.GWInv.fill`) and the small-total repair `if total_weight() < 10**-7 and total_weight() != 0:
  update_total_weight()` (the identity under the `_ListDict_` invariant, `gen_repair_id`).
* `gen_run_refines` is model ⇒ generated, `gen_run_refines_back` is generated ⇒ model: the direction that transfers the
  C03 facts (`gen_run_inv_spont` …).
-/
namespace GenSC
variable {τ : Type} [DecidableEq τ]

/-! ## simulation -/

/-- **bisimulation of `run`** on every tape state: the generated function and the model both raise (and then neither
raises `KeyError`), or both return with the same tape state (same scripted draws consumed, same calls logged with the
same rates and candidate lists) and related states. -/
theorem gen_run_bisim (A : SArgs τ) (P : SCParams τ) (ic : Node → τ) (tmin : Rat) (tmax : ERat) (cfuel : Nat)
    (hAg : Agree A P ic tmin tmax cfuel) (hwf : Simple.WF P) (hndS : (P.spont.map (kS (τ := τ))).Nodup)
    (hndI : (P.ind.map (kI (τ := τ))).Nodup) (hret : P.ret.Nodup) (fuel : Nat) (ts : TapeSt) :
    ResRel P (run A fuel ts) (Simple.run P ic tmin tmax fuel cfuel ts) :=
  resRel_eq P ▸ run_bisim hAg hwf hndS hndI hret fuel ts

/-- **forward simulation**: every normally returning run of the model, on every tape state, is matched by the
generated code: it returns normally, with the SAME final tape state and a related state. -/
theorem gen_run_refines (A : SArgs τ) (P : SCParams τ) (ic : Node → τ) (tmin : Rat) (tmax : ERat) (cfuel : Nat)
    (hAg : Agree A P ic tmin tmax cfuel) (hwf : Simple.WF P) (hndS : (P.spont.map (kS (τ := τ))).Nodup)
    (hndI : (P.ind.map (kI (τ := τ))).Nodup) (hret : P.ret.Nodup) (fuel : Nat) (ts ts' : TapeSt) (s : SCState τ)
    (h : Simple.run P ic tmin tmax fuel cfuel ts = .ok (s, ts')) :
    ∃ σ, run A fuel ts = .ok (σ, ts') ∧ Rel P σ s :=
  (run_bisim hAg hwf hndS hndI hret fuel ts).fwd h

/-- **backward simulation**: every normally returning run of the generated code is a run of the model, with the same
final tape state and a related state. -/
theorem gen_run_refines_back (A : SArgs τ) (P : SCParams τ) (ic : Node → τ) (tmin : Rat) (tmax : ERat) (cfuel : Nat)
    (hAg : Agree A P ic tmin tmax cfuel) (hwf : Simple.WF P) (hndS : (P.spont.map (kS (τ := τ))).Nodup)
    (hndI : (P.ind.map (kI (τ := τ))).Nodup) (hret : P.ret.Nodup) (fuel : Nat) (ts ts' : TapeSt) (σ : Loc τ)
    (h : run A fuel ts = .ok (σ, ts')) :
    ∃ s, Simple.run P ic tmin tmax fuel cfuel ts = .ok (s, ts') ∧ Rel P σ s :=
  (run_bisim hAg hwf hndS hndI hret fuel ts).bwd h

/-- the two programs raise on the same tape states -/
theorem gen_run_fails_iff (A : SArgs τ) (P : SCParams τ) (ic : Node → τ) (tmin : Rat) (tmax : ERat) (cfuel : Nat)
    (hAg : Agree A P ic tmin tmax cfuel) (hwf : Simple.WF P) (hndS : (P.spont.map (kS (τ := τ))).Nodup)
    (hndI : (P.ind.map (kI (τ := τ))).Nodup) (hret : P.ret.Nodup) (fuel : Nat) (ts : TapeSt) :
    (∃ e, run A fuel ts = .error e) ↔ (∃ e, Simple.run P ic tmin tmax fuel cfuel ts = .error e) :=
  (run_bisim hAg hwf hndS hndI hret fuel ts).fails_iff

/-- the `while` loop alone, from any related pair of states satisfying the simulation's loop invariant (the model's
clock argument is the generated local `t`, the generated local `total_rate` is the model's total rate) -/
theorem gen_loop_bisim (A : SArgs τ) (P : SCParams τ) (ic : Node → τ) (tmin : Rat) (tmax : ERat) (cfuel : Nat)
    (hAg : Agree A P ic tmin tmax cfuel) (hwf : Simple.WF P) (hndS : (P.spont.map (kS (τ := τ))).Nodup)
    (hndI : (P.ind.map (kI (τ := τ))).Nodup) (hret : P.ret.Nodup) (fuel : Nat) (σ : Loc τ) (s : SCState τ)
    (ts : TapeSt) (hR : Rel P σ s) (hI : Simple.Inv P s) (htot : σ.total_rate = Simple.totalRate P s)
    (hh : A.full = true → ∀ u ∈ P.nodes, alHas σ.node_history u = true) :
    ResRel P (loop A fuel σ ts) (Simple.loop P tmax cfuel fuel s σ.t ts) :=
  resRel_eq P ▸ loop_bisim hAg hwf hndS hndI hret fuel σ s ⟨hR, hI, htot, hh⟩ ts

/-- **initial population** (the `for node in G.nodes():` loop of the generated function): started on the empty
structures it computes, key by key, what the model's `initNodes` computes position by position -/
theorem gen_init_refines (A : SArgs τ) (P : SCParams τ) (ic : Node → τ) (tmin : Rat) (tmax : ERat) (cfuel : Nat)
    (hAg : Agree A P ic tmin tmax cfuel) (hwf : Simple.WF P) (hndS : (P.spont.map (kS (τ := τ))).Nodup)
    (hndI : (P.ind.map (kI (τ := τ))).Nodup) (σ : Loc τ) (hst : σ.status = ic)
    (hpt : σ.potential_transitions = A.pt0) (hgw : σ.get_weight = A.gw0) (ps pi : List (LD Actor))
    (hm : Simple.initNodes P ic P.nodes (P.spont.map fun tr => LD.empty tr.w.isSome)
      (P.ind.map fun tr => LD.empty tr.w.isSome) = some (ps, pi)) :
    ∃ σ', A.nodes.foldlM (initNodeBody A) σ = pure σ' ∧ Frame σ σ' ∧ GWInv P σ'.get_weight ∧
      PTRel σ'.potential_transitions kS P.spont ps ∧ PTRel σ'.potential_transitions kI P.ind pi := by
  rw [hAg.nodes]
  exact initNodes_fold hAg hwf hndS hndI ic P.nodes (fun u hu => hu) σ hst
    (by rw [hgw]; exact hAg.gw0) _ _ ps pi
    (by rw [hpt]; exact PTRel_init A.pt0 kS (fun tr => tr.w.isSome) P.spont hAg.pt0S)
    (by rw [hpt]; exact PTRel_init A.pt0 kI (fun tr => tr.w.isSome) P.ind hAg.pt0I) hm

/-- **small-total repair**: `update_total_weight()` is the identity on every structure related to a model structure
satisfying the `_ListDict_` invariant (the recomputed sum IS the running total, and the reads insert no key) -/
theorem gen_repair_id (p : GenLD.PyLD Actor) (ld : LD Actor) (hR : GenLD.R p ld) (hI : LD.Inv ld)
    (hw : ld.weighted = true) : GenLD.update_total_weight p = .ok p :=
  update_total_weight_id p ld hR hI hw

/-- … and the three repair statements as a whole change nothing observable (`Evo`: only the entry of key `k` is
rewritten, with a structure related to the same model structure) -/
theorem gen_repair_stmt (P : SCParams τ) (σ : Loc τ) (k : PyTM.Tr τ) (ld : LD Actor) (h : St P k σ ld) :
    ∃ σ', stRepair σ k = pure σ' ∧ Evo P k σ σ' ld :=
  stRepair_eval P σ k ld h

/-- **transition choice**: the generated `for transition in …: r -= share; if r < 0: break` loop (with the checked
division) returns the key at index `Simple.pickIdx` of the shares `rate·total_weight/total_rate` -/
theorem gen_choice (pt : PT τ) (rate : PyTM.Tr τ → Rat) (tot : Rat) (htot : tot ≠ 0) (K : List (PyTM.Tr τ))
    (hK : ∀ k ∈ K, ∃ p, PyRT.alFind? pt k = some p) (r : Rat) :
    ∃ r' d, K.foldlM (cbody pt rate tot) (r, none, false) =
      .ok (r', K[Simple.pickIdx (K.map fun k => rate k * twK pt k / tot) r]?, d) :=
  chooseFold pt rate tot htot K hK r

/-- the loop body of the generated function is the staged body used in the proofs (definitional) -/
theorem gen_loop_unfold (A : SArgs τ) (fuel : Nat) (σ : Loc τ) :
    loop A (fuel + 1) σ =
      if ((decide (σ.total_rate > (0 : Rat))) && (ERat.lt σ.t A.tmax)) then iter A fuel σ else pure σ :=
  loop_succ A fuel σ

/-! ## the C03 facts, for the generated code -/

/-- **invariant (C03 `run_inv`)**: in the state returned by the generated function, on every tape, the structure
stored under every spontaneous key lists exactly the nodes `[u]` whose status is the transition's source, without
repetition, with the tabulated weights -/
theorem gen_run_inv_spont (A : SArgs τ) (P : SCParams τ) (ic : Node → τ) (tmin : Rat) (tmax : ERat) (cfuel : Nat)
    (hAg : Agree A P ic tmin tmax cfuel) (hwf : Simple.WF P) (hndS : (P.spont.map (kS (τ := τ))).Nodup)
    (hndI : (P.ind.map (kI (τ := τ))).Nodup) (hret : P.ret.Nodup) (fuel : Nat) (ts ts' : TapeSt) (σ : Loc τ)
    (h : run A fuel ts = .ok (σ, ts')) (tr : SpontTr τ) (htr : tr ∈ P.spont) :
    ∃ p, PyRT.dictGet σ.potential_transitions (kS tr) = .ok p ∧ p.weighted = tr.w.isSome ∧ p.items.Nodup ∧
      (∀ a, a ∈ p.items ↔ ∃ u, a = [u] ∧ u ∈ P.nodes ∧ σ.status u = tr.src) ∧
      (∀ f, tr.w = some f → ∀ u, [u] ∈ p.items → alGet p.weight 0 [u] = f u) :=
  (run_ginv hAg hwf hndS hndI hret fuel ts ts' σ h).spont tr htr

/-- … and the structure under every induced key lists exactly the ordered neighbour pairs `[u, v]` (along edge
direction) with statuses `(a, b)` -/
theorem gen_run_inv_ind (A : SArgs τ) (P : SCParams τ) (ic : Node → τ) (tmin : Rat) (tmax : ERat) (cfuel : Nat)
    (hAg : Agree A P ic tmin tmax cfuel) (hwf : Simple.WF P) (hndS : (P.spont.map (kS (τ := τ))).Nodup)
    (hndI : (P.ind.map (kI (τ := τ))).Nodup) (hret : P.ret.Nodup) (fuel : Nat) (ts ts' : TapeSt) (σ : Loc τ)
    (h : run A fuel ts = .ok (σ, ts')) (tr : IndTr τ) (htr : tr ∈ P.ind) :
    ∃ p, PyRT.dictGet σ.potential_transitions (kI tr) = .ok p ∧ p.weighted = tr.w.isSome ∧ p.items.Nodup ∧
      (∀ a, a ∈ p.items ↔ ∃ u v, a = [u, v] ∧ u ∈ P.nodes ∧ v ∈ P.succ u ∧ σ.status u = tr.a ∧ σ.status v = tr.b) ∧
      (∀ f, tr.w = some f → ∀ u v, [u, v] ∈ p.items → alGet p.weight 0 [u, v] = f u v) :=
  (run_ginv hAg hwf hndS hndI hret fuel ts ts' σ h).ind tr htr

/-- **clock (C03 `clock_eq`)**: the rate-summing loop of the generated code — whose result is the argument handed to
`random.expovariate` — evaluated on the returned state, is the total rate of the specified chain -/
theorem gen_run_clock (A : SArgs τ) (P : SCParams τ) (ic : Node → τ) (tmin : Rat) (tmax : ERat) (cfuel : Nat)
    (hAg : Agree A P ic tmin tmax cfuel) (hwf : Simple.WF P) (hndS : (P.spont.map (kS (τ := τ))).Nodup)
    (hndI : (P.ind.map (kI (τ := τ))).Nodup) (hret : P.ret.Nodup) (fuel : Nat) (ts ts' : TapeSt) (σ : Loc τ)
    (h : run A fuel ts = .ok (σ, ts')) :
    (A.spont.map Sum.inl ++ A.induced.map Sum.inr).foldlM (fun (acc : Rat) (transition : PyTM.Tr τ) => do
        let ld ← PyRT.dictGet σ.potential_transitions transition
        let (_, w) ← GenLD.total_weight ld
        pure (acc + A.rate transition * w)) 0 =
      (.ok (Simple.specTotal P σ.status) : Except String Rat) :=
  (run_ginv hAg hwf hndS hndI hret fuel ts ts' σ h).clock hAg hwf

/-- **counts**: the last entry of every reported column is the number of nodes in that status -/
theorem gen_run_counts (A : SArgs τ) (P : SCParams τ) (ic : Node → τ) (tmin : Rat) (tmax : ERat) (cfuel : Nat)
    (hAg : Agree A P ic tmin tmax cfuel) (hwf : Simple.WF P) (hndS : (P.spont.map (kS (τ := τ))).Nodup)
    (hndI : (P.ind.map (kI (τ := τ))).Nodup) (hret : P.ret.Nodup) (fuel : Nat) (ts ts' : TapeSt) (σ : Loc τ)
    (h : run A fuel ts = .ok (σ, ts')) (x : τ) (hx : x ∈ P.ret) :
    GenCC.lastI (alGet σ.data [] x) = PyTM.countSt P.nodes σ.status x :=
  (run_ginv hAg hwf hndS hndI hret fuel ts ts' σ h).counts x hx

/-- the same invariant holds after the generated loop from any state satisfying the loop invariant (i.e. at every
iteration, not only at the end of `run`) -/
theorem gen_loop_inv (A : SArgs τ) (P : SCParams τ) (ic : Node → τ) (tmin : Rat) (tmax : ERat) (cfuel : Nat)
    (hAg : Agree A P ic tmin tmax cfuel) (hwf : Simple.WF P) (hndS : (P.spont.map (kS (τ := τ))).Nodup)
    (hndI : (P.ind.map (kI (τ := τ))).Nodup) (hret : P.ret.Nodup) (fuel : Nat) (ts ts' : TapeSt) (σ σ' : Loc τ)
    (s : SCState τ) (hL : LInv A P σ s) (h : loop A fuel σ ts = .ok (σ', ts')) : GInv P σ' := by
  obtain ⟨s', hs', hR'⟩ := (loop_bisim hAg hwf hndS hndI hret fuel σ s hL ts).bwd h
  exact ⟨s', hR', (Simple.loop_safe P hwf tmax cfuel fuel s σ.t hL.inv).ok hs'⟩

/-- **no `KeyError`** (C03 `run_no_keyerror`, for the generated code): on every tape state the generated function does
not raise `KeyError` — neither from a `_ListDict_.remove` of an unlisted candidate nor from the dict reads
`potential_transitions[tr]`, `data[status]`, `node_history[node]` -/
theorem gen_run_no_keyerror (A : SArgs τ) (P : SCParams τ) (ic : Node → τ) (tmin : Rat) (tmax : ERat) (cfuel : Nat)
    (hAg : Agree A P ic tmin tmax cfuel) (hwf : Simple.WF P) (hndS : (P.spont.map (kS (τ := τ))).Nodup)
    (hndI : (P.ind.map (kI (τ := τ))).Nodup) (hret : P.ret.Nodup) (fuel : Nat) (ts : TapeSt) :
    run A fuel ts ≠ .error "KeyError" :=
  (run_bisim hAg hwf hndS hndI hret fuel).no_keyerror ts

end GenSC


/-! ## non-vacuity 1: SIR on the path 0 — 1 — 2 (`P3`, `ic3`, `P3_wf` of `Props/C03.lean`), unweighted, undirected -/

theorem out_single {α β : Type} [DecidableEq α] (k : α × β) (x : α) :
    (if x = k.1 then [k] else []) = [k].filter fun k' => decide (k'.1 = x) := by
  by_cases hx : x = k.1
  · subst hx; simp
  · have : ¬ k.1 = x := fun hc => hx hc.symm
    simp [hx, this]

theorem out_nil {α β : Type} [DecidableEq α] (x a : α) (b : Bool) (l : List β)
    (h : (decide (x = a) || b) = false) : (if x = a then l else []) = [] := by
  rw [if_neg]
  intro hc
  simp [hc] at h

namespace GenSC.Example

/-- the arguments of the generated function for the example of C03 (what the specification set-up of the Python function
computes from the two transition graphs `I → R` (rate 1) and `(I,S) → (I,I)` (rate 2)), full data on -/
def A3 : SArgs String where
  nodes := [0, 1, 2]
  nbrs := nbrs3
  pred := nbrs3
  directed := false
  ic := ic3
  ret := ["S", "I", "R"]
  spont := [("I", "R")]
  induced := [(("I", "S"), ("I", "I"))]
  rate := fun k => match k with | .inl _ => 1 | .inr _ => 2
  spHas := fun s => decide (s = "I") || decide (s = "R")
  spOut := fun s => if s = "I" then [("I", "R")] else []
  inHas := fun p => decide (p = ("I", "S")) || decide (p = ("I", "I"))
  inOut := fun p => if p = ("I", "S") then [(("I", "S"), ("I", "I"))] else []
  pt0 := [(Sum.inl ("I", "R"), GenLD.init false), (Sum.inr (("I", "S"), ("I", "I")), GenLD.init false)]
  gw0 := []
  tmin := 0
  tmax := some 1
  full := true
  cfuel := 5

theorem P3_spont (tr : SpontTr String) (h : tr ∈ P3.spont) : tr = { src := "I", dst := "R", rate := 1, w := none } := by
  simpa [P3] using h

theorem P3_ind (tr : IndTr String) (h : tr ∈ P3.ind) : tr = { a := "I", b := "S", c := "I", rate := 2, w := none } := by
  simpa [P3] using h

theorem A3_gw0 : GWInv P3 A3.gw0 where
  spontW := by intro tr h f hf; rw [P3_spont tr h] at hf; cases hf
  spontU := by intro tr _ _ a; rfl
  indW := by intro tr h f hf; rw [P3_ind tr h] at hf; cases hf
  indU := by intro tr _ _ a; rfl

theorem A3_agree : Agree A3 P3 ic3 0 (some 1) 5 where
  nodes := rfl
  nbrs := rfl
  pred := rfl
  directed := rfl
  ic := rfl
  ret := rfl
  spont := rfl
  induced := rfl
  rateS := by intro tr h; rw [P3_spont tr h]; rfl
  rateI := by intro tr h; rw [P3_ind tr h]; rfl
  spOut := fun x => out_single ("I", "R") x
  spHas := fun x hx => out_nil x _ _ _ hx
  inOut := fun x => out_single (("I", "S"), ("I", "I")) x
  inHas := fun x hx => out_nil x _ _ _ hx
  pt0S := by intro tr h; rw [P3_spont tr h]; rfl
  pt0I := by intro tr h; rw [P3_ind tr h]; rfl
  gw0 := A3_gw0
  tmin := rfl
  tmax := rfl
  cfuel := rfl

theorem P3_keysS : (P3.spont.map (kS (τ := String))).Nodup := by simp [P3]
theorem P3_keysI : (P3.ind.map (kI (τ := String))).Nodup := by simp [P3]
theorem P3_ret_nodup : P3.ret.Nodup := by decide

/-- a short explicit tape: first clock draw 1/2 (rate 3), uniform 1/2 (shares 1/3, 2/3: the transmission is chosen),
`random.choice` index 0 (the pair `[0, 1]`), second clock draw 1 (rate 4; the next event time 3/2 exceeds `tmax = 1`) -/
def tape3 : TapeSt := { tape := [.expo (1/2), .unif (1/2), .choice 0, .expo 1] }

/-- the GENERATED code on that tape: node 1 is infected by node 0 at time 1/2, the reported columns move … -/
example : ((run A3 2 tape3).toOption.map fun (σ, _) => (σ.times, σ.data)) =
    some ([some 0, some (1/2)], [("S", [2, 1]), ("I", [1, 2]), ("R", [0, 0])]) := by
  decide +kernel

example : ((run A3 2 tape3).toOption.map fun (σ, _) => σ.transmissions) = some [(some (1/2), some 0, 1)] := by
  decide +kernel

/-- … the candidates are `[0], [1]` (recovery) and the pair `[1, 2]` (transmission) … -/
example : ((run A3 2 tape3).toOption.map fun (σ, _) =>
      σ.potential_transitions.map fun kp => (PyTM.isSpont kp.1, kp.2.items)) =
    some [(true, [[0], [1]]), (false, [[1, 2]])] := by decide +kernel

/-- … the next event time is 3/2 > tmax, the tape is consumed, and the logged calls carry the clock rates 3 and 4 and
the candidate list `[[0, 1]]` -/
example : ((run A3 2 tape3).toOption.map fun (σ, ts) => (σ.t, ts.tape)) = some (some (3/2), []) := by decide +kernel

example : ((run A3 2 tape3).toOption.map fun (_, ts) => ts.trace.toList) =
    some [Call.expo 3, Call.unif, Call.choice [[0, 1]], Call.expo 4] := by decide +kernel

/-- the fill-in statements and the reads have populated `get_weight` with `None` entries only -/
example : ((run A3 2 tape3).toOption.map fun (σ, _) => σ.get_weight.map fun kt => (PyTM.isSpont kt.1, kt.2)) =
    some [(true, [([0], none), ([1], none)]),
      (false, [([0, 1], none), ([1, 0], none), ([2, 1], none), ([1, 2], none)])] := by
  decide +kernel

/-- the MODEL on the same tape: same results (reversed lists), same candidates … -/
example : ((Simple.run P3 ic3 0 (some 1) 2 5 tape3).toOption.map fun (s, _) => (s.times, s.data)) =
    some ([1/2, 0], [[1, 2], [2, 1], [0, 0]]) := by decide +kernel

example : ((Simple.run P3 ic3 0 (some 1) 2 5 tape3).toOption.map fun (s, _) =>
      (s.ptS.map (·.items), s.ptI.map (·.items))) = some ([[[0], [1]]], [[[1, 2]]]) := by decide +kernel

example : ((Simple.run P3 ic3 0 (some 1) 2 5 tape3).toOption.map fun (_, ts) => (ts.tape, ts.trace.toList)) =
    some ([], [Call.expo 3, Call.unif, Call.choice [[0, 1]], Call.expo 4]) := by decide +kernel

/-- a failing tape (the `random.choice` draw is missing): both programs raise -/
example : (run A3 2 { tape := [.expo (1/2), .unif (1/2)] }).toOption.isNone = true ∧
    (Simple.run P3 ic3 0 (some 1) 2 5 { tape := [.expo (1/2), .unif (1/2)] }).toOption.isNone = true := by
  decide +kernel

/-- all hypotheses of the refinement theorems hold for the concrete arguments, so they apply: the two programs are
bisimilar on EVERY tape state and every amount of fuel -/
example (fuel : Nat) (ts : TapeSt) : ResRel P3 (run A3 fuel ts) (Simple.run P3 ic3 0 (some 1) fuel 5 ts) :=
  gen_run_bisim A3 P3 ic3 0 (some 1) 5 A3_agree P3_wf P3_keysS P3_keysI P3_ret_nodup fuel ts

/-- … and every state returned by the generated code satisfies the transported C03 invariant, e.g. the clock -/
example (fuel : Nat) (ts ts' : TapeSt) (σ : Loc String) (h : run A3 fuel ts = .ok (σ, ts')) :
    (A3.spont.map Sum.inl ++ A3.induced.map Sum.inr).foldlM (fun (acc : Rat) (transition : PyTM.Tr String) => do
        let ld ← PyRT.dictGet σ.potential_transitions transition
        let (_, w) ← GenLD.total_weight ld
        pure (acc + A3.rate transition * w)) 0 =
      (.ok (Simple.specTotal P3 σ.status) : Except String Rat) :=
  gen_run_clock A3 P3 ic3 0 (some 1) 5 A3_agree P3_wf P3_keysS P3_keysI P3_ret_nodup fuel ts ts' σ h

/-- the run above is a successful one (the hypothesis of the previous example is satisfiable) -/
example : ∃ σ ts', run A3 2 tape3 = .ok (σ, ts') := by
  cases h : run A3 2 tape3 with
  | ok q => exact ⟨q.1, q.2, rfl⟩
  | error e =>
    have : (run A3 2 tape3).toOption.isSome = true := by decide +kernel
    rw [h] at this; simp [Except.toOption] at this

end GenSC.Example

/-! ## non-vacuity 2: a WEIGHTED SIS-like process on the DIRECTED edge 0 → 1 -/
namespace GenSC.Example2

def succ2 (u : Node) : List Node := if u = 0 then [1] else []
def pred2 (u : Node) : List Node := if u = 1 then [0] else []
def wS2 (u : Node) : Rat := (u : Rat) + 1
def wI2 (_ _ : Node) : Rat := 3

/-- recovery `I → S` at rate 1·(u+1), transmission along the edge at rate 2·3 -/
def P2 : SCParams String :=
  { nodes := [0, 1], succ := succ2, pred := pred2, directed := true,
    spont := [{ src := "I", dst := "S", rate := 1, w := some wS2 }],
    ind := [{ a := "I", b := "S", c := "I", rate := 2, w := some wI2 }],
    ret := ["S", "I"] }

def ic2 (u : Node) : String := if u = 0 then "I" else "S"

theorem mem_nodes2 {u : Node} (hu : u ∈ P2.nodes) : u = 0 ∨ u = 1 := by simpa [P2] using hu

theorem P2_spont (tr : SpontTr String) (h : tr ∈ P2.spont) :
    tr = { src := "I", dst := "S", rate := 1, w := some wS2 } := by simpa [P2] using h

theorem P2_ind (tr : IndTr String) (h : tr ∈ P2.ind) :
    tr = { a := "I", b := "S", c := "I", rate := 2, w := some wI2 } := by simpa [P2] using h

theorem P2_wf : Simple.WF P2 where
  nodup := by decide
  succ_nodup := by
    intro u hu
    rcases mem_nodes2 hu with rfl | rfl <;> decide
  succ_mem := by
    intro u hu v hv
    have hv' : v ∈ succ2 u := hv
    rcases mem_nodes2 hu with rfl | rfl
    · have : v = 1 := by simpa [succ2] using hv'
      subst this; simp [P2]
    · simp [succ2] at hv'
  succ_out := by
    intro u hu
    have : ¬ (u = 0 ∨ u = 1) := by simpa [P2] using hu
    simp only [not_or] at this
    simp [P2, succ2, this.1]
  pred_nodup := by
    intro u hu
    rcases mem_nodes2 hu with rfl | rfl <;> decide
  pred_iff := by
    intro u v
    show u ∈ pred2 v ↔ v ∈ succ2 u
    unfold pred2 succ2
    by_cases hv : v = 1 <;> by_cases hu : u = 0 <;> simp [hv, hu]
  undirected_symm := by intro h; cases h
  noloop := by
    intro u hu
    have hu' : u ∈ succ2 u := hu
    unfold succ2 at hu'
    by_cases h0 : u = 0
    · subst h0; simp at hu'
    · simp [h0] at hu'
  wS_nonneg := by
    intro tr htr f hf u
    rw [P2_spont tr htr] at hf
    obtain rfl := Option.some.inj hf
    unfold wS2
    positivity
  wI_nonneg := by
    intro tr htr f hf u v
    rw [P2_ind tr htr] at hf
    obtain rfl := Option.some.inj hf
    unfold wI2
    norm_num
  rate_nonneg := by
    constructor
    · intro tr htr; rw [P2_spont tr htr]; decide
    · intro tr htr; rw [P2_ind tr htr]; decide

/-- the arguments of the generated function: both `get_weight` tables are tabulated by the set-up -/
def A2 : SArgs String where
  nodes := [0, 1]
  nbrs := succ2
  pred := pred2
  directed := true
  ic := ic2
  ret := ["S", "I"]
  spont := [("I", "S")]
  induced := [(("I", "S"), ("I", "I"))]
  rate := fun k => match k with | .inl _ => 1 | .inr _ => 2
  spHas := fun s => decide (s = "I") || decide (s = "S")
  spOut := fun s => if s = "I" then [("I", "S")] else []
  inHas := fun p => decide (p = ("I", "S")) || decide (p = ("I", "I"))
  inOut := fun p => if p = ("I", "S") then [(("I", "S"), ("I", "I"))] else []
  pt0 := [(Sum.inl ("I", "S"), GenLD.init true), (Sum.inr (("I", "S"), ("I", "I")), GenLD.init true)]
  gw0 := [(Sum.inl ("I", "S"), [([0], some 1), ([1], some 2)]), (Sum.inr (("I", "S"), ("I", "I")), [([0, 1], some 3)])]
  tmin := 0
  tmax := some 1
  full := false
  cfuel := 5

theorem A2_gw0 : GWInv P2 A2.gw0 where
  spontW := by
    intro tr h f hf u hu
    rw [P2_spont tr h] at hf ⊢
    obtain rfl := Option.some.inj hf
    rcases mem_nodes2 hu with rfl | rfl
    · exact ⟨by decide +kernel, by decide +kernel⟩
    · exact ⟨by decide +kernel, by decide +kernel⟩
  spontU := by intro tr h hf; rw [P2_spont tr h] at hf; cases hf
  indW := by
    intro tr h f hf u hu v hv
    rw [P2_ind tr h] at hf ⊢
    obtain rfl := Option.some.inj hf
    have hv' : v ∈ succ2 u := hv
    rcases mem_nodes2 hu with rfl | rfl
    · have : v = 1 := by simpa [succ2] using hv'
      subst this
      exact ⟨by decide +kernel, by decide +kernel⟩
    · simp [succ2] at hv'
  indU := by intro tr h hf; rw [P2_ind tr h] at hf; cases hf

theorem A2_agree : Agree A2 P2 ic2 0 (some 1) 5 where
  nodes := rfl
  nbrs := rfl
  pred := rfl
  directed := rfl
  ic := rfl
  ret := rfl
  spont := rfl
  induced := rfl
  rateS := by intro tr h; rw [P2_spont tr h]; rfl
  rateI := by intro tr h; rw [P2_ind tr h]; rfl
  spOut := fun x => out_single ("I", "S") x
  spHas := fun x hx => out_nil x _ _ _ hx
  inOut := fun x => out_single (("I", "S"), ("I", "I")) x
  inHas := fun x hx => out_nil x _ _ _ hx
  pt0S := by intro tr h; rw [P2_spont tr h]; rfl
  pt0I := by intro tr h; rw [P2_ind tr h]; rfl
  gw0 := A2_gw0
  tmin := rfl
  tmax := rfl
  cfuel := rfl

theorem P2_keysS : (P2.spont.map (kS (τ := String))).Nodup := by simp [P2]
theorem P2_keysI : (P2.ind.map (kI (τ := String))).Nodup := by simp [P2]
theorem P2_ret_nodup : P2.ret.Nodup := by decide

/-- clock draw 1/10 (rate 1·1 + 2·3 = 7), uniform 1/2 (shares 1/7, 6/7: the transmission), `random.choice` index 0 and
acceptance draw 1/2 < 3/3 (weighted rejection step), clock draw 2 (rate 1·(1+2) = 3; 21/10 > tmax) -/
def tape2 : TapeSt := { tape := [.expo (1/10), .unif (1/2), .choice 0, .unif (1/2), .expo 2] }

/-- the GENERATED code: node 1 is infected; both nodes are recovery candidates with weights 1 and 2 (running total 3),
the transmission structure is empty (total reset to 0 by `remove`) -/
example : ((run A2 2 tape2).toOption.map fun (σ, _) => (σ.times, σ.data)) =
    some ([some 0, some (1/10)], [("S", [1, 0]), ("I", [1, 2])]) := by decide +kernel

example : ((run A2 2 tape2).toOption.map fun (σ, _) =>
      σ.potential_transitions.map fun kp => (kp.2.items, kp.2.weight)) =
    some [([[0], [1]], [([0], 1), ([1], 2)]), ([], [])] := by decide +kernel

example : ((run A2 2 tape2).toOption.map fun (σ, _) => σ.potential_transitions.map fun kp => kp.2.total_weight_) =
    some [3, 0] := by decide +kernel

example : ((run A2 2 tape2).toOption.map fun (σ, ts) => (σ.t, ts.tape)) = some (some (21/10), []) := by
  decide +kernel

example : ((run A2 2 tape2).toOption.map fun (_, ts) => ts.trace.toList) =
    some [Call.expo 7, Call.unif, Call.choice [[0, 1]], Call.unif, Call.expo 3] := by decide +kernel

example : ((Simple.run P2 ic2 0 (some 1) 2 5 tape2).toOption.map fun (s, _) => (s.times, s.data)) =
    some ([1/10, 0], [[0, 1], [2, 1]]) := by decide +kernel

example : ((Simple.run P2 ic2 0 (some 1) 2 5 tape2).toOption.map fun (s, _) =>
      (s.ptS ++ s.ptI).map fun l => (l.items, l.weight)) =
    some [([[0], [1]], [([0], 1), ([1], 2)]), ([], [])] := by decide +kernel

example : ((Simple.run P2 ic2 0 (some 1) 2 5 tape2).toOption.map fun (s, _) => (s.ptS ++ s.ptI).map (·.total)) =
    some [3, 0] := by decide +kernel

example : ((Simple.run P2 ic2 0 (some 1) 2 5 tape2).toOption.map fun (_, ts) => (ts.tape, ts.trace.toList)) =
    some ([], [Call.expo 7, Call.unif, Call.choice [[0, 1]], Call.unif, Call.expo 3]) := by decide +kernel

example (fuel : Nat) (ts : TapeSt) : ResRel P2 (run A2 fuel ts) (Simple.run P2 ic2 0 (some 1) fuel 5 ts) :=
  gen_run_bisim A2 P2 ic2 0 (some 1) 5 A2_agree P2_wf P2_keysS P2_keysI P2_ret_nodup fuel ts

example (fuel : Nat) (ts : TapeSt) : run A2 fuel ts ≠ .error "KeyError" :=
  gen_run_no_keyerror A2 P2 ic2 0 (some 1) 5 A2_agree P2_wf P2_keysS P2_keysI P2_ret_nodup fuel ts

end GenSC.Example2

#print axioms GenSC.gen_run_bisim
#print axioms GenSC.gen_run_refines
#print axioms GenSC.gen_run_refines_back
#print axioms GenSC.gen_run_fails_iff
#print axioms GenSC.gen_loop_bisim
#print axioms GenSC.gen_init_refines
#print axioms GenSC.gen_repair_id
#print axioms GenSC.gen_repair_stmt
#print axioms GenSC.gen_choice
#print axioms GenSC.gen_loop_unfold
#print axioms GenSC.gen_run_inv_spont
#print axioms GenSC.gen_run_inv_ind
#print axioms GenSC.gen_run_clock
#print axioms GenSC.gen_run_counts
#print axioms GenSC.gen_loop_inv
#print axioms GenSC.gen_run_no_keyerror
