import EoNVerif.Proofs.GenEqLoops
import EoNVerif.Proofs.GenEq
/-!
Tie by translation for the loop-style right-hand sides (C06 / C07).  `Gen/AnalyticLoops.lean` is regenerated from
`EoN/analytic.py` on every run by `harness/py2lean_loops.py` (Python `for` loops become `List.foldl` over the iteration
list, `a[i] = v` / `a[s,i] = v` become `Gen.upd1` / `Gen.upd2`).  The theorems below state that each generated
function equals the hand-written model the ODE theorems are about — for every size, state and parameter; no
hypothesis on the graph, the rates or the state is needed.

The proofs never spell out the generated terms: the fold is captured with `generalize`, the loop bodies are matched
by unification against the generic loop lemmas of `Proofs/GenEqLoops.lean` (`foldl_upd1_range`, `foldl_upd1_pair_dep`,
`foldl_block_cells`, `foldl_upd2_block_pair`), reads of the packed state are rewritten by `simp` (under `sumTo`
binders through the congruence rule `sumTo_congr_simp`, index side conditions by `omega`), and the remaining
"generated expression = model expression" goals are closed by `gen_finish` (syntactic equality, else ring/AC
normalisation).  A change of an index, bound, guard, sign or term in the Python source breaks them; re-association or
commutation of products and sums does not.

State vectors are packed the way the solvers pack them: `flat A B M` is the row-major flattening of an `A × B` matrix
(`M.shape = A*B`), `V.append` is `np.concatenate`, `V.ofList` is `np.array([...])`.
-/
-- the `<;> gen_finish` after `simp` / `dsimp` stays although `simp` closes the goal for the present text of the source:
-- after a re-translation that only re-associates a product it is `gen_finish` that closes it; hence the two linters off
set_option linter.unusedTactic false
set_option linter.unreachableTactic false
namespace GenEqLoops
open Gen ODE
attribute [local congr] sumTo_congr_simp

/-- `_dSIS_effective_degree_`.  Called on the flat vector `concatenate(Ssi.flat, Isi.flat)`
with `original_shape = (A, B)`, the Python function returns a vector of length `2·A·B` whose entry `s*B+i` is the
model's `dS_{s,i}` and whose entry `A*B + s*B+i` is the model's `dI_{s,i}` (`ODE.sisEffDeg`), for every cell of the
`A × B` block.  Covers: the unpacking `X[:ksq]`, `X[ksq:]`, the reshape, the four double sums, the two `== 0` guards,
the boundary cases `s==0 or i+1==B`, `i==0 or s+1==A`, the nested loop writing `dSsi[s,i]`, `dIsi[s,i]`, and the
re-packing. -/
theorem gen_sisEffDeg (A B : Nat) (tau gamma : Rat) (Ssi Isi : Nat → Nat → Rat) :
    let r := dSIS_effective_degree (V.append (flat A B Ssi) (flat A B Isi)) A B tau gamma
    let m := sisEffDeg A B tau gamma Ssi Isi
    r.n = A * B + A * B ∧
      ∀ s i, s < A → i < B → r.f (s * B + i) = m.1 s i ∧ r.f (A * B + (s * B + i)) = m.2 s i := by
  intro r m
  have hS : ∀ s i, s < A → i < B → (V.append (flat A B Ssi) (flat A B Isi)).f (s * B + i) = Ssi s i :=
    fun s i hs hi => by rw [V.append_f_lt _ _ _ (RowMajor.rm_lt_rect _ _ _ _ hs hi), flat_f A B Ssi hi]
  have hI : ∀ s i, s < A → i < B → (V.append (flat A B Ssi) (flat A B Isi)).f (A * B + (s * B + i)) = Isi s i :=
    fun s i hs hi => by rw [GenEq.append_f_ge' _ _ (A * B) _ rfl, flat_f A B Isi hi]
  simp only [r, dSIS_effective_degree]
  generalize hres : List.foldl _ (_ : (Nat → Nat → Rat) × (Nat → Nat → Rat)) (List.range A) = res
  have key : (∀ k l, res.1 k l = if k < A ∧ l < B then m.1 k l else 0) ∧
      (∀ k l, res.2 k l = if k < A ∧ l < B then m.2 k l else 0) := by
    rw [← hres]
    refine foldl_upd2_block_pair _ _ m.1 m.2 A B (fun st s _ => rfl) ?_ _ _
    clear hres
    intro a b s i hs hi
    refine Prod.ext (congrArg (upd2 a s i) ?_) (congrArg (upd2 b s i) ?_)
    · simp (disch := omega) only [hS, hI]
      dsimp +instances only [m, sisEffDeg, sum2, kf] <;> gen_finish
    · simp (disch := omega) only [hS, hI]
      dsimp +instances only [m, sisEffDeg, sum2, kf] <;> gen_finish
  obtain ⟨k1, k2⟩ := key
  refine ⟨rfl, fun s i hs hi => ⟨?_, ?_⟩⟩
  · rw [V.append_f_lt _ _ _ (RowMajor.rm_lt_rect _ _ _ _ hs hi)]
    simp only [RowMajor.rm_div _ _ _ hi, RowMajor.rm_mod _ _ _ hi, k1 s i, hs, hi, and_self, if_true]
  · rw [GenEq.append_f_ge' _ _ (A * B) _ rfl]
    simp only [RowMajor.rm_div _ _ _ hi, RowMajor.rm_mod _ _ _ hi, k2 s i, hs, hi, and_self, if_true]

/-- `_dSIR_effective_degree_`.  Called on `concatenate(Ssi.flat, [R])` with
`original_shape = (A, B)`, the Python function returns a vector of length `A·B + 1` whose entry `s*B+i` is the model's
`dS_{s,i}` and whose last entry is the model's `dR` (`ODE.sirEffDeg`).  Covers `R = X[-1]`, `Ssi = X[:-1]`, the
reshape, the sums, the `SS == 0` guard, the boundary cases `i+1==B`, `s+1==A or i==0`, the nested loop and
`dR = gamma*(N - Ssi.sum() - R)`. -/
theorem gen_sirEffDeg (A B : Nat) (tau gamma N : Rat) (Ssi : Nat → Nat → Rat) (R : Rat) :
    let r := dSIR_effective_degree (V.append (flat A B Ssi) (V.ofList [R])) N A B tau gamma
    let m := sirEffDeg A B tau gamma N Ssi R
    r.n = A * B + 1 ∧ (∀ s i, s < A → i < B → r.f (s * B + i) = m.1 s i) ∧ r.f (A * B + 0) = m.2 := by
  intro r m
  have hS : ∀ s i, s < A → i < B → (V.append (flat A B Ssi) (V.ofList [R])).f (s * B + i) = Ssi s i :=
    fun s i hs hi => by rw [V.append_f_lt _ _ _ (RowMajor.rm_lt_rect _ _ _ _ hs hi), flat_f A B Ssi hi]
  have hn : (V.append (flat A B Ssi) (V.ofList [R])).n - 1 = A * B := by simp
  have hR : (V.append (flat A B Ssi) (V.ofList [R])).f (A * B) = R := by
    have := GenEq.append_f_ge' (flat A B Ssi) (V.ofList [R]) (A * B) 0 rfl
    rw [Nat.add_zero] at this
    rw [this]; rfl
  simp only [r, dSIR_effective_degree, hn, hR]
  generalize hres : List.foldl _ (_ : Nat → Nat → Rat) (List.range A) = res
  have key : ∀ k l, res k l = if k < A ∧ l < B then m.1 k l else 0 := by
    rw [← hres]
    refine foldl_block_cells id _ _ m.1 A B (fun st s _ => rfl) ?_ _
    clear hres
    intro a s i hs hi
    refine congrArg (upd2 a s i) ?_
    simp (disch := omega) only [hS]
    dsimp +instances only [m, sirEffDeg, sum2, kf] <;> gen_finish
  refine ⟨rfl, fun s i hs hi => ?_, ?_⟩
  · rw [V.append_f_lt _ _ _ (RowMajor.rm_lt_rect _ _ _ _ hs hi)]
    simp only [RowMajor.rm_div _ _ _ hi, RowMajor.rm_mod _ _ _ hi, key s i, hs, hi, and_self, if_true]
  · rw [GenEq.append_f_ge' _ _ (A * B) _ rfl]
    simp (disch := omega) only [sum2, hS, GenEq.ofList_f0]
    dsimp +instances only [m, sirEffDeg, sum2] <;> gen_finish

/-- `_dSIS_individual_based_`.  For `N` nodes with neighbour lists `nbrs` (as indices), the
loop `for index, (node, Yi) in enumerate(zip(nodelist, Y)): dY[index] = sum(...) - rec_rate_fxn(node)*Yi` returns a
vector of length `N` whose entry `i` is the model's `ODE.sisIndividual nbrs tr rr Y i`.  No assumption on the graph
(self-loops, repeated or out-of-range neighbours are all allowed). -/
theorem gen_sisIndividual (N : Nat) (nbrs : Nat → List Nat) (tr : Nat → Nat → Rat) (rr : Nat → Rat) (Y : Nat → Rat) :
    let r := dSIS_individual_based ⟨N, Y⟩ N nbrs tr rr
    r.n = N ∧ ∀ i, i < N → r.f i = sisIndividual nbrs tr rr Y i := by
  intro r
  refine ⟨rfl, ?_⟩
  intro i hi
  simp only [r, dSIS_individual_based]
  rw [foldl_upd1_range]
  simp only [hi, if_true, sisIndividual] <;> gen_finish

/-- `_dSIR_individual_based_`.  Called on `concatenate(X, Y)`, the loop that sets
`dX[index] = -Xi*sum(...)` and then `dY[index] = -dX[index] - rec_rate_fxn(node)*Yi` (reading the cell of `dX` written
in the same iteration) returns a vector of length `2N` whose entries `i` and `N+i` are the two components of
`ODE.sirIndividual nbrs tr rr X Y` at `i`.  No assumption on the graph. -/
theorem gen_sirIndividual (N : Nat) (nbrs : Nat → List Nat) (tr : Nat → Nat → Rat) (rr : Nat → Rat) (X Y : Nat → Rat) :
    let r := dSIR_individual_based (V.append ⟨N, X⟩ ⟨N, Y⟩) N nbrs tr rr
    let m := sirIndividual nbrs tr rr X Y
    r.n = N + N ∧ ∀ i, i < N → r.f i = m.1 i ∧ r.f (N + i) = m.2 i := by
  intro r m
  have hX : ∀ j, j < N → (V.append ⟨N, X⟩ ⟨N, Y⟩).f j = X j := fun j hj => V.append_f_lt _ _ j hj
  have hY : ∀ j, (V.append ⟨N, X⟩ ⟨N, Y⟩).f (N + j) = Y j := fun j => V.append_f_ge ⟨N, X⟩ ⟨N, Y⟩ j
  simp only [r, dSIR_individual_based]
  generalize hres : List.foldl _ (_ : (Nat → Rat) × (Nat → Rat)) (List.range N) = res
  have key : (∀ k, res.1 k = if k < N then m.1 k else 0) ∧ (∀ k, res.2 k = if k < N then m.2 k else 0) := by
    rw [← hres]
    exact foldl_upd1_pair_dep _ (fun i => m.1 i) (fun i d => -d - rr i * Y i) N
      (fun a b i hi => by simp only [hX i hi, hY, m, sirIndividual] <;> gen_finish) _ _
  obtain ⟨k1, k2⟩ := key
  refine ⟨rfl, fun i hi => ⟨?_, ?_⟩⟩
  · rw [V.append_f_lt _ _ i hi]
    simp only [k1 i, hi, if_true]
  · rw [V.append_f_ge ⟨N, res.1⟩ ⟨N, res.2⟩ i]
    simp only [k2 i, hi, if_true]

/-! ### consequences transported to the generated code (examples of use) -/

/-- the last component returned by the generated `_dSIR_effective_degree_` is `γ (N − Σ_{s,i} S_{s,i} − R)`, i.e.
`dR = γ·I` with `I = N − S − R`. -/
theorem gen_sirEffDeg_dR (A B : Nat) (tau gamma N : Rat) (Ssi : Nat → Nat → Rat) (R : Rat) :
    (dSIR_effective_degree (V.append (flat A B Ssi) (V.ofList [R])) N A B tau gamma).f (A * B)
      = gamma * (N - sum2 A B Ssi - R) := by
  obtain ⟨_, _, h⟩ := gen_sirEffDeg A B tau gamma N Ssi R
  rw [Nat.add_zero] at h
  rw [h]
  rfl

/-- the generated `_dSIR_individual_based_` moves probability only from X to Y to Z: for every node
`dX_i + dY_i = −γ_i Y_i` (whatever the graph and the transmission rates are). -/
theorem gen_sirIndividual_flow (N : Nat) (nbrs : Nat → List Nat) (tr : Nat → Nat → Rat) (rr : Nat → Rat)
    (X Y : Nat → Rat) (i : Nat) (hi : i < N) :
    (dSIR_individual_based (V.append ⟨N, X⟩ ⟨N, Y⟩) N nbrs tr rr).f i
      + (dSIR_individual_based (V.append ⟨N, X⟩ ⟨N, Y⟩) N nbrs tr rr).f (N + i) = -(rr i * Y i) := by
  obtain ⟨_, h⟩ := gen_sirIndividual N nbrs tr rr X Y
  obtain ⟨h1, h2⟩ := h i hi
  rw [h1, h2]
  simp only [sirIndividual]
  ring

/-! ### non-vacuity: concrete instances (the generated code is evaluated by the kernel) -/

def exS : Nat → Nat → Rat := fun s i => ((s + 2 * i + 1 : Nat) : Rat) / 20
def exI : Nat → Nat → Rat := fun s i => ((2 * s + i + 1 : Nat) : Rat) / 40
def exNbrs : Nat → List Nat := fun i => [(i + 1) % 3, (i + 2) % 3]
def exTr : Nat → Nat → Rat := fun i j => ((i + j + 1 : Nat) : Rat) / 2
def exRr : Nat → Rat := fun i => ((i + 1 : Nat) : Rat) / 3

/-- the generated SIS effective-degree code on the 2 × 2 state, all 8 components -/
example : (dSIS_effective_degree (V.append (flat 2 2 exS) (flat 2 2 exI)) 2 2 (1/2) (1/3)).toList
    = [1/120, -3/40, 1/24, -1/5, -1/120, 19/240, -11/240, -1/60] := by decide +kernel

/-- ... and the model gives the same numbers (as `gen_sisEffDeg` says) -/
example : (sisEffDeg 2 2 (1/2) (1/3) exS exI).1 1 0 = 1/24 ∧ (sisEffDeg 2 2 (1/2) (1/3) exS exI).2 0 1 = 19/240 := by
  decide +kernel

example : (dSIS_effective_degree (V.append (flat 2 2 exS) (flat 2 2 exI)) 2 2 (1/2) (1/3)).f (1 * 2 + 0)
    = (sisEffDeg 2 2 (1/2) (1/3) exS exI).1 1 0 :=
  ((gen_sisEffDeg 2 2 (1/2) (1/3) exS exI).2 1 0 (by decide) (by decide)).1

/-- the generated SIR effective-degree code on the 2 × 2 state with R = 1/10, N = 1 -/
example : (dSIR_effective_degree (V.append (flat 2 2 exS) (V.ofList [1/10])) 1 2 2 (1/2) (1/3)).toList
    = [1/20, -11/120, 1/30, -7/30, 2/15] := by decide +kernel

example : (dSIR_effective_degree (V.append (flat 2 2 exS) (V.ofList [1/10])) 1 2 2 (1/2) (1/3)).f (2 * 2)
    = (1/3) * (1 - sum2 2 2 exS - 1/10) :=
  gen_sirEffDeg_dR 2 2 (1/2) (1/3) 1 exS (1/10)

/-- the generated individual-based code on a triangle with heterogeneous rates -/
example : (dSIS_individual_based ⟨3, fun i => ((i + 1 : Nat) : Rat) / 10⟩ 3 exNbrs exTr exRr).toList
    = [331/600, 32/75, 17/200] := by decide +kernel

example : (dSIS_individual_based ⟨3, fun i => ((i + 1 : Nat) : Rat) / 10⟩ 3 exNbrs exTr exRr).f 1
    = sisIndividual exNbrs exTr exRr (fun i => ((i + 1 : Nat) : Rat) / 10) 1 :=
  (gen_sisIndividual 3 exNbrs exTr exRr _).2 1 (by decide)

example : (dSIR_individual_based (V.append ⟨3, fun i => ((9 - i : Nat) : Rat) / 10⟩ ⟨3, fun i => ((i + 1 : Nat) : Rat) / 20⟩)
      3 exNbrs exTr exRr).toList
    = [-117/400, -7/25, -77/400, 331/1200, 16/75, 17/400] := by decide +kernel

example : (dSIR_individual_based (V.append ⟨3, fun i => ((9 - i : Nat) : Rat) / 10⟩ ⟨3, fun i => ((i + 1 : Nat) : Rat) / 20⟩)
      3 exNbrs exTr exRr).f (3 + 2)
    = (sirIndividual exNbrs exTr exRr (fun i => ((9 - i : Nat) : Rat) / 10) (fun i => ((i + 1 : Nat) : Rat) / 20)).2 2 :=
  ((gen_sirIndividual 3 exNbrs exTr exRr _ _).2 2 (by decide)).2

end GenEqLoops
