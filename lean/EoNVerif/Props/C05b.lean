import EoNVerif.Model.InitArgs
import EoNVerif.Model.History
import EoNVerif.Proofs.InitHist
/-!
C05 / C10 — argument normalisation shared by all simulators (`InitArgs`) and the construction of
node histories from infection / recovery times (`History`, the model of `_transform_to_node_history_`).
-/
namespace InitArgs

/-- Python's round-half-even on an exactly represented product -/
theorem roundHalfEven_spec (x : Rat) :
    x - (roundHalfEven x : Rat) ≤ 1 / 2 ∧ (roundHalfEven x : Rat) - x ≤ 1 / 2 ∧
    (x - (x.floor : Rat) = 1 / 2 → (roundHalfEven x) % 2 = 0) := by
  have hfl : (x.floor : Rat) ≤ x := Rat.floor_le x
  have hlt : x < ((x.floor + 1 : Int) : Rat) := Rat.floor_lt_iff.mp (Int.lt_succ_self _)
  -- rounding down errs by `x - ⌊x⌋`, rounding up by `1 - (x - ⌊x⌋)`
  have hdown : (x.floor : Rat) - x ≤ 1 / 2 := (sub_nonpos.mpr hfl).trans (by norm_num)
  have hup : x - ((x.floor + 1 : Int) : Rat) ≤ 1 / 2 := (sub_neg.mpr hlt).le.trans (by norm_num)
  have hup' : ¬ x - (x.floor : Rat) < 1 / 2 → ((x.floor + 1 : Int) : Rat) - x ≤ 1 / 2 := by
    intro h; push_cast; linarith
  unfold roundHalfEven
  simp only
  split_ifs with h1 h2 h3
  · exact ⟨h1.le, hdown, fun he => absurd he h1.ne⟩
  · exact ⟨hup, hup' h1, fun he => absurd he h2.ne'⟩
  · exact ⟨le_of_not_gt h2, hdown, fun _ => h3⟩
  · exact ⟨hup, hup' h1, fun _ => by omega⟩

/-- a collection is taken as is and consumes no randomness -/
theorem normInit_nodes (n : Nat) (l : List Node) (ts : TapeSt) : normInit n (.nodes l) ts = .ok (l, ts) := by
  rfl

/-- a single node means the same as the one-element collection -/
theorem normInit_single (n : Nat) (u : Node) : normInit n (.single u) = normInit n (.nodes [u]) := by
  rfl

/-- `rho` selects exactly `int(round(N·rho))` distinct nodes of the graph -/
theorem normInit_rho (n : Nat) (r : Rat) (ts ts' : TapeSt) (l : List Node)
    (h : normInit n (.rho r) ts = .ok (l, ts')) :
    (l.length : Int) = roundHalfEven ((n : Rat) * r) ∧ l.Nodup ∧ ∀ u ∈ l, u < n := by
  simp only [normInit] at h
  split at h
  · cases h
  · rename_i hk
    obtain ⟨h1, h2, h3⟩ := popSample_ok _ _ _ _ _ h
    refine ⟨?_, h2, h3⟩
    omega

/-- neither given: one uniformly sampled node -/
theorem normInit_default (n : Nat) (ts ts' : TapeSt) (l : List Node)
    (h : normInit n .default ts = .ok (l, ts')) : l.length = 1 ∧ ∀ u ∈ l, u < n := by
  obtain ⟨h1, _, h3⟩ := popSample_ok _ _ _ _ _ h
  exact ⟨h1, h3⟩

/-- giving both is rejected with EoNError, whatever the values (also node 0, an empty list, rho = 0) -/
theorem normInit_both (n : Nat) (l : List Node) (r : Rat) (ts : TapeSt) :
    normInit n (.both l r) ts = .error "EoNError" := by
  rfl

end InitArgs

namespace History
open Pred

/-- a node infected and recovered strictly after tmin: the history is the plain event history (C10's `histOf`) -/
theorem sirHist_generic (tmin ti tr : Rat) (h1 : tmin < ti) (h2 : ti ≤ tr) :
    sirHist tmin (some ti) (some tr) = [(tmin, "S"), (ti, "I"), (tr, "R")] ∧
    sirHist tmin (some ti) none = [(tmin, "S"), (ti, "I")] ∧
    sirHist tmin none none = [(tmin, "S")] := by
  have e1 : ti ≠ tmin := ne_of_gt h1
  have e2 : tr ≠ tmin := ne_of_gt (lt_of_lt_of_le h1 h2)
  simp [sirHist, e1, e2]

/-- initially infected / recovered nodes start with 'I' / 'R' at tmin -/
theorem sirHist_initial (tmin tr : Rat) (h : tmin < tr) :
    sirHist tmin (some tmin) none = [(tmin, "I")] ∧
    sirHist tmin (some tmin) (some tr) = [(tmin, "I"), (tr, "R")] ∧
    sirHist tmin none (some tmin) = [(tmin, "R")] := by
  have e2 : tr ≠ tmin := ne_of_gt h
  simp [sirHist, e2]

/-- a degenerate case: infected at tmin *and* recovered at tmin (zero duration) loses its 'I' entry -/
theorem sirHist_zero_duration (tmin : Rat) : sirHist tmin (some tmin) (some tmin) = [(tmin, "R")] := by
  simp [sirHist]

/-- every SIR history built this way is well-formed (starts at tmin, ordered, legal moves) -/
theorem sirHist_wf (tmin : Rat) (inf rec : Option Rat)
    (h1 : ∀ ti, inf = some ti → tmin ≤ ti) (h2 : ∀ tr, rec = some tr → tmin ≤ tr)
    (h3 : ∀ ti tr, inf = some ti → rec = some tr → ti ≤ tr)
    (h4 : ∀ tr, rec = some tr → inf = none → tr = tmin) :
    histWF true tmin (sirHist tmin inf rec) = true := by
  have h0 : histWF true tmin [(tmin, "S")] = true := histWFg_singleton _ tmin "S"
  cases inf with
  | none =>
    cases rec with
    | none => exact h0
    | some tr =>
      have e := h4 tr rfl rfl
      subst e
      show histWF true tr ((if tr = tr then [] else _) ++ [(tr, "R")]) = true
      rw [if_pos rfl]
      exact histWFg_singleton _ tr "R"
  | some ti =>
    have hI : histWF true tmin ((if ti = tmin then [] else [(tmin, "S")]) ++ [(ti, "I")]) = true :=
      histWFg_reset_append _ _ _ tmin ti "S" "I" h0 rfl (h1 ti rfl) (by decide)
    cases rec with
    | none => exact hI
    | some tr => exact histWFg_reset_append _ _ _ ti tr "I" "R" hI (by simp) (h3 ti tr rfl rfl) (by decide)

/-- SIS: alternating, non-decreasing infection / recovery times, none before `tmin`: the history is well formed.  The
conjunct `tmin < ti` of `halt` is not used (a reinfection at `tmin` only resets the history: `sisLoop_wf`). -/
theorem sisHist_wf (tmin : Rat) (infs recs : List Rat)
    (hlen : recs.length ≤ infs.length ∧ infs.length ≤ recs.length + 1)
    (hfirst : ∀ t ∈ infs, tmin ≤ t)
    (halt : ∀ k, (∀ ti tr, infs[k]? = some ti → recs[k]? = some tr → ti ≤ tr) ∧
                 (∀ tr ti, recs[k]? = some tr → infs[k + 1]? = some ti → tr ≤ ti ∧ tmin < ti)) :
    histWF false tmin (sisHist tmin infs recs) = true :=
  sisLoop_wf tmin infs recs [(tmin, "S")] tmin (histWFg_singleton _ tmin "S") rfl hlen
    (fun ti hti => hfirst ti (List.mem_of_getElem? hti))
    (fun k => ⟨(halt k).1, fun tr ti hr hi => ((halt k).2 tr ti hr hi).1⟩)

end History

