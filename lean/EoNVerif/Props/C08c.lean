import EoNVerif.Proofs.GenHelp
import EoNVerif.Props.C08
/-!
C08c — the C08 statements about final sizes and the discrete-time EBCM for the Lean code GENERATED from
`EoN/analytic.py` (`GenHelp.EBCM_discrete`, `EBCM_discrete_uniform_introduction`, `Attack_rate_discrete`,
`Epi_Prob_discrete`, `Attack_rate_cts_time` of Gen/HelpersGen.lean), for ALL inputs.  Lemmas: Proofs/GenHelp.lean.

Vocabulary (Proofs/GenHelp.lean): `guard y = if y = 0 then 1 else y` (the Python `if psihatPrime1 == 0: psihatPrime1 = 1`);
`thetaMap f' p φS φR θ = 1 − p + p(φR + φS·f'(θ)/guard(f'(1)))`; `ebcmNext` one pass of the loop of `EBCM_discrete` on
(θ, R, S, I); `ebcmTraj … n` the state after `n` passes; `psiHatAL / psiHatPAL Pk Sk0` the sums ψ̂, ψ̂' over the keys of
`Pk`; `omegaMap` the ω-iteration; `alphaMap` the α-iteration.

Behaviour (exact):
* `EBCM_discrete` with total callbacks never raises (the guard removes the only division by zero; `tmax < tmin` gives a
  single row).
* `Attack_rate_discrete`: EoNError when `rho` and `Sk0` are both given; with `Sk0 = None` and `rho ∈ {None, 0}` it IS
  `Epi_Prob_discrete` (which raises ValueError on an empty `Pk` and ZeroDivisionError when ψ'(1) = 0 and
  `number_its > 0`) — the other branch never raises these: an empty `Pk` there gives ZeroDivisionError from the default
  `phiS0 = ψ̂'(1)/Σ k Pk[k]` (or the value 1 when `phiS0` is given).
* A key of `Pk` missing from `Sk0` raises KeyError — except that a missing key `0` is only read by `psihat` at the very
  end, after the default `phiS0` was computed, so `Pk = {0: 1}, Sk0 = {}` raises ZeroDivisionError, not KeyError.
* `Attack_rate_cts_time`: same, plus ZeroDivisionError iff `gamma + tau = 0` (after `phiS0`); `rho = None` means `rho = 0`
  (no early return through `Epi_Prob_discrete`).  With `phiS0` given, `gamma/(gamma + tau)` is computed before the first
  `psihatPrime(1)`, so `gamma + tau = 0` then wins over a missing key (`Attack_rate_cts_some`).
-/
namespace GenHelpFinal
open GenHelpProofs

theorem getD_map_range {α : Type} (F : Nat → α) (m n : Nat) (d : α) (h : n < m) :
    ((List.range m).map F).getD n d = F n := by
  simp [List.getD, h]

/-! ### EBCM_discrete -/

/-- **generated EBCM_discrete, total callbacks, all parameters**: never an error; the columns are the trajectory of
`ebcmNext` on `0..(tmax−tmin)` (`Int.toNat`: an empty loop when `tmax < tmin`) -/
theorem gen_EBCM_discrete_eq (N : Rat) (f f' : Rat → Rat) (p phiS0 phiR0 R0 : Rat) (tmin tmax : Int) (full : Bool) :
    GenHelp.EBCM_discrete N (fun x => pure (f x)) (fun x => pure (f' x)) p phiS0 phiR0 R0 tmin tmax full
      = .ok (
        let m := (tmax - tmin).toNat
        let tr := ebcmTraj N f f' p phiS0 phiR0 R0
        let times := (List.range (m + 1)).map (fun (j : Nat) => ((tmin + (j : Int) : Int) : Rat))
        let S := (List.range (m + 1)).map (fun j => (tr j).2.2.1)
        let I := (List.range (m + 1)).map (fun j => (tr j).2.2.2)
        let R := (List.range (m + 1)).map (fun j => (tr j).2.1)
        let theta := (List.range (m + 1)).map (fun j => (tr j).1)
        if full then [times, S, I, R, theta] else [times, S, I, R]) := by
  unfold GenHelp.EBCM_discrete
  simp only [pure_eq_ok, ok_bind]
  rw [ebcm_loop (ebcmNext N f f' p phiS0 phiR0) (ebcmInit N f R0) tmin]
  · simp only [cols, List.map_map]
    cases full <;> rfl
  · rfl
  · intro tm rows x t
    simp only [cols, List.map_append, List.map_singleton, listLast_concat, ok_bind, ite_decide_eq_guard,
      fdiv_ok _ _ (guard_ne_zero _)]
    rfl

/-- **generated EBCM_discrete: the specification**.  With `m = (tmax − tmin).toNat` (`= tmax − tmin` when
`tmin ≤ tmax`): the call succeeds; `return_full_data` only adds `theta` as fifth list; all lists have length `m + 1`;
`times = tmin, tmin+1, …`; at every index `S + I + R = N` and `S = N ψ̂(θ)`; `θ(0) = 1`, `R(0) = R0`;
`R(n+1) = R(n) + I(n)` and `θ(n+1) = 1 − p + p(φR + φS ψ̂'(θ(n))/g)` with `g = ψ̂'(1)`, replaced by 1 when it is 0 -/
theorem gen_EBCM_discrete_spec (N : Rat) (f f' : Rat → Rat) (p phiS0 phiR0 R0 : Rat) (tmin tmax : Int) :
    ∃ times S I R theta : List Rat,
      GenHelp.EBCM_discrete N (fun x => pure (f x)) (fun x => pure (f' x)) p phiS0 phiR0 R0 tmin tmax false
        = .ok [times, S, I, R] ∧
      GenHelp.EBCM_discrete N (fun x => pure (f x)) (fun x => pure (f' x)) p phiS0 phiR0 R0 tmin tmax true
        = .ok [times, S, I, R, theta] ∧
      (let m := (tmax - tmin).toNat
       times.length = m + 1 ∧ S.length = m + 1 ∧ I.length = m + 1 ∧ R.length = m + 1 ∧ theta.length = m + 1 ∧
       theta.getD 0 0 = 1 ∧ R.getD 0 0 = R0 ∧
       (∀ n, n ≤ m → times.getD n 0 = ((tmin + (n : Int) : Int) : Rat) ∧
          S.getD n 0 + I.getD n 0 + R.getD n 0 = N ∧ S.getD n 0 = N * f (theta.getD n 0)) ∧
       (∀ n, n < m → R.getD (n + 1) 0 = R.getD n 0 + I.getD n 0 ∧
          theta.getD (n + 1) 0 = (1 - p) + p * (phiR0 + phiS0 * f' (theta.getD n 0) / (if f' 1 = 0 then 1 else f' 1)))) := by
  refine ⟨_, _, _, _, _, gen_EBCM_discrete_eq N f f' p phiS0 phiR0 R0 tmin tmax false,
    gen_EBCM_discrete_eq N f f' p phiS0 phiR0 R0 tmin tmax true, ?_⟩
  have g : ∀ (F : Nat → Rat) n, n ≤ (tmax - tmin).toNat → ((List.range ((tmax - tmin).toNat + 1)).map F).getD n 0 = F n :=
    fun F n hn => getD_map_range F _ n 0 (Nat.lt_succ_of_le hn)
  simp only [List.length_map, List.length_range, true_and]
  refine ⟨g _ 0 (Nat.zero_le _), g _ 0 (Nat.zero_le _), fun n hn => ?_, fun n hn => ?_⟩
  · simp only [g _ n hn]
    exact ⟨trivial, ebcmTraj_conserve N f f' p phiS0 phiR0 R0 n, ebcmTraj_S N f f' p phiS0 phiR0 R0 n⟩
  · simp only [g _ n hn.le, g _ (n + 1) hn]
    exact ⟨ebcmTraj_R N f f' p phiS0 phiR0 R0 n, by rw [ebcmTraj_succ]; rfl⟩

/-- `tmax ≤ tmin`: the loop is empty, one row -/
theorem gen_EBCM_discrete_empty (N : Rat) (f f' : Rat → Rat) (p phiS0 phiR0 R0 : Rat) (tmin tmax : Int) (h : tmax ≤ tmin) :
    GenHelp.EBCM_discrete N (fun x => pure (f x)) (fun x => pure (f' x)) p phiS0 phiR0 R0 tmin tmax false
      = .ok [[(tmin : Rat)], [N * f 1], [N - N * f 1 - R0], [R0]] := by
  rw [gen_EBCM_discrete_eq]
  have : (tmax - tmin).toNat = 0 := by omega
  simp [this, ebcmTraj_zero, ebcmInit]

/-- a failing callback: its exception propagates (ψ̂ is called first, then ψ̂') -/
theorem gen_EBCM_discrete_error_psihat (N : Rat) (psihat psihatPrime : Rat → Except String Rat)
    (p phiS0 phiR0 R0 : Rat) (tmin tmax : Int) (full : Bool) (e : String) (h : psihat 1 = .error e) :
    GenHelp.EBCM_discrete N psihat psihatPrime p phiS0 phiR0 R0 tmin tmax full = .error e := by
  unfold GenHelp.EBCM_discrete
  rw [h]
  rfl
theorem gen_EBCM_discrete_error_psihatPrime (N : Rat) (psihat psihatPrime : Rat → Except String Rat)
    (p phiS0 phiR0 R0 : Rat) (tmin tmax : Int) (full : Bool) (e : String) (s0 : Rat) (h0 : psihat 1 = .ok s0)
    (h : psihatPrime 1 = .error e) :
    GenHelp.EBCM_discrete N psihat psihatPrime p phiS0 phiR0 R0 tmin tmax full = .error e := by
  unfold GenHelp.EBCM_discrete
  rw [h0, h]
  rfl

/-- the θ-component of the trajectory is the iteration of `thetaMap` from 1 -/
theorem gen_EBCM_theta_iterate (N : Rat) (f f' : Rat → Rat) (p phiS0 phiR0 R0 : Rat) (n : Nat) :
    (ebcmTraj N f f' p phiS0 phiR0 R0 n).1 = (thetaMap f' p phiS0 phiR0)^[n] 1 :=
  ebcmTraj_theta N f f' p phiS0 phiR0 R0 n

/-- **connection to the model of C08**: for ψ̂ = `ODE.psiH K c`, ψ̂' = `ODE.psiHP K c` with ψ̂'(1) ≠ 0 one pass of the
generated loop is `ODE.ebcmDiscreteStep`, and the θ-map is `ODE.attackDiscMap`.  The hypothesis is needed: for
ψ̂'(1) = 0 Python replaces the divisor by 1 while the model divides by 0 (Lean: `x/0 = 0`); counter-example below -/
theorem gen_EBCM_step_model (K : Nat) (c : Nat → Rat) (N p phiS0 phiR0 : Rat) (h1 : ODE.psiHP K c 1 ≠ 0) (x : EState) :
    ebcmNext N (ODE.psiH K c) (ODE.psiHP K c) p phiS0 phiR0 x =
      (let r := ODE.ebcmDiscreteStep K c N p phiS0 phiR0 x.1 x.2.2.2 x.2.1
       (r.1, r.2.2.2, r.2.1, r.2.2.1)) ∧
    thetaMap (ODE.psiHP K c) p phiS0 phiR0 x.1 = ODE.attackDiscMap K c p phiS0 phiR0 x.1 := by
  simp only [ebcmNext, thetaMap, ODE.ebcmDiscreteStep, ODE.attackDiscMap, guard_of_ne _ h1]
  exact ⟨trivial, trivial⟩

/-- the trajectory of the generated code on ψ̂ = `psiH K c` follows the model step, time by time -/
theorem gen_EBCM_traj_model (K : Nat) (c : Nat → Rat) (N p phiS0 phiR0 R0 : Rat) (h1 : ODE.psiHP K c 1 ≠ 0) (n : Nat) :
    let x := ebcmTraj N (ODE.psiH K c) (ODE.psiHP K c) p phiS0 phiR0 R0 n
    let y := ebcmTraj N (ODE.psiH K c) (ODE.psiHP K c) p phiS0 phiR0 R0 (n + 1)
    (y.1, y.2.2.1, y.2.2.2, y.2.1) = ODE.ebcmDiscreteStep K c N p phiS0 phiR0 x.1 x.2.2.2 x.2.1 := by
  simp only [ebcmTraj_succ, (gen_EBCM_step_model K c N p phiS0 phiR0 h1 _).1]

/-! ### fixed points -/

/-- at a fixed point of the θ-iteration nothing more happens to `S` (generic ψ̂) -/
theorem gen_EBCM_discrete_fixed (N : Rat) (f f' : Rat → Rat) (p phiS0 phiR0 R0 : Rat) (n : Nat)
    (hfix : thetaMap f' p phiS0 phiR0 (ebcmTraj N f f' p phiS0 phiR0 R0 n).1 = (ebcmTraj N f f' p phiS0 phiR0 R0 n).1) :
    (ebcmTraj N f f' p phiS0 phiR0 R0 (n + 1)).2.2.1 = (ebcmTraj N f f' p phiS0 phiR0 R0 n).2.2.1 ∧
    (ebcmTraj N f f' p phiS0 phiR0 R0 (n + 1)).1 = (ebcmTraj N f f' p phiS0 phiR0 R0 n).1 := by
  have hth : (ebcmTraj N f f' p phiS0 phiR0 R0 (n + 1)).1 = (ebcmTraj N f f' p phiS0 phiR0 R0 n).1 := by
    rw [ebcmTraj_succ]
    exact hfix
  refine ⟨?_, hth⟩
  rw [ebcmTraj_S, ebcmTraj_S N f f' p phiS0 phiR0 R0 n, hth]

/-- the same through C08 (`ODE.ebcm_discrete_fixed`) for ψ̂ = `psiH K c`: a fixed point of `ODE.attackDiscMap` -/
theorem gen_EBCM_discrete_fixed_model (K : Nat) (c : Nat → Rat) (N p phiS0 phiR0 R0 : Rat) (h1 : ODE.psiHP K c 1 ≠ 0)
    (n : Nat)
    (hfix : ODE.attackDiscMap K c p phiS0 phiR0 (ebcmTraj N (ODE.psiH K c) (ODE.psiHP K c) p phiS0 phiR0 R0 n).1
      = (ebcmTraj N (ODE.psiH K c) (ODE.psiHP K c) p phiS0 phiR0 R0 n).1) :
    (ebcmTraj N (ODE.psiH K c) (ODE.psiHP K c) p phiS0 phiR0 R0 (n + 1)).2.2.1
      = (ebcmTraj N (ODE.psiH K c) (ODE.psiHP K c) p phiS0 phiR0 R0 n).2.2.1 := by
  rw [ebcmTraj_succ, (gen_EBCM_step_model K c N p phiS0 phiR0 h1 _).1]
  simp only []
  rw [ODE.ebcm_discrete_fixed K c N p phiS0 phiR0 _ _ _ hfix, ebcmTraj_S]

/-! ### EBCM_discrete_uniform_introduction -/

/-- **generated uniform introduction = EBCM_discrete** with ψ̂ = (1−ρ)ψ, ψ̂' = (1−ρ)ψ', φS(0) = 1−ρ, φR(0) = 0, R0 = 0,
tmin = 0 (any callbacks, failing ones included) -/
theorem gen_EBCM_uniform_eq (N : Rat) (psi psiPrime : Rat → Except String Rat) (p rho : Rat) (tmax : Int) (full : Bool) :
    GenHelp.EBCM_discrete_uniform_introduction N psi psiPrime p rho tmax full =
      GenHelp.EBCM_discrete N (fun x => do let y ← psi x; pure ((1 - rho) * y))
        (fun x => do let y ← psiPrime x; pure ((1 - rho) * y)) p (1 - rho) 0 0 0 tmax full := rfl

theorem gen_EBCM_uniform_spec (N : Rat) (g g' : Rat → Rat) (p rho : Rat) (tmax : Int) (full : Bool) :
    GenHelp.EBCM_discrete_uniform_introduction N (fun x => pure (g x)) (fun x => pure (g' x)) p rho tmax full =
      GenHelp.EBCM_discrete N (fun x => pure ((1 - rho) * g x)) (fun x => pure ((1 - rho) * g' x))
        p (1 - rho) 0 0 0 tmax full := rfl

/-- the uniform introduction with total callbacks never raises (it is `EBCM_discrete`, `gen_EBCM_uniform_eq`), and
S(0) = N(1−ρ)ψ(1), I(0) = N − S(0), R(0) = 0 -/
theorem gen_EBCM_uniform_initial (N : Rat) (g g' : Rat → Rat) (p rho : Rat) (tmax : Int) :
    ∃ times S I R : List Rat,
      GenHelp.EBCM_discrete_uniform_introduction N (fun x => pure (g x)) (fun x => pure (g' x)) p rho tmax false
        = .ok [times, S, I, R] ∧ times.getD 0 0 = 0 ∧
      S.getD 0 0 = N * ((1 - rho) * g 1) ∧ I.getD 0 0 = N - N * ((1 - rho) * g 1) ∧ R.getD 0 0 = 0 := by
  refine ⟨_, _, _, _, gen_EBCM_discrete_eq N (fun x => (1 - rho) * g x) (fun x => (1 - rho) * g' x) p (1 - rho) 0 0 0 tmax
    false, ?_, ?_, ?_, ?_⟩
  · rw [getD_map_range _ _ _ _ (by omega)]; simp
  · rw [getD_map_range _ _ _ _ (by omega)]; rfl
  · rw [getD_map_range _ _ _ _ (by omega)]; simp [ebcmTraj_zero, ebcmInit]
  · rw [getD_map_range _ _ _ _ (by omega)]; rfl

/-! ### Epi_Prob_discrete -/

/-- **generated Epi_Prob_discrete, all inputs**: ValueError for an empty `Pk`; else, with ψ, ψ' the polynomials of
`get_PGF`, `get_PGFPrime`: ZeroDivisionError iff ψ'(1) = 0 and `number_its > 0` (for `number_its = 0` the division is
never reached), else `1 − ψ(α_n)` with α_0 = 1−p, α_{j+1} = 1−p+p ψ'(α_j)/ψ'(1) -/
theorem gen_Epi_Prob_discrete_spec (Pk : List (Nat × Rat)) (p : Rat) (n : Nat) :
    GenHelp.Epi_Prob_discrete Pk p n =
      if Pk = [] then .error "ValueError"
      else if 0 < n ∧ psiPAL Pk 1 = 0 then .error "ZeroDivisionError"
      else .ok (1 - psiAL Pk ((alphaMap (psiPAL Pk) p)^[n] (1 - p))) := by
  by_cases h : Pk = []
  · subst h; rfl
  · simp only [h, if_false]
    unfold GenHelp.Epi_Prob_discrete
    rw [get_PGF_ok Pk h, get_PGFPrime_ok Pk h]
    simp only [ok_bind, pure_eq_ok]
    change (do
        let alpha ← (List.range n).foldlM (fun (alpha : Rat) (_ : Nat) => do
          let q_5 ← PyTM.fdiv (p * psiPAL Pk alpha) (psiPAL Pk 1)
          (Except.ok (1 - p + q_5) : Except String Rat)) (1 - p)
        (Except.ok (1 - psiAL Pk alpha) : Except String Rat)) = _
    by_cases hz : psiPAL Pk 1 = 0
    · rcases Nat.eq_zero_or_pos n with rfl | hn
      · simp
      · rw [foldlM_range_error "ZeroDivisionError" n hn]
        · simp [hn, hz]
        · intro s i
          simp [hz]
    · simp only [fdiv_ok _ _ hz, ok_bind, hz, and_false, if_false]
      rw [foldlM_range_iterate (fun a => 1 - p + p * psiPAL Pk a / psiPAL Pk 1)]
      rfl

/-- the polynomials used are those returned by the generated `get_PGF` / `get_PGFPrime` -/
theorem gen_Epi_Prob_polys (Pk : List (Nat × Rat)) (h : Pk ≠ []) :
    GenHelp.get_PGF Pk = .ok (psiAL Pk) ∧ GenHelp.get_PGFPrime Pk = .ok (psiPAL Pk) :=
  ⟨get_PGF_ok Pk h, get_PGFPrime_ok Pk h⟩

/-! ### Attack_rate_discrete -/

/-- EoNError when `rho` and `Sk0` are both given (all other arguments arbitrary) -/
theorem gen_Attack_rate_discrete_both (Pk : List (Nat × Rat)) (p r : Rat) (d : List (Nat × Rat))
    (phiS0 phiR0 : Option Rat) (n : Nat) :
    GenHelp.Attack_rate_discrete Pk p (some r) (some d) phiS0 phiR0 n = .error "EoNError" := rfl

/-- `Sk0 = None` and `rho ∈ {None, 0}`: the early return through `Epi_Prob_discrete` (`phiS0`, `phiR0` are ignored) -/
theorem gen_Attack_rate_discrete_early (Pk : List (Nat × Rat)) (p : Rat) (rho : Option Rat) (hr : rho = none ∨ rho = some 0)
    (phiS0 phiR0 : Option Rat) (n : Nat) :
    GenHelp.Attack_rate_discrete Pk p rho none phiS0 phiR0 n = GenHelp.Epi_Prob_discrete Pk p n := by
  unfold GenHelp.Attack_rate_discrete
  rcases hr with rfl | rfl <;> cases GenHelp.Epi_Prob_discrete Pk p n <;> rfl

/-- the `Sk0` actually used -/
def effSk0 (Pk : List (Nat × Rat)) (rho : Option Rat) (Sk0 : Option (List (Nat × Rat))) : List (Nat × Rat) :=
  match Sk0 with
  | some d => d
  | none => Pk.map fun kv => (kv.1, 1 - rho.getD 0)

theorem effSk0_keys (Pk : List (Nat × Rat)) (rho : Option Rat) (Sk0 : Option (List (Nat × Rat)))
    (hkeys : ∀ d, Sk0 = some d → ∀ k ∈ Pk.map (·.1), alHas d k = true) :
    ∀ kv ∈ Pk, alHas (effSk0 Pk rho Sk0) kv.1 = true := by
  cases Sk0 with
  | some d => exact List.forall_mem_map.1 (hkeys d rfl)
  | none =>
    intro kv hkv
    rw [effSk0, alHas_map_val Pk (fun _ => 1 - rho.getD 0)]
    exact alHas_of_mem_keys Pk kv.1 (List.mem_map_of_mem hkv)

/-- **generated Attack_rate_discrete, main branch** (not both `rho` and `Sk0`, not the early return; `Sk0`, when given,
has every key of `Pk`): with ψ̂ = `psiHatAL Pk Sk0`, ψ̂' = `psiHatPAL Pk Sk0`: the default φS(0) = ψ̂'(1)/Σ k Pk[k] raises
ZeroDivisionError when Σ k Pk[k] = 0; otherwise the result is `1 − ψ̂(θ_n)`, θ_0 = 1, θ_{j+1} = thetaMap θ_j
(φR(0) defaults to 0).  No hypothesis that the keys of `Pk` are distinct is needed: the sums run over the key list as
it is and the reads return the first binding. -/
theorem gen_Attack_rate_discrete_spec (Pk : List (Nat × Rat)) (p : Rat) (rho : Option Rat)
    (Sk0 : Option (List (Nat × Rat))) (phiS0 phiR0 : Option Rat) (n : Nat)
    (hnb : rho = none ∨ Sk0 = none) (hne : Sk0 = none → ∃ r, rho = some r ∧ r ≠ 0)
    (hkeys : ∀ d, Sk0 = some d → ∀ k ∈ Pk.map (·.1), alHas d k = true) :
    GenHelp.Attack_rate_discrete Pk p rho Sk0 phiS0 phiR0 n =
      resolvePhiS0 Pk (psiHatPAL Pk (effSk0 Pk rho Sk0) 1) phiS0 >>= fun S0 =>
        .ok (1 - psiHatAL Pk (effSk0 Pk rho Sk0)
          ((thetaMap (psiHatPAL Pk (effSk0 Pk rho Sk0)) p S0 (phiR0.getD 0))^[n] 1)) := by
  have hk := effSk0_keys Pk rho Sk0 hkeys
  have he : GenHelp.Attack_rate_discrete Pk p rho Sk0 phiS0 phiR0 n
      = GenHelp.Attack_rate_discrete Pk p none (some (effSk0 Pk rho Sk0)) phiS0 phiR0 n := by
    cases Sk0 with
    | some d => obtain rfl := hnb.resolve_right (by simp); rfl
    | none => obtain ⟨r, rfl, hr0⟩ := hne rfl; exact Attack_rate_discrete_rho Pk p r hr0 phiS0 phiR0 n
  rw [he, Attack_rate_discrete_some, if_pos (fun kv h _ => hk kv h)]
  simp only [if_pos hk]

/-- the default `phiS0`, spelled out -/
theorem gen_resolvePhiS0 (Pk : List (Nat × Rat)) (y : Rat) :
    (∀ v, resolvePhiS0 Pk y (some v) = .ok v) ∧
    (kAveAL Pk = 0 → resolvePhiS0 Pk y none = .error "ZeroDivisionError") ∧
    (kAveAL Pk ≠ 0 → resolvePhiS0 Pk y none = .ok (y / kAveAL Pk)) := by
  refine ⟨fun _ => rfl, fun h => by simp [resolvePhiS0, h], fun h => by simp [resolvePhiS0, h]⟩

/-- a key `k > 0` of `Pk` missing from the given `Sk0`: KeyError (raised by `psihatPrime(1)`, whatever `phiS0`) -/
theorem gen_Attack_rate_discrete_keyError (Pk : List (Nat × Rat)) (p : Rat) (d : List (Nat × Rat))
    (phiS0 phiR0 : Option Rat) (n : Nat) (h : ∃ k ∈ Pk.map (·.1), 0 < k ∧ alHas d k = false) :
    GenHelp.Attack_rate_discrete Pk p none (some d) phiS0 phiR0 n = .error "KeyError" := by
  obtain ⟨k, hk, hk0, hd⟩ := h
  obtain ⟨kv, hkv, rfl⟩ := List.mem_map.1 hk
  rw [Attack_rate_discrete_some, if_neg (fun hP => by simp [hP kv hkv hk0] at hd)]

/-- only the key 0 missing, `phiS0` given: the loop runs and the final `psihat(theta)` raises KeyError -/
theorem gen_Attack_rate_discrete_keyError_zero (Pk : List (Nat × Rat)) (p : Rat) (d : List (Nat × Rat))
    (v : Rat) (phiR0 : Option Rat) (n : Nat) (h0 : 0 ∈ Pk.map (·.1)) (hd0 : alHas d 0 = false)
    (hpos : ∀ k ∈ Pk.map (·.1), 0 < k → alHas d k = true) :
    GenHelp.Attack_rate_discrete Pk p none (some d) (some v) phiR0 n = .error "KeyError" := by
  obtain ⟨kv, hkv, hkv0⟩ := List.mem_map.1 h0
  rw [Attack_rate_discrete_some, if_pos (List.forall_mem_map.1 hpos)]
  simp only [resolvePhiS0, ok_bind]
  rw [if_neg (fun hA => by simp [hkv0 ▸ hA kv hkv] at hd0)]

/-- **KEY LINK**: the attack-rate iteration IS the discrete EBCM run for `number_its` steps.  In the main branch, with
φS(0) resolved to `S0`, `Attack_rate_discrete … number_its = n` returns `1 − S(n)/N = (I(n) + R(n))/N` of
`EBCM_discrete N ψ̂ ψ̂' p S0 φR(0) R0 0 n` — for every population size `N ≠ 0` and every `R0` -/
theorem gen_Attack_rate_discrete_is_EBCM (Pk : List (Nat × Rat)) (p : Rat) (rho : Option Rat)
    (Sk0 : Option (List (Nat × Rat))) (phiS0 phiR0 : Option Rat) (n : Nat)
    (hnb : rho = none ∨ Sk0 = none) (hne : Sk0 = none → ∃ r, rho = some r ∧ r ≠ 0)
    (hkeys : ∀ d, Sk0 = some d → ∀ k ∈ Pk.map (·.1), alHas d k = true)
    (S0 : Rat) (hS0 : resolvePhiS0 Pk (psiHatPAL Pk (effSk0 Pk rho Sk0) 1) phiS0 = .ok S0)
    (N R0 : Rat) (hN : N ≠ 0) :
    ∃ times S I R : List Rat,
      GenHelp.EBCM_discrete N (fun x => pure (psiHatAL Pk (effSk0 Pk rho Sk0) x))
        (fun x => pure (psiHatPAL Pk (effSk0 Pk rho Sk0) x)) p S0 (phiR0.getD 0) R0 0 (n : Int) false
        = .ok [times, S, I, R] ∧
      GenHelp.Attack_rate_discrete Pk p rho Sk0 phiS0 phiR0 n = .ok (1 - S.getD n 0 / N) ∧
      GenHelp.Attack_rate_discrete Pk p rho Sk0 phiS0 phiR0 n = .ok ((I.getD n 0 + R.getD n 0) / N) := by
  refine ⟨_, _, _, _, gen_EBCM_discrete_eq N _ _ p S0 (phiR0.getD 0) R0 0 n false, ?_⟩
  have hm : ((n : Int) - 0).toNat = n := by omega
  simp only [hm]
  rw [getD_map_range _ _ _ _ (by omega), getD_map_range _ _ _ _ (by omega), getD_map_range _ _ _ _ (by omega),
    gen_Attack_rate_discrete_spec Pk p rho Sk0 phiS0 phiR0 n hnb hne hkeys, hS0, ok_bind,
    ← ebcmTraj_theta N (psiHatAL Pk (effSk0 Pk rho Sk0)) _ p S0 (phiR0.getD 0) R0 n]
  -- `S(n) = N ψ̂(θ_n)` and `S + I + R = N`
  have hS := ebcmTraj_S N (psiHatAL Pk (effSk0 Pk rho Sk0)) (psiHatPAL Pk (effSk0 Pk rho Sk0)) p S0 (phiR0.getD 0) R0 n
  have hcons := ebcmTraj_conserve N (psiHatAL Pk (effSk0 Pk rho Sk0)) (psiHatPAL Pk (effSk0 Pk rho Sk0)) p S0
    (phiR0.getD 0) R0 n
  generalize ebcmTraj N _ _ p S0 (phiR0.getD 0) R0 n = x at hS hcons ⊢
  have hIR : x.2.2.2 + x.2.1 = N - x.2.2.1 := eq_sub_of_add_eq' ((add_assoc _ _ _).symm.trans hcons)
  rw [hIR, sub_div, div_self hN, hS, mul_div_cancel_left₀ _ hN]
  exact ⟨rfl, rfl⟩

/-! ### Attack_rate_cts_time -/

theorem gen_Attack_rate_cts_both (Pk : List (Nat × Rat)) (tau gamma r : Rat) (d : List (Nat × Rat))
    (phiS0 phiR0 : Option Rat) (n : Nat) :
    GenHelp.Attack_rate_cts_time Pk tau gamma n (some r) (some d) phiS0 phiR0 = .error "EoNError" := rfl

/-- **generated Attack_rate_cts_time** (not both `rho` and `Sk0`; a given `Sk0` has every key of `Pk`; `rho = None`
counts as 0 and there is no early return): first the default φS(0) (ZeroDivisionError when Σ k Pk[k] = 0), then
ZeroDivisionError iff `gamma + tau = 0`, else `1 − ψ̂(ω_n)` with ω_0 = γ/(γ+τ), ω_{j+1} = `omegaMap ω_j` -/
theorem gen_Attack_rate_cts_time_spec (Pk : List (Nat × Rat)) (tau gamma : Rat) (n : Nat) (rho : Option Rat)
    (Sk0 : Option (List (Nat × Rat))) (phiS0 phiR0 : Option Rat)
    (hnb : rho = none ∨ Sk0 = none)
    (hkeys : ∀ d, Sk0 = some d → ∀ k ∈ Pk.map (·.1), alHas d k = true) :
    GenHelp.Attack_rate_cts_time Pk tau gamma n rho Sk0 phiS0 phiR0 =
      resolvePhiS0 Pk (psiHatPAL Pk (effSk0 Pk rho Sk0) 1) phiS0 >>= fun S0 =>
        if gamma + tau = 0 then .error "ZeroDivisionError"
        else .ok (1 - psiHatAL Pk (effSk0 Pk rho Sk0)
          ((omegaMap (psiHatPAL Pk (effSk0 Pk rho Sk0)) tau gamma S0 (phiR0.getD 0))^[n] (gamma / (gamma + tau)))) := by
  have hk := effSk0_keys Pk rho Sk0 hkeys
  have he : GenHelp.Attack_rate_cts_time Pk tau gamma n rho Sk0 phiS0 phiR0
      = GenHelp.Attack_rate_cts_time Pk tau gamma n none (some (effSk0 Pk rho Sk0)) phiS0 phiR0 := by
    cases Sk0 with
    | some d => obtain rfl := hnb.resolve_right (by simp); rfl
    | none => exact Attack_rate_cts_none Pk tau gamma rho phiS0 phiR0 n
  rw [he, Attack_rate_cts_some, if_pos (fun kv h _ => hk kv h)]
  simp only [if_pos hk]

/-- a key `k > 0` of `Pk` missing from the given `Sk0`: KeyError -/
theorem gen_Attack_rate_cts_keyError (Pk : List (Nat × Rat)) (tau gamma : Rat) (n : Nat) (d : List (Nat × Rat))
    (phiR0 : Option Rat) (h : ∃ k ∈ Pk.map (·.1), 0 < k ∧ alHas d k = false) :
    GenHelp.Attack_rate_cts_time Pk tau gamma n none (some d) none phiR0 = .error "KeyError" := by
  obtain ⟨k, hk, hk0, hd⟩ := h
  obtain ⟨kv, hkv, rfl⟩ := List.mem_map.1 hk
  rw [Attack_rate_cts_some, if_neg (fun hP => by simp [hP kv hkv hk0] at hd)]
  rfl

/-- **connection to the model of C08**: for ψ̂' = `ODE.psiHP K c` with ψ̂'(1) ≠ 0 the generated ω-map is
`ODE.attackCtsMap` -/
theorem gen_omegaMap_model (K : Nat) (c : Nat → Rat) (tau gamma phiS0 phiR0 om : Rat) (h1 : ODE.psiHP K c 1 ≠ 0) :
    omegaMap (ODE.psiHP K c) tau gamma phiS0 phiR0 om = ODE.attackCtsMap K c tau gamma phiS0 phiR0 om := by
  simp only [omegaMap, ODE.attackCtsMap, guard_of_ne _ h1]

/-- ω is a fixed point of the generated ω-iteration iff the θ-component of the EBCM right-hand side vanishes at θ = ω
(C08 `attack_cts_fixed_point` through `gen_omegaMap_model`) -/
theorem gen_Attack_rate_cts_fixed_point (K : Nat) (c : Nat → Rat) (N tau gamma phiS0 phiR0 om R : Rat)
    (h1 : ODE.psiHP K c 1 ≠ 0) (h : gamma + tau ≠ 0) :
    omegaMap (ODE.psiHP K c) tau gamma phiS0 phiR0 om = om ↔ (ODE.ebcm K c N tau gamma phiS0 phiR0 om R).1 = 0 := by
  rw [gen_omegaMap_model K c tau gamma phiS0 phiR0 om h1]
  exact ODE.attack_cts_fixed_point K c N tau gamma phiS0 phiR0 om R h

/-- **ψ̂, ψ̂' of the attack-rate functions are the `psiH K c`, `psiHP K c` of Model/ODE.lean** with
`c k = Pk.get(k,0)·Sk0.get(k,0)`, for a dict `Pk` (distinct keys — needed here, because `psiH` sums over `0..K-1` once
while a repeated key would be summed twice by the generated loop —, all `< K`); consequently the generated θ- and
ω-iterations are `ODE.attackDiscMap` / `ODE.attackCtsMap` when ψ̂'(1) ≠ 0 -/
theorem gen_psihat_model (Pk Sk0 : List (Nat × Rat)) (hn : (Pk.map (·.1)).Nodup) (K : Nat)
    (hK : ∀ k ∈ Pk.map (·.1), k < K) :
    psiHatAL Pk Sk0 = ODE.psiH K (fun k => alGet Pk 0 k * alGet Sk0 0 k) ∧
    psiHatPAL Pk Sk0 = ODE.psiHP K (fun k => alGet Pk 0 k * alGet Sk0 0 k) :=
  ⟨funext (psiHatAL_eq_psiH Pk Sk0 hn K hK), funext (psiHatPAL_eq_psiHP Pk Sk0 hn K hK)⟩

theorem gen_Attack_rate_maps_model (Pk Sk0 : List (Nat × Rat)) (hn : (Pk.map (·.1)).Nodup) (K : Nat)
    (hK : ∀ k ∈ Pk.map (·.1), k < K)
    (h1 : ODE.psiHP K (fun k => alGet Pk 0 k * alGet Sk0 0 k) 1 ≠ 0) (p tau gamma S0 R0 x : Rat) :
    thetaMap (psiHatPAL Pk Sk0) p S0 R0 x = ODE.attackDiscMap K (fun k => alGet Pk 0 k * alGet Sk0 0 k) p S0 R0 x ∧
    omegaMap (psiHatPAL Pk Sk0) tau gamma S0 R0 x
      = ODE.attackCtsMap K (fun k => alGet Pk 0 k * alGet Sk0 0 k) tau gamma S0 R0 x := by
  rw [(gen_psihat_model Pk Sk0 hn K hK).2]
  exact ⟨(gen_EBCM_step_model K _ 0 p S0 R0 h1 (x, 0, 0, 0)).2, gen_omegaMap_model K _ tau gamma S0 R0 x h1⟩

/-- `Function.iterate_fixed` for an arbitrary map `g` (nothing generated occurs in the statement).  With `g` the θ- or
ω-map of the closed forms above and `x` a fixed point reached after some passes, the returned attack rate does not change
with a larger `number_its`. -/
theorem gen_iterate_fixed {α : Type} (g : α → α) (x : α) (h : g x = x) (n : Nat) : g^[n] x = x :=
  Function.iterate_fixed h n

end GenHelpFinal

/-! ### non-vacuity (kernel-checked runs of the generated code) -/
section
open GenHelpProofs

-- ψ̂(x) = x², ψ̂'(x) = 2x, p = 1/2, φS = 1: θ = 1, 1, …: nobody infected initially, nothing happens
example : GenHelp.EBCM_discrete 10 (fun x => pure (x ^ 2)) (fun x => pure (2 * x)) (1/2) 1 0 0 0 2 false
    = .ok [[0, 1, 2], [10, 10, 10], [0, 0, 0], [0, 0, 0]] := by decide +kernel
-- ψ̂ = (9/10)x², φS = 9/10: an epidemic; full data appends θ; tmin = 3
example : GenHelp.EBCM_discrete 10 (fun x => pure (9/10 * x ^ 2)) (fun x => pure (9/5 * x)) (1/2) (9/10) 0 0 3 5 true
    = .ok [[3, 4, 5], [9, 3249/400, 1238769/160000], [1, 351/400, 60831/160000], [0, 1, 751/400],
        [1, 19/20, 371/400]] := by
  decide +kernel
-- tmax < tmin: one row
example : GenHelp.EBCM_discrete 10 (fun x => pure (x ^ 2)) (fun x => pure (2 * x)) (1/2) 1 0 0 5 2 false
    = .ok [[5], [10], [0], [0]] := by decide +kernel
-- the guard: ψ̂' ≡ 0 does not raise
example : GenHelp.EBCM_discrete 10 (fun _ => pure 1) (fun _ => pure 0) (1/2) 1 0 0 0 1 false
    = .ok [[0, 1], [10, 10], [0, 0], [0, 0]] := by decide +kernel
example : GenHelp.EBCM_discrete 10 (fun _ => throw "Boom") (fun _ => pure 0) (1/2) 1 0 0 0 1 false = .error "Boom" := by
  decide +kernel
example : GenHelp.EBCM_discrete_uniform_introduction 10 (fun x => pure (x ^ 2)) (fun x => pure (2 * x)) (1/2) (1/10) 1 false
    = .ok [[0, 1], [9, 3249/400], [1, 351/400], [0, 1]] := by decide +kernel
-- the hypothesis ψ̂'(1) ≠ 0 of `gen_EBCM_step_model` is needed: c = (0, 1, −1/2), ψ̂'(x) = 1 − x, ψ̂'(1) = 0, ψ̂'(0) = 1
example : thetaMap (ODE.psiHP 3 (fun k => if k = 1 then 1 else if k = 2 then -1/2 else 0)) 1 1 0 0 = 1 ∧
    ODE.attackDiscMap 3 (fun k => if k = 1 then 1 else if k = 2 then -1/2 else 0) 1 1 0 0 = 0 := by decide +kernel
-- distinct keys are needed in `gen_psihat_model`: the repeated key 1 is summed twice by the generated loop
example : psiHatAL [(1, 1), (1, 5)] [(1, 1)] 1 = 2 ∧ ODE.psiH 2 (fun k => alGet [(1, (1 : Rat)), (1, 5)] 0 k * alGet [(1, (1 : Rat))] 0 k) 1 = 1 := by
  decide +kernel
-- Epi_Prob_discrete: Pk = {1: 1/2, 3: 1/2}, p = 1/2
example : GenHelp.Epi_Prob_discrete [(1, 1/2), (3, 1/2)] (1/2) 0 = .ok (11/16) ∧
    GenHelp.Epi_Prob_discrete [(1, 1/2), (3, 1/2)] (1/2) 1 = .ok (29817/65536) := by decide +kernel
example : GenHelp.Epi_Prob_discrete [] (1/2) 3 = .error "ValueError" ∧
    GenHelp.Epi_Prob_discrete [(0, 1)] (1/2) 0 = .ok 0 ∧
    GenHelp.Epi_Prob_discrete [(0, 1)] (1/2) 1 = .error "ZeroDivisionError" := by decide +kernel
example : GenHelp.Attack_rate_discrete [(1, 1/2), (3, 1/2)] (1/2) (some (1/10)) (some [(1, 1), (3, 1)]) none none 2
      = .error "EoNError" ∧
    GenHelp.Attack_rate_discrete [(1, 1/2), (3, 1/2)] (1/2) none none none none 1
      = GenHelp.Epi_Prob_discrete [(1, 1/2), (3, 1/2)] (1/2) 1 ∧
    GenHelp.Attack_rate_discrete [(1, 1/2), (3, 1/2)] (1/2) (some 0) none (some 7) none 1
      = GenHelp.Epi_Prob_discrete [(1, 1/2), (3, 1/2)] (1/2) 1 ∧
    GenHelp.Attack_rate_discrete [(1, 1/2), (3, 1/2)] (1/2) none (some [(1, 1)]) none none 2 = .error "KeyError" ∧
    GenHelp.Attack_rate_discrete [(0, 1/2), (2, 1/2)] (1/2) none (some [(2, 1)]) none none 2 = .error "KeyError" ∧
    GenHelp.Attack_rate_discrete [(0, 1)] (1/2) none (some []) none none 2 = .error "ZeroDivisionError" ∧
    GenHelp.Attack_rate_discrete [] (1/2) (some (1/10)) none none none 2 = .error "ZeroDivisionError" ∧
    GenHelp.Attack_rate_discrete [] (1/2) (some (1/10)) none (some 1) none 2 = .ok 1 := by decide +kernel
-- Pk = {2: 1}, rho = 1/10: ψ̂ = (9/10)x², φS = 9/10 — the numbers of the EBCM run above: 1 − S(2)/N
example : GenHelp.Attack_rate_discrete [(2, 1)] (1/2) (some (1/10)) none none none 2 = .ok (1 - (1238769/160000) / 10) := by
  decide +kernel
example : GenHelp.Attack_rate_cts_time [(2, 1)] 1 1 1 (some (1/10)) none none none = .ok (8431/16000) ∧
    GenHelp.Attack_rate_cts_time [(2, 1)] 1 (-1) 1 none none none none = .error "ZeroDivisionError" ∧
    GenHelp.Attack_rate_cts_time [(2, 1)] 1 1 1 (some (1/10)) (some [(2, 1)]) none none = .error "EoNError" ∧
    GenHelp.Attack_rate_cts_time [(2, 1)] 1 1 1 none (some []) none none = .error "KeyError" ∧
    GenHelp.Attack_rate_cts_time [(0, 1)] 1 (-1) 1 none none none none = .error "ZeroDivisionError" := by decide +kernel
end
