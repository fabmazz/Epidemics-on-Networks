import EoNVerif.Proofs.GenStep
import EoNVerif.Proofs.GenGlue2
import EoNVerif.Props.GenMat
/-!
C06i (heterogeneous pairwise) — `GenGlue2.SIS_heterogeneous_pairwise` and `GenGlue2.SIR_heterogeneous_pairwise`
(GENERATED from `EoN/analytic.py` into `Gen/OdeGlue2.lean`), for ALL inputs and EVERY pair of solvers.  The right-hand
side is an opaque parameter `rhs`; SIS is solved by `myodeint` (EoN's `_my_odeint_`), SIR by `odeint` (SciPy's).

The SIS function is looked into in `SIS_het_eq` (the result for all inputs; `SIS_het_Ks` resolves `Ks = None` first).  For
SIR there is no closed form for all inputs: the function is stepped through in `SIR_het_call` (canonical shapes),
`SIR_het_error_is_ValueError` (all inputs) and the single-cause error lemmas `SIR_het_error_lengths` / `_reshape` (and
`SIR_het_Ks`).  These proofs walk down the `do` block one statement at a time (`Proofs/GenStep.lean`); everything else is
derived from them.
-/
namespace GenGlue3Props
open Gen PyGlue PyGlue2 GenGlue2Proofs
open ODE (sumTo)
open GenGlueProofs (Solver RowZero)
open GenStep

/-- `Nk = Sk0 + Ik0` (NumPy broadcasting; `K` is the broadcast length) -/
def hetNk (Sk0 Ik0 : V) (K : Nat) : V := ⟨K, fun k => Sk0.f (bidx Sk0.n k) + Ik0.f (bidx Ik0.n k)⟩

/-- `NkNl = SkSl0 + SkIl0 + IkIl0 + SkIl0.T` with NumPy broadcasting (three additions, left to right) -/
def hetNkNl (SS SI II : Mx) : Except String Mx := do
  let t2 ← Mx.op (fun a b => a + b) SS SI
  let t3 ← Mx.op (fun a b => a + b) t2 II
  Mx.op (fun a b => a + b) t3 (Mx.T SI)

/-- row-major flattening `M.reshape(q, 1)[:, 0]` -/
def mflat (q : Nat) (M : Mx) : V := ⟨q, fun j => M.f (j / M.c) (j % M.c)⟩

theorem hetNk_n (a b : V) (K : Nat) : (hetNk a b K).n = K := rfl

theorem vop_ok {a b : V} {n : Nat} (h : bdim a.n b.n = .ok n) : vop (fun x y => x + y) a b = .ok (hetNk a b n) :=
  bind_ok h _

theorem bdim_cases (a b : Nat) : bdim a b = .error "ValueError" ∨ ∃ n, bdim a b = .ok n := (bdim_onlyVE a b).cases

theorem hetNkNl_onlyVE (SS SI II : Mx) : OnlyVE (hetNkNl SS SI II) :=
  (mxop_onlyVE _ _ _).bind fun _ _ => (mxop_onlyVE _ _ _).bind fun _ _ => mxop_onlyVE _ _ _

theorem hetNkNl_bind {β : Type} (SS SI II : Mx) (k : Mx → Except String β) :
    (Mx.op (fun a b => a + b) SS SI >>= fun t2 => Mx.op (fun a b => a + b) t2 II >>= fun t3 =>
      Mx.op (fun a b => a + b) t3 (Mx.T SI) >>= k) = hetNkNl SS SI II >>= k := by
  simp only [hetNkNl, bind_assoc]

/-- the `X0` the generated SIS code builds: `concatenate((Sk0[:,None], SkSl0.reshape(K²,1), SkIl0.reshape(K²,1))).T[0]`
(any shapes; `= packSIS` for canonical shapes, `hetX0SIS_pack`) -/
def hetX0SIS (Sk0 : V) (K : Nat) (SS SI : Mx) : V := V.append (V.append Sk0 (mflat (K ^ 2) SS)) (mflat (K ^ 2) SI)

theorem hetX0SIS_n (Sk0 : V) (K : Nat) (SS SI : Mx) : (hetX0SIS Sk0 K SS SI).n = Sk0.n + K ^ 2 + K ^ 2 := rfl

/-- closed form of the arrays returned by `SIS_heterogeneous_pairwise` as a function of the solution `X`:
`[times, S, I]` and with full data `Sk, Ik, SkIl, SkSl, IkIl`; `Sk = X[:K]`, `Ik = Nk − Sk`, `SkSl = X[K:K+K²]`,
`SkIl = X[K+K²:]`, `IkIl = NkNl − SkSl − SkIl − SkIlᵀ` -/
def outSISHet (T : Nat → Rat) (K : Nat) (Nk : V) (NkNl : Mx) (full : Bool) (X : Nat → V) : List Out :=
  let Sk : Nat → V := fun i => ⟨K, fun k => (X i).f k⟩
  let Ik : Nat → V := fun i => ⟨K, fun k => Nk.f (bidx K k) - (X i).f (bidx K k)⟩
  let SkSl : Nat → V := fun i => ⟨K ^ 2, fun k => (X i).f (K + k)⟩
  let SkIl : Nat → V := fun i => ⟨K ^ 2, fun k => (X i).f (K + K ^ 2 + k)⟩
  let IkIl : Nat → V := fun i => ⟨K * K, fun k =>
    NkNl.f (k / NkNl.c) (k % NkNl.c) - (X i).f (K + k) - (X i).f (K + K ^ 2 + k) - (X i).f (K + K ^ 2 + (k % K * K + k / K))⟩
  if full then
    [Out.s T, Out.s (fun i => sumTo K (X i).f), Out.s (fun i => sumTo K (Ik i).f),
     Out.m K Sk, Out.m K Ik, Out.c K K SkIl, Out.c K K SkSl, Out.c K K IkIl]
  else
    [Out.s T, Out.s (fun i => sumTo K (X i).f), Out.s (fun i => sumTo K (Ik i).f)]

theorem le_sq (K : Nat) : K ≤ K ^ 2 := by
  rw [Nat.pow_two]; exact Nat.le_mul_self K

/-! `hslI` / `hsoI`: length / start of the `I`-th slice (`X.T[lo:hi]`) of the SIS state `Sk0 | K² | K²` with `n = len(Sk0)`
not yet known to be `K`; `hcond`: when the last slice has `K·K` entries -/
theorem hsl0 (n K : Nat) : sliceLen (n + K ^ 2 + K ^ 2) 0 K = K := by
  have := le_sq K; unfold sliceLen; omega
theorem hsl1 (n K : Nat) : sliceLen (n + K ^ 2 + K ^ 2) K (K + K ^ 2) = K ^ 2 := by
  have := le_sq K; unfold sliceLen; omega
theorem hsl2 (n K : Nat) : sliceLen (n + K ^ 2 + K ^ 2) (K + K ^ 2) (n + K ^ 2 + K ^ 2) = n + K ^ 2 - K := by
  have := le_sq K; unfold sliceLen; omega
theorem hso1 (n K : Nat) : sliceLo (n + K ^ 2 + K ^ 2) K = K := by
  have := le_sq K; unfold sliceLo; omega
theorem hso2 (n K : Nat) : sliceLo (n + K ^ 2 + K ^ 2) (K + K ^ 2) = K + K ^ 2 := by
  have := le_sq K; unfold sliceLo; omega
/-- the last slice has `K·K` entries exactly when `Sk0` has `K` entries -/
theorem hcond (n K : Nat) : n + K ^ 2 - K = K * K ↔ n = K := by
  have := le_sq K; rw [← Nat.pow_two]; omega

/-- `Ks = None` is `Ks = np.arange(len(Sk0))` -/
theorem SIS_het_Ks (odeint myodeint : Solver) (rhs : V → Mx → Rat → Rat → V → V → V)
    (Sk0 Ik0 : V) (SS SI II : Mx) (tau gamma tmin tmax : Rat) (tcount : Nat) (full : Bool) (Ks : Option V) :
    GenGlue2.SIS_heterogeneous_pairwise odeint myodeint rhs Sk0 Ik0 SS SI II tau gamma tmin tmax tcount full Ks
      = GenGlue2.SIS_heterogeneous_pairwise odeint myodeint rhs Sk0 Ik0 SS SI II tau gamma tmin tmax tcount full
          (some (Ks.getD (V.arange Sk0.n))) := by
  cases Ks <;> rfl

theorem SIS_het_Ks_none (odeint myodeint : Solver) (rhs : V → Mx → Rat → Rat → V → V → V)
    (Sk0 Ik0 : V) (SS SI II : Mx) (tau gamma tmin tmax : Rat) (tcount : Nat) (full : Bool) :
    GenGlue2.SIS_heterogeneous_pairwise odeint myodeint rhs Sk0 Ik0 SS SI II tau gamma tmin tmax tcount full none
      = GenGlue2.SIS_heterogeneous_pairwise odeint myodeint rhs Sk0 Ik0 SS SI II tau gamma tmin tmax tcount full
          (some (V.arange Sk0.n)) :=
  SIS_het_Ks odeint myodeint rhs Sk0 Ik0 SS SI II tau gamma tmin tmax tcount full none

theorem getD_arange (Ks : Option V) (K : Nat) (hK : ∀ ks, Ks = some ks → ks.n = K) :
    Ks.getD (V.arange K) = ⟨K, (Ks.getD (V.arange K)).f⟩ := by
  cases Ks with
  | none => rfl
  | some ks => obtain ⟨_, _⟩ := ks; cases hK _ rfl; rfl

/-- **SIS, the result for ALL inputs** (any shapes, every solver, every `rhs`): with `K` the broadcast length of `Sk0 +
Ik0` and `NkNl = hetNkNl …`, the call returns `.ok (X0, outSISHet … (myodeint (rhs Nk NkNl tau gamma Ks) X0))` iff both
tables have `K²` entries and (full data only) `len(Sk0) = K` and `NkNl` is `K × K`; in every other case `ValueError`.
`rhs` receives `Nk = Sk0 + Ik0`, `NkNl = SkSl0 + SkIl0 + IkIl0 + SkIl0ᵀ`, `tau`, `gamma`, `Ks` (default
`arange(len(Sk0))`); `len(Ks)` is never checked by this function -/
theorem SIS_het_eq (odeint myodeint : Solver) (rhs : V → Mx → Rat → Rat → V → V → V)
    (Sk0 Ik0 : V) (SS SI II : Mx) (tau gamma tmin tmax : Rat) (tcount : Nat) (full : Bool) (Ks : Option V) :
    GenGlue2.SIS_heterogeneous_pairwise odeint myodeint rhs Sk0 Ik0 SS SI II tau gamma tmin tmax tcount full Ks
      = match bdim Sk0.n Ik0.n, hetNkNl SS SI II with
        | .ok K, .ok NkNl =>
          if SS.r * SS.c = K ^ 2 ∧ SI.r * SI.c = K ^ 2 ∧ (full = true → Sk0.n = K ∧ NkNl.r = K ∧ NkNl.c = K) then
            .ok (hetX0SIS Sk0 K SS SI, outSISHet (linspace tmin tmax tcount) K (hetNk Sk0 Ik0 K) NkNl full
              (myodeint (fun st => rhs (hetNk Sk0 Ik0 K) NkNl tau gamma (Ks.getD (V.arange Sk0.n)) st)
                (hetX0SIS Sk0 K SS SI)))
          else .error "ValueError"
        | _, _ => .error "ValueError" := by
  rw [SIS_het_Ks]
  obtain hb | ⟨K, hb⟩ := bdim_cases Sk0.n Ik0.n
  · rw [hb]; exact bind_err (vop_err _ hb) _
  obtain hN | ⟨NkNl, hN⟩ := (hetNkNl_onlyVE SS SI II).cases
  · rw [hb, hN]; exact (bind_ok (vop_ok hb) _).trans ((hetNkNl_bind SS SI II _).trans (bind_err hN _))
  rw [hb, hN]
  show _ = if _ then _ else _
  refine (bind_ok (vop_ok hb) _).trans ((hetNkNl_bind SS SI II _).trans ((bind_ok hN _).trans ?_))
  by_cases e1 : SS.r * SS.c = K ^ 2
  case neg => exact (bind_err (reshape1_err e1) _).trans (if_neg (fun h => e1 h.1)).symm
  refine (bind_ok (reshape1_ok e1) _).trans ?_
  by_cases e2 : SI.r * SI.c = K ^ 2
  case neg => exact (bind_err (reshape1_err e2) _).trans (if_neg (fun h => e2 h.2.1)).symm
  -- X0 = concatenate((Sk0[:,None], SkSl0, SkIl0)).T[0]
  refine (bind_ok (reshape1_ok e2) _).trans ((bind_ok rfl _).trans ((bind_ok rfl _).trans ?_))
  refine (bind_ok (x := hetX0SIS Sk0 K SS SI) ?_ _).trans ?_
  · refine (getRow_T _ Nat.one_pos).trans (congrArg Except.ok ?_)
    simp only [hetX0SIS, V.append, mflat, Mx.col, Nat.mul_one, Nat.add_zero]
    rfl
  -- Ik = Nk - Sk with Sk = X[:K]
  refine (bind_ok rfl _).trans ((bind_ok (x := K) ?_ _).trans ?_)
  · exact (congrArg (bdim K) (hsl0 Sk0.n K)).trans (bdim_self K)
  cases full with
  | false =>
    refine Eq.trans (congrArg Except.ok (congrArg (Prod.mk _) ?_)) (if_pos ⟨e1, e2, nofun⟩).symm
    simp only [vsum, vslice, hetX0SIS_n, hetNk_n, hsl0, sliceLo_zero, Nat.zero_add]
    rfl
  | true =>
    -- SkSl.shape = (K, K): always possible; SkIl.shape = (K, K): iff len(Sk0) = K
    refine (check_ok ((hsl1 Sk0.n K).trans (Nat.pow_two K)) _ _).trans ?_
    by_cases e3 : Sk0.n = K
    case neg =>
      refine Eq.trans ?_ (if_neg (fun h => e3 (h.2.2 rfl).1)).symm
      exact check_err (fun h => e3 ((hcond _ K).1 ((hsl2 _ K).symm.trans h))) _ _ _
    refine (check_ok ((hsl2 Sk0.n K).trans ((hcond _ K).2 e3)) _ _).trans ?_
    -- NkNl.shape must be (K, K) for the subtractions in IkIl
    by_cases e4 : NkNl.r = K ∧ NkNl.c = K
    case neg =>
      refine Eq.trans ?_ (if_neg (fun h => e4 (h.2.2 rfl).2)).symm
      exact check_err (fun h => e4 (Prod.mk.inj h)) _ _ _
    refine (check_ok (congrArg₂ Prod.mk e4.1 e4.2) _ _).trans ((check_ok rfl _ _).trans ((check_ok rfl _ _).trans ?_))
    refine Eq.trans (congrArg Except.ok (congrArg (Prod.mk _) ?_)) (if_pos ⟨e1, e2, fun _ => ⟨e3, e4⟩⟩).symm
    have e5 : Sk0.n + K ^ 2 - K = K ^ 2 := by omega
    simp only [vsum, vslice, hetX0SIS_n, hetNk_n, hsl0, hsl1, hsl2, hso1, hso2, sliceLo_zero, Nat.zero_add, e5]
    rfl

/-- `SIS_het_eq` with an explicit `Ks` and the six broadcasts of `NkNl` given by their results (`h1`–`h6`) -/
theorem SIS_het_main (odeint myodeint : Solver) (rhs : V → Mx → Rat → Rat → V → V → V)
    (Sk0 Ik0 : V) (SS SI II : Mx) (tau gamma tmin tmax : Rat) (tcount : Nat) (full : Bool) (Ks : V)
    (K r1 c1 r2 c2 r3 c3 : Nat) (hb : bdim Sk0.n Ik0.n = .ok K)
    (h1 : bdim SS.r SI.r = .ok r1) (h2 : bdim SS.c SI.c = .ok c1) (h3 : bdim r1 II.r = .ok r2)
    (h4 : bdim c1 II.c = .ok c2) (h5 : bdim r2 SI.c = .ok r3) (h6 : bdim c2 SI.r = .ok c3) (NkNl : Mx)
    (hN : NkNl = ⟨r3, c3, fun i j =>
      SS.f (bidx SS.r (bidx r1 (bidx r2 i))) (bidx SS.c (bidx c1 (bidx c2 j))) +
      SI.f (bidx SI.r (bidx r1 (bidx r2 i))) (bidx SI.c (bidx c1 (bidx c2 j))) +
      II.f (bidx II.r (bidx r2 i)) (bidx II.c (bidx c2 j)) + SI.f (bidx SI.r j) (bidx SI.c i)⟩) :
    GenGlue2.SIS_heterogeneous_pairwise odeint myodeint rhs Sk0 Ik0 SS SI II tau gamma tmin tmax tcount full (some Ks)
      = if SS.r * SS.c = K ^ 2 ∧ SI.r * SI.c = K ^ 2 ∧ (full = true → Sk0.n = K ∧ r3 = K ∧ c3 = K) then
            .ok (hetX0SIS Sk0 K SS SI, outSISHet (linspace tmin tmax tcount) K (hetNk Sk0 Ik0 K) NkNl full
              (myodeint (fun st => rhs (hetNk Sk0 Ik0 K) NkNl tau gamma Ks st)
                (hetX0SIS Sk0 K SS SI)))
          else .error "ValueError" := by
  have hM : hetNkNl SS SI II = .ok NkNl := by
    subst hN
    simp only [hetNkNl, Mx.op, Mx.T, h1, h2, h3, h4, h5, h6, ok_bind, pure_eq_ok]
  rw [SIS_het_eq, hb, hM, hN]
  rfl

theorem hetNkNl_square (SS SI II : Mx) (K : Nat) (h1 : SS.r = K) (h2 : SS.c = K) (h3 : SI.r = K) (h4 : SI.c = K)
    (h5 : II.r = K) (h6 : II.c = K) :
    ∃ M, hetNkNl SS SI II = .ok M ∧ M.r = K ∧ M.c = K ∧
      ∀ i j, i < K → j < K → M.f i j = SS.f i j + SI.f i j + II.f i j + SI.f j i := by
  refine ⟨_, by simp [hetNkNl, Mx.op, Mx.T, h1, h2, h3, h4, h5, h6]; rfl, rfl, rfl, ?_⟩
  intro i j hi hj
  simp [bidx_lt K i hi, bidx_lt K j hj]

theorem hetX0SIS_pack (Sk0 : V) (K : Nat) (SS SI : Mx) (h0 : Sk0.n = K) (h2 : SS.c = K) (h4 : SI.c = K) :
    hetX0SIS Sk0 K SS SI = GenEqMat.packSIS K Sk0.f SS.f SI.f := by
  obtain ⟨_, _⟩ := Sk0
  obtain ⟨_, _, _⟩ := SS
  obtain ⟨_, _, _⟩ := SI
  cases h0; cases h2; cases h4
  exact V.append_assoc _ _ _

/-- **SIS call, canonical shapes** (`Sk0`, `Ik0` of length `K`, the three tables `K × K`; NO hypothesis on `Ks`, whose
length the function never inspects): no exception; `X0 = GenEqMat.packSIS K Sk0 SkSl0 SkIl0`; `myodeint` solves `rhs Nk
NkNl tau gamma Ks` with `Nk_k = Sk0_k + Ik0_k`, `NkNl_kl = SkSl0_kl + SkIl0_kl + IkIl0_kl + SkIl0_lk`, `Ks` defaulting
to `arange K`; the returned arrays are `outSISHet` of the solution -/
theorem SIS_het_call (odeint myodeint : Solver) (rhs : V → Mx → Rat → Rat → V → V → V)
    (Sk0 Ik0 : V) (SS SI II : Mx) (tau gamma tmin tmax : Rat) (tcount : Nat) (full : Bool) (Ks : Option V) (K : Nat)
    (hS : Sk0.n = K) (hI : Ik0.n = K) (h1 : SS.r = K) (h2 : SS.c = K) (h3 : SI.r = K) (h4 : SI.c = K)
    (h5 : II.r = K) (h6 : II.c = K) :
    ∃ NkNl, hetNkNl SS SI II = .ok NkNl ∧ NkNl.r = K ∧ NkNl.c = K ∧
      (∀ k l, k < K → l < K → NkNl.f k l = SS.f k l + SI.f k l + II.f k l + SI.f l k) ∧
      (hetNk Sk0 Ik0 K).n = K ∧ (∀ k, k < K → (hetNk Sk0 Ik0 K).f k = Sk0.f k + Ik0.f k) ∧
      GenGlue2.SIS_heterogeneous_pairwise odeint myodeint rhs Sk0 Ik0 SS SI II tau gamma tmin tmax tcount full Ks
        = .ok (GenEqMat.packSIS K Sk0.f SS.f SI.f,
            outSISHet (linspace tmin tmax tcount) K (hetNk Sk0 Ik0 K) NkNl full
              (myodeint (fun st => rhs (hetNk Sk0 Ik0 K) NkNl tau gamma (Ks.getD (V.arange K)) st)
                (GenEqMat.packSIS K Sk0.f SS.f SI.f))) := by
  obtain ⟨M, hM, hr, hc, hf⟩ := hetNkNl_square SS SI II K h1 h2 h3 h4 h5 h6
  refine ⟨M, hM, hr, hc, hf, rfl, ?_, ?_⟩
  · intro k hk
    simp [hetNk, hS, hI, bidx_lt K k hk]
  · have hb : bdim Sk0.n Ik0.n = .ok K := by rw [hS, hI, bdim_self]
    have hsq : K * K = K ^ 2 := (Nat.pow_two K).symm
    rw [SIS_het_eq, hb, hM]
    simp only [h1, h2, h3, h4, hsq, hS, hr, hc, and_self, implies_true, if_true, hetX0SIS_pack Sk0 K SS SI hS h2 h4]

/-- **SIS**: whatever the inputs, the only exception is `ValueError` (broadcasting `bdim`, `reshape`, shape assignment); the `TypeError`/`IndexError` branches of the generated code are unreachable -/
theorem SIS_het_error_is_ValueError (odeint myodeint : Solver) (rhs : V → Mx → Rat → Rat → V → V → V)
    (Sk0 Ik0 : V) (SS SI II : Mx) (tau gamma tmin tmax : Rat) (tcount : Nat) (full : Bool) (Ks : Option V) (e : String)
    (h : GenGlue2.SIS_heterogeneous_pairwise odeint myodeint rhs Sk0 Ik0 SS SI II tau gamma tmin tmax tcount full Ks
      = .error e) : e = "ValueError" := by
  rw [SIS_het_eq] at h
  split at h
  · split at h
    · cases h
    · injection h with h; exact h.symm
  · injection h with h; exact h.symm

/-- **SIS, exact domain of normal return**: `Sk0 + Ik0` broadcasts to length `K`, `NkNl` broadcasts, both tables have
`K²` entries, and with full data `len(Sk0) = K` and `NkNl` is `K × K`.  Length-1 `Sk0`/`Ik0` and `1 × 1`, `1 × K`, `K ×
1` tables `IkIl0` are therefore accepted (examples at the end) -/
theorem SIS_het_ok_iff (odeint myodeint : Solver) (rhs : V → Mx → Rat → Rat → V → V → V)
    (Sk0 Ik0 : V) (SS SI II : Mx) (tau gamma tmin tmax : Rat) (tcount : Nat) (full : Bool) (Ks : Option V) :
    (∃ r, GenGlue2.SIS_heterogeneous_pairwise odeint myodeint rhs Sk0 Ik0 SS SI II tau gamma tmin tmax tcount full Ks
      = .ok r) ↔
    ∃ K NkNl, bdim Sk0.n Ik0.n = .ok K ∧ hetNkNl SS SI II = .ok NkNl ∧ SS.r * SS.c = K ^ 2 ∧ SI.r * SI.c = K ^ 2 ∧
      (full = true → Sk0.n = K ∧ NkNl.r = K ∧ NkNl.c = K) := by
  rw [SIS_het_eq]
  constructor
  · rintro ⟨r, h⟩
    split at h
    · rename_i K M hb hM
      split at h
      · rename_i hc
        exact ⟨K, M, hb, hM, hc⟩
      · cases h
    · cases h
  · rintro ⟨K, M, hb, hM, hc⟩
    rw [hb, hM]
    exact ⟨_, if_pos hc⟩

theorem sumTo_bidx (K : Nat) (f : Nat → Rat) : sumTo K (fun k => f (bidx K k)) = sumTo K f :=
  ODE.sumTo_congr _ _ _ (fun k hk => by rw [bidx_lt K k hk])

/-- `S + I = Σ Nk` at every time index, for ANY solution `X` (because `Ik = Nk − Sk`) -/
theorem outSISHet_conserve (T : Nat → Rat) (K : Nat) (Nk : V) (NkNl : Mx) (full : Bool) (X : Nat → V) (i : Nat) :
    get (outSISHet T K Nk NkNl full X) 1 i + get (outSISHet T K Nk NkNl full X) 2 i = sumTo K Nk.f := by
  have e : sumTo K (fun k => Nk.f (bidx K k) - (X i).f (bidx K k)) = sumTo K Nk.f - sumTo K (X i).f :=
    (sumTo_bidx K fun k => Nk.f k - (X i).f k).trans (GenGlueProofs.sumTo_sub K _ _)
  cases full <;> simp only [outSISHet, Bool.false_eq_true, if_false, if_true, get_succ, get_zero_s] <;> rw [e] <;> ring

/-- full data: declared shapes, `S_k + I_k = Nk_k`, `S`/`I` are the class sums, and entrywise `IkIl = NkNl − SkSl − SkIl
− SkIlᵀ` (row-major position `k·K + m`; needs `NkNl.c = K` for the row-major reading of `NkNl`) -/
theorem outSISHet_full (T : Nat → Rat) (K : Nat) (Nk : V) (NkNl : Mx) (X : Nat → V) (hc : NkNl.c = K) :
    let l := outSISHet T K Nk NkNl true X
    l.length = 8 ∧ getN l 3 = K ∧ getN l 4 = K ∧ getN l 5 = K * K ∧ getN l 6 = K * K ∧ getN l 7 = K * K ∧
    (∀ i k, k < K → getM l 3 i k + getM l 4 i k = Nk.f k) ∧
    (∀ i, get l 1 i = sumTo K (getM l 3 i) ∧ get l 2 i = sumTo K (getM l 4 i)) ∧
    (∀ i k m, k < K → m < K → getM l 7 i (k * K + m)
      = NkNl.f k m - getM l 6 i (k * K + m) - getM l 5 i (k * K + m) - getM l 5 i (m * K + k)) := by
  refine ⟨rfl, rfl, rfl, rfl, rfl, rfl, fun i k hk => ?_, fun i => ⟨rfl, rfl⟩, fun i k m hk hm => ?_⟩
  · simp only [outSISHet, if_true, getM, getV_succ, getV_zero_m, bidx_lt K k hk]; ring
  · simp only [outSISHet, if_true, getM, getV_succ, getV_zero_c, hc, GenEqMat.rm_div K k m hm, GenEqMat.rm_mod K k m hm]

theorem outSISHet_init (T : Nat → Rat) (K : Nat) (Nk : V) (NkNl : Mx) (full : Bool) (X : Nat → V)
    (S : Nat → Rat) (SS SI : Nat → Nat → Rat) (hX : X 0 = GenEqMat.packSIS K S SS SI) :
    get (outSISHet T K Nk NkNl full X) 1 0 = sumTo K S ∧
    get (outSISHet T K Nk NkNl full X) 2 0 = sumTo K Nk.f - sumTo K S := by
  have hc := outSISHet_conserve T K Nk NkNl full X 0
  have h1 : get (outSISHet T K Nk NkNl full X) 1 0 = sumTo K S := by
    cases full <;> simp only [outSISHet, Bool.false_eq_true, if_false, if_true, get_succ, get_zero_s, hX] <;>
      exact ODE.sumTo_congr _ _ _ (fun k hk => V.append_f_lt _ _ k hk)
  refine ⟨h1, ?_⟩
  rw [h1] at hc; linarith

theorem outSISHet_init_full (T : Nat → Rat) (K : Nat) (Nk : V) (NkNl : Mx) (X : Nat → V)
    (S : Nat → Rat) (SS SI : Nat → Nat → Rat) (hX : X 0 = GenEqMat.packSIS K S SS SI) (hc : NkNl.c = K) :
    let l := outSISHet T K Nk NkNl true X
    (∀ k, k < K → getM l 3 0 k = S k ∧ getM l 4 0 k = Nk.f k - S k) ∧
    (∀ k m, k < K → m < K → getM l 6 0 (k * K + m) = SS k m ∧ getM l 5 0 (k * K + m) = SI k m ∧
      getM l 7 0 (k * K + m) = NkNl.f k m - SS k m - SI k m - SI m k) := by
  refine ⟨fun k hk => ?_, fun k m hk hm => ?_⟩
  · simp only [outSISHet, if_true, getM, getV_succ, getV_zero_m, bidx_lt K k hk, hX]
    rw [show (GenEqMat.packSIS K S SS SI).f k = S k from V.append_f_lt _ _ k hk]
    exact ⟨rfl, rfl⟩
  · have a := GenEqMat.packSIS_SS K S SS SI k m hk hm
    have b := GenEqMat.packSIS_SI K S SS SI k m hm
    have c := GenEqMat.packSIS_SI K S SS SI m k hk
    simp only [outSISHet, if_true, getM, getV_succ, getV_zero_c, hX, hc, GenEqMat.rm_div K k m hm,
      GenEqMat.rm_mod K k m hm, a, b, c]
    exact ⟨trivial, trivial, trivial⟩

/-- SIS: lengths of `Sk0`, `Ik0` that differ and are both `≠ 1`: `ValueError` (from `Sk0 + Ik0`) -/
theorem SIS_het_error_lengths (odeint myodeint : Solver) (rhs : V → Mx → Rat → Rat → V → V → V)
    (Sk0 Ik0 : V) (SS SI II : Mx) (tau gamma tmin tmax : Rat) (tcount : Nat) (full : Bool) (Ks : Option V)
    (h1 : Sk0.n ≠ Ik0.n) (h2 : Sk0.n ≠ 1) (h3 : Ik0.n ≠ 1) :
    GenGlue2.SIS_heterogeneous_pairwise odeint myodeint rhs Sk0 Ik0 SS SI II tau gamma tmin tmax tcount full Ks
      = .error "ValueError" := by
  rw [SIS_het_eq, bdim_error _ _ h1 h2 h3]

/-- SIS: a table `SkSl0` or `SkIl0` whose number of entries is not `K²` (`K` = broadcast length of `Sk0 + Ik0`):
`ValueError` (from `reshape`, or earlier from a broadcasting failure) -/
theorem SIS_het_error_reshape (odeint myodeint : Solver) (rhs : V → Mx → Rat → Rat → V → V → V)
    (Sk0 Ik0 : V) (SS SI II : Mx) (tau gamma tmin tmax : Rat) (tcount : Nat) (full : Bool) (Ks : Option V) (K : Nat)
    (hb : bdim Sk0.n Ik0.n = .ok K) (h : SS.r * SS.c ≠ K ^ 2 ∨ SI.r * SI.c ≠ K ^ 2) :
    GenGlue2.SIS_heterogeneous_pairwise odeint myodeint rhs Sk0 Ik0 SS SI II tau gamma tmin tmax tcount full Ks
      = .error "ValueError" := by
  rw [SIS_het_eq, hb]
  obtain hN | ⟨M, hN⟩ := (hetNkNl_onlyVE SS SI II).cases
  · rw [hN]
  · rw [hN]; exact if_neg fun hc => h.elim (· hc.1) (· hc.2.1)

/-- `Σ Nk = Σ Sk0 + Σ Ik0` when both have length `K` (false under broadcasting) -/
theorem hetNk_sum (Sk0 Ik0 : V) (K : Nat) (hS : Sk0.n = K) (hI : Ik0.n = K) :
    sumTo K (hetNk Sk0 Ik0 K).f = sumTo K Sk0.f + sumTo K Ik0.f := by
  rw [← ODE.sumTo_add]
  exact ODE.sumTo_congr _ _ _ (fun k hk => by simp [hetNk, hS, hI, bidx_lt K k hk])

/-- **SIS conservation for EVERY normal return** (any accepted shapes, every solver): `S + I = Σ Nk` at every time
index with `Nk` the broadcast sum; `= Σ Sk0 + Σ Ik0` when `len(Sk0) = len(Ik0)` (needed: see the broadcasting example) -/
theorem SIS_het_conserve (odeint myodeint : Solver) (rhs : V → Mx → Rat → Rat → V → V → V)
    (Sk0 Ik0 : V) (SS SI II : Mx) (tau gamma tmin tmax : Rat) (tcount : Nat) (full : Bool) (Ks : Option V)
    (x0 : V) (l : List Out)
    (h : GenGlue2.SIS_heterogeneous_pairwise odeint myodeint rhs Sk0 Ik0 SS SI II tau gamma tmin tmax tcount full Ks
      = .ok (x0, l)) :
    ∃ K, bdim Sk0.n Ik0.n = .ok K ∧ (∀ i, get l 1 i + get l 2 i = sumTo K (hetNk Sk0 Ik0 K).f) ∧
      (Sk0.n = Ik0.n → ∀ i, get l 1 i + get l 2 i = sumTo Sk0.n Sk0.f + sumTo Ik0.n Ik0.f) := by
  rw [SIS_het_eq] at h
  split at h
  · rename_i K M hb hM
    split at h
    · have h' := Except.ok.inj h
      have hl : l = _ := (congrArg Prod.snd h').symm
      refine ⟨K, hb, fun i => ?_, fun hn i => ?_⟩
      · rw [hl]; exact outSISHet_conserve _ _ _ _ _ _ i
      · have hK : Sk0.n = K := by
          rw [← hn, bdim_self] at hb
          injection hb
        rw [hl, outSISHet_conserve, ← hn, hK, hetNk_sum Sk0 Ik0 K hK (hn ▸ hK)]
    · cases h
  · cases h

/-- **SIS, canonical shapes: conservation, initial state, full data.**  `S + I = ΣSk0 + ΣIk0` at EVERY time index for
EVERY solver; with `RowZero myodeint` (the solver actually called) `S(0) = ΣSk0`, `I(0) = ΣIk0`; full data: shapes,
`S_k + I_k = Sk0_k + Ik0_k`, `IkIl + SkSl + SkIl + SkIlᵀ = SkSl0 + SkIl0 + IkIl0 + SkIl0ᵀ` entrywise at every time index,
and at index 0 the series are the given `Sk0, Ik0, SkSl0, SkIl0, IkIl0` -/
theorem SIS_het_spec (odeint myodeint : Solver) (rhs : V → Mx → Rat → Rat → V → V → V)
    (Sk0 Ik0 : V) (SS SI II : Mx) (tau gamma tmin tmax : Rat) (tcount : Nat) (full : Bool) (Ks : Option V) (K : Nat)
    (hS : Sk0.n = K) (hI : Ik0.n = K) (h1 : SS.r = K) (h2 : SS.c = K) (h3 : SI.r = K) (h4 : SI.c = K)
    (h5 : II.r = K) (h6 : II.c = K) :
    ∃ l, GenGlue2.SIS_heterogeneous_pairwise odeint myodeint rhs Sk0 Ik0 SS SI II tau gamma tmin tmax tcount full Ks
        = .ok (GenEqMat.packSIS K Sk0.f SS.f SI.f, l) ∧
      l.length = (if full then 8 else 3) ∧
      (∀ i, get l 0 i = linspace tmin tmax tcount i) ∧
      (∀ i, get l 1 i + get l 2 i = sumTo K Sk0.f + sumTo K Ik0.f) ∧
      (RowZero myodeint → get l 1 0 = sumTo K Sk0.f ∧ get l 2 0 = sumTo K Ik0.f) ∧
      (full = true →
        getN l 3 = K ∧ getN l 4 = K ∧ getN l 5 = K * K ∧ getN l 6 = K * K ∧ getN l 7 = K * K ∧
        (∀ i, get l 1 i = sumTo K (getM l 3 i) ∧ get l 2 i = sumTo K (getM l 4 i)) ∧
        (∀ i k, k < K → getM l 3 i k + getM l 4 i k = Sk0.f k + Ik0.f k) ∧
        (∀ i k m, k < K → m < K → getM l 7 i (k * K + m) + getM l 6 i (k * K + m) + getM l 5 i (k * K + m)
          + getM l 5 i (m * K + k) = SS.f k m + SI.f k m + II.f k m + SI.f m k) ∧
        (RowZero myodeint →
          (∀ k, k < K → getM l 3 0 k = Sk0.f k ∧ getM l 4 0 k = Ik0.f k) ∧
          (∀ k m, k < K → m < K → getM l 6 0 (k * K + m) = SS.f k m ∧ getM l 5 0 (k * K + m) = SI.f k m ∧
            getM l 7 0 (k * K + m) = II.f k m))) := by
  obtain ⟨M, hM, hr, hc, hf, -, hNk, hcall⟩ := SIS_het_call odeint myodeint rhs Sk0 Ik0 SS SI II tau gamma tmin tmax
    tcount full Ks K hS hI h1 h2 h3 h4 h5 h6
  obtain ⟨X, hX⟩ : ∃ X, X = myodeint (fun st => rhs (hetNk Sk0 Ik0 K) M tau gamma (Ks.getD (V.arange K)) st)
      (GenEqMat.packSIS K Sk0.f SS.f SI.f) := ⟨_, rfl⟩
  rw [← hX] at hcall
  have hsum := hetNk_sum Sk0 Ik0 K hS hI
  refine ⟨_, hcall, by cases full <;> rfl, fun i => by cases full <;> rfl, fun i => ?_, fun h0 => ?_, ?_⟩
  · rw [outSISHet_conserve, hsum]
  · obtain ⟨a, b⟩ := outSISHet_init (linspace tmin tmax tcount) K (hetNk Sk0 Ik0 K) M full X Sk0.f SS.f SI.f
      (hX ▸ h0 _ _)
    exact ⟨a, by rw [b, hsum]; ring⟩
  · rintro rfl
    obtain ⟨-, -, -, -, -, -, hk, -, hII⟩ := outSISHet_full (linspace tmin tmax tcount) K (hetNk Sk0 Ik0 K) M X hc
    refine ⟨rfl, rfl, rfl, rfl, rfl, fun i => ⟨rfl, rfl⟩, fun i k hk' => ?_, fun i k m hk' hm => ?_, fun h0 => ?_⟩
    · rw [hk i k hk', hNk k hk']
    · rw [hII i k m hk' hm, hf k m hk' hm]; ring
    · obtain ⟨a, b⟩ := outSISHet_init_full (linspace tmin tmax tcount) K (hetNk Sk0 Ik0 K) M X Sk0.f SS.f SI.f
        (hX ▸ h0 _ _) hc
      refine ⟨fun k hk' => ?_, fun k m hk' hm => ?_⟩
      · obtain ⟨x, y⟩ := a k hk'
        exact ⟨x, by rw [y, hNk k hk']; ring⟩
      · obtain ⟨x, y, z⟩ := b k m hk' hm
        exact ⟨x, y, by rw [z, hf k m hk' hm]; ring⟩

/-- adapter: `GenMat.dSIS_heterogeneous_pairwise` (state first) in the order of the `rhs` parameter of
`GenGlue2.SIS_heterogeneous_pairwise` (state last, `NkNl` an `Mx`) -/
def rhsSIS : V → Mx → Rat → Rat → V → V → V :=
  fun Nk NkNl tau gamma Ks st => GenMat.dSIS_heterogeneous_pairwise st Nk NkNl.f tau gamma Ks

/-- **SIS composed with the generated right-hand side** (`rhsSIS` = `GenMat.dSIS_heterogeneous_pairwise` in the order of the
`rhs` parameter; here `Ks = None` or `len(Ks) = K` is needed, because the generated right-hand side takes `kcount =
len(Ks)`): the function solved by `myodeint` is, on every packed state, the model `ODE.sisHetPW K tau gamma Ks Nk NkNl`
(`GenMatProps.gen_sisHetPW`) -/
theorem SIS_het_composed (odeint myodeint : Solver)
    (Sk0 Ik0 : V) (SS SI II : Mx) (tau gamma tmin tmax : Rat) (tcount : Nat) (full : Bool) (Ks : Option V) (K : Nat)
    (hS : Sk0.n = K) (hI : Ik0.n = K) (h1 : SS.r = K) (h2 : SS.c = K) (h3 : SI.r = K) (h4 : SI.c = K)
    (h5 : II.r = K) (h6 : II.c = K) (hK : ∀ ks, Ks = some ks → ks.n = K) :
    ∃ (Nk KsF : Nat → Rat) (NkNl : Nat → Nat → Rat),
      GenGlue2.SIS_heterogeneous_pairwise odeint myodeint rhsSIS Sk0 Ik0 SS SI II tau gamma tmin tmax tcount full Ks
        = .ok (GenEqMat.packSIS K Sk0.f SS.f SI.f,
            outSISHet (linspace tmin tmax tcount) K ⟨K, Nk⟩ ⟨K, K, NkNl⟩ full
              (myodeint (fun st => GenMat.dSIS_heterogeneous_pairwise st ⟨K, Nk⟩ NkNl tau gamma ⟨K, KsF⟩)
                (GenEqMat.packSIS K Sk0.f SS.f SI.f))) ∧
      (∀ k, k < K → Nk k = Sk0.f k + Ik0.f k) ∧
      (∀ k m, k < K → m < K → NkNl k m = SS.f k m + SI.f k m + II.f k m + SI.f m k) ∧
      (∀ k, KsF k = (Ks.getD (V.arange K)).f k) ∧
      ∀ (S : Nat → Rat) (SS' SI' : Nat → Nat → Rat),
        let r := GenMat.dSIS_heterogeneous_pairwise (GenEqMat.packSIS K S SS' SI') ⟨K, Nk⟩ NkNl tau gamma ⟨K, KsF⟩
        let m := ODE.sisHetPW K tau gamma KsF Nk NkNl S SS' SI'
        r.n = K + K ^ 2 + K ^ 2 ∧ (∀ k, k < K → r.f k = m.1 k) ∧
        ∀ k l, k < K → l < K →
          r.f (K + (k * K + l)) = m.2.1 k l ∧ r.f (K + K ^ 2 + (k * K + l)) = m.2.2 k l := by
  obtain ⟨M, hM, hr, hc, hf, -, hNk, hcall⟩ := SIS_het_call odeint myodeint rhsSIS Sk0 Ik0 SS SI II tau gamma tmin tmax
    tcount full Ks K hS hI h1 h2 h3 h4 h5 h6
  obtain ⟨Mr, Mc, Mf⟩ := M
  simp only at hr hc hf
  subst hr hc
  rw [getD_arange Ks Mc hK] at hcall
  exact ⟨(hetNk Sk0 Ik0 Mc).f, (Ks.getD (V.arange Mc)).f, Mf, hcall, hNk, hf, fun _ => rfl,
    fun S SS' SI' => GenMatProps.gen_sisHetPW Mc tau gamma _ _ Mf S SS' SI'⟩

theorem q_sl3 (K q : Nat) : sliceLen (K + K + q + q) (2 * K + q) (2 * K + 2 * q) = q := by unfold sliceLen; omega

/-- `Nk = Sk0 + Ik0 + Rk0` for three arrays of length `K` -/
def hetNk3 (Sk0 Ik0 Rk0 : V) (K : Nat) : V :=
  ⟨K, fun k => Sk0.f (bidx K (bidx K k)) + Ik0.f (bidx K (bidx K k)) + Rk0.f (bidx K k)⟩

/-- the `X0` the generated SIR code builds:
`concatenate((Sk0[:,None], Ik0[:,None], SkSl0.reshape(K²,1), SkIl0.reshape(K²,1))).T[0]` with `K = len(Ks)`
(any shapes; `= packSIR` for canonical shapes, `hetX0SIR_pack`) -/
def hetX0SIR (Sk0 Ik0 : V) (K : Nat) (SS SI : Mx) : V :=
  V.append (V.append (V.append Sk0 Ik0) (mflat (K ^ 2) SS)) (mflat (K ^ 2) SI)

theorem hetX0SIR_n (Sk0 Ik0 : V) (K : Nat) (SS SI : Mx) :
    (hetX0SIR Sk0 Ik0 K SS SI).n = Sk0.n + Ik0.n + K ^ 2 + K ^ 2 := rfl

/-- closed form of the arrays returned by `SIR_heterogeneous_pairwise`: `[times, S, I, R]` and with full data
`Sk, Ik, Rk, SkIl, SkSl`; `Sk = X[:K]`, `Ik = X[K:2K]`, `Rk = Nk − Sk − Ik`, `SkSl = X[2K:2K+K²]`, `SkIl = X[2K+K²:2K+2K²]` -/
def outSIRHet (T : Nat → Rat) (K : Nat) (Nk : V) (full : Bool) (X : Nat → V) : List Out :=
  let Sk : Nat → V := fun i => ⟨K, fun k => (X i).f k⟩
  let Ik : Nat → V := fun i => ⟨K, fun k => (X i).f (K + k)⟩
  let Rk : Nat → V := fun i => ⟨K, fun k =>
    Nk.f (bidx K (bidx K k)) - (X i).f (bidx K (bidx K k)) - (X i).f (K + bidx K k)⟩
  let SkSl : Nat → V := fun i => ⟨K ^ 2, fun k => (X i).f (2 * K + k)⟩
  let SkIl : Nat → V := fun i => ⟨K ^ 2, fun k => (X i).f (2 * K + K ^ 2 + k)⟩
  if full then
    [Out.s T, Out.s (fun i => sumTo K (X i).f), Out.s (fun i => sumTo K (Ik i).f), Out.s (fun i => sumTo K (Rk i).f),
     Out.m K Sk, Out.m K Ik, Out.m K Rk, Out.c K K SkIl, Out.c K K SkSl]
  else
    [Out.s T, Out.s (fun i => sumTo K (X i).f), Out.s (fun i => sumTo K (Ik i).f), Out.s (fun i => sumTo K (Rk i).f)]

/-- `Ks = None` is `Ks = np.arange(len(Sk0))` -/
theorem SIR_het_Ks (odeint myodeint : Solver) (rhs : Rat → Rat → V → V → V → V)
    (Sk0 Ik0 Rk0 : V) (SS SI : Mx) (tau gamma tmin tmax : Rat) (tcount : Nat) (full : Bool) (Ks : Option V) :
    GenGlue2.SIR_heterogeneous_pairwise odeint myodeint rhs Sk0 Ik0 Rk0 SS SI tau gamma tmin tmax tcount full Ks
      = GenGlue2.SIR_heterogeneous_pairwise odeint myodeint rhs Sk0 Ik0 Rk0 SS SI tau gamma tmin tmax tcount full
          (some (Ks.getD (V.arange Sk0.n))) := by
  cases Ks <;> rfl

theorem SIR_het_Ks_none (odeint myodeint : Solver) (rhs : Rat → Rat → V → V → V → V)
    (Sk0 Ik0 Rk0 : V) (SS SI : Mx) (tau gamma tmin tmax : Rat) (tcount : Nat) (full : Bool) :
    GenGlue2.SIR_heterogeneous_pairwise odeint myodeint rhs Sk0 Ik0 Rk0 SS SI tau gamma tmin tmax tcount full none
      = GenGlue2.SIR_heterogeneous_pairwise odeint myodeint rhs Sk0 Ik0 Rk0 SS SI tau gamma tmin tmax tcount full
          (some (V.arange Sk0.n)) :=
  SIR_het_Ks odeint myodeint rhs Sk0 Ik0 Rk0 SS SI tau gamma tmin tmax tcount full none

theorem hetX0SIR_pack (Sk0 Ik0 : V) (K : Nat) (SS SI : Mx) (hS : Sk0.n = K) (hI : Ik0.n = K) (h2 : SS.c = K)
    (h4 : SI.c = K) : hetX0SIR Sk0 Ik0 K SS SI = GenEqMat.packSIR K Sk0.f Ik0.f SS.f SI.f := by
  obtain ⟨_, _⟩ := Sk0
  obtain ⟨_, _⟩ := Ik0
  obtain ⟨_, _, _⟩ := SS
  obtain ⟨_, _, _⟩ := SI
  cases hS; cases hI; cases h2; cases h4
  exact (V.append_assoc _ _ _).trans (V.append_assoc _ _ _)

/-- **SIR call, canonical shapes** (`Sk0, Ik0, Rk0` of length `K`, `Ks = None` or of length `K` — needed, since here
`kcount = len(Ks)`; tables `K × K`): no exception; `X0 = GenEqMat.packSIR K Sk0 Ik0 SkSl0 SkIl0`; `odeint` solves
`rhs tau gamma Nk Ks` with `Nk_k = Sk0_k + Ik0_k + Rk0_k`; the returned arrays are `outSIRHet` of the solution -/
theorem SIR_het_call (odeint myodeint : Solver) (rhs : Rat → Rat → V → V → V → V)
    (Sk0 Ik0 Rk0 : V) (SS SI : Mx) (tau gamma tmin tmax : Rat) (tcount : Nat) (full : Bool) (Ks : Option V) (K : Nat)
    (hS : Sk0.n = K) (hI : Ik0.n = K) (hR : Rk0.n = K) (hK : ∀ ks, Ks = some ks → ks.n = K) (h1 : SS.r = K)
    (h2 : SS.c = K) (h3 : SI.r = K) (h4 : SI.c = K) :
    GenGlue2.SIR_heterogeneous_pairwise odeint myodeint rhs Sk0 Ik0 Rk0 SS SI tau gamma tmin tmax tcount full Ks
      = .ok (GenEqMat.packSIR K Sk0.f Ik0.f SS.f SI.f,
          outSIRHet (linspace tmin tmax tcount) K (hetNk3 Sk0 Ik0 Rk0 K) full
            (odeint (fun st => rhs tau gamma (hetNk3 Sk0 Ik0 Rk0 K) (Ks.getD (V.arange K)) st)
              (GenEqMat.packSIR K Sk0.f Ik0.f SS.f SI.f))) ∧
    (hetNk3 Sk0 Ik0 Rk0 K).n = K ∧ ∀ k, k < K → (hetNk3 Sk0 Ik0 Rk0 K).f k = Sk0.f k + Ik0.f k + Rk0.f k := by
  refine ⟨?_, rfl, fun k hk => by simp [hetNk3, bidx_lt K k hk]⟩
  obtain ⟨_, fS⟩ := Sk0; obtain rfl : K = _ := hS.symm
  obtain ⟨_, fI⟩ := Ik0; obtain rfl : K = _ := hI.symm
  obtain ⟨_, fR⟩ := Rk0; obtain rfl : K = _ := hR.symm
  rw [SIR_het_Ks, ← hetX0SIR_pack ⟨K, fS⟩ ⟨K, fI⟩ K SS SI rfl rfl h2 h4, getD_arange Ks K hK]
  generalize (Ks.getD (V.arange K)).f = fK
  have e1 : SS.r * SS.c = K ^ 2 := by rw [h1, h2, Nat.pow_two]
  have e2 : SI.r * SI.c = K ^ 2 := by rw [h3, h4, Nat.pow_two]
  refine (bind_ok (vop_ok (bdim_self K)) _).trans ((bind_ok (vop_ok (bdim_self K)) _).trans ((bind_ok rfl _).trans ?_))
  -- X0 = concatenate((Sk0[:,None], Ik0[:,None], SkSl0.reshape(K²,1), SkIl0.reshape(K²,1))).T[0]
  refine (bind_ok (reshape1_ok e1) _).trans ((bind_ok (reshape1_ok e2) _).trans ?_)
  refine (bind_ok rfl _).trans ((bind_ok rfl _).trans ((bind_ok rfl _).trans ?_))
  refine (bind_ok (x := hetX0SIR ⟨K, fS⟩ ⟨K, fI⟩ K SS SI) ?_ _).trans ((bind_ok rfl _).trans ?_)
  · refine (getRow_T _ Nat.one_pos).trans (congrArg Except.ok ?_)
    simp only [hetX0SIR, V.append, mflat, Mx.col, Nat.mul_one, Nat.add_zero]
    rfl
  -- Rk = Nk - Sk - Ik with Sk = X[:K], Ik = X[K:2K]
  refine (bind_ok (x := K) ?_ _).trans ((bind_ok (x := K) ?_ _).trans ?_)
  · exact (congrArg (bdim K) (sl4_0 K (K ^ 2))).trans (bdim_self K)
  · exact (congrArg (bdim K) (sl4_1 K (K ^ 2))).trans (bdim_self K)
  cases full with
  | false =>
    refine congrArg Except.ok (congrArg (Prod.mk _) ?_)
    simp only [vsum, vslice, hetX0SIR_n, hetNk_n, sl4_0, sl4_1, so4_1, sliceLo_zero, Nat.zero_add]
    rfl
  | true =>
    refine (check_ok ((q_sl3 K (K ^ 2)).trans (Nat.pow_two K)) _ _).trans ?_
    refine (check_ok ((sl4_2 K (K ^ 2)).trans (Nat.pow_two K)) _ _).trans ?_
    refine congrArg Except.ok (congrArg (Prod.mk _) ?_)
    simp only [vsum, vslice, hetX0SIR_n, hetNk_n, sl4_0, sl4_1, sl4_2, q_sl3, so4_1, so4_2, so4_3, sliceLo_zero,
      Nat.zero_add]
    rfl

/-- `SIR_het_call` with an explicit `Ks`, `X0` in the nested form the generated code builds -/
theorem SIR_het_call_some (odeint myodeint : Solver) (rhs : Rat → Rat → V → V → V → V)
    (Sk0 Ik0 Rk0 : V) (SS SI : Mx) (tau gamma tmin tmax : Rat) (tcount : Nat) (full : Bool) (Ks : V) (K : Nat)
    (hS : Sk0.n = K) (hI : Ik0.n = K) (hR : Rk0.n = K) (hK : Ks.n = K) (h1 : SS.r = K) (h2 : SS.c = K)
    (h3 : SI.r = K) (h4 : SI.c = K) :
    GenGlue2.SIR_heterogeneous_pairwise odeint myodeint rhs Sk0 Ik0 Rk0 SS SI tau gamma tmin tmax tcount full (some Ks)
      = .ok (hetX0SIR Sk0 Ik0 K SS SI, outSIRHet (linspace tmin tmax tcount) K (hetNk3 Sk0 Ik0 Rk0 K) full
          (odeint (fun st => rhs tau gamma (hetNk3 Sk0 Ik0 Rk0 K) Ks st) (hetX0SIR Sk0 Ik0 K SS SI))) := by
  rw [hetX0SIR_pack Sk0 Ik0 K SS SI hS hI h2 h4]
  exact (SIR_het_call odeint myodeint rhs Sk0 Ik0 Rk0 SS SI tau gamma tmin tmax tcount full (some Ks) K hS hI hR
    (fun _ e => Option.some.inj e ▸ hK) h1 h2 h3 h4).1

/-- **SIR**: whatever the inputs, the only exception is `ValueError` -/
theorem SIR_het_error_is_ValueError (odeint myodeint : Solver) (rhs : Rat → Rat → V → V → V → V)
    (Sk0 Ik0 Rk0 : V) (SS SI : Mx) (tau gamma tmin tmax : Rat) (tcount : Nat) (full : Bool) (Ks : Option V) (e : String)
    (h : GenGlue2.SIR_heterogeneous_pairwise odeint myodeint rhs Sk0 Ik0 Rk0 SS SI tau gamma tmin tmax tcount full Ks
      = .error e) : e = "ValueError" := by
  rw [SIR_het_Ks] at h
  generalize Ks.getD (V.arange Sk0.n) = ks at h
  suffices H : OnlyVE (GenGlue2.SIR_heterogeneous_pairwise odeint myodeint rhs Sk0 Ik0 Rk0 SS SI tau gamma tmin tmax
      tcount full (some ks)) from H e h
  refine (vop_onlyVE _ _ _).bind fun _ _ => (vop_onlyVE _ _ _).bind fun _ _ => .step rfl ?_
  -- the reshapes can fail; `concatenate` of one-column arrays and `.T[0]` cannot
  by_cases e1 : SS.r * SS.c = ks.n ^ 2
  case neg => exact .stop (reshape1_err e1)
  refine .step (reshape1_ok e1) ?_
  by_cases e2 : SI.r * SI.c = ks.n ^ 2
  case neg => exact .stop (reshape1_err e2)
  refine .step (reshape1_ok e2) (.step rfl (.step rfl (.step rfl (.step (getRow_T _ Nat.one_pos) (.step rfl ?_)))))
  refine (bdim_onlyVE _ _).bind fun _ _ => (bdim_onlyVE _ _).bind fun _ _ => ?_
  cases full
  · exact .ok _
  · exact .check (.check (.ok _))

theorem SIR_het_error_some (odeint myodeint : Solver) (rhs : Rat → Rat → V → V → V → V)
    (Sk0 Ik0 Rk0 : V) (SS SI : Mx) (tau gamma tmin tmax : Rat) (tcount : Nat) (full : Bool) (Ks : V) (e : String)
    (h : GenGlue2.SIR_heterogeneous_pairwise odeint myodeint rhs Sk0 Ik0 Rk0 SS SI tau gamma tmin tmax tcount full (some Ks)
      = .error e) : e = "ValueError" :=
  SIR_het_error_is_ValueError odeint myodeint rhs Sk0 Ik0 Rk0 SS SI tau gamma tmin tmax tcount full (some Ks) e h

/-- SIR: `Sk0`, `Ik0` of different lengths, neither 1: `ValueError` (first statement that can fail) -/
theorem SIR_het_error_lengths (odeint myodeint : Solver) (rhs : Rat → Rat → V → V → V → V)
    (Sk0 Ik0 Rk0 : V) (SS SI : Mx) (tau gamma tmin tmax : Rat) (tcount : Nat) (full : Bool) (Ks : Option V)
    (h1 : Sk0.n ≠ Ik0.n) (h2 : Sk0.n ≠ 1) (h3 : Ik0.n ≠ 1) :
    GenGlue2.SIR_heterogeneous_pairwise odeint myodeint rhs Sk0 Ik0 Rk0 SS SI tau gamma tmin tmax tcount full Ks
      = .error "ValueError" := by
  cases Ks <;> exact bind_err (vop_err _ (bdim_error _ _ h1 h2 h3)) _

/-- SIR: `SkSl0` does not have `len(Ks)²` entries: `ValueError` (`kcount = len(Ks)` here, NOT `len(Nk)` as in the SIS function) -/
theorem SIR_het_error_reshape (odeint myodeint : Solver) (rhs : Rat → Rat → V → V → V → V)
    (Sk0 Ik0 Rk0 : V) (SS SI : Mx) (tau gamma tmin tmax : Rat) (tcount : Nat) (full : Bool) (Ks : V)
    (h : SS.r * SS.c ≠ Ks.n ^ 2) :
    GenGlue2.SIR_heterogeneous_pairwise odeint myodeint rhs Sk0 Ik0 Rk0 SS SI tau gamma tmin tmax tcount full (some Ks)
      = .error "ValueError" := by
  obtain hb | ⟨m1, hb⟩ := bdim_cases Sk0.n Ik0.n
  · exact bind_err (vop_err _ hb) _
  refine (bind_ok (vop_ok hb) _).trans ?_
  obtain hb2 | ⟨N, hb2⟩ := bdim_cases m1 Rk0.n
  · exact bind_err (vop_err _ hb2) _
  exact (bind_ok (vop_ok hb2) _).trans ((bind_ok rfl _).trans (bind_err (reshape1_err h) _))

/-- `S + I + R = Σ Nk` at every time index for ANY solution (`Rk = Nk − Sk − Ik`) -/
theorem outSIRHet_conserve (T : Nat → Rat) (K : Nat) (Nk : V) (full : Bool) (X : Nat → V) (i : Nat) :
    get (outSIRHet T K Nk full X) 1 i + get (outSIRHet T K Nk full X) 2 i + get (outSIRHet T K Nk full X) 3 i
      = sumTo K Nk.f := by
  have e : sumTo K (fun k => Nk.f (bidx K (bidx K k)) - (X i).f (bidx K (bidx K k)) - (X i).f (K + bidx K k))
      = sumTo K Nk.f - sumTo K (X i).f - sumTo K (fun k => (X i).f (K + k)) := by
    rw [← GenGlueProofs.sumTo_sub3]
    exact ODE.sumTo_congr _ _ _ (fun k hk => by rw [bidx_lt K k hk, bidx_lt K k hk])
  cases full <;> simp only [outSIRHet, Bool.false_eq_true, if_false, if_true, get_succ, get_zero_s] <;> rw [e] <;> ring

theorem outSIRHet_full (T : Nat → Rat) (K : Nat) (Nk : V) (X : Nat → V) :
    let l := outSIRHet T K Nk true X
    l.length = 9 ∧ getN l 4 = K ∧ getN l 5 = K ∧ getN l 6 = K ∧ getN l 7 = K * K ∧ getN l 8 = K * K ∧
    (∀ i k, k < K → getM l 4 i k + getM l 5 i k + getM l 6 i k = Nk.f k) ∧
    ∀ i, get l 1 i = sumTo K (getM l 4 i) ∧ get l 2 i = sumTo K (getM l 5 i) ∧ get l 3 i = sumTo K (getM l 6 i) := by
  refine ⟨rfl, rfl, rfl, rfl, rfl, rfl, fun i k hk => ?_, fun i => ⟨rfl, rfl, rfl⟩⟩
  simp only [outSIRHet, if_true, getM, getV_succ, getV_zero_m, bidx_lt K k hk]; ring

theorem outSIRHet_init (T : Nat → Rat) (K : Nat) (Nk : V) (full : Bool) (X : Nat → V)
    (S I : Nat → Rat) (SS SI : Nat → Nat → Rat) (hX : X 0 = GenEqMat.packSIR K S I SS SI) :
    get (outSIRHet T K Nk full X) 1 0 = sumTo K S ∧ get (outSIRHet T K Nk full X) 2 0 = sumTo K I ∧
    get (outSIRHet T K Nk full X) 3 0 = sumTo K Nk.f - sumTo K S - sumTo K I := by
  have hc := outSIRHet_conserve T K Nk full X 0
  have h1 : get (outSIRHet T K Nk full X) 1 0 = sumTo K S := by
    cases full <;> simp only [outSIRHet, Bool.false_eq_true, if_false, if_true, get_succ, get_zero_s, hX] <;>
      exact ODE.sumTo_congr _ _ _ (fun k hk => V.append_f_lt _ _ k hk)
  have h2 : get (outSIRHet T K Nk full X) 2 0 = sumTo K I := by
    cases full <;> simp only [outSIRHet, Bool.false_eq_true, if_false, if_true, get_succ, get_zero_s, hX] <;>
      exact ODE.sumTo_congr _ _ _ (fun k hk => GenEqMat.packSIR_I K S I SS SI k hk)
  refine ⟨h1, h2, ?_⟩
  rw [h1, h2] at hc; linarith

theorem outSIRHet_init_full (T : Nat → Rat) (K : Nat) (Nk : V) (X : Nat → V)
    (S I : Nat → Rat) (SS SI : Nat → Nat → Rat) (hX : X 0 = GenEqMat.packSIR K S I SS SI) :
    let l := outSIRHet T K Nk true X
    (∀ k, k < K → getM l 4 0 k = S k ∧ getM l 5 0 k = I k ∧ getM l 6 0 k = Nk.f k - S k - I k) ∧
    (∀ k m, k < K → m < K → getM l 8 0 (k * K + m) = SS k m ∧ getM l 7 0 (k * K + m) = SI k m) := by
  refine ⟨fun k hk => ?_, fun k m hk hm => ?_⟩
  · have a : (GenEqMat.packSIR K S I SS SI).f k = S k := V.append_f_lt _ _ k hk
    have b := GenEqMat.packSIR_I K S I SS SI k hk
    simp only [outSIRHet, if_true, getM, getV_succ, getV_zero_m, bidx_lt K k hk, hX, a, b]
    simp
  · have a := GenEqMat.packSIR_SS K S I SS SI k m hk hm
    have b := GenEqMat.packSIR_SI K S I SS SI k m hm
    simp only [outSIRHet, if_true, getM, getV_succ, getV_zero_c, hX, a, b]
    simp

theorem hetNk3_sum (Sk0 Ik0 Rk0 : V) (K : Nat) :
    sumTo K (hetNk3 Sk0 Ik0 Rk0 K).f = sumTo K Sk0.f + sumTo K Ik0.f + sumTo K Rk0.f := by
  rw [← GenGlueProofs.sumTo_add3]
  exact ODE.sumTo_congr _ _ _ (fun k hk => by simp [hetNk3, bidx_lt K k hk])

/-- **SIR, canonical shapes: conservation, initial state, full data.**  `S + I + R = ΣSk0 + ΣIk0 + ΣRk0` at EVERY time
index for EVERY solver; with `RowZero odeint` (the solver actually called) `S(0), I(0), R(0) = ΣSk0, ΣIk0, ΣRk0`; full
data: shapes, class sums, `S_k + I_k + R_k = Nk_k`, and at index 0 the series are the given arrays -/
theorem SIR_het_spec (odeint myodeint : Solver) (rhs : Rat → Rat → V → V → V → V)
    (Sk0 Ik0 Rk0 : V) (SS SI : Mx) (tau gamma tmin tmax : Rat) (tcount : Nat) (full : Bool) (Ks : Option V) (K : Nat)
    (hS : Sk0.n = K) (hI : Ik0.n = K) (hR : Rk0.n = K) (hK : ∀ ks, Ks = some ks → ks.n = K) (h1 : SS.r = K)
    (h2 : SS.c = K) (h3 : SI.r = K) (h4 : SI.c = K) :
    ∃ l, GenGlue2.SIR_heterogeneous_pairwise odeint myodeint rhs Sk0 Ik0 Rk0 SS SI tau gamma tmin tmax tcount full Ks
        = .ok (GenEqMat.packSIR K Sk0.f Ik0.f SS.f SI.f, l) ∧
      l.length = (if full then 9 else 4) ∧
      (∀ i, get l 0 i = linspace tmin tmax tcount i) ∧
      (∀ i, get l 1 i + get l 2 i + get l 3 i = sumTo K Sk0.f + sumTo K Ik0.f + sumTo K Rk0.f) ∧
      (RowZero odeint → get l 1 0 = sumTo K Sk0.f ∧ get l 2 0 = sumTo K Ik0.f ∧ get l 3 0 = sumTo K Rk0.f) ∧
      (full = true →
        getN l 4 = K ∧ getN l 5 = K ∧ getN l 6 = K ∧ getN l 7 = K * K ∧ getN l 8 = K * K ∧
        (∀ i, get l 1 i = sumTo K (getM l 4 i) ∧ get l 2 i = sumTo K (getM l 5 i) ∧ get l 3 i = sumTo K (getM l 6 i)) ∧
        (∀ i k, k < K → getM l 4 i k + getM l 5 i k + getM l 6 i k = Sk0.f k + Ik0.f k + Rk0.f k) ∧
        (RowZero odeint →
          (∀ k, k < K → getM l 4 0 k = Sk0.f k ∧ getM l 5 0 k = Ik0.f k ∧ getM l 6 0 k = Rk0.f k) ∧
          (∀ k m, k < K → m < K → getM l 8 0 (k * K + m) = SS.f k m ∧ getM l 7 0 (k * K + m) = SI.f k m))) := by
  obtain ⟨hcall, -, hNk⟩ := SIR_het_call odeint myodeint rhs Sk0 Ik0 Rk0 SS SI tau gamma tmin tmax tcount full Ks K
    hS hI hR hK h1 h2 h3 h4
  obtain ⟨X, hX⟩ : ∃ X, X = odeint (fun st => rhs tau gamma (hetNk3 Sk0 Ik0 Rk0 K) (Ks.getD (V.arange K)) st)
      (GenEqMat.packSIR K Sk0.f Ik0.f SS.f SI.f) := ⟨_, rfl⟩
  rw [← hX] at hcall
  refine ⟨_, hcall, by cases full <;> rfl, fun i => by cases full <;> rfl, fun i => ?_, fun h0 => ?_, ?_⟩
  · rw [outSIRHet_conserve, hetNk3_sum]
  · obtain ⟨a, b, c⟩ := outSIRHet_init (linspace tmin tmax tcount) K (hetNk3 Sk0 Ik0 Rk0 K) full X Sk0.f Ik0.f SS.f SI.f
      (hX ▸ h0 _ _)
    exact ⟨a, b, by rw [c, hetNk3_sum]; ring⟩
  · rintro rfl
    refine ⟨rfl, rfl, rfl, rfl, rfl, fun i => ⟨rfl, rfl, rfl⟩, fun i k hk => ?_, fun h0 => ?_⟩
    · obtain ⟨-, -, -, -, -, -, hk', -⟩ := outSIRHet_full (linspace tmin tmax tcount) K (hetNk3 Sk0 Ik0 Rk0 K) X
      rw [hk' i k hk, hNk k hk]
    · obtain ⟨a, b⟩ := outSIRHet_init_full (linspace tmin tmax tcount) K (hetNk3 Sk0 Ik0 Rk0 K) X Sk0.f Ik0.f SS.f SI.f
        (hX ▸ h0 _ _)
      refine ⟨fun k hk => ?_, b⟩
      obtain ⟨x, y, z⟩ := a k hk
      exact ⟨x, y, by rw [z, hNk k hk]; ring⟩

/-- adapter: `GenMat.dSIR_heterogeneous_pairwise` (state first) in the order of the `rhs` parameter of
`GenGlue2.SIR_heterogeneous_pairwise` (state last) -/
def rhsSIR : Rat → Rat → V → V → V → V :=
  fun tau gamma Nk Ks st => GenMat.dSIR_heterogeneous_pairwise st tau gamma Nk Ks

/-- **SIR composed with the generated right-hand side** (`rhsSIR`): the function solved by `odeint` is, on every packed
state, the model `ODE.sirHetPW K tau gamma Ks` (`GenMatProps.gen_sirHetPW`); `Nk` is passed and ignored -/
theorem SIR_het_composed (odeint myodeint : Solver)
    (Sk0 Ik0 Rk0 : V) (SS SI : Mx) (tau gamma tmin tmax : Rat) (tcount : Nat) (full : Bool) (Ks : Option V) (K : Nat)
    (hS : Sk0.n = K) (hI : Ik0.n = K) (hR : Rk0.n = K) (hK : ∀ ks, Ks = some ks → ks.n = K) (h1 : SS.r = K)
    (h2 : SS.c = K) (h3 : SI.r = K) (h4 : SI.c = K) :
    ∃ (Nk KsF : Nat → Rat),
      GenGlue2.SIR_heterogeneous_pairwise odeint myodeint rhsSIR Sk0 Ik0 Rk0 SS SI tau gamma tmin tmax tcount full Ks
        = .ok (GenEqMat.packSIR K Sk0.f Ik0.f SS.f SI.f,
            outSIRHet (linspace tmin tmax tcount) K ⟨K, Nk⟩ full
              (odeint (fun st => GenMat.dSIR_heterogeneous_pairwise st tau gamma ⟨K, Nk⟩ ⟨K, KsF⟩)
                (GenEqMat.packSIR K Sk0.f Ik0.f SS.f SI.f))) ∧
      (∀ k, k < K → Nk k = Sk0.f k + Ik0.f k + Rk0.f k) ∧
      (∀ k, KsF k = (Ks.getD (V.arange K)).f k) ∧
      ∀ (S I : Nat → Rat) (SS' SI' : Nat → Nat → Rat),
        let r := GenMat.dSIR_heterogeneous_pairwise (GenEqMat.packSIR K S I SS' SI') tau gamma ⟨K, Nk⟩ ⟨K, KsF⟩
        let m := ODE.sirHetPW K tau gamma KsF S I SS' SI'
        r.n = K + K + K ^ 2 + K ^ 2 ∧
        (∀ k, k < K → r.f k = m.1 k ∧ r.f (K + k) = m.2.1 k) ∧
        ∀ k l, k < K → l < K →
          r.f (K + K + (k * K + l)) = m.2.2.1 k l ∧ r.f (K + K + K ^ 2 + (k * K + l)) = m.2.2.2 k l := by
  obtain ⟨hcall, -, hNk⟩ := SIR_het_call odeint myodeint rhsSIR Sk0 Ik0 Rk0 SS SI tau gamma tmin tmax tcount full Ks K
    hS hI hR hK h1 h2 h3 h4
  rw [getD_arange Ks K hK] at hcall
  exact ⟨(hetNk3 Sk0 Ik0 Rk0 K).f, (Ks.getD (V.arange K)).f, hcall, hNk, fun _ => rfl,
    fun S I SS' SI' => GenMatProps.gen_sirHetPW K tau gamma _ _ S I SS' SI'⟩

/-! ## closed examples (kernel-checked): `K = 2` degree classes, the constant solver `constOdeint` (`RowZero`) and the
drifting solver `driftOdeint` (row `i` = `X0 + i`); `rowAt r i` = the exception, or (`X0`, the returned arrays read at
time index `i`); the right-hand side is irrelevant for these solvers -/

def exSk : V := V.ofList [3, 4]
def exIk : V := V.ofList [1, 2]
def exR : V := V.ofList [2, 1]
def exSS : Mx := Mx.ofLists [[1, 2], [2, 5]]
def exSI : Mx := Mx.ofLists [[1/2, 1], [3, 2]]
def exII : Mx := Mx.ofLists [[0, 1], [1, 0]]
def rhs0S : V → Mx → Rat → Rat → V → V → V := fun _ _ _ _ _ st => st
def rhs0R : Rat → Rat → V → V → V → V := fun _ _ _ _ st => st

/-- SIS, full data, time index 3: `X0 = Sk0 ++ SkSl0 ++ SkIl0`; `[t, S, I, Sk, Ik, SkIl, SkSl, IkIl]`; `IkIl = IkIl0` -/
example : rowAt (GenGlue2.SIS_heterogeneous_pairwise constOdeint constOdeint rhs0S exSk exIk exSS exSI exII 1 1 0 10 11
    true none) 3 = .inr ([3, 4, 1, 2, 2, 5, 1/2, 1, 3, 2],
      [[3], [7], [3], [3, 4], [1, 2], [1/2, 1, 3, 2], [1, 2, 2, 5], [0, 1, 1, 0]]) := by decide +kernel
/-- SIS is solved by `myodeint` (the drift shows); a solver that conserves nothing: still `S + I = 10`, `S_k + I_k = Nk_k` -/
example : rowAt (GenGlue2.SIS_heterogeneous_pairwise constOdeint driftOdeint rhs0S exSk exIk exSS exSI exII 1 1 0 10 11
    true none) 3 = .inr ([3, 4, 1, 2, 2, 5, 1/2, 1, 3, 2],
      [[3], [13], [-3], [6, 7], [-2, -1], [7/2, 4, 6, 5], [4, 5, 5, 8], [-9, -8, -8, -9]]) := by decide +kernel
/-- SIS error: `Sk0` of length 2, `Ik0` of length 3 -/
example : rowAt (GenGlue2.SIS_heterogeneous_pairwise constOdeint constOdeint rhs0S exSk (V.ofList [1, 2, 3]) exSS exSI exII
    1 1 0 10 11 false none) 3 = .inl "ValueError" := by decide +kernel
/-- **surprise / counter-example to `S(0) = ΣSk0` and `S + I = ΣSk0 + ΣIk0` without `Sk0.n = Ik0.n`**: `Sk0 = [5]` (length
1) with `Ik0` of length 2 is accepted without full data (broadcasting: `Nk = [6, 7]`); `X0` has 9 entries, `Sk = X[:2]`
contains `SkSl0[0,0]`: `S(0) = 5 + 1 = 6 ≠ 5`, `S + I = 13 ≠ 5 + 3` -/
example : rowAt (GenGlue2.SIS_heterogeneous_pairwise constOdeint constOdeint rhs0S (V.ofList [5]) exIk exSS exSI exII
    1 1 0 10 11 false none) 0 = .inr ([5, 1, 2, 2, 5, 1/2, 1, 3, 2], [[0], [6], [7]]) := by decide +kernel
/-- the same call with full data: `ValueError` (`SkIl = X[K+K²:]` has `len(Sk0) + K² − K = 3` entries, not `K² = 4`) -/
example : rowAt (GenGlue2.SIS_heterogeneous_pairwise constOdeint constOdeint rhs0S (V.ofList [5]) exIk exSS exSI exII
    1 1 0 10 11 true none) 0 = .inl "ValueError" := by decide +kernel
/-- **surprise**: a `1 × 1` table `IkIl0 = [[7]]` is accepted even with full data (it is broadcast in `NkNl`) -/
example : rowAt (GenGlue2.SIS_heterogeneous_pairwise constOdeint constOdeint rhs0S exSk exIk exSS exSI (Mx.ofLists [[7]])
    1 1 0 10 11 true none) 0 = .inr ([3, 4, 1, 2, 2, 5, 1/2, 1, 3, 2],
      [[0], [7], [3], [3, 4], [1, 2], [1/2, 1, 3, 2], [1, 2, 2, 5], [7, 7, 7, 7]]) := by decide +kernel
/-- a `1 × 4` table `SkSl0` (right number of entries, wrong shape): `ValueError` from `SkSl0 + SkIl0` -/
example : rowAt (GenGlue2.SIS_heterogeneous_pairwise constOdeint constOdeint rhs0S exSk exIk (Mx.ofLists [[1, 2, 2, 5]])
    exSI exII 1 1 0 10 11 false none) 0 = .inl "ValueError" := by decide +kernel
/-- SIR, full data, time index 3: `X0 = Sk0 ++ Ik0 ++ SkSl0 ++ SkIl0`; `[t, S, I, R, Sk, Ik, Rk, SkIl, SkSl]` -/
example : rowAt (GenGlue2.SIR_heterogeneous_pairwise constOdeint constOdeint rhs0R exSk exIk exR exSS exSI 1 1 0 10 11
    true none) 3 = .inr ([3, 4, 1, 2, 1, 2, 2, 5, 1/2, 1, 3, 2],
      [[3], [7], [3], [3], [3, 4], [1, 2], [2, 1], [1/2, 1, 3, 2], [1, 2, 2, 5]]) := by decide +kernel
/-- SIR is solved by `odeint` (the drift shows); still `S + I + R = 13` and `S_k + I_k + R_k = Nk_k` -/
example : rowAt (GenGlue2.SIR_heterogeneous_pairwise driftOdeint constOdeint rhs0R exSk exIk exR exSS exSI 1 1 0 10 11
    true none) 3 = .inr ([3, 4, 1, 2, 1, 2, 2, 5, 1/2, 1, 3, 2],
      [[3], [13], [9], [-9], [6, 7], [4, 5], [-4, -5], [7/2, 4, 6, 5], [4, 5, 5, 8]]) := by decide +kernel
/-- SIR error: `Rk0` of length 3 -/
example : rowAt (GenGlue2.SIR_heterogeneous_pairwise constOdeint constOdeint rhs0R exSk exIk (V.ofList [1, 2, 3]) exSS exSI
    1 1 0 10 11 false none) 3 = .inl "ValueError" := by decide +kernel
/-- **surprise / the hypothesis `Ks.n = K` is needed**: `Ks` of length 1 with 2 degree classes and `1 × 1` tables is
accepted, full data included (`kcount = len(Ks) = 1`): `X0 = [3, 4, 1, 2, 9, 8]`, `Sk = X[:1]`, `Ik = X[1:2] = Sk0[1]`,
`I(0) = 4 ≠ 3`, `R(0) = −1 ≠ 3`, `SkSl = [Ik0[0]]`, `SkIl = [Ik0[1]]` -/
example : rowAt (GenGlue2.SIR_heterogeneous_pairwise constOdeint constOdeint rhs0R exSk exIk exR (Mx.ofLists [[9]])
    (Mx.ofLists [[8]]) 1 1 0 10 11 true (some (V.ofList [5]))) 0
    = .inr ([3, 4, 1, 2, 9, 8], [[0], [3], [4], [-1], [3], [4], [-1, 0], [2], [1]]) := by decide +kernel
/-- `Ks` of length 1 with the `2 × 2` tables: `ValueError` (`reshape`) -/
example : rowAt (GenGlue2.SIR_heterogeneous_pairwise constOdeint constOdeint rhs0R exSk exIk exR exSS exSI 1 1 0 10 11
    true (some (V.ofList [5]))) 0 = .inl "ValueError" := by decide +kernel
/-- **the hypothesis `Rk0.n = K` is needed**: `Rk0 = [7]` is broadcast, `R(0) = 14 ≠ 7` -/
example : rowAt (GenGlue2.SIR_heterogeneous_pairwise constOdeint constOdeint rhs0R exSk exIk (V.ofList [7]) exSS exSI
    1 1 0 10 11 false none) 0 = .inr ([3, 4, 1, 2, 1, 2, 2, 5, 1/2, 1, 3, 2], [[0], [7], [3], [14]]) := by decide +kernel
/-- the hypotheses of `SIS_het_spec` / `SIR_het_spec` are satisfiable -/
example := SIS_het_spec constOdeint constOdeint rhs0S exSk exIk exSS exSI exII 1 1 0 10 11 true none 2
  rfl rfl rfl rfl rfl rfl rfl rfl
example := SIR_het_spec constOdeint constOdeint rhs0R exSk exIk exR exSS exSI 1 1 0 10 11 true none 2
  rfl rfl rfl (fun _ h => nomatch h) rfl rfl rfl rfl

end GenGlue3Props
