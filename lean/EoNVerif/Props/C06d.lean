import EoNVerif.Proofs.GenGlue
/-!
C06d — "ODE outputs conserve the population and start from the requested state", for the twelve ODE entry points
GENERATED from `EoN/analytic.py` into `Gen/OdeGlue.lean` (namespace `GenGlue`).

The solver is a parameter `odeint : Solver` (`(V → V) → V → Nat → V`: right-hand side, initial vector ↦ row `i` of the
solution at time index `i`).  `…_conserve` / `…_conserve_full` / `…_conserve_pairs` hold for EVERY solver; `…_init…` and
`…_conserve0` assume `RowZero odeint` (`odeint rhs X0 0 = X0`, the documented contract of `scipy.integrate.odeint`);
`…_conserve_of_sum` (the two entry points that return the solver's own columns) assumes that row `i` has the sum of `X0`.

For each entry point `f`:
* `f_call`     — `f odeint args` is (guard ? `.error "EoNError"` :) `.ok (out… (odeint rhs X0))` with the generated
                 right-hand side `rhs = fun Y => Gen.d… Y params` and the packed initial vector `X0` written out; the
                 closed forms `out…` (the returned arrays as functions of the solution) are in `Proofs/GenGlue.lean`;
* `f_error` / `f_shape` — exactly when a guard fires; number of returned arrays; the first one is the time grid;
* `f_conserve…` — population conservation at every time index (and the classwise / pair identities by subtraction);
* `f_init…`     — the series start from the requested state.
Accessors: `get l j i` = value at time index `i` of the `j`-th returned array (a series), `getM l j i k` = entry of
class `k` at time index `i` of the `j`-th returned array (a class × time array), `getN l j i` = its number of classes.
The `ValueError` unpack guards of the generated code never fire (they do not occur in the `…_call` closed forms).
-/
namespace C06d
open Gen PyGlue GenGlueProofs
open ODE (sumTo)

/-! ## 0. the time grid -/

theorem times_first (tmin tmax : Rat) (tcount : Nat) : linspace tmin tmax tcount 0 = tmin :=
  linspace_zero tmin tmax tcount

theorem times_last (tmin tmax : Rat) (tcount : Nat) (h : 2 ≤ tcount) : linspace tmin tmax tcount (tcount - 1) = tmax := by
  unfold linspace
  rw [if_neg (by omega), Nat.cast_sub (by omega), Nat.cast_one, mul_div_cancel₀]
  · ring
  · have : (2 : Rat) ≤ (tcount : Rat) := by exact_mod_cast h
    intro h0
    linarith

/-! ## 1. `SIS_homogeneous_meanfield` (returns the solver's columns `S, I = X.T`) -/

theorem SIS_homogeneous_meanfield_call (odeint : Solver) (S0 I0 n tau gamma tmin tmax : Rat) (tcount : Nat) :
    GenGlue.SIS_homogeneous_meanfield odeint S0 I0 n tau gamma tmin tmax tcount =
      .ok (outSISHomMF (linspace tmin tmax tcount)
        (odeint (fun Y => Gen.dSIS_homogeneous_meanfield Y (n / (S0 + I0)) tau gamma) (V.ofList [S0, I0]))) := rfl

theorem SIS_homogeneous_meanfield_shape (odeint : Solver) (S0 I0 n tau gamma tmin tmax : Rat) (tcount : Nat) :
    ∃ l, GenGlue.SIS_homogeneous_meanfield odeint S0 I0 n tau gamma tmin tmax tcount = .ok l ∧
      l.length = 3 ∧ l[0]? = some (Ser.s (linspace tmin tmax tcount)) :=
  ⟨_, SIS_homogeneous_meanfield_call .., rfl, rfl⟩

theorem SIS_homogeneous_meanfield_init (odeint : Solver) (h0 : RowZero odeint)
    (S0 I0 n tau gamma tmin tmax : Rat) (tcount : Nat) (l : List Ser)
    (h : GenGlue.SIS_homogeneous_meanfield odeint S0 I0 n tau gamma tmin tmax tcount = .ok l) :
    get l 1 0 = S0 ∧ get l 2 0 = I0 := by
  rw [SIS_homogeneous_meanfield_call] at h
  obtain rfl := ok_inj h
  simp only [outSISHomMF, get_succ, get_zero_s, h0 _ _, ofList_f_zero, ofList_f_succ, and_self]

theorem SIS_homogeneous_meanfield_conserve0 (odeint : Solver) (h0 : RowZero odeint)
    (S0 I0 n tau gamma tmin tmax : Rat) (tcount : Nat) (l : List Ser)
    (h : GenGlue.SIS_homogeneous_meanfield odeint S0 I0 n tau gamma tmin tmax tcount = .ok l) :
    get l 1 0 + get l 2 0 = S0 + I0 := by
  obtain ⟨h1, h2⟩ := SIS_homogeneous_meanfield_init odeint h0 S0 I0 n tau gamma tmin tmax tcount l h
  rw [h1, h2]

/-- conservation at index `i` for a solver whose row `i` preserves the linear invariant "sum of the state" -/
theorem SIS_homogeneous_meanfield_conserve_of_sum (odeint : Solver)
    (S0 I0 n tau gamma tmin tmax : Rat) (tcount : Nat) (l : List Ser)
    (h : GenGlue.SIS_homogeneous_meanfield odeint S0 I0 n tau gamma tmin tmax tcount = .ok l) (i : Nat)
    (hsum : sumTo 2 (odeint (fun Y => Gen.dSIS_homogeneous_meanfield Y (n / (S0 + I0)) tau gamma)
        (V.ofList [S0, I0]) i).f = sumTo 2 (V.ofList [S0, I0]).f) :
    get l 1 i + get l 2 i = S0 + I0 := by
  rw [SIS_homogeneous_meanfield_call] at h
  obtain rfl := ok_inj h
  rw [sumTo_two, sumTo_two] at hsum
  exact hsum

/-! ## 2. `SIR_homogeneous_meanfield` (`R = N - S - I`) -/

theorem SIR_homogeneous_meanfield_call (odeint : Solver) (S0 I0 R0 n tau gamma tmin tmax : Rat) (tcount : Nat) :
    GenGlue.SIR_homogeneous_meanfield odeint S0 I0 R0 n tau gamma tmin tmax tcount =
      .ok (outSIRHomMF (linspace tmin tmax tcount) (S0 + I0 + R0)
        (odeint (fun Y => Gen.dSIR_homogeneous_meanfield Y (n / (S0 + I0 + R0)) tau gamma) (V.ofList [S0, I0]))) := rfl

theorem SIR_homogeneous_meanfield_shape (odeint : Solver) (S0 I0 R0 n tau gamma tmin tmax : Rat) (tcount : Nat) :
    ∃ l, GenGlue.SIR_homogeneous_meanfield odeint S0 I0 R0 n tau gamma tmin tmax tcount = .ok l ∧
      l.length = 4 ∧ l[0]? = some (Ser.s (linspace tmin tmax tcount)) :=
  ⟨_, SIR_homogeneous_meanfield_call .., rfl, rfl⟩

theorem SIR_homogeneous_meanfield_conserve (odeint : Solver) (S0 I0 R0 n tau gamma tmin tmax : Rat) (tcount : Nat)
    (l : List Ser) (h : GenGlue.SIR_homogeneous_meanfield odeint S0 I0 R0 n tau gamma tmin tmax tcount = .ok l)
    (i : Nat) : get l 1 i + get l 2 i + get l 3 i = S0 + I0 + R0 := by
  rw [SIR_homogeneous_meanfield_call] at h
  obtain rfl := ok_inj h
  exact total_SIR _ _ _

theorem SIR_homogeneous_meanfield_init (odeint : Solver) (h0 : RowZero odeint)
    (S0 I0 R0 n tau gamma tmin tmax : Rat) (tcount : Nat) (l : List Ser)
    (h : GenGlue.SIR_homogeneous_meanfield odeint S0 I0 R0 n tau gamma tmin tmax tcount = .ok l) :
    get l 1 0 = S0 ∧ get l 2 0 = I0 ∧ get l 3 0 = R0 := by
  rw [SIR_homogeneous_meanfield_call] at h
  obtain rfl := ok_inj h
  simp only [outSIRHomMF, get_succ, get_zero_s, h0 _ _, ofList_f_zero, ofList_f_succ]
  refine ⟨trivial, trivial, ?_⟩
  ring

/-! ## 3. `SIS_homogeneous_pairwise` (`I = N - S`, `II = N*n - SS - 2*SI`).
Guard `if SS0 + SI0*2 > n*N*(1+1e-10)` (`2*SI0` in the SIR function of §4): `1 / 10000000000` is the translated float
literal `1e-10`. -/

theorem SIS_homogeneous_pairwise_call (odeint : Solver) (S0 I0 SI0 SS0 n tau gamma tmin tmax : Rat) (tcount : Nat)
    (full : Bool) :
    GenGlue.SIS_homogeneous_pairwise odeint S0 I0 SI0 SS0 n tau gamma tmin tmax tcount full =
      if SS0 + SI0 * 2 > n * (S0 + I0) * (1 + 1 / 10000000000) then .error "EoNError" else
      .ok (outSISHomPW (linspace tmin tmax tcount) (S0 + I0) n full
        (odeint (fun Y => Gen.dSIS_homogeneous_pairwise Y (S0 + I0) n tau gamma) (V.ofList [S0, SI0, SS0]))) := by
  unfold GenGlue.SIS_homogeneous_pairwise
  by_cases h : SS0 + SI0 * 2 > n * (S0 + I0) * (1 + 1 / 10000000000)
  · simp only [h, decide_true, if_true]; rfl
  · simp only [h, decide_false, if_false]
    cases full <;> rfl

theorem SIS_homogeneous_pairwise_error (odeint : Solver) (S0 I0 SI0 SS0 n tau gamma tmin tmax : Rat) (tcount : Nat)
    (full : Bool) (hg : SS0 + SI0 * 2 > n * (S0 + I0) * (1 + 1 / 10000000000)) :
    GenGlue.SIS_homogeneous_pairwise odeint S0 I0 SI0 SS0 n tau gamma tmin tmax tcount full = .error "EoNError" := by
  rw [SIS_homogeneous_pairwise_call, if_pos hg]

theorem SIS_homogeneous_pairwise_shape (odeint : Solver) (S0 I0 SI0 SS0 n tau gamma tmin tmax : Rat) (tcount : Nat)
    (full : Bool) (hg : ¬ SS0 + SI0 * 2 > n * (S0 + I0) * (1 + 1 / 10000000000)) :
    ∃ l, GenGlue.SIS_homogeneous_pairwise odeint S0 I0 SI0 SS0 n tau gamma tmin tmax tcount full = .ok l ∧
      l.length = (if full then 6 else 3) ∧ l[0]? = some (Ser.s (linspace tmin tmax tcount)) := by
  rw [SIS_homogeneous_pairwise_call, if_neg hg]
  refine ⟨_, rfl, ?_, ?_⟩ <;> cases full <;> rfl

theorem SIS_homogeneous_pairwise_ok_iff (odeint : Solver) (S0 I0 SI0 SS0 n tau gamma tmin tmax : Rat) (tcount : Nat)
    (full : Bool) :
    (∃ l, GenGlue.SIS_homogeneous_pairwise odeint S0 I0 SI0 SS0 n tau gamma tmin tmax tcount full = .ok l) ↔
      SS0 + SI0 * 2 ≤ n * (S0 + I0) * (1 + 1 / 10000000000) := by
  rw [SIS_homogeneous_pairwise_call, ite_ok_iff, not_lt]

theorem SIS_homogeneous_pairwise_conserve (odeint : Solver) (S0 I0 SI0 SS0 n tau gamma tmin tmax : Rat) (tcount : Nat)
    (full : Bool) (l : List Ser)
    (h : GenGlue.SIS_homogeneous_pairwise odeint S0 I0 SI0 SS0 n tau gamma tmin tmax tcount full = .ok l) (i : Nat) :
    get l 1 i + get l 2 i = S0 + I0 := by
  rw [SIS_homogeneous_pairwise_call] at h
  obtain ⟨-, rfl⟩ := ok_of_ite h
  cases full <;> exact total_SI _ _

/-- full data: the pairs `SS + 2 SI + II = N n` at every time index -/
theorem SIS_homogeneous_pairwise_conserve_pairs (odeint : Solver) (S0 I0 SI0 SS0 n tau gamma tmin tmax : Rat)
    (tcount : Nat) (l : List Ser)
    (h : GenGlue.SIS_homogeneous_pairwise odeint S0 I0 SI0 SS0 n tau gamma tmin tmax tcount true = .ok l) (i : Nat) :
    get l 4 i + 2 * get l 3 i + get l 5 i = (S0 + I0) * n := by
  rw [SIS_homogeneous_pairwise_call] at h
  obtain ⟨-, rfl⟩ := ok_of_ite h
  simp only [outSISHomPW, if_true, get_succ, get_zero_s]
  ring

theorem SIS_homogeneous_pairwise_init (odeint : Solver) (h0 : RowZero odeint)
    (S0 I0 SI0 SS0 n tau gamma tmin tmax : Rat) (tcount : Nat) (full : Bool) (l : List Ser)
    (h : GenGlue.SIS_homogeneous_pairwise odeint S0 I0 SI0 SS0 n tau gamma tmin tmax tcount full = .ok l) :
    get l 1 0 = S0 ∧ get l 2 0 = I0 := by
  rw [SIS_homogeneous_pairwise_call] at h
  obtain ⟨-, rfl⟩ := ok_of_ite h
  cases full <;>
    simp only [outSISHomPW, Bool.false_eq_true, if_false, if_true, get_succ, get_zero_s, h0 _ _, ofList_f_zero,
      add_sub_cancel_left, and_self]

theorem SIS_homogeneous_pairwise_init_full (odeint : Solver) (h0 : RowZero odeint)
    (S0 I0 SI0 SS0 n tau gamma tmin tmax : Rat) (tcount : Nat) (l : List Ser)
    (h : GenGlue.SIS_homogeneous_pairwise odeint S0 I0 SI0 SS0 n tau gamma tmin tmax tcount true = .ok l) :
    get l 3 0 = SI0 ∧ get l 4 0 = SS0 ∧ get l 5 0 = (S0 + I0) * n - SS0 - 2 * SI0 := by
  rw [SIS_homogeneous_pairwise_call] at h
  obtain ⟨-, rfl⟩ := ok_of_ite h
  simp only [outSISHomPW, if_true, get_succ, get_zero_s, h0 _ _, ofList_f_zero, ofList_f_succ, and_self]

/-! ## 4. `SIR_homogeneous_pairwise` (`R = N - S - I`) -/

theorem SIR_homogeneous_pairwise_call (odeint : Solver) (S0 I0 R0 SI0 SS0 n tau gamma tmin tmax : Rat) (tcount : Nat)
    (full : Bool) :
    GenGlue.SIR_homogeneous_pairwise odeint S0 I0 R0 SI0 SS0 n tau gamma tmin tmax tcount full =
      if SS0 + 2 * SI0 > n * (S0 + I0 + R0) * (1 + 1 / 10000000000) then .error "EoNError" else
      .ok (outSIRHomPW (linspace tmin tmax tcount) (S0 + I0 + R0) full
        (odeint (fun Y => Gen.dSIR_homogeneous_pairwise Y n tau gamma) (V.ofList [S0, I0, SI0, SS0]))) := by
  unfold GenGlue.SIR_homogeneous_pairwise
  by_cases h : SS0 + 2 * SI0 > n * (S0 + I0 + R0) * (1 + 1 / 10000000000)
  · simp only [h, decide_true, if_true]; rfl
  · simp only [h, decide_false, if_false]
    cases full <;> rfl

theorem SIR_homogeneous_pairwise_error (odeint : Solver) (S0 I0 R0 SI0 SS0 n tau gamma tmin tmax : Rat) (tcount : Nat)
    (full : Bool) (hg : SS0 + 2 * SI0 > n * (S0 + I0 + R0) * (1 + 1 / 10000000000)) :
    GenGlue.SIR_homogeneous_pairwise odeint S0 I0 R0 SI0 SS0 n tau gamma tmin tmax tcount full = .error "EoNError" := by
  rw [SIR_homogeneous_pairwise_call, if_pos hg]

theorem SIR_homogeneous_pairwise_shape (odeint : Solver) (S0 I0 R0 SI0 SS0 n tau gamma tmin tmax : Rat) (tcount : Nat)
    (full : Bool) (hg : ¬ SS0 + 2 * SI0 > n * (S0 + I0 + R0) * (1 + 1 / 10000000000)) :
    ∃ l, GenGlue.SIR_homogeneous_pairwise odeint S0 I0 R0 SI0 SS0 n tau gamma tmin tmax tcount full = .ok l ∧
      l.length = (if full then 6 else 4) ∧ l[0]? = some (Ser.s (linspace tmin tmax tcount)) := by
  rw [SIR_homogeneous_pairwise_call, if_neg hg]
  refine ⟨_, rfl, ?_, ?_⟩ <;> cases full <;> rfl

theorem SIR_homogeneous_pairwise_ok_iff (odeint : Solver) (S0 I0 R0 SI0 SS0 n tau gamma tmin tmax : Rat) (tcount : Nat)
    (full : Bool) :
    (∃ l, GenGlue.SIR_homogeneous_pairwise odeint S0 I0 R0 SI0 SS0 n tau gamma tmin tmax tcount full = .ok l) ↔
      SS0 + 2 * SI0 ≤ n * (S0 + I0 + R0) * (1 + 1 / 10000000000) := by
  rw [SIR_homogeneous_pairwise_call, ite_ok_iff, not_lt]

theorem SIR_homogeneous_pairwise_conserve (odeint : Solver) (S0 I0 R0 SI0 SS0 n tau gamma tmin tmax : Rat) (tcount : Nat)
    (full : Bool) (l : List Ser)
    (h : GenGlue.SIR_homogeneous_pairwise odeint S0 I0 R0 SI0 SS0 n tau gamma tmin tmax tcount full = .ok l) (i : Nat) :
    get l 1 i + get l 2 i + get l 3 i = S0 + I0 + R0 := by
  rw [SIR_homogeneous_pairwise_call] at h
  obtain ⟨-, rfl⟩ := ok_of_ite h
  cases full <;> exact total_SIR _ _ _

theorem SIR_homogeneous_pairwise_init (odeint : Solver) (h0 : RowZero odeint)
    (S0 I0 R0 SI0 SS0 n tau gamma tmin tmax : Rat) (tcount : Nat) (full : Bool) (l : List Ser)
    (h : GenGlue.SIR_homogeneous_pairwise odeint S0 I0 R0 SI0 SS0 n tau gamma tmin tmax tcount full = .ok l) :
    get l 1 0 = S0 ∧ get l 2 0 = I0 ∧ get l 3 0 = R0 := by
  rw [SIR_homogeneous_pairwise_call] at h
  obtain ⟨-, rfl⟩ := ok_of_ite h
  cases full <;>
    simp only [outSIRHomPW, Bool.false_eq_true, if_false, if_true, get_succ, get_zero_s, h0 _ _, ofList_f_zero,
      ofList_f_succ] <;>
    refine ⟨trivial, trivial, ?_⟩ <;> ring

theorem SIR_homogeneous_pairwise_init_full (odeint : Solver) (h0 : RowZero odeint)
    (S0 I0 R0 SI0 SS0 n tau gamma tmin tmax : Rat) (tcount : Nat) (l : List Ser)
    (h : GenGlue.SIR_homogeneous_pairwise odeint S0 I0 R0 SI0 SS0 n tau gamma tmin tmax tcount true = .ok l) :
    get l 4 0 = SI0 ∧ get l 5 0 = SS0 := by
  rw [SIR_homogeneous_pairwise_call] at h
  obtain ⟨-, rfl⟩ := ok_of_ite h
  simp only [outSIRHomPW, if_true, get_succ, get_zero_s, h0 _ _, ofList_f_zero, ofList_f_succ, and_self]


/-! ### closed examples (homogeneous models): the toy solver `toyOdeint` (row `i` moves `i` units from component 0 to
component 1; `RowZero toyOdeint`), the result read at a time index by `rowAt` -/
example : RowZero toyOdeint := toyOdeint_zero
/-- the `EoNError` guard fires: `SS0 + 2 SI0 = 1060 > n N (1 + 1e-10)` -/
example : rowAt (GenGlue.SIR_homogeneous_pairwise toyOdeint 90 10 0 80 900 10 1 1 0 10 11 false) 3 = .inl "EoNError" := by
  decide +kernel
example : rowAt (GenGlue.SIS_homogeneous_pairwise toyOdeint 90 10 80 900 10 1 1 0 10 11 true) 3 = .inl "EoNError" := by
  decide +kernel
/-- normal returns `[t, S, I, R]`, `[t, S, I, R, SI, SS]`, `[t, S, I, SI, SS, II]`, `[t, S, I]` at time indices 3, 10 -/
example : rowAt (GenGlue.SIR_homogeneous_pairwise toyOdeint 90 10 0 80 700 10 1 1 0 10 11 false) 3
    = .inr [[3], [87], [13], [0]] := by decide +kernel
example : rowAt (GenGlue.SIR_homogeneous_pairwise toyOdeint 90 10 0 80 700 10 1 1 0 10 11 true) 10
    = .inr [[10], [80], [20], [0], [80], [700]] := by decide +kernel
example : rowAt (GenGlue.SIS_homogeneous_pairwise toyOdeint 90 10 80 700 10 1 1 0 10 11 true) 3
    = .inr [[3], [87], [13], [83], [700], [134]] := by decide +kernel
example : rowAt (GenGlue.SIR_homogeneous_meanfield toyOdeint 90 10 0 5 1 1 0 10 11) 3
    = .inr [[3], [87], [13], [0]] := by decide +kernel
example : rowAt (GenGlue.SIS_homogeneous_meanfield toyOdeint 90 10 5 1 1 0 10 11) 3 = .inr [[3], [87], [13]] := by
  decide +kernel
/-- `SIS_homogeneous_meanfield` returns the solver's columns: for a solver that does not preserve the sum of the state
the output does not conserve the population (so the hypothesis of `…_conserve_of_sum` cannot be dropped) -/
example : rowAt (GenGlue.SIS_homogeneous_meanfield badOdeint 90 10 5 1 1 0 10 11) 1 = .inr [[1], [91], [11]] := by
  decide +kernel
/-- the hypotheses of the conservation / initial-state theorems are satisfiable -/
example : ∃ l, GenGlue.SIR_homogeneous_pairwise toyOdeint 90 10 0 80 700 10 1 1 0 10 11 true = .ok l ∧
    (∀ i, get l 1 i + get l 2 i + get l 3 i = 90 + 10 + 0) ∧ get l 1 0 = 90 ∧ get l 2 0 = 10 ∧ get l 3 0 = 0 := by
  obtain ⟨l, h, -⟩ := SIR_homogeneous_pairwise_shape toyOdeint 90 10 0 80 700 10 1 1 0 10 11 true (by norm_num)
  exact ⟨l, h, SIR_homogeneous_pairwise_conserve _ _ _ _ _ _ _ _ _ _ _ _ _ l h,
    SIR_homogeneous_pairwise_init _ toyOdeint_zero _ _ _ _ _ _ _ _ _ _ _ _ l h⟩

/-! ## 5. `SIS_super_compact_pairwise` (`S = N - I`) -/

theorem SIS_super_compact_pairwise_call (odeint : Solver)
    (S0 I0 SS0 SI0 II0 tau gamma k_ave ksquare_ave kcube_ave tmin tmax : Rat) (tcount : Nat) (full : Bool) :
    GenGlue.SIS_super_compact_pairwise odeint S0 I0 SS0 SI0 II0 tau gamma k_ave ksquare_ave kcube_ave tmin tmax tcount full =
      .ok (outSISSuperCompactPW (linspace tmin tmax tcount) (S0 + I0) full
        (odeint (fun Y => Gen.dSIS_super_compact_pairwise Y tau gamma (S0 + I0) k_ave ksquare_ave kcube_ave)
          (V.ofList [I0, SS0, SI0, II0]))) := by
  cases full <;> rfl

theorem SIS_super_compact_pairwise_shape (odeint : Solver)
    (S0 I0 SS0 SI0 II0 tau gamma k_ave ksquare_ave kcube_ave tmin tmax : Rat) (tcount : Nat) (full : Bool) :
    ∃ l, GenGlue.SIS_super_compact_pairwise odeint S0 I0 SS0 SI0 II0 tau gamma k_ave ksquare_ave kcube_ave tmin tmax
        tcount full = .ok l ∧
      l.length = (if full then 6 else 3) ∧ l[0]? = some (Ser.s (linspace tmin tmax tcount)) := by
  rw [SIS_super_compact_pairwise_call]
  refine ⟨_, rfl, ?_, ?_⟩ <;> cases full <;> rfl

theorem SIS_super_compact_pairwise_conserve (odeint : Solver)
    (S0 I0 SS0 SI0 II0 tau gamma k_ave ksquare_ave kcube_ave tmin tmax : Rat) (tcount : Nat) (full : Bool) (l : List Ser)
    (h : GenGlue.SIS_super_compact_pairwise odeint S0 I0 SS0 SI0 II0 tau gamma k_ave ksquare_ave kcube_ave tmin tmax
        tcount full = .ok l) (i : Nat) :
    get l 1 i + get l 2 i = S0 + I0 := by
  rw [SIS_super_compact_pairwise_call] at h
  obtain rfl := ok_inj h
  cases full <;> exact sub_add_cancel _ _

theorem SIS_super_compact_pairwise_init (odeint : Solver) (h0 : RowZero odeint)
    (S0 I0 SS0 SI0 II0 tau gamma k_ave ksquare_ave kcube_ave tmin tmax : Rat) (tcount : Nat) (full : Bool) (l : List Ser)
    (h : GenGlue.SIS_super_compact_pairwise odeint S0 I0 SS0 SI0 II0 tau gamma k_ave ksquare_ave kcube_ave tmin tmax
        tcount full = .ok l) :
    get l 1 0 = S0 ∧ get l 2 0 = I0 := by
  rw [SIS_super_compact_pairwise_call] at h
  obtain rfl := ok_inj h
  cases full <;>
    simp only [outSISSuperCompactPW, Bool.false_eq_true, if_false, if_true, get_succ, get_zero_s, h0 _ _,
      ofList_f_zero, add_sub_cancel_right, and_self]

theorem SIS_super_compact_pairwise_init_full (odeint : Solver) (h0 : RowZero odeint)
    (S0 I0 SS0 SI0 II0 tau gamma k_ave ksquare_ave kcube_ave tmin tmax : Rat) (tcount : Nat) (l : List Ser)
    (h : GenGlue.SIS_super_compact_pairwise odeint S0 I0 SS0 SI0 II0 tau gamma k_ave ksquare_ave kcube_ave tmin tmax
        tcount true = .ok l) :
    get l 3 0 = SS0 ∧ get l 4 0 = SI0 ∧ get l 5 0 = II0 := by
  rw [SIS_super_compact_pairwise_call] at h
  obtain rfl := ok_inj h
  simp only [outSISSuperCompactPW, if_true, get_succ, get_zero_s, h0 _ _, ofList_f_zero, ofList_f_succ, and_self]

/-! ## 6. `SIR_super_compact_pairwise` (`S = N psihat(theta)`, `I = N - S - R`) -/

theorem SIR_super_compact_pairwise_call (odeint : Solver) (R0 SS0 SI0 N tau gamma : Rat)
    (psihat psihatPrime psihatDPrime : Rat → Rat) (tmin tmax : Rat) (tcount : Nat) (full : Bool) :
    GenGlue.SIR_super_compact_pairwise odeint R0 SS0 SI0 N tau gamma psihat psihatPrime psihatDPrime tmin tmax tcount full =
      .ok (outSIRSuperCompactPW (linspace tmin tmax tcount) N psihat full
        (odeint (fun Y => Gen.dSIR_super_compact_pairwise Y tau gamma psihat psihatPrime psihatDPrime N)
          (V.ofList [1, SS0, SI0, R0]))) := by
  cases full <;> rfl

theorem SIR_super_compact_pairwise_shape (odeint : Solver) (R0 SS0 SI0 N tau gamma : Rat)
    (psihat psihatPrime psihatDPrime : Rat → Rat) (tmin tmax : Rat) (tcount : Nat) (full : Bool) :
    ∃ l, GenGlue.SIR_super_compact_pairwise odeint R0 SS0 SI0 N tau gamma psihat psihatPrime psihatDPrime tmin tmax
        tcount full = .ok l ∧
      l.length = (if full then 6 else 4) ∧ l[0]? = some (Ser.s (linspace tmin tmax tcount)) := by
  rw [SIR_super_compact_pairwise_call]
  refine ⟨_, rfl, ?_, ?_⟩ <;> cases full <;> rfl

theorem SIR_super_compact_pairwise_conserve (odeint : Solver) (R0 SS0 SI0 N tau gamma : Rat)
    (psihat psihatPrime psihatDPrime : Rat → Rat) (tmin tmax : Rat) (tcount : Nat) (full : Bool) (l : List Ser)
    (h : GenGlue.SIR_super_compact_pairwise odeint R0 SS0 SI0 N tau gamma psihat psihatPrime psihatDPrime tmin tmax
        tcount full = .ok l) (i : Nat) :
    get l 1 i + get l 2 i + get l 3 i = N := by
  rw [SIR_super_compact_pairwise_call] at h
  obtain rfl := ok_inj h
  cases full <;> exact total_SRI _ _ _

theorem SIR_super_compact_pairwise_init (odeint : Solver) (h0 : RowZero odeint) (R0 SS0 SI0 N tau gamma : Rat)
    (psihat psihatPrime psihatDPrime : Rat → Rat) (tmin tmax : Rat) (tcount : Nat) (full : Bool) (l : List Ser)
    (h : GenGlue.SIR_super_compact_pairwise odeint R0 SS0 SI0 N tau gamma psihat psihatPrime psihatDPrime tmin tmax
        tcount full = .ok l) :
    get l 1 0 = N * psihat 1 ∧ get l 2 0 = N - N * psihat 1 - R0 ∧ get l 3 0 = R0 := by
  rw [SIR_super_compact_pairwise_call] at h
  obtain rfl := ok_inj h
  cases full <;>
    simp only [outSIRSuperCompactPW, Bool.false_eq_true, if_false, if_true, get_succ, get_zero_s, h0 _ _, ofList_f_zero, ofList_f_succ, and_self]

theorem SIR_super_compact_pairwise_init_full (odeint : Solver) (h0 : RowZero odeint) (R0 SS0 SI0 N tau gamma : Rat)
    (psihat psihatPrime psihatDPrime : Rat → Rat) (tmin tmax : Rat) (tcount : Nat) (l : List Ser)
    (h : GenGlue.SIR_super_compact_pairwise odeint R0 SS0 SI0 N tau gamma psihat psihatPrime psihatDPrime tmin tmax
        tcount true = .ok l) :
    get l 4 0 = SS0 ∧ get l 5 0 = SI0 := by
  rw [SIR_super_compact_pairwise_call] at h
  obtain rfl := ok_inj h
  simp only [outSIRSuperCompactPW, if_true, get_succ, get_zero_s, h0 _ _, ofList_f_zero, ofList_f_succ, and_self]

/-! ## 7. `EBCM` (`S = N psihat(theta)`, `I = N - S - R`) -/

theorem EBCM_call (odeint : Solver) (N : Rat) (psihat psihatPrime : Rat → Rat) (tau gamma phiS0 phiR0 R0 tmin tmax : Rat)
    (tcount : Nat) (full : Bool) :
    GenGlue.EBCM odeint N psihat psihatPrime tau gamma phiS0 phiR0 R0 tmin tmax tcount full =
      .ok (outEBCM (linspace tmin tmax tcount) N psihat full
        (odeint (fun Y => Gen.dEBCM Y N tau gamma psihat psihatPrime phiS0 phiR0) (V.ofList [1, R0]))) := by
  cases full <;> rfl

theorem EBCM_shape (odeint : Solver) (N : Rat) (psihat psihatPrime : Rat → Rat)
    (tau gamma phiS0 phiR0 R0 tmin tmax : Rat) (tcount : Nat) (full : Bool) :
    ∃ l, GenGlue.EBCM odeint N psihat psihatPrime tau gamma phiS0 phiR0 R0 tmin tmax tcount full = .ok l ∧
      l.length = (if full then 5 else 4) ∧ l[0]? = some (Ser.s (linspace tmin tmax tcount)) := by
  rw [EBCM_call]
  refine ⟨_, rfl, ?_, ?_⟩ <;> cases full <;> rfl

theorem EBCM_conserve (odeint : Solver) (N : Rat) (psihat psihatPrime : Rat → Rat)
    (tau gamma phiS0 phiR0 R0 tmin tmax : Rat) (tcount : Nat) (full : Bool) (l : List Ser)
    (h : GenGlue.EBCM odeint N psihat psihatPrime tau gamma phiS0 phiR0 R0 tmin tmax tcount full = .ok l) (i : Nat) :
    get l 1 i + get l 2 i + get l 3 i = N := by
  rw [EBCM_call] at h
  obtain rfl := ok_inj h
  cases full <;> exact total_SRI _ _ _

theorem EBCM_init (odeint : Solver) (h0 : RowZero odeint) (N : Rat) (psihat psihatPrime : Rat → Rat)
    (tau gamma phiS0 phiR0 R0 tmin tmax : Rat) (tcount : Nat) (full : Bool) (l : List Ser)
    (h : GenGlue.EBCM odeint N psihat psihatPrime tau gamma phiS0 phiR0 R0 tmin tmax tcount full = .ok l) :
    get l 1 0 = N * psihat 1 ∧ get l 2 0 = N - N * psihat 1 - R0 ∧ get l 3 0 = R0 := by
  rw [EBCM_call] at h
  obtain rfl := ok_inj h
  cases full <;>
    simp only [outEBCM, Bool.false_eq_true, if_false, if_true, get_succ, get_zero_s, h0 _ _, ofList_f_zero, ofList_f_succ, and_self]

/-- full data: `theta` starts at 1 and `S = N psihat(theta)` at every time index -/
theorem EBCM_full (odeint : Solver) (N : Rat) (psihat psihatPrime : Rat → Rat)
    (tau gamma phiS0 phiR0 R0 tmin tmax : Rat) (tcount : Nat) (l : List Ser)
    (h : GenGlue.EBCM odeint N psihat psihatPrime tau gamma phiS0 phiR0 R0 tmin tmax tcount true = .ok l) :
    (∀ i, get l 1 i = N * psihat (get l 4 i)) ∧ (RowZero odeint → get l 4 0 = 1) := by
  rw [EBCM_call] at h
  obtain rfl := ok_inj h
  exact ⟨fun i => rfl, fun h0 => by simp only [outEBCM, if_true, get_succ, get_zero_s, h0 _ _, ofList_f_zero]⟩


/-! ### closed examples (super-compact models and EBCM), `psihat x = x^2` -/
example : rowAt (GenGlue.SIS_super_compact_pairwise toyOdeint 90 10 700 80 20 1 1 4 20 120 0 10 11 true) 3
    = .inr [[3], [93], [7], [703], [80], [20]] := by decide +kernel
example : rowAt (GenGlue.SIR_super_compact_pairwise toyOdeint 0 700 80 100 1 1 (fun x => x ^ 2) (fun x => 2 * x)
    (fun _ => 2) 0 10 11 true) 1 = .inr [[1], [0], [100], [0], [701], [80]] := by decide +kernel
/-- `[t, S, I, R, theta]` at time index 1 and `[t, S, I, R]` at time index 0 (`S 0 = N psihat(1)`) -/
example : rowAt (GenGlue.EBCM toyOdeint 100 (fun x => x ^ 2) (fun x => 2 * x) 1 1 (9 / 10) 0 0 0 10 11 true) 1
    = .inr [[1], [0], [99], [1], [0]] := by decide +kernel
example : rowAt (GenGlue.EBCM toyOdeint 100 (fun x => x ^ 2) (fun x => 2 * x) 1 1 (9 / 10) 0 0 0 10 11 false) 0
    = .inr [[0], [100], [0], [0]] := by decide +kernel

/-! ## 8. `SIS_heterogeneous_meanfield` (returns the solver's rows `Sk, Ik = X.T[:K], X.T[K:]` and their sums) -/

theorem SIS_heterogeneous_meanfield_call (odeint : Solver) (Sk0 Ik0 : V) (tau gamma tmin tmax : Rat) (tcount : Nat)
    (full : Bool) :
    GenGlue.SIS_heterogeneous_meanfield odeint Sk0 Ik0 tau gamma tmin tmax tcount full =
      if Sk0.n ≠ Ik0.n then .error "EoNError" else
      .ok (outSISHetMF (linspace tmin tmax tcount) Sk0.n Ik0.n full
        (odeint (fun Y => Gen.dSIS_heterogeneous_meanfield Y Sk0.n tau gamma) (V.append Sk0 Ik0))) := by
  unfold GenGlue.SIS_heterogeneous_meanfield
  by_cases h : Sk0.n ≠ Ik0.n
  · rw [if_pos h, if_pos (by simpa using h)]; rfl
  · rw [if_neg h, if_neg (by simpa using h)]
    cases full <;>
      simp only [outSISHetMF, V.append_n, Nat.sub_zero, Nat.zero_add, Nat.add_sub_cancel_left] <;> rfl

theorem SIS_heterogeneous_meanfield_error (odeint : Solver) (Sk0 Ik0 : V) (tau gamma tmin tmax : Rat) (tcount : Nat)
    (full : Bool) (hg : Sk0.n ≠ Ik0.n) :
    GenGlue.SIS_heterogeneous_meanfield odeint Sk0 Ik0 tau gamma tmin tmax tcount full = .error "EoNError" := by
  rw [SIS_heterogeneous_meanfield_call, if_pos hg]

theorem SIS_heterogeneous_meanfield_shape (odeint : Solver) (Sk0 Ik0 : V) (tau gamma tmin tmax : Rat) (tcount : Nat)
    (full : Bool) (hg : Sk0.n = Ik0.n) :
    ∃ l, GenGlue.SIS_heterogeneous_meanfield odeint Sk0 Ik0 tau gamma tmin tmax tcount full = .ok l ∧
      l.length = (if full then 5 else 3) ∧ l[0]? = some (Ser.s (linspace tmin tmax tcount)) := by
  rw [SIS_heterogeneous_meanfield_call, if_neg (not_not.mpr hg)]
  refine ⟨_, rfl, ?_, ?_⟩ <;> cases full <;> rfl

theorem SIS_heterogeneous_meanfield_ok_iff (odeint : Solver) (Sk0 Ik0 : V) (tau gamma tmin tmax : Rat) (tcount : Nat)
    (full : Bool) :
    (∃ l, GenGlue.SIS_heterogeneous_meanfield odeint Sk0 Ik0 tau gamma tmin tmax tcount full = .ok l) ↔
      Sk0.n = Ik0.n := by
  rw [SIS_heterogeneous_meanfield_call, ite_ok_iff, not_not]

/-- full data: both class arrays have `K` classes, the returned totals are their sums, and they are the solver's
rows -/
theorem SIS_heterogeneous_meanfield_full (odeint : Solver) (Sk0 Ik0 : V) (tau gamma tmin tmax : Rat) (tcount : Nat)
    (l : List Ser) (h : GenGlue.SIS_heterogeneous_meanfield odeint Sk0 Ik0 tau gamma tmin tmax tcount true = .ok l)
    (i : Nat) :
    getN l 3 i = Sk0.n ∧ getN l 4 i = Sk0.n ∧
    get l 1 i = sumTo Sk0.n (getM l 3 i) ∧ get l 2 i = sumTo Sk0.n (getM l 4 i) ∧
    (∀ k, getM l 3 i k =
      (odeint (fun Y => Gen.dSIS_heterogeneous_meanfield Y Sk0.n tau gamma) (V.append Sk0 Ik0) i).f k) ∧
    (∀ k, getM l 4 i k =
      (odeint (fun Y => Gen.dSIS_heterogeneous_meanfield Y Sk0.n tau gamma) (V.append Sk0 Ik0) i).f (Sk0.n + k)) := by
  rw [SIS_heterogeneous_meanfield_call] at h
  obtain ⟨hg, rfl⟩ := ok_of_ite h
  rw [← not_not.mp hg]
  exact ⟨rfl, rfl, rfl, rfl, fun _ => rfl, fun _ => rfl⟩

theorem SIS_heterogeneous_meanfield_init (odeint : Solver) (h0 : RowZero odeint) (Sk0 Ik0 : V)
    (tau gamma tmin tmax : Rat) (tcount : Nat) (full : Bool) (l : List Ser)
    (h : GenGlue.SIS_heterogeneous_meanfield odeint Sk0 Ik0 tau gamma tmin tmax tcount full = .ok l) :
    get l 1 0 = sumTo Sk0.n Sk0.f ∧ get l 2 0 = sumTo Ik0.n Ik0.f := by
  rw [SIS_heterogeneous_meanfield_call] at h
  obtain ⟨-, rfl⟩ := ok_of_ite h
  cases full <;> simp only [outSISHetMF, Bool.false_eq_true, if_false, if_true, get_succ, get_zero_s, h0 _ _] <;>
    exact ⟨sumTo_append_left _ _, sumTo_append_right _ _⟩

theorem SIS_heterogeneous_meanfield_init_full (odeint : Solver) (h0 : RowZero odeint) (Sk0 Ik0 : V)
    (tau gamma tmin tmax : Rat) (tcount : Nat) (l : List Ser)
    (h : GenGlue.SIS_heterogeneous_meanfield odeint Sk0 Ik0 tau gamma tmin tmax tcount true = .ok l) :
    (∀ k, k < Sk0.n → getM l 3 0 k = Sk0.f k) ∧ (∀ k, getM l 4 0 k = Ik0.f k) := by
  obtain ⟨-, -, -, -, h3, h4⟩ := SIS_heterogeneous_meanfield_full odeint Sk0 Ik0 tau gamma tmin tmax tcount l h 0
  refine ⟨fun k hk => ?_, fun k => ?_⟩
  · rw [h3, h0 _ _, V.append_f_lt _ _ k hk]
  · rw [h4, h0 _ _, V.append_f_ge]

theorem SIS_heterogeneous_meanfield_conserve0 (odeint : Solver) (h0 : RowZero odeint) (Sk0 Ik0 : V)
    (tau gamma tmin tmax : Rat) (tcount : Nat) (full : Bool) (l : List Ser)
    (h : GenGlue.SIS_heterogeneous_meanfield odeint Sk0 Ik0 tau gamma tmin tmax tcount full = .ok l) :
    get l 1 0 + get l 2 0 = sumTo Sk0.n Sk0.f + sumTo Ik0.n Ik0.f := by
  obtain ⟨h1, h2⟩ := SIS_heterogeneous_meanfield_init odeint h0 Sk0 Ik0 tau gamma tmin tmax tcount full l h
  rw [h1, h2]

/-- conservation at index `i` for a solver whose row `i` preserves the linear invariant "sum of the state" -/
theorem SIS_heterogeneous_meanfield_conserve_of_sum (odeint : Solver) (Sk0 Ik0 : V)
    (tau gamma tmin tmax : Rat) (tcount : Nat) (full : Bool) (l : List Ser)
    (h : GenGlue.SIS_heterogeneous_meanfield odeint Sk0 Ik0 tau gamma tmin tmax tcount full = .ok l) (i : Nat)
    (hsum : sumTo (V.append Sk0 Ik0).n
        (odeint (fun Y => Gen.dSIS_heterogeneous_meanfield Y Sk0.n tau gamma) (V.append Sk0 Ik0) i).f
      = sumTo (V.append Sk0 Ik0).n (V.append Sk0 Ik0).f) :
    get l 1 i + get l 2 i = sumTo Sk0.n Sk0.f + sumTo Ik0.n Ik0.f := by
  rw [SIS_heterogeneous_meanfield_call] at h
  obtain ⟨-, rfl⟩ := ok_of_ite h
  refine Eq.trans ?_ (hsum.trans (sumTo_append Sk0 Ik0))
  rw [V.append_n, sumTo_split]
  cases full <;> rfl

/-! ## 9. `SIR_heterogeneous_meanfield` (`Sk = Sk0 theta^k`, `Ik = Nk - Sk - Rk` classwise) -/

theorem SIR_heterogeneous_meanfield_call (odeint : Solver) (Sk0 Ik0 Rk0 : V) (tau gamma tmin tmax : Rat) (tcount : Nat)
    (full : Bool) :
    GenGlue.SIR_heterogeneous_meanfield odeint Sk0 Ik0 Rk0 tau gamma tmin tmax tcount full =
      if Sk0.n ≠ Ik0.n ∨ Sk0.n ≠ Rk0.n then .error "EoNError" else
      .ok (outSIRHetMF (linspace tmin tmax tcount) Sk0 (vadd (vadd Sk0 Ik0) Rk0) Rk0.n full
        (odeint (fun Y => Gen.dSIR_heterogeneous_meanfield Y Sk0 (vadd (vadd Sk0 Ik0) Rk0) tau gamma)
          (V.append (V.ofList [1]) Rk0))) := by
  unfold GenGlue.SIR_heterogeneous_meanfield
  by_cases h : Sk0.n ≠ Ik0.n ∨ Sk0.n ≠ Rk0.n
  · rw [if_pos h, if_pos (by simpa using h)]; rfl
  · rw [if_neg h, if_neg (by simpa using h)]
    cases full <;>
      simp only [outSIRHetMF, V.append_n, V.ofList_n, List.length_cons, List.length_nil, Nat.zero_add,
        Nat.add_sub_cancel_left] <;> rfl

theorem SIR_heterogeneous_meanfield_error (odeint : Solver) (Sk0 Ik0 Rk0 : V) (tau gamma tmin tmax : Rat) (tcount : Nat)
    (full : Bool) (hg : Sk0.n ≠ Ik0.n ∨ Sk0.n ≠ Rk0.n) :
    GenGlue.SIR_heterogeneous_meanfield odeint Sk0 Ik0 Rk0 tau gamma tmin tmax tcount full = .error "EoNError" := by
  rw [SIR_heterogeneous_meanfield_call, if_pos hg]

theorem SIR_heterogeneous_meanfield_shape (odeint : Solver) (Sk0 Ik0 Rk0 : V) (tau gamma tmin tmax : Rat) (tcount : Nat)
    (full : Bool) (hI : Sk0.n = Ik0.n) (hR : Sk0.n = Rk0.n) :
    ∃ l, GenGlue.SIR_heterogeneous_meanfield odeint Sk0 Ik0 Rk0 tau gamma tmin tmax tcount full = .ok l ∧
      l.length = 4 ∧ l[0]? = some (Ser.s (linspace tmin tmax tcount)) := by
  rw [SIR_heterogeneous_meanfield_call, if_neg (by rintro (h | h); exacts [h hI, h hR])]
  refine ⟨_, rfl, ?_, ?_⟩ <;> cases full <;> rfl

theorem SIR_heterogeneous_meanfield_ok_iff (odeint : Solver) (Sk0 Ik0 Rk0 : V) (tau gamma tmin tmax : Rat)
    (tcount : Nat) (full : Bool) :
    (∃ l, GenGlue.SIR_heterogeneous_meanfield odeint Sk0 Ik0 Rk0 tau gamma tmin tmax tcount full = .ok l) ↔
      Sk0.n = Ik0.n ∧ Sk0.n = Rk0.n := by
  rw [SIR_heterogeneous_meanfield_call, ite_ok_iff, not_or, not_not, not_not]

/-- `S + I + R` is the total of the requested initial state at every time index, for every solver -/
theorem SIR_heterogeneous_meanfield_conserve (odeint : Solver) (Sk0 Ik0 Rk0 : V) (tau gamma tmin tmax : Rat)
    (tcount : Nat) (l : List Ser)
    (h : GenGlue.SIR_heterogeneous_meanfield odeint Sk0 Ik0 Rk0 tau gamma tmin tmax tcount false = .ok l) (i : Nat) :
    get l 1 i + get l 2 i + get l 3 i = sumTo Sk0.n Sk0.f + sumTo Ik0.n Ik0.f + sumTo Rk0.n Rk0.f := by
  rw [SIR_heterogeneous_meanfield_call] at h
  obtain ⟨hg, rfl⟩ := ok_of_ite h
  have hI : Ik0.n = Sk0.n := (not_not.mp (not_or.mp hg).1).symm
  have hR : Rk0.n = Sk0.n := (not_not.mp (not_or.mp hg).2).symm
  rw [hR, hI, outSIRHetMF_conserve _ _ Sk0 (vadd (vadd Sk0 Ik0) Rk0) i rfl]
  exact sumTo_add3 _ _ _ _

/-- full data: classwise `Sk + Ik + Rk = Sk0 + Ik0 + Rk0`, all three arrays have `K` classes, and the sums over the
classes conserve the total -/
theorem SIR_heterogeneous_meanfield_conserve_full (odeint : Solver) (Sk0 Ik0 Rk0 : V) (tau gamma tmin tmax : Rat)
    (tcount : Nat) (l : List Ser)
    (h : GenGlue.SIR_heterogeneous_meanfield odeint Sk0 Ik0 Rk0 tau gamma tmin tmax tcount true = .ok l) (i : Nat) :
    (∀ k, getM l 1 i k + getM l 2 i k + getM l 3 i k = Sk0.f k + Ik0.f k + Rk0.f k) ∧
    getN l 1 i = Sk0.n ∧ getN l 2 i = Sk0.n ∧ getN l 3 i = Sk0.n ∧
    sumTo Sk0.n (getM l 1 i) + sumTo Sk0.n (getM l 2 i) + sumTo Sk0.n (getM l 3 i)
      = sumTo Sk0.n Sk0.f + sumTo Ik0.n Ik0.f + sumTo Rk0.n Rk0.f := by
  rw [SIR_heterogeneous_meanfield_call] at h
  obtain ⟨hg, rfl⟩ := ok_of_ite h
  have hI : Ik0.n = Sk0.n := (not_not.mp (not_or.mp hg).1).symm
  have hR : Rk0.n = Sk0.n := (not_not.mp (not_or.mp hg).2).symm
  have hk := outSIRHetMF_conserve_full (linspace tmin tmax tcount)
    (odeint (fun Y => Gen.dSIR_heterogeneous_meanfield Y Sk0 (vadd (vadd Sk0 Ik0) Rk0) tau gamma)
      (V.append (V.ofList [1]) Rk0)) Sk0 (vadd (vadd Sk0 Ik0) Rk0) Rk0.n i
  obtain ⟨c1, c2, c3⟩ := outSIRHetMF_classes (linspace tmin tmax tcount)
    (odeint (fun Y => Gen.dSIR_heterogeneous_meanfield Y Sk0 (vadd (vadd Sk0 Ik0) Rk0) tau gamma)
      (V.append (V.ofList [1]) Rk0)) Sk0 (vadd (vadd Sk0 Ik0) Rk0) Rk0.n i
  refine ⟨hk, c1, c2, c3.trans hR, ?_⟩
  rw [← sumTo_add3, hI, hR, ← sumTo_add3]
  exact ODE.sumTo_congr _ _ _ (fun k _ => hk k)

theorem SIR_heterogeneous_meanfield_init (odeint : Solver) (h0 : RowZero odeint) (Sk0 Ik0 Rk0 : V)
    (tau gamma tmin tmax : Rat) (tcount : Nat) (l : List Ser)
    (h : GenGlue.SIR_heterogeneous_meanfield odeint Sk0 Ik0 Rk0 tau gamma tmin tmax tcount false = .ok l) :
    get l 1 0 = sumTo Sk0.n Sk0.f ∧ get l 2 0 = sumTo Ik0.n Ik0.f ∧ get l 3 0 = sumTo Rk0.n Rk0.f := by
  rw [SIR_heterogeneous_meanfield_call] at h
  obtain ⟨hg, rfl⟩ := ok_of_ite h
  have hI : Ik0.n = Sk0.n := (not_not.mp (not_or.mp hg).1).symm
  rw [hI]
  exact outSIRHetMF_init _ _ Sk0 Ik0 Rk0 (h0 _ _)

/-- full data: `theta 0 = 1`, so the class arrays start from the requested class vectors -/
theorem SIR_heterogeneous_meanfield_init_full (odeint : Solver) (h0 : RowZero odeint) (Sk0 Ik0 Rk0 : V)
    (tau gamma tmin tmax : Rat) (tcount : Nat) (l : List Ser)
    (h : GenGlue.SIR_heterogeneous_meanfield odeint Sk0 Ik0 Rk0 tau gamma tmin tmax tcount true = .ok l) (k : Nat) :
    getM l 1 0 k = Sk0.f k ∧ getM l 2 0 k = Ik0.f k ∧ getM l 3 0 k = Rk0.f k := by
  rw [SIR_heterogeneous_meanfield_call] at h
  obtain ⟨-, rfl⟩ := ok_of_ite h
  exact outSIRHetMF_init_full _ _ Sk0 Ik0 Rk0 (h0 _ _) k

/-! ## 10. `SIS_compact_pairwise` (`Ik = Nk - Sk` classwise, `II = twoM - SS - 2 SI`).
The generated code (as NumPy for equal lengths) forms `Nk = Sk0 + Ik0` on the `Sk0.n` classes of `Sk0`; the totals of
`Ik0` are therefore taken over `Sk0.n` classes (`= Ik0.n` classes for arrays of equal length).  For unequal lengths the
generated code is not the Python (NumPy raises `ValueError` at `Sk0 + Ik0` unless one length is 1): the theorems of this
section are statements about EoN only for `Sk0.n = Ik0.n`.  (The generated `SIS_heterogeneous_pairwise` of Gen/OdeGlue2.lean
has the broadcast: `hetNk`, Props/C06iHetPW.) -/

theorem SIS_compact_pairwise_call (odeint : Solver) (Sk0 Ik0 : V) (SI0 SS0 II0 tau gamma tmin tmax : Rat)
    (tcount : Nat) (full : Bool) :
    GenGlue.SIS_compact_pairwise odeint Sk0 Ik0 SI0 SS0 II0 tau gamma tmin tmax tcount full =
      .ok (outSISCompactPW (linspace tmin tmax tcount) (vadd Sk0 Ik0) (SS0 + II0 + 2 * SI0) Sk0.n full
        (odeint (fun Y => Gen.dSIS_compact_pairwise Y (vadd Sk0 Ik0) (SS0 + II0 + 2 * SI0) tau gamma)
          (V.append Sk0 (V.ofList [SI0, SS0])))) := by
  unfold GenGlue.SIS_compact_pairwise
  cases full <;>
    simp only [outSISCompactPW, V.append_n, V.ofList_n, List.length_cons, List.length_nil, Nat.zero_add,
      Nat.add_sub_cancel_left, Nat.add_sub_cancel, Nat.sub_zero, Nat.add_zero, ne_eq, not_true_eq_false, if_false] <;> rfl

theorem SIS_compact_pairwise_shape (odeint : Solver) (Sk0 Ik0 : V) (SI0 SS0 II0 tau gamma tmin tmax : Rat)
    (tcount : Nat) (full : Bool) :
    ∃ l, GenGlue.SIS_compact_pairwise odeint Sk0 Ik0 SI0 SS0 II0 tau gamma tmin tmax tcount full = .ok l ∧
      l.length = (if full then 8 else 3) ∧ l[0]? = some (Ser.s (linspace tmin tmax tcount)) := by
  rw [SIS_compact_pairwise_call]
  refine ⟨_, rfl, ?_, ?_⟩ <;> cases full <;> rfl

theorem SIS_compact_pairwise_conserve (odeint : Solver) (Sk0 Ik0 : V) (SI0 SS0 II0 tau gamma tmin tmax : Rat)
    (tcount : Nat) (full : Bool) (l : List Ser)
    (h : GenGlue.SIS_compact_pairwise odeint Sk0 Ik0 SI0 SS0 II0 tau gamma tmin tmax tcount full = .ok l) (i : Nat) :
    get l 1 i + get l 2 i = sumTo Sk0.n Sk0.f + sumTo Sk0.n Ik0.f := by
  rw [SIS_compact_pairwise_call] at h
  obtain rfl := ok_inj h
  cases full <;> simp only [outSISCompactPW, Bool.false_eq_true, if_false, if_true, get_succ, get_zero_s, vadd_n, vadd_f] <;>
    rw [sumTo_sub, ODE.sumTo_add] <;> ring

/-- full data: classwise `Sk + Ik = Sk0 + Ik0`, `K` classes, totals are the class sums, and the pair identity
`SS + 2 SI + II = SS0 + 2 SI0 + II0` at every time index -/
theorem SIS_compact_pairwise_conserve_full (odeint : Solver) (Sk0 Ik0 : V) (SI0 SS0 II0 tau gamma tmin tmax : Rat)
    (tcount : Nat) (l : List Ser)
    (h : GenGlue.SIS_compact_pairwise odeint Sk0 Ik0 SI0 SS0 II0 tau gamma tmin tmax tcount true = .ok l) (i : Nat) :
    (∀ k, getM l 3 i k + getM l 4 i k = Sk0.f k + Ik0.f k) ∧
    getN l 3 i = Sk0.n ∧ getN l 4 i = Sk0.n ∧
    get l 1 i = sumTo Sk0.n (getM l 3 i) ∧ get l 2 i = sumTo Sk0.n (getM l 4 i) ∧
    get l 6 i + 2 * get l 5 i + get l 7 i = SS0 + 2 * SI0 + II0 := by
  rw [SIS_compact_pairwise_call] at h
  obtain rfl := ok_inj h
  refine ⟨fun k => ?_, rfl, rfl, rfl, rfl, ?_⟩
  · simp only [outSISCompactPW, if_true, getM, getV_succ, getV_zero_m, vadd_f]; ring
  · simp only [outSISCompactPW, if_true, get_succ, get_zero_s]; ring

theorem SIS_compact_pairwise_init (odeint : Solver) (h0 : RowZero odeint) (Sk0 Ik0 : V)
    (SI0 SS0 II0 tau gamma tmin tmax : Rat) (tcount : Nat) (full : Bool) (l : List Ser)
    (h : GenGlue.SIS_compact_pairwise odeint Sk0 Ik0 SI0 SS0 II0 tau gamma tmin tmax tcount full = .ok l) :
    get l 1 0 = sumTo Sk0.n Sk0.f ∧ get l 2 0 = sumTo Sk0.n Ik0.f := by
  rw [SIS_compact_pairwise_call] at h
  obtain rfl := ok_inj h
  have e : sumTo Sk0.n (fun k => Sk0.f k + Ik0.f k - (V.append Sk0 (V.ofList [SI0, SS0])).f k) = sumTo Sk0.n Ik0.f :=
    ODE.sumTo_congr _ _ _ (fun k hk => by rw [V.append_f_lt _ _ k hk]; ring)
  cases full <;> simp only [outSISCompactPW, Bool.false_eq_true, if_false, if_true, get_succ, get_zero_s, h0 _ _, vadd_n, vadd_f] <;>
    exact ⟨sumTo_append_left _ _, e⟩

theorem SIS_compact_pairwise_init_full (odeint : Solver) (h0 : RowZero odeint) (Sk0 Ik0 : V)
    (SI0 SS0 II0 tau gamma tmin tmax : Rat) (tcount : Nat) (l : List Ser)
    (h : GenGlue.SIS_compact_pairwise odeint Sk0 Ik0 SI0 SS0 II0 tau gamma tmin tmax tcount true = .ok l) :
    (∀ k, k < Sk0.n → getM l 3 0 k = Sk0.f k) ∧ (∀ k, k < Sk0.n → getM l 4 0 k = Ik0.f k) ∧
    get l 5 0 = SI0 ∧ get l 6 0 = SS0 ∧ get l 7 0 = II0 := by
  rw [SIS_compact_pairwise_call] at h
  obtain rfl := ok_inj h
  simp only [outSISCompactPW, if_true, getM, get_succ, get_zero_s, getV_succ, getV_zero_m, h0 _ _, vadd_f, append_f_n,
    V.append_f_ge, ofList_f_zero, ofList_f_succ]
  refine ⟨fun k hk => V.append_f_lt _ _ k hk, fun k hk => ?_, trivial, trivial, by ring⟩
  rw [V.append_f_lt _ _ k hk]; ring

/-! ## 11. `SIR_compact_pairwise` (`I = N - R - S`, `N = I0 + R0 + Σ Sk0`) -/

theorem SIR_compact_pairwise_call (odeint : Solver) (Sk0 : V) (I0 R0 SS0 SI0 tau gamma tmin tmax : Rat)
    (tcount : Nat) (full : Bool) :
    GenGlue.SIR_compact_pairwise odeint Sk0 I0 R0 SS0 SI0 tau gamma tmin tmax tcount full =
      .ok (outSIRCompactPW (linspace tmin tmax tcount) (I0 + R0 + sumTo Sk0.n Sk0.f) Sk0.n full
        (odeint (fun Y => Gen.dSIR_compact_pairwise Y (I0 + R0 + sumTo Sk0.n Sk0.f) tau gamma)
          (V.append Sk0 (V.ofList [SS0, SI0, R0])))) := by
  unfold GenGlue.SIR_compact_pairwise
  cases full <;>
    simp only [outSIRCompactPW, V.append_n, V.ofList_n, List.length_cons, List.length_nil, Nat.zero_add,
      Nat.add_sub_cancel_left, Nat.add_sub_cancel, Nat.sub_zero, Nat.add_zero, ne_eq, not_true_eq_false, if_false] <;> rfl

theorem SIR_compact_pairwise_shape (odeint : Solver) (Sk0 : V) (I0 R0 SS0 SI0 tau gamma tmin tmax : Rat)
    (tcount : Nat) (full : Bool) :
    ∃ l, GenGlue.SIR_compact_pairwise odeint Sk0 I0 R0 SS0 SI0 tau gamma tmin tmax tcount full = .ok l ∧
      l.length = (if full then 6 else 4) ∧ l[0]? = some (Ser.s (linspace tmin tmax tcount)) := by
  rw [SIR_compact_pairwise_call]
  refine ⟨_, rfl, ?_, ?_⟩ <;> cases full <;> rfl

theorem SIR_compact_pairwise_conserve (odeint : Solver) (Sk0 : V) (I0 R0 SS0 SI0 tau gamma tmin tmax : Rat)
    (tcount : Nat) (l : List Ser)
    (h : GenGlue.SIR_compact_pairwise odeint Sk0 I0 R0 SS0 SI0 tau gamma tmin tmax tcount false = .ok l) (i : Nat) :
    get l 1 i + get l 2 i + get l 3 i = sumTo Sk0.n Sk0.f + I0 + R0 := by
  rw [SIR_compact_pairwise_call] at h
  obtain rfl := ok_inj h
  simp only [outSIRCompactPW, Bool.false_eq_true, if_false, get_succ, get_zero_s]; ring

/-- full data (`Sk, I, R` returned): `Σ_k Sk + I + R = N` at every time index, `K` classes -/
theorem SIR_compact_pairwise_conserve_full (odeint : Solver) (Sk0 : V) (I0 R0 SS0 SI0 tau gamma tmin tmax : Rat)
    (tcount : Nat) (l : List Ser)
    (h : GenGlue.SIR_compact_pairwise odeint Sk0 I0 R0 SS0 SI0 tau gamma tmin tmax tcount true = .ok l) (i : Nat) :
    getN l 1 i = Sk0.n ∧ sumTo Sk0.n (getM l 1 i) + get l 2 i + get l 3 i = sumTo Sk0.n Sk0.f + I0 + R0 := by
  rw [SIR_compact_pairwise_call] at h
  obtain rfl := ok_inj h
  generalize odeint _ _ = X
  refine ⟨rfl, ?_⟩
  simp only [outSIRCompactPW, if_true, get_succ, get_zero_s]
  show sumTo Sk0.n (fun k => (X i).f k) + _ + _ = _
  ring

theorem SIR_compact_pairwise_init (odeint : Solver) (h0 : RowZero odeint) (Sk0 : V)
    (I0 R0 SS0 SI0 tau gamma tmin tmax : Rat) (tcount : Nat) (l : List Ser)
    (h : GenGlue.SIR_compact_pairwise odeint Sk0 I0 R0 SS0 SI0 tau gamma tmin tmax tcount false = .ok l) :
    get l 1 0 = sumTo Sk0.n Sk0.f ∧ get l 2 0 = I0 ∧ get l 3 0 = R0 := by
  rw [SIR_compact_pairwise_call] at h
  obtain rfl := ok_inj h
  simp only [outSIRCompactPW, Bool.false_eq_true, if_false, get_succ, get_zero_s, h0 _ _, V.append_f_ge,
    ofList_f_zero, ofList_f_succ]
  rw [show sumTo Sk0.n (fun k => (V.append Sk0 (V.ofList [SS0, SI0, R0])).f k) = sumTo Sk0.n Sk0.f from
    sumTo_append_left _ _]
  exact ⟨rfl, by ring, trivial⟩

theorem SIR_compact_pairwise_init_full (odeint : Solver) (h0 : RowZero odeint) (Sk0 : V)
    (I0 R0 SS0 SI0 tau gamma tmin tmax : Rat) (tcount : Nat) (l : List Ser)
    (h : GenGlue.SIR_compact_pairwise odeint Sk0 I0 R0 SS0 SI0 tau gamma tmin tmax tcount true = .ok l) :
    (∀ k, k < Sk0.n → getM l 1 0 k = Sk0.f k) ∧ get l 2 0 = I0 ∧ get l 3 0 = R0 ∧ get l 4 0 = SS0 ∧ get l 5 0 = SI0 := by
  rw [SIR_compact_pairwise_call] at h
  obtain rfl := ok_inj h
  simp only [outSIRCompactPW, if_true, getM, get_succ, get_zero_s, getV_succ, getV_zero_m, h0 _ _, append_f_n,
    V.append_f_ge, ofList_f_zero, ofList_f_succ]
  rw [show sumTo Sk0.n (fun k => (V.append Sk0 (V.ofList [SS0, SI0, R0])).f k) = sumTo Sk0.n Sk0.f from
    sumTo_append_left _ _]
  exact ⟨fun k hk => V.append_f_lt _ _ k hk, by ring, trivial, trivial, trivial⟩

/-! ## 12. `SIR_compact_effective_degree` (`I = N - S - R`, `N = Σ Skappa0 + I0 + R0`) -/

theorem SIR_compact_effective_degree_call (odeint : Solver) (Skappa0 : V) (I0 R0 SI0 tau gamma tmin tmax : Rat)
    (tcount : Nat) (full : Bool) :
    GenGlue.SIR_compact_effective_degree odeint Skappa0 I0 R0 SI0 tau gamma tmin tmax tcount full =
      .ok (outSIRCompactED (linspace tmin tmax tcount) (sumTo Skappa0.n Skappa0.f + I0 + R0) Skappa0.n full
        (odeint (fun Y => Gen.dSIR_compact_effective_degree Y (sumTo Skappa0.n Skappa0.f + I0 + R0) tau gamma)
          (V.append Skappa0 (V.ofList [R0, SI0])))) := by
  unfold GenGlue.SIR_compact_effective_degree
  cases full <;>
    simp only [outSIRCompactED, V.append_n, V.ofList_n, List.length_cons, List.length_nil, Nat.zero_add,
      Nat.add_sub_cancel_left, Nat.add_sub_cancel, Nat.sub_zero, Nat.add_zero, ne_eq, not_true_eq_false, if_false] <;> rfl

theorem SIR_compact_effective_degree_shape (odeint : Solver) (Skappa0 : V) (I0 R0 SI0 tau gamma tmin tmax : Rat)
    (tcount : Nat) (full : Bool) :
    ∃ l, GenGlue.SIR_compact_effective_degree odeint Skappa0 I0 R0 SI0 tau gamma tmin tmax tcount full = .ok l ∧
      l.length = (if full then 6 else 4) ∧ l[0]? = some (Ser.s (linspace tmin tmax tcount)) := by
  rw [SIR_compact_effective_degree_call]
  refine ⟨_, rfl, ?_, ?_⟩ <;> cases full <;> rfl

theorem SIR_compact_effective_degree_conserve (odeint : Solver) (Skappa0 : V) (I0 R0 SI0 tau gamma tmin tmax : Rat)
    (tcount : Nat) (full : Bool) (l : List Ser)
    (h : GenGlue.SIR_compact_effective_degree odeint Skappa0 I0 R0 SI0 tau gamma tmin tmax tcount full = .ok l)
    (i : Nat) : get l 1 i + get l 2 i + get l 3 i = sumTo Skappa0.n Skappa0.f + I0 + R0 := by
  rw [SIR_compact_effective_degree_call] at h
  obtain rfl := ok_inj h
  cases full <;> exact total_SRI _ _ _

theorem SIR_compact_effective_degree_init (odeint : Solver) (h0 : RowZero odeint) (Skappa0 : V)
    (I0 R0 SI0 tau gamma tmin tmax : Rat) (tcount : Nat) (full : Bool) (l : List Ser)
    (h : GenGlue.SIR_compact_effective_degree odeint Skappa0 I0 R0 SI0 tau gamma tmin tmax tcount full = .ok l) :
    get l 1 0 = sumTo Skappa0.n Skappa0.f ∧ get l 2 0 = I0 ∧ get l 3 0 = R0 := by
  rw [SIR_compact_effective_degree_call] at h
  obtain rfl := ok_inj h
  have e : sumTo Skappa0.n (fun k => (V.append Skappa0 (V.ofList [R0, SI0])).f k) = sumTo Skappa0.n Skappa0.f :=
    sumTo_append_left _ _
  cases full <;> simp only [outSIRCompactED, Bool.false_eq_true, if_false, if_true, get_succ, get_zero_s, h0 _ _, append_f_n, ofList_f_zero] <;>
    rw [e] <;> exact ⟨rfl, by ring, trivial⟩

/-- full data: `K` classes, `S` is the class sum at every time index; the class array and `SI` start from the
requested values -/
theorem SIR_compact_effective_degree_full (odeint : Solver) (Skappa0 : V) (I0 R0 SI0 tau gamma tmin tmax : Rat)
    (tcount : Nat) (l : List Ser)
    (h : GenGlue.SIR_compact_effective_degree odeint Skappa0 I0 R0 SI0 tau gamma tmin tmax tcount true = .ok l) :
    (∀ i, getN l 4 i = Skappa0.n ∧ get l 1 i = sumTo Skappa0.n (getM l 4 i)) ∧
    (RowZero odeint → (∀ k, k < Skappa0.n → getM l 4 0 k = Skappa0.f k) ∧ get l 5 0 = SI0) := by
  rw [SIR_compact_effective_degree_call] at h
  obtain rfl := ok_inj h
  refine ⟨fun i => ⟨rfl, rfl⟩, fun h0 => ?_⟩
  simp only [outSIRCompactED, if_true, getM, get_succ, get_zero_s, getV_succ, getV_zero_m, h0 _ _,
    V.append_f_ge, ofList_f_zero, ofList_f_succ]
  exact ⟨fun k hk => V.append_f_lt _ _ k hk, trivial⟩


/-! ### closed examples (class-structured models), three degree classes -/
example : rowAt (GenGlue.SIS_heterogeneous_meanfield toyOdeint (V.ofList [0, 30, 60]) (V.ofList [0, 4]) 1 1 0 10 11 true) 3
    = .inl "EoNError" := by decide +kernel
example : rowAt (GenGlue.SIR_heterogeneous_meanfield toyOdeint (V.ofList [10, 30, 50]) (V.ofList [0, 4, 6])
    (V.ofList [0, 0]) 1 1 0 10 11 true) 1 = .inl "EoNError" := by decide +kernel
/-- `[t, S, I, Sk, Ik]` -/
example : rowAt (GenGlue.SIS_heterogeneous_meanfield toyOdeint (V.ofList [10, 30, 50]) (V.ofList [0, 4, 6]) 1 1 0 10 11
    true) 3 = .inr [[3], [90], [10], [7, 33, 50], [0, 4, 6]] := by decide +kernel
/-- `[t, Sk, Ik, Rk]` and `[t, S, I, R]` at time index 2 (`theta = -1` for the toy solver): 30 + 68 + 2 = 100 -/
example : rowAt (GenGlue.SIR_heterogeneous_meanfield toyOdeint (V.ofList [10, 30, 50]) (V.ofList [0, 4, 6])
    (V.ofList [0, 0, 0]) 1 1 0 10 11 true) 2 = .inr [[2], [10, -30, 50], [-2, 64, 6], [2, 0, 0]] := by decide +kernel
example : rowAt (GenGlue.SIR_heterogeneous_meanfield toyOdeint (V.ofList [10, 30, 50]) (V.ofList [0, 4, 6])
    (V.ofList [0, 0, 0]) 1 1 0 10 11 false) 2 = .inr [[2], [30], [68], [2]] := by decide +kernel
/-- `[t, S, I, Sk, Ik, SI, SS, II]` -/
example : rowAt (GenGlue.SIS_compact_pairwise toyOdeint (V.ofList [10, 30, 50]) (V.ofList [0, 4, 6]) 30 150 4 1 1 0 10 11
    true) 3 = .inr [[3], [90], [10], [7, 33, 50], [3, 1, 6], [30], [150], [4]] := by decide +kernel
/-- `[t, Sk, I, R, SS, SI]` and `[t, S, I, R]` -/
example : rowAt (GenGlue.SIR_compact_pairwise toyOdeint (V.ofList [10, 30, 50]) 10 0 150 30 1 1 0 10 11 true) 3
    = .inr [[3], [7, 33, 50], [10], [0], [150], [30]] := by decide +kernel
example : rowAt (GenGlue.SIR_compact_pairwise toyOdeint (V.ofList [10, 30, 50]) 10 0 150 30 1 1 0 10 11 false) 3
    = .inr [[3], [90], [10], [0]] := by decide +kernel
/-- `[t, S, I, R, Skappa, SI]` -/
example : rowAt (GenGlue.SIR_compact_effective_degree toyOdeint (V.ofList [10, 30, 50]) 10 0 30 1 1 0 10 11 true) 3
    = .inr [[3], [90], [10], [0], [7, 33, 50], [30]] := by decide +kernel
/-- the hypotheses of the class-model theorems are satisfiable -/
example : ∃ l, GenGlue.SIR_heterogeneous_meanfield toyOdeint (V.ofList [10, 30, 50]) (V.ofList [0, 4, 6])
      (V.ofList [0, 0, 0]) 1 1 0 10 11 true = .ok l ∧
    (∀ i k, getM l 1 i k + getM l 2 i k + getM l 3 i k
      = (V.ofList [10, 30, 50]).f k + (V.ofList [0, 4, 6]).f k + (V.ofList [0, 0, 0]).f k) ∧
    (∀ k, getM l 1 0 k = (V.ofList [10, 30, 50]).f k) := by
  obtain ⟨l, h, -⟩ := SIR_heterogeneous_meanfield_shape toyOdeint (V.ofList [10, 30, 50]) (V.ofList [0, 4, 6])
    (V.ofList [0, 0, 0]) 1 1 0 10 11 true rfl rfl
  exact ⟨l, h, fun i => (SIR_heterogeneous_meanfield_conserve_full _ _ _ _ _ _ _ _ _ l h i).1,
    fun k => (SIR_heterogeneous_meanfield_init_full _ toyOdeint_zero _ _ _ _ _ _ _ _ l h k).1⟩

/-! ## 13. the `ValueError` unpack guards of the generated code never fire -/

theorem SIS_homogeneous_meanfield_no_ValueError (odeint : Solver) (S0 I0 n tau gamma tmin tmax : Rat) (tcount : Nat) :
    GenGlue.SIS_homogeneous_meanfield odeint S0 I0 n tau gamma tmin tmax tcount ≠ .error "ValueError" := by
  rw [SIS_homogeneous_meanfield_call]; intro h; cases h

theorem SIR_homogeneous_meanfield_no_ValueError (odeint : Solver) (S0 I0 R0 n tau gamma tmin tmax : Rat) (tcount : Nat) :
    GenGlue.SIR_homogeneous_meanfield odeint S0 I0 R0 n tau gamma tmin tmax tcount ≠ .error "ValueError" := by
  rw [SIR_homogeneous_meanfield_call]; intro h; cases h

theorem SIS_homogeneous_pairwise_no_ValueError (odeint : Solver) (S0 I0 SI0 SS0 n tau gamma tmin tmax : Rat) (tcount : Nat)
    (full : Bool) :
    GenGlue.SIS_homogeneous_pairwise odeint S0 I0 SI0 SS0 n tau gamma tmin tmax tcount full ≠ .error "ValueError" := by
  rw [SIS_homogeneous_pairwise_call]; exact ite_ne_valueError

theorem SIR_homogeneous_pairwise_no_ValueError (odeint : Solver) (S0 I0 R0 SI0 SS0 n tau gamma tmin tmax : Rat) (tcount : Nat)
    (full : Bool) :
    GenGlue.SIR_homogeneous_pairwise odeint S0 I0 R0 SI0 SS0 n tau gamma tmin tmax tcount full ≠ .error "ValueError" := by
  rw [SIR_homogeneous_pairwise_call]; exact ite_ne_valueError

theorem SIS_super_compact_pairwise_no_ValueError (odeint : Solver)
    (S0 I0 SS0 SI0 II0 tau gamma k_ave ksquare_ave kcube_ave tmin tmax : Rat) (tcount : Nat) (full : Bool) :
    GenGlue.SIS_super_compact_pairwise odeint S0 I0 SS0 SI0 II0 tau gamma k_ave ksquare_ave kcube_ave tmin tmax tcount full ≠ .error "ValueError" := by
  rw [SIS_super_compact_pairwise_call]; intro h; cases h

theorem SIR_super_compact_pairwise_no_ValueError (odeint : Solver) (R0 SS0 SI0 N tau gamma : Rat)
    (psihat psihatPrime psihatDPrime : Rat → Rat) (tmin tmax : Rat) (tcount : Nat) (full : Bool) :
    GenGlue.SIR_super_compact_pairwise odeint R0 SS0 SI0 N tau gamma psihat psihatPrime psihatDPrime tmin tmax tcount full ≠ .error "ValueError" := by
  rw [SIR_super_compact_pairwise_call]; intro h; cases h

theorem EBCM_no_ValueError (odeint : Solver) (N : Rat) (psihat psihatPrime : Rat → Rat) (tau gamma phiS0 phiR0 R0 tmin tmax : Rat)
    (tcount : Nat) (full : Bool) :
    GenGlue.EBCM odeint N psihat psihatPrime tau gamma phiS0 phiR0 R0 tmin tmax tcount full ≠ .error "ValueError" := by
  rw [EBCM_call]; intro h; cases h

theorem SIS_heterogeneous_meanfield_no_ValueError (odeint : Solver) (Sk0 Ik0 : V) (tau gamma tmin tmax : Rat) (tcount : Nat)
    (full : Bool) :
    GenGlue.SIS_heterogeneous_meanfield odeint Sk0 Ik0 tau gamma tmin tmax tcount full ≠ .error "ValueError" := by
  rw [SIS_heterogeneous_meanfield_call]; exact ite_ne_valueError

theorem SIR_heterogeneous_meanfield_no_ValueError (odeint : Solver) (Sk0 Ik0 Rk0 : V) (tau gamma tmin tmax : Rat) (tcount : Nat)
    (full : Bool) :
    GenGlue.SIR_heterogeneous_meanfield odeint Sk0 Ik0 Rk0 tau gamma tmin tmax tcount full ≠ .error "ValueError" := by
  rw [SIR_heterogeneous_meanfield_call]; exact ite_ne_valueError

theorem SIS_compact_pairwise_no_ValueError (odeint : Solver) (Sk0 Ik0 : V) (SI0 SS0 II0 tau gamma tmin tmax : Rat)
    (tcount : Nat) (full : Bool) :
    GenGlue.SIS_compact_pairwise odeint Sk0 Ik0 SI0 SS0 II0 tau gamma tmin tmax tcount full ≠ .error "ValueError" := by
  rw [SIS_compact_pairwise_call]; intro h; cases h

theorem SIR_compact_pairwise_no_ValueError (odeint : Solver) (Sk0 : V) (I0 R0 SS0 SI0 tau gamma tmin tmax : Rat)
    (tcount : Nat) (full : Bool) :
    GenGlue.SIR_compact_pairwise odeint Sk0 I0 R0 SS0 SI0 tau gamma tmin tmax tcount full ≠ .error "ValueError" := by
  rw [SIR_compact_pairwise_call]; intro h; cases h

theorem SIR_compact_effective_degree_no_ValueError (odeint : Solver) (Skappa0 : V) (I0 R0 SI0 tau gamma tmin tmax : Rat)
    (tcount : Nat) (full : Bool) :
    GenGlue.SIR_compact_effective_degree odeint Skappa0 I0 R0 SI0 tau gamma tmin tmax tcount full ≠ .error "ValueError" := by
  rw [SIR_compact_effective_degree_call]; intro h; cases h

#print axioms times_first
#print axioms times_last
#print axioms SIS_homogeneous_meanfield_call
#print axioms SIS_homogeneous_meanfield_shape
#print axioms SIS_homogeneous_meanfield_init
#print axioms SIS_homogeneous_meanfield_conserve0
#print axioms SIS_homogeneous_meanfield_conserve_of_sum
#print axioms SIR_homogeneous_meanfield_call
#print axioms SIR_homogeneous_meanfield_shape
#print axioms SIR_homogeneous_meanfield_conserve
#print axioms SIR_homogeneous_meanfield_init
#print axioms SIS_homogeneous_pairwise_call
#print axioms SIS_homogeneous_pairwise_error
#print axioms SIS_homogeneous_pairwise_shape
#print axioms SIS_homogeneous_pairwise_ok_iff
#print axioms SIS_homogeneous_pairwise_conserve
#print axioms SIS_homogeneous_pairwise_conserve_pairs
#print axioms SIS_homogeneous_pairwise_init
#print axioms SIS_homogeneous_pairwise_init_full
#print axioms SIR_homogeneous_pairwise_call
#print axioms SIR_homogeneous_pairwise_error
#print axioms SIR_homogeneous_pairwise_shape
#print axioms SIR_homogeneous_pairwise_ok_iff
#print axioms SIR_homogeneous_pairwise_conserve
#print axioms SIR_homogeneous_pairwise_init
#print axioms SIR_homogeneous_pairwise_init_full
#print axioms SIS_super_compact_pairwise_call
#print axioms SIS_super_compact_pairwise_shape
#print axioms SIS_super_compact_pairwise_conserve
#print axioms SIS_super_compact_pairwise_init
#print axioms SIS_super_compact_pairwise_init_full
#print axioms SIR_super_compact_pairwise_call
#print axioms SIR_super_compact_pairwise_shape
#print axioms SIR_super_compact_pairwise_conserve
#print axioms SIR_super_compact_pairwise_init
#print axioms SIR_super_compact_pairwise_init_full
#print axioms EBCM_call
#print axioms EBCM_shape
#print axioms EBCM_conserve
#print axioms EBCM_init
#print axioms EBCM_full
#print axioms SIS_heterogeneous_meanfield_call
#print axioms SIS_heterogeneous_meanfield_error
#print axioms SIS_heterogeneous_meanfield_shape
#print axioms SIS_heterogeneous_meanfield_ok_iff
#print axioms SIS_heterogeneous_meanfield_full
#print axioms SIS_heterogeneous_meanfield_init
#print axioms SIS_heterogeneous_meanfield_init_full
#print axioms SIS_heterogeneous_meanfield_conserve0
#print axioms SIS_heterogeneous_meanfield_conserve_of_sum
#print axioms SIR_heterogeneous_meanfield_call
#print axioms SIR_heterogeneous_meanfield_error
#print axioms SIR_heterogeneous_meanfield_shape
#print axioms SIR_heterogeneous_meanfield_ok_iff
#print axioms SIR_heterogeneous_meanfield_conserve
#print axioms SIR_heterogeneous_meanfield_conserve_full
#print axioms SIR_heterogeneous_meanfield_init
#print axioms SIR_heterogeneous_meanfield_init_full
#print axioms SIS_compact_pairwise_call
#print axioms SIS_compact_pairwise_shape
#print axioms SIS_compact_pairwise_conserve
#print axioms SIS_compact_pairwise_conserve_full
#print axioms SIS_compact_pairwise_init
#print axioms SIS_compact_pairwise_init_full
#print axioms SIR_compact_pairwise_call
#print axioms SIR_compact_pairwise_shape
#print axioms SIR_compact_pairwise_conserve
#print axioms SIR_compact_pairwise_conserve_full
#print axioms SIR_compact_pairwise_init
#print axioms SIR_compact_pairwise_init_full
#print axioms SIR_compact_effective_degree_call
#print axioms SIR_compact_effective_degree_shape
#print axioms SIR_compact_effective_degree_conserve
#print axioms SIR_compact_effective_degree_init
#print axioms SIR_compact_effective_degree_full
#print axioms SIS_homogeneous_meanfield_no_ValueError
#print axioms SIR_homogeneous_meanfield_no_ValueError
#print axioms SIS_homogeneous_pairwise_no_ValueError
#print axioms SIR_homogeneous_pairwise_no_ValueError
#print axioms SIS_super_compact_pairwise_no_ValueError
#print axioms SIR_super_compact_pairwise_no_ValueError
#print axioms EBCM_no_ValueError
#print axioms SIS_heterogeneous_meanfield_no_ValueError
#print axioms SIR_heterogeneous_meanfield_no_ValueError
#print axioms SIS_compact_pairwise_no_ValueError
#print axioms SIR_compact_pairwise_no_ValueError
#print axioms SIR_compact_effective_degree_no_ValueError

end C06d
