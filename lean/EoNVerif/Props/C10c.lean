import EoNVerif.Gen.InvestState
/-!
C10c — the STATEFUL part of `Simulation_Investigation`, for the Lean code GENERATED from the source (harness/pysi2lean.py ->
Gen/InvestState.lean): the caching prologue / epilogue of `summary()`, `__init__`'s call of it, and the accessors
`t() / S() / I() / R()` that read the cache.  Statement: **after construction, for every sequence of `summary(nodelist=…)`
calls (whole population, the graph object, or any sub-population, in any order) the cache holds the whole-population summary,
so the accessors always describe the whole population**; a sub-population summary is computed afresh and leaves the object
unchanged.
-/
namespace GenSIProps
open GenSI

variable (hist : Node → List Rat × List String) (statuses : List String) (allNodes : List Node)

/-- the invariant of a constructed object: every cache attribute holds (its part of) the whole-population summary `w` -/
def Inv (w : Summ) (st : GenSI.St) : Prop := st._summary_ = some w ∧ st._t_ = some w.1 ∧ st._D_ = some w.2

/-- `__init__`: if the whole-population summary can be computed the fresh object satisfies the invariant -/
theorem init_inv (w : Summ) (h : GenInvest.summary hist statuses allNodes = .ok w) :
    ∃ st, init hist statuses allNodes = .ok st ∧ Inv w st := by
  refine ⟨{ _summary_ := some w, _t_ := some w.1, _D_ := some w.2 }, ?_, rfl, rfl, rfl⟩
  simp [init, summary, NL.isNone, NL.isG, NL.eqG, NL.nodes, h, bind, Except.bind, pure, Except.pure]

/-- `__init__`: if the whole-population summary raises, construction fails with that exception -/
theorem init_error (e : String) (h : GenInvest.summary hist statuses allNodes = .error e) :
    init hist statuses allNodes = .error e := by
  simp [init, summary, NL.isNone, NL.isG, NL.nodes, h, bind, Except.bind]

/-- `summary()` / `summary(G)` on a constructed object: the cached whole-population summary, object unchanged -/
theorem summary_whole (w : Summ) (st : GenSI.St) (hI : Inv w st) (nl : NL) (hnl : nl = NL.none ∨ nl = NL.graph) :
    summary hist statuses allNodes st nl = .ok (w, st) := by
  obtain ⟨h1, _, _⟩ := hI
  rcases hnl with rfl | rfl <;>
    simp [summary, NL.isNone, NL.isG, h1, pure, Except.pure]

/-- `summary(nodelist=l)` for any other list: computed afresh for `l`, and the object is left exactly as it was -/
theorem summary_sub (st : GenSI.St) (l : List Node) :
    summary hist statuses allNodes st (NL.list l) = (GenInvest.summary hist statuses l).map (fun r => (r, st)) := by
  cases h : GenInvest.summary hist statuses l <;>
    simp [summary, NL.isNone, NL.isG, NL.eqG, NL.nodes, h, bind, Except.bind, pure, Except.pure, Except.map]

/-- a successful `summary` call on a constructed object returns the object unchanged, whatever was asked for (a failing
call returns no state; `after` keeps the old one) -/
theorem summary_inv (w : Summ) (st : GenSI.St) (hI : Inv w st) (nl : NL) :
    ∀ r st', summary hist statuses allNodes st nl = .ok (r, st') → st' = st := by
  intro r st' h
  cases nl with
  | none => rw [summary_whole hist statuses allNodes w st hI NL.none (Or.inl rfl)] at h; cases h; rfl
  | graph => rw [summary_whole hist statuses allNodes w st hI NL.graph (Or.inr rfl)] at h; cases h; rfl
  | list l =>
    rw [summary_sub] at h
    cases h2 : GenInvest.summary hist statuses l with
    | error e => simp [h2, Except.map] at h
    | ok v => simp [h2, Except.map] at h; exact h.2.symm

/-- the state after a sequence of `summary` requests (failed requests leave the object as it was: Python raises, the
object is not modified because the only assignments come after the computation) -/
def after (st : GenSI.St) : List NL → GenSI.St
  | [] => st
  | nl :: rest =>
    match summary hist statuses allNodes st nl with
    | .ok (_, st') => after st' rest
    | .error _ => after st rest

/-- **any sequence of requests leaves a constructed object unchanged** -/
theorem after_eq (w : Summ) (st : GenSI.St) (hI : Inv w st) (reqs : List NL) : after hist statuses allNodes st reqs = st := by
  induction reqs with
  | nil => rfl
  | cons nl rest ih =>
    simp only [after]
    cases h : summary hist statuses allNodes st nl with
    | error e => exact ih
    | ok p =>
      obtain ⟨r, st'⟩ := p
      have := summary_inv hist statuses allNodes w st hI nl r st' h
      subst this
      exact ih

/-- **the accessors after any sequence of requests**: `t()` is the whole-population time grid and `S()/I()/R()` the
whole-population count columns (`EoNError` iff the status is not a possible status) -/
theorem accessors_after (w : Summ) (st0 : GenSI.St) (h0 : init hist statuses allNodes = .ok st0)
    (hw : GenInvest.summary hist statuses allNodes = .ok w) (reqs : List NL) :
    let st := after hist statuses allNodes st0 reqs
    t st = .ok w.1 ∧
    S statuses st = (if statuses.contains "S" then PySI.col statuses w.2 "S" else .error "EoNError") ∧
    I statuses st = (if statuses.contains "I" then PySI.col statuses w.2 "I" else .error "EoNError") ∧
    R statuses st = (if statuses.contains "R" then PySI.col statuses w.2 "R" else .error "EoNError") ∧
    summary hist statuses allNodes st NL.none = .ok (w, st) := by
  obtain ⟨st1, h1, hI⟩ := init_inv hist statuses allNodes w hw
  rw [h0] at h1
  cases h1
  intro st
  have hst : st = st0 := after_eq hist statuses allNodes w st0 hI reqs
  rw [hst]
  obtain ⟨hs, _, _⟩ := hI
  refine ⟨by rw [t, hs]; rfl, by rw [S, hs]; rfl, by rw [I, hs]; rfl, by rw [R, hs]; rfl,
    summary_whole hist statuses allNodes w st0 ⟨hs, ‹_›, ‹_›⟩ NL.none (Or.inl rfl)⟩

/-- an accessor on an object whose cache was never filled raises AttributeError (cannot happen after `__init__`) -/
theorem t_unset : t ({} : GenSI.St) = .error "AttributeError" := rfl

/-! non-vacuity: two nodes, node 0 infected at time 1; the sub-population request does not disturb the accessors -/
def exHist : Node → List Rat × List String := fun u => if u = 0 then ([0, 1], ["S", "I"]) else ([0], ["S"])
example : (init exHist ["S", "I"] [0, 1]).toOption.map (fun st => ((t st).toOption, (S ["S", "I"] st).toOption, (I ["S", "I"] st).toOption, (R ["S", "I"] st).toOption))
    = some (some [0, 1], some [2, 1], some [0, 1], none) := by decide +kernel
example : ((init exHist ["S", "I"] [0, 1]).toOption.map fun st =>
      let st' := after exHist ["S", "I"] [0, 1] st [NL.list [1], NL.none, NL.list [0], NL.graph]
      decide ((summary exHist ["S", "I"] [0, 1] st (NL.list [1])).toOption.map (·.1) = some ([0], [[1], [0]]) ∧ (t st').toOption = some [0, 1]))
    = some true := by decide +kernel

end GenSIProps
