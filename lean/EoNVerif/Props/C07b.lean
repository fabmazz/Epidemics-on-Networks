import EoNVerif.Proofs.ODE3
import EoNVerif.Props.C07
/-!
C07b — more reductions between the ODE models of `EoN.analytic` (continuation of `Props/C07.lean`, `Props/C06b.lean`).

* `hetPW_sir_regular`, `hetPW_sis_regular`: the heterogeneous pairwise models restricted to a single occupied degree
  class are the homogeneous pairwise models (and the single-class subspace is invariant); `*_guard` describe the
  `x[x==0] = 1` guards when they are active.
* `pairBased_sis_regular`: the SIS pair-based model with node-uniform state is the homogeneous pairwise SIS model.
* `ebcm_to_compactED`: semiconjugacy EBCM → SIR compact effective degree, with the observed S (`ebcm_compactED_S`),
  the justification of the explicit derivative (`Skappa_isDeriv`) and the t = 0 map (`compactED_init`).

All statements are algebraic identities over ℚ for every state and parameter value, with explicit non-vanishing
hypotheses for the denominators the code divides by (Lean's `x / 0 = 0` differs from NumPy's `nan`/`inf`).
Definitions `only`, `only2`, `zetaOf`, `Skappa`, `dSkappa`, `SkappaPoly`, `SIof`, `dSIof` live in `Proofs/ODESemi.lean`
and `Proofs/ODE3.lean`.
-/
namespace ODE

/-! ## heterogeneous pairwise on a regular graph = homogeneous pairwise -/

/-- **SIR heterogeneous pairwise on an n-regular graph.**  `_dSIR_heterogeneous_pairwise_`
evaluated at a state whose only occupied degree class is index `m` (degree `Ks[m] = n`; `S_m = S`, `I_m = I`,
`[S_mS_m] = SS`, `[S_mI_m] = SI`, every other entry 0) returns, in class `m`, exactly what
`_dSIR_homogeneous_pairwise_` returns for `(S, I, SI, SS)`; every other entry of the returned vector is 0,
so the single-class states form an invariant subspace on which the two models coincide.  The guards
`tmpKs[tmpKs==0] = 1`, `tmpSk[tmpSk==0] = 1` are inactive in the occupied class because `n ≠ 0` and `S ≠ 0`; in the
empty classes they are active but multiply a zero numerator. -/
theorem hetPW_sir_regular (K m : Nat) (hm : m < K) (Ks : Nat → Rat) (tau gamma n S I SS SI : Rat)
    (hKs : Ks m = n) (hn : n ≠ 0) (hS : S ≠ 0) :
    let r := sirHetPW K tau gamma Ks (only m S) (only m I) (only2 m SS) (only2 m SI)
    let h := sirHomPW n tau gamma S I SI SS
    (r.1 m = h.1 ∧ r.2.1 m = h.2.1 ∧ r.2.2.1 m m = h.2.2.2 ∧ r.2.2.2 m m = h.2.2.1) ∧
    (∀ k, k ≠ m → r.1 k = 0 ∧ r.2.1 k = 0) ∧
    (∀ k l, ¬ (k = m ∧ l = m) → r.2.2.1 k l = 0 ∧ r.2.2.2 k l = 0) := by
  intro r h
  have e1 : nz n = n := if_neg hn
  have e2 : nz S = S := if_neg hS
  simp only [r, h, sirHetPW, sirHomPW, sumTo_only2_row K m hm]
  refine ⟨⟨?_, ?_, ?_, ?_⟩, ?_, ?_⟩
  · simp only [only_self]
  · simp only [only_self]
  · simp only [only_self, only2_self, hKs, e1, e2]
    ring
  · simp only [only_self, only2_self, hKs, e1, e2]
    ring
  · intro k hk
    simp only [only_off m _ k hk]
    constructor <;> ring
  · intro k l hkl
    have hlk : ¬ (l = m ∧ k = m) := fun h => hkl ⟨h.2, h.1⟩
    simp only [only2_off m _ k l hkl, only2_off m _ l k hlk]
    constructor <;> ring

/-- **The SIR guards when active** (`S_m = 0`, `n ≠ 0`): `_dSIR_heterogeneous_pairwise_` divides by `n * 1`, so the
closures are `[SS](n-1)[SI]/n` and `[SI](n-1)[SI]/n` — finite, and 0 on consistent states (`[SS] = [SI] = 0` when no
node is susceptible) — where `_dSIR_homogeneous_pairwise_` divides by `S = 0`. -/
theorem hetPW_sir_regular_guard (K m : Nat) (hm : m < K) (Ks : Nat → Rat) (tau gamma n I SS SI : Rat)
    (hKs : Ks m = n) (hn : n ≠ 0) :
    let r := sirHetPW K tau gamma Ks (only m 0) (only m I) (only2 m SS) (only2 m SI)
    r.2.2.1 m m = -2 * tau * (SS * (n - 1) * SI / n) ∧
    r.2.2.2 m m = -gamma * SI + tau * (SS * (n - 1) * SI / n - SI * (n - 1) * SI / n - SI) := by
  intro r
  have e1 : nz n = n := if_neg hn
  have e2 : nz 0 = 1 := if_pos rfl
  simp only [r, sirHetPW, sumTo_only2_row K m hm, only_self, only2_self, hKs, e1, e2, mul_one]
  exact ⟨by ring, trivial⟩

/-- **SIS heterogeneous pairwise on an n-regular graph.**  `_dSIS_heterogeneous_pairwise_`
at a single-class state (`Nk[m] = Ntot`, `NkNl[m,m] = Ntot n`, `S_m = S`, `[S_mS_m] = SS`, `[S_mI_m] = SI`, all other
entries 0) returns in class `m` what `_dSIS_homogeneous_pairwise_` returns for `(S, SI, SS)` and 0
elsewhere.  The guard `kxSk[kxSk==0] = 1` is inactive in class `m` exactly because `n S ≠ 0`. -/
theorem hetPW_sis_regular (K m : Nat) (hm : m < K) (Ks : Nat → Rat) (tau gamma n Ntot S SS SI : Rat)
    (hKs : Ks m = n) (hnS : n * S ≠ 0) :
    let r := sisHetPW K tau gamma Ks (only m Ntot) (only2 m (Ntot * n)) (only m S) (only2 m SS) (only2 m SI)
    let h := sisHomPW Ntot n tau gamma S SI SS
    (r.1 m = h.1 ∧ r.2.1 m m = h.2.2 ∧ r.2.2 m m = h.2.1) ∧
    (∀ k, k ≠ m → r.1 k = 0) ∧
    (∀ k l, ¬ (k = m ∧ l = m) → r.2.1 k l = 0 ∧ r.2.2 k l = 0) := by
  intro r h
  have e1 : nz (n * S) = n * S := if_neg hnS
  simp only [r, h, sisHetPW, sisHomPW, sumTo_only2_row K m hm]
  refine ⟨⟨?_, ?_, ?_⟩, ?_, ?_⟩
  · simp only [only_self]
  · simp only [only_self, only2_self, hKs, e1]
    ring
  · simp only [only_self, only2_self, hKs, e1]
    ring
  · intro k hk
    simp only [only_off m _ k hk]
    ring
  · intro k l hkl
    have hlk : ¬ (l = m ∧ k = m) := fun h => hkl ⟨h.2, h.1⟩
    simp only [only2_off m _ k l hkl, only2_off m _ l k hlk]
    constructor <;> ring

/-- **The SIS guard when active** (`n S = 0`): `_dSIS_heterogeneous_pairwise_` divides by 1 -/
theorem hetPW_sis_regular_guard (K m : Nat) (hm : m < K) (Ks : Nat → Rat) (tau gamma n Ntot S SS SI : Rat)
    (hKs : Ks m = n) (hnS : n * S = 0) :
    let r := sisHetPW K tau gamma Ks (only m Ntot) (only2 m (Ntot * n)) (only m S) (only2 m SS) (only2 m SI)
    r.2.1 m m = 2 * gamma * SI - 2 * tau * (SS * (n - 1) * SI) ∧
    r.2.2 m m = gamma * (Ntot * n - SS - 2 * SI - SI) + tau * (SS * (n - 1) * SI - SI * (n - 1) * SI - SI) := by
  intro r
  have e1 : nz (n * S) = 1 := if_pos hnS
  simp only [r, sisHetPW, sumTo_only2_row K m hm, only_self, only2_self, hKs, e1, div_one]
  constructor <;> ring

/-! ## SIS pair-based with uniform state = homogeneous pairwise -/

/-- **SIS pair-based model on an n-regular graph.**  `_dSIS_pair_based_` with constant rates
and a node-uniform state (`Y_i = y`, `XY_ij = xy`, `XX_ij = xx`) evaluated at an edge `i–j` whose end nodes have `n`
distinct neighbours (in particular on any n-regular graph): multiplied by the number of nodes `Ntot` (node
equations) and of directed edges `Ntot n` (pair equations) the result is what `_dSIS_homogeneous_pairwise_`
(1943–1968) returns for `[S] = Ntot(1-y)`, `[SI] = Ntot n xy`, `[SS] = Ntot n xx`.  The first component of the
pair-based model is `dY/dt = dI/dt`, hence the minus sign.  SIS analogue of `pairBased_sir_regular`. -/
theorem pairBased_sis_regular (nbrs : Nat → List Nat) (n : Nat) (tau gamma y xy xx Ntot : Rat)
    (i j : Nat) (hdi : (nbrs i).length = n) (hdj : (nbrs j).length = n) (hndi : (nbrs i).Nodup) (hndj : (nbrs j).Nodup)
    (hij : j ∈ nbrs i) (hji : i ∈ nbrs j) (hx : 1 - y ≠ 0) (hn : (n : Rat) ≠ 0) (hN : Ntot ≠ 0) :
    let r := sisPairBased nbrs (fun _ _ => tau) (fun _ => gamma) (fun _ => y) (fun _ _ => xy) (fun _ _ => xx)
    let h := sisHomPW Ntot (n : Rat) tau gamma (Ntot * (1 - y)) (Ntot * n * xy) (Ntot * n * xx)
    Ntot * r.1 i = -h.1 ∧ Ntot * n * r.2.1 i j = h.2.1 ∧ Ntot * n * r.2.2 i j = h.2.2 := by
  have hc : (nbrs i).contains j = true := by simpa using hij
  have l1 := filter_ne_length_cast (nbrs j) i n hndj hji hdj
  have l2 := filter_ne_length_cast (nbrs i) j n hndi hij hdi
  have hxi : xinv (1 - y) = 1 / (1 - y) := if_neg hx
  have e : (n : Rat)⁻¹ * n * (Ntot * Ntot⁻¹) = 1 := by rw [inv_mul_cancel₀ hn, mul_inv_cancel₀ hN, one_mul]
  dsimp only [sisPairBased, sisHomPW]
  rw [if_pos hc, if_pos hc]
  simp only [sumRat_map_const, l1, l2, hdi, hxi]
  refine ⟨by ring, ?_, ?_⟩
  · generalize 1 - y = x
    linear_combination (-(tau * (n - 1) * Ntot * n * xy * (xx - xy) / x)) * e
  · generalize 1 - y = x
    linear_combination (2 * tau * (n - 1) * Ntot * n * xy * xx / x) * e

/-! ## EBCM → SIR compact effective degree -/
section EBCM
variable (K : Nat) (c : Nat → Rat) (N tau gamma phiS0 phiR0 : Rat)

/-- the observed susceptible count agrees (`S = Skappa.sum(axis=0)` in `SIR_compact_effective_degree` vs
`S = N*psihat(theta)` in `EBCM`), hence so does `I = N - S - R` -/
theorem ebcm_compactED_S (theta : Rat) : sumTo K (Skappa K c N tau gamma phiR0 theta) = N * psiH K c theta := by
  have e := sumTo_Skappa_weight K c N tau gamma phiR0 (fun _ => 1) theta
  simp only [one_mul] at e
  rw [e]
  unfold psiH
  congr 1
  apply sumTo_congr; intro k hk
  rw [sumTo_binom K k hk, zeta_add_phiR]

/-- the code's `SX = Skappa.dot(kappas)` and `sum(kappas*(kappas-1)*Skappa)` in EBCM variables -/
theorem ebcm_compactED_moments (theta : Rat) :
    sumTo K (fun κ => Skappa K c N tau gamma phiR0 theta κ * kf κ) = N * zetaOf tau gamma phiR0 theta * psiHP K c theta ∧
    sumTo K (fun κ => kf κ * (kf κ - 1) * Skappa K c N tau gamma phiR0 theta κ)
      = N * zetaOf tau gamma phiR0 theta ^ 2 * psiHDP K c theta := by
  constructor
  · rw [sumTo_congr K _ (fun κ => kf κ * Skappa K c N tau gamma phiR0 theta κ) (fun κ _ => mul_comm _ _),
      sumTo_Skappa_weight K c N tau gamma phiR0 kf theta]
    unfold psiHP
    rw [mul_assoc]
    congr 1
    rw [← sumTo_mul_left]
    apply sumTo_congr; intro k hk
    rw [sumTo_binom1 K k hk, zeta_add_phiR]
    ring
  · rw [sumTo_Skappa_weight K c N tau gamma phiR0 (fun κ => kf κ * (kf κ - 1)) theta]
    unfold psiHDP
    rw [mul_assoc]
    congr 1
    rw [← sumTo_mul_left]
    apply sumTo_congr; intro k hk
    rw [sumTo_binom2 K k hk, zeta_add_phiR]
    ring

/-- **EBCM → SIR compact effective degree.**  Let `(θ, R)` be an EBCM state (`_dEBCM_`) and
put `φ_R = phiR0 + γ(1-θ)/τ` (`phiR0`: φ_R at time 0, where θ = 1), `ζ = θ - φ_R`,
`S_κ(θ) = N Σ_k c_k C(k,κ) ζ^κ φ_R^(k-κ)` (a susceptible degree-`k` node has each neighbour independently
non-recovered with probability `ζ/θ`), `[SI](θ) = N ψ̂'(θ) φ_I(θ)`.  Then `_dSIR_compact_effective_degree_`
evaluated at `(S_κ(θ), R, [SI](θ))` equals the chain-rule image of the EBCM derivative:
`dS_κ/dθ · θ'`, `R'`, `d[SI]/dθ · θ'`.  So the image of an EBCM trajectory solves system (5.43) of Kiss, Miller & Simon (the
system the Python docstring of `SIR_compact_effective_degree` cites) as coded, including
the truncation `shift(kappas*Skappa,-1)` at the top class `κ = K-1`.  Denominators: `τ` (in `φ_R`), and the code's
`SX = Σ κ S_κ = N ζ ψ̂'(θ)`. -/
theorem ebcm_to_compactED (theta R : Rat) (ht : tau ≠ 0) (hN : N ≠ 0)
    (hz : zetaOf tau gamma phiR0 theta ≠ 0) (hp : psiHP K c theta ≠ 0) :
    let th' := (ebcm K c N tau gamma phiS0 phiR0 theta R).1
    let r := sirCompactED K tau gamma N (Skappa K c N tau gamma phiR0 theta) R (SIof K c N tau gamma phiS0 phiR0 theta)
    (∀ κ, κ < K → r.1 κ = dSkappa K c N tau gamma phiR0 theta κ * th') ∧
    r.2.1 = (ebcm K c N tau gamma phiS0 phiR0 theta R).2 ∧
    r.2.2 = dSIof K c N tau gamma phiS0 phiR0 theta * th' := by
  intro th' r
  have hth : th' = -tau * phiI K c tau gamma phiS0 phiR0 theta := ebcm_theta K c N tau gamma phiS0 phiR0 theta R ht
  rw [hth]
  simp only [r, sirCompactED, ebcm_compactED_S, ebcm_compactED_moments,
    effI_eq K c N tau gamma phiS0 phiR0 theta hN hz hp]
  refine ⟨fun κ _ => Skappa_eq K c N tau gamma phiR0 theta _ κ ht hz, ?_, ?_⟩
  · simp only [ebcm]
    ring
  · -- `φ_I = ζ - φ_S`; besides that only `φ_I/ζ · ζ = φ_I` and `τ (γ/τ) = γ` are used
    have hI : phiI K c tau gamma phiS0 phiR0 theta
        = zetaOf tau gamma phiR0 theta - phiS0 * psiHP K c theta / psiHP K c 1 := by
      simp only [phiI, phiS, zetaOf]; ring
    simp only [SIof, dSIof]
    generalize phiI K c tau gamma phiS0 phiR0 theta = pI at hI ⊢
    generalize zetaOf tau gamma phiR0 theta = z at hz hI ⊢
    have e1 : pI / z * z = pI := div_mul_cancel₀ _ hz
    have et : tau * (gamma / tau) = gamma := mul_div_cancel₀ _ ht
    linear_combination (-(tau * N * psiHDP K c theta * pI)) * hI
      + (tau * N * psiHDP K c theta * (z - 2 * (pI / z * z + pI))) * e1 + (N * psiHP K c theta * pI) * et

/-- `S_κ` is a polynomial in θ and `dSkappa` is its derivative (justifies the explicit `DΦ` used in
`ebcm_to_compactED`; for `SIof`/`dSIof` see `psiHP_deriv`, `psiHDP_deriv` in `Props/C07.lean`) -/
theorem Skappa_isDeriv (theta : Rat) (κ : Nat) :
    Skappa K c N tau gamma phiR0 theta κ = (SkappaPoly K c N tau gamma phiR0 κ).eval theta ∧
    dSkappa K c N tau gamma phiR0 theta κ = (Polynomial.derivative (SkappaPoly K c N tau gamma phiR0 κ)).eval theta := by
  open Polynomial in
  constructor
  · unfold Skappa SkappaPoly sumTo
    rw [eval_mul, eval_C, eval_list_sum_map]
    congr 1
    apply sumRat_map_congr
    intro k _
    simp only [eval_mul, eval_C, eval_pow, phiRPoly_eval, zetaPoly_eval]
    ring
  · unfold dSkappa SkappaPoly sumTo
    rw [derivative_C_mul, eval_mul, eval_C, derivative_list_sum_map, eval_list_sum_map]
    congr 1
    apply sumRat_map_congr
    intro k _
    simp only [derivative_mul, derivative_C, derivative_pow, phiRPoly_deriv, zetaPoly_deriv, eval_mul, eval_add,
      eval_C, eval_pow, phiRPoly_eval, zetaPoly_eval, zero_mul, zero_add, kf]
    ring

/-- at `t = 0` (θ = 1, `φ_R(0) = 0`) the change of variables is the initial condition computed by
`SIR_compact_effective_degree_from_graph` in the `rho` branch: `Skappa0 = Nk*(1-rho)`
(`= N c_κ`, with `c_k = P(k)(1-rho)` as in `EBCM_uniform_introduction`) and
`SI0 = sum(k*Skappa0[k]*rho)` with `rho = 1 - φ_S(0)` -/
theorem compactED_init (h1 : psiHP K c 1 ≠ 0) :
    (∀ κ, κ < K → Skappa K c N tau gamma 0 1 κ = N * c κ) ∧
    SIof K c N tau gamma phiS0 0 1 = sumTo K (fun k => kf k * (N * c k) * (1 - phiS0)) := by
  have hr : phiR tau gamma 0 1 = 0 := by simp only [phiR, sub_self, mul_zero, zero_div, add_zero]
  constructor
  · intro κ hκ
    have hz : zetaOf tau gamma 0 1 = 1 := by rw [zetaOf, hr, sub_zero]
    unfold Skappa
    rw [hr, hz, sumTo_single K κ hκ]
    · simp
    · intro k hk
      rcases Nat.lt_or_gt_of_ne hk with h | h
      · rw [Nat.choose_eq_zero_of_lt h]; simp
      · rw [zero_pow (by omega)]; simp
  · have e : sumTo K (fun k => kf k * (N * c k) * (1 - phiS0)) = N * psiHP K c 1 * (1 - phiS0) := by
      unfold psiHP
      rw [mul_assoc, mul_comm (sumTo K _), ← sumTo_mul_left, ← sumTo_mul_left]
      apply sumTo_congr; intro k _
      simp only [one_pow]; ring
    rw [e]
    simp only [SIof, phiI, phiS, hr, mul_div_assoc, div_self h1, mul_one, sub_zero]

end EBCM
end ODE

/-! non-vacuity: every main theorem is instantiated on a concrete non-trivial state (so its hypotheses are
satisfiable) and both sides are evaluated to the same non-zero rationals -/
section NonVacuity
open ODE
/-- degrees present: 2, 3, 5; only class index 1 (degree 3) is occupied -/
private def KsEx : Nat → Rat := fun k => [2, 3, 5].getD k 0
private def cEx : Nat → Rat := fun k => [0, 1/4, 1/2, 1/4].getD k 0
/-- a triangle: every node has the two other nodes as neighbours -/
private def triEx : Nat → List Nat := fun i => if i = 0 then [1, 2] else if i = 1 then [0, 2] else if i = 2 then [0, 1] else []

example := hetPW_sir_regular 3 1 (by decide) KsEx 1 (1/2) 3 90 8 200 30 (by decide +kernel) (by decide +kernel) (by decide +kernel)
example := hetPW_sis_regular 3 1 (by decide) KsEx 1 (1/2) 3 100 90 200 30 (by decide +kernel) (by decide +kernel)
example := hetPW_sir_regular_guard 3 1 (by decide) KsEx 1 (1/2) 3 8 200 30 (by decide +kernel) (by decide +kernel)
example := hetPW_sis_regular_guard 3 1 (by decide) KsEx 1 (1/2) 3 100 0 200 30 (by decide +kernel) (by decide +kernel)

example :
    let r := sirHetPW 3 1 (1/2) KsEx (only 1 90) (only 1 8) (only2 1 200) (only2 1 30)
    (r.1 1, r.2.1 1, r.2.2.2 1 1, r.2.2.1 1 1) = (-30, 26, -65/9, -800/9)
    ∧ sirHomPW 3 1 (1/2) 90 8 30 200 = (-30, 26, -65/9, -800/9)
    ∧ (r.1 0, r.2.1 2, r.2.2.1 0 1, r.2.2.2 1 2) = (0, 0, 0, 0) := by
  decide +kernel

example :
    let r := sisHetPW 3 1 (1/2) KsEx (only 1 100) (only2 1 (100 * 3)) (only 1 90) (only2 1 200) (only2 1 30)
    (r.1 1, r.2.2 1 1, r.2.1 1 1) = (-25, 115/9, -530/9)
    ∧ sisHomPW 100 3 1 (1/2) 90 30 200 = (-25, 115/9, -530/9) := by
  decide +kernel

example := pairBased_sis_regular triEx 2 2 1 (1/4) (1/8) (3/5) 3 0 1 (by decide) (by decide) (by decide) (by decide)
  (by decide) (by decide) (by decide +kernel) (by decide +kernel) (by decide +kernel)

example :
    let r := sisPairBased triEx (fun _ _ => 2) (fun _ => 1) (fun _ => 1/4) (fun _ _ => 1/8) (fun _ _ => 3/5)
    let h := sisHomPW 3 2 2 1 (3 * (1 - 1/4)) (3 * 2 * (1/8)) (3 * 2 * (3/5))
    (3 * r.1 0, 3 * 2 * r.2.1 0 1, 3 * 2 * r.2.2 0 1) = (3/4, -2/5, -9/10) ∧ (-h.1, h.2.1, h.2.2) = (3/4, -2/5, -9/10) := by
  decide +kernel

/-- EBCM state θ = 9/10, R = 3 with τ = 1, γ = 1/2, N = 100, φ_S(0) = 9/10, φ_R(0) = 0: ζ = 17/20 ≠ 0 -/
example := ebcm_to_compactED 4 cEx 100 1 (1/2) (9/10) 0 (9/10) 3 (by decide +kernel) (by decide +kernel)
  (by decide +kernel) (by decide +kernel)

example :
    let th' := (ebcm 4 cEx 100 1 (1/2) (9/10) 0 (9/10) 3).1
    let r := sirCompactED 4 1 (1/2) 100 (Skappa 4 cEx 100 1 (1/2) 0 (9/10)) 3 (SIof 4 cEx 100 1 (1/2) (9/10) 0 (9/10))
    zetaOf 1 (1/2) 0 (9/10) = 17/20 ∧ th' = -473/8000
    ∧ (r.1 0, r.1 1, r.1 2, r.1 3) = (dSkappa 4 cEx 100 1 (1/2) 0 (9/10) 0 * th', dSkappa 4 cEx 100 1 (1/2) 0 (9/10) 1 * th',
        dSkappa 4 cEx 100 1 (1/2) 0 (9/10) 2 * th', dSkappa 4 cEx 100 1 (1/2) 0 (9/10) 3 * th')
    ∧ r.1 3 ≠ 0 ∧ r.1 0 ≠ 0
    ∧ r.2.1 = 631/80 ∧ r.2.2 = -34685563/6400000
    ∧ dSIof 4 cEx 100 1 (1/2) (9/10) 0 (9/10) * th' = -34685563/6400000 := by
  decide +kernel

example : (Skappa 4 cEx 100 1 (1/2) 0 1 0, Skappa 4 cEx 100 1 (1/2) 0 1 1, Skappa 4 cEx 100 1 (1/2) 0 1 2,
    Skappa 4 cEx 100 1 (1/2) 0 1 3) = (0, 25, 50, 25) ∧ SIof 4 cEx 100 1 (1/2) (9/10) 0 1 = 20 := by
  decide +kernel
end NonVacuity
