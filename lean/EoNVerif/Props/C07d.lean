import EoNVerif.Proofs.GenPrefMix
import EoNVerif.Props.C06iEffDeg
import EoNVerif.Props.C06b
/-!
C07d — the Lean code GENERATED from `_dEBCM_pref_mix_` of `EoN/analytic.py` (`GenPM.dEBCM_pref_mix`, Gen/PrefMixGen.lean:
the right-hand side of the preferential-mixing EBCM model) for ALL inputs: exactly when it raises what, its value as the
hand-written model `ODE.ebcmPrefMix`, facts about the model carried over, and the composition with the generated entry
point `GenGlue2.EBCM_pref_mix`.  Lemmas: Proofs/GenPrefMix.lean.  `GenGlue3Props.EBCM_pref_mix_spec` (Props/C06iEffDeg) is the
entry point for `rho : Option`; the `EBCM_pref_mix_spec` here is its case `some r`.

State layout `X = [R, θ_{k_0}, φR_{k_0}, θ_{k_1}, φR_{k_1}, …]`, `k_0 < k_1 < …` = `sorted(Pk.keys())`.

Vocabulary (Proofs/GenPrefMix.lean): `RowsOK Pk Pnk` every key of `Pk` has a row in `Pnk`; `RowKeysOK Pk Pnk` every key of
a row `Pnk[k1]` (`k1` a key of `Pk`) is a key of `Pk`; `theta0 X Pk` = `theta[0]` as the code reads it (`= X[1]` for a
dict with the key 0: `gen_prefmix_theta0`); `NoZeroPow X Pk Pnk` no row (of a key of `Pk`) has the key 0, or θ_0 ≠ 0;
`pmStatus X Pk Pnk` the first error of the `phiS/phiI` loop in iteration order (`k1` in `Pk.keys()` order: missing row →
KeyError; then `k2` in `Pnk[k1].keys()` order: `k2` not a key of `Pk` → KeyError, `k2 = 0` and θ_0 = 0 →
ZeroDivisionError); `pmResult` the returned array; `thetaF X ks d = X[1 + 2·idx_ks(d)]`, `phiRF X ks d = X[2 + 2·idx_ks(d)]`;
`PkF Pk d = Pk.get(d, 0)`, `PnkF Pnk d d' = Pnk.get(d, {}).get(d', 0)`.

Behaviour (exact):
* only the indices `0, 1+2i, 2+2i` (`i < len(Pk)`) are read, so Python's negative-index wrap of `PyPM.vidx` never occurs;
  IndexError iff `len(X) < 1 + 2·len(Pk)`, before anything else.
* `S = (1−ρ) Σ Pk[k] θ_k^k` never raises.  The `phiS` loop raises the FIRST failing read; `Pnk[k1][0] * theta[0]**(-1)` is
  a ZeroDivisionError when θ_0 = 0 even if `Pnk[k1][0] = 0`.  Rows of `Pnk` for keys that `Pk` does not have are ignored.
* the code sums over `Pk.keys()` in insertion order and over the keys of a row only; the model sums over the sorted keys
  with `PnkF = 0` for absent entries and the exponent `d' − 1` in ℕ.  They agree for dicts (distinct keys) unless a row has
  a non-zero entry for degree 0 with θ_0 ≠ 1: there the code uses `θ_0^(−1)`, the model `θ_0^0 = 1` (counter-examples
  below).  A degree-0 node has no neighbour, so `Pnk[k][0] = 0` in every `Pnk` computed from a graph.
* the generated entry point stores `X[:, 1+2·index]` under BOTH `theta[k]` and `phiR[k]` (as the Python source does);
  `phiR` is not returned, so nothing observable depends on it.
-/
namespace GenPrefMixProps
open GenPMProofs
open GenHelpProofs (mem_sortNat sortNat_length sortNat_nodup)

section
variable (X : Gen.V) (rho tau gamma : Rat) (Pk : List (Nat × Rat)) (Pnk : List (Nat × List (Nat × Rat)))

/-! ## 1. errors -/

/-- **all inputs, full precedence**: IndexError when the state is too short; otherwise the first failing read of the
`phiS` loop (`pmStatus`); otherwise the array `pmResult` -/
theorem gen_prefmix_closed_form :
    GenPM.dEBCM_pref_mix X rho tau gamma Pk Pnk =
      if X.n < 1 + 2 * Pk.length then .error "IndexError"
      else match pmStatus X Pk Pnk with
        | some e => .error e
        | none => .ok (pmResult X rho tau gamma Pk Pnk) := by
  rw [gen_unfold, vidx_zero, loop1_eq, sortNat_length, List.length_map]
  by_cases h0 : 0 < X.n
  swap
  · have hs : X.n < 1 + 2 * Pk.length := by omega
    rw [if_neg h0, if_pos hs]; rfl
  rw [if_pos h0]
  simp only [GenHelpProofs.ok_bind]
  by_cases h1 : 2 * Pk.length < X.n ∨ PyGlue2.sortNat (Pk.map (·.1)) = []
  swap
  · have hs : X.n < 1 + 2 * Pk.length := by omega
    rw [if_neg h1, if_pos hs]; rfl
  have hlen : ¬ X.n < 1 + 2 * Pk.length := by
    rcases h1 with h1 | h1
    · omega
    · have := sortNat_length (Pk.map (·.1))
      rw [h1] at this
      simp at this
      omega
  rw [if_pos h1, if_neg hlen]
  simp only [GenHelpProofs.ok_bind]
  have hth : ∀ k ∈ Pk.map (·.1), alHas (thetaAL X (PyGlue2.sortNat (Pk.map (·.1)))) k = true :=
    fun k hk => (thetaAL_has _ _ _).2 ((mem_sortNat _ _).2 hk)
  have hph : ∀ k ∈ Pk.map (·.1), alHas (phiRAL X (PyGlue2.sortNat (Pk.map (·.1)))) k = true :=
    fun k hk => (phiRAL_has _ _ _).2 ((mem_sortNat _ _).2 hk)
  rw [loop2_eq Pk _ hth]
  simp only [GenHelpProofs.ok_bind]
  rw [loop3_eq rho Pk Pnk _ _ hth hph]
  unfold pmStatus
  cases hst : (Pk.map (·.1)).findSome? (keyErr Pnk (thetaAL X (PyGlue2.sortNat (Pk.map (·.1))))) with
  | some e => rfl
  | none =>
    simp only [GenHelpProofs.ok_bind]
    rw [loop4_eq]
    · simp only [GenHelpProofs.ok_bind, GenHelpProofs.pure_eq_ok, pmResult]
      congr 3
      apply List.flatMap_congr
      intro k hk
      rw [fold_alSet_get_key _ _ _ _ _ ((mem_sortNat _ _).1 hk)]
    · intro k hk
      have := fold_alSet_has (fun k : Nat => k)
        (phiIval rho Pnk (thetaAL X (PyGlue2.sortNat (Pk.map (·.1)))) (phiRAL X (PyGlue2.sortNat (Pk.map (·.1))))) (Pk.map (·.1)) [] k
      rw [this]
      right
      exact List.mem_map.2 ⟨k, (mem_sortNat _ _).1 hk, rfl⟩

/-- IndexError iff the state is shorter than `1 + 2·len(Pk)` (whatever `Pk`, `Pnk` are: it is raised first) -/
theorem gen_prefmix_indexError_iff :
    GenPM.dEBCM_pref_mix X rho tau gamma Pk Pnk = .error "IndexError" ↔ X.n < 1 + 2 * Pk.length := by
  rw [gen_prefmix_closed_form]
  by_cases h : X.n < 1 + 2 * Pk.length
  · simp [h]
  · rw [if_neg h]
    cases hs : pmStatus X Pk Pnk with
    | none => simp [h]
    | some e => rcases pmStatus_some X Pk Pnk e hs with ⟨rfl, _⟩ | ⟨rfl, _⟩ <;> simp [h]

/-- long enough state, every `Pk` key has a row, every row key is a key of `Pk`, no `0 ** (−1)`: no exception -/
theorem gen_prefmix_ok (hlen : 1 + 2 * Pk.length ≤ X.n) (hr : RowsOK Pk Pnk) (hk : RowKeysOK Pk Pnk)
    (hz : NoZeroPow X Pk Pnk) :
    GenPM.dEBCM_pref_mix X rho tau gamma Pk Pnk = .ok (pmResult X rho tau gamma Pk Pnk) := by
  rw [gen_prefmix_closed_form, if_neg (by omega), (pmStatus_none_iff X Pk Pnk).2 ⟨hr, hk, hz⟩]

/-- **exactly when nothing is raised** -/
theorem gen_prefmix_ok_iff :
    (∃ r, GenPM.dEBCM_pref_mix X rho tau gamma Pk Pnk = .ok r) ↔
      (1 + 2 * Pk.length ≤ X.n ∧ RowsOK Pk Pnk ∧ RowKeysOK Pk Pnk ∧ NoZeroPow X Pk Pnk) := by
  constructor
  · rintro ⟨r, h⟩
    rw [gen_prefmix_closed_form] at h
    by_cases hl : X.n < 1 + 2 * Pk.length
    · rw [if_pos hl] at h; cases h
    · rw [if_neg hl] at h
      cases hs : pmStatus X Pk Pnk with
      | some e => rw [hs] at h; cases h
      | none => exact ⟨by omega, (pmStatus_none_iff X Pk Pnk).1 hs⟩
  · rintro ⟨hl, hr, hk, hz⟩
    exact ⟨_, gen_prefmix_ok X rho tau gamma Pk Pnk hl hr hk hz⟩

/-- a missing row or a foreign row key alone (no zero power anywhere): KeyError -/
theorem gen_prefmix_keyError (hlen : 1 + 2 * Pk.length ≤ X.n) (hbad : ¬ (RowsOK Pk Pnk ∧ RowKeysOK Pk Pnk))
    (hz : NoZeroPow X Pk Pnk) :
    GenPM.dEBCM_pref_mix X rho tau gamma Pk Pnk = .error "KeyError" := by
  have hs : pmStatus X Pk Pnk = some "KeyError" := by
    cases hs : pmStatus X Pk Pnk with
    | none => exact absurd ((pmStatus_none_iff X Pk Pnk).1 hs) (fun h => hbad ⟨h.1, h.2.1⟩)
    | some e =>
      rcases pmStatus_some X Pk Pnk e hs with ⟨rfl, _⟩ | ⟨_, h⟩
      · rfl
      · exact absurd hz h
  rw [gen_prefmix_closed_form, if_neg (by omega), hs]

/-- a row with the key 0 while θ_0 = 0 alone (all rows present, all row keys known): ZeroDivisionError -/
theorem gen_prefmix_zeroDivisionError (hlen : 1 + 2 * Pk.length ≤ X.n) (hr : RowsOK Pk Pnk) (hk : RowKeysOK Pk Pnk)
    (hz : ¬ NoZeroPow X Pk Pnk) :
    GenPM.dEBCM_pref_mix X rho tau gamma Pk Pnk = .error "ZeroDivisionError" := by
  have hs : pmStatus X Pk Pnk = some "ZeroDivisionError" := by
    cases hs : pmStatus X Pk Pnk with
    | none => exact absurd ((pmStatus_none_iff X Pk Pnk).1 hs).2.2 hz
    | some e =>
      rcases pmStatus_some X Pk Pnk e hs with ⟨_, h⟩ | ⟨rfl, _⟩
      · exact absurd ⟨hr, hk⟩ h
      · rfl
  rw [gen_prefmix_closed_form, if_neg (by omega), hs]

/-- **what an exception means**: the only exceptions are IndexError (iff too short), KeyError (then a row is missing or a
row key is foreign), ZeroDivisionError (then some row has the key 0 and θ_0 = 0).  When both defects are present the first
failing read in loop order decides (`gen_prefmix_closed_form`; both orders occur, examples below) -/
theorem gen_prefmix_error (e : String) (h : GenPM.dEBCM_pref_mix X rho tau gamma Pk Pnk = .error e) :
    (e = "IndexError" ∧ X.n < 1 + 2 * Pk.length) ∨
    (e = "KeyError" ∧ 1 + 2 * Pk.length ≤ X.n ∧ ¬ (RowsOK Pk Pnk ∧ RowKeysOK Pk Pnk)) ∨
    (e = "ZeroDivisionError" ∧ 1 + 2 * Pk.length ≤ X.n ∧ ¬ NoZeroPow X Pk Pnk) := by
  rw [gen_prefmix_closed_form] at h
  by_cases hl : X.n < 1 + 2 * Pk.length
  · rw [if_pos hl] at h
    cases h
    exact Or.inl ⟨rfl, hl⟩
  · rw [if_neg hl] at h
    cases hs : pmStatus X Pk Pnk with
    | none => rw [hs] at h; cases h
    | some e' =>
      rw [hs] at h
      cases h
      rcases pmStatus_some X Pk Pnk e hs with ⟨rfl, hb⟩ | ⟨rfl, hb⟩
      · exact Or.inr (Or.inl ⟨rfl, by omega, hb⟩)
      · exact Or.inr (Or.inr ⟨rfl, by omega, hb⟩)

/-- for a dict `Pk` with the key 0, the `theta[0]` of `NoZeroPow` is `X[1]` (0 is the first sorted key) -/
theorem gen_prefmix_theta0 (hn : (Pk.map (·.1)).Nodup) (h0 : 0 ∈ Pk.map (·.1)) : theta0 X Pk = X.f 1 := by
  unfold theta0
  rw [thetaAL_get_idx X _ ((sortNat_nodup _).2 hn) 0 0 ((mem_sortNat _ _).2 h0), sortNat_idxOf_zero _ h0]

/-- the reads `X[0]`, `X[1+2i]`, `X[2+2i]` of the generated code have non-negative indices: `PyPM.vidx` never takes its
negative-index branch -/
theorem gen_prefmix_reads (i : Nat) :
    PyPM.vidx X (0 : Int) = (if 0 < X.n then .ok (X.f 0) else .error "IndexError") ∧
    PyPM.vidx X ((1 : Int) + (2 : Int) * ((i : Nat) : Int)) = (if 1 + 2 * i < X.n then .ok (X.f (1 + 2 * i)) else .error "IndexError") ∧
    PyPM.vidx X ((2 : Int) + (2 : Int) * ((i : Nat) : Int)) = (if 2 + 2 * i < X.n then .ok (X.f (2 + 2 * i)) else .error "IndexError") :=
  ⟨vidx_zero X, vidx_odd X i, vidx_even X i⟩

/-! ## 2. value -/

/-- **generated = model**: for dicts (`hn`, `hrn`: distinct keys) under the success conditions, and when no row has a
non-zero entry for degree 0 unless θ_0 = 1 (`hz`: there Python's `θ_0 ** (−1)` and the model's `θ_0 ^ (0 − 1) = 1` differ), the
returned array has length `1 + 2·|ks|`, entry 0 is the model's dR, entries `1+2i`, `2+2i` are the model's dθ_d, dφR_d for
the `i`-th sorted key `d` -/
theorem gen_prefmix_eq_model (hlen : 1 + 2 * Pk.length ≤ X.n) (hr : RowsOK Pk Pnk) (hk : RowKeysOK Pk Pnk)
    (hzp : NoZeroPow X Pk Pnk) (hn : (Pk.map (·.1)).Nodup)
    (hrn : ∀ k1 ∈ Pk.map (·.1), ((alGet Pnk [] k1).map (·.1)).Nodup)
    (hz : ∀ k1 ∈ Pk.map (·.1), PnkF Pnk k1 0 = 0 ∨ thetaF X (PyGlue2.sortNat (Pk.map (·.1))) 0 = 1) :
    let ks := PyGlue2.sortNat (Pk.map (·.1))
    let m := ODE.ebcmPrefMix ks rho tau gamma (PkF Pk) (PnkF Pnk) (X.f 0) (thetaF X ks) (phiRF X ks)
    ∃ r, GenPM.dEBCM_pref_mix X rho tau gamma Pk Pnk = .ok r ∧ r.n = 1 + 2 * ks.length ∧ r.f 0 = m.1 ∧
      ∀ i (h : i < ks.length), r.f (1 + 2 * i) = m.2.1 ks[i] ∧ r.f (2 + 2 * i) = m.2.2 ks[i] := by
  intro ks m
  refine ⟨_, gen_prefmix_ok X rho tau gamma Pk Pnk hlen hr hk hzp, pmResult_n X rho tau gamma Pk Pnk, ?_, ?_⟩
  · rw [pmResult_f0, sSum_eq X Pk hn]
    rfl
  · intro i h
    have hmem : ks[i] ∈ Pk.map (·.1) := (mem_sortNat _ _).1 (List.getElem_mem h)
    have := pmResult_f X rho tau gamma Pk Pnk i h
    have e := phiIval_eq X rho Pk Pnk hn ks[i] hmem (hrn _ hmem) (hk _ hmem) (hz _ hmem)
    simp only at this e
    rw [e] at this
    exact this

/-! ## 3. facts about the model carried over to the generated code -/

/-- `tau = 0`: every dθ_k returned by the generated code is 0 (cf. `ODE.tau0_ebcmPrefMix`); no dict hypothesis needed -/
theorem gen_prefmix_tau0 (hlen : 1 + 2 * Pk.length ≤ X.n) (hr : RowsOK Pk Pnk) (hk : RowKeysOK Pk Pnk)
    (hzp : NoZeroPow X Pk Pnk) :
    ∃ r, GenPM.dEBCM_pref_mix X rho 0 gamma Pk Pnk = .ok r ∧ ∀ i, i < Pk.length → r.f (1 + 2 * i) = 0 := by
  refine ⟨_, gen_prefmix_ok X rho 0 gamma Pk Pnk hlen hr hk hzp, ?_⟩
  intro i hi
  have hi' : i < (PyGlue2.sortNat (Pk.map (·.1))).length := by rw [sortNat_length, List.length_map]; exact hi
  have := (pmResult_f X rho 0 gamma Pk Pnk i hi').1
  rw [this]; ring

/-- `dφR_k = −(γ/τ)·dθ_k` for every degree class (τ ≠ 0): φR_k + (γ/τ)θ_k is a first integral of the generated system -/
theorem gen_prefmix_dphiR (htau : tau ≠ 0) (hlen : 1 + 2 * Pk.length ≤ X.n) (hr : RowsOK Pk Pnk)
    (hk : RowKeysOK Pk Pnk) (hzp : NoZeroPow X Pk Pnk) :
    ∃ r, GenPM.dEBCM_pref_mix X rho tau gamma Pk Pnk = .ok r ∧
      ∀ i, i < Pk.length → r.f (2 + 2 * i) = -(gamma / tau) * r.f (1 + 2 * i) := by
  refine ⟨_, gen_prefmix_ok X rho tau gamma Pk Pnk hlen hr hk hzp, ?_⟩
  intro i hi
  have hi' : i < (PyGlue2.sortNat (Pk.map (·.1))).length := by rw [sortNat_length, List.length_map]; exact hi
  have := pmResult_f X rho tau gamma Pk Pnk i hi'
  simp only at this
  rw [this.1, this.2, ← mul_assoc, neg_mul_neg, div_mul_cancel₀ _ htau]

/-- the model reads `Pnk`, θ, φR at the degrees in `ks` only -/
theorem ebcmPrefMix_congr (ks : List Nat) (rho tau gamma : Rat) (P : Nat → Rat) (Q Q' : Nat → Nat → Rat) (R : Rat)
    (th th' ph ph' : Nat → Rat) (hQ : ∀ d ∈ ks, ∀ d' ∈ ks, Q d d' = Q' d d') (hth : ∀ d ∈ ks, th d = th' d)
    (hph : ∀ d ∈ ks, ph d = ph' d) :
    (ODE.ebcmPrefMix ks rho tau gamma P Q R th ph).1 = (ODE.ebcmPrefMix ks rho tau gamma P Q' R th' ph').1 ∧
    ∀ d ∈ ks, (ODE.ebcmPrefMix ks rho tau gamma P Q R th ph).2.1 d = (ODE.ebcmPrefMix ks rho tau gamma P Q' R th' ph').2.1 d ∧
      (ODE.ebcmPrefMix ks rho tau gamma P Q R th ph).2.2 d = (ODE.ebcmPrefMix ks rho tau gamma P Q' R th' ph').2.2 d := by
  dsimp only [ODE.ebcmPrefMix]
  have h1 : sumRat (ks.map fun d => P d * th d ^ d) = sumRat (ks.map fun d => P d * th' d ^ d) :=
    sumRat_map_congr _ _ _ (fun d hd => by rw [hth d hd])
  have h2 : ∀ d ∈ ks, sumRat (ks.map fun d' => Q d d' * th d' ^ (d' - 1)) = sumRat (ks.map fun d' => Q' d d' * th' d' ^ (d' - 1)) :=
    fun d hd => sumRat_map_congr _ _ _ (fun d' hd' => by rw [hth d' hd', hQ d hd d' hd'])
  refine ⟨by rw [h1], fun d hd => ?_⟩
  rw [h2 d hd, hth d hd, hph d hd]
  exact ⟨rfl, rfl⟩

/-- **uncorrelated mixing = EBCM** (`ODE.prefMix_uncorrelated` carried over): when `Pnk[k1][k2] = k2·Pk[k2]/⟨k⟩` for all
keys and the state is on the invariant subspace θ_k ≡ θ, φR_k ≡ γ(1−θ)/τ, the generated dθ_k is the same for every k and
equals the EBCM expression with ψ̂ = (1−ρ)ψ, φ_S(0) = 1−ρ, φ_R(0) = 0; dφR_k = −(γ/τ)dθ; N·dR is the EBCM dR -/
theorem gen_prefmix_uncorrelated (hlen : 1 + 2 * Pk.length ≤ X.n) (hr : RowsOK Pk Pnk) (hk : RowKeysOK Pk Pnk)
    (hzp : NoZeroPow X Pk Pnk) (hn : (Pk.map (·.1)).Nodup)
    (hrn : ∀ k1 ∈ Pk.map (·.1), ((alGet Pnk [] k1).map (·.1)).Nodup)
    (K : Nat) (hK : ∀ d ∈ Pk.map (·.1), d < K) (N theta : Rat)
    (ht : tau ≠ 0) (hN : N ≠ 0) (hrho : 1 - rho ≠ 0) (hmean : ODE.psiHP K (PkF Pk) 1 ≠ 0)
    (hunc : ∀ k1 ∈ Pk.map (·.1), ∀ k2 ∈ Pk.map (·.1), PnkF Pnk k1 k2 = (k2 : Rat) * PkF Pk k2 / ODE.psiHP K (PkF Pk) 1)
    (hstate : ∀ i, i < Pk.length → X.f (1 + 2 * i) = theta ∧ X.f (2 + 2 * i) = gamma * (1 - theta) / tau) :
    let e := ODE.ebcm K (fun k => (1 - rho) * PkF Pk k) N tau gamma (1 - rho) 0 theta (N * X.f 0)
    ∃ r, GenPM.dEBCM_pref_mix X rho tau gamma Pk Pnk = .ok r ∧ N * r.f 0 = e.2 ∧
      ∀ i, i < Pk.length → r.f (1 + 2 * i) = e.1 ∧ r.f (2 + 2 * i) = -(gamma / tau) * e.1 := by
  intro e
  have hksn : (PyGlue2.sortNat (Pk.map (·.1))).Nodup := (sortNat_nodup _).2 hn
  have hkl : (PyGlue2.sortNat (Pk.map (·.1))).length = Pk.length := by rw [sortNat_length, List.length_map]
  have hz : ∀ k1 ∈ Pk.map (·.1), PnkF Pnk k1 0 = 0 ∨ thetaF X (PyGlue2.sortNat (Pk.map (·.1))) 0 = 1 := by
    intro k1 hk1
    left
    by_cases h0 : 0 ∈ Pk.map (·.1)
    · rw [hunc k1 hk1 0 h0]; simp
    · exact alGet_of_not_key _ 0 0 (fun h => h0 (hk k1 hk1 0 h))
  obtain ⟨r, hr1, _, hr0, hri⟩ := gen_prefmix_eq_model X rho tau gamma Pk Pnk hlen hr hk hzp hn hrn hz
  have hidx : ∀ d ∈ PyGlue2.sortNat (Pk.map (·.1)), (PyGlue2.sortNat (Pk.map (·.1))).idxOf d < Pk.length :=
    fun d hd => by rw [← hkl]; exact List.idxOf_lt_length_iff.2 hd
  have hc := ebcmPrefMix_congr (PyGlue2.sortNat (Pk.map (·.1))) rho tau gamma (PkF Pk) (PnkF Pnk)
    (fun _ d' => (d' : Rat) * PkF Pk d' / ODE.psiHP K (PkF Pk) 1) (X.f 0)
    (thetaF X (PyGlue2.sortNat (Pk.map (·.1)))) (fun _ => theta)
    (phiRF X (PyGlue2.sortNat (Pk.map (·.1)))) (fun _ => gamma * (1 - theta) / tau)
    (fun d hd d' hd' => hunc d ((mem_sortNat _ _).1 hd) d' ((mem_sortNat _ _).1 hd'))
    (fun d hd => (hstate _ (hidx d hd)).1) (fun d hd => (hstate _ (hidx d hd)).2)
  have hK' : ∀ d ∈ PyGlue2.sortNat (Pk.map (·.1)), d < K := fun d hd => hK d ((mem_sortNat _ _).1 hd)
  have hP0 : ∀ d, d ∉ PyGlue2.sortNat (Pk.map (·.1)) → PkF Pk d = 0 :=
    fun d hd => alGet_of_not_key _ 0 d (fun h => hd ((mem_sortNat _ _).2 h))
  have hu := fun d hd => ODE.prefMix_uncorrelated (PyGlue2.sortNat (Pk.map (·.1))) hksn K hK' rho tau gamma N (PkF Pk)
    hP0 ht hN hrho hmean theta (X.f 0) d hd
  simp only at hu hr0 hri
  refine ⟨r, hr1, ?_, ?_⟩
  · -- `dR` does not depend on a degree: directly, so that an empty `Pk` needs no case of its own
    rw [hr0, hc.1]
    dsimp only [e, ODE.ebcmPrefMix, ODE.ebcm]
    rw [ODE.sumRat_ks_psiH K _ hksn hK' (PkF Pk) hP0, ODE.psiH_smul]
    ring
  · intro i hi
    have hi' : i < (PyGlue2.sortNat (Pk.map (·.1))).length := by rw [hkl]; exact hi
    have hd := List.getElem_mem hi'
    rw [(hri i hi').1, (hri i hi').2, (hc.2 _ hd).1, (hc.2 _ hd).2]
    exact ⟨(hu _ hd).1, (hu _ hd).2.1⟩
end

/-! ## 4. composed with the generated entry point -/
open Gen PyGlue2 GenGlue2Proofs GenPMGlue
open GenGlueProofs (Solver RowZero)

theorem EBCM_pref_mix_spec (odeint myodeint : Solver)
    (rhs : Rat → Rat → Rat → List (Nat × Rat) → List (Nat × List (Nat × Rat)) → V → V) (N : Rat)
    (Pk : List (Nat × Rat)) (Pnk : List (Nat × List (Nat × Rat))) (tau gamma r tmin tmax : Rat) (tcount : Nat) (full : Bool) :
    ∃ x0 l, GenGlue2.EBCM_pref_mix odeint myodeint rhs N Pk Pnk tau gamma (some r) tmin tmax tcount full = .ok (x0, l) ∧
      x0.n = 1 + 2 * Pk.length ∧ l.length = (if full then 5 else 4) ∧
      (∀ i, get l 1 i + get l 2 i + get l 3 i = N) ∧
      (RowZero odeint →
        get l 1 0 = N * ((1 - r) * sumRat ((Pk.map (·.1)).map fun k => alGet Pk 0 k)) ∧ get l 3 0 = 0 ∧
        get l 2 0 = N - N * ((1 - r) * sumRat ((Pk.map (·.1)).map fun k => alGet Pk 0 k))) := by
  -- the entry point for `rho : Option` is Props/C06iEffDeg.lean; `rhoOf N (some r)` is `r`
  obtain ⟨x0, l, h1, h2, h3, h4, h5⟩ := GenGlue3Props.EBCM_pref_mix_spec odeint myodeint rhs N Pk Pnk tau gamma
    (some r) tmin tmax tcount full (.inl rfl)
  refine ⟨x0, l, h1, h2, h3, h4, fun h0 => ?_⟩
  obtain ⟨hR, hS, hI⟩ := h5 h0
  have hd : ∀ k, GenGlue3Props.dGetD Pk k 0 = alGet Pk 0 k := fun k => GenGlue3Proofs.lkD_eq_alGet Pk k 0
  simp only [hd] at hS hI
  exact ⟨hS, hR, hI⟩

/-- the generated right-hand side made total (an exception becomes the empty array) -/
def genRhs (rho tau gamma : Rat) (Pk : List (Nat × Rat)) (Pnk : List (Nat × List (Nat × Rat))) (X : Gen.V) : Gen.V :=
  (GenPM.dEBCM_pref_mix X rho tau gamma Pk Pnk).toOption.getD PyGlue2.V0

/-- **composed**: `EBCM_pref_mix_spec` at `rhs := genRhs`.  Conservation `S + I + R = N` at every time index and the
initial row (RowZero: `S(0) = N(1−ρ)·Σ_k Pk[k]`, `R(0) = 0`) hold whatever the right-hand side returns, in particular when
the generated one raises (`genRhs` is then the empty array) -/
theorem gen_EBCM_pref_mix_composed (odeint myodeint : Solver) (N : Rat) (Pk : List (Nat × Rat))
    (Pnk : List (Nat × List (Nat × Rat))) (tau gamma r tmin tmax : Rat) (tcount : Nat) (full : Bool) :
    ∃ x0 l, GenGlue2.EBCM_pref_mix odeint myodeint genRhs N Pk Pnk tau gamma (some r) tmin tmax tcount full = .ok (x0, l) ∧
      x0.n = 1 + 2 * Pk.length ∧ l.length = (if full then 5 else 4) ∧
      (∀ i, get l 1 i + get l 2 i + get l 3 i = N) ∧
      (RowZero odeint →
        get l 1 0 = N * ((1 - r) * sumRat ((Pk.map (·.1)).map fun k => alGet Pk 0 k)) ∧ get l 3 0 = 0 ∧
        get l 2 0 = N - N * ((1 - r) * sumRat ((Pk.map (·.1)).map fun k => alGet Pk 0 k))) :=
  EBCM_pref_mix_spec odeint myodeint genRhs N Pk Pnk tau gamma r tmin tmax tcount full

/-- `pmIC` is a hand copy of the first loop of `EBCM_pref_mix`, not tied to the generated entry point here; for the
generated `x0` the length is the conjunct `x0.n = 1 + 2 * Pk.length` of `gen_EBCM_pref_mix_composed` -/
theorem gen_EBCM_pref_mix_X0_long (Pk : List (Nat × Rat)) :
    ¬ (V.ofList (pmIC (sortNat (Pk.map (·.1))))).n < 1 + 2 * Pk.length := by
  show ¬ (pmIC _).length < _
  rw [pmIC_length, sortNat_length, List.length_map]; omega

/-! ## 5. closed examples (kernel-checked) -/
section Examples
def runGen (X : List Rat) (rho tau gamma : Rat) (Pk : List (Nat × Rat)) (Pnk : List (Nat × List (Nat × Rat))) :
    Except String (List Rat) :=
  (GenPM.dEBCM_pref_mix (Gen.V.ofList X) rho tau gamma Pk Pnk).map Gen.V.toList
/-- the model on the same data: (dR, [dθ_d], [dφR_d]) over the sorted keys -/
def runModel (X : List Rat) (rho tau gamma : Rat) (Pk : List (Nat × Rat)) (Pnk : List (Nat × List (Nat × Rat))) :
    Rat × List Rat × List Rat :=
  let ks := PyGlue2.sortNat (Pk.map (·.1))
  let m := ODE.ebcmPrefMix ks rho tau gamma (PkF Pk) (PnkF Pnk) ((Gen.V.ofList X).f 0)
    (thetaF (Gen.V.ofList X) ks) (phiRF (Gen.V.ofList X) ks)
  (m.1, ks.map m.2.1, ks.map m.2.2)

def exPk : List (Nat × Rat) := [(3, 1/2), (1, 1/2)]
def exPnk : List (Nat × List (Nat × Rat)) := [(1, [(1, 1/4), (3, 3/4)]), (3, [(3, 1/2), (1, 1/2)])]

/-- two degree classes (keys inserted as 3, 1; state ordered by 1, 3): generated = model -/
example : runGen [1/10, 1/2, 1/5, 4/5, 1/10] (1/10) 2 1 exPk exPnk
    = .ok [2223/5000, 357/500, -357/1000, 19/250, -19/500] := by decide +kernel
example : runModel [1/10, 1/2, 1/5, 4/5, 1/10] (1/10) 2 1 exPk exPnk
    = (2223/5000, [357/500, 19/250], [-357/1000, -19/500]) := by decide +kernel
/-- a longer state is accepted (the tail is ignored); rows of `Pnk` for unknown degrees are ignored -/
example : runGen [0, 1/2, 0, 7, 7] (1/10) 2 1 [(1, 1)] [(1, [(1, 1)]), (7, [(9, 1)])] = .ok [11/20, 4/5, -2/5] := by
  decide +kernel
/-- `Pk = {}`: `[γ(1 − R)]` -/
example : runGen [5] (1/10) 2 1 [] [] = .ok [-4] := by decide +kernel

/-- IndexError: one entry short; empty state -/
example : runGen [0, 1/2, 0, 1/2] (1/10) 2 1 [(0, 1/2), (1, 1/2)] [(0, [(0, 1/2), (1, 1/2)]), (1, [(1, 1)])]
    = .error "IndexError" := by decide +kernel
example : runGen [] (1/10) 2 1 [] [] = .error "IndexError" := by decide +kernel
/-- IndexError comes first: the same short state with a missing row -/
example : runGen [0, 1/2, 0, 1/2] (1/10) 2 1 [(0, 1/2), (1, 1/2)] [] = .error "IndexError" := by decide +kernel
/-- KeyError: the row of degree 1 is missing; a row has the foreign key 2 -/
example : runGen [0, 1/2, 0, 1/2, 0] (1/10) 2 1 [(0, 1/2), (1, 1/2)] [(0, [(0, 1/2), (1, 1/2)])]
    = .error "KeyError" := by decide +kernel
example : runGen [0, 1/2, 0, 1/2, 0] (1/10) 2 1 [(0, 1/2), (1, 1/2)] [(0, [(0, 1/2), (1, 1/2)]), (1, [(2, 1)])]
    = .error "KeyError" := by decide +kernel
/-- ZeroDivisionError: a row has the key 0 and θ_0 = X[1] = 0 — even when that entry of `Pnk` is 0 -/
example : runGen [0, 0, 0, 1/2, 0] (1/10) 2 1 [(0, 1/2), (1, 1/2)] [(0, [(0, 1/2), (1, 1/2)]), (1, [(1, 1)])]
    = .error "ZeroDivisionError" := by decide +kernel
example : runGen [0, 0, 0, 1/2, 0] (1/10) 2 1 [(0, 1/2), (1, 1/2)] [(0, [(0, 0), (1, 1)]), (1, [(1, 1)])]
    = .error "ZeroDivisionError" := by decide +kernel
/-- both defects, precedence = order of the reads: key 0 before the foreign key 2 in the row, and after it; a missing row
of the first `Pk` key before the zero power in the row of the second -/
example : runGen [0, 0, 0, 1/2, 0] (1/10) 2 1 [(0, 1/2), (1, 1/2)] [(0, [(0, 1/2), (2, 1/2)]), (1, [(1, 1)])]
    = .error "ZeroDivisionError" := by decide +kernel
example : runGen [0, 0, 0, 1/2, 0] (1/10) 2 1 [(0, 1/2), (1, 1/2)] [(0, [(2, 1/2), (0, 1/2)]), (1, [(1, 1)])]
    = .error "KeyError" := by decide +kernel
example : runGen [0, 0, 0, 1/2, 0] (1/10) 2 1 [(1, 1/2), (0, 1/2)] [(0, [(0, 1/2)])] = .error "KeyError" := by
  decide +kernel

/-- **counter-example to `gen_prefmix_eq_model` without `hz`**: a row with a non-zero entry for degree 0 and θ_0 = 1/2:
the code computes `Pnk[0][0]·θ_0^(−1)`, the model `Pnk[0][0]·θ_0^0`; dθ_0 is 17/10 in the code and 4/5 in the model -/
example : runGen [0, 1/2, 0, 1/2, 0] (1/10) 2 1 [(0, 1/2), (1, 1/2)] [(0, [(0, 1/2), (1, 1/2)]), (1, [(1, 1)])]
      = .ok [13/40, 17/10, -17/20, 4/5, -2/5] ∧
    runModel [0, 1/2, 0, 1/2, 0] (1/10) 2 1 [(0, 1/2), (1, 1/2)] [(0, [(0, 1/2), (1, 1/2)]), (1, [(1, 1)])]
      = (13/40, [4/5, 4/5], [-2/5, -2/5]) := by decide +kernel
/-- **counter-example without `hrn`** (a row that lists a key twice — not a Python dict): the code adds the first value once
per occurrence, the model once -/
example : runGen [0, 1/2, 0] (1/10) 2 1 [(1, 1)] [(1, [(1, 1/2), (1, 1/2)])] = .ok [11/20, 4/5, -2/5] ∧
    runModel [0, 1/2, 0] (1/10) 2 1 [(1, 1)] [(1, [(1, 1/2), (1, 1/2)])] = (11/20, [-1/10], [1/20]) := by decide +kernel
/-- **counter-example without `hn`** (`Pk` lists a key twice): `theta[1]` is the LAST column written, `X[3]`, not `X[1]` -/
example : runGen [0, 1/2, 0, 1/4, 0] (1/10) 2 1 [(1, 1/2), (1, 1/2)] [(1, [(1, 1)])]
      = .ok [31/40, 13/10, -13/20, 13/10, -13/20] ∧
    runModel [0, 1/2, 0, 1/4, 0] (1/10) 2 1 [(1, 1/2), (1, 1/2)] [(1, [(1, 1)])]
      = (11/20, [13/5, 13/5], [-13/10, -13/10]) := by decide +kernel
/-- the hypotheses of `gen_prefmix_eq_model` hold for the first example (non-vacuity) -/
example : (1 + 2 * exPk.length ≤ (Gen.V.ofList [1/10, 1/2, 1/5, 4/5, 1/10]).n) ∧ RowsOK exPk exPnk ∧ RowKeysOK exPk exPnk ∧
    NoZeroPow (Gen.V.ofList [1/10, 1/2, 1/5, 4/5, 1/10]) exPk exPnk ∧ (exPk.map (·.1)).Nodup := by
  refine ⟨by decide, ?_, ?_, ?_, by decide⟩
  · intro k hk; simp [exPk] at hk; rcases hk with rfl | rfl <;> decide
  · intro k hk; simp [exPk] at hk; rcases hk with rfl | rfl <;> decide
  · intro k hk h0; simp [exPk] at hk; rcases hk with rfl | rfl <;> exact absurd h0 (by decide)

/-- one explicit Euler step of size 1 per time index (`RowZero`) -/
def eulerOdeint : Solver := fun rhs X0 i => (fun X => (⟨X.n, fun k => X.f k + (rhs X).f k⟩ : Gen.V))^[i] X0
example : RowZero eulerOdeint := fun _ _ => rfl
/-- the composition run: `X0 = [0,1,0,1,0]`; `(t, S, I, R)` at time indices 0 and 1; `S + I + R = 100` -/
example : rowAt (GenGlue2.EBCM_pref_mix eulerOdeint eulerOdeint genRhs 100 exPk exPnk (1/2) 1 (some (1/10)) 0 2 3 false) 0
    = .inr ([0, 1, 0, 1, 0], [[0], [90], [10], [0]]) := by decide +kernel
example : rowAt (GenGlue2.EBCM_pref_mix eulerOdeint eulerOdeint genRhs 100 exPk exPnk (1/2) 1 (some (1/10)) 0 2 3 false) 1
    = .inr ([0, 1, 0, 1, 0], [[1], [130131/1600], [13869/1600], [10]]) := by decide +kernel
end Examples
end GenPrefMixProps
