import EoNVerif.Proofs.GenGlue3
import EoNVerif.Props.C06iEffDeg
import EoNVerif.Props.C07c
/-!
C06i (`EBCM_pref_mix_discrete` of the GENERATED `Gen/OdeGlue2.lean`, namespace `GenGlue2`): the general loop, for ALL
inputs (the function calls no solver).

Vocabulary (`Proofs/GenGlue3.lean`): `keys d` = `d.keys()`; `pkF Pk k` = `Pk[k]`, `nksF Pnk k1` = `Pnk[k1].keys()`,
`pnkF Pnk k1 k2` = `Pnk[k1][k2]` (0 / empty for a missing key); `pmRun N Pk Pnk p ρ n` = the hand model
`ODE.prefMixDiscRun` (Model/PrefMixDiscrete.lean) on these dicts = the loop-carried state after `n` passes;
`KeysOK Pk Pnk` = every key of `Pk` is a key of `Pnk` and every key of every `Pnk[k1]` (`k1` a key of `Pk`) is a key of
`Pk`; `ZeroOK Pk Pnk θ` = degree 0 is not a key of a `Pnk[k1]` used, or `θ 0 ≠ 0` (the exponent of
`theta[0][-1] ** (0 - 1)` is negative); `Good … st` = `KeysOK ∧ ZeroOK (θ after the next pass)`;
`pmResult … m full` = the returned arrays: the columns `0..m` of `pmRun`.

Hypothesis `(keys Pk).Nodup`: a Python dict has distinct keys; the association-list type of the generated code does
not enforce it (with a repeated key the first `theta[k]` list gets two appends per pass: closed example below).
-/
namespace GenGlue3Props
open Gen PyGlue2 GenGlue2Proofs GenGlue3Proofs
open ODE (prefMixDiscStep prefMixDiscRun prefMixDiscInit powPred psiH psiHP ebcmDiscRun)
open GenGlueProofs (Solver)

theorem EBCM_pref_mix_discrete_rhoOf (odeint myodeint : Solver) (N : Rat) (Pk : List (Nat × Rat))
    (Pnk : List (Nat × List (Nat × Rat))) (p : Rat) (rho : Option Rat) (tmin tmax : Int) (full : Bool)
    (h : rho.isSome ∨ N ≠ 0) :
    GenGlue2.EBCM_pref_mix_discrete odeint myodeint N Pk Pnk p rho tmin tmax full =
      GenGlue2.EBCM_pref_mix_discrete odeint myodeint N Pk Pnk p (some (rhoOf N rho)) tmin tmax full := by
  cases rho with
  | some r => rfl
  | none =>
    unfold GenGlue2.EBCM_pref_mix_discrete
    -- left: `rho is None` holds and `N = 0` fails, which sets `rho = 1/N`; right: `rho is None` fails
    exact (if_pos rfl).trans ((if_neg (h.resolve_left Bool.false_ne_true)).trans (if_neg Bool.false_ne_true).symm)

theorem EBCM_pref_mix_discrete_rho_none (odeint myodeint : Solver) (N : Rat) (Pk : List (Nat × Rat))
    (Pnk : List (Nat × List (Nat × Rat))) (p : Rat) (tmin tmax : Int) (full : Bool) (hN : N ≠ 0) :
    GenGlue2.EBCM_pref_mix_discrete odeint myodeint N Pk Pnk p none tmin tmax full =
      GenGlue2.EBCM_pref_mix_discrete odeint myodeint N Pk Pnk p (some (1 / N)) tmin tmax full :=
  EBCM_pref_mix_discrete_rhoOf odeint myodeint N Pk Pnk p none tmin tmax full (.inr hN)

theorem EBCM_pref_mix_discrete_error_rho (odeint myodeint : Solver) (Pk : List (Nat × Rat))
    (Pnk : List (Nat × List (Nat × Rat))) (p : Rat) (tmin tmax : Int) (full : Bool) :
    GenGlue2.EBCM_pref_mix_discrete odeint myodeint 0 Pk Pnk p none tmin tmax full = .error "ZeroDivisionError" := by
  unfold GenGlue2.EBCM_pref_mix_discrete
  exact (if_pos rfl).trans (if_pos rfl)

/-- **the general loop, normal return**: if `rho` is given or `N ≠ 0`, and no pass `j + 1 ≤ m = (tmax − tmin).toNat`
meets a missing key or `0.0 ** -1`, the function returns `pmResult`: `times = tmin..tmax`, and `S, I, R` (and the dict
`theta`) are the columns `0..m` of the hand model `ODE.prefMixDiscRun` -/
theorem EBCM_pref_mix_discrete_eq (odeint myodeint : Solver) (N : Rat) (Pk : List (Nat × Rat))
    (Pnk : List (Nat × List (Nat × Rat))) (p : Rat) (rho : Option Rat) (tmin tmax : Int) (full : Bool)
    (hK : (keys Pk).Nodup) (hrho : rho.isSome ∨ N ≠ 0)
    (hg : ∀ j, j < (tmax - tmin).toNat → Good N Pk Pnk p (rhoOf N rho) (pmRun N Pk Pnk p (rhoOf N rho) j)) :
    GenGlue2.EBCM_pref_mix_discrete odeint myodeint N Pk Pnk p rho tmin tmax full =
      .ok (pmResult N Pk Pnk p (rhoOf N rho) tmin (tmax - tmin).toNat full) := by
  rw [EBCM_pref_mix_discrete_rhoOf _ _ _ _ _ _ _ _ _ _ hrho]
  exact pmd_ok N Pk Pnk p _ odeint myodeint tmin tmax full hK hg

/-- **the general loop, exception**: if pass `j0 + 1 ≤ m` is the first whose condition fails, the function raises in
that pass (in the comprehension for the new `phiS`): `KeyError` only if the key condition fails, `ZeroDivisionError`
only if `theta[0]` has just become 0 and degree 0 is a key of a `Pnk[k1]` used -/
theorem EBCM_pref_mix_discrete_error (odeint myodeint : Solver) (N : Rat) (Pk : List (Nat × Rat))
    (Pnk : List (Nat × List (Nat × Rat))) (p : Rat) (rho : Option Rat) (tmin tmax : Int) (full : Bool)
    (hK : (keys Pk).Nodup) (hrho : rho.isSome ∨ N ≠ 0) (j0 : Nat) (hj0 : j0 < (tmax - tmin).toNat)
    (hg : ∀ j, j < j0 → Good N Pk Pnk p (rhoOf N rho) (pmRun N Pk Pnk p (rhoOf N rho) j))
    (hb : ¬ Good N Pk Pnk p (rhoOf N rho) (pmRun N Pk Pnk p (rhoOf N rho) j0)) :
    ∃ e, GenGlue2.EBCM_pref_mix_discrete odeint myodeint N Pk Pnk p rho tmin tmax full = .error e ∧
      ((e = "KeyError" ∧ ¬ KeysOK Pk Pnk) ∨
        (e = "ZeroDivisionError" ∧ ¬ ZeroOK Pk Pnk (pmRun N Pk Pnk p (rhoOf N rho) (j0 + 1)).theta)) := by
  rw [EBCM_pref_mix_discrete_rhoOf _ _ _ _ _ _ _ _ _ _ hrho]
  exact pmd_err N Pk Pnk p _ odeint myodeint tmin tmax full hK j0 hj0 hg hb

/-- **exact success condition**: no exception iff (`rho` is given or `N ≠ 0`) and every pass `j + 1 ≤ m` has all its
keys and does not evaluate `0.0 ** -1`.  In particular with `tmax ≤ tmin` (`m = 0`) nothing about `Pnk` is checked -/
theorem EBCM_pref_mix_discrete_ok_iff (odeint myodeint : Solver) (N : Rat) (Pk : List (Nat × Rat))
    (Pnk : List (Nat × List (Nat × Rat))) (p : Rat) (rho : Option Rat) (tmin tmax : Int) (full : Bool)
    (hK : (keys Pk).Nodup) :
    (∃ res, GenGlue2.EBCM_pref_mix_discrete odeint myodeint N Pk Pnk p rho tmin tmax full = .ok res) ↔
      (rho.isSome ∨ N ≠ 0) ∧
      ∀ j, j < (tmax - tmin).toNat → Good N Pk Pnk p (rhoOf N rho) (pmRun N Pk Pnk p (rhoOf N rho) j) := by
  constructor
  · rintro ⟨res, h⟩
    have hrho : rho.isSome ∨ N ≠ 0 := by
      cases rho with
      | some r => exact Or.inl rfl
      | none =>
        refine Or.inr (fun hN => ?_)
        subst hN
        rw [EBCM_pref_mix_discrete_error_rho] at h
        cases h
    refine ⟨hrho, fun j => ?_⟩
    -- a first pass whose condition fails would raise
    induction j using Nat.strongRecOn with
    | _ j ih =>
      intro hj
      by_contra hb
      obtain ⟨e, he, -⟩ := EBCM_pref_mix_discrete_error odeint myodeint N Pk Pnk p rho tmin tmax full hK hrho j hj
        (fun i hi => ih i hi (Nat.lt_trans hi hj)) hb
      rw [he] at h
      cases h
  · rintro ⟨hrho, hg⟩
    exact ⟨_, EBCM_pref_mix_discrete_eq odeint myodeint N Pk Pnk p rho tmin tmax full hK hrho hg⟩

/-- **`KeyError`, exactly**: at least one pass (`tmin < tmax`), a key of `Pk` missing from `Pnk` or a key of a used
`Pnk[k1]` missing from `Pk`, and the first pass does not hit `0.0 ** -1` (which could come first in the iteration
order): `KeyError`, raised in the first pass -/
theorem EBCM_pref_mix_discrete_keyError (odeint myodeint : Solver) (N : Rat) (Pk : List (Nat × Rat))
    (Pnk : List (Nat × List (Nat × Rat))) (p : Rat) (rho : Option Rat) (tmin tmax : Int) (full : Bool)
    (hK : (keys Pk).Nodup) (hrho : rho.isSome ∨ N ≠ 0) (ht : tmin < tmax) (hk : ¬ KeysOK Pk Pnk)
    (hz : ZeroOK Pk Pnk (pmRun N Pk Pnk p (rhoOf N rho) 1).theta) :
    GenGlue2.EBCM_pref_mix_discrete odeint myodeint N Pk Pnk p rho tmin tmax full = .error "KeyError" := by
  obtain ⟨e, he, hd⟩ := EBCM_pref_mix_discrete_error odeint myodeint N Pk Pnk p rho tmin tmax full hK hrho 0
    (by omega) (fun j hj => absurd hj (Nat.not_lt_zero j)) (fun hg => hk hg.1)
  rcases hd with ⟨rfl, -⟩ | ⟨-, hz'⟩
  · exact he
  · exact absurd hz hz'

/-- **`ZeroDivisionError`, exactly**: all keys present, and pass `j0 + 1 ≤ m` is the first after which `theta[0] = 0`
while degree 0 is a key of some used `Pnk[k1]` -/
theorem EBCM_pref_mix_discrete_zeroDiv (odeint myodeint : Solver) (N : Rat) (Pk : List (Nat × Rat))
    (Pnk : List (Nat × List (Nat × Rat))) (p : Rat) (rho : Option Rat) (tmin tmax : Int) (full : Bool)
    (hK : (keys Pk).Nodup) (hrho : rho.isSome ∨ N ≠ 0) (hk : KeysOK Pk Pnk) (j0 : Nat) (hj0 : j0 < (tmax - tmin).toNat)
    (hg : ∀ j, j < j0 → ZeroOK Pk Pnk (pmRun N Pk Pnk p (rhoOf N rho) (j + 1)).theta)
    (hb : ¬ ZeroOK Pk Pnk (pmRun N Pk Pnk p (rhoOf N rho) (j0 + 1)).theta) :
    GenGlue2.EBCM_pref_mix_discrete odeint myodeint N Pk Pnk p rho tmin tmax full = .error "ZeroDivisionError" := by
  obtain ⟨e, he, hd⟩ := EBCM_pref_mix_discrete_error odeint myodeint N Pk Pnk p rho tmin tmax full hK hrho j0 hj0
    (fun j hj => ⟨hk, hg j hj⟩) (fun hg' => hb hg'.2)
  rcases hd with ⟨-, hk'⟩ | ⟨rfl, -⟩
  · exact absurd hk hk'
  · exact he

theorem ZeroOK_of_no_zero (Pk : List (Nat × Rat)) (Pnk : List (Nat × List (Nat × Rat))) (θ : Nat → Rat)
    (h : (∀ k1 ∈ keys Pk, 0 ∉ nksF Pnk k1) ∨ 0 ∉ keys Pk) : ZeroOK Pk Pnk θ := by
  rintro ⟨k1, hk1, h0⟩ h0'
  rcases h with h | h
  · exact absurd h0 (h k1 hk1)
  · exact absurd h0' h

/-- **no degree 0: the exact condition is the key condition**: no exception iff (`rho` given or `N ≠ 0`) and
(`tmax ≤ tmin` or all keys are present); otherwise `KeyError` (or the `ZeroDivisionError` of `1.0/N`) -/
theorem EBCM_pref_mix_discrete_ok_iff_keys (odeint myodeint : Solver) (N : Rat) (Pk : List (Nat × Rat))
    (Pnk : List (Nat × List (Nat × Rat))) (p : Rat) (rho : Option Rat) (tmin tmax : Int) (full : Bool)
    (hK : (keys Pk).Nodup) (h0 : (∀ k1 ∈ keys Pk, 0 ∉ nksF Pnk k1) ∨ 0 ∉ keys Pk) :
    (∃ res, GenGlue2.EBCM_pref_mix_discrete odeint myodeint N Pk Pnk p rho tmin tmax full = .ok res) ↔
      (rho.isSome ∨ N ≠ 0) ∧ (tmax ≤ tmin ∨ KeysOK Pk Pnk) := by
  rw [EBCM_pref_mix_discrete_ok_iff _ _ _ _ _ _ _ _ _ _ hK]
  refine and_congr_right (fun _ => ⟨fun h => ?_, fun h j hj => ?_⟩)
  · by_cases ht : tmax ≤ tmin
    · exact Or.inl ht
    · exact Or.inr (h 0 (by omega)).1
  · rcases h with h | h
    · omega
    · exact ⟨h, ZeroOK_of_no_zero Pk Pnk _ h0⟩

/-- the state before the loop: `theta[k] = [1]`, `S = [N(1−ρ)]`, `I = [Nρ]`, `R = [0]`, `phiS = 1−ρ`, `phiI = ρ`,
`phiR = 0` -/
theorem pmRun_zero (N : Rat) (Pk : List (Nat × Rat)) (Pnk : List (Nat × List (Nat × Rat))) (p r : Rat) :
    pmRun N Pk Pnk p r 0 = prefMixDiscInit N r ∧
    (∀ k, (pmRun N Pk Pnk p r 0).theta k = 1) ∧ (pmRun N Pk Pnk p r 0).S = N * (1 - r) ∧
    (pmRun N Pk Pnk p r 0).I = N * r ∧ (pmRun N Pk Pnk p r 0).R = 0 ∧
    (∀ k, (pmRun N Pk Pnk p r 0).phiS k = 1 - r) ∧ (∀ k, (pmRun N Pk Pnk p r 0).phiI k = r) ∧
    (∀ k, (pmRun N Pk Pnk p r 0).phiR k = 0) :=
  ⟨rfl, fun _ => rfl, rfl, rfl, rfl, fun _ => rfl, fun _ => rfl, fun _ => rfl⟩

/-- `pmRun` IS the hand model `ODE.prefMixDiscRun` with `ks = Pk.keys()`, `nks k1 = Pnk[k1].keys()` -/
theorem pmRun_eq_model (N : Rat) (Pk : List (Nat × Rat)) (Pnk : List (Nat × List (Nat × Rat))) (p r : Rat) (n : Nat) :
    pmRun N Pk Pnk p r n = prefMixDiscRun (keys Pk) (nksF Pnk) N r p (pkF Pk) (pnkF Pnk) n := rfl

/-- **the recursions of the source** (one pass): `newtheta[k] = theta[k][-1] − p·phiI[k]`; `newR = R[-1] + I[-1]`;
`newS = N(1−ρ) Σ_k Pk[k]·newtheta[k]^k`; `newI = N − newR − newS`;
`phiS[k1] = (1−ρ) Σ_{k2 ∈ Pnk[k1]} Pnk[k1][k2]·newtheta[k2]^(k2−1)`; `phiR[k] += (1−p)·phiI[k]`;
`phiI[k] = newtheta[k] − phiS[k] − phiR[k]` (new `phiS`, `phiR`) -/
theorem pmRun_succ (N : Rat) (Pk : List (Nat × Rat)) (Pnk : List (Nat × List (Nat × Rat))) (p r : Rat) (n : Nat) :
    let a := pmRun N Pk Pnk p r n
    let b := pmRun N Pk Pnk p r (n + 1)
    (∀ k, b.theta k = a.theta k - p * a.phiI k) ∧
    b.R = a.R + a.I ∧
    b.S = N * (1 - r) * sumRat ((keys Pk).map fun k => pkF Pk k * b.theta k ^ k) ∧
    b.I = N - b.R - b.S ∧
    (∀ k1, b.phiS k1 = (1 - r) * sumRat ((nksF Pnk k1).map fun k2 => pnkF Pnk k1 k2 * powPred (b.theta k2) k2)) ∧
    (∀ k, b.phiR k = a.phiR k + (1 - p) * a.phiI k) ∧
    (∀ k, b.phiI k = b.theta k - b.phiS k - b.phiR k) :=
  ⟨fun _ => rfl, rfl, rfl, rfl, fun _ => rfl, fun _ => rfl, fun _ => rfl⟩

theorem pmRun_conserve (N : Rat) (Pk : List (Nat × Rat)) (Pnk : List (Nat × List (Nat × Rat))) (p r : Rat) (n : Nat) :
    (pmRun N Pk Pnk p r n).S + (pmRun N Pk Pnk p r n).I + (pmRun N Pk Pnk p r n).R = N := by
  cases n with
  | zero => obtain ⟨-, -, hS, hI, hR, -⟩ := pmRun_zero N Pk Pnk p r; rw [hS, hI, hR]; ring
  | succ n => obtain ⟨-, -, -, hI, -⟩ := pmRun_succ N Pk Pnk p r n; rw [hI]; ring

theorem ofList_range_f (F : Nat → Rat) (m n : Nat) (h : n ≤ m) : (V.ofList ((List.range (m + 1)).map F)).f n = F n := by
  show ((List.range (m + 1)).map F).getD n 0 = F n
  rw [List.getD_eq_getElem?_getD, List.getElem?_map, List.getElem?_range (by omega)]; rfl

/-- **the specification of the general loop.**  Under the hypotheses of `EBCM_pref_mix_discrete_eq`, with
`m = (tmax − tmin).toNat`: the call returns 4 arrays (5 with `return_full_data`, the fifth being the dict `theta`); all
of them (and every `theta[k]`) have length `m + 1`; `times = tmin, …, tmin + m`; at every index `S + I + R = N`;
`S(0) = N(1−ρ)`, `I(0) = Nρ`, `R(0) = 0`, `theta[k](0) = 1`; `R(n+1) = R(n) + I(n)`;
`S(n+1) = N(1−ρ) Σ_k Pk[k]·theta[k](n+1)^k`; and `S`, `I`, `R`, `theta[k]` are the columns of the hand model -/
theorem EBCM_pref_mix_discrete_spec (odeint myodeint : Solver) (N : Rat) (Pk : List (Nat × Rat))
    (Pnk : List (Nat × List (Nat × Rat))) (p : Rat) (rho : Option Rat) (tmin tmax : Int)
    (hK : (keys Pk).Nodup) (hrho : rho.isSome ∨ N ≠ 0)
    (hg : ∀ j, j < (tmax - tmin).toNat → Good N Pk Pnk p (rhoOf N rho) (pmRun N Pk Pnk p (rhoOf N rho) j)) :
    let m := (tmax - tmin).toNat
    let run := pmRun N Pk Pnk p (rhoOf N rho)
    ∃ times S I R : V, ∃ theta : Nat → List Rat,
      GenGlue2.EBCM_pref_mix_discrete odeint myodeint N Pk Pnk p rho tmin tmax false
        = .ok (PyGlue2.V0, [Out.v times, Out.v S, Out.v I, Out.v R]) ∧
      GenGlue2.EBCM_pref_mix_discrete odeint myodeint N Pk Pnk p rho tmin tmax true
        = .ok (PyGlue2.V0, [Out.v times, Out.v S, Out.v I, Out.v R, Out.dl (mkD (keys Pk) theta)]) ∧
      times.n = m + 1 ∧ S.n = m + 1 ∧ I.n = m + 1 ∧ R.n = m + 1 ∧ (∀ k, (theta k).length = m + 1) ∧
      (∀ n, n ≤ m → times.f n = ((tmin + (n : Int) : Int) : Rat) ∧ S.f n + I.f n + R.f n = N ∧
        S.f n = (run n).S ∧ I.f n = (run n).I ∧ R.f n = (run n).R ∧ ∀ k, (theta k).getD n 0 = (run n).theta k) ∧
      S.f 0 = N * (1 - rhoOf N rho) ∧ I.f 0 = N * rhoOf N rho ∧ R.f 0 = 0 ∧ (∀ k, (theta k).getD 0 0 = 1) ∧
      (∀ n, n < m → R.f (n + 1) = R.f n + I.f n ∧
        S.f (n + 1) = N * (1 - rhoOf N rho) *
          sumRat ((keys Pk).map fun k => pkF Pk k * (theta k).getD (n + 1) 0 ^ k) ∧
        ∀ k, (theta k).getD (n + 1) 0 = (theta k).getD n 0 - p * (run n).phiI k) := by
  intro m run
  have hcol : ∀ (F : Nat → Rat) n, n ≤ m → ((List.range (m + 1)).map F).getD n 0 = F n := fun F n h =>
    ofList_range_f F m n h
  have hlen : ∀ F : Nat → Rat, ((List.range (m + 1)).map F).length = m + 1 := fun F => by
    rw [List.length_map, List.length_range]
  have h0 := Nat.zero_le m
  -- every array is a column of the model run; the remaining clauses are `pmRun_zero` and `pmRun_succ` read off it
  refine ⟨_, _, _, _, fun k => (List.range (m + 1)).map (fun j => (run j).theta k),
    EBCM_pref_mix_discrete_eq odeint myodeint N Pk Pnk p rho tmin tmax false hK hrho hg,
    EBCM_pref_mix_discrete_eq odeint myodeint N Pk Pnk p rho tmin tmax true hK hrho hg,
    hlen _, hlen _, hlen _, hlen _, fun k => hlen _, fun n hn => ?_, ?_, ?_, ?_, fun k => ?_, fun n hn => ?_⟩
  · rw [ofList_range_f _ _ _ hn, ofList_range_f _ _ _ hn, ofList_range_f _ _ _ hn, ofList_range_f _ _ _ hn]
    exact ⟨rfl, pmRun_conserve N Pk Pnk p (rhoOf N rho) n, rfl, rfl, rfl, fun k => hcol _ n hn⟩
  · rw [ofList_range_f _ _ _ h0]; rfl
  · rw [ofList_range_f _ _ _ h0]; rfl
  · rw [ofList_range_f _ _ _ h0]; rfl
  · rw [hcol _ 0 h0]; rfl
  · have hn' := Nat.le_of_lt hn
    rw [ofList_range_f _ _ _ hn, ofList_range_f _ _ _ hn', ofList_range_f _ _ _ hn', ofList_range_f _ _ _ hn]
    simp only [hcol _ n hn', hcol _ (n + 1) hn]
    exact ⟨rfl, rfl, fun k => rfl⟩

/-- the instance of C06f (`Pk = {1: 1/2, 2: 1/2}`): the hypotheses of the theorems hold … -/
example : (keys [((1 : Nat), (1/2 : Rat)), (2, 1/2)]).Nodup ∧
    KeysOK [(1, 1/2), (2, 1/2)] [(1, [(1, 1/3), (2, 2/3)]), (2, [(1, 1/3), (2, 2/3)])] ∧
    ¬ KeysOK [(1, 1/2), (2, 1/2)] [(1, [(1, 1/3), (3, 2/3)]), (2, [(1, 1/3), (2, 2/3)])] := by
  unfold KeysOK
  decide +kernel
/-- … so `EBCM_pref_mix_discrete_ok_iff_keys` decides the outcome for every `p`, `rho`, `tmin`, `tmax` -/
example (p r : Rat) (tmin tmax : Int) (full : Bool) :
    ∃ res, GenGlue2.EBCM_pref_mix_discrete constOdeint constOdeint 100 [(1, 1/2), (2, 1/2)]
      [(1, [(1, 1/3), (2, 2/3)]), (2, [(1, 1/3), (2, 2/3)])] p (some r) tmin tmax full = .ok res :=
  (EBCM_pref_mix_discrete_ok_iff_keys constOdeint constOdeint 100 _ _ p (some r) tmin tmax full (by decide)
    (Or.inr (by decide))).mpr ⟨Or.inl rfl, Or.inr (by unfold KeysOK; decide +kernel)⟩
/-- full data: the dict `theta` (flattened: `theta[1]` then `theta[2]`), two passes -/
example : rowAt (GenGlue2.EBCM_pref_mix_discrete constOdeint constOdeint 100 [(1, 1/2), (2, 1/2)]
    [(1, [(1, 1/3), (2, 2/3)]), (2, [(1, 1/3), (2, 2/3)])] (1/2) (some (1/10)) 0 2 true) 0
    = .inr ([], [[0, 1, 2], [90, 6669/80, 651321/8000], [10, 531/80, 15579/8000], [0, 10, 1331/80],
        [1, 19/20, 187/200, 1, 19/20, 187/200]]) := by decide +kernel
/-- **`S(0)` is `N(1 − rho)`, not `N(1 − rho) Σ Pk[k]·1^k`**: the formula for `S` holds from the first pass on only (unless
`Σ Pk = 1`).  `Pk = {1: 1/2}`: `S = [90, 171/4]` while the formula at index 0 gives 45 -/
example : rowAt (GenGlue2.EBCM_pref_mix_discrete constOdeint constOdeint 100 [(1, 1/2)] [(1, [(1, 1)])] (1/2)
    (some (1/10)) 0 1 false) 0 = .inr ([], [[0, 1], [90, 171/4], [10, 189/4], [0, 10]]) := by decide +kernel
/-- `ZeroDivisionError`: degree 0 is a key and `theta[0]` becomes `1 − p·rho = 0` in the first pass (`0.0 ** -1`) -/
example : rowAt (GenGlue2.EBCM_pref_mix_discrete constOdeint constOdeint 100 [(0, 1/2), (1, 1/2)]
    [(0, [(0, 1)]), (1, [(0, 1)])] 1 (some 1) 0 2 false) 0 = .inl "ZeroDivisionError" := by decide +kernel
/-- both conditions fail: which exception is raised depends on the iteration order of `Pnk[0]` -/
example : rowAt (GenGlue2.EBCM_pref_mix_discrete constOdeint constOdeint 100 [(0, 1/2), (1, 1/2)]
    [(0, [(0, 1), (5, 1)]), (1, [(0, 1)])] 1 (some 1) 0 2 false) 0 = .inl "ZeroDivisionError" := by decide +kernel
example : rowAt (GenGlue2.EBCM_pref_mix_discrete constOdeint constOdeint 100 [(0, 1/2), (1, 1/2)]
    [(0, [(5, 1), (0, 1)]), (1, [(0, 1)])] 1 (some 1) 0 2 false) 0 = .inl "KeyError" := by decide +kernel
/-- degree 0 as a key with `theta[0] ≠ 0`: no exception (`theta[0] ** -1 = 1/theta[0]`) -/
example : rowAt (GenGlue2.EBCM_pref_mix_discrete constOdeint constOdeint 100 [(0, 1/2), (1, 1/2)]
    [(0, [(0, 1)]), (1, [(0, 1)])] (1/2) (some 1) 0 3 false) 0
    = .inr ([], [[0, 1, 2, 3], [0, 0, 0, 0], [100, 0, 0, 0], [0, 100, 100, 100]]) := by decide +kernel
/-- **why `(keys Pk).Nodup`**: with a repeated key (impossible for a Python dict) the first `theta[1]` list gets two
appends per pass (length 5 after two passes), the second none -/
example : rowAt (GenGlue2.EBCM_pref_mix_discrete constOdeint constOdeint 100 [(1, 1/2), (1, 1/2)]
    [(1, [(1, 1)])] (1/2) (some (1/10)) 0 2 true) 0
    = .inr ([], [[0, 1, 2], [90, 171/2, 171/2], [10, 9/2, 0], [0, 10, 29/2], [1, 19/20, 19/20, 19/20, 19/20, 1]]) := by
  decide +kernel

theorem prefMixDiscRun_congr (ks : List Nat) (nks : Nat → List Nat) (N rho p : Rat) (Pk : Nat → Rat)
    (Pnk Pnk' : Nat → Nat → Rat) (h : ∀ k1 k2, k2 ∈ nks k1 → Pnk k1 k2 = Pnk' k1 k2) (n : Nat) :
    prefMixDiscRun ks nks N rho p Pk Pnk n = prefMixDiscRun ks nks N rho p Pk Pnk' n := by
  induction n with
  | zero => rfl
  | succ n ih =>
    have step : ∀ st, prefMixDiscStep ks nks N rho p Pk Pnk st = prefMixDiscStep ks nks N rho p Pk Pnk' st := by
      intro st
      have e : ∀ (θ : Nat → Rat) k1, ((nks k1).map fun k2 => Pnk k1 k2 * powPred (θ k2) k2)
          = ((nks k1).map fun k2 => Pnk' k1 k2 * powPred (θ k2) k2) := fun θ k1 =>
        List.map_congr_left (fun k2 hk2 => by rw [h k1 k2 hk2])
      simp only [prefMixDiscStep, e]
    show prefMixDiscStep ks nks N rho p Pk Pnk (prefMixDiscRun ks nks N rho p Pk Pnk n) = 
      prefMixDiscStep ks nks N rho p Pk Pnk' (prefMixDiscRun ks nks N rho p Pk Pnk' n)
    rw [ih, step]

/-- **uncorrelated mixing: the model run is the run of `EBCM_discrete`.**  Dict form of
`ODE.ebcmDiscrete_prefmix_uncorrelated_run` (C07c): keys of `Pk` distinct and below `K`; every used `Pnk[k1]` has
distinct keys, all of them keys of `Pk`, containing every degree `d'` with `d'·Pk[d'] ≠ 0`;
`Pnk[k1][k2] = k2·Pk[k2]/⟨k⟩` on its keys; `p ≠ 0`, `⟨k⟩ = Σ k Pk[k] ≠ 0`, `Σ Pk = 1`.  Then after every number of passes
`S`, `I`, `R` and every `theta[k]` are those of `EBCM_discrete(N, (1−ρ)ψ, (1−ρ)ψ', p, 1−ρ, 0, 0)` (model
`ODE.ebcmDiscRun`) -/
theorem pmRun_uncorrelated (N : Rat) (Pk : List (Nat × Rat)) (Pnk : List (Nat × List (Nat × Rat))) (p r : Rat)
    (hK : (keys Pk).Nodup) (K : Nat) (hKb : ∀ d ∈ keys Pk, d < K)
    (hnd : ∀ d ∈ keys Pk, (nksF Pnk d).Nodup) (hsub : ∀ d ∈ keys Pk, ∀ d' ∈ nksF Pnk d, d' ∈ keys Pk)
    (hunc : ∀ k1 k2, k2 ∈ nksF Pnk k1 → pnkF Pnk k1 k2 = (k2 : Rat) * pkF Pk k2 / psiHP K (pkF Pk) 1)
    (hfull : ∀ d ∈ keys Pk, ∀ d', d' ∉ nksF Pnk d → (d' : Rat) * pkF Pk d' = 0)
    (hp : p ≠ 0) (hmean : psiHP K (pkF Pk) 1 ≠ 0) (hsum : psiH K (pkF Pk) 1 = 1) (n : Nat) :
    let st := pmRun N Pk Pnk p r n
    let y := ebcmDiscRun K (fun k => (1 - r) * pkF Pk k) N p (1 - r) 0 0 n
    (∀ d ∈ keys Pk, st.theta d = y.1) ∧ st.S = y.2.1 ∧ st.I = y.2.2.1 ∧ st.R = y.2.2.2 := by
  have e : pmRun N Pk Pnk p r n = prefMixDiscRun (keys Pk) (nksF Pnk) N r p (pkF Pk)
      (fun _ d' => (d' : Rat) * pkF Pk d' / psiHP K (pkF Pk) 1) n :=
    prefMixDiscRun_congr _ _ _ _ _ _ _ _ hunc n
  intro st y
  have := ODE.ebcmDiscrete_prefmix_uncorrelated_run (keys Pk) hK K hKb (nksF Pnk) hnd hsub N r p (pkF Pk)
    (fun d hd => lkD_of_not_mem Pk d 0 hd) hfull hp hmean hsum n
  simp only [st, y, e]
  exact this


/-- **the generated `EBCM_pref_mix_discrete` with uncorrelated mixing returns the `S, I, R` of `EBCM_discrete`** (model
`ODE.ebcmDiscRun` with `psihat = (1−ρ)ψ`, `phiS0 = 1−ρ`, `phiR0 = 0`, `R0 = 0`) at every index -/
theorem EBCM_pref_mix_discrete_uncorrelated (odeint myodeint : Solver) (N : Rat) (Pk : List (Nat × Rat))
    (Pnk : List (Nat × List (Nat × Rat))) (p : Rat) (rho : Option Rat) (tmin tmax : Int)
    (hK : (keys Pk).Nodup) (hrho : rho.isSome ∨ N ≠ 0)
    (hg : ∀ j, j < (tmax - tmin).toNat → Good N Pk Pnk p (rhoOf N rho) (pmRun N Pk Pnk p (rhoOf N rho) j))
    (K : Nat) (hKb : ∀ d ∈ keys Pk, d < K)
    (hnd : ∀ d ∈ keys Pk, (nksF Pnk d).Nodup) (hsub : ∀ d ∈ keys Pk, ∀ d' ∈ nksF Pnk d, d' ∈ keys Pk)
    (hunc : ∀ k1 k2, k2 ∈ nksF Pnk k1 → pnkF Pnk k1 k2 = (k2 : Rat) * pkF Pk k2 / psiHP K (pkF Pk) 1)
    (hfull : ∀ d ∈ keys Pk, ∀ d', d' ∉ nksF Pnk d → (d' : Rat) * pkF Pk d' = 0)
    (hp : p ≠ 0) (hmean : psiHP K (pkF Pk) 1 ≠ 0) (hsum : psiH K (pkF Pk) 1 = 1) :
    ∃ times S I R : V,
      GenGlue2.EBCM_pref_mix_discrete odeint myodeint N Pk Pnk p rho tmin tmax false
        = .ok (PyGlue2.V0, [Out.v times, Out.v S, Out.v I, Out.v R]) ∧
      ∀ n, n ≤ (tmax - tmin).toNat →
        S.f n = (ebcmDiscRun K (fun k => (1 - rhoOf N rho) * pkF Pk k) N p (1 - rhoOf N rho) 0 0 n).2.1 ∧
        I.f n = (ebcmDiscRun K (fun k => (1 - rhoOf N rho) * pkF Pk k) N p (1 - rhoOf N rho) 0 0 n).2.2.1 ∧
        R.f n = (ebcmDiscRun K (fun k => (1 - rhoOf N rho) * pkF Pk k) N p (1 - rhoOf N rho) 0 0 n).2.2.2 := by
  obtain ⟨times, S, I, R, theta, h1, -, -, -, -, -, -, hcol, -⟩ :=
    EBCM_pref_mix_discrete_spec odeint myodeint N Pk Pnk p rho tmin tmax hK hrho hg
  refine ⟨times, S, I, R, h1, fun n hn => ?_⟩
  obtain ⟨-, -, hS, hI, hR, -⟩ := hcol n hn
  obtain ⟨-, eS, eI, eR⟩ := pmRun_uncorrelated N Pk Pnk p (rhoOf N rho) hK K hKb hnd hsub hunc hfull hp hmean hsum n
  exact ⟨hS.trans eS, hI.trans eI, hR.trans eR⟩

/-- the hypotheses are satisfiable: degrees 1 and 3 with probability 1/2 each, `⟨k⟩ = 2`,
`Pnk[·] = {1: 1/4, 3: 3/4}` -/
example (tmin tmax : Int) : ∃ times S I R : V,
    GenGlue2.EBCM_pref_mix_discrete constOdeint constOdeint 100 [(1, 1/2), (3, 1/2)]
      [(1, [(1, 1/4), (3, 3/4)]), (3, [(1, 1/4), (3, 3/4)])] (1/2) (some (1/10)) tmin tmax false
      = .ok (PyGlue2.V0, [Out.v times, Out.v S, Out.v I, Out.v R]) ∧
    ∀ n, n ≤ (tmax - tmin).toNat →
      S.f n = (ebcmDiscRun 4 (fun k => (1 - 1/10) * pkF [(1, 1/2), (3, 1/2)] k) 100 (1/2) (1 - 1/10) 0 0 n).2.1 ∧
      I.f n = (ebcmDiscRun 4 (fun k => (1 - 1/10) * pkF [(1, 1/2), (3, 1/2)] k) 100 (1/2) (1 - 1/10) 0 0 n).2.2.1 ∧
      R.f n = (ebcmDiscRun 4 (fun k => (1 - 1/10) * pkF [(1, 1/2), (3, 1/2)] k) 100 (1/2) (1 - 1/10) 0 0 n).2.2.2 := by
  have hk : KeysOK [(1, 1/2), (3, 1/2)] [(1, [(1, 1/4), (3, 3/4)]), (3, [(1, 1/4), (3, 3/4)])] := by
    unfold KeysOK; decide +kernel
  have hnk : ∀ k1, k1 ≠ 1 → k1 ≠ 3 → nksF [(1, [(1, (1/4 : Rat)), (3, 3/4)]), (3, [(1, 1/4), (3, 3/4)])] k1 = [] := by
    intro k1 h1 h3
    unfold nksF
    rw [lkD_of_not_mem _ _ _ (by simp [keys, h1, h3])]
    rfl
  have hpk : ∀ d, d ≠ 1 → d ≠ 3 → pkF [(1, (1/2 : Rat)), (3, 1/2)] d = 0 := fun d h1 h3 =>
    lkD_of_not_mem _ _ _ (by simp [keys, h1, h3])
  exact EBCM_pref_mix_discrete_uncorrelated constOdeint constOdeint 100 _ _ (1/2) (some (1/10)) tmin tmax (by decide)
    (Or.inl rfl) (fun j _ => ⟨hk, ZeroOK_of_no_zero _ _ _ (Or.inr (by decide))⟩) 4 (by decide) (by decide +kernel)
    (fun d hd => (hk d hd).2) (by
      intro k1 k2 h
      by_cases h1 : k1 = 1
      · subst h1
        have : k2 = 1 ∨ k2 = 3 := by simpa [nksF, keys, lkD] using h
        rcases this with rfl | rfl <;> decide +kernel
      · by_cases h3 : k1 = 3
        · subst h3
          have : k2 = 1 ∨ k2 = 3 := by simpa [nksF, keys, lkD] using h
          rcases this with rfl | rfl <;> decide +kernel
        · rw [hnk k1 h1 h3] at h; cases h)
    (by
      intro d hd d' hd'
      have hd1 : d = 1 ∨ d = 3 := by simpa [keys] using hd
      have : d' ≠ 1 ∧ d' ≠ 3 := by
        rcases hd1 with rfl | rfl <;>
        · constructor <;> (rintro rfl; exact hd' (by decide +kernel))
      rw [hpk d' this.1 this.2]; simp)
    (by decide +kernel) (by decide +kernel) (by decide +kernel)

end GenGlue3Props
