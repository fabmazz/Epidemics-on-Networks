import EoNVerif.Props.C03
import EoNVerif.Proofs.SimpleTraj
/-!
C03c — **the induction over events** for `Gillespie_simple_contagion`: the one-step laws of `Props/C03` (`clock_eq`,
`pickIdx_interval`, `actor_law`, `applyEvent_inv`) lifted to the law of whole finite histories, as `Props/C01g` does
for `Gillespie_SIR/SIS` and `Props/C15c` for `Gillespie_complex_contagion`.

Definitions (in `Proofs/SimpleTraj.lean`, restated here in words).  An event is `SCEvent = ⟨idx, actor⟩`: `idx`
indexes `P.spont ++ P.ind`, `actor = [u]` (spontaneous) or `[u, v]` (induced, `v` is modified).

* `Simple.Spec.events P st` — the enabled (transition, actor) pairs of the specification in status `st` (for the
  `j`-th spontaneous transition the nodes of status `src`; for the `j`-th induced one the ordered pairs `(u, v)`,
  `v ∈ succ u`, statuses `(a, b)`): the enumeration `Simple.enabledS/enabledI` of the model file, labelled with the
  transition index; `Simple.Spec.Enabled P st e` is its membership predicate (`events_iff_enabled`);
  `Simple.Spec.evRate P e` = spec rate × weight of the actor (`1` if the transition has no weight label);
  their sum is `Simple.specTotal P st` (`rates_sum`), the quantity of C03 `clock_eq`.
* `Simple.Spec.jumpDist P n st : Dist (List (SCEvent × Rat))` — first `n` jumps of the specified CTMC: if
  `specTotal = 0` the history ends; else the enabled event `e` is next with probability `evRate e / specTotal`,
  `(e, specTotal)` is recorded, and the chain continues from `Spec.apply P st e` (the modified node takes the
  to-status).
* `Simple.idxDist P s : Dist Nat` — law of the transition index picked by "one uniform draw against the cumulative
  shares": index `i` has probability `share_i = rateList[i] / totalRate` = the length of the `i`-th cumulative
  interval (`share_is_interval_length`), which by `Simple.pickIdx_eq_iff` (`idx_law_exact`) is exactly the set of draws for which
  `pickIdx` answers `i` (the shares are the expressions the tape model `pick` hands to `pickIdx`; they sum to 1,
  `shares_sum_one`).  `Simple.pickDist P s k` = `idxDist`, then `chooseDist k` of that transition's list.
* `Simple.trajDist P k n s` — law of the first `n` events of the model's loop, each recorded with the rate of the
  `expovariate` draw (`totalRate P s`).  Stop test = the loop's (`Simple.halted`: `total_rate > 0` fails; no horizon).
  **What the model forces on the statement** (as in C01g/C15c): sampler budget exhausted (`none`) and
  `applyEvent = none` are *errors*, not stops, and contribute no history (`trajDist` is a sub-distribution); the loop
  tests `total_rate > 0`, which under `WF`/`Inv` is `specTotal ≠ 0` (`halt_iff_absorbing`); the event time passed to
  `applyEvent` is only recorded (`traj_time_irrelevant`); `0 < k` is needed because an *unweighted* list accepts in
  the first round but `chooseDist 0` has made no round at all.
* `Simple.accProd P k s h = Π_i c_i`, `c_i = 1 - ρ_i^k` for the list used by the `i`-th event (in the state reached
  after `i-1` events) if it is weighted, `1` otherwise; `Simple.defectSum` = `Σ_i ρ_i^k`.
* `Simple.Spec.Legal P st h` — `h` is a path of the chain: every event is an enabled transition of the specification
  with a positive rate in the status reached so far; the recorded rate is `specTotal` there (positive).

Hypotheses, as in C03: `Simple.WF P` (graph well-formed, rates and weights non-negative) and `Simple.Inv P s` (true
after `init`, C03 `init_inv`; preserved, `traj_status`).

The theorems of this file are in namespace `SimpleTraj` (not the namespace of `Proofs/SimpleTraj.lean`, which is `Simple`).
-/
namespace SimpleTraj
open Simple
variable {σ : Type} [DecidableEq σ]

/-- the loop's stop test is, under the invariant, "the chain is absorbed" (total rate 0) -/
theorem halt_iff_absorbing (P : SCParams σ) (h : WF P) (s : SCState σ) (hs : Inv P s) :
    halted P s ↔ specTotal P s.status = 0 :=
  halted_iff P h s hs

theorem loop_stops (P : SCParams σ) (cfuel fuel : Nat) (s : SCState σ) (tv : Rat) (hh : halted P s) :
    loop P none cfuel (fuel + 1) s (if totalRate P s > 0 then some tv else none) = pure s := by
  have hp : ¬ (totalRate P s > 0) := hh
  rw [if_neg hp, loop]

theorem loop_continues (P : SCParams σ) (cfuel fuel : Nat) (s : SCState σ) (tv : Rat) (hh : ¬ halted P s) :
    loop P none cfuel (fuel + 1) s (if totalRate P s > 0 then some tv else none) =
      (do
        let e ← pick P s cfuel
        match applyEvent P s e tv with
        | none => TM.fail "KeyError"
        | some s' =>
          let tot := totalRate P s'
          if tot > 0 then do
            let d ← TM.popExpo tot
            loop P none cfuel fuel s' (some (tv + d))
          else loop P none cfuel fuel s' none) := by
  have hp : totalRate P s > 0 := not_not.1 hh
  rw [if_pos hp, loop, if_neg (by simp [hp, ERat.lt])]
  rfl

/-! #### the enumeration of the specification's events -/

theorem events_iff_enabled (P : SCParams σ) (st : Node → σ) (e : SCEvent) :
    e ∈ Spec.events P st ↔ Spec.Enabled P st e :=
  mem_events P st e

/-- no (transition, actor) pair is listed twice -/
theorem events_distinct (P : SCParams σ) (h : WF P) (st : Node → σ) : (Spec.events P st).Nodup :=
  events_nodup P h st

/-- the rates of the enabled events add up to the total rate of C03 `clock_eq` -/
theorem rates_sum (P : SCParams σ) (st : Node → σ) :
    sumRat ((Spec.events P st).map (Spec.evRate P)) = specTotal P st :=
  sum_rates P st

/-- the model's candidates are exactly the enabled transitions of the specification -/
theorem enabled_iff (P : SCParams σ) (s : SCState σ) (hs : Inv P s) (e : SCEvent) :
    Enabled s e ↔ Spec.Enabled P s.status e :=
  enabled_iff_spec P s hs e

/-! #### the transition index -/

omit [DecidableEq σ] in
/-- the shares `rate_i·total_weight_i / total_rate` sum to 1 while the loop runs, so every draw `r ∈ [0, 1)` falls in
exactly one cumulative-share interval (`Simple.pickIdx_eq_iff`) -/
theorem shares_sum_one (P : SCParams σ) (s : SCState σ) (hpos : 0 < totalRate P s) :
    sumRat ((rateList P s).map fun x => x / totalRate P s) = 1 := by
  have : (fun x : Rat => x / totalRate P s) = fun x => id x * (totalRate P s)⁻¹ := by
    funext x; simp [div_eq_mul_inv]
  rw [this, sumRat_map_mul_right, List.map_id]
  change totalRate P s * (totalRate P s)⁻¹ = 1
  field_simp

omit [DecidableEq σ] in
/-- the probability `idxDist` gives index `i` is the length of the `i`-th cumulative-share interval, i.e.
(`idx_law_exact`) of the set of uniform draws for which `pickIdx` returns `i` -/
theorem share_is_interval_length (P : SCParams σ) (s : SCState σ) (i : Nat) :
    sumRat (((rateList P s).map fun x => x / totalRate P s).take (i + 1)) -
      sumRat (((rateList P s).map fun x => x / totalRate P s).take i) =
      (rateList P s).getD i 0 / totalRate P s := by
  generalize rateList P s = l
  induction l generalizing i with
  | nil => simp
  | cons a t ih =>
    cases i with
    | zero => simp
    | succ i =>
      simp only [List.map_cons, List.take_succ_cons, sumRat_cons, List.getD_cons_succ]
      rw [← ih i]; ring

/-- **the index law is exact**: under `WF`/`Inv`, while the loop runs, the model's cumulative-share loop answers `i` on
the draw `r ∈ [0, 1)` **iff** `r` lies in the `i`-th cumulative-share interval — whose length is the weight
`idxDist` gives `i` (`share_is_interval_length`); so for a uniform `r` the index has law `idxDist` -/
theorem idx_law_exact (P : SCParams σ) (h : WF P) (s : SCState σ) (hs : Inv P s) (hpos : 0 < totalRate P s)
    (r : Rat) (h0 : 0 ≤ r) (h1 : r < 1) (i : Nat) :
    pickIdx ((rateList P s).map fun x => x / totalRate P s) r = i ↔
      (i < (rateList P s).length ∧
        sumRat (((rateList P s).map fun x => x / totalRate P s).take i) ≤ r ∧
        r < sumRat (((rateList P s).map fun x => x / totalRate P s).take (i + 1))) := by
  have hn : ∀ x ∈ (rateList P s).map (fun x => x / totalRate P s), 0 ≤ x := by
    intro x hx
    obtain ⟨y, hy, rfl⟩ := List.mem_map.1 hx
    exact div_nonneg (rateList_nonneg P h s hs y hy) (le_of_lt hpos)
  have := pickIdx_eq_iff _ hn r h0 (by rw [shares_sum_one P s hpos]; exact h1) i
  rw [List.length_map] at this
  exact this

/-- **one-step jump law** (transition by cumulative share, then actor by the list's sampler): an enabled event is
selected with probability `evRate / specTotal` × the acceptance factor of its list; any other event never -/
theorem jump_law (P : SCParams σ) (h : WF P) (s : SCState σ) (hs : Inv P s) (e : SCEvent) (k : Nat)
    (hk : 0 < k) :
    Dist.mass (pickDist P s k) (fun o => o == some e) =
      if Enabled s e then Spec.evRate P e / specTotal P s.status * stepFactor s k e else 0 := by
  by_cases he : Enabled s e
  · rw [if_pos he]; exact jump_law_event P h s hs e he k hk
  · rw [if_neg he]; exact jump_law_support P s k e he

/-! #### histories -/

/-- **trajectory law**: for every history, length `n` and budget `k ≥ 1`, the model produces the history with the
probability the jump chain of the specification gives it, times `Π_i c_i` — the probability that none of the
rejection samplers of the (weighted) lists used ran out of rounds -/
theorem traj_law (P : SCParams σ) (h : WF P) (k : Nat) (hk : 0 < k) (n : Nat) (s : SCState σ) (hs : Inv P s)
    (hist : List (SCEvent × Rat)) :
    Dist.mass (trajDist P k n s) (fun x => x == hist) =
      Dist.mass (Spec.jumpDist P n s.status) (fun x => x == hist) * accProd P k s hist :=
  Simple.traj_law P h k hk n s hs hist

/-- no `get_weight` labels at all: the model's law of histories *is* the jump chain's -/
theorem traj_law_unweighted (P : SCParams σ) (h : WF P) (k : Nat) (hk : 0 < k) (n : Nat) (s : SCState σ)
    (hs : Inv P s) (hS : ∀ tr ∈ P.spont, tr.w = none) (hI : ∀ tr ∈ P.ind, tr.w = none)
    (hist : List (SCEvent × Rat)) :
    Dist.mass (trajDist P k n s) (fun x => x == hist) =
      Dist.mass (Spec.jumpDist P n s.status) (fun x => x == hist) := by
  rw [traj_law P h k hk n s hs hist, accProd_unweighted P h k s hs hS hI hist, mul_one]

theorem accProd_unit (P : SCParams σ) (h : WF P) (k : Nat) (s : SCState σ) (hs : Inv P s)
    (hist : List (SCEvent × Rat)) : 0 ≤ accProd P k s hist ∧ accProd P k s hist ≤ 1 := by
  rw [accProd_eq]
  exact ⟨(TrajLaw.accProd_bounds (sim P h) k s hs hist).1, (TrajLaw.accProd_bounds (sim P h) k s hs hist).2.1⟩

theorem jump_mass_nonneg (P : SCParams σ) (h : WF P) (n : Nat) (st : Node → σ)
    (Q : List (SCEvent × Rat) → Bool) : 0 ≤ Dist.mass (Spec.jumpDist P n st) Q := by
  rw [jumpDist_eq]
  exact Dist.mass_nonneg _ ((chain P).jump_nonneg (chain_wf P h) n st) Q

/-- the model never over-weights a history -/
theorem traj_law_le (P : SCParams σ) (h : WF P) (k : Nat) (hk : 0 < k) (n : Nat) (s : SCState σ) (hs : Inv P s)
    (hist : List (SCEvent × Rat)) :
    Dist.mass (trajDist P k n s) (fun x => x == hist) ≤
      Dist.mass (Spec.jumpDist P n s.status) (fun x => x == hist) := by
  rw [trajDist_eq, jumpDist_eq]
  exact TrajLaw.traj_law_le (sim P h) k hk n s hs hist

/-- … and under-weights it by at most the relative defect `Σ_i ρ_i^k` (union bound) -/
theorem traj_law_ge (P : SCParams σ) (h : WF P) (k : Nat) (hk : 0 < k) (n : Nat) (s : SCState σ) (hs : Inv P s)
    (hist : List (SCEvent × Rat)) :
    Dist.mass (Spec.jumpDist P n s.status) (fun x => x == hist) * (1 - defectSum P k s hist) ≤
      Dist.mass (trajDist P k n s) (fun x => x == hist) := by
  rw [trajDist_eq, jumpDist_eq, defectSum_eq]
  exact TrajLaw.traj_law_ge (sim P h) k hk n s hs hist

/-- the jump chain's law is a probability distribution (total mass 1), whatever the parameters -/
theorem jump_total (P : SCParams σ) (n : Nat) (st : Node → σ) :
    Dist.mass (Spec.jumpDist P n st) (fun _ => true) = 1 := by
  rw [jumpDist_eq]
  exact (chain P).jump_total n st

/-- **support of the chain**: a history of positive mass is a legal path — each event is an enabled transition of the
specification, of positive rate, in the status reached by `Spec.apply` of its predecessors, and the recorded rate is
the total rate there —, has at most `n` events, fewer only if absorbed -/
theorem jump_support (P : SCParams σ) (h : WF P) (n : Nat) (st : Node → σ) (hist : List (SCEvent × Rat))
    (hm : Dist.mass (Spec.jumpDist P n st) (fun x => x == hist) ≠ 0) :
    Spec.Legal P st hist ∧ hist.length ≤ n ∧
      (hist.length < n → specTotal P (Spec.applyHist P st hist) = 0) := by
  rw [jumpDist_eq] at hm
  obtain ⟨hl, h2, h3⟩ := (chain P).jump_support (chain_wf P h) n st hist hm
  rw [← spec_applyHist_eq, chain_total] at h3
  exact ⟨(legal_iff P st hist).2 hl, h2, h3⟩

/-- **the defect vanishes as `k → ∞`**: for every history and `ε > 0` there is a budget `K` from which on the model's
mass of the history is within `ε` below the chain's (never above: `traj_law_le`) -/
theorem traj_law_limit (P : SCParams σ) (h : WF P) (n : Nat) (s : SCState σ) (hs : Inv P s)
    (hist : List (SCEvent × Rat)) (ε : Rat) (hε : 0 < ε) :
    ∃ K : Nat, ∀ k, K ≤ k →
      Dist.mass (Spec.jumpDist P n s.status) (fun x => x == hist) - ε ≤
        Dist.mass (trajDist P k n s) (fun x => x == hist) := by
  simpa only [trajDist_eq, jumpDist_eq] using TrajLaw.traj_law_limit (sim P h) n s hs hist ε hε

/-- **support**: a history the model produces with positive probability has positive mass in the chain, hence is a
legal path of it (`jump_support`) -/
theorem traj_support (P : SCParams σ) (h : WF P) (k : Nat) (hk : 0 < k) (n : Nat) (s : SCState σ) (hs : Inv P s)
    (hist : List (SCEvent × Rat)) (hm : Dist.mass (trajDist P k n s) (fun x => x == hist) ≠ 0) :
    Spec.Legal P s.status hist ∧ hist.length ≤ n ∧
      (hist.length < n → specTotal P (Spec.applyHist P s.status hist) = 0) := by
  rw [traj_law P h k hk n s hs hist] at hm
  exact jump_support P h n s.status hist (left_ne_zero_of_mul hm)

/-- along a legal path of the chain the model never raises KeyError, keeps its invariant, and its status is the
chain's -/
theorem legal_status (P : SCParams σ) (h : WF P) (s : SCState σ) (hs : Inv P s) (hist : List (SCEvent × Rat))
    (hl : Spec.Legal P s.status hist) :
    ∃ s', applyHist P s hist = some s' ∧ Inv P s' ∧ s'.status = Spec.applyHist P s.status hist := by
  rw [legal_iff] at hl
  rw [applyHist_eq, spec_applyHist_eq]
  exact TrajLaw.legal_applyHist (sim P h) s hs hist hl

/-- **status along a history**: after every prefix of a positive-probability history the model is in a state (no
KeyError) that satisfies `Inv` and whose status is the iterated `Spec.apply` -/
theorem traj_status (P : SCParams σ) (h : WF P) (k : Nat) (hk : 0 < k) (n : Nat) (s : SCState σ) (hs : Inv P s)
    (hist : List (SCEvent × Rat)) (hm : Dist.mass (trajDist P k n s) (fun x => x == hist) ≠ 0)
    (h1 h2 : List (SCEvent × Rat)) (hsplit : hist = h1 ++ h2) :
    ∃ s', applyHist P s h1 = some s' ∧ Inv P s' ∧ s'.status = Spec.applyHist P s.status h1 := by
  have hl := (traj_support P h k hk n s hs hist hm).1
  rw [hsplit, legal_iff] at hl
  exact legal_status P h s hs h1 ((legal_iff P _ h1).2 ((chain P).legal_prefix _ h1 h2 hl))

/-- the recorded event time does not influence what `applyEvent` does to the rest of the state -/
theorem applyEvent_time (P : SCParams σ) (s : SCState σ) (e : SCEvent) (t t' : Rat) :
    match applyEvent P s e t, applyEvent P s e t' with
    | some a, some b => Core a b
    | none, none => True
    | _, _ => False :=
  applyEvent_coreT P s s (core_refl s) e t t'

/-- **times do not influence event selection** -/
theorem traj_time_irrelevant (P : SCParams σ) (k : Nat) (ts : List Rat) (s : SCState σ) :
    trajDistT P k ts s = trajDist P k ts.length s :=
  trajDistT_eq' P k ts s s (core_refl s)

theorem traj_law_init (P : SCParams σ) (h : WF P) (ic : Node → σ) (tmin : Rat) (k : Nat) (hk : 0 < k) (n : Nat)
    (hist : List (SCEvent × Rat)) :
    ∃ s, init P ic tmin = some s ∧
      Dist.mass (trajDist P k n s) (fun x => x == hist) =
        Dist.mass (Spec.jumpDist P n ic) (fun x => x == hist) * accProd P k s hist := by
  obtain ⟨s, h1, h2, h3⟩ := init_inv' P h ic tmin
  exact ⟨s, h1, by rw [traj_law P h k hk n s h2 hist, h3]⟩

end SimpleTraj

/-! ### non-vacuity

(1) The unweighted SIR specification `P3` of `Props/C03` on the path 0 – 1 – 2 (recovery rate 1 = transition 0,
transmission rate 2 = transition 1), node 0 infected.  Events: `⟨0,[0]⟩` rate 1, `⟨1,[0,1]⟩` rate 2, total 3; after
the transmission `0 → 1`: `⟨0,[0]⟩`, `⟨0,[1]⟩` rate 1 each, `⟨1,[1,2]⟩` rate 2, total 4.  History
`[(⟨1,[0,1]⟩, 3), (⟨1,[1,2]⟩, 4)]`: chain mass `2/3 · 2/4 = 1/3`, and the model's mass is the same (no weights).

(2) The same with weights (`P3w`): node weight `u + 1` on the recovery, edge weight 3 on `{0,1}` and 1 on `{1,2}` on
the transmission.  Rates: `⟨0,[0]⟩` 1, `⟨1,[0,1]⟩` 6, total 7; after `0 → 1`: `⟨0,[0]⟩` 1, `⟨0,[1]⟩` 2, `⟨1,[1,2]⟩` 2,
total 5.  History `[(⟨1,[0,1]⟩, 7), (⟨0,[1]⟩, 5)]`: chain mass `6/7 · 2/5 = 12/35`; `ρ₁ = 0` (one candidate pair),
`ρ₂ = 1 - 3/(2·2) = 1/4` (weights 1, 2), so the model's mass is `12/35 · (1 - 4^{-k})`. -/

open Simple

def exH3 : List (SCEvent × Rat) := [(⟨1, [0, 1]⟩, 3), (⟨1, [1, 2]⟩, 4)]

example : Spec.events P3 ic3 = [⟨0, [0]⟩, ⟨1, [0, 1]⟩] := by decide +kernel
example : Dist.mass (Spec.jumpDist P3 2 ic3) (fun x => x == exH3) = 1 / 3 := by decide +kernel
example : (init P3 ic3 0).map (fun s => Dist.mass (trajDist P3 1 2 s) (fun x => x == exH3)) = some (1 / 3) := by
  decide +kernel
example : (init P3 ic3 0).map (fun s => Dist.mass (trajDist P3 2 2 s) (fun x => x == exH3)) = some (1 / 3) := by
  decide +kernel
example : Dist.mass (Spec.jumpDist P3 2 ic3) (fun _ => true) = 1 := by decide +kernel

def P3w : SCParams String :=
  { P3 with
    spont := [{ src := "I", dst := "R", rate := 1, w := some fun u => (u : Rat) + 1 }],
    ind := [{ a := "I", b := "S", c := "I", rate := 2, w := some fun u v => if u + v = 1 then 3 else 1 }] }

def exH3w : List (SCEvent × Rat) := [(⟨1, [0, 1]⟩, 7), (⟨0, [1]⟩, 5)]

example : Dist.mass (Spec.jumpDist P3w 2 ic3) (fun x => x == exH3w) = 12 / 35 := by decide +kernel
example : (init P3w ic3 0).map (fun s => accProd P3w 2 s exH3w) = some (15 / 16) := by decide +kernel
example : (init P3w ic3 0).map (fun s => Dist.mass (trajDist P3w 1 2 s) (fun x => x == exH3w))
    = some (12 / 35 * (1 - (1/4)^1)) := by decide +kernel
example : (init P3w ic3 0).map (fun s => Dist.mass (trajDist P3w 2 2 s) (fun x => x == exH3w))
    = some (12 / 35 * (1 - (1/4)^2)) := by decide +kernel
example : (init P3w ic3 0).map (fun s => Dist.mass (trajDist P3w 3 2 s) (fun x => x == exH3w))
    = some (12 / 35 * (1 - (1/4)^3)) := by decide +kernel
/-- a wrong recorded rate, an event that is not enabled (node 2 cannot be infected before node 1), or an ill-formed
event has mass 0 in both laws -/
example : (init P3w ic3 0).map (fun s =>
      (Dist.mass (trajDist P3w 2 2 s) (fun x => x == [(⟨1, [0, 1]⟩, 7), (⟨0, [1]⟩, 4)]),
       Dist.mass (trajDist P3w 2 2 s) (fun x => x == [(⟨1, [1, 2]⟩, 7), (⟨0, [1]⟩, 5)]),
       Dist.mass (trajDist P3w 2 2 s) (fun x => x == [(⟨7, [0]⟩, 7)])))
    = some (0, 0, 0) := by decide +kernel
example : (Dist.mass (Spec.jumpDist P3w 2 ic3) (fun x => x == [(⟨1, [0, 1]⟩, 7), (⟨0, [1]⟩, 4)]),
           Dist.mass (Spec.jumpDist P3w 2 ic3) (fun x => x == [(⟨1, [1, 2]⟩, 7), (⟨0, [1]⟩, 5)]),
           Dist.mass (Spec.jumpDist P3w 2 ic3) (fun x => x == [(⟨7, [0]⟩, 7)])) = (0, 0, 0) := by decide +kernel
example : Dist.mass (Spec.jumpDist P3w 2 ic3) (fun _ => true) = 1 := by decide +kernel

/-- the hypotheses are satisfiable for the weighted specification too -/
theorem P3w_wf : Simple.WF P3w where
  nodup := P3_wf.nodup
  succ_nodup := P3_wf.succ_nodup
  succ_mem := P3_wf.succ_mem
  succ_out := P3_wf.succ_out
  pred_nodup := P3_wf.pred_nodup
  pred_iff := P3_wf.pred_iff
  undirected_symm := P3_wf.undirected_symm
  noloop := P3_wf.noloop
  wS_nonneg := by
    intro tr htr f hf u
    have : tr = { src := "I", dst := "R", rate := 1, w := some fun u => (u : Rat) + 1 } := by
      simpa [P3w] using htr
    rw [this] at hf
    obtain rfl : (fun u : Node => (u : Rat) + 1) = f := Option.some.inj hf
    have : (0 : Rat) ≤ (u : Rat) := Nat.cast_nonneg u
    dsimp only; linarith
  wI_nonneg := by
    intro tr htr f hf u v
    have : tr = { a := "I", b := "S", c := "I", rate := 2, w := some fun u v => if u + v = 1 then 3 else 1 } := by
      simpa [P3w] using htr
    rw [this] at hf
    obtain rfl : (fun u v : Node => if u + v = 1 then (3 : Rat) else 1) = f := Option.some.inj hf
    dsimp only; split <;> decide +kernel
  rate_nonneg := by
    constructor
    · intro tr htr
      have : tr = { src := "I", dst := "R", rate := 1, w := some fun u => (u : Rat) + 1 } := by
        simpa [P3w] using htr
      rw [this]; decide +kernel
    · intro tr htr
      have : tr = { a := "I", b := "S", c := "I", rate := 2, w := some fun u v => if u + v = 1 then 3 else 1 } := by
        simpa [P3w] using htr
      rw [this]; decide +kernel

/-- the general theorem, instantiated, gives for **every** budget `k ≥ 1` the value the direct computations above give
for `k = 1, 2, 3` -/
example (k : Nat) (hk : 0 < k) :
    ∃ s, init P3w ic3 0 = some s ∧
      Dist.mass (trajDist P3w k 2 s) (fun x => x == exH3w) = 12 / 35 * accProd P3w k s exH3w := by
  obtain ⟨s, h1, h2⟩ := SimpleTraj.traj_law_init P3w P3w_wf ic3 0 k hk 2 exH3w
  refine ⟨s, h1, ?_⟩
  rw [h2]
  congr 1
  decide +kernel

example (k : Nat) (hk : 0 < k) :
    ∃ s, init P3 ic3 0 = some s ∧ Dist.mass (trajDist P3 k 2 s) (fun x => x == exH3) = 1 / 3 := by
  obtain ⟨s, h1, h2, h3⟩ := init_inv' P3 P3_wf ic3 0
  refine ⟨s, h1, ?_⟩
  rw [SimpleTraj.traj_law_unweighted P3 P3_wf k hk 2 s h2 (by decide) (by decide) exH3, h3]
  decide +kernel
