import EoNVerif.Props.C01
import EoNVerif.Proofs.GillespieTraj
/-!
C01g — **the induction over events**: the one-step jump law of `Gillespie_SIR` / `Gillespie_SIS` (`Props/C01`,
`Props/C02`) lifted to the law of whole finite histories.  (`P.sis` selects the variant; every theorem is for both;
the SIS instances are at the end.)

Definitions (in `Proofs/GillespieTraj.lean`, restated here in words):

* `Gillespie.trajDist P k n s : Dist (List (GEvent × Rat))` — law of the first `n` events of the model's loop
  started in `s`, each event recorded with the rate of the `expovariate` draw made in the state it was selected in.
  Stop test = the loop's (`Gillespie.halted`: `infecteds` empty, or next event time `inf` i.e. `total_rate > 0`
  fails; no time horizon, `tmax = ∞`); selection = `Gillespie.pickDist P s k`; continuation from `applyEvent`.
  Three points where this law follows the model and not the naive reading of the loop: (1) "sampler budget exhausted" (`none`) is an *error* of the
  tape model (`chooseTM … 0 = fail "fuel"`), not a stop, so it contributes no history: `trajDist` is a
  sub-distribution (had it ended the history with `[]`, the mass of the truncated history would be polluted by
  unfinished runs and `traj_law_weighted` / `traj_law_le` would be false); same for `applyEvent = none` (KeyError), which is unreachable
  (`traj_status`).  (2) the loop does not test `total_rate = 0`: it tests `halted`; under `WF`/`Inv` the two agree
  (`halt_iff_absorbing`), so `recThr`'s division by zero is never evaluated.  (3) `applyEvent` takes the event
  time; it is only recorded (`times`, `log`), `trajDist` passes `0` and `traj_time_irrelevant` shows any other
  supply of times gives the same law.
* `Chain.jumpDist P n st` — first `n` jumps of the specification CTMC (`Spec/Chain.lean` for the rates and enabled sets; `jumpDist`,
  `Legal`, `applyHist` in `Proofs/GillespieTraj.lean`, `Chain.rate` in `Proofs/Gillespie.lean`): absorbing status ⇒ `[]`,
  else enabled event `e` w.p. `Chain.rate P e / Chain.totalRate P st`, record `(e, totalRate)`, continue from
  `Chain.apply P st e`.
* `Gillespie.accProd P k s h` = `Π_i c_i`, `c_i = 1 - ρ_i^k` (`Gillespie.stepFactor`) the acceptance factor of the
  candidate structure used by the `i`-th event in the state reached after `i-1` events (`1` if it is unweighted);
  `Gillespie.defectSum P k s h` = `Σ_i ρ_i^k`.
* `Chain.Legal P st h` — `h` is a path of the chain from `st`; `Chain.applyHist`, `Gillespie.applyHist` — status /
  model state after a history.

The theorems of this file are in namespace `GillespieTraj` (not the namespace of `Proofs/GillespieTraj.lean`, which is
`Gillespie`).
-/
namespace GillespieTraj
open Gillespie

/-- the loop's stop test is, under the invariant, "the chain is absorbed" (total rate 0) -/
theorem halt_iff_absorbing (P : GParams) (h : WF P) (s : GState) (hs : Inv P s) :
    halted P s ↔ Chain.totalRate P s.status = 0 :=
  halted_iff P h s hs

/-- `trajDist` mirrors `Gillespie.loop` (no time horizon, next-event time computed as `loop`/`run` do from the
current total rate): on `halted` the tape loop returns the current state … -/
theorem loop_stops (P : GParams) (cfuel fuel : Nat) (s : GState) (tv : Rat) (hh : halted P s) :
    loop P none cfuel (fuel + 1) s (if totalRate P s > 0 then some tv else none) = pure s := by
  by_cases hp : totalRate P s > 0
  · rw [if_pos hp, loop]
    have : s.inf.items.isEmpty = true := by
      rcases hh with h | h
      · exact h
      · exact absurd hp h
    simp [this]
  · rw [if_neg hp, loop]

/-- … and otherwise it selects an event with `pick` (whose law is `pickDist`) in `s`, applies it, and draws the next
holding time with the total rate of the new state -/
theorem loop_continues (P : GParams) (cfuel fuel : Nat) (s : GState) (tv : Rat) (hh : ¬ halted P s) :
    loop P none cfuel (fuel + 1) s (if totalRate P s > 0 then some tv else none) =
      (do
        let e ← pick P s cfuel
        match applyEvent P s e tv with
        | none => TM.fail "KeyError"
        | some s' =>
          let tot := totalRate P s'
          if tot > 0 then do
            let d ← TM.popExpo tot
            loop P none cfuel fuel s' (some (tv + d))
          else loop P none cfuel fuel s' none) := by
  have hp : totalRate P s > 0 := pos_of_not_halted P s hh
  have he : ¬ (s.inf.items.isEmpty = true) := fun h => hh (Or.inl h)
  rw [if_pos hp, loop, if_neg (by simp [he, ERat.lt])]
  rfl

/-- **trajectory law, general (weighted) case**: for every history `h = [(e₁,r₁),…,(e_m,r_m)]`, every length `n`
and every budget `k ≥ 1` of rejection rounds, the model produces `h` with the probability the jump chain gives it,
times `Π_i (1 - ρ_i^k)` — the probability that none of the `m` rejection samplers ran out of rounds -/
theorem traj_law_weighted (P : GParams) (h : WF P) (k : Nat) (hk : 0 < k) (n : Nat) (s : GState) (hs : Inv P s)
    (hist : List (GEvent × Rat)) :
    Dist.mass (trajDist P k n s) (fun x => x == hist) =
      Dist.mass (Chain.jumpDist P n s.status) (fun x => x == hist) * accProd P k s hist :=
  traj_law P h k hk n s hs hist

/-- **trajectory law, unweighted case** (`P.nw = none`, `P.ew = none`; equivalently, under `Inv`, neither candidate
structure is weighted — no rejection sampling): the model's law of histories *is* the jump chain's -/
theorem traj_law_unweighted (P : GParams) (h : WF P) (k : Nat) (hk : 0 < k) (n : Nat) (s : GState) (hs : Inv P s)
    (hinf : s.inf.weighted = false) (hlinks : s.links.weighted = false) (hist : List (GEvent × Rat)) :
    Dist.mass (trajDist P k n s) (fun x => x == hist) =
      Dist.mass (Chain.jumpDist P n s.status) (fun x => x == hist) := by
  rw [traj_law P h k hk n s hs hist, accProd_unweighted P h k s hs hinf hlinks hist, mul_one]

theorem traj_law_unweighted' (P : GParams) (h : WF P) (k : Nat) (hk : 0 < k) (n : Nat) (s : GState) (hs : Inv P s)
    (hnw : P.nw = none) (hew : P.ew = none) (hist : List (GEvent × Rat)) :
    Dist.mass (trajDist P k n s) (fun x => x == hist) =
      Dist.mass (Chain.jumpDist P n s.status) (fun x => x == hist) :=
  traj_law_unweighted P h k hk n s hs (by rw [hs.infW, hnw]; rfl) (by rw [hs.linkW, hew]; rfl) hist

/-- the acceptance product is a probability -/
theorem accProd_unit (P : GParams) (h : WF P) (k : Nat) (s : GState) (hs : Inv P s) (hist : List (GEvent × Rat)) :
    0 ≤ accProd P k s hist ∧ accProd P k s hist ≤ 1 := by
  rw [accProd_eq]
  exact ⟨(TrajLaw.accProd_bounds (sim P h) k s hs hist).1, (TrajLaw.accProd_bounds (sim P h) k s hs hist).2.1⟩

theorem jump_mass_nonneg (P : GParams) (h : WF P) (n : Nat) (st : Node → St) (Q : List (GEvent × Rat) → Bool) :
    0 ≤ Dist.mass (Chain.jumpDist P n st) Q := by
  rw [jumpDist_eq]
  exact Dist.mass_nonneg _ ((chain P).jump_nonneg (chain_wf P h) n st) Q

/-- the model never over-weights a history -/
theorem traj_law_le (P : GParams) (h : WF P) (k : Nat) (hk : 0 < k) (n : Nat) (s : GState) (hs : Inv P s)
    (hist : List (GEvent × Rat)) :
    Dist.mass (trajDist P k n s) (fun x => x == hist) ≤
      Dist.mass (Chain.jumpDist P n s.status) (fun x => x == hist) := by
  rw [trajDist_eq, jumpDist_eq]
  exact TrajLaw.traj_law_le (sim P h) k hk n s hs hist

/-- … and under-weights it by at most the relative defect `Σ_i ρ_i^k` (union bound over the `m` samplers) -/
theorem traj_law_ge (P : GParams) (h : WF P) (k : Nat) (hk : 0 < k) (n : Nat) (s : GState) (hs : Inv P s)
    (hist : List (GEvent × Rat)) :
    Dist.mass (Chain.jumpDist P n s.status) (fun x => x == hist) * (1 - defectSum P k s hist) ≤
      Dist.mass (trajDist P k n s) (fun x => x == hist) := by
  rw [trajDist_eq, jumpDist_eq, defectSum_eq]
  exact TrajLaw.traj_law_ge (sim P h) k hk n s hs hist

/-- the jump chain's law is a probability distribution (total mass 1), whatever the network -/
theorem jump_total (P : GParams) (n : Nat) (st : Node → St) :
    Dist.mass (Chain.jumpDist P n st) (fun _ => true) = 1 := by
  rw [jumpDist_eq]
  exact (chain P).jump_total n st

/-- **the defect vanishes as `k → ∞`** (stated without analysis): for every history and every `ε > 0` there is a
budget `K` of rejection rounds from which on the model's mass of the history is within `ε` below the chain's
(it is never above: `traj_law_le`).  Uses `ρ_i < 1` (C16 `ld_rej_lt_one`) at every step of a path of positive
chain mass. -/
theorem traj_law_limit (P : GParams) (h : WF P) (n : Nat) (s : GState) (hs : Inv P s)
    (hist : List (GEvent × Rat)) (ε : Rat) (hε : 0 < ε) :
    ∃ K : Nat, ∀ k, K ≤ k →
      Dist.mass (Chain.jumpDist P n s.status) (fun x => x == hist) - ε ≤
        Dist.mass (trajDist P k n s) (fun x => x == hist) := by
  simpa only [trajDist_eq, jumpDist_eq] using TrajLaw.traj_law_limit (sim P h) n s hs hist ε hε

/-- **support**: a history the model produces with positive probability is a legal path of the chain — each `e_i`
is enabled in the status reached by `Chain.apply` of its predecessors and `r_i` (the rate of the `Exp` holding-time
draw) is the chain's total rate in that status —, has at most `n` events, and fewer only if the chain is absorbed -/
theorem traj_support (P : GParams) (h : WF P) (k : Nat) (hk : 0 < k) (n : Nat) (s : GState) (hs : Inv P s)
    (hist : List (GEvent × Rat)) (hm : Dist.mass (trajDist P k n s) (fun x => x == hist) ≠ 0) :
    Chain.Legal P s.status hist ∧ hist.length ≤ n ∧
      (hist.length < n → Chain.totalRate P (Chain.applyHist P s.status hist) = 0) := by
  rw [trajDist_eq] at hm
  obtain ⟨hl, h2, h3⟩ := TrajLaw.traj_support (sim P h) k hk n s hs hist hm
  rw [← chain_applyHist_eq, chain_total] at h3
  exact ⟨((legal_iff P h _ hist).1 hl).1, h2, h3⟩

/-- **status along a history**: after every prefix of a positive-probability history the model is in a state
(no KeyError) that satisfies `Inv` and whose status is the iterated `Chain.apply` -/
theorem traj_status (P : GParams) (h : WF P) (k : Nat) (hk : 0 < k) (n : Nat) (s : GState) (hs : Inv P s)
    (hist : List (GEvent × Rat)) (hm : Dist.mass (trajDist P k n s) (fun x => x == hist) ≠ 0)
    (h1 h2 : List (GEvent × Rat)) (hsplit : hist = h1 ++ h2) :
    ∃ s', applyHist P s h1 = some s' ∧ Inv P s' ∧ s'.status = Chain.applyHist P s.status h1 := by
  have hl := (TrajLaw.traj_support (sim P h) k hk n s hs hist (by rwa [trajDist_eq] at hm)).1
  rw [hsplit] at hl
  exact legal_applyHist P h s hs h1 ((legal_iff P h _ h1).1 ((chain P).legal_prefix _ h1 h2 hl)).1

/-- the same for legal paths of the chain, whether or not `n` and `k` let the model reach them -/
theorem legal_status (P : GParams) (h : WF P) (s : GState) (hs : Inv P s) (hist : List (GEvent × Rat))
    (hl : Chain.Legal P s.status hist) :
    ∃ s', applyHist P s hist = some s' ∧ Inv P s' ∧ s'.status = Chain.applyHist P s.status hist :=
  legal_applyHist P h s hs hist hl

/-- the recorded event time does not influence what `applyEvent` does to the rest of the state -/
theorem applyEvent_time (P : GParams) (s : GState) (e : GEvent) (t t' : Rat) :
    match applyEvent P s e t, applyEvent P s e t' with
    | some a, some b => Core a b
    | none, none => True
    | _, _ => False :=
  applyEvent_core P s s (core_refl s) e t t'

/-- **times do not influence event selection**: whatever event times are recorded (`ts`, one per event), the law
of the first `ts.length` events is `trajDist` -/
theorem traj_time_irrelevant (P : GParams) (k : Nat) (ts : List Rat) (s : GState) :
    trajDistT P k ts s = trajDist P k ts.length s :=
  trajDistT_eq' P k ts s s (core_refl s)

/-! ### SIS instances (`Gillespie_SIS`, C02) -/

theorem gSIS_traj_law (P : GParams) (_hsis : P.sis = true) (h : WF P) (k : Nat) (hk : 0 < k) (n : Nat)
    (s : GState) (hs : Inv P s) (hist : List (GEvent × Rat)) :
    Dist.mass (trajDist P k n s) (fun x => x == hist) =
      Dist.mass (Chain.jumpDist P n s.status) (fun x => x == hist) * accProd P k s hist :=
  traj_law P h k hk n s hs hist

theorem gSIS_traj_law_unweighted (P : GParams) (_hsis : P.sis = true) (h : WF P) (k : Nat) (hk : 0 < k) (n : Nat)
    (s : GState) (hs : Inv P s) (hnw : P.nw = none) (hew : P.ew = none) (hist : List (GEvent × Rat)) :
    Dist.mass (trajDist P k n s) (fun x => x == hist) =
      Dist.mass (Chain.jumpDist P n s.status) (fun x => x == hist) :=
  traj_law_unweighted' P h k hk n s hs hnw hew hist

/-- SIS: along a positive-probability history a recovering node returns to `S` and no node is ever `R` -/
theorem gSIS_traj_status (P : GParams) (hsis : P.sis = true) (h : WF P) (k : Nat) (hk : 0 < k) (n : Nat)
    (s : GState) (hs : Inv P s) (hist : List (GEvent × Rat))
    (hm : Dist.mass (trajDist P k n s) (fun x => x == hist) ≠ 0) :
    Chain.Legal P s.status hist ∧
      ∃ s', applyHist P s hist = some s' ∧ Inv P s' ∧ s'.status = Chain.applyHist P s.status hist ∧
        ∀ u, s'.status u ≠ St.R := by
  obtain ⟨s', a1, a2, a3⟩ := traj_status P h k hk n s hs hist hm hist [] (by simp)
  exact ⟨(traj_support P h k hk n s hs hist hm).1, s', a1, a2, a3, a2.sis_noR hsis⟩

end GillespieTraj

/-! ### non-vacuity

The weighted 4-node path `exP` of `Props/C01` (γ = 1, τ = 2, node weights `u+1`, edge weights 2, 2, ½), infecteds
`[1,3]`, recovered `[0]`.  Rates: recover 1: 2, recover 3: 4, transmit (1,2): 1, transmit (3,2): 4; total 11.
After `recover 1`: recover 3: 4, transmit (3,2): 4; total 8.  History `[(recover 1, 11), (transmit 3 2, 8)]`:
chain mass `2/11 · 4/8 = 1/11`; `ρ₁ = 1 - 6/(2·4) = 1/4` (`infecteds`: weights 2, 4), `ρ₂ = 0` (`IS_links`: one
candidate), so the model's mass is `1/11 · (1 - 4^{-k})`. -/
open Gillespie

def exH : List (GEvent × Rat) := [(.recover 1, 11), (.transmit 3 2, 8)]

example : Dist.mass (Chain.jumpDist exP 2 (initStatus [1, 3] [0])) (fun x => x == exH) = 1 / 11 := by
  decide +kernel
example : (init exP [1, 3] [0] 0).map (fun s => accProd exP 2 s exH) = some (15 / 16) := by decide +kernel
example : (init exP [1, 3] [0] 0).map (fun s => Dist.mass (trajDist exP 1 2 s) (fun x => x == exH))
    = some (1 / 11 * (1 - (1/4)^1)) := by decide +kernel
example : (init exP [1, 3] [0] 0).map (fun s => Dist.mass (trajDist exP 2 2 s) (fun x => x == exH))
    = some (15 / 176) := by decide +kernel
example : (init exP [1, 3] [0] 0).map (fun s => Dist.mass (trajDist exP 3 2 s) (fun x => x == exH))
    = some (1 / 11 * (1 - (1/4)^3)) := by decide +kernel
/-- a history with a wrong recorded rate, or an event that is not enabled, has mass 0 in both laws -/
example : (init exP [1, 3] [0] 0).map (fun s =>
      (Dist.mass (trajDist exP 2 2 s) (fun x => x == [(.recover 1, 11), (.transmit 3 2, 7)]),
       Dist.mass (trajDist exP 2 2 s) (fun x => x == [(.recover 1, 11), (.transmit 1 2, 8)])))
    = some (0, 0) := by decide +kernel
example : Dist.mass (Chain.jumpDist exP 2 (initStatus [1, 3] [0])) (fun _ => true) = 1 := by decide +kernel

/-- the unweighted variant of the same network (no rejection sampling) and its SIS variant -/
def exPu : GParams := { exP with ew := none, nw := none }
def exPs : GParams := { exPu with sis := true }
def exHu : List (GEvent × Rat) := [(.recover 1, 6), (.transmit 3 2, 3)]
def exHs : List (GEvent × Rat) := [(.recover 1, 8), (.transmit 3 2, 3)]

example : Dist.mass (Chain.jumpDist exPu 2 (initStatus [1, 3] [0])) (fun x => x == exHu) = 1 / 9 := by
  decide +kernel
example : (init exPu [1, 3] [0] 0).map (fun s => Dist.mass (trajDist exPu 1 2 s) (fun x => x == exHu))
    = some (1 / 9) := by decide +kernel
example : Dist.mass (Chain.jumpDist exPs 2 (initStatus [1, 3] [])) (fun x => x == exHs) = 1 / 12 := by
  decide +kernel
example : (init exPs [1, 3] [] 0).map (fun s => Dist.mass (trajDist exPs 1 2 s) (fun x => x == exHs))
    = some (1 / 12) := by decide +kernel

/-- the hypotheses of the theorems are satisfiable: `exP` is well-formed (`exP_wf`), its initial state satisfies
`Inv`, and the general theorem, instantiated, gives for **every** budget `k ≥ 1`
the value the direct computations above give for `k = 1, 2, 3` -/
example (k : Nat) (hk : 0 < k) :
    ∃ s, init exP [1, 3] [0] 0 = some s ∧
      Dist.mass (trajDist exP k 2 s) (fun x => x == exH) = 1 / 11 * accProd exP k s exH := by
  obtain ⟨s, h1, h2, h3⟩ := init_inv exP exP_wf [1, 3] [0] 0 (by decide) (by decide) (by decide) (by decide)
    (by intro hc; exact absurd hc (by decide))
  refine ⟨s, h1, ?_⟩
  rw [GillespieTraj.traj_law_weighted exP exP_wf k hk 2 s h2 exH, h3]
  congr 1
  decide +kernel

