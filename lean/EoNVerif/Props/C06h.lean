import EoNVerif.Proofs.GenWrap3
import EoNVerif.Props.C06g
import EoNVerif.Props.C08c
/-!
C06h — the `*_from_graph` wrappers GENERATED into `Gen/WrapGen.lean`: `Attack_rate_discrete_from_graph`,
`Attack_rate_cts_time_from_graph`, `EBCM_discrete_from_graph` (argument records, exceptions, composition with the generated
`GenHelp` base functions through C08c), the `rho` / default request of `SIR_compact_effective_degree_from_graph` (record,
exceptions, total, end to end; explicit sets: C06j §1), full data of `SIR_compact_pairwise_from_graph`, and `ψ'(1) = 2|E|/N` for
the `rho` record of `EBCM_from_graph`.  Lemmas: `Proofs/GenWrap3.lean`.  Hypotheses, names, tags (A)–(D) and the index of all
wrappers: header of C06e.  From `Proofs/GenHelp.lean`: `thetaMap`, `omegaMap`, `psiHatAL`, `psiHatPAL`, `resolvePhiS0`; from C08c:
`effSk0`.
-/
namespace GenWrapProps3
open GenInit InitCond GenInitProofs GenWrap GenWrapProofs GenWrapProofs2 GenWrapProofs3 GenGlueProofs GenWrapProps
open GenWrapProps2
open GenHelpProofs (PkAL psiHatAL psiHatPAL thetaMap omegaMap resolvePhiS0 kAveAL)
open Gen PyGlue

/-! ## 0. the degree distribution and the susceptible fractions of the graph -/

/-- the graph's own `ψ̂(x) = Σ_k Pk[k]·Sk0[k]·x^k`, `Pk[k] = N_k/N`, `Sk0[k]` = susceptible fraction of degree class `k` -/
def psiHatG (adj : List (List Nat)) (st : Nat → St) : Rat → Rat :=
  psiHatV (PkAL (adj.map (·.length))) (Sk0G adj st)
/-- its derivative `Σ_{k>0} k·Pk[k]·Sk0[k]·x^(k-1)` -/
def psiHatPG (adj : List (List Nat)) (st : Nat → St) : Rat → Rat :=
  psiHatPV (PkAL (adj.map (·.length))) (Sk0G adj st)
/-- `phiS0` / `phiR0` of the graph: (number of ordered neighbour pairs (S,x)) / (degree sum of the susceptible nodes, 1
when that is 0) -/
def phiG (adj : List (List Nat)) (st : Nat → St) (x : St) : Rat :=
  (pairCount adj st St.S x : Rat) / (gI (degS adj st) : Rat)

/-- what the dict `Pk` and the array `Sk0` contain: keys of `Pk` = the degrees present, `Pk[k] = N_k/N`,
`Sk0[k] = (number of susceptible nodes of degree k)/N_k` for `k ≤ maxdeg` -/
theorem Pk_Sk0_graph (adj : List (List Nat)) (st : Nat → St) :
    (PkAL (adj.map (·.length))).map (·.1) = (adj.map (·.length)).eraseDups ∧
    (∀ k, alGet (PkAL (adj.map (·.length))) 0 k = (Nk adj k : Rat) / (adj.length : Rat)) ∧
    (Sk0G adj st).length = maxDeg adj + 1 ∧
    (∀ k, k ≤ maxDeg adj → (Sk0G adj st).getD k 0 = (classCount adj st St.S k : Rat) / (Nk adj k : Rat)) :=
  ⟨GenHelpProofs.PkAL_keys _, Pk_graph adj, vec_length _ _, Sk0G_getD adj st⟩

/-- **the link to C08c**: the graph's ψ̂, ψ̂' are the `psiHatAL`, `psiHatPAL` of C08c's statements
(`Proofs/GenHelp.lean`) for the dict the composed wrappers build from the array
(`alGet (vecToDict v) 0 k = v.getD k 0`) -/
theorem psiHatG_eq_AL (adj : List (List Nat)) (st : Nat → St) :
    psiHatG adj st = psiHatAL (PkAL (adj.map (·.length))) (PyWrap.vecToDict (Sk0G adj st)) ∧
    psiHatPG adj st = psiHatPAL (PkAL (adj.map (·.length))) (PyWrap.vecToDict (Sk0G adj st)) :=
  ⟨psiHatV_eq_AL _ _, psiHatPV_eq_PAL _ _⟩

theorem vecToDict_get (v : List Rat) (k : Nat) :
    alGet (PyWrap.vecToDict v) 0 k = v.getD k 0 ∧ alHas (PyWrap.vecToDict v) k = decide (k < v.length) :=
  ⟨alGet_vecToDict v k, alHas_vecToDict v k⟩

/-- `N·ψ̂(1)` is the number of susceptible nodes -/
theorem psiHatG_one (adj : List (List Nat)) (st : Nat → St) (hN : adj.length ≠ 0) :
    (adj.length : Rat) * psiHatG adj st 1 = (count adj st St.S : Rat) := psiHat_one adj st hN

theorem keys_in_Sk0G (adj : List (List Nat)) (st : Nat → St) :
    ∀ k ∈ (PkAL (adj.map (·.length))).map (·.1), alHas (PyWrap.vecToDict (Sk0G adj st)) k = true := by
  intro k hk
  rw [alHas_vecToDict, decide_eq_true_eq]
  have := Helpers.le_maxDeg _ k (keys_PkAL_mem _ k hk)
  show k < (vec _ _).length
  rw [vec_length]
  rw [GenWrapProofs4.maxDeg_eq]; omega

theorem phiOf_graph (A : WArgs) (adj : List (List Nat)) (hW : GraphOKW A adj) (st : Node → St) (x : St) :
    phiOf A st x = phiG adj st x := by
  unfold phiOf phiG
  rw [sumS_nb A adj hW, sumS_deg A adj hW.toGraphOK]

/-! ## 1. `Attack_rate_discrete_from_graph`, `Attack_rate_cts_time_from_graph`: the argument records -/

/-- (A) explicit disjoint sets of graph nodes: the dict `Pk` of the graph, `rho = None`, the ARRAY `Sk0` of susceptible
fractions per degree class, `phiS0 = SS/SX`, `phiR0 = SR/SX` -/
theorem Attack_rate_discrete_args_spec (A : WArgs) (adj : List (List Nat)) (hW : GraphOKW A adj) (p : Rat)
    (infs : List Node) (recs : Option (List Node)) (hS : SetsOK adj infs (recs.getD [])) (hN : adj.length ≠ 0) (n : Int) :
    Attack_rate_discrete_from_graph_args A p (some infs) recs none n =
      .ok { Pk := PkAL (adj.map (·.length)), p := p, rho := none,
            Sk0 := some (Sk0G adj (statusOf infs (recs.getD []))),
            phiS0 := some (phiG adj (statusOf infs (recs.getD [])) St.S),
            phiR0 := some (phiG adj (statusOf infs (recs.getD [])) St.R), number_its := n } := by
  have hG := hW.toGraphOK
  have hst := status_of_setsOK A adj hG hS
  rw [ARd_sets, hst, GenHelpProofs.ok_bind, if_neg (nodes_ne_nil A adj hG hN), phiOf_graph A adj hW, phiOf_graph A adj hW,
    Sk0fin_graph A adj hG, degs_eq A.toIArgs adj hG]

theorem Attack_rate_cts_time_args_spec (A : WArgs) (adj : List (List Nat)) (hW : GraphOKW A adj) (tau gamma : Rat)
    (infs : List Node) (recs : Option (List Node)) (hS : SetsOK adj infs (recs.getD [])) (hN : adj.length ≠ 0) (n : Int) :
    Attack_rate_cts_time_from_graph_args A tau gamma (some infs) recs none n =
      .ok { Pk := PkAL (adj.map (·.length)), tau := tau, gamma := gamma, number_its := n, rho := none,
            Sk0 := some (Sk0G adj (statusOf infs (recs.getD []))),
            phiS0 := some (phiG adj (statusOf infs (recs.getD [])) St.S),
            phiR0 := some (phiG adj (statusOf infs (recs.getD [])) St.R) } := by
  have hG := hW.toGraphOK
  have hst := status_of_setsOK A adj hG hS
  rw [ARc_sets, hst, GenHelpProofs.ok_bind, if_neg (nodes_ne_nil A adj hG hN), phiOf_graph A adj hW, phiOf_graph A adj hW,
    Sk0fin_graph A adj hG, degs_eq A.toIArgs adj hG]

/-- (A) without `initial_infecteds`: only `Pk` is read from the graph; `rho` is handed on AS GIVEN (`None` stays `None`:
these two wrappers have no default `rho = 1/N`), `Sk0 = phiS0 = None`, `phiR0 = 0`; an `initial_recovereds` given
without `rho` is ignored -/
theorem Attack_rate_args_rho (A : WArgs) (adj : List (List Nat)) (hG : GraphOK A.toIArgs adj) (p tau gamma : Rat)
    (recs : Option (List Node)) (rho : Option Rat) (hrr : ¬ (rho.isSome ∧ recs.isSome)) (n : Int) :
    Attack_rate_discrete_from_graph_args A p none recs rho n =
      .ok { Pk := PkAL (adj.map (·.length)), p := p, rho := rho, Sk0 := none, phiS0 := none, phiR0 := some 0,
            number_its := n } ∧
    Attack_rate_cts_time_from_graph_args A tau gamma none recs rho n =
      .ok { Pk := PkAL (adj.map (·.length)), tau := tau, gamma := gamma, number_its := n, rho := rho, Sk0 := none,
            phiS0 := none, phiR0 := some 0 } := by
  have := AR_none A p tau gamma recs rho hrr n
  rw [degs_eq A.toIArgs adj hG] at this
  exact this

/-- (B) the exceptions with the precedence of the generated code: `EoNError` for `rho` with a set; then the `EoNError`
of the status builder (overlap / node outside the graph); then ValueError (`max` of no degrees) on a graph without
nodes; without `initial_infecteds` NEVER an exception (the empty graph included: `Pk = {}`) -/
theorem Attack_rate_args_error (A : WArgs) (p tau gamma : Rat) (n : Int) :
    (∀ infs recs r, infs.isSome ∨ recs.isSome →
      Attack_rate_discrete_from_graph_args A p infs recs (some r) n = .error "EoNError" ∧
      Attack_rate_cts_time_from_graph_args A tau gamma infs recs (some r) n = .error "EoNError") ∧
    (∀ infs recs e, initialize_node_status A.toIArgs infs (recs.getD []) = .error e →
      Attack_rate_discrete_from_graph_args A p (some infs) recs none n = .error e ∧
      Attack_rate_cts_time_from_graph_args A tau gamma (some infs) recs none n = .error e) ∧
    (∀ infs recs st, initialize_node_status A.toIArgs infs (recs.getD []) = .ok st → A.nodes = [] →
      Attack_rate_discrete_from_graph_args A p (some infs) recs none n = .error "ValueError" ∧
      Attack_rate_cts_time_from_graph_args A tau gamma (some infs) recs none n = .error "ValueError") ∧
    (∀ recs rho, ¬ (rho.isSome ∧ recs.isSome) →
      (∃ a, Attack_rate_discrete_from_graph_args A p none recs rho n = .ok a) ∧
      (∃ a, Attack_rate_cts_time_from_graph_args A tau gamma none recs rho n = .ok a)) := by
  refine ⟨fun infs recs r h => AR_both A p tau gamma infs recs r n h,
    fun infs recs e he => by rw [ARd_sets, ARc_sets, he]; exact ⟨rfl, rfl⟩,
    fun infs recs st hst hN => by
      rw [ARd_sets, ARc_sets, hst, GenHelpProofs.ok_bind, GenHelpProofs.ok_bind, if_pos hN, if_pos hN]; exact ⟨rfl, rfl⟩,
    fun recs rho hrr => ?_⟩
  obtain ⟨h1, h2⟩ := AR_none A p tau gamma recs rho hrr n
  exact ⟨⟨_, h1⟩, ⟨_, h2⟩⟩

/-- (C) every non-error case of the explicit-sets request: `Σ_k Pk[k]·Sk0[k]` is the susceptible fraction of the graph
(`N·ψ̂(1)` = number of susceptible nodes) and every key of `Pk` is an index of the array `Sk0` -/
theorem Attack_rate_discrete_args_total (A : WArgs) (adj : List (List Nat)) (hW : GraphOKW A adj) (p : Rat)
    (infs : List Node) (recs : Option (List Node)) (n : Int) (a : Attack_rate_discrete_Args)
    (h : Attack_rate_discrete_from_graph_args A p (some infs) recs none n = .ok a) :
    SetsOK adj infs (recs.getD []) ∧ adj.length ≠ 0 ∧ a.rho = none ∧ a.Pk = PkAL (adj.map (·.length)) ∧
    ∃ v, a.Sk0 = some v ∧ v.length = maxDeg adj + 1 ∧
      (adj.length : Rat) * psiHatAL a.Pk (PyWrap.vecToDict v) 1 = (count adj (statusOf infs (recs.getD [])) St.S : Rat) ∧
      (∀ k ∈ a.Pk.map (·.1), alHas (PyWrap.vecToDict v) k = true) := by
  have hG := hW.toGraphOK
  have h' := h
  rw [ARd_sets] at h'
  obtain ⟨st, hst, h'⟩ := bind_ok_inv _ _ _ h'
  have hS := setsOK_of_status A adj hG hst
  have hN : adj.length ≠ 0 := fun e => by rw [if_pos (nodes_eq_nil A adj hG e)] at h'; cases h'
  rw [Attack_rate_discrete_args_spec A adj hW p infs recs hS hN n] at h
  injection h with h; subst h
  refine ⟨hS, hN, rfl, rfl, _, rfl, vec_length _ _, ?_, ?_⟩
  · rw [← psiHatV_eq_AL]; exact psiHat_one adj _ hN
  · exact keys_in_Sk0G adj _

/-! ## 2. the attack-rate wrappers composed with the generated `GenHelp.Attack_rate_*` (through C08c) -/

/-- (D) **explicit sets: the attack rate returned is `1 − ψ̂(θ_n)` for the graph's own ψ̂**, `θ_0 = 1`,
`θ_{j+1} = 1 − p + p(φR + φS·ψ̂'(θ_j)/g)`, `g = ψ̂'(1)` (1 when that is 0), `n = number_its` (`Int.toNat`: a negative
`number_its` runs no iteration) — and NO exception is possible (no KeyError: every key of `Pk` is an index of `Sk0`;
no ZeroDivisionError: `phiS0` is given) -/
theorem Attack_rate_discrete_from_graph_sets (A : WArgs) (adj : List (List Nat)) (hW : GraphOKW A adj) (p : Rat)
    (infs : List Node) (recs : Option (List Node)) (hS : SetsOK adj infs (recs.getD [])) (hN : adj.length ≠ 0) (n : Int) :
    Attack_rate_discrete_from_graph A p (some infs) recs none n =
      .ok (1 - psiHatG adj (statusOf infs (recs.getD []))
        ((thetaMap (psiHatPG adj (statusOf infs (recs.getD []))) p (phiG adj (statusOf infs (recs.getD [])) St.S)
          (phiG adj (statusOf infs (recs.getD [])) St.R))^[n.toNat] 1)) := by
  refine (bind_ok (Attack_rate_discrete_args_spec A adj hW p infs recs hS hN n) _).trans ?_
  simp only [Option.map_some]
  rw [GenHelpFinal.gen_Attack_rate_discrete_spec _ p none _ _ _ _ (Or.inl rfl) (fun h => by cases h)
    (fun d hd => by injection hd with hd; subst hd; exact keys_in_Sk0G adj _)]
  simp only [GenHelpFinal.effSk0, resolvePhiS0, GenHelpProofs.ok_bind, Option.getD_some,
    ← (psiHatG_eq_AL adj _).1, ← (psiHatG_eq_AL adj _).2]

/-- (D) continuous time: ZeroDivisionError iff `gamma + tau = 0`, else `1 − ψ̂(ω_n)`, `ω_0 = γ/(γ+τ)`,
`ω_{j+1} = γ/(γ+τ) + τ φS ψ̂'(ω_j)/(g (γ+τ)) + τ φR/(γ+τ)` -/
theorem Attack_rate_cts_time_from_graph_sets (A : WArgs) (adj : List (List Nat)) (hW : GraphOKW A adj) (tau gamma : Rat)
    (infs : List Node) (recs : Option (List Node)) (hS : SetsOK adj infs (recs.getD [])) (hN : adj.length ≠ 0) (n : Int) :
    Attack_rate_cts_time_from_graph A tau gamma (some infs) recs none n =
      if gamma + tau = 0 then .error "ZeroDivisionError" else
      .ok (1 - psiHatG adj (statusOf infs (recs.getD []))
        ((omegaMap (psiHatPG adj (statusOf infs (recs.getD []))) tau gamma (phiG adj (statusOf infs (recs.getD [])) St.S)
          (phiG adj (statusOf infs (recs.getD [])) St.R))^[n.toNat] (gamma / (gamma + tau)))) := by
  refine (bind_ok (Attack_rate_cts_time_args_spec A adj hW tau gamma infs recs hS hN n) _).trans ?_
  simp only [Option.map_some]
  rw [GenHelpFinal.gen_Attack_rate_cts_time_spec _ tau gamma _ none _ _ _ (Or.inl rfl)
    (fun d hd => by injection hd with hd; subst hd; exact keys_in_Sk0G adj _)]
  simp only [GenHelpFinal.effSk0, resolvePhiS0, GenHelpProofs.ok_bind, Option.getD_some,
    ← (psiHatG_eq_AL adj _).1, ← (psiHatG_eq_AL adj _).2]

/-- an exception of the argument builder is the exception of the composed wrapper (any request) -/
theorem Attack_rate_from_graph_error (A : WArgs) (p tau gamma : Rat) (infs recs : Option (List Node))
    (rho : Option Rat) (n : Int) (e : String) :
    (Attack_rate_discrete_from_graph_args A p infs recs rho n = .error e →
      Attack_rate_discrete_from_graph A p infs recs rho n = .error e) ∧
    (Attack_rate_cts_time_from_graph_args A tau gamma infs recs rho n = .error e →
      Attack_rate_cts_time_from_graph A tau gamma infs recs rho n = .error e) := by
  constructor <;> intro h
  · unfold Attack_rate_discrete_from_graph; rw [h]; rfl
  · unfold Attack_rate_cts_time_from_graph; rw [h]; rfl

/-- the default `phiS0 = ψ̂'(1)/Σ_k k·Pk[k]` of the attack-rate base functions for `ψ̂' = c·ψ'` on the graph's `Pk`: exactly
`c`, and ZeroDivisionError on a graph without edges -/
theorem resolvePhiS0_graph (adj : List (List Nat)) (c : Rat) :
    resolvePhiS0 (PkAL (adj.map (·.length))) (c * kAveAL (PkAL (adj.map (·.length)))) none =
      if twoM adj = 0 then .error "ZeroDivisionError" else .ok c := by
  have hm : kAveAL (PkAL (adj.map (·.length))) = (twoM adj : Rat) / (adj.length : Rat) := by
    rw [kAveAL_PkAL, meanK, List.length_map]; rfl
  simp only [resolvePhiS0]
  by_cases hE : twoM adj = 0
  · simp [hm, hE]
  · have hN : adj.length ≠ 0 := by
      intro e; apply hE; rw [List.length_eq_zero_iff.mp e]; rfl
    have hmz : kAveAL (PkAL (adj.map (·.length))) ≠ 0 := by
      rw [hm]; exact div_ne_zero (by exact_mod_cast hE) (by exact_mod_cast hN)
    simp only [hE, hmz, if_false]
    rw [mul_div_assoc, div_self hmz, mul_one]

/-- (D) without `initial_infecteds`, discrete time.  `rho ∈ {None, 0}`: the wrapper returns
`Epi_Prob_discrete(Pk, p, number_its)` (the early return of the base function; C08c `gen_Epi_Prob_discrete_spec`).
`rho ≠ 0`: ZeroDivisionError on a graph without edges (the default `phiS0 = ψ̂'(1)/Σ k Pk[k]`), else
`1 − (1-rho)ψ(θ_n)` with `ψ̂ = (1-rho)ψ`, `φS = 1-rho` (the default resolves to exactly `1-rho`), `φR = 0` -/
theorem Attack_rate_discrete_from_graph_rho (A : WArgs) (adj : List (List Nat)) (hG : GraphOK A.toIArgs adj) (p : Rat)
    (recs : Option (List Node)) (rho : Option Rat) (hrr : ¬ (rho.isSome ∧ recs.isSome)) (n : Int) :
    ((rho = none ∨ rho = some 0) → Attack_rate_discrete_from_graph A p none recs rho n =
      GenHelp.Epi_Prob_discrete (PkAL (adj.map (·.length))) p n.toNat) ∧
    (∀ r, rho = some r → r ≠ 0 → Attack_rate_discrete_from_graph A p none recs rho n =
      if twoM adj = 0 then .error "ZeroDivisionError" else
      .ok (1 - (1 - r) * psiK (PkAL (adj.map (·.length)))
        ((thetaMap (fun x => (1 - r) * psiKP (PkAL (adj.map (·.length))) x) p (1 - r) 0)^[n.toNat] 1))) := by
  have ha := (Attack_rate_args_rho A adj hG p 0 0 recs rho hrr n).1
  constructor
  · intro hr
    exact (bind_ok ha _).trans (GenHelpFinal.gen_Attack_rate_discrete_early _ p rho hr _ _ _)
  · intro r hr hr0
    subst hr
    refine (bind_ok ha _).trans ?_
    simp only [Option.map_none]
    rw [GenHelpFinal.gen_Attack_rate_discrete_spec _ p (some r) none none (some 0) _ (Or.inr rfl)
      (fun _ => ⟨r, rfl, hr0⟩) (fun d hd => by cases hd)]
    simp only [GenHelpFinal.effSk0, Option.getD_some, (psiHatAL_const _ (1 - r)).1, (psiHatAL_const _ (1 - r)).2,
      psiKP_one, resolvePhiS0_graph]
    by_cases hE : twoM adj = 0 <;> simp [hE]

/-- (D) without `initial_infecteds`, continuous time: `rho = None` counts as `rho = 0` (no early return); ZeroDivisionError
on a graph without edges, then iff `gamma + tau = 0`; else `1 − (1-rho)ψ(ω_n)` -/
theorem Attack_rate_cts_time_from_graph_rho (A : WArgs) (adj : List (List Nat)) (hG : GraphOK A.toIArgs adj)
    (tau gamma : Rat) (recs : Option (List Node)) (rho : Option Rat) (hrr : ¬ (rho.isSome ∧ recs.isSome)) (n : Int) :
    Attack_rate_cts_time_from_graph A tau gamma none recs rho n =
      if twoM adj = 0 then .error "ZeroDivisionError" else
      if gamma + tau = 0 then .error "ZeroDivisionError" else
      .ok (1 - (1 - rho.getD 0) * psiK (PkAL (adj.map (·.length)))
        ((omegaMap (fun x => (1 - rho.getD 0) * psiKP (PkAL (adj.map (·.length))) x) tau gamma (1 - rho.getD 0) 0)^[n.toNat]
          (gamma / (gamma + tau)))) := by
  refine (bind_ok (Attack_rate_args_rho A adj hG 0 tau gamma recs rho hrr n).2 _).trans ?_
  simp only [Option.map_none]
  rw [GenHelpFinal.gen_Attack_rate_cts_time_spec _ tau gamma _ rho none none (some 0) (Or.inr rfl)
    (fun d hd => by cases hd)]
  simp only [GenHelpFinal.effSk0, Option.getD_some, (psiHatAL_const _ (1 - rho.getD 0)).1,
    (psiHatAL_const _ (1 - rho.getD 0)).2, psiKP_one, resolvePhiS0_graph]
  by_cases hE : twoM adj = 0 <;> simp [hE]

/-! ## 3. `EBCM_discrete_from_graph` -/

/-- (A) explicit disjoint sets of graph nodes: `N`, `R0` = number of recovered nodes, `phiS0 = SS/SX`, `phiR0 = SR/SX`,
`psihat(x) = Σ_k Pk[k]·Sk0[k]·x^k/Nk[k]` = the graph's ψ̂ for ALL `x` (here `Sk0[k]` COUNTS the susceptible nodes of
degree `k` and each term is divided by `Nk[k]`), `psihatPrime` = ψ̂' for ALL `x` as well — `x = 0` and graphs with isolated
nodes included: the sum skips `k = 0` (`… for k in Pk if k>0`), so `0.0 ** (-1)` is never evaluated and `psihatPrime`
NEVER raises; `N·psihat(1)` = number of susceptible nodes is `psiHatG_one` -/
theorem EBCM_discrete_args_spec (A : WArgs) (adj : List (List Nat)) (hW : GraphOKW A adj) (p : Rat)
    (infs : List Node) (recs : Option (List Node)) (hS : SetsOK adj infs (recs.getD [])) (hN : adj.length ≠ 0)
    (tmin tmax : Int) (full : Bool) :
    EBCM_discrete_from_graph_args A p (some infs) recs none tmin tmax full =
      .ok { N := (adj.length : Rat),
            psihat := fun x => .ok (psiHatG adj (statusOf infs (recs.getD [])) x),
            psihatPrime := fun x => .ok (psiHatPG adj (statusOf infs (recs.getD [])) x), p := p,
            phiS0 := phiG adj (statusOf infs (recs.getD [])) St.S, phiR0 := phiG adj (statusOf infs (recs.getD [])) St.R,
            R0 := (count adj (statusOf infs (recs.getD [])) St.R : Rat),
            tmin := tmin, tmax := tmax, return_full_data := full } := by
  have hG := hW.toGraphOK
  have hst := status_of_setsOK A adj hG hS
  rw [EBCMd_sets, hst, GenHelpProofs.ok_bind, if_neg (nodes_ne_nil A adj hG hN), phiOf_graph A adj hW,
    phiOf_graph A adj hW, Sk0fin_graph A adj hG, degs_eq A.toIArgs adj hG, nodes_length A.toIArgs adj hG,
    filterR_graph A adj hG]
  rfl

/-- (A) without `initial_infecteds`: `rho` (default `1/N`): `psihat = (1-rho)ψ`, `psihatPrime = (1-rho)ψ'` for ALL `x`
(the sum skips `k = 0`: no exception at 0, isolated nodes or not), `phiS0 = 1-rho`, `phiR0 = 0`, `R0 = 0`;
`N·psihat(1) = (1-rho)N` is `rhoS_psiK` -/
theorem EBCM_discrete_args_rho (A : WArgs) (adj : List (List Nat)) (hG : GraphOK A.toIArgs adj) (p : Rat)
    (recs : Option (List Node)) (rho : Option Rat) (hrr : ¬ (rho.isSome ∧ recs.isSome)) (hN : adj.length ≠ 0)
    (tmin tmax : Int) (full : Bool) :
    EBCM_discrete_from_graph_args A p none recs rho tmin tmax full =
      .ok { N := (adj.length : Rat),
            psihat := fun x => .ok ((1 - rho.getD (1 / (adj.length : Rat))) * psiK (PkAL (adj.map (·.length))) x),
            psihatPrime := fun x => .ok ((1 - rho.getD (1 / (adj.length : Rat))) * psiKP (PkAL (adj.map (·.length))) x),
            p := p, phiS0 := 1 - rho.getD (1 / (adj.length : Rat)), phiR0 := 0, R0 := 0,
            tmin := tmin, tmax := tmax, return_full_data := full } := by
  rw [EBCMd_none A p recs rho hrr, rhoOr_graph A adj hG hN rho, degs_eq A.toIArgs adj hG, nodes_length A.toIArgs adj hG]
  rfl

/-- (B) the exceptions, with the precedence of the generated code (as for `EBCM_from_graph`, C06g) -/
theorem EBCM_discrete_args_error (A : WArgs) (p : Rat) (tmin tmax : Int) (full : Bool) :
    (∀ infs recs r, infs.isSome ∨ recs.isSome →
      EBCM_discrete_from_graph_args A p infs recs (some r) tmin tmax full = .error "EoNError") ∧
    (∀ infs recs e, initialize_node_status A.toIArgs infs (recs.getD []) = .error e →
      EBCM_discrete_from_graph_args A p (some infs) recs none tmin tmax full = .error e) ∧
    (∀ infs recs st, initialize_node_status A.toIArgs infs (recs.getD []) = .ok st → A.nodes = [] →
      EBCM_discrete_from_graph_args A p (some infs) recs none tmin tmax full = .error "ValueError") ∧
    (∀ recs, A.nodes.length = 0 →
      EBCM_discrete_from_graph_args A p none recs none tmin tmax full = .error "ZeroDivisionError") ∧
    (∀ r, ∃ a, EBCM_discrete_from_graph_args A p none none (some r) tmin tmax full = .ok a) := by
  refine ⟨fun infs recs r h => EBCMd_both A p infs recs r tmin tmax full h,
    fun infs recs e he => by rw [EBCMd_sets, he]; rfl,
    fun infs recs st hst hN => by rw [EBCMd_sets, hst, GenHelpProofs.ok_bind, if_pos hN],
    fun recs hN => ?_, fun r => ?_⟩
  · rw [EBCMd_none A p recs none (by simp)]; simp [rhoOr, hN]
  · rw [EBCMd_none A p none (some r) (by simp)]; exact ⟨_, rfl⟩

/-- (C) in EVERY non-error case the `N` handed to `EBCM_discrete` is `G.order()`, `psihat` AND `psihatPrime` are total
(neither callback ever raises), and `p`, `tmin`, `tmax`, `return_full_data` are passed on -/
theorem EBCM_discrete_args_total (A : WArgs) (p : Rat) (infs recs : Option (List Node)) (rho : Option Rat)
    (tmin tmax : Int) (full : Bool) (a : EBCM_discrete_Args)
    (h : EBCM_discrete_from_graph_args A p infs recs rho tmin tmax full = .ok a) :
    a.N = (A.nodes.length : Rat) ∧ (∃ f : Rat → Rat, ∀ x, a.psihat x = .ok (f x)) ∧
    (∃ f' : Rat → Rat, ∀ x, a.psihatPrime x = .ok (f' x)) ∧
    a.p = p ∧ a.tmin = tmin ∧ a.tmax = tmax ∧ a.return_full_data = full := by
  rcases request_cases infs recs rho with ⟨r, rfl, hb⟩ | ⟨l, rfl, rfl⟩ | ⟨rfl, hrr⟩
  · rw [EBCMd_both A p infs recs r tmin tmax full hb] at h; cases h
  · rw [EBCMd_sets] at h
    obtain ⟨st, -, h⟩ := bind_ok_inv _ _ _ h
    split at h
    · cases h
    · injection h with h; subst h
      exact ⟨rfl, ⟨_, fun x => rfl⟩, ⟨_, fun x => rfl⟩, rfl, rfl, rfl, rfl⟩
  · rw [EBCMd_none A p recs rho hrr] at h
    obtain ⟨r, -, h⟩ := bind_ok_inv _ _ _ h
    injection h with h; subst h
    exact ⟨rfl, ⟨_, fun x => rfl⟩, ⟨_, fun x => rfl⟩, rfl, rfl, rfl, rfl⟩

/-! ## 4. `EBCM_discrete_from_graph` composed with the generated `GenHelp.EBCM_discrete` (through C08c) -/

/-- the shape of a result of `EBCM_discrete`: `[times, S, I, R]` (+ `theta`), `m + 1` rows, conservation, `R(n+1) = R(n)+I(n)`,
`S = N ψ̂(θ)`, `θ(0) = 1`, `R(0) = R0` -/
def DiscreteRun (N R0 : Rat) (f : Rat → Rat) (tmin tmax : Int) (full : Bool) (l : List (List Rat)) : Prop :=
  ∃ times S I R theta : List Rat, l = (if full then [times, S, I, R, theta] else [times, S, I, R]) ∧
    (let m := (tmax - tmin).toNat
     times.length = m + 1 ∧ S.length = m + 1 ∧ I.length = m + 1 ∧ R.length = m + 1 ∧ theta.length = m + 1 ∧
     theta.getD 0 0 = 1 ∧ R.getD 0 0 = R0 ∧
     (∀ n, n ≤ m → times.getD n 0 = ((tmin + (n : Int) : Int) : Rat) ∧
        S.getD n 0 + I.getD n 0 + R.getD n 0 = N ∧ S.getD n 0 = N * f (theta.getD n 0)) ∧
     (∀ n, n < m → R.getD (n + 1) 0 = R.getD n 0 + I.getD n 0))

theorem discreteRun_of_total (N : Rat) (f f' : Rat → Rat) (p phiS0 phiR0 R0 : Rat) (tmin tmax : Int) (full : Bool)
    (l : List (List Rat))
    (h : GenHelp.EBCM_discrete N (fun x => pure (f x)) (fun x => pure (f' x)) p phiS0 phiR0 R0 tmin tmax full = .ok l) :
    DiscreteRun N R0 f tmin tmax full l := by
  obtain ⟨times, S, I, R, theta, h1, h2, h3, h4, h5, h6, h7, h8, h9, h10, h11⟩ :=
    GenHelpFinal.gen_EBCM_discrete_spec N f f' p phiS0 phiR0 R0 tmin tmax
  refine ⟨times, S, I, R, theta, ?_, h3, h4, h5, h6, h7, h8, h9, h10, fun n hn => (h11 n hn).1⟩
  cases full
  · rw [h1] at h; injection h with h; exact h.symm
  · rw [h2] at h; injection h with h; exact h.symm

theorem discreteRun_row0 {N R0 : Rat} {f : Rat → Rat} {tmin tmax : Int} {full : Bool} {l : List (List Rat)}
    (h : DiscreteRun N R0 f tmin tmax full l) :
    ∃ S I R, l[1]? = some S ∧ l[2]? = some I ∧ l[3]? = some R ∧
      S.getD 0 0 = N * f 1 ∧ S.getD 0 0 + I.getD 0 0 + R0 = N ∧ R.getD 0 0 = R0 := by
  obtain ⟨times, S, I, R, theta, rfl, -, -, -, -, -, t0, r0, hc, -⟩ := h
  obtain ⟨-, c0, s0⟩ := hc 0 (Nat.zero_le _)
  rw [t0] at s0
  rw [r0] at c0
  cases full <;> exact ⟨S, I, R, rfl, rfl, rfl, s0, c0, r0⟩

theorem EBCM_discrete_from_graph_inv (A : WArgs) (p : Rat) (infs recs : Option (List Node)) (rho : Option Rat)
    (tmin tmax : Int) (full : Bool) (l : List (List Rat))
    (h : EBCM_discrete_from_graph A p infs recs rho tmin tmax full = .ok l) :
    ∃ a, EBCM_discrete_from_graph_args A p infs recs rho tmin tmax full = .ok a ∧
      GenHelp.EBCM_discrete a.N a.psihat a.psihatPrime a.p a.phiS0 a.phiR0 a.R0 a.tmin a.tmax a.return_full_data = .ok l :=
  bind_ok_inv _ _ l h

/-- (D) end to end, ANY request (sets, `rho`, default), with or without full data, EVERY successful call:
the result is `[times, S, I, R(, theta)]` with `tmax - tmin + 1` rows, **`S + I + R = G.order()` at every index**,
`R(n+1) = R(n) + I(n)`, `times = tmin, tmin+1, …`.  (No hypothesis on the graph; `psihat` and `psihatPrime` never raise,
`EBCM_discrete_args_total`.) -/
theorem EBCM_discrete_from_graph_conserve (A : WArgs) (p : Rat) (infs recs : Option (List Node)) (rho : Option Rat)
    (tmin tmax : Int) (full : Bool) (l : List (List Rat))
    (h : EBCM_discrete_from_graph A p infs recs rho tmin tmax full = .ok l) :
    ∃ (f : Rat → Rat) (R0 : Rat), DiscreteRun (A.nodes.length : Rat) R0 f tmin tmax full l := by
  obtain ⟨a, ha, hl⟩ := bind_ok_inv _ _ l h
  obtain ⟨hN, ⟨f, hf⟩, ⟨f', hf'⟩, -, h2, h3, h4⟩ := EBCM_discrete_args_total A p infs recs rho tmin tmax full a ha
  rw [funext hf, funext hf', hN, h2, h3, h4] at hl
  exact ⟨f, a.R0, discreteRun_of_total _ _ _ _ _ _ _ _ _ _ l hl⟩

/-- (D) explicit disjoint sets of graph nodes, every successful call: the run is that of the graph's own ψ̂
(`S(n) = N·ψ̂(θ_n)`), and **row 0 is the requested state**: `S(0)`, `I(0)`, `R(0)` are the NUMBERS OF SUSCEPTIBLE /
INFECTED / RECOVERED NODES (`len(initial_infecteds)`, `len(initial_recovereds)` for duplicate-free lists) -/
theorem EBCM_discrete_from_graph_init (A : WArgs) (adj : List (List Nat)) (hW : GraphOKW A adj) (p : Rat)
    (infs : List Node) (recs : Option (List Node)) (hS : SetsOK adj infs (recs.getD [])) (hN : adj.length ≠ 0)
    (tmin tmax : Int) (full : Bool) (l : List (List Rat))
    (h : EBCM_discrete_from_graph A p (some infs) recs none tmin tmax full = .ok l) :
    DiscreteRun (adj.length : Rat) (count adj (statusOf infs (recs.getD [])) St.R : Rat)
      (psiHatG adj (statusOf infs (recs.getD []))) tmin tmax full l ∧
    GenHelp.EBCM_discrete (adj.length : Rat) (fun x => pure (psiHatG adj (statusOf infs (recs.getD [])) x))
      (fun x => pure (psiHatPG adj (statusOf infs (recs.getD [])) x)) p (phiG adj (statusOf infs (recs.getD [])) St.S)
      (phiG adj (statusOf infs (recs.getD [])) St.R) (count adj (statusOf infs (recs.getD [])) St.R : Rat)
      tmin tmax full = .ok l ∧
    ∃ S I R, l[1]? = some S ∧ l[2]? = some I ∧ l[3]? = some R ∧
      S.getD 0 0 = (count adj (statusOf infs (recs.getD [])) St.S : Rat) ∧
      I.getD 0 0 = (count adj (statusOf infs (recs.getD [])) St.I : Rat) ∧
      R.getD 0 0 = (count adj (statusOf infs (recs.getD [])) St.R : Rat) ∧
      (infs.Nodup → (recs.getD []).Nodup →
        I.getD 0 0 = (infs.length : Rat) ∧ R.getD 0 0 = ((recs.getD []).length : Rat)) := by
  have hl := (bind_ok (EBCM_discrete_args_spec A adj hW p infs recs hS hN tmin tmax full) _).symm.trans h
  have hD := discreteRun_of_total _ _ _ _ _ _ _ _ _ _ l hl
  refine ⟨hD, hl, ?_⟩
  obtain ⟨S, I, R, g1, g2, g3, s0, c0, r0⟩ := discreteRun_row0 hD
  rw [psiHatG_one adj _ hN] at s0
  have hI : I.getD 0 0 = (count adj (statusOf infs (recs.getD [])) St.I : Rat) := by
    have ht := congrArg (fun n : Nat => (n : Rat)) (count_total adj (statusOf infs (recs.getD [])))
    simp only [Nat.cast_add] at ht
    rw [s0, ← ht] at c0
    exact add_left_cancel (add_right_cancel c0)
  refine ⟨S, I, R, g1, g2, g3, s0, hI, r0, fun hi hr => ?_⟩
  obtain ⟨cI, cR, -⟩ := request_counts adj infs (recs.getD []) hS hi hr
  exact ⟨hI.trans cI, r0.trans cR⟩

/-- (D) `rho` / default request, every successful call: the run of `ψ̂ = (1-rho)ψ`, row 0 = `((1-rho)N, rho·N, 0)` -/
theorem EBCM_discrete_from_graph_init_rho (A : WArgs) (adj : List (List Nat)) (hG : GraphOK A.toIArgs adj) (p : Rat)
    (recs : Option (List Node)) (rho : Option Rat) (hrr : ¬ (rho.isSome ∧ recs.isSome)) (hN : adj.length ≠ 0)
    (tmin tmax : Int) (full : Bool) (l : List (List Rat))
    (h : EBCM_discrete_from_graph A p none recs rho tmin tmax full = .ok l) :
    DiscreteRun (adj.length : Rat) 0
      (fun x => (1 - rho.getD (1 / (adj.length : Rat))) * psiK (PkAL (adj.map (·.length))) x) tmin tmax full l ∧
    GenHelp.EBCM_discrete (adj.length : Rat)
      (fun x => pure ((1 - rho.getD (1 / (adj.length : Rat))) * psiK (PkAL (adj.map (·.length))) x))
      (fun x => pure ((1 - rho.getD (1 / (adj.length : Rat))) * psiKP (PkAL (adj.map (·.length))) x)) p
      (1 - rho.getD (1 / (adj.length : Rat))) 0 0 tmin tmax full = .ok l ∧
    ∃ S I R, l[1]? = some S ∧ l[2]? = some I ∧ l[3]? = some R ∧
      S.getD 0 0 = rhoS adj (rho.getD (1 / (adj.length : Rat))) ∧
      I.getD 0 0 = rhoI adj (rho.getD (1 / (adj.length : Rat))) ∧ R.getD 0 0 = 0 := by
  have hl := (bind_ok (EBCM_discrete_args_rho A adj hG p recs rho hrr hN tmin tmax full) _).symm.trans h
  have hD := discreteRun_of_total _ _ _ _ _ _ _ _ _ _ l hl
  refine ⟨hD, hl, ?_⟩
  obtain ⟨S, I, R, g1, g2, g3, s0, c0, r0⟩ := discreteRun_row0 hD
  rw [rhoS_psiK adj hN] at s0
  refine ⟨S, I, R, g1, g2, g3, s0, ?_, r0⟩
  rw [s0, add_zero, rhoS] at c0
  rw [rhoI, ← sub_eq_of_eq_add' c0.symm]; ring

/-- on every graph with nodes, isolated nodes included (no hypothesis on the degrees: `psihatPrime` skips `k = 0` and is total),
the composed wrapper never fails once the argument record is built: explicit sets of graph nodes / `rho` / default, i.e.
every call with a valid request succeeds -/
theorem EBCM_discrete_from_graph_ok (A : WArgs) (adj : List (List Nat)) (hW : GraphOKW A adj) (p : Rat)
    (hN : adj.length ≠ 0) (tmin tmax : Int) (full : Bool) :
    (∀ infs recs, SetsOK adj infs (recs.getD []) →
      ∃ l, EBCM_discrete_from_graph A p (some infs) recs none tmin tmax full = .ok l) ∧
    (∀ recs rho, ¬ (rho.isSome ∧ recs.isSome) →
      ∃ l, EBCM_discrete_from_graph A p none recs rho tmin tmax full = .ok l) := by
  constructor
  · intro infs recs hS
    exact ⟨_, (bind_ok (EBCM_discrete_args_spec A adj hW p infs recs hS hN tmin tmax full) _).trans
      (GenHelpFinal.gen_EBCM_discrete_eq ..)⟩
  · intro recs rho hrr
    exact ⟨_, (bind_ok (EBCM_discrete_args_rho A adj hW.toGraphOK p recs rho hrr hN tmin tmax full) _).trans
      (GenHelpFinal.gen_EBCM_discrete_eq ..)⟩

/-- (D) **KEY LINK on the graph**: `Attack_rate_discrete_from_graph(number_its = n)` is `(I(n) + R(n))/N = 1 − S(n)/N`
of the data returned by `EBCM_discrete_from_graph(tmin = 0, tmax = n)` for the same explicit sets — for EVERY successful
run of the latter (there always is one, isolated nodes or not: `EBCM_discrete_from_graph_ok`) -/
theorem Attack_rate_discrete_from_graph_is_EBCM (A : WArgs) (adj : List (List Nat)) (hW : GraphOKW A adj) (p : Rat)
    (infs : List Node) (recs : Option (List Node)) (hS : SetsOK adj infs (recs.getD [])) (hN : adj.length ≠ 0)
    (n : Nat) (l : List (List Rat))
    (h : EBCM_discrete_from_graph A p (some infs) recs none 0 (n : Int) false = .ok l) :
    ∃ times S I R : List Rat, l = [times, S, I, R] ∧
      Attack_rate_discrete_from_graph A p (some infs) recs none (n : Int)
        = .ok ((I.getD n 0 + R.getD n 0) / (adj.length : Rat)) ∧
      Attack_rate_discrete_from_graph A p (some infs) recs none (n : Int)
        = .ok (1 - S.getD n 0 / (adj.length : Rat)) := by
  obtain ⟨-, hrun, -⟩ := EBCM_discrete_from_graph_init A adj hW p infs recs hS hN 0 n false l h
  have hNr : (adj.length : Rat) ≠ 0 := by exact_mod_cast hN
  obtain ⟨times, S, I, R, hE, h1, h2⟩ := GenHelpFinal.gen_Attack_rate_discrete_is_EBCM
    (PkAL (adj.map (·.length))) p none (some (PyWrap.vecToDict (Sk0G adj (statusOf infs (recs.getD [])))))
    (some (phiG adj (statusOf infs (recs.getD [])) St.S)) (some (phiG adj (statusOf infs (recs.getD [])) St.R)) n
    (Or.inl rfl) (fun hh => by cases hh)
    (fun d hd => by injection hd with hd; subst hd; exact keys_in_Sk0G adj _)
    (phiG adj (statusOf infs (recs.getD [])) St.S) rfl (adj.length : Rat)
    (count adj (statusOf infs (recs.getD [])) St.R : Rat) hNr
  simp only [GenHelpFinal.effSk0, Option.getD_some, ← (psiHatG_eq_AL adj _).1, ← (psiHatG_eq_AL adj _).2] at hE
  rw [hrun] at hE
  injection hE with hE
  have hAR : Attack_rate_discrete_from_graph A p (some infs) recs none (n : Int) =
      GenHelp.Attack_rate_discrete (PkAL (adj.map (·.length))) p none
        (some (PyWrap.vecToDict (Sk0G adj (statusOf infs (recs.getD [])))))
        (some (phiG adj (statusOf infs (recs.getD [])) St.S)) (some (phiG adj (statusOf infs (recs.getD [])) St.R)) n :=
    bind_ok (Attack_rate_discrete_args_spec A adj hW p infs recs hS hN n) _
  exact ⟨times, S, I, R, hE, hAR.trans h2, hAR.trans h1⟩

/-! ## 5. `SIR_compact_effective_degree_from_graph` without `initial_infecteds`

(Explicit sets — `Skappa0[κ]` = number of susceptible nodes with `κ` non-recovered neighbours, `SI0` = number of S–I ordered
pairs: C06j `SIR_compact_effective_degree_args_spec`.) -/

theorem sum_NkL_graph (adj : List (List Nat)) : sumRat (NkL (adj.map (·.length))) = (adj.length : Rat) := by
  rw [sumRat_eq_sum, NkL_graph, vec_sum_cast, sum_Nk]

/-- (A) `rho` (default `1/N`; an `initial_recovereds` given without `rho` is ignored): `Skappa0[k] = (1-rho)·N_k`,
`I0 = rho·N`, `R0 = 0`, and through the `vecGet` loop `SI0 = Σ_k k·Skappa0[k]·rho = (1-rho)·rho·2|E|` -/
theorem SIR_compact_effective_degree_args_rho (A : WArgs) (adj : List (List Nat)) (hG : GraphOK A.toIArgs adj)
    (tau gamma : Rat) (recs : Option (List Node)) (rho : Option Rat) (hrr : ¬ (rho.isSome ∧ recs.isSome))
    (hN : adj.length ≠ 0) (tmin tmax : Rat) (tcount : Int) (full : Bool) :
    SIR_compact_effective_degree_from_graph_args A tau gamma none recs rho tmin tmax tcount full =
      .ok { Skappa0 := vec (maxDeg adj) (fun k => rhoSk adj (rho.getD (1 / (adj.length : Rat))) k),
            I0 := rhoI adj (rho.getD (1 / (adj.length : Rat))), R0 := 0,
            SI0 := rhoSI adj (rho.getD (1 / (adj.length : Rat))),
            tau := tau, gamma := gamma, tmin := tmin, tmax := tmax, tcount := tcount, return_full_data := full } := by
  have hr := rhoOr_graph A adj hG hN rho
  rw [SIRced_rho A tau gamma recs rho hrr, hr, GenHelpProofs.ok_bind, if_neg (nodes_ne_nil A adj hG hN),
    degs_eq A.toIArgs adj hG, sum_NkL_graph]
  congr 2
  · apply vec_congr; intro k; rw [countEq_degs]; rfl

/-- (B) the exceptions with the precedence of the generated code: `EoNError` for `rho` with a set; with neither `rho` nor
a set ZeroDivisionError on a graph without nodes (the default `rho = 1/N` is computed first); with `rho` alone ValueError
(`max` of no degrees) on a graph without nodes -/
theorem SIR_compact_effective_degree_args_error (A : WArgs) (tau gamma : Rat) (tmin tmax : Rat) (tcount : Int)
    (full : Bool) :
    (∀ infs recs r, infs.isSome ∨ recs.isSome →
      SIR_compact_effective_degree_from_graph_args A tau gamma infs recs (some r) tmin tmax tcount full
        = .error "EoNError") ∧
    (∀ recs, A.nodes.length = 0 →
      SIR_compact_effective_degree_from_graph_args A tau gamma none recs none tmin tmax tcount full
        = .error "ZeroDivisionError") ∧
    (∀ r, A.nodes = [] →
      SIR_compact_effective_degree_from_graph_args A tau gamma none none (some r) tmin tmax tcount full
        = .error "ValueError") := by
  refine ⟨fun infs recs r h => SIRced_both A tau gamma infs recs r tmin tmax tcount full h, fun recs hN => ?_,
    fun r hN => ?_⟩
  · rw [SIRced_rho A tau gamma recs none (by simp)]; simp [rhoOr, hN]
  · rw [SIRced_rho A tau gamma none (some r) (by simp)]; simp [rhoOr, hN]

/-- a successful `rho` / default call of `SIR_compact_effective_degree_from_graph`: the graph has nodes -/
theorem SIRced_nodes (A : WArgs) (adj : List (List Nat)) (hG : GraphOK A.toIArgs adj) (tau gamma : Rat)
    (recs : Option (List Node)) (rho : Option Rat) (hrr : ¬ (rho.isSome ∧ recs.isSome)) (tmin tmax : Rat) (tcount : Int)
    (full : Bool) (a : SIR_compact_effective_degree_Args)
    (h : SIR_compact_effective_degree_from_graph_args A tau gamma none recs rho tmin tmax tcount full = .ok a) :
    adj.length ≠ 0 := by
  intro e
  rw [SIRced_rho A tau gamma recs rho hrr] at h
  obtain ⟨r, -, h⟩ := bind_ok_inv _ _ _ h
  rw [if_pos (nodes_eq_nil A adj hG e)] at h; cases h

/-- (C) `Σ_k Skappa0[k] + I0 + R0 = N` (the `rho` / default request) -/
theorem SIR_compact_effective_degree_args_total_rho (A : WArgs) (adj : List (List Nat)) (hG : GraphOK A.toIArgs adj)
    (tau gamma : Rat) (recs : Option (List Node)) (rho : Option Rat) (hrr : ¬ (rho.isSome ∧ recs.isSome))
    (tmin tmax : Rat) (tcount : Int) (full : Bool) (a : SIR_compact_effective_degree_Args)
    (h : SIR_compact_effective_degree_from_graph_args A tau gamma none recs rho tmin tmax tcount full = .ok a) :
    a.Skappa0.sum = rhoS adj (rho.getD (1 / (adj.length : Rat))) ∧ a.Skappa0.sum + a.I0 + a.R0 = (adj.length : Rat) ∧
    a.Skappa0.length = maxDeg adj + 1 := by
  have hN := SIRced_nodes A adj hG tau gamma recs rho hrr tmin tmax tcount full a h
  rw [SIR_compact_effective_degree_args_rho A adj hG tau gamma recs rho hrr hN] at h
  injection h with h; subst h
  have ht := rho_vec_sums A.toIArgs adj hG (rho.getD (1 / (adj.length : Rat)))
  refine ⟨ht.2.1, ?_, vec_length _ _⟩
  simp only [ht.2.1, rhoS, rhoI]; ring

theorem SIR_compact_effective_degree_from_graph_inv (odeint : Solver) (A : WArgs) (tau gamma : Rat)
    (infs recs : Option (List Node)) (rho : Option Rat) (tmin tmax : Rat) (tcount : Int) (full : Bool) (l : List Ser)
    (h : SIR_compact_effective_degree_from_graph odeint A tau gamma infs recs rho tmin tmax tcount full = .ok l) :
    ∃ a, SIR_compact_effective_degree_from_graph_args A tau gamma infs recs rho tmin tmax tcount full = .ok a ∧
      GenGlue.SIR_compact_effective_degree odeint (V.ofList a.Skappa0) a.I0 a.R0 a.SI0 a.tau a.gamma a.tmin a.tmax
        a.tcount.toNat a.return_full_data = .ok l :=
  bind_ok_inv _ _ l h

/-- (D) end to end, `rho` / default request, with or without full data, EVERY solver: `S + I + R = N` at every time
index; with `odeint rhs X0 0 = X0` the series start from `(1-rho)N`, `rho·N`, `0` -/
theorem SIR_compact_effective_degree_from_graph_rho (odeint : Solver) (A : WArgs) (adj : List (List Nat))
    (hG : GraphOK A.toIArgs adj) (tau gamma : Rat) (recs : Option (List Node)) (rho : Option Rat)
    (hrr : ¬ (rho.isSome ∧ recs.isSome)) (tmin tmax : Rat) (tcount : Int) (full : Bool) (l : List Ser)
    (h : SIR_compact_effective_degree_from_graph odeint A tau gamma none recs rho tmin tmax tcount full = .ok l) :
    (∀ i, get l 1 i + get l 2 i + get l 3 i = (adj.length : Rat)) ∧
    (RowZero odeint →
      get l 1 0 = rhoS adj (rho.getD (1 / (adj.length : Rat))) ∧
      get l 2 0 = rhoI adj (rho.getD (1 / (adj.length : Rat))) ∧ get l 3 0 = 0) := by
  obtain ⟨a, ha, hl⟩ := SIR_compact_effective_degree_from_graph_inv odeint A tau gamma _ _ _ tmin tmax tcount full l h
  obtain ⟨t1, t2, t3⟩ := SIR_compact_effective_degree_args_total_rho A adj hG tau gamma recs rho hrr tmin tmax tcount
    full a ha
  refine ⟨fun i => ?_, fun h0 => ?_⟩
  · rw [C06d.SIR_compact_effective_degree_conserve odeint _ _ _ _ _ _ _ _ _ _ l hl i, sumTo_ofList]
    exact t2
  · obtain ⟨i1, i2, i3⟩ := C06d.SIR_compact_effective_degree_init odeint h0 _ _ _ _ _ _ _ _ _ _ l hl
    rw [sumTo_ofList] at i1
    have hN := SIRced_nodes A adj hG tau gamma recs rho hrr tmin tmax tcount full a ha
    rw [SIR_compact_effective_degree_args_rho A adj hG tau gamma recs rho hrr hN] at ha
    injection ha with ha; subst ha
    exact ⟨i1.trans t1, i2, i3⟩

/-! ## 6. full data of `SIR_compact_pairwise_from_graph`; `ψ'(1)` for the `rho` record of `EBCM_from_graph` -/

/-- full data of `SIR_compact_pairwise` for any record whose class array has `M+1` entries and sums with `I0`, `R0` to `N`: at every
time index `M+1` class rows, and classes + `I` + `R` = `N` -/
theorem conserve_full_of (odeint : Solver) (Sk0 : List Rat) (I0 R0 SS0 SI0 tau gamma tmin tmax : Rat) (tc M : Nat) (N : Rat)
    (l : List Ser) (hlen : Sk0.length = M + 1) (hsum : Sk0.sum + I0 + R0 = N)
    (hl : GenGlue.SIR_compact_pairwise odeint (V.ofList Sk0) I0 R0 SS0 SI0 tau gamma tmin tmax tc true = .ok l)
    (i : Nat) : getN l 1 i = M + 1 ∧ ODE.sumTo (M + 1) (getM l 1 i) + get l 2 i + get l 3 i = N := by
  obtain ⟨c1, c2⟩ := C06d.SIR_compact_pairwise_conserve_full odeint _ _ _ _ _ _ _ _ _ _ l hl i
  have hn : (V.ofList Sk0).n = M + 1 := hlen
  rw [sumTo_ofList] at c2
  rw [hn] at c1 c2
  exact ⟨c1, c2.trans hsum⟩

/-- (D) `return_full_data = True`, explicit sets and `rho` / default, EVERY solver, EVERY time index: the class array
`Sk` has `maxdeg + 1` entries and `Σ_k Sk + I + R = N` -/
theorem SIR_compact_pairwise_from_graph_conserve_full (odeint : Solver) (A : WArgs) (adj : List (List Nat))
    (hG : GraphOK A.toIArgs adj) (tau gamma : Rat) (hN : adj.length ≠ 0) (tmin tmax : Rat) (tcount : Int) (l : List Ser) :
    (∀ infs recs, SetsOK adj infs (recs.getD []) →
      SIR_compact_pairwise_from_graph odeint A tau gamma (some infs) recs none tmin tmax tcount true = .ok l →
      ∀ i, getN l 1 i = maxDeg adj + 1 ∧
        ODE.sumTo (maxDeg adj + 1) (getM l 1 i) + get l 2 i + get l 3 i = (adj.length : Rat)) ∧
    (∀ rho, SIR_compact_pairwise_from_graph odeint A tau gamma none none rho tmin tmax tcount true = .ok l →
      ∀ i, getN l 1 i = maxDeg adj + 1 ∧
        ODE.sumTo (maxDeg adj + 1) (getM l 1 i) + get l 2 i + get l 3 i = (adj.length : Rat)) := by
  constructor
  · intro infs recs hS h i
    exact conserve_full_of odeint _ _ _ _ _ _ _ _ _ _ _ _ l (vec_length _ _)
      ((congrArg (· + _ + _) (classCount_sum ..)).trans (count_total_rat ..))
      ((bind_ok (SIR_compact_pairwise_args_spec A adj hG tau gamma infs recs hS hN tmin tmax tcount true)
        _).symm.trans h) i
  · intro rho h i
    obtain ⟨t1, -, t3, -⟩ := rho_vec_sums A.toIArgs adj hG (rho.getD (1 / (adj.length : Rat)))
    exact conserve_full_of odeint _ _ _ _ _ _ _ _ _ _ _ _ l (vec_length _ _) (by rw [add_zero, ← t3]; exact t1)
      ((bind_ok (SIR_compact_pairwise_args_rho A adj hG tau gamma rho hN tmin tmax tcount true) _).symm.trans h) i

/-- the `psihatPrime` of the `rho` / default record of `EBCM_from_graph`, read off C06g `EBCM_args_rho` in two cases —
`(1-rho)·ψ'(x)`, `ψ'(x) = Σ_{k>0} k·Pk[k]·x^(k-1)`, for `x ≠ 0` or a graph without isolated nodes; ZeroDivisionError at 0 on a
graph with an isolated node (`PyWrap.total` turns the exception into the value 0 inside the composed call) — and
`ψ'(1) = 2|E|/N` -/
theorem EBCM_args_rho_prime (A : WArgs) (adj : List (List Nat)) (hG : GraphOK A.toIArgs adj)
    (tau gamma : Rat) (recs : Option (List Node)) (rho : Option Rat) (hrr : ¬ (rho.isSome ∧ recs.isSome))
    (hN : adj.length ≠ 0) (tmin tmax : Rat) (tcount : Int) (full : Bool) (a : EBCM_Args)
    (ha : EBCM_from_graph_args A tau gamma none recs rho tmin tmax tcount full = .ok a) :
    (∀ x, x ≠ 0 ∨ 0 ∉ adj.map (·.length) →
      a.psihatPrime x = .ok ((1 - rho.getD (1 / (adj.length : Rat))) * psiKP (PkAL (adj.map (·.length))) x)) ∧
    (0 ∈ adj.map (·.length) → a.psihatPrime 0 = .error "ZeroDivisionError") ∧
    psiKP (PkAL (adj.map (·.length))) 1 = (twoM adj : Rat) / (adj.length : Rat) := by
  rw [EBCM_none A tau gamma recs rho hrr, rhoOr_graph A adj hG hN rho, degs_eq A.toIArgs adj hG] at ha
  injection ha with ha; subst ha
  refine ⟨fun x hx => if_neg fun h => hx.elim (fun h' => h' h.1) (fun h' => h' h.2), fun h0 => if_pos ⟨rfl, h0⟩, ?_⟩
  rw [psiKP_one, kAveAL_PkAL]
  have := meanK_graph A.toIArgs adj hG
  rwa [degs_eq A.toIArgs adj hG] at this

/-! ## 7. non-vacuity on the triangle 0–1–2 with the pendant node 3 (`exW` of C06e), kernel-checked -/

/-- node 0 infected, node 3 recovered: `Pk = {2: 1/2, 3: 1/4, 1: 1/4}` (keys in first-seen order), `Sk0 = [0, 0, 1/2, 1]`,
`phiS0 = 2/5`, `phiR0 = 1/5` -/
example : ((Attack_rate_discrete_from_graph_args exW (1 / 2) (some [0]) (some [3]) none 2).toOption.map
    fun a => (a.Pk, a.Sk0, a.phiS0, a.phiR0)) =
    some ([(2, 1 / 2), (3, 1 / 4), (1, 1 / 4)], some [0, 0, 1 / 2, 1], some (2 / 5), some (1 / 5)) := by
  decide +kernel
example : ((Attack_rate_discrete_from_graph_args exW (1 / 2) (some [0]) (some [3]) none 2).toOption.map
    fun a => (a.rho, a.number_its)) = some (none, 2) := by decide +kernel
example : ((EBCM_discrete_from_graph_args exW (1 / 2) (some [0]) (some [3]) none 0 2 false).toOption.map
    fun a => (a.N, a.R0, a.phiS0, a.phiR0)) = some (4, 1, 2 / 5, 1 / 5) := by decide +kernel
example : ((EBCM_discrete_from_graph_args exW (1 / 2) (some [0]) (some [3]) none 0 2 false).toOption.bind
    fun a => (a.psihat 1).toOption) = some (1 / 2) := by decide +kernel
example : ((EBCM_discrete_from_graph_args exW (1 / 2) (some [0]) (some [3]) none 0 2 false).toOption.bind
    fun a => (a.psihatPrime 1).toOption) = some (5 / 4) := by decide +kernel
/-- the discrete EBCM data of the graph: `S + I + R = 4` in every row, row 0 = (2, 1, 1), `R(n+1) = R(n) + I(n)` … -/
example : EBCM_discrete_from_graph exW (1 / 2) (some [0]) (some [3]) none 0 2 false =
    .ok [[0, 1, 2], [2, 144 / 125, 233233472 / 244140625], [1, 106 / 125, 48016528 / 244140625], [1, 2, 356 / 125]] := by
  decide +kernel
/-- … and the attack rate after 2 iterations is `(I(2) + R(2))/4` of those data -/
example : Attack_rate_discrete_from_graph exW (1 / 2) (some [0]) (some [3]) none 2 = .ok (185832257 / 244140625) ∧
    ((48016528 / 244140625 + 356 / 125) / 4 : Rat) = 185832257 / 244140625 := by
  constructor <;> decide +kernel
example : Attack_rate_cts_time_from_graph exW 1 1 (some [0]) (some [3]) none 1 = .ok (3250337 / 4000000) ∧
    Attack_rate_cts_time_from_graph exW 1 (-1) (some [0]) (some [3]) none 1 = .error "ZeroDivisionError" := by
  constructor <;> decide +kernel
/-- without `initial_infecteds`: `rho = None` is the early return `Epi_Prob_discrete`; `rho = 1/4` the main branch;
`EBCM_discrete_from_graph` uses the default `rho = 1/N = 1/4` -/
example : Attack_rate_discrete_from_graph exW (1 / 2) none none none 1 = .ok (469489 / 1048576) ∧
    Attack_rate_discrete_from_graph exW (1 / 2) none none (some (1 / 4)) 1 = .ok (3467 / 8192) ∧
    EBCM_discrete_from_graph exW (1 / 2) none none none 0 1 false = .ok [[0, 1], [3, 4725 / 2048], [1, 1419 / 2048], [0, 1]] ∧
    ((1419 / 2048 + 1) / 4 : Rat) = 3467 / 8192 := by
  refine ⟨by decide +kernel, by decide +kernel, by decide +kernel, by decide +kernel⟩
/-- error cases: `rho` with a set; a foreign node; the empty graph with a set (ValueError), and — SURPRISE — the empty graph
without anything: the argument record is built (`Pk = {}`) and the BASE function raises ValueError (`Epi_Prob_discrete`),
resp. ZeroDivisionError with `rho` (default `phiS0`) -/
example : Attack_rate_discrete_from_graph exW (1 / 2) (some [0]) none (some (1 / 4)) 1 = .error "EoNError" ∧
    Attack_rate_discrete_from_graph exW (1 / 2) (some [7]) none none 1 = .error "EoNError" ∧
    Attack_rate_discrete_from_graph emptyW (1 / 2) (some []) none none 1 = .error "ValueError" ∧
    Attack_rate_discrete_from_graph emptyW (1 / 2) none none none 1 = .error "ValueError" ∧
    Attack_rate_discrete_from_graph emptyW (1 / 2) none none (some (1 / 2)) 1 = .error "ZeroDivisionError" ∧
    Attack_rate_cts_time_from_graph emptyW 1 1 none none none 1 = .error "ZeroDivisionError" := by
  refine ⟨by decide +kernel, by decide +kernel, by decide +kernel, by decide +kernel, by decide +kernel, by decide +kernel⟩
/-- an isolated node does no harm (`EBCM_discrete_from_graph_ok` needs no hypothesis on the degrees): edge 0–1 plus the isolated
node 2 (`isoW` of C06g), node 0 infected, `p = 1`: `phiS0 = 0` so `θ_1 = 0`, and the second step calls `psihatPrime(0)` —
which skips the degree-0 class (`… for k in Pk if k>0`) and returns `ψ̂'(0) = 1/3`: the call succeeds, `S + I + R = 3` at every index (`(2,1,0)`, `(1,1,1)`,
`(1,0,2)`; `theta = 1, 0, 0`), and `Attack_rate_discrete_from_graph` returns `2/3 = (I(2) + R(2))/3` of those data; likewise
with `rho = 1` and with the default `rho = 1/3` -/
example : EBCM_discrete_from_graph isoW 1 (some [0]) none none 0 1 false = .ok [[0, 1], [2, 1], [1, 1], [0, 1]] ∧
    EBCM_discrete_from_graph isoW 1 (some [0]) none none 0 2 false = .ok [[0, 1, 2], [2, 1, 1], [1, 1, 0], [0, 1, 2]] ∧
    EBCM_discrete_from_graph isoW 1 (some [0]) none none 0 2 true =
      .ok [[0, 1, 2], [2, 1, 1], [1, 1, 0], [0, 1, 2], [1, 0, 0]] ∧
    ((2 + 1 + 0 : Rat) = 3 ∧ (1 + 1 + 1 : Rat) = 3 ∧ (1 + 0 + 2 : Rat) = 3) ∧
    Attack_rate_discrete_from_graph isoW 1 (some [0]) none none 2 = .ok (2 / 3) ∧ ((0 + 2) / 3 : Rat) = 2 / 3 ∧
    EBCM_discrete_from_graph isoW 1 none none (some 1) 0 2 false = .ok [[0, 1, 2], [0, 0, 0], [3, 0, 0], [0, 3, 3]] ∧
    EBCM_discrete_from_graph isoW 1 none none none 0 2 false =
      .ok [[0, 1, 2], [2, 14 / 9, 14 / 9], [1, 4 / 9, 0], [0, 1, 13 / 9]] := by
  refine ⟨by decide +kernel, by decide +kernel, by decide +kernel, ⟨by decide +kernel, by decide +kernel, by decide +kernel⟩,
    by decide +kernel, by decide +kernel, by decide +kernel, by decide +kernel⟩
/-- … `psihatPrime(0)` of those argument records: a value, not an exception (`1·Pk[1]·Sk0[1]·0^0/Nk[1] = (2/3)·1/2`) -/
example : ((EBCM_discrete_from_graph_args isoW 1 (some [0]) none none 0 2 false).toOption.bind
    fun a => (a.psihatPrime 0).toOption) = some (1 / 3) ∧
    ((EBCM_discrete_from_graph_args isoW 1 none none (some (1 / 2)) 0 2 false).toOption.bind
    fun a => (a.psihatPrime 0).toOption) = some (1 / 3) := by
  constructor <;> decide +kernel
theorem isoW_okW : GraphOKW isoW [[1], [0], []] :=
  ⟨GraphOK.of_check isoW.toIArgs [[1], [0], []] (by intro u; simp [isoW]) (by decide +kernel), fun u hu => by
    have : u = 0 ∨ u = 1 ∨ u = 2 := by simp at hu; omega
    rcases this with rfl | rfl | rfl <;> rfl⟩
/-- `EBCM_discrete_from_graph_ok` instantiated on `isoW` (an isolated node; explicit sets, `rho`, default; any `p`, `tmin`, `tmax`) -/
example (p : Rat) (tmin tmax : Int) (full : Bool) :
    (∃ l, EBCM_discrete_from_graph isoW p (some [0]) none none tmin tmax full = .ok l) ∧
    (∃ l, EBCM_discrete_from_graph isoW p none none (some 1) tmin tmax full = .ok l) ∧
    (∃ l, EBCM_discrete_from_graph isoW p none none none tmin tmax full = .ok l) := by
  obtain ⟨h1, h2⟩ := EBCM_discrete_from_graph_ok isoW [[1], [0], []] isoW_okW p (by decide) tmin tmax full
  exact ⟨h1 [0] none ⟨by decide, by decide, by decide⟩, h2 none (some 1) (by simp), h2 none none (by simp)⟩
example : ∃ times S I R : List Rat,
    EBCM_discrete_from_graph exW (1 / 2) (some [0]) (some [3]) none 0 2 false = .ok [times, S, I, R] ∧
    Attack_rate_discrete_from_graph exW (1 / 2) (some [0]) (some [3]) none 2 = .ok ((I.getD 2 0 + R.getD 2 0) / 4) ∧
    S.getD 0 0 = 2 ∧ I.getD 0 0 = 1 ∧ R.getD 0 0 = 1 := by
  have hS : SetsOK C06c.exAdj [0] ((some [3] : Option (List Node)).getD []) := ⟨by decide, by decide, by decide⟩
  obtain ⟨l, hl⟩ := (EBCM_discrete_from_graph_ok exW C06c.exAdj exW_okW (1 / 2) (by decide) 0 2 false).1
    [0] (some [3]) hS
  obtain ⟨times, S, I, R, e, h1, -⟩ := Attack_rate_discrete_from_graph_is_EBCM exW C06c.exAdj exW_okW (1 / 2) [0]
    (some [3]) hS (by decide) 2 l hl
  obtain ⟨-, -, S', I', R', g1, g2, g3, s0, i0, r0, -⟩ := EBCM_discrete_from_graph_init exW C06c.exAdj exW_okW (1 / 2) [0]
    (some [3]) hS (by decide) 0 2 false l hl
  subst e
  simp only [List.getElem?_cons_succ, List.getElem?_cons_zero, Option.some.injEq] at g1 g2 g3
  subst g1 g2 g3
  have c1 : count C06c.exAdj (statusOf [0] [3]) St.S = 2 := by decide +kernel
  have c2 : count C06c.exAdj (statusOf [0] [3]) St.I = 1 := by decide +kernel
  have c3 : count C06c.exAdj (statusOf [0] [3]) St.R = 1 := by decide +kernel
  have h4 : ((C06c.exAdj.length : Nat) : Rat) = 4 := by decide +kernel
  simp only [Option.getD_some] at s0 i0 r0
  rw [c1] at s0; rw [c2] at i0; rw [c3] at r0
  rw [h4] at h1
  exact ⟨times, S, I, R, hl, h1, by simpa using s0, by simpa using i0, by simpa using r0⟩

/-- `SIR_compact_effective_degree_from_graph`: the default request (`rho = 1/4`): `Skappa0 = (3/4)·[0,1,2,1]`,
`I0 = 1`, `SI0 = (3/4)(1/4)·8`; errors; and (in general: C06j `SIR_compact_effective_degree_args_spec`) the explicit-sets record on `exW`: node 0
infected, node 3 recovered — node 1 has 2 non-recovered neighbours, node 2 has 2 (its neighbour 3 is recovered),
`SI0 = 2` -/
example : ((SIR_compact_effective_degree_from_graph_args exW 1 1 none none none 0 10 11 false).toOption.map
    fun a => (a.Skappa0, a.I0, a.R0, a.SI0)) = some ([0, 3 / 4, 3 / 2, 3 / 4], 1, 0, 3 / 2) := by decide +kernel
example : ((SIR_compact_effective_degree_from_graph_args exW 1 1 (some [0]) (some [3]) none 0 10 11 false).toOption.map
    fun a => (a.Skappa0, a.I0, a.R0, a.SI0)) = some ([0, 0, 2, 0], 1, 1, 2) := by decide +kernel
example : (match SIR_compact_effective_degree_from_graph_args exW 1 1 none (some [3]) (some (1 / 4)) 0 10 11 false with
    | .error e => e == "EoNError" | .ok _ => false) = true := by decide +kernel
example : (match SIR_compact_effective_degree_from_graph_args emptyW 1 1 none none none 0 10 11 false with
    | .error e => e == "ZeroDivisionError" | .ok _ => false) = true := by decide +kernel
example : (match SIR_compact_effective_degree_from_graph_args emptyW 1 1 none none (some (1 / 2)) 0 10 11 false with
    | .error e => e == "ValueError" | .ok _ => false) = true := by decide +kernel
example : ∃ l, SIR_compact_effective_degree_from_graph toyOdeint exW 1 1 none none none 0 10 11 true = .ok l ∧
    (∀ i, get l 1 i + get l 2 i + get l 3 i = 4) ∧ get l 1 0 = 3 ∧ get l 2 0 = 1 ∧ get l 3 0 = 0 := by
  have hex : ∃ l, SIR_compact_effective_degree_from_graph toyOdeint exW 1 1 none none none 0 10 11 true = .ok l := by
    unfold SIR_compact_effective_degree_from_graph
    rw [SIR_compact_effective_degree_args_rho exW C06c.exAdj exW_ok 1 1 none none (by simp) (by decide) 0 10 11 true]
    simp only [GenHelpProofs.ok_bind]
    obtain ⟨l, hl, -⟩ := C06d.SIR_compact_effective_degree_shape toyOdeint
      (V.ofList (vec (maxDeg C06c.exAdj) fun k => rhoSk C06c.exAdj ((none : Option Rat).getD (1 / (C06c.exAdj.length : Rat))) k))
      (rhoI C06c.exAdj ((none : Option Rat).getD (1 / (C06c.exAdj.length : Rat)))) 0
      (rhoSI C06c.exAdj ((none : Option Rat).getD (1 / (C06c.exAdj.length : Rat)))) 1 1 0 10 (11 : Int).toNat true
    exact ⟨l, hl⟩
  obtain ⟨l, h⟩ := hex
  obtain ⟨hc, hi⟩ := SIR_compact_effective_degree_from_graph_rho toyOdeint exW C06c.exAdj exW_ok 1 1 none none (by simp)
    0 10 11 true l h
  obtain ⟨i1, i2, i3⟩ := hi toyOdeint_zero
  have h4 : ((C06c.exAdj.length : Nat) : Rat) = 4 := by decide +kernel
  rw [h4] at hc
  refine ⟨l, h, hc, ?_, ?_, i3⟩
  · rw [i1]; simp [rhoS, h4]; norm_num
  · rw [i2]; simp [rhoI, h4]

end GenWrapProps3
