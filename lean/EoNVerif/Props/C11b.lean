import EoNVerif.Proofs.GenEventSIR
import EoNVerif.Props.C11
import EoNVerif.Props.C04b
/-!
C11b — the Lean code GENERATED statement by statement from `myQueue`, `_process_trans_SIR_`, `_process_rec_SIR_` and
`fast_nonMarkov_SIR` (`EoNVerif/Gen/EventSIRGen.lean`) refines the hand-written model `EventSIR` run with `heapq`'s
tie-breaking (`sel = fun _ => 0`), hence the first-passage-percolation theorems of C11 (proved for every tie-breaking)
hold of the generated code.

`Agree`, `KeysOK`, `WFJ`, `StepInv`, `QRel`, `Rel`, `OutRel`, `genTrans`, `genRecov`, `tableArgs` are defined in
`EoNVerif/Proofs/GenEventSIR.lean`.
-/
open EventSIR

namespace GenESIR

/-- **refinement, forward**: whenever the generated `fast_nonMarkov_SIR` returns normally it has not touched the
random tape, the model run with the same fuel and `heapq` tie-breaking has emptied its queue, and the returned
objects are the model's: the four arrays are `rows s len(initial_infecteds)`, the transmission list is the model's
(in chronological order), `status`, `rec_time`, `pred_inf_time` coincide, the queue is empty. -/
theorem gen_run_refines {A : EArgs} {P : ESParams} (hA : Agree A P) (hW : WFJ P) (infs recs : List Node) (fuel : Nat)
    (ts : TapeSt) (σ : Loc) (ts' : TapeSt) (h : run A infs recs fuel ts = .ok (σ, ts')) :
    ts' = ts ∧ (EventSIR.run P (fun _ => 0) infs recs fuel).queue = [] ∧
      OutRel infs.length σ (EventSIR.run P (fun _ => 0) infs recs fuel) :=
  run_refines hA (StepInv.ofWFJ hW) infs recs trivial fuel ts σ ts' h

/-- the same with the `dict` hypothesis required only along the run: `J` is any invariant of the model's event loop
(under `heapq` tie-breaking) which implies `KeysOK` for the targets of the queued transmissions -/
theorem gen_run_refines_inv {A : EArgs} {P : ESParams} {J : ESState → Prop} (hA : Agree A P) (hJ : StepInv P J)
    (infs recs : List Node) (h0 : J (init P infs recs)) (fuel : Nat)
    (ts : TapeSt) (σ : Loc) (ts' : TapeSt) (h : run A infs recs fuel ts = .ok (σ, ts')) :
    ts' = ts ∧ (EventSIR.run P (fun _ => 0) infs recs fuel).queue = [] ∧
      OutRel infs.length σ (EventSIR.run P (fun _ => 0) infs recs fuel) :=
  run_refines hA hJ infs recs h0 fuel ts σ ts' h

/-- **refinement, backward**: if the model run empties its queue within `fuel` events, the generated function with
one more unit of fuel returns normally (no `IndexError`, no `KeyError`, no "fuel") with the model's objects. -/
theorem gen_run_refines_back {A : EArgs} {P : ESParams} (hA : Agree A P) (hW : WFJ P) (infs recs : List Node)
    (fuel : Nat) (ts : TapeSt) (hq : (EventSIR.run P (fun _ => 0) infs recs fuel).queue = []) :
    ∃ σ, run A infs recs (fuel + 1) ts = .ok (σ, ts) ∧
      OutRel infs.length σ (EventSIR.run P (fun _ => 0) infs recs fuel) :=
  run_refines_back hA (StepInv.ofWFJ hW) infs recs trivial fuel ts hq

/-- the generated function raises no Python exception: it returns, or the event bound `fuel` was too small -/
theorem gen_run_total {A : EArgs} {P : ESParams} (hA : Agree A P) (hW : WFJ P) (infs recs : List Node) (fuel : Nat)
    (ts : TapeSt) :
    (∃ σ, run A infs recs fuel ts = .ok (σ, ts)) ∨ run A infs recs fuel ts = .error "fuel" :=
  run_total hA (StepInv.ofWFJ hW) infs recs trivial fuel ts

/-- `run_refines` for table-driven rules on well-formed inputs (the C11 invariant `Inv` is the step invariant) -/
theorem run_refines_table {nodes : List Node} {nbrs : Node → List Node} {delay : Node → Node → ERat} {dur : Node → ERat}
    {tmin : Rat} {tmax : ERat} {infs recs : List Node} (h : WF nodes nbrs delay dur infs recs) {A : EArgs}
    (hA : Agree A (tableParams nodes nbrs delay dur tmin tmax)) {fuel : Nat} {ts : TapeSt} {σ : Loc} {ts' : TapeSt}
    (hrun : run A infs recs fuel ts = .ok (σ, ts')) :
    (EventSIR.run (tableParams nodes nbrs delay dur tmin tmax) (fun _ => 0) infs recs fuel).queue = [] ∧
      OutRel infs.length σ (EventSIR.run (tableParams nodes nbrs delay dur tmin tmax) (fun _ => 0) infs recs fuel) :=
  (run_refines hA (StepInv.table h tmin tmax) infs recs (Inv.init h) fuel ts σ ts' hrun).2

section FPP
variable (nodes : List Node) (nbrs : Node → List Node) (delay : Node → Node → ERat) (dur : Node → ERat)
  (tmin : Rat) (tmax : ERat) (infs recs : List Node)

/-- **first-passage percolation for the generated code**: whenever the generated `fast_nonMarkov_SIR` (called with
table-driven rules) returns, its transmission list and its recoveries satisfy the C11 predicate `isFPP`: every node is
reported exactly at its shortest-path time when that is before `tmax` and not at all otherwise, infectors are
shortest-path predecessors, recoveries are `dur` later.  (`genTrans σ` lists the transmissions most recent first.) -/
theorem gen_fpp (h : WF nodes nbrs delay dur infs recs) {A : EArgs}
    (hA : Agree A (tableParams nodes nbrs delay dur tmin tmax)) (fuel : Nat) (ts : TapeSt) (σ : Loc) (ts' : TapeSt)
    (hrun : run A infs recs fuel ts = .ok (σ, ts')) :
    isFPP nodes nbrs delay dur tmin tmax infs recs (genTrans σ) (genRecov nodes recs σ) = true := by
  obtain ⟨hq, hO⟩ := run_refines_table h hA hrun
  rw [hO.genTrans_eq, hO.genRecov_eq]
  exact fpp nodes nbrs delay dur tmin tmax infs recs h (fun _ => 0) fuel hq

/-- each node is reported infected at most once by the generated code -/
theorem gen_fpp_once (h : WF nodes nbrs delay dur infs recs) {A : EArgs}
    (hA : Agree A (tableParams nodes nbrs delay dur tmin tmax)) (fuel : Nat) (ts : TapeSt) (σ : Loc) (ts' : TapeSt)
    (hrun : run A infs recs fuel ts = .ok (σ, ts')) (v : Node) :
    ((genTrans σ).filter fun e => e.2.2 == v).length ≤ 1 := by
  obtain ⟨_, hO⟩ := run_refines_table h hA hrun
  rw [hO.genTrans_eq]
  exact fpp_once nodes nbrs delay dur tmin tmax infs recs h (fun _ => 0) fuel v

/-- the same statement for the transmission list in the order in which the generated code returns it
(chronological); all its times are finite, so `filterMap decT` only strips the `some`s (`OutRel.trans_eq`) -/
theorem gen_fpp_chrono (h : WF nodes nbrs delay dur infs recs) {A : EArgs}
    (hA : Agree A (tableParams nodes nbrs delay dur tmin tmax)) (fuel : Nat) (ts : TapeSt) (σ : Loc) (ts' : TapeSt)
    (hrun : run A infs recs fuel ts = .ok (σ, ts')) :
    isFPP nodes nbrs delay dur tmin tmax infs recs (σ.transmissions.filterMap decT) (genRecov nodes recs σ) = true ∧
      σ.transmissions = (σ.transmissions.filterMap decT).map encT := by
  have hrev : σ.transmissions.filterMap decT = (genTrans σ).reverse := by
    unfold genTrans; rw [List.reverse_reverse]
  obtain ⟨_, hO⟩ := run_refines_table h hA hrun
  refine ⟨?_, ?_⟩
  · rw [hrev, isFPP_reverse _ _ _ _ _ _ _ _ _ _
      (gen_fpp_once nodes nbrs delay dur tmin tmax infs recs h hA fuel ts σ ts' hrun)]
    exact gen_fpp nodes nbrs delay dur tmin tmax infs recs h hA fuel ts σ ts' hrun
  · rw [hrev]; exact hO.trans_eq

/-- **soundness in explicit form**: each transmission reported by the generated code goes along a kept edge from a
node reported infected `delay` earlier, or is the source-less entry of an initial node at `tmin`; all times `< tmax` -/
theorem gen_fpp_sound (h : WF nodes nbrs delay dur infs recs) {A : EArgs}
    (hA : Agree A (tableParams nodes nbrs delay dur tmin tmax)) (fuel : Nat) (ts : TapeSt) (σ : Loc) (ts' : TapeSt)
    (hrun : run A infs recs fuel ts = .ok (σ, ts')) :
    ∀ e ∈ genTrans σ, ERat.lt (some e.1) tmax = true ∧
      match e.2.1 with
      | none => e.2.2 ∈ infs ∧ e.1 = tmin
      | some u => keeps nbrs delay dur u e.2.2 = true ∧ u ∉ recs ∧
          ∃ eu ∈ genTrans σ, eu.2.2 = u ∧ ERat.add (some eu.1) (delay u e.2.2) = some e.1 := by
  obtain ⟨_, hO⟩ := run_refines_table h hA hrun
  rw [hO.genTrans_eq]
  exact fpp_sound nodes nbrs delay dur tmin tmax infs recs h (fun _ => 0) fuel

/-- **total correctness**: with an event bound above `(N+1)² + N + 1` the generated function returns (tape untouched)
and its output is first-passage percolation.  The bound is that of `fpp_terminates` (C11: that many events empty the model's
queue) plus the one unit of fuel the generated loop spends on the last test (`run_refines_back`). -/
theorem gen_fpp_total (h : WF nodes nbrs delay dur infs recs) {A : EArgs}
    (hA : Agree A (tableParams nodes nbrs delay dur tmin tmax)) (fuel : Nat) (ts : TapeSt)
    (hf : (nodes.length + 1) * (nodes.length + 1) + nodes.length + 1 < fuel) :
    ∃ σ, run A infs recs fuel ts = .ok (σ, ts) ∧
      isFPP nodes nbrs delay dur tmin tmax infs recs (genTrans σ) (genRecov nodes recs σ) = true := by
  obtain ⟨f, rfl⟩ : ∃ f, fuel = f + 1 := ⟨fuel - 1, by omega⟩
  have hq := fpp_terminates nodes nbrs delay dur tmin tmax infs recs h (fun _ => 0) f (by omega)
  obtain ⟨σ, hr, _⟩ := run_refines_back hA (StepInv.table h tmin tmax) infs recs (Inv.init h) f ts hq
  exact ⟨σ, hr, gen_fpp nodes nbrs delay dur tmin tmax infs recs h hA (f + 1) ts σ ts hr⟩

/-! #### the returned arrays (C04 / C05 transported to the generated code) -/

/-- the four arrays returned by the generated code, as a trajectory (all times are finite: `OutRel.times`) -/
def genTraj (σ : Loc) : Traj := { times := σ.times.filterMap id, cols := [σ.S, σ.I, σ.R] }

theorem OutRel.genTraj_eq {k : Nat} {σ : Loc} {s : ESState} (h : OutRel k σ s) : genTraj σ = traj s k := by
  unfold genTraj traj
  rw [h.times, h.S, h.I, h.R, List.filterMap_map]
  congr 1
  exact List.filterMap_some

/-- **C04 for the generated code**: the returned arrays are well-formed (equal lengths, first time `tmin`, ordered,
below `tmax`, non-negative counts summing to `N`, one legal move per row) -/
theorem gen_rows_wf (h : WF nodes nbrs delay dur infs recs) (hrn : recs.Nodup)
    (htm : ERat.lt (some tmin) tmax = true) {A : EArgs}
    (hA : Agree A (tableParams nodes nbrs delay dur tmin tmax)) (fuel : Nat) (ts : TapeSt) (σ : Loc) (ts' : TapeSt)
    (hrun : run A infs recs fuel ts = .ok (σ, ts')) :
    Pred.wellFormed TrajKind.sirCont nodes.length tmin tmax false false (genTraj σ) = true := by
  obtain ⟨hq, hO⟩ := run_refines_table h hA hrun
  rw [hO.genTraj_eq]
  exact rows_wf nodes nbrs delay dur tmin tmax infs recs h hrn htm (fun _ => 0) fuel hq

/-- **C05 for the generated code**: row 0 of the returned arrays is the requested initial condition (this is where
`heapq`'s tie-breaking — smallest counter first, `sel = 0` — matters) -/
theorem gen_row0_ic (h : WF nodes nbrs delay dur infs recs) (hrn : recs.Nodup)
    (htm : ERat.lt (some tmin) tmax = true) {A : EArgs}
    (hA : Agree A (tableParams nodes nbrs delay dur tmin tmax)) (fuel : Nat) (ts : TapeSt) (σ : Loc) (ts' : TapeSt)
    (hrun : run A infs recs fuel ts = .ok (σ, ts')) :
    Pred.initialOK nodes.length infs recs (Pred.row (genTraj σ).cols 0) none true = true := by
  obtain ⟨hq, hO⟩ := run_refines_table h hA hrun
  rw [hO.genTraj_eq]
  exact row0_ic nodes nbrs delay dur tmin tmax infs recs h hrn htm fuel hq

end FPP

end GenESIR

/-! ## non-vacuity -/
open GenESIR

/-- what is compared in the examples: the four returned arrays … -/
def c11bRows (r : Except String (Loc × TapeSt)) : Option (List ERat × List Int × List Int × List Int) :=
  match r with
  | .ok (σ, _) => some (σ.times, σ.S, σ.I, σ.R)
  | .error _ => none

/-- … and the transmission list -/
def c11bTrans (r : Except String (Loc × TapeSt)) : Option (List (ERat × Option Node × Node)) :=
  match r with
  | .ok (σ, _) => some σ.transmissions
  | .error _ => none

/-! ### example 1: the path 0 – 1 – 2 – 3, one initial infection, an infinite duration, a cut at `tmax = 6` -/
def pNb (u : Node) : List Node := match u with | 0 => [1] | 1 => [0, 2] | 2 => [1, 3] | 3 => [2] | _ => []
def pDelay (u v : Node) : ERat :=
  if u = 0 ∧ v = 1 then some 1 else if u = 1 ∧ v = 2 then some (1/2) else if u = 2 ∧ v = 3 then some 4 else some 7
def pDur (u : Node) : ERat := if u = 0 then some 2 else if u = 1 then some 1 else if u = 2 then none else some 1

/-- the generated function evaluates to the expected rows (the recovery of node 3 at 13/2 ≥ tmax is cut) -/
example : c11bRows (run (tableArgs [0,1,2,3] pNb pDelay pDur 0 (some 6)) [0] [] 40 { tape := [] }) =
      some ([some 0, some 1, some (3/2), some 2, some 2, some (11/2)], [3, 2, 1, 1, 1, 0], [1, 2, 3, 2, 1, 2],
        [0, 0, 0, 1, 2, 2]) ∧
    c11bTrans (run (tableArgs [0,1,2,3] pNb pDelay pDur 0 (some 6)) [0] [] 40 { tape := [] }) =
      some [(some 0, none, 0), (some 1, some 0, 1), (some (3/2), some 1, 2), (some (11/2), some 2, 3)] := by
  decide +kernel

/-- … and these are the model's rows -/
example : rows (EventSIR.run (tableParams [0,1,2,3] pNb pDelay pDur 0 (some 6)) (fun _ => 0) [0] [] 40) 1 =
    ([0, 1, 3/2, 2, 2, 11/2], [3, 2, 1, 1, 1, 0], [1, 2, 3, 2, 1, 2], [0, 0, 0, 1, 2, 2]) := by
  decide +kernel

/-- the entries of a table written as a chain of tests are non-negative when each listed value is -/
theorem ERat.nonneg_ite {c : Prop} [Decidable c] {a b : ERat} (ha : ∀ d, a = some d → 0 ≤ d)
    (hb : ∀ d, b = some d → 0 ≤ d) : ∀ d, (if c then a else b) = some d → 0 ≤ d := by
  split
  · exact ha
  · exact hb

theorem ERat.nonneg_some {x : Rat} (h : 0 ≤ x) : ∀ d, (some x : ERat) = some d → 0 ≤ d :=
  fun _ e => Option.some.inj e ▸ h

theorem pNb_nodup : ∀ u, (pNb u).Nodup := by
  intro u; unfold pNb; split <;> decide

theorem pWF : WF [0,1,2,3] pNb pDelay pDur [0] [] where
  nodup := by decide
  nbr_nodup := by decide
  nbr_mem := by decide
  delay_nonneg := fun _ _ =>
    ERat.nonneg_ite (ERat.nonneg_some (by norm_num)) <|
    ERat.nonneg_ite (ERat.nonneg_some (by norm_num)) <|
    ERat.nonneg_ite (ERat.nonneg_some (by norm_num)) <|
    ERat.nonneg_some (by norm_num)
  dur_nonneg := fun _ =>
    ERat.nonneg_ite (ERat.nonneg_some (by norm_num)) <|
    ERat.nonneg_ite (ERat.nonneg_some (by norm_num)) <|
    ERat.nonneg_ite (fun _ h => nomatch h) <|
    ERat.nonneg_some (by norm_num)
  infs_nodup := by decide
  infs_mem := by decide
  recs_mem := by decide
  disjoint := by decide

/-- the hypotheses of the refinement theorems hold: the generated run above is related to the model run -/
example : ∃ σ, run (tableArgs [0,1,2,3] pNb pDelay pDur 0 (some 6)) [0] [] 40 { tape := [] } = .ok (σ, { tape := [] }) ∧
    OutRel 1 σ (EventSIR.run (tableParams [0,1,2,3] pNb pDelay pDur 0 (some 6)) (fun _ => 0) [0] [] 39) ∧
    isFPP [0,1,2,3] pNb pDelay pDur 0 (some 6) [0] [] (genTrans σ) (genRecov [0,1,2,3] [] σ) = true := by
  have hA := agree_tableArgs [0,1,2,3] pNb pDelay pDur 0 (some 6)
  have hW := WFJ_table [0,1,2,3] pNb pDelay pDur 0 (some 6) pNb_nodup
  have hq := fpp_terminates [0,1,2,3] pNb pDelay pDur 0 (some 6) [0] [] pWF (fun _ => 0) 39 (by decide)
  obtain ⟨σ, hr, hO⟩ := gen_run_refines_back hA hW [0] [] 39 { tape := [] } hq
  exact ⟨σ, hr, hO, gen_fpp [0,1,2,3] pNb pDelay pDur 0 (some 6) [0] [] pWF hA 40 _ σ _ hr⟩

/-! ### example 2: a triangle with two pendant nodes, two initial infections (a tie at `tmin`), an initially
recovered node, a zero delay and a three-way tie at time 1.  Node 2 is reached at time 1 both from 0 and from 1;
`heapq` (smallest counter) lets 0 be the infector, as the model with `sel = 0` does (`sel = 1` would report 1). -/
def tNb (u : Node) : List Node :=
  match u with | 0 => [1, 2] | 1 => [0, 2, 3] | 2 => [0, 1, 4] | 3 => [1] | 4 => [2] | _ => []
def tDelay (u v : Node) : ERat :=
  if u = 0 ∧ v = 2 then some 1 else if u = 1 ∧ v = 2 then some 1 else if u = 2 ∧ v = 4 then some 0
  else if u = 1 ∧ v = 3 then some 1 else some 9
def tDur (u : Node) : ERat := if u = 0 then some 1 else if u = 1 then some 1 else some 3

example : c11bRows (run (tableArgs [0,1,2,3,4] tNb tDelay tDur 0 none) [0, 1] [3] 60 { tape := [] }) =
      some ([some 0, some 1, some 1, some 1, some 1, some 4, some 4], [2, 2, 1, 1, 0, 0, 0], [2, 1, 2, 1, 2, 1, 0],
        [1, 2, 2, 3, 3, 4, 5]) ∧
    c11bTrans (run (tableArgs [0,1,2,3,4] tNb tDelay tDur 0 none) [0, 1] [3] 60 { tape := [] }) =
      some [(some 0, none, 0), (some 0, none, 1), (some 1, some 0, 2), (some 1, some 2, 4)] := by
  decide +kernel

example : (EventSIR.run (tableParams [0,1,2,3,4] tNb tDelay tDur 0 none) (fun _ => 0) [0, 1] [3] 60).trans.reverse =
    [(0, none, 0), (0, none, 1), (1, some 0, 2), (1, some 2, 4)] := by
  decide +kernel

/-- with too small an event bound the generated function does not return (by `gen_run_total` the error can only be "fuel") -/
example : (run (tableArgs [0,1,2,3,4] tNb tDelay tDur 0 none) [0, 1] [3] 5 { tape := [] }).toOption.isNone = true := by
  decide +kernel

theorem tWF : WF [0,1,2,3,4] tNb tDelay tDur [0, 1] [3] where
  nodup := by decide
  nbr_nodup := by decide
  nbr_mem := by decide
  delay_nonneg := fun _ _ =>
    ERat.nonneg_ite (ERat.nonneg_some (by norm_num)) <|
    ERat.nonneg_ite (ERat.nonneg_some (by norm_num)) <|
    ERat.nonneg_ite (ERat.nonneg_some (by norm_num)) <|
    ERat.nonneg_ite (ERat.nonneg_some (by norm_num)) <|
    ERat.nonneg_some (by norm_num)
  dur_nonneg := fun _ =>
    ERat.nonneg_ite (ERat.nonneg_some (by norm_num)) <|
    ERat.nonneg_ite (ERat.nonneg_some (by norm_num)) <|
    ERat.nonneg_some (by norm_num)
  infs_nodup := by decide
  infs_mem := by decide
  recs_mem := by decide
  disjoint := by decide

/-- total correctness instantiated: the bound is `(5+1)² + 5 + 1 = 42 < 60` -/
example : ∃ σ, run (tableArgs [0,1,2,3,4] tNb tDelay tDur 0 none) [0, 1] [3] 60 { tape := [] } = .ok (σ, { tape := [] }) ∧
    isFPP [0,1,2,3,4] tNb tDelay tDur 0 none [0, 1] [3] (genTrans σ) (genRecov [0,1,2,3,4] [3] σ) = true :=
  gen_fpp_total [0,1,2,3,4] tNb tDelay tDur 0 none [0, 1] [3] tWF
    (agree_tableArgs [0,1,2,3,4] tNb tDelay tDur 0 none) 60 { tape := [] } (by decide)

#print axioms GenESIR.gen_run_refines
#print axioms GenESIR.gen_run_refines_inv
#print axioms GenESIR.gen_run_refines_back
#print axioms GenESIR.gen_run_total
#print axioms GenESIR.gen_fpp
#print axioms GenESIR.gen_fpp_once
#print axioms GenESIR.gen_fpp_chrono
#print axioms GenESIR.gen_fpp_sound
#print axioms GenESIR.gen_fpp_total
#print axioms GenESIR.gen_rows_wf
#print axioms GenESIR.gen_row0_ic
