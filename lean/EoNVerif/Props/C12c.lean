import EoNVerif.Proofs.GenDiscrete
/-!
C12c — the code GENERATED from `discrete_SIR` / `basic_discrete_SIS` / `percolate_network` (`Gen/DiscreteGen.lean`,
namespaces `GenDSIR`, `GenDSIS`, `GenDisc`) refines the hand models of C12 / C12b (`Discrete`, `ReedFrost`).

Conventions.  `GenDiscrete.toArgs0 P iter full infs orecs` / `GenDiscrete.toArgs P iter full infs orecs` are the generated
arguments (`PyDM.DArgs`) for the hand instance `P : DParams`:
`order := |P.nodes|`, `nbrs := P.nbrs`, `tmin`, `tmax`, `initial_infecteds := infs`, `initial_recovereds := orecs`
(`None` or a list; the hand model is run with `orecs.getD []`), and
* `toArgs0`: `testTrans u v := pure (P.rule 0 u v)`, `testRec := none` (default recovery rule);
* `toArgs`: `testTrans u v := ageRule P.rule u v` — answers `P.rule a u v` where `a` is the number of recovery tests of `u`
  in the call log — and `testRec := P.recSteps.map recCb`, `recCb k u` logs the call `[1, u]` and answers True at the
  `k u`-th call for `u`.
`iter` is the iteration order of a Python `set`: every theorem holds for EVERY `iter` with `∀ l, (iter l).Perm l`.
The hypothesis `Discrete.WF P infs recs` (Proofs/Discrete.lean) is the one of C12: `P.nodes` duplicate free, neighbour
lists inside `P.nodes`, `infs`/`recs` duplicate free, inside `P.nodes` and disjoint, and `k u ≥ 1` for a recovery rule
`some k`.
-/
open PyDM

namespace C12c
open GenDiscrete

/-- **A1 — `discrete_SIR`, stateless transmission rule, default recovery rule, `return_full_data=False`.**
For every start state `(d, ts)` of the callback script / random tape and every permutation-valued `iter`:
if the hand model has stopped within `fuel` generations (`Discrete.stopped`: no infecteds left or `t ≥ tmax`), the
generated `discrete_SIR` succeeds with every fuel `n > fuel`, leaves the callback state and the tape untouched, and
returns the rows of the hand model (which keeps them reversed), its `infecteds` up to order, its `susceptible` table
and counters; if the hand model has not stopped after `fuel` generations the generated loop raises `"fuel"` for every
`n ≤ fuel + 1` (the generated loop needs one unit of fuel per generation plus one for the final test). -/
theorem discrete_SIR_refines_default (P : DParams) (iter : List Node → List Node) (hiter : ∀ l, (iter l).Perm l)
    (infs : List Node) (orecs : Option (List Node)) (hwf : Discrete.WF P infs (orecs.getD []))
    (hrec : P.recSteps = none) (fuel : Nat) (d : DSt) (ts : TapeSt) :
    let s := Discrete.run P infs (orecs.getD []) fuel
    (Discrete.stopped P s → ∀ n, fuel < n →
      ∃ σ, GenDSIR.run (toArgs0 P iter false infs orecs) n d ts = .ok ((σ, d), ts) ∧
        σ.t = s.t.reverse ∧ σ.S = s.S.reverse ∧ σ.I = s.I.reverse ∧ σ.R = s.R.reverse ∧
        σ.infecteds.Perm s.inf ∧ σ.susceptible = s.sus ∧ σ.nS = s.nS ∧ σ.totR = s.totR) ∧
    (¬ Discrete.stopped P s → ∀ n, n ≤ fuel + 1 →
      GenDSIR.run (toArgs0 P iter false infs orecs) n d ts = .error "fuel") := by
  intro s
  obtain ⟨hA, hI⟩ := toArgs0_ok P iter hiter false infs orecs
  obtain ⟨h1, h2⟩ := run_refines _ P infs orecs hA hI hwf rfl (fun e s => (∀ u, s.age u = 0) ∧ e = d)
    (gen_toArgs0 P iter hiter infs orecs hwf.nodup hwf.nbr_mem hrec d) fuel d ⟨fun _ => rfl, rfl⟩
  refine ⟨fun hst n hn => ?_, fun hst n hn => h2 hst n hn ts⟩
  obtain ⟨σ, d', hrun, hr, -, rfl⟩ := h1 hst n hn
  exact ⟨σ, by rw [hrun]; rfl, hr.t, hr.S, hr.I, hr.R, hr.inf, hr.sus, hr.nS, hr.totR⟩

/-- **A2 — `discrete_SIR` with a recovery rule ("recover at the k-th test") and a transmission rule that may depend on
the number of steps the source has been infectious, `return_full_data=False`.**  `P.recSteps` may be `none` (default
rule) or `some k`; the callbacks are the logged ones of `toArgs`.  From every callback state whose log contains no
recovery test (`cnt d u = 0`) and every tape: same conclusion as A1, the tape is untouched, the answer script is
untouched, and the final log counts the ages of the hand model (`cnt d' u = s.age u`). -/
theorem discrete_SIR_refines_recovery (P : DParams) (iter : List Node → List Node) (hiter : ∀ l, (iter l).Perm l)
    (infs : List Node) (orecs : Option (List Node)) (hwf : Discrete.WF P infs (orecs.getD []))
    (fuel : Nat) (d : DSt) (hd : ∀ u, cnt d u = 0) (ts : TapeSt) :
    let s := Discrete.run P infs (orecs.getD []) fuel
    (Discrete.stopped P s → ∀ n, fuel < n →
      ∃ σ d', GenDSIR.run (toArgs P iter false infs orecs) n d ts = .ok ((σ, d'), ts) ∧
        σ.t = s.t.reverse ∧ σ.S = s.S.reverse ∧ σ.I = s.I.reverse ∧ σ.R = s.R.reverse ∧
        σ.infecteds.Perm s.inf ∧ σ.susceptible = s.sus ∧ σ.nS = s.nS ∧ σ.totR = s.totR ∧
        (∀ u, cnt d' u = s.age u) ∧ d'.answers = d.answers) ∧
    (¬ Discrete.stopped P s → ∀ n, n ≤ fuel + 1 →
      GenDSIR.run (toArgs P iter false infs orecs) n d ts = .error "fuel") := by
  intro s
  obtain ⟨hA, hI⟩ := toArgs_ok P iter hiter false infs orecs
  obtain ⟨h1, h2⟩ := run_refines _ P infs orecs hA hI hwf rfl
    (fun e s => (∀ u, cnt e u = s.age u) ∧ e.answers = d.answers)
    (gen_toArgs P iter hiter infs orecs hwf.nodup hwf.nbr_mem d.answers) fuel d ⟨hd, rfl⟩
  refine ⟨fun hst n hn => ?_, fun hst n hn => h2 hst n hn ts⟩
  obtain ⟨σ, d', hrun, hr, hage, hans⟩ := h1 hst n hn
  exact ⟨σ, d', by rw [hrun]; rfl, hr.t, hr.S, hr.I, hr.R, hr.inf, hr.sus, hr.nS, hr.totR, hage, hans⟩

/-- for a stateless rule (`Discrete.Ageless P`) the logged transmission callback of `toArgs` is the plain
`test_transmission(u, v) = P.rule 0 u v`: A2 then is the statement for a stateless rule with a recovery rule -/
theorem ageRule_of_ageless (P : DParams) (h : Discrete.Ageless P) :
    ageRule P.rule = fun u v => (pure (P.rule 0 u v) : DM Bool) := by
  funext u v st
  show (pure (P.rule (cnt st u) u v, st) : TM (Bool × DSt)) = pure (P.rule 0 u v, st)
  rw [h (cnt st u) u v]

/-- **A3 — `discrete_SIR` with `return_full_data=True`, on an arbitrary tape** (the extra work consumes one
`random.choice` draw per newly infected node).  If the run with fuel `n` succeeds, then `n = m + 1`, the hand model has
stopped within `m` generations and

* the rows, `infecteds`, `susceptible`, the counters and the age log are those of the hand model, exactly as without
  `return_full_data` — and the run with `return_full_data=False` on the same inputs succeeds with the same rows;
* `transmissions` is the list of initial rows `(tmin-1, None, v)`, `v ∈ infs` (in order), followed by rows `(t, u, v)`
  which, as pairs `(v, t)`, are a permutation of the model's infector records `s.infectors` (one row per newly infected
  node and generation) and, as pairs `(v, t+1)`, a permutation of the model's infection times `s.infTime` (the object of
  `Discrete.bfs_correct`); in every such row `u` is one of the recorded possible infectors of `v` at step `t` (an
  infectious node whose contact `u → v` succeeded at that step) and `v ∈ P.nbrs u`. -/
theorem discrete_SIR_full_data (P : DParams) (iter : List Node → List Node) (hiter : ∀ l, (iter l).Perm l)
    (infs : List Node) (orecs : Option (List Node)) (hwf : Discrete.WF P infs (orecs.getD []))
    (n : Nat) (d : DSt) (hd : ∀ u, cnt d u = 0) (ts : TapeSt) (σ : GenDSIR.Loc) (d' : DSt) (ts' : TapeSt)
    (hrun : GenDSIR.run (toArgs P iter true infs orecs) n d ts = .ok ((σ, d'), ts')) :
    ∃ m, n = m + 1 ∧
      let s := Discrete.run P infs (orecs.getD []) m
      Discrete.stopped P s ∧
      σ.t = s.t.reverse ∧ σ.S = s.S.reverse ∧ σ.I = s.I.reverse ∧ σ.R = s.R.reverse ∧
      σ.infecteds.Perm s.inf ∧ σ.susceptible = s.sus ∧ σ.nS = s.nS ∧ σ.totR = s.totR ∧
      (∀ u, cnt d' u = s.age u) ∧ d'.answers = d.answers ∧
      (∃ σ0 d0, GenDSIR.run (toArgs P iter false infs orecs) n d ts = .ok ((σ0, d0), ts) ∧
        σ0.t = σ.t ∧ σ0.S = σ.S ∧ σ0.I = σ.I ∧ σ0.R = σ.R ∧ σ0.infecteds.Perm σ.infecteds ∧
        σ0.susceptible = σ.susceptible) ∧
      ∃ rows, σ.transmissions = infs.map (fun v => (P.tmin - 1, none, v)) ++ rows ∧
        (rows.map fun r => (r.2.2, r.1)).Perm (s.infectors.map fun e => (e.1, e.2.1)) ∧
        (rows.map fun r => (r.2.2, r.1 + 1)).Perm s.infTime ∧
        ∀ r ∈ rows, ∃ u l, r.2.1 = some u ∧ (r.2.2, r.1, l) ∈ s.infectors ∧ u ∈ l ∧ r.2.2 ∈ P.nbrs u := by
  obtain ⟨hA, hI⟩ := toArgs_ok P iter hiter true infs orecs
  have hr1 : Rel P (initLocFull (toArgs P iter true infs orecs)) (Discrete.init P infs (orecs.getD [])) :=
    HFrame.rel (rel_init _ P infs orecs hA hI hwf) rfl
  rw [run_true _ rfl] at hrun
  obtain ⟨m, hm, hst, hr, hage, hans, hT⟩ := loop_pc _ P rfl
    (fun σ e s => (∀ u, cnt e u = s.age u) ∧ e.answers = d.answers ∧ TInv P infs σ s)
    (gen_toArgs_full P iter hiter infs orecs hwf.nodup hwf.nbr_mem d.answers) n _ _ d ts σ d' ts' hr1
    ⟨hd, rfl, [], (List.append_nil _).symm, List.Perm.nil, List.Perm.nil, fun _ hr => by cases hr⟩ hrun
  refine ⟨m, hm, hst, hr.t, hr.S, hr.I, hr.R, hr.inf, hr.sus, hr.nS, hr.totR, hage, hans, ?_, hT⟩
  obtain ⟨σ0, d0, h0, ht, hS, hI', hR, hinf, hsus, -⟩ :=
    (discrete_SIR_refines_recovery P iter hiter infs orecs hwf m d hd ts).1 hst n (by omega)
  exact ⟨σ0, d0, h0, ht.trans hr.t.symm, hS.trans hr.S.symm, hI'.trans hr.I.symm, hR.trans hr.R.symm,
    hinf.trans hr.inf.symm, hsus.trans hr.sus.symm⟩

/-- **A3, one generation with `return_full_data=True` under the default recovery rule (`P.recSteps = none`), if it
succeeds** — from locals `σ` related to the model state `s` (`GenDiscrete.Rel`: rows reversed, `infecteds` up to order,
same `susceptible`, `nS`, `totR`) and a log that counts the ages: the new locals are related to `Discrete.step P s`, the
callback state is unchanged; `transmissions` gets exactly one row `(t, u, v)` per newly infected node `v`
(`Discrete.newInf P s`: susceptible with a successful contact from an infectious neighbour), with `t` = the current time
and `u` a currently infectious node with `v ∈ P.nbrs u` whose contact succeeded; and, reading `node_history` as the
`defaultdict(lambda: ([tmin], ['S']))` it is, when `t + 1 ≤ tmax` every newly infected node gets the entry `(t+1, 'I')`,
every currently infectious node the entry `(t+1, 'R')`, nothing else changes; when `t + 1 > tmax` nothing changes.
(Restricted to the default recovery rule: with a recovery rule the `'R'` entries are written by the recovery loop.) -/
theorem discrete_SIR_full_data_generation (P : DParams) (iter : List Node → List Node) (hiter : ∀ l, (iter l).Perm l)
    (infs : List Node) (orecs : Option (List Node)) (hnd : P.nodes.Nodup)
    (hnb : ∀ u ∈ P.nodes, ∀ v ∈ P.nbrs u, v ∈ P.nodes) (hrec : P.recSteps = none)
    (σ : GenDSIR.Loc) (s : DState) (d : DSt) (ts : TapeSt) (σ' : GenDSIR.Loc) (d' : DSt) (ts' : TapeSt)
    (h : Rel P σ s) (hage : ∀ u, cnt d u = s.age u)
    (hg : GenDiscrete.gen (toArgs P iter true infs orecs) σ d ts = .ok ((σ', d'), ts')) :
    Rel P σ' (Discrete.step P s) ∧ d' = d ∧
    (∃ rows, σ'.transmissions = σ.transmissions ++ rows ∧ (rows.map (·.2.2)).Perm (Discrete.newInf P s) ∧
      ∀ r ∈ rows, r.1 = s.t.headD P.tmin ∧ ∃ u ∈ s.inf, r.2.1 = some u ∧ r.2.2 ∈ P.nbrs u ∧
        P.rule (s.age u) u r.2.2 = true) ∧
    ∀ x, alGet σ'.node_history ([P.tmin], [St.S]) x =
      if ERat.le (some (s.t.headD P.tmin + 1)) P.tmax then
        if x ∈ Discrete.newInf P s then
          ((alGet σ.node_history ([P.tmin], [St.S]) x).1 ++ [s.t.headD P.tmin + 1],
           (alGet σ.node_history ([P.tmin], [St.S]) x).2 ++ [St.I])
        else if x ∈ s.inf then
          ((alGet σ.node_history ([P.tmin], [St.S]) x).1 ++ [s.t.headD P.tmin + 1],
           (alGet σ.node_history ([P.tmin], [St.S]) x).2 ++ [St.R])
        else alGet σ.node_history ([P.tmin], [St.S]) x
      else alGet σ.node_history ([P.tmin], [St.S]) x := by
  obtain ⟨hA, _⟩ := toArgs_ok P iter hiter true infs orecs
  obtain ⟨σ2, rows, ts2, hac, htail, htr, hrows, hok, hnt, hnh⟩ := gen_true _ P hA hnb rfl
    (fun d u v => P.rule (cnt d u) u v) (fun _ _ _ => rfl) σ s d ts h (by intro u _ v; rw [hage u]) _ hg
  have hrecA : (toArgs P iter true infs orecs).testRec = none := by show P.recSteps.map recCb = _; rw [hrec]; rfl
  obtain ⟨σ'', ht, hr, hnh'', htr''⟩ := tail_none (toArgs P iter true infs orecs) P hnd hrecA hrec σ σ2 s h hac
  rw [ht] at htail
  cases htail
  refine ⟨hr, rfl, ⟨rows, by rw [htr'', htr], by rw [hrows]; exact hac.perm hnd, hok⟩, ?_⟩
  intro x
  rw [hnh'', hnh]
  unfold fullHist
  rw [hrecA]
  show alGet (if ERat.le (some σ2.next_time) P.tmax then _ else _) _ x = _
  rw [hnt]
  split
  · show alGet ((iter σ2.new_infecteds).foldl (nhMark P.tmin (s.t.headD P.tmin + 1) St.I)
        ((iter σ2.infecteds).foldl (nhMark P.tmin (s.t.headD P.tmin + 1) St.R) σ.node_history)) ([P.tmin], [St.S]) x = _
    have hm1 : x ∈ iter σ2.new_infecteds ↔ x ∈ Discrete.newInf P s := ((hiter _).mem_iff).trans (hac.mem x)
    have hm2 : x ∈ iter σ2.infecteds ↔ x ∈ s.inf := by
      rw [hac.infecteds]; exact ((hiter _).mem_iff).trans h.inf.mem_iff
    rw [alGet_foldl_nhMark _ _ _ _ _ _ ((hiter _).nodup_iff.2 hac.nodup),
      alGet_foldl_nhMark _ _ _ _ _ _ (by rw [hac.infecteds]; exact (hiter _).nodup_iff.2 (h.inf_nodup hnd))]
    by_cases h1 : x ∈ Discrete.newInf P s
    · have h2 : x ∉ s.inf := by
        intro hx
        have := h.notsus x hx
        rw [((Discrete.mem_newInf P s x).1 h1).2.1] at this
        cases this
      rw [if_pos (hm1.2 h1), if_neg (mt hm2.1 h2), if_pos h1]
    · rw [if_neg (mt hm1.1 h1), if_neg h1]
      by_cases h3 : x ∈ s.inf
      · rw [if_pos (hm2.2 h3), if_pos h3]
      · rw [if_neg (mt hm2.1 h3), if_neg h3]
  · rfl

/-- the generated loop is `condition ; one generation ; recursion`, where `GenDiscrete.gen P σ` is literally
`contactLoop ; t[-1] ; fullPart ; recPart ; rowsPart` (definitions in Proofs/GenDiscrete.lean, copied from the generated
text) -/
theorem loop_unfold (P : DArgs) (fuel : Nat) (σ : GenDSIR.Loc) :
    GenDSIR.loop P (fuel + 1) σ = (do
      let c ← GenDiscrete.cond P σ
      if c then GenDiscrete.gen P σ >>= GenDSIR.loop P fuel else pure σ) :=
  GenDiscrete.loop_succ P fuel σ

theorem loop_unfold_SIS (P : DArgs) (fuel : Nat) (σ : GenDSIS.Loc) :
    GenDSIS.loop P (fuel + 1) σ = (do
      let c ← SIS.cond P σ
      if c then SIS.gen P σ >>= GenDSIS.loop P fuel else pure σ) :=
  SIS.loop_succ P fuel σ

/-- `basic_discrete_SIR` is `discrete_SIR` with the arguments `basicArgs` (`test_transmission = _simple_test_transmission_`,
default recovery rule) -/
theorem basic_discrete_SIR_eq (A0 : DArgs) (fuel : Nat) :
    GenDisc.basic_discrete_SIR A0 fuel = GenDSIR.run (basicArgs A0) fuel := rfl

/-! ### B — the Bernoulli rule on a tape of uniforms

`GenDiscrete.outerP dec redraw nbrs sus l new xs` is the deterministic PATH function of `ReedFrost.outer`
(Model/ReedFrost.lean): it runs the same two loops and the same case distinction as `ReedFrost.contact`, but instead of
branching on a Bernoulli draw it consumes the next element `x` of the list `xs` and follows the branch `dec x`; it returns
`none` when `xs` runs out and otherwise the final `new_infecteds` together with the unused elements.  With
`dec r := decide (r < p)` the outcomes are exactly the values of `random.random() < p`. -/

/-- **B1 — one generation of the contact loop of `basic_discrete_SIR` follows the path of `ReedFrost.outer`.**
Start the contact loop of a generation (locals `σ`, `new_infecteds = []`) on a tape that begins with the uniforms `rs`
(followed by anything).  If the path function, fed with `rs` and with `redraw := return_full_data`,
`sus := susceptible at the start of the generation`, returns `(new, rs1)`, then the generated loop succeeds, consumes
exactly the draws the path consumed (the tape left is `rs1` followed by the rest: one `random.random()` per contact that
`ReedFrost.contact` treats as a Bernoulli draw, none otherwise), leaves the callback state alone and ends with
`new_infecteds = new` (duplicate free), `susceptible` switched off on `new`, `nS` decreased by `|new|`, every other
observable local unchanged (`CFrame`).  Moreover `new` is an outcome of the law model `ReedFrost.stepDist` carrying the
product weight `∏ (if r_i < p then p else 1 - p)` over the consumed draws. -/
theorem basic_discrete_SIR_contact_path (A0 : DArgs) (σ : GenDSIR.Loc) (d : DSt) (rs : List Rat) (rest : List Draw)
    (tr : Array Call) (new : List Node) (rs1 : List Rat)
    (hpath : outerP (fun r => decide (r < A0.p)) A0.full A0.nbrs σ.susceptible (A0.iter σ.infecteds) [] rs
      = some (new, rs1)) :
    ∃ σ1 tr', GenDiscrete.contactLoop (basicArgs A0) ((basicArgs A0).iter σ.infecteds)
        { σ with new_infecteds := [], infector := [] } d ⟨rs.map Draw.unif ++ rest, tr⟩
        = .ok ((σ1, d), ⟨rs1.map Draw.unif ++ rest, tr'⟩) ∧
      σ1.new_infecteds = new ∧ new.Nodup ∧ (∀ x, σ1.susceptible x = (σ.susceptible x && !new.contains x)) ∧
      σ1.nS = σ.nS - (new.length : Int) ∧ CFrame σ σ1 ∧
      ∃ used, rs = used ++ rs1 ∧
        (new, pathWeight (fun r => decide (r < A0.p)) A0.p used) ∈
          ReedFrost.stepDist A0.p A0.nbrs (A0.iter σ.infecteds) σ.susceptible A0.full := by
  obtain ⟨σ1, tr', h1, h2, h3⟩ := contactLoop_follows (basicArgs A0) rfl { σ with new_infecteds := [], infector := [] }
    ((basicArgs A0).iter σ.infecteds) _ d rs rest tr new rs1 (CInv.start σ) hpath
  subst h2
  exact ⟨σ1, tr', h1, rfl, h3.nodup, h3.sus, h3.nS, CFrame.trans (b := { σ with new_infecteds := [], infector := [] }) rfl h3.frame,
    outerP_support _ A0.p A0.full A0.nbrs σ.susceptible _ [] rs _ rs1 hpath⟩

/-- **B2 — the same for `basic_discrete_SIS`** (`random.random() < p` inline; `redraw := true`,
`sus v := v not in infecteds`): the law model is `ReedFrost.stepDist … true` with that table, i.e.
`ReedFrost.stepDistSIS` up to the iteration order of `infecteds`. -/
theorem basic_discrete_SIS_contact_path (P : DArgs) (σ : GenDSIS.Loc) (d : DSt) (rs : List Rat) (rest : List Draw)
    (tr : Array Call) (new : List Node) (rs1 : List Rat)
    (hpath : outerP (fun r => decide (r < P.p)) true P.nbrs (fun x => !σ.infecteds.contains x) (P.iter σ.infecteds) [] rs
      = some (new, rs1)) :
    ∃ σ1 tr', SIS.contactLoop P (P.iter σ.infecteds) (SIS.resetNew σ) d ⟨rs.map Draw.unif ++ rest, tr⟩
        = .ok ((σ1, d), ⟨rs1.map Draw.unif ++ rest, tr'⟩) ∧
      σ1.new_infecteds = new ∧ σ1.infecteds = σ.infecteds ∧
      ∃ used, rs = used ++ rs1 ∧
        (new, pathWeight (fun r => decide (r < P.p)) P.p used) ∈
          ReedFrost.stepDist P.p P.nbrs (P.iter σ.infecteds) (fun x => !σ.infecteds.contains x) true := by
  obtain ⟨σ1, tr', h1, h2, h3, _⟩ := SIS.contactLoop_follows P (SIS.resetNew σ) (P.iter σ.infecteds) _ d rs rest tr new rs1
    ⟨(rfl : SIS.SFrameC (SIS.resetNew σ) (SIS.resetNew σ)), rfl⟩ hpath
  exact ⟨σ1, tr', h1, h2, h3.infecteds, outerP_support _ P.p true P.nbrs _ _ [] rs new rs1 hpath⟩

/-- the path function really is the path of `ReedFrost.outer`: whenever it returns, the consumed outcomes select an
element of the support of `ReedFrost.outer` with the product weight (any decoder, any starting `new`) -/
theorem outerP_in_support {α : Type} (dec : α → Bool) (p : Rat) (redraw : Bool) (nbrs : Node → List Node)
    (sus : Node → Bool) (l new : List Node) (xs : List α) (new' : List Node) (xs' : List α)
    (h : outerP dec redraw nbrs sus l new xs = some (new', xs')) :
    ∃ used, xs = used ++ xs' ∧ (new', pathWeight dec p used) ∈ ReedFrost.outer p redraw nbrs sus l new :=
  outerP_support dec p redraw nbrs sus l new xs new' xs' h

/-- **B3 — `percolate_network`** on a tape that begins with one uniform per edge: succeeds, consumes exactly those draws,
returns the edges whose draw is `< p` in order (`keptBy`, i.e. the filtered zip), a sublist of `edges`, and this outcome
is in the support of the law model `Discrete.percolateDist` (C12 `percolate_edge_law`) with the product weight. -/
theorem percolate_network_tape (edges : List (Node × Node)) (p : Rat) (rs : List Rat) (rest : List Draw)
    (tr : Array Call) (d : DSt) (hl : rs.length = edges.length) :
    ∃ tr', GenDisc.percolate_network edges p d ⟨rs.map Draw.unif ++ rest, tr⟩
        = .ok ((keptBy p edges rs, d), ⟨rest, tr'⟩) ∧
      keptBy p edges rs = ((edges.zip rs).filter fun x => decide (x.2 < p)).map (·.1) ∧
      (keptBy p edges rs).Sublist edges ∧
      (keptBy p edges rs, pathWeight (fun r => decide (r < p)) p rs) ∈ Discrete.percolateDist p edges :=
  ⟨_, by rw [percolate_eq]; simpa using percolate_takes p d edges rs [] hl rest tr, keptBy_eq_zip p edges rs,
    keptBy_sublist p edges rs, keptBy_support p edges rs hl⟩

/-! ### C — the rows of `basic_discrete_SIS` -/

/-- **C1 — rows of `basic_discrete_SIS`, for every callback state and every tape on which the run succeeds**
(`initial_infecteds` duplicate free, as after the normalisation of the Python code): the callback state is untouched;
for some `k < n` (the number of generations) the times are `tmin, tmin+1, …, tmin+k`; `S`, `I` have `k+1` entries,
`S[i] = G.order() - I[i]` for every `i`; the last `I` is `|infecteds|`, `infecteds` is duplicate free, and the loop has
stopped exactly because `infecteds` is empty or `t[-1] = tmin + k ≥ tmax`. -/
theorem basic_discrete_SIS_rows (P : DArgs) (hnd : P.initial_infecteds.Nodup) (n : Nat) (d : DSt) (ts : TapeSt)
    (σ : GenDSIS.Loc) (d' : DSt) (ts' : TapeSt) (h : GenDSIS.run P n d ts = .ok ((σ, d'), ts')) :
    d' = d ∧ ∃ k, k < n ∧ σ.t = (List.range (k + 1)).map (fun (i : Nat) => P.tmin + (i : Rat)) ∧
      σ.I.length = k + 1 ∧ σ.S.length = k + 1 ∧ σ.S = σ.I.map (fun i => P.order - i) ∧
      σ.infecteds.Nodup ∧ σ.I.getLast? = some (σ.infecteds.length : Int) ∧
      (σ.infecteds = [] ∨ ERat.lt (some (P.tmin + (k : Rat))) P.tmax = false) := by
  obtain ⟨σ0, hrun, h1, h2, h3, h4, h5⟩ := SIS.run_eq P n
  rw [hrun] at h
  have hI0 : SIS.SInv P 0 σ0 := by
    refine ⟨by rw [h1]; simp, by rw [h4]; rfl, by rw [h3, h4]; rfl, h2, by rw [h5]; exact setOf_nodup _, ?_⟩
    rw [h4, h5, setOf_length _ hnd]; rfl
  obtain ⟨hd, k, _, hk, hI, hstop⟩ := SIS.sinv_loop P n 0 σ0 hI0 d ts _ h
  refine ⟨hd, k, by omega, hI.t, hI.lenI, ?_, hI.S, hI.nodup, hI.last, hstop⟩
  rw [show σ.S = σ.I.map (fun i => P.order - i) from hI.S, List.length_map]
  exact hI.lenI

/-- **C2 — one generation of `basic_discrete_SIS`, if it succeeds** (any tape, any `return_full_data`): the callback
state is untouched, one row is appended (`t[-1] + 1`, `N - |infecteds'|`, `|infecteds'|`), the next `infecteds` is duplicate
free, disjoint from the current one and contained in the neighbourhoods of the current one. -/
theorem basic_discrete_SIS_generation (P : DArgs) (hiter : ∀ l, (P.iter l).Perm l) (σ : GenDSIS.Loc) (d : DSt)
    (ts : TapeSt) (σ' : GenDSIS.Loc) (d' : DSt) (ts' : TapeSt) (h : SIS.gen P σ d ts = .ok ((σ', d'), ts')) :
    d' = d ∧ ∃ a, σ.t.getLast? = some a ∧ σ'.t = σ.t ++ [a + 1] ∧
      σ'.S = σ.S ++ [σ.N - (σ'.infecteds.length : Int)] ∧ σ'.I = σ.I ++ [(σ'.infecteds.length : Int)] ∧
      σ'.infecteds.Nodup ∧ ∀ v ∈ σ'.infecteds, v ∉ σ.infecteds ∧ ∃ u ∈ σ.infecteds, v ∈ P.nbrs u := by
  obtain ⟨hd, a, ha, ht, hS, hI, _, hnd, hm⟩ := SIS.gen_ends P σ d ts _ h
  refine ⟨hd, a, ha, ht, hS, hI, hnd, ?_⟩
  intro v hv
  obtain ⟨h1, u, hu, h2⟩ := hm v hv
  exact ⟨h1, u, (hiter _).subset hu, h2⟩

end C12c

/-! ### non-vacuity / concrete instances -/
section Examples
open GenDiscrete

/-- path 0-1-2-3, the contact 2 → 3 fails -/
def exGn (u : Node) : List Node := match u with | 0 => [1] | 1 => [0, 2] | 2 => [1, 3] | 3 => [2] | _ => []
def exG : DParams :=
  { nodes := [0, 1, 2, 3], nbrs := exGn, rule := fun _ u v => !(u == 2 && v == 3), recSteps := none, tmin := 0,
    tmax := none }

theorem exG_wf : Discrete.WF exG [0] [] :=
  ⟨by decide, by decide, by decide, by decide, by decide, by decide, by decide, fun k h => by simp [exG] at h⟩

/-- what a run returns, as comparable data: rows, final `infecteds`, number of logged callback calls, number of
draws left on the tape -/
structure Obs where
  t : List Rat
  S : List Int
  I : List Int
  R : List Int
  infecteds : List Node
  calls : Nat
  tape : Nat
deriving DecidableEq, Repr

def obs (r : Except String ((GenDSIR.Loc × DSt) × TapeSt)) : Option Obs :=
  match r with
  | .ok ((σ, d), ts) => some ⟨σ.t, σ.S, σ.I, σ.R, σ.infecteds, d.calls.size, ts.tape.length⟩
  | .error _ => none

def d0 : DSt := { answers := [] }
def ts0 : TapeSt := { tape := [] }

example : obs (GenDSIR.run (toArgs0 exG id false [0] none) 10 d0 ts0)
    = some ⟨[0, 1, 2, 3], [3, 2, 1, 1], [1, 1, 1, 0], [0, 1, 2, 3], [], 0, 0⟩ := by decide +kernel
example : obs (GenDSIR.run (toArgs0 exG List.reverse false [0] none) 10 d0 ts0)
    = some ⟨[0, 1, 2, 3], [3, 2, 1, 1], [1, 1, 1, 0], [0, 1, 2, 3], [], 0, 0⟩ := by decide +kernel
example : (Discrete.run exG [0] [] 3).t.reverse = [0, 1, 2, 3] ∧ (Discrete.run exG [0] [] 3).S.reverse = [3, 2, 1, 1] := by
  decide +kernel
/-- the hand model has stopped after 3 generations, not after 2: fuel 4 suffices, fuel 3 does not -/
example : Discrete.stopped exG (Discrete.run exG [0] [] 3) := by unfold Discrete.stopped; decide +kernel
example : ¬ Discrete.stopped exG (Discrete.run exG [0] [] 2) := by unfold Discrete.stopped; decide +kernel
example : obs (GenDSIR.run (toArgs0 exG id false [0] none) 3 d0 ts0) = none := by decide +kernel
example : (obs (GenDSIR.run (toArgs0 exG id false [0] none) 4 d0 ts0)).isSome = true := by decide +kernel
example : ∃ σ, GenDSIR.run (toArgs0 exG List.reverse false [0] none) 4 d0 ts0 = .ok ((σ, d0), ts0) ∧
    σ.S = (Discrete.run exG [0] [] 3).S.reverse := by
  obtain ⟨σ, h, _, hS, _⟩ := (C12c.discrete_SIR_refines_default exG List.reverse (fun l => List.reverse_perm l) [0] none
    exG_wf rfl 3 d0 ts0).1 (by unfold Discrete.stopped; decide +kernel) 4 (by omega)
  exact ⟨σ, h, hS⟩

/-- path 0-1-2, every node infectious for two steps, the contact 0 → 1 fails at age 0 and succeeds at age 1
(the instance `exA` of C12): the rule is read through the call log -/
def exHn (u : Node) : List Node := match u with | 0 => [1] | 1 => [0, 2] | 2 => [1] | _ => []
def exH : DParams :=
  { nodes := [0, 1, 2], nbrs := exHn, rule := fun a u v => !(u == 0 && v == 1 && a == 0),
    recSteps := some (fun _ => 2), tmin := 0, tmax := none }
theorem exH_wf : Discrete.WF exH [0] [] :=
  ⟨by decide, by decide, by decide, by decide, by decide, by decide, by decide,
   fun k h => by simp only [exH, Option.some.injEq] at h; subst h; intro _; exact Nat.le_succ 1⟩
example : ∀ u, cnt d0 u = 0 := fun _ => rfl
example : obs (GenDSIR.run (toArgs exH id false [0] none) 10 d0 ts0)
    = some ⟨[0, 1, 2, 3, 4, 5], [2, 2, 1, 0, 0, 0], [1, 1, 1, 2, 1, 0], [0, 0, 1, 1, 2, 3], [], 6, 0⟩ := by
  decide +kernel
example : (Discrete.run exH [0] [] 10).I.reverse = [1, 1, 1, 2, 1, 0] ∧ (Discrete.run exH [0] [] 10).age 0 = 2 := by
  decide +kernel

/-! `return_full_data=True`: diamond 0-{1,2}-3, every contact succeeds; node 3 has two possible infectors, the scripted
`random.choice` index picks one of them (the order of the candidates depends on `iter`) -/
def exQn (u : Node) : List Node := match u with | 0 => [1, 2] | 1 => [0, 3] | 2 => [0, 3] | 3 => [1, 2] | _ => []
def exQ : DParams :=
  { nodes := [0, 1, 2, 3], nbrs := exQn, rule := fun _ _ _ => true, recSteps := none, tmin := 0, tmax := none }
theorem exQ_wf : Discrete.WF exQ [0] [] :=
  ⟨by decide, by decide, by decide, by decide, by decide, by decide, by decide, fun k h => by simp [exQ] at h⟩
def exTape : TapeSt := { tape := [.choice 0, .choice 0, .choice 1, .choice 0] }
def obsT (r : Except String ((GenDSIR.Loc × DSt) × TapeSt)) : Option (List (Rat × Option Node × Node) × Nat) :=
  match r with
  | .ok ((σ, _), ts) => some (σ.transmissions, ts.tape.length)
  | .error _ => none
example : obsT (GenDSIR.run (toArgs exQ id true [0] none) 10 d0 exTape)
    = some ([(-1, none, 0), (0, some 0, 1), (0, some 0, 2), (1, some 2, 3)], 1) := by decide +kernel
example : obsT (GenDSIR.run (toArgs exQ List.reverse true [0] none) 10 d0 exTape)
    = some ([(-1, none, 0), (0, some 0, 1), (0, some 0, 2), (1, some 1, 3)], 1) := by decide +kernel
example : (Discrete.run exQ [0] [] 10).infectors = [(1, 0, [0]), (2, 0, [0]), (3, 1, [1, 2])] := by decide +kernel
example : (Discrete.run exQ [0] [] 10).infTime = [(1, 1), (2, 1), (3, 2)] := by decide +kernel
def obsH (r : Except String ((GenDSIR.Loc × DSt) × TapeSt)) : Option (List (Node × List Rat × List St)) :=
  match r with
  | .ok ((σ, _), _) => some σ.node_history
  | .error _ => none
example : obsH (GenDSIR.run (toArgs exQ id true [0] none) 10 d0 exTape)
    = some [(0, [0, 1], [St.I, St.R]), (1, [0, 1, 2], [St.S, St.I, St.R]), (2, [0, 1, 2], [St.S, St.I, St.R]),
            (3, [0, 2, 3], [St.S, St.I, St.R])] := by decide +kernel
/-- a tape that runs out of `choice` draws: the run fails (the theorem is about successful runs) -/
example : obsT (GenDSIR.run (toArgs exQ id true [0] none) 10 d0 { tape := [.choice 0] }) = none := by decide +kernel

/-! the Bernoulli rule: path 0-1-2-3, node 1 infectious, `p = 1/2`, the draws 1/4 (success, contact 1 → 0) and 3/4
(failure, contact 1 → 2) -/
def exB (full : Bool) (iter : List Node → List Node) : DArgs :=
  { order := 4, nbrs := exGn, iter := iter, tmin := 0, tmax := none, full := full, p := 1/2,
    testTrans := fun _ _ => pure false, testRec := none, initial_infecteds := [1], initial_recovereds := none }
example : outerP (fun r => decide (r < (1/2 : Rat))) false exGn (fun v => v != 1) [1] [] [1/4, 3/4] = some ([0], []) := by
  decide +kernel
example : ReedFrost.stepDist (1/2) exGn [1] (fun v => v != 1) false
    = [([0, 2], 1/4), ([0], 1/4), ([2], 1/4), ([], 1/4)] := by decide +kernel
example : pathWeight (fun r => decide (r < (1/2 : Rat))) (1/2) [1/4, 3/4] = 1/4 := by decide +kernel
/-- the whole run: generation 1 consumes the two draws, generation 2 (node 0 infectious, its only neighbour is not
susceptible) consumes none; one draw is left on the tape -/
example : obs (GenDisc.basic_discrete_SIR (exB false id) 10 d0 { tape := [.unif (1/4), .unif (3/4), .unif (3/4)] })
    = some ⟨[0, 1, 2], [3, 2, 2], [1, 1, 0], [0, 1, 2], [], 0, 1⟩ := by decide +kernel
example : obs (GenDisc.basic_discrete_SIR (exB false List.reverse) 10 d0
      { tape := [.unif (1/4), .unif (3/4), .unif (3/4)] })
    = some ⟨[0, 1, 2], [3, 2, 2], [1, 1, 0], [0, 1, 2], [], 0, 1⟩ := by decide +kernel

/-! `basic_discrete_SIS` on the same path, `tmax = 3`: 1 → {0}, 0 → {1}, 1 → {0}; five draws consumed, three left -/
def obsS (r : Except String ((GenDSIS.Loc × DSt) × TapeSt)) :
    Option (List Rat × List Int × List Int × List Node × Nat) :=
  match r with
  | .ok ((σ, _), ts) => some (σ.t, σ.S, σ.I, σ.infecteds, ts.tape.length)
  | .error _ => none
example : obsS (GenDSIS.run { exB false id with tmax := some 3 } 10 d0
      { tape := [.unif (1/4), .unif (3/4), .unif (1/4), .unif (1/4), .unif (3/4), .unif (3/4), .unif (3/4), .unif (3/4)] })
    = some ([0, 1, 2, 3], [3, 3, 3, 3], [1, 1, 1, 1], [0], 3) := by decide +kernel
example : (exB false id).initial_infecteds.Nodup := by decide

/-! `percolate_network`: three edges, draws 1/4, 3/4, 1/4 with `p = 1/2` -/
example : keptBy (1/2) [(0, 1), (1, 2), (2, 3)] [1/4, 3/4, 1/4] = [(0, 1), (2, 3)] := by decide +kernel
example : ((GenDisc.percolate_network [(0, 1), (1, 2), (2, 3)] (1/2) d0
      { tape := [.unif (1/4), .unif (3/4), .unif (1/4), .unif 0] }).toOption.map fun r => (r.1.1, r.2.tape.length))
    = some ([(0, 1), (2, 3)], 1) := by decide +kernel

end Examples

#print axioms C12c.discrete_SIR_refines_default
#print axioms C12c.discrete_SIR_refines_recovery
#print axioms C12c.ageRule_of_ageless
#print axioms C12c.discrete_SIR_full_data
#print axioms C12c.discrete_SIR_full_data_generation
#print axioms C12c.loop_unfold
#print axioms C12c.loop_unfold_SIS
#print axioms C12c.basic_discrete_SIR_eq
#print axioms C12c.basic_discrete_SIR_contact_path
#print axioms C12c.basic_discrete_SIS_contact_path
#print axioms C12c.outerP_in_support
#print axioms C12c.percolate_network_tape
#print axioms C12c.basic_discrete_SIS_rows
#print axioms C12c.basic_discrete_SIS_generation
