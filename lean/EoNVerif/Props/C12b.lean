import EoNVerif.Proofs.ReedFrost
import EoNVerif.Props.C12
/-!
C12b — the JOINT Reed–Frost law of one generation of the discrete-time simulators.

`ReedFrost.stepDist p nbrs infecteds sus redraw` (Model/ReedFrost.lean; its header quotes the Python loop and says what
`redraw`, `contacts`, `agrees` and `factor` are) is the law of `new_infecteds` produced by the double loop
`for u in infecteds: for v in G.neighbors(u)` of `discrete_SIR` when `test_transmission` is `_simple_test_transmission_`
(`random.random() < p`), the rule `basic_discrete_SIR` passes in.  The model draws *sequentially*, as the code does:
`redraw = false` consumes a draw only while `v` is still susceptible (`if susceptible[v] and test_transmission(u, v, *args)`:
the `and` short-circuits); `redraw = true` also draws, and throws the draw away, for a node already infected in this
generation — `discrete_SIR(..., return_full_data=True)` (its `elif` branch) and `basic_discrete_SIS`
(`if v not in infecteds and random.random()<p`; there `sus v = !infecteds.contains v`, `ReedFrost.stepDistSIS`).
The theorems hold for both values of `redraw`.

All statements hold for every rational `p` (they are polynomial identities; `0 ≤ p ≤ 1` is only needed to read the
masses as probabilities), every graph, every list of infecteds and every `sus` table.
-/
namespace ReedFrost

/-- **joint Reed–Frost law.**  For ANY duplicate-free list `nodes` of nodes (all of them, or any subset) and any target
`A`, the probability that, among `nodes`, exactly the nodes with `A v` are newly infected in this generation is the
product over `v ∈ nodes` of the per-node Reed–Frost factors: `1-(1-p)^m(v)` for a susceptible node that must be
infected, `(1-p)^m(v)` for a susceptible node that must escape (`m(v)` = number of contacts `· → v` the loops make),
and `0`/`1` for a node that is not susceptible.  For the Python code: one pass of the `for u in infecteds: for v in
G.neighbors(u)` loop of `discrete_SIR` with the `basic_discrete_SIR` rule infects the susceptible
nodes independently of each other although the draws are made sequentially and are skipped for nodes already
infected. -/
theorem joint_law (p : Rat) (nbrs : Node → List Node) (infecteds : List Node) (sus : Node → Bool) (redraw : Bool)
    (nodes : List Node) (hn : nodes.Nodup) (A : Node → Bool) :
    Dist.mass (stepDist p nbrs infecteds sus redraw) (agrees nodes A)
      = prodRat (nodes.map (factor p sus A (contacts nbrs infecteds))) := by
  unfold stepDist
  rw [mass_outer, mass_inner p redraw sus A nodes hn]
  exact prodRat_map_congr _ _ _ fun v _ => G_nil_left p sus A _ v

/-- **joint law in the textbook form**: if every neighbour list is duplicate free (a simple graph), and the target `A`
only contains susceptible nodes, the probability that the set of newly infected nodes (within `nodes`) is exactly `A`
is `∏_{v ∈ nodes, v susceptible} (if A v then 1-(1-p)^k(v) else (1-p)^k(v))` with `k(v) = Discrete.infNbrs …` the number
of infectious neighbours of `v` (the quantity of the marginal theorem `Discrete.basic_marginal`). -/
theorem joint_law_infNbrs (p : Rat) (nbrs : Node → List Node) (infecteds : List Node) (sus : Node → Bool)
    (redraw : Bool) (nodes : List Node) (hn : nodes.Nodup) (A : Node → Bool)
    (hnb : ∀ u ∈ infecteds, (nbrs u).Nodup) (hA : ∀ v ∈ nodes, A v = true → sus v = true) :
    Dist.mass (stepDist p nbrs infecteds sus redraw) (agrees nodes A)
      = prodRat ((nodes.filter sus).map fun v =>
          if A v then Discrete.infProb p (Discrete.infNbrs nodes nbrs infecteds v)
          else (1 - p) ^ Discrete.infNbrs nodes nbrs infecteds v) := by
  rw [joint_law p nbrs infecteds sus redraw nodes hn A, prod_factor_filter p sus A _ nodes hA]
  apply prodRat_map_congr
  intro v _
  rw [contacts_eq_infNbrs nodes nbrs infecteds hnb v]

/-- a target set containing a node that is not susceptible has probability 0 (`susceptible[v]` is tested before every
draw: `if susceptible[v] and test_transmission(u, v, *args)`) -/
theorem impossible (p : Rat) (nbrs : Node → List Node) (infecteds : List Node) (sus : Node → Bool) (redraw : Bool)
    (nodes : List Node) (hn : nodes.Nodup) (A : Node → Bool) (v : Node) (hv : v ∈ nodes) (hA : A v = true)
    (hs : sus v = false) :
    Dist.mass (stepDist p nbrs infecteds sus redraw) (agrees nodes A) = 0 := by
  rw [joint_law p nbrs infecteds sus redraw nodes hn A]
  obtain ⟨l1, l2, rfl⟩ := List.append_of_mem hv
  rw [List.map_append, List.map_cons, prodRat_append, prodRat_cons]
  simp [factor, hA, hs]

/-- **total mass 1**: the sequential program is a probability distribution (for every `p`, the weights sum to 1) -/
theorem total_mass (p : Rat) (nbrs : Node → List Node) (infecteds : List Node) (sus : Node → Bool) (redraw : Bool) :
    Dist.mass (stepDist p nbrs infecteds sus redraw) (fun _ => true) = 1 := by
  have h := joint_law p nbrs infecteds sus redraw [] List.nodup_nil (fun _ => true)
  rw [show agrees [] (fun _ => true) = (fun _ : List Node => true) from by funext new; simp [agrees]] at h
  exact h

/-- the event "`v` is newly infected iff `A v`" for ONE node has the mass of its factor -/
theorem single (p : Rat) (nbrs : Node → List Node) (infecteds : List Node) (sus : Node → Bool) (redraw : Bool)
    (A : Node → Bool) (v : Node) :
    Dist.mass (stepDist p nbrs infecteds sus redraw) (fun new => new.contains v == A v)
      = factor p sus A (contacts nbrs infecteds) v := by
  have h := joint_law p nbrs infecteds sus redraw [v] (by simp) A
  rw [show agrees [v] A = (fun new : List Node => new.contains v == A v) from by funext new; simp [agrees]] at h
  simpa using h

/-- **independence across nodes**: the joint mass of "for all `v ∈ nodes`: `v` newly infected iff `A v`" is the product
of the single-node masses of the same program -/
theorem independent (p : Rat) (nbrs : Node → List Node) (infecteds : List Node) (sus : Node → Bool) (redraw : Bool)
    (nodes : List Node) (hn : nodes.Nodup) (A : Node → Bool) :
    Dist.mass (stepDist p nbrs infecteds sus redraw) (agrees nodes A)
      = prodRat (nodes.map fun v =>
          Dist.mass (stepDist p nbrs infecteds sus redraw) (fun new => new.contains v == A v)) := by
  rw [joint_law p nbrs infecteds sus redraw nodes hn A]
  exact prodRat_map_congr _ _ _ fun v _ => (single p nbrs infecteds sus redraw A v).symm

/-- **the marginal follows**: a susceptible node with `m` contacts is newly infected with probability `1-(1-p)^m`
(`Discrete.infProb`), a non-susceptible node with probability 0 -/
theorem marginal (p : Rat) (nbrs : Node → List Node) (infecteds : List Node) (sus : Node → Bool) (redraw : Bool)
    (v : Node) :
    Dist.mass (stepDist p nbrs infecteds sus redraw) (fun new => new.contains v)
      = if sus v then Discrete.infProb p (contacts nbrs infecteds v) else 0 := by
  have h := single p nbrs infecteds sus redraw (fun _ => true) v
  rw [show (fun new : List Node => new.contains v == true) = (fun new => new.contains v) from by
        funext new; simp] at h
  rw [h]; simp [factor, Discrete.infProb]

/-- the marginal of the sequential program is the law of the one-node model `Discrete.anyContact`
(theorem `Discrete.basic_marginal` of C12) -/
theorem marginal_eq_anyContact (p : Rat) (nbrs : Node → List Node) (infecteds : List Node) (sus : Node → Bool)
    (redraw : Bool) (v : Node) (hs : sus v = true) :
    Dist.mass (stepDist p nbrs infecteds sus redraw) (fun new => new.contains v)
      = Dist.mass (Discrete.anyContact p (contacts nbrs infecteds v)) (fun b => b) := by
  rw [marginal, Discrete.basic_marginal p _, if_pos hs]

/-- **the iteration order of the set `infecteds` and the extra draws do not matter**: Python iterates a `set`
(`for u in infecteds`), whose order is arbitrary; the law of the set of new infecteds is the same for every order,
and the same with or without the draws for already-infected nodes (`return_full_data=True`, `basic_discrete_SIS`) -/
theorem order_and_redraw_irrelevant (p : Rat) (nbrs : Node → List Node) (i1 i2 : List Node) (hp : i1.Perm i2)
    (sus : Node → Bool) (r1 r2 : Bool) (nodes : List Node) (hn : nodes.Nodup) (A : Node → Bool) :
    Dist.mass (stepDist p nbrs i1 sus r1) (agrees nodes A) = Dist.mass (stepDist p nbrs i2 sus r2) (agrees nodes A) := by
  rw [joint_law p nbrs i1 sus r1 nodes hn A, joint_law p nbrs i2 sus r2 nodes hn A]
  apply prodRat_map_congr
  intro v _
  unfold factor
  rw [contacts_perm nbrs i1 i2 hp v]

/-- **support**: every outcome of the sequential program is a duplicate-free list (so it represents the Python `set`
`new_infecteds` faithfully) of nodes that were susceptible and were contacted at least once -/
theorem support (p : Rat) (nbrs : Node → List Node) (infecteds : List Node) (sus : Node → Bool) (redraw : Bool)
    (new : List Node) (h : ∃ q, (new, q) ∈ stepDist p nbrs infecteds sus redraw) :
    new.Nodup ∧ ∀ v ∈ new, sus v = true ∧ 0 < contacts nbrs infecteds v := by
  obtain ⟨q, hq⟩ := h
  have := outer_good p redraw nbrs sus infecteds [] [] ⟨List.nodup_nil, by simp⟩ (new, q) hq
  refine ⟨this.1, fun v hv => ⟨(this.2 v hv).1, ?_⟩⟩
  have hm := (this.2 v hv).2
  simp only [List.nil_append] at hm
  exact List.count_pos_iff.mpr hm

/-- **`basic_discrete_SIS`**: same joint law, with "susceptible" = "not currently infectious" -/
theorem joint_law_SIS (p : Rat) (nbrs : Node → List Node) (infecteds : List Node)
    (nodes : List Node) (hn : nodes.Nodup) (A : Node → Bool) :
    Dist.mass (stepDistSIS p nbrs infecteds) (agrees nodes A)
      = prodRat (nodes.map (factor p (fun v => !infecteds.contains v) A (contacts nbrs infecteds))) :=
  joint_law p nbrs infecteds _ true nodes hn A

end ReedFrost

/-! ### non-vacuity / concrete instances -/
section Examples
open ReedFrost

/-- path 0-1-2 -/
def exRFpath (u : Node) : List Node := match u with | 0 => [1] | 1 => [0, 2] | 2 => [1] | _ => []
/-- 4-cycle 0-1-2-3-0 -/
def exRFcyc (u : Node) : List Node := match u with | 0 => [1, 3] | 1 => [0, 2] | 2 => [1, 3] | 3 => [2, 0] | _ => []
def exRFsus (v : Node) : Bool := !(v == 0 || v == 2)

/- path, infecteds [0,2], p = 1/3: the program has three outcomes; node 1 (two infectious neighbours) is infected with
probability 1-(2/3)^2 = 5/9 -/
example : stepDist (1/3) exRFpath [0, 2] exRFsus = [([1], 1/3), ([1], 2/9), ([], 4/9)] := by decide +kernel
example : Dist.mass (stepDist (1/3) exRFpath [0, 2] exRFsus) (agrees [0, 1, 2] fun v => v == 1) = 5/9 := by
  decide +kernel
example : Dist.mass (stepDist (1/3) exRFpath [0, 2] exRFsus) (agrees [0, 1, 2] fun v => v == 1) = 5/9 := by
  rw [joint_law _ _ _ _ _ _ (by decide)]; decide +kernel
/- with the extra draws (`redraw = true`) the program has four outcomes but the same law -/
example : (stepDist (1/3) exRFpath [0, 2] exRFsus true).length = 4 := by decide +kernel
example : Dist.mass (stepDist (1/3) exRFpath [0, 2] exRFsus true) (agrees [0, 1, 2] fun v => v == 1) = 5/9 := by
  decide +kernel

/- 4-cycle, infecteds [0,2], p = 1/3: nodes 1 and 3 have two infectious neighbours each;
P(1 infected, 3 not) = 5/9 · 4/9 = 20/81, P(both) = 25/81, P(none) = 16/81 -/
example : Dist.mass (stepDist (1/3) exRFcyc [0, 2] exRFsus) (agrees [0, 1, 2, 3] fun v => v == 1) = 20/81 := by
  decide +kernel
example : Dist.mass (stepDist (1/3) exRFcyc [0, 2] exRFsus) (agrees [0, 1, 2, 3] fun v => v == 1 || v == 3) = 25/81 := by
  decide +kernel
example : Dist.mass (stepDist (1/3) exRFcyc [0, 2] exRFsus) (agrees [0, 1, 2, 3] fun _ => false) = 16/81 := by
  decide +kernel
/- the right-hand side of `joint_law_infNbrs` on the same instance -/
example : prodRat (([0, 1, 2, 3].filter exRFsus).map fun v =>
      if v == 1 then Discrete.infProb (1/3) (Discrete.infNbrs [0, 1, 2, 3] exRFcyc [0, 2] v)
      else (1 - 1/3) ^ Discrete.infNbrs [0, 1, 2, 3] exRFcyc [0, 2] v) = 20/81 := by decide +kernel
example : Dist.mass (stepDist (1/3) exRFcyc [0, 2] exRFsus) (agrees [0, 1, 2, 3] fun v => v == 1) = 20/81 := by
  rw [joint_law_infNbrs (1/3) exRFcyc [0, 2] exRFsus false [0, 1, 2, 3] (by decide) (fun v => v == 1)
    (by decide) (by decide)]
  decide +kernel
/- an infectious node in the target: impossible -/
example : Dist.mass (stepDist (1/3) exRFcyc [0, 2] exRFsus) (agrees [0, 1, 2, 3] fun v => v == 0) = 0 :=
  impossible _ _ _ _ _ _ (by decide) _ 0 (by decide) rfl rfl
example : Dist.mass (stepDist (1/3) exRFcyc [0, 2] exRFsus) (fun _ => true) = 1 := total_mass _ _ _ _ _
example : Dist.mass (stepDist (1/3) exRFcyc [0, 2] exRFsus) (fun new => new.contains 3) = 5/9 := by
  rw [marginal]; decide +kernel
/- `basic_discrete_SIS` on the 4-cycle -/
example : Dist.mass (stepDistSIS (1/3) exRFcyc [0, 2]) (agrees [0, 1, 2, 3] fun v => v == 3) = 20/81 := by
  decide +kernel
/- the algebra does not need 0 ≤ p ≤ 1 -/
example : Dist.mass (stepDist 2 exRFcyc [0, 2] exRFsus) (agrees [0, 1, 2, 3] fun v => v == 1) = 0 := by
  decide +kernel

end Examples
