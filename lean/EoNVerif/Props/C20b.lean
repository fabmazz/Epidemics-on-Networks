import EoNVerif.Proofs.GenAux
import EoNVerif.Props.C20
/-!
C20b — the C20 statements about `subsample` / `get_time_shift` for the Lean code GENERATED from `EoN/auxiliary.py`
(`GenInvest.subsample`, `GenInvest.get_time_shift`, end of Gen/InvestGen.lean), obtained by proving the generated code
equal to the hand-written models `Helpers.subsample` / `Helpers.timeShift` of C20.  Lemmas: Proofs/GenAux.lean.

Domain of the `subsample` equality: `times.length ≤ status.length`.  Python indexes `status[k]` for `k < len(times)`,
the model zips; with a shorter `status` the generated code (like Python) raises IndexError as soon as it needs a missing
entry, whereas the model silently truncates (kernel-checked examples at the end).  A longer `status` is harmless.
`get_time_shift` equals its model for all inputs.
-/
namespace GenAux
open GenInvest GenInvestProofs Helpers

theorem subsample_cons_nil {α : Type} (r : Rat) (rs : List Rat) (status : List α) :
    GenInvest.subsample (r :: rs) [] status = .error "IndexError" := by
  simp only [GenInvest.subsample, pyIndex_zero_cons, pyIndex_zero_nil, bind, Except.bind]

theorem subsample_cons_cons {α : Type} (r t : Rat) (rs ts : List Rat) (status : List α) :
    GenInvest.subsample (r :: rs) (t :: ts) status =
      if r < t then .error "EoNError"
      else subsample_outer (r :: rs) (t :: ts) status ((r :: rs).length + 1) 0 0 none [] := by
  simp only [GenInvest.subsample, pyIndex_zero_cons, bind, Except.bind]
  rfl

/-- the generated code is the model followed by Python's reading of the candidate (unbound ⇒ UnboundLocalError);
in particular the fuel `report.length + 1` / `times.length + 1` is always sufficient -/
theorem gen_subsample_eq_model_unwrap {α : Type} (report times : List Rat) (status : List α)
    (hlen : times.length ≤ status.length) :
    GenInvest.subsample report times status = Helpers.subsample report times status >>= unwrapAll := by
  cases report with
  | nil => rfl
  | cons r rs =>
    cases times with
    | nil => exact subsample_cons_nil r rs status
    | cons t ts =>
      rw [subsample_cons_cons, outer_eq_scan (r :: rs) (t :: ts) status hlen _ 0 0 none []
        (Nat.zero_le _) (Nat.zero_le _) (Nat.lt_succ_of_le (Nat.sub_le _ _))]
      by_cases h0 : r < t
      · simp only [Helpers.subsample, h0, if_true]; rfl
      · simp only [Helpers.subsample, h0, if_false, List.drop_zero, List.nil_append, bind, Except.bind]
        cases unwrapAll (scan ((t :: ts).zip status) none (r :: rs)) <;> rfl

/-- **generated subsample = model**, for all inputs with `times.length ≤ status.length`: the same errors
("IndexError" for empty `report` / `times`, "EoNError" when `report[0] < times[0]`) and otherwise the same values,
every entry of the model's output being bound (the generated code never raises "UnboundLocalError") -/
theorem gen_subsample_eq_model {α : Type} (report times : List Rat) (status : List α)
    (hlen : times.length ≤ status.length) :
    (GenInvest.subsample report times status).map (·.map some) = Helpers.subsample report times status := by
  rw [gen_subsample_eq_model_unwrap report times status hlen]
  cases report with
  | nil => rfl
  | cons r rs =>
    cases times with
    | nil => rfl
    | cons t ts =>
      cases status with
      | nil => simp at hlen
      | cons s ss =>
        by_cases h0 : r < t
        · simp [Helpers.subsample, h0, bind, Except.bind, Except.map]
        · obtain ⟨l, hl⟩ := scan_first_some t s (ts.zip ss) r rs (not_lt.1 h0)
          simp [Helpers.subsample, h0, bind, Except.bind, Except.map, hl]

/-- the errors of the generated `subsample`, for ALL inputs (no hypothesis on the lengths) -/
theorem gen_subsample_errors {α : Type} (report times : List Rat) (status : List α) (e : String)
    (h : GenInvest.subsample report times status = .error e) :
    e = "IndexError" ∨ e = "EoNError" ∨ e = "UnboundLocalError" := by
  cases report with
  | nil => exact Or.inl (Except.error.inj h).symm
  | cons r rs =>
    cases times with
    | nil =>
      rw [subsample_cons_nil] at h
      exact Or.inl (Except.error.inj h).symm
    | cons t ts =>
      rw [subsample_cons_cons] at h
      split at h
      · exact Or.inr (Or.inl (Except.error.inj h).symm)
      · exact (outer_errors _ _ _ _ _ _ _ _ (Nat.lt_succ_of_le (Nat.sub_le _ _)) e h).imp_right Or.inr

/-- the fuel is always sufficient: the generated `subsample` never returns "fuel" (all inputs) -/
theorem gen_subsample_never_fuel {α : Type} (report times : List Rat) (status : List α) :
    GenInvest.subsample report times status ≠ .error "fuel" := by
  intro h
  rcases gen_subsample_errors report times status "fuel" h with h | h | h <;> exact absurd h (by decide)

/-- with `times.length ≤ status.length` the local `candidate` is never read unbound -/
theorem gen_subsample_never_unbound {α : Type} (report times : List Rat) (status : List α)
    (hlen : times.length ≤ status.length) :
    GenInvest.subsample report times status ≠ .error "UnboundLocalError" := by
  intro h
  have h1 := gen_subsample_eq_model report times status hlen
  rw [h] at h1
  cases report with
  | nil => exact absurd h1 (by simp [Helpers.subsample, Except.map])
  | cons r rs =>
    cases times with
    | nil => exact absurd h1 (by simp [Helpers.subsample, Except.map])
    | cons t ts =>
      by_cases h0 : r < t <;> exact absurd h1 (by simp [Helpers.subsample, Except.map, h0])

/-- IndexError for an empty grid (all `status`) -/
theorem gen_subsample_index_error {α : Type} (report times : List Rat) (status : List α)
    (h : report = [] ∨ times = []) : GenInvest.subsample report times status = .error "IndexError" := by
  rcases h with rfl | rfl
  · rfl
  · cases report with
    | nil => rfl
    | cons r rs => exact subsample_cons_nil r rs status

/-- EoNError when the first report time is before the first observation (all `status`) -/
theorem gen_subsample_error {α : Type} (report times : List Rat) (status : List α)
    (r0 t0 : Rat) (hr0 : report.head? = some r0) (ht0 : times.head? = some t0) (h0 : r0 < t0) :
    GenInvest.subsample report times status = .error "EoNError" := by
  cases report with
  | nil => simp at hr0
  | cons r rs =>
    cases times with
    | nil => simp at ht0
    | cons t ts =>
      simp only [List.head?_cons, Option.some.injEq] at hr0 ht0
      subst hr0 ht0
      rw [subsample_cons_cons, if_pos h0]

/-- **generated subsample**: for ordered report times not before the first observation (observation times ordered,
ties allowed) the generated code returns, for each report time, the value of the last observation at or before it -/
theorem gen_subsample_spec {α : Type} (report times : List Rat) (status : List α)
    (hr : Sorted report) (ht : Sorted times) (hlen : status.length = times.length)
    (r0 t0 : Rat) (hr0 : report.head? = some r0) (ht0 : times.head? = some t0) (h0 : t0 ≤ r0) :
    (GenInvest.subsample report times status).map (·.map some)
      = .ok (report.map (lastLE (times.zip status))) := by
  rw [gen_subsample_eq_model report times status (le_of_eq hlen.symm)]
  exact subsample_spec report times status hr ht hlen r0 t0 hr0 ht0 h0

/-- the same, entry by entry: the generated code succeeds, returns one value per report time, and the `i`-th value
is the value of the last observation at or before `report[i]` -/
theorem gen_subsample_spec_values {α : Type} (report times : List Rat) (status : List α)
    (hr : Sorted report) (ht : Sorted times) (hlen : status.length = times.length)
    (r0 t0 : Rat) (hr0 : report.head? = some r0) (ht0 : times.head? = some t0) (h0 : t0 ≤ r0) :
    ∃ vs : List α, GenInvest.subsample report times status = .ok vs ∧ vs.length = report.length ∧
      ∀ (i : Nat) (hi : i < report.length) (hi' : i < vs.length),
        lastLE (times.zip status) report[i] = some vs[i] := by
  have h := gen_subsample_spec report times status hr ht hlen r0 t0 hr0 ht0 h0
  cases hg : GenInvest.subsample report times status with
  | error e => rw [hg] at h; simp [Except.map] at h
  | ok vs =>
    rw [hg] at h
    simp only [Except.map, Except.ok.injEq] at h
    have hl : vs.length = report.length := by simpa using congrArg List.length h
    refine ⟨vs, rfl, hl, ?_⟩
    intro i hi hi'
    have := congrArg (fun l => l[i]?) h
    simp only [List.getElem?_map, List.getElem?_eq_getElem hi, List.getElem?_eq_getElem hi', Option.map_some] at this
    exact (Option.some.inj this).symm

/-- the generated `subsample` holds the final value for report times at or after the last observation -/
theorem gen_subsample_holds_final {α : Type} (report times : List Rat) (status : List α)
    (hr : Sorted report) (ht : Sorted times) (hlen : status.length = times.length)
    (r0 t0 : Rat) (hr0 : report.head? = some r0) (ht0 : times.head? = some t0) (h0 : t0 ≤ r0) :
    ∃ vs : List α, GenInvest.subsample report times status = .ok vs ∧ vs.length = report.length ∧
      ∀ (i : Nat) (hi : i < report.length) (hi' : i < vs.length), (∀ t ∈ times, t ≤ report[i]) →
        status.getLast? = some vs[i] := by
  obtain ⟨vs, h1, h2, h3⟩ := gen_subsample_spec_values report times status hr ht hlen r0 t0 hr0 ht0 h0
  refine ⟨vs, h1, h2, ?_⟩
  intro i hi hi' hall
  rw [← h3 i hi hi', lastLE_after_end times status hlen report[i] hall]

/-- **generated get_time_shift = model**, for all inputs (including the errors: "NameError" for empty `times`,
"IndexError" when `L` is shorter than `times` and the threshold is not reached within `L`) -/
theorem gen_time_shift_eq_model (times L : List Rat) (thr : Rat) :
    GenInvest.get_time_shift times L thr = Helpers.timeShift times L thr := by
  have h := time_shift_loop_eq L thr times 0 none
  rw [← List.range_eq_range', List.drop_zero, Nat.sub_zero] at h
  cases times with
  | nil => rfl
  | cons t ts =>
    simp only [get_time_shift, h, timeShift]
    cases hf : List.find? (fun p => decide (p.2 ≥ thr)) ((t :: ts).zip L) with
    | some p => simp [bind, Except.bind, pure, Except.pure]
    | none =>
      by_cases hl : L.length < (t :: ts).length
      · have hl' : L.length ≤ ts.length := by simp only [List.length_cons] at hl; omega
        simp [bind, Except.bind, hl']
      · have hl' : ¬ L.length ≤ ts.length := by simp only [List.length_cons] at hl; omega
        simp [bind, Except.bind, hl', pure, Except.pure, List.getLast!,
          List.getLast?_eq_some_getLast (List.cons_ne_nil t ts)]

/-- the generated `get_time_shift` returns the first time at which the series reaches the threshold -/
theorem gen_time_shift_spec (times L : List Rat) (thr : Rat) (hlen : L.length = times.length)
    (i : Nat) (hi : i < times.length) (hreach : thr ≤ L.getD i 0) (hfirst : ∀ j < i, L.getD j 0 < thr) :
    GenInvest.get_time_shift times L thr = .ok (times.getD i 0) := by
  rw [gen_time_shift_eq_model]
  exact timeShift_spec times L thr hlen i hi hreach hfirst

/-- if the threshold is never reached the last time is returned -/
theorem gen_time_shift_never (times L : List Rat) (thr : Rat) (hlen : L.length = times.length) (hne : times ≠ [])
    (hnever : ∀ l ∈ L, l < thr) : GenInvest.get_time_shift times L thr = .ok (times.getLast hne) := by
  rw [gen_time_shift_eq_model]
  exact timeShift_never times L thr hlen hne hnever

/-- empty `times`: the loop variable `t` is never bound -/
theorem gen_time_shift_name_error (L : List Rat) (thr : Rat) :
    GenInvest.get_time_shift [] L thr = .error "NameError" := rfl

/-- `L` shorter than `times` and the threshold not reached within `L`: `L[index]` raises -/
theorem gen_time_shift_index_error (times L : List Rat) (thr : Rat) (hlen : L.length < times.length)
    (hnever : ∀ l ∈ L, l < thr) : GenInvest.get_time_shift times L thr = .error "IndexError" := by
  rw [gen_time_shift_eq_model]
  have hf := find_zip_none times L thr hnever
  cases times with
  | nil => simp at hlen
  | cons t ts =>
    have hl' : L.length ≤ ts.length := by simp only [List.length_cons] at hlen; omega
    simp [timeShift, hf, hl']

end GenAux

/-! ### non-vacuity (kernel-checked runs of the generated code) -/

-- ties in both grids, a report beyond the end (the inputs of the C20 example)
example : GenInvest.subsample [1, 1, 2, 9] [0, 1, 1, 3] [10, 11, 12, 13] = .ok [12, 12, 12, 13] := by
  decide +kernel
-- unsorted report times: still equal to the model (the candidate is kept)
example : GenInvest.subsample [2, 0, 5] [0, 1, 3] [10, 11, 12] = .ok [11, 11, 12] ∧
    Helpers.subsample [2, 0, 5] [0, 1, 3] [10, 11, 12] = .ok [some 11, some 11, some 12] := by
  decide +kernel
-- the three errors shared with the model
example : GenInvest.subsample [] [0] [10] = .error "IndexError" ∧
    GenInvest.subsample [1] [] ([] : List Nat) = .error "IndexError" ∧
    GenInvest.subsample [1, 2] [2, 3] [10, 11] = .error "EoNError" := by
  decide +kernel
-- a longer `status` is harmless
example : GenInvest.subsample [1, 7] [0, 1] [10, 11, 12] = .ok [11, 11] ∧
    Helpers.subsample [1, 7] [0, 1] [10, 11, 12] = .ok [some 11, some 11] := by
  decide +kernel
-- outside the domain (`status` shorter than `times`): the generated code raises IndexError, the model truncates
example : GenInvest.subsample [1] [0] ([] : List Nat) = .error "IndexError" ∧
    Helpers.subsample [1] [0] ([] : List Nat) = .ok [none] := by
  decide +kernel
example : GenInvest.subsample [5] [0, 1] [7] = .error "IndexError" ∧
    Helpers.subsample [5] [0, 1] [7] = .ok [some 7] := by
  decide +kernel
-- get_time_shift: first crossing, never reached, the two errors
example : GenInvest.get_time_shift [0, 1, 2] [1, 5, 7] 4 = .ok 1 := by decide +kernel
example : GenInvest.get_time_shift [0, 1, 2] [1, 2, 3] 4 = .ok 2 := by decide +kernel
example : GenInvest.get_time_shift [] [1, 2] 4 = .error "NameError" ∧
    GenInvest.get_time_shift [0, 1, 2] [1, 2] 4 = .error "IndexError" ∧
    GenInvest.get_time_shift [0, 1, 2] [1, 5] 4 = .ok 1 := by
  decide +kernel

#print axioms GenAux.gen_subsample_eq_model_unwrap
#print axioms GenAux.gen_subsample_eq_model
#print axioms GenAux.gen_subsample_errors
#print axioms GenAux.gen_subsample_never_fuel
#print axioms GenAux.gen_subsample_never_unbound
#print axioms GenAux.gen_subsample_index_error
#print axioms GenAux.gen_subsample_error
#print axioms GenAux.gen_subsample_spec
#print axioms GenAux.gen_subsample_spec_values
#print axioms GenAux.gen_subsample_holds_final
#print axioms GenAux.gen_time_shift_eq_model
#print axioms GenAux.gen_time_shift_spec
#print axioms GenAux.gen_time_shift_never
#print axioms GenAux.gen_time_shift_name_error
#print axioms GenAux.gen_time_shift_index_error
