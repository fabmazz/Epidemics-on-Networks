import EoNVerif.Proofs.GenWrap3
import EoNVerif.Props.C06e
/-!
C06g — the `*_from_graph` wrappers GENERATED into `Gen/WrapGen.lean`: the `rho` / default request of
`SIS/SIR_compact_pairwise_from_graph` with the SIS one end to end, `SIS_compact_effective_degree_from_graph` (a forwarder),
`EBCM_from_graph`.  Lemmas: `Proofs/GenWrap2.lean`, `Proofs/GenWrap3.lean` (the `rho` request of `EBCM_from_graph`).  Hypotheses,
names, tags (A)–(D) and the index of all wrappers: header of C06e.
-/
namespace GenWrapProps2
open GenInit InitCond GenInitProofs GenWrap GenWrapProofs GenWrapProofs2 GenGlueProofs GenWrapProps
open Gen PyGlue

theorem nodes_ne_nil (A : WArgs) (adj : List (List Nat)) (hG : GraphOK A.toIArgs adj) (hN : adj.length ≠ 0) :
    A.nodes ≠ [] := mt (nodes_nil_iff A.toIArgs adj hG).mp hN

theorem nodes_eq_nil (A : WArgs) (adj : List (List Nat)) (hG : GraphOK A.toIArgs adj) (hN : adj.length = 0) :
    A.nodes = [] := (nodes_nil_iff A.toIArgs adj hG).mpr hN

/-! ## 1. `SIS_compact_pairwise_from_graph` without `initial_infecteds` (and the SIS end-to-end theorems) -/

/-- (A) `rho` (default `1/N`): `Sk0[k] = (1-rho)·N_k`, `Ik0[k] = rho·N_k`, and — through the three `vecGet` loops
`Σ_k Nk[k]·k·…` — `SS0 = (1-rho)²·2|E|`, `SI0 = (1-rho)·rho·2|E|`, `II0 = rho²·2|E|`, because `Σ_k k·N_k = Σ_u deg u` -/
theorem SIS_compact_pairwise_args_rho (A : WArgs) (adj : List (List Nat)) (hG : GraphOK A.toIArgs adj)
    (tau gamma : Rat) (rho : Option Rat) (hN : adj.length ≠ 0) (tmin tmax : Rat) (tcount : Int) (full : Bool) :
    SIS_compact_pairwise_from_graph_args A tau gamma none rho tmin tmax tcount full =
      .ok { Sk0 := vec (maxDeg adj) (fun k => rhoSk adj (rho.getD (1 / (adj.length : Rat))) k),
            Ik0 := vec (maxDeg adj) (fun k => rhoIk adj (rho.getD (1 / (adj.length : Rat))) k),
            SI0 := rhoSI adj (rho.getD (1 / (adj.length : Rat))),
            SS0 := rhoSS adj (rho.getD (1 / (adj.length : Rat))),
            II0 := rhoII adj (rho.getD (1 / (adj.length : Rat))),
            tau := tau, gamma := gamma, tmin := tmin, tmax := tmax, tcount := tcount, return_full_data := full } := by
  have hne := nodes_ne_nil A adj hG hN
  have hN' : A.nodes.length ≠ 0 := by rw [nodes_length A.toIArgs adj hG]; exact hN
  cases rho with
  | none =>
    rw [SIS_cp_none, if_neg hN', SIS_cp_some, if_neg hne, C06c.gen_rho_eq_vec A.toIArgs adj hG,
      degSum_graph A.toIArgs adj hG, nodes_length A.toIArgs adj hG]
    rfl
  | some r =>
    rw [SIS_cp_some, if_neg hne, C06c.gen_rho_eq_vec A.toIArgs adj hG, degSum_graph A.toIArgs adj hG]
    rfl

/-- (B) ALL inputs, the precedence of the generated code: `EoNError` when both are given; with neither given
ZeroDivisionError (the default `rho = 1/N` is computed first) on a graph without nodes; with `rho` alone — or a set
alone — ValueError (`max` of no degrees) on a graph without nodes; a set with a node outside the graph: `EoNError` -/
theorem SIS_compact_pairwise_args_error (A : WArgs) (tau gamma : Rat) (tmin tmax : Rat) (tcount : Int) (full : Bool) :
    (∀ infs r, SIS_compact_pairwise_from_graph_args A tau gamma (some infs) (some r) tmin tmax tcount full
      = .error "EoNError") ∧
    (A.nodes.length = 0 → SIS_compact_pairwise_from_graph_args A tau gamma none none tmin tmax tcount full
      = .error "ZeroDivisionError") ∧
    (∀ r, A.nodes = [] → SIS_compact_pairwise_from_graph_args A tau gamma none (some r) tmin tmax tcount full
      = .error "ValueError") ∧
    (∀ infs, A.nodes = [] → SIS_compact_pairwise_from_graph_args A tau gamma (some infs) none tmin tmax tcount full
      = .error "ValueError") ∧
    (∀ infs e, A.nodes ≠ [] → initialize_node_status A.toIArgs infs [] = .error e →
      SIS_compact_pairwise_from_graph_args A tau gamma (some infs) none tmin tmax tcount full = .error e) ∧
    (∀ rho, A.nodes ≠ [] → ∃ a, SIS_compact_pairwise_from_graph_args A tau gamma none rho tmin tmax tcount full
      = .ok a) := by
  refine ⟨fun infs r => rfl, fun hN => by rw [SIS_cp_none, if_pos hN], fun r hN => by rw [SIS_cp_some, if_pos hN],
    fun infs hN => by rw [SIS_cp_sets, if_pos hN], fun infs e hN he => ?_, fun rho hN => ?_⟩
  · rw [SIS_cp_sets, if_neg hN, C06c.gen_sets_error _ _ _ e he]; rfl
  · have hN' : A.nodes.length ≠ 0 := fun e => hN (List.length_eq_zero_iff.mp e)
    cases rho with
    | none => rw [SIS_cp_none, if_neg hN', SIS_cp_some, if_neg hN]; exact ⟨_, rfl⟩
    | some r => rw [SIS_cp_some, if_neg hN]; exact ⟨_, rfl⟩

/-- a successful call read backwards: the graph has nodes and a given initial set consists of graph nodes -/
theorem SIS_compact_pairwise_args_ok (A : WArgs) (adj : List (List Nat)) (hG : GraphOK A.toIArgs adj)
    (tau gamma : Rat) (infs : Option (List Node)) (rho : Option Rat) (tmin tmax : Rat) (tcount : Int) (full : Bool)
    (a : SIS_compact_pairwise_Args)
    (h : SIS_compact_pairwise_from_graph_args A tau gamma infs rho tmin tmax tcount full = .ok a) :
    adj.length ≠ 0 ∧ ∀ l, infs = some l → ∀ u ∈ l, u < adj.length := by
  obtain ⟨e1, e2, e3, e4, e5, -⟩ := SIS_compact_pairwise_args_error A tau gamma tmin tmax tcount full
  have hN : adj.length ≠ 0 := by
    intro e
    have hne := nodes_eq_nil A adj hG e
    have hl : A.nodes.length = 0 := by rw [hne]; rfl
    cases infs <;> cases rho
    · rw [e2 hl] at h; cases h
    · rw [e3 _ hne] at h; cases h
    · rw [e4 _ hne] at h; cases h
    · rw [e1] at h; cases h
  refine ⟨hN, fun l hl => ?_⟩
  subst hl
  cases rho with
  | some r => rw [e1] at h; cases h
  | none =>
    cases hst : initialize_node_status A.toIArgs l [] with
    | error e => rw [e5 l e (nodes_ne_nil A adj hG hN) hst] at h; cases h
    | ok st => exact (setsOK_of_status A adj hG hst).infIn

/-- (C) every non-error case: `Σ_k Sk0[k] + Σ_k Ik0[k] = N`, both arrays have `maxdeg + 1` entries, and the ordered
pairs are all accounted for: `SS0 + 2·SI0 + II0 = 2|E|` -/
theorem SIS_compact_pairwise_args_total (A : WArgs) (adj : List (List Nat)) (hG : GraphOK A.toIArgs adj)
    (tau gamma : Rat) (infs : Option (List Node)) (rho : Option Rat) (tmin tmax : Rat) (tcount : Int) (full : Bool)
    (a : SIS_compact_pairwise_Args)
    (h : SIS_compact_pairwise_from_graph_args A tau gamma infs rho tmin tmax tcount full = .ok a) :
    a.Sk0.sum + a.Ik0.sum = (adj.length : Rat) ∧ a.Sk0.length = maxDeg adj + 1 ∧ a.Ik0.length = maxDeg adj + 1 ∧
    a.SS0 + 2 * a.SI0 + a.II0 = (twoM adj : Rat) ∧ a.return_full_data = full := by
  obtain ⟨hN, hin⟩ := SIS_compact_pairwise_args_ok A adj hG tau gamma infs rho tmin tmax tcount full a h
  cases infs with
  | none =>
    rw [SIS_compact_pairwise_args_rho A adj hG tau gamma rho hN] at h
    injection h with h; subst h
    have := rho_vec_sums A.toIArgs adj hG (rho.getD (1 / (adj.length : Rat)))
    refine ⟨this.1, vec_length _ _, vec_length _ _, ?_, rfl⟩
    simp only [rhoSS, rhoSI, rhoII]; ring
  | some l =>
    cases rho with
    | some r => cases h
    | none =>
      have hi := hin l rfl
      rw [SIS_compact_pairwise_args_spec A adj hG tau gamma l hi hN] at h
      injection h with h; subst h
      refine ⟨?_, vec_length _ _, vec_length _ _, ?_, rfl⟩
      · have ht := count_total_rat adj (statusOf l [])
        rw [count_R_nil, Nat.cast_zero, add_zero] at ht
        rw [classCount_sum, classCount_sum]; exact ht
      · have hp := pairCount_total adj (statusOf l [])
        have hs := pairCount_symm A.toIArgs adj hG (statusOf l []) St.S St.I
        rw [pairCount_nil_R adj l St.S St.R (Or.inr rfl), pairCount_nil_R adj l St.I St.R (Or.inr rfl),
          pairCount_nil_R adj l St.R St.S (Or.inl rfl), pairCount_nil_R adj l St.R St.I (Or.inl rfl),
          pairCount_nil_R adj l St.R St.R (Or.inl rfl)] at hp
        have : (pairCount adj (statusOf l []) St.S St.S + 2 * pairCount adj (statusOf l []) St.S St.I
          + pairCount adj (statusOf l []) St.I St.I : Nat) = twoM adj := by omega
        simp only []
        exact_mod_cast this

theorem sumTo_ofList' (l l' : List Rat) (h : l.length = l'.length) :
    ODE.sumTo (V.ofList l).n (V.ofList l').f = l'.sum := by
  have : (V.ofList l).n = (V.ofList l').n := h
  rw [this, sumTo_ofList]

theorem SIS_compact_pairwise_from_graph_inv (odeint : Solver) (A : WArgs) (tau gamma : Rat)
    (infs : Option (List Node)) (rho : Option Rat) (tmin tmax : Rat) (tcount : Int) (full : Bool) (l : List Ser)
    (h : SIS_compact_pairwise_from_graph odeint A tau gamma infs rho tmin tmax tcount full = .ok l) :
    ∃ a, SIS_compact_pairwise_from_graph_args A tau gamma infs rho tmin tmax tcount full = .ok a ∧
      GenGlue.SIS_compact_pairwise odeint (V.ofList a.Sk0) (V.ofList a.Ik0) a.SI0 a.SS0 a.II0 a.tau a.gamma
        a.tmin a.tmax a.tcount.toNat a.return_full_data = .ok l :=
  bind_ok_inv _ _ l h

/-- (D) end to end, EVERY solver, EVERY time index, ANY request (sets, `rho`, default), with or without full data:
`S + I = N` -/
theorem SIS_compact_pairwise_from_graph_conserve (odeint : Solver) (A : WArgs) (adj : List (List Nat))
    (hG : GraphOK A.toIArgs adj) (tau gamma : Rat) (infs : Option (List Node)) (rho : Option Rat) (tmin tmax : Rat)
    (tcount : Int) (full : Bool) (l : List Ser)
    (h : SIS_compact_pairwise_from_graph odeint A tau gamma infs rho tmin tmax tcount full = .ok l) (i : Nat) :
    get l 1 i + get l 2 i = (adj.length : Rat) := by
  obtain ⟨a, ha, hl⟩ := bind_ok_inv _ _ l h
  obtain ⟨t1, t2, t3, -⟩ := SIS_compact_pairwise_args_total A adj hG tau gamma infs rho tmin tmax tcount full a ha
  rw [C06d.SIS_compact_pairwise_conserve odeint _ _ _ _ _ _ _ _ _ _ _ l hl i, sumTo_ofList,
    sumTo_ofList' _ _ (t2.trans t3.symm)]
  exact t1

/-- (D) end to end with `odeint rhs X0 0 = X0`: the series start from the requested state — explicit set: the
numbers of susceptible / infected nodes; `rho` (default `1/N`): `(1-rho)N`, `rho·N` -/
theorem SIS_compact_pairwise_from_graph_init (odeint : Solver) (h0 : RowZero odeint) (A : WArgs)
    (adj : List (List Nat)) (hG : GraphOK A.toIArgs adj) (tau gamma : Rat) (tmin tmax : Rat) (tcount : Int)
    (full : Bool) (l : List Ser) :
    (∀ infs, SIS_compact_pairwise_from_graph odeint A tau gamma (some infs) none tmin tmax tcount full = .ok l →
      get l 1 0 = (count adj (statusOf infs []) St.S : Rat) ∧ get l 2 0 = (count adj (statusOf infs []) St.I : Rat) ∧
      (infs.Nodup → get l 2 0 = (infs.length : Rat))) ∧
    (∀ rho, SIS_compact_pairwise_from_graph odeint A tau gamma none rho tmin tmax tcount full = .ok l →
      get l 1 0 = rhoS adj (rho.getD (1 / (adj.length : Rat))) ∧
      get l 2 0 = rhoI adj (rho.getD (1 / (adj.length : Rat)))) := by
  constructor
  · intro infs h
    obtain ⟨a, ha, hl⟩ := bind_ok_inv _ _ l h
    obtain ⟨-, t2, t3, -⟩ := SIS_compact_pairwise_args_total A adj hG tau gamma _ _ tmin tmax tcount full a ha
    obtain ⟨i1, i2⟩ := C06d.SIS_compact_pairwise_init odeint h0 _ _ _ _ _ _ _ _ _ _ _ l hl
    rw [sumTo_ofList] at i1
    rw [sumTo_ofList' _ _ (t2.trans t3.symm)] at i2
    obtain ⟨hN, hin⟩ := SIS_compact_pairwise_args_ok A adj hG tau gamma _ _ tmin tmax tcount full a ha
    have hi := hin infs rfl
    rw [SIS_compact_pairwise_args_spec A adj hG tau gamma infs hi hN] at ha
    injection ha with ha; subst ha
    refine ⟨i1.trans (classCount_sum ..), i2.trans (classCount_sum ..), fun hnd => ?_⟩
    rw [i2, classCount_sum, count_I adj infs [] hnd (SetsOK.nil_recs hi)]
  · intro rho h
    obtain ⟨a, ha, hl⟩ := bind_ok_inv _ _ l h
    obtain ⟨-, t2, t3, -⟩ := SIS_compact_pairwise_args_total A adj hG tau gamma _ _ tmin tmax tcount full a ha
    obtain ⟨i1, i2⟩ := C06d.SIS_compact_pairwise_init odeint h0 _ _ _ _ _ _ _ _ _ _ _ l hl
    rw [sumTo_ofList] at i1
    rw [sumTo_ofList' _ _ (t2.trans t3.symm)] at i2
    have hN := (SIS_compact_pairwise_args_ok A adj hG tau gamma _ _ tmin tmax tcount full a ha).1
    rw [SIS_compact_pairwise_args_rho A adj hG tau gamma rho hN] at ha
    injection ha with ha; subst ha
    have := rho_vec_sums A.toIArgs adj hG (rho.getD (1 / (adj.length : Rat)))
    exact ⟨i1.trans this.2.1, i2.trans this.2.2.1⟩

/-! ## 2. `SIS_compact_effective_degree_from_graph`: a forwarder -/

/-- the wrapper passes its arguments unchanged to `SIS_compact_pairwise_from_graph` (the SIS compact effective-degree
model IS the compact pairwise model) — so every statement of section 1 (and of C06e §6) holds verbatim -/
theorem SIS_compact_effective_degree_args_eq (A : WArgs) (tau gamma : Rat) (infs : Option (List Node))
    (rho : Option Rat) (tmin tmax : Rat) (tcount : Int) (full : Bool) :
    SIS_compact_effective_degree_from_graph_args A tau gamma infs rho tmin tmax tcount full =
      SIS_compact_pairwise_from_graph_args A tau gamma infs rho tmin tmax tcount full := rfl

theorem SIS_compact_effective_degree_from_graph_eq (odeint : Solver) (A : WArgs) (tau gamma : Rat)
    (infs : Option (List Node)) (rho : Option Rat) (tmin tmax : Rat) (tcount : Int) (full : Bool) :
    SIS_compact_effective_degree_from_graph odeint A tau gamma infs rho tmin tmax tcount full =
      SIS_compact_pairwise_from_graph odeint A tau gamma infs rho tmin tmax tcount full := rfl

/-- (D) end to end for the forwarder -/
theorem SIS_compact_effective_degree_from_graph_conserve (odeint : Solver) (A : WArgs) (adj : List (List Nat))
    (hG : GraphOK A.toIArgs adj) (tau gamma : Rat) (infs : Option (List Node)) (rho : Option Rat) (tmin tmax : Rat)
    (tcount : Int) (full : Bool) (l : List Ser)
    (h : SIS_compact_effective_degree_from_graph odeint A tau gamma infs rho tmin tmax tcount full = .ok l) (i : Nat) :
    get l 1 i + get l 2 i = (adj.length : Rat) :=
  SIS_compact_pairwise_from_graph_conserve odeint A adj hG tau gamma infs rho tmin tmax tcount full l h i

/-! ## 3. `SIR_compact_pairwise_from_graph` without `initial_infecteds` -/

/-- (A) `rho` (default `1/N`): `Sk0[k] = (1-rho)·N_k`, `I0 = Σ_k rho·N_k = rho·N`, `R0 = 0`, and through
`SX0 = np.dot(Sk0, arange(len(Nk))) = (1-rho)·2|E|`: `SS0 = (1-rho)²·2|E|`, `SI0 = rho(1-rho)·2|E|` -/
theorem SIR_compact_pairwise_args_rho (A : WArgs) (adj : List (List Nat)) (hG : GraphOK A.toIArgs adj)
    (tau gamma : Rat) (rho : Option Rat) (hN : adj.length ≠ 0) (tmin tmax : Rat) (tcount : Int) (full : Bool) :
    SIR_compact_pairwise_from_graph_args A tau gamma none none rho tmin tmax tcount full =
      .ok { Sk0 := vec (maxDeg adj) (fun k => rhoSk adj (rho.getD (1 / (adj.length : Rat))) k),
            I0 := rhoI adj (rho.getD (1 / (adj.length : Rat))), R0 := 0,
            SS0 := rhoSS adj (rho.getD (1 / (adj.length : Rat))),
            SI0 := rhoSI adj (rho.getD (1 / (adj.length : Rat))),
            tau := tau, gamma := gamma, tmin := tmin, tmax := tmax, tcount := tcount, return_full_data := full } := by
  have hne := nodes_ne_nil A adj hG hN
  have hred : SIR_compact_pairwise_from_graph_args A tau gamma none none rho tmin tmax tcount full =
      SIR_compact_pairwise_from_graph_args A tau gamma none none (some (rho.getD (1 / (adj.length : Rat)))) tmin tmax
        tcount full := by
    cases rho with
    | none =>
      rw [SIR_cp_none, if_neg (by rw [nodes_length A.toIArgs adj hG]; exact hN), nodes_length A.toIArgs adj hG]
      rfl
    | some r => rfl
  rw [hred]
  generalize rho.getD (1 / (adj.length : Rat)) = r
  obtain ⟨-, -, t3, t4⟩ := rho_vec_sums A.toIArgs adj hG r
  rw [SIR_cp_some, if_neg (by simp), if_neg hne, C06c.gen_rho_eq_vec A.toIArgs adj hG,
    degSum_graph A.toIArgs adj hG, sumRat_eq_sum, sumRat_eq_sum, t3, t4,
    show (1 - r) * ((1 - r) * (twoM adj : Rat)) = rhoSS adj r by rw [rhoSS]; ring,
    show r * ((1 - r) * (twoM adj : Rat)) = rhoSI adj r by rw [rhoSI]; ring]

/-- (B) without `initial_infecteds`, ALL inputs: neither `rho` nor a set on a graph without nodes: ZeroDivisionError;
otherwise an `initial_recovereds` is an `EoNError` — EVEN WHEN `rho` WAS NOT GIVEN (the wrapper has replaced the
missing `rho` by `1/N` before calling `_get_Nk_and_IC_as_arrays_`, which then sees "both `rho` and
`initial_recovereds`"); otherwise ValueError on a graph without nodes -/
theorem SIR_compact_pairwise_args_error (A : WArgs) (tau gamma : Rat) (tmin tmax : Rat) (tcount : Int) (full : Bool) :
    (∀ recs, A.nodes.length = 0 →
      SIR_compact_pairwise_from_graph_args A tau gamma none recs none tmin tmax tcount full
        = .error "ZeroDivisionError") ∧
    (∀ recs, A.nodes.length ≠ 0 →
      SIR_compact_pairwise_from_graph_args A tau gamma none (some recs) none tmin tmax tcount full
        = .error "EoNError") ∧
    (∀ recs r, SIR_compact_pairwise_from_graph_args A tau gamma none (some recs) (some r) tmin tmax tcount full
        = .error "EoNError") ∧
    (∀ r, A.nodes = [] → SIR_compact_pairwise_from_graph_args A tau gamma none none (some r) tmin tmax tcount full
        = .error "ValueError") := by
  refine ⟨fun recs hN => by rw [SIR_cp_none, if_pos hN], fun recs hN => ?_, fun recs r => ?_, fun r hN => ?_⟩
  · rw [SIR_cp_none, if_neg hN, SIR_cp_some]; rfl
  · rw [SIR_cp_some]; rfl
  · rw [SIR_cp_some, if_neg (by simp), if_pos hN]

/-- (D) end to end (`return_full_data=False`), `rho` / default request, EVERY solver: `S + I + R = N` at every time
index; with `odeint rhs X0 0 = X0` the series start from `(1-rho)N`, `rho·N`, `0` -/
theorem SIR_compact_pairwise_from_graph_rho (odeint : Solver) (A : WArgs)
    (adj : List (List Nat)) (hG : GraphOK A.toIArgs adj) (tau gamma : Rat) (rho : Option Rat) (hN : adj.length ≠ 0)
    (tmin tmax : Rat) (tcount : Int) (l : List Ser)
    (h : SIR_compact_pairwise_from_graph odeint A tau gamma none none rho tmin tmax tcount false = .ok l) :
    (∀ i, get l 1 i + get l 2 i + get l 3 i = (adj.length : Rat)) ∧
    (RowZero odeint →
      get l 1 0 = rhoS adj (rho.getD (1 / (adj.length : Rat))) ∧
      get l 2 0 = rhoI adj (rho.getD (1 / (adj.length : Rat))) ∧ get l 3 0 = 0) := by
  have hl := (bind_ok (SIR_compact_pairwise_args_rho A adj hG tau gamma rho hN tmin tmax tcount false)
    _).symm.trans h
  obtain ⟨t1, t2, t3, -⟩ := rho_vec_sums A.toIArgs adj hG (rho.getD (1 / (adj.length : Rat)))
  refine ⟨fun i => ?_, fun h0 => ?_⟩
  · rw [C06d.SIR_compact_pairwise_conserve odeint _ _ _ _ _ _ _ _ _ _ l hl i, sumTo_ofList]
    rw [add_zero, ← t3]; exact t1
  · obtain ⟨i1, i2, i3⟩ := C06d.SIR_compact_pairwise_init odeint h0 _ _ _ _ _ _ _ _ _ _ l hl
    rw [sumTo_ofList] at i1
    exact ⟨i1.trans t2, i2, i3⟩

/-! ## 4. `EBCM_from_graph`

Additional hypothesis `GraphOKW A adj` (Proofs/GenWrap2.lean) = `GraphOK` plus "`G.neighbors(u)` is the adjacency list
of `u`" — the wrapper counts the S–S / S–R pairs through `G.neighbors`, which `GraphOK` does not mention (counter-example
in §5).  `Sk0G`, `psiHatV`, `psiHatPV`, `degS`, `gI`, `psiK`: Proofs/GenWrap2.lean. -/

/-- (A) explicit disjoint sets of graph nodes: `N`, `R0` = number of recovered nodes, `phiS0 = SS/SX`,
`phiR0 = SR/SX` with `SS`, `SR` the numbers of ordered neighbour pairs (S,S), (S,R) and `SX` the degree sum of the
susceptible nodes (1 when that is 0), `psihat(x) = Σ_k Pk[k]·Sk0[k]·x^k` for ALL `x`, `psihatPrime(x)` its derivative
for `x ≠ 0` or a graph without isolated nodes — and `psihatPrime(0)` RAISES ZeroDivisionError (`0.0**(-1)`) when the
graph has an isolated node; `N·psihat(1)` = number of susceptible nodes is `psiHat_one` -/
theorem EBCM_args_spec (A : WArgs) (adj : List (List Nat)) (hW : GraphOKW A adj)
    (tau gamma : Rat) (infs : List Node) (recs : Option (List Node)) (hS : SetsOK adj infs (recs.getD []))
    (hN : adj.length ≠ 0) (tmin tmax : Rat) (tcount : Int) (full : Bool) :
    EBCM_from_graph_args A tau gamma (some infs) recs none tmin tmax tcount full =
      .ok { N := (adj.length : Rat),
            psihat := fun x => .ok (psiHatV (GenHelpProofs.PkAL (adj.map (·.length)))
              (Sk0G adj (statusOf infs (recs.getD []))) x),
            psihatPrime := fun x => if x = 0 ∧ 0 ∈ adj.map (·.length) then .error "ZeroDivisionError" else
              .ok (psiHatPV (GenHelpProofs.PkAL (adj.map (·.length))) (Sk0G adj (statusOf infs (recs.getD []))) x),
            tau := tau, gamma := gamma,
            phiS0 := (pairCount adj (statusOf infs (recs.getD [])) St.S St.S : Rat)
              / (gI (degS adj (statusOf infs (recs.getD []))) : Rat),
            phiR0 := (pairCount adj (statusOf infs (recs.getD [])) St.S St.R : Rat)
              / (gI (degS adj (statusOf infs (recs.getD []))) : Rat),
            R0 := (count adj (statusOf infs (recs.getD [])) St.R : Rat),
            tmin := tmin, tmax := tmax, tcount := tcount, return_full_data := full } := by
  have hG := hW.toGraphOK
  have hst := status_of_setsOK A adj hG hS
  rw [EBCM_sets, hst, GenHelpProofs.ok_bind, if_neg (nodes_ne_nil A adj hG hN), sumS_nb A adj hW,
    sumS_nb A adj hW, sumS_deg A adj hG, Sk0fin_graph A adj hG, degs_eq A.toIArgs adj hG,
    nodes_length A.toIArgs adj hG, filterR_graph A adj hG]

/-- (A) without `initial_infecteds`: `rho` (default `1/N`): `psihat = (1-rho)·ψ` with `ψ(x) = Σ_k Pk[k]x^k`,
`psihatPrime = (1-rho)·ψ'` except that `psihatPrime(0)` raises on a graph with an isolated node, `phiS0 = 1-rho`,
`phiR0 = 0`, `R0 = 0` (an `initial_recovereds` given without `rho` is ignored); `N·psihat(1) = (1-rho)N` is `rhoS_psiK` -/
theorem EBCM_args_rho (A : WArgs) (adj : List (List Nat)) (hG : GraphOK A.toIArgs adj)
    (tau gamma : Rat) (recs : Option (List Node)) (rho : Option Rat) (hrr : ¬ (rho.isSome ∧ recs.isSome))
    (hN : adj.length ≠ 0) (tmin tmax : Rat) (tcount : Int) (full : Bool) :
    EBCM_from_graph_args A tau gamma none recs rho tmin tmax tcount full =
      .ok { N := (adj.length : Rat),
            psihat := fun x => .ok ((1 - rho.getD (1 / (adj.length : Rat)))
              * psiK (GenHelpProofs.PkAL (adj.map (·.length))) x),
            psihatPrime := fun x => if x = 0 ∧ 0 ∈ adj.map (·.length) then .error "ZeroDivisionError" else
              .ok ((1 - rho.getD (1 / (adj.length : Rat))) * GenWrapProofs3.psiKP (GenHelpProofs.PkAL (adj.map (·.length))) x),
            tau := tau, gamma := gamma, phiS0 := 1 - rho.getD (1 / (adj.length : Rat)), phiR0 := 0, R0 := 0,
            tmin := tmin, tmax := tmax, tcount := tcount, return_full_data := full } := by
  rw [GenWrapProofs3.EBCM_none A tau gamma recs rho hrr, rhoOr_graph A adj hG hN rho, degs_eq A.toIArgs adj hG,
    nodes_length A.toIArgs adj hG]
  rfl

/-- (B) the exceptions with the precedence of the generated code: `EoNError` for `rho` with a set; then the `EoNError`
of the status builder (overlap / node outside the graph); then ValueError (`max` of no degrees) on a graph without
nodes; without sets and without `rho`: ZeroDivisionError (`1/N`) on a graph without nodes — but with `rho` alone the
EMPTY graph is accepted (`psihat = 0`) -/
theorem EBCM_args_error (A : WArgs) (tau gamma : Rat) (tmin tmax : Rat) (tcount : Int) (full : Bool) :
    (∀ infs recs r, infs.isSome ∨ recs.isSome →
      EBCM_from_graph_args A tau gamma infs recs (some r) tmin tmax tcount full = .error "EoNError") ∧
    (∀ infs recs e, initialize_node_status A.toIArgs infs (recs.getD []) = .error e →
      EBCM_from_graph_args A tau gamma (some infs) recs none tmin tmax tcount full = .error e) ∧
    (∀ infs recs st, initialize_node_status A.toIArgs infs (recs.getD []) = .ok st → A.nodes = [] →
      EBCM_from_graph_args A tau gamma (some infs) recs none tmin tmax tcount full = .error "ValueError") ∧
    (∀ recs, A.nodes.length = 0 →
      EBCM_from_graph_args A tau gamma none recs none tmin tmax tcount full = .error "ZeroDivisionError") ∧
    (∀ r, ∃ a, EBCM_from_graph_args A tau gamma none none (some r) tmin tmax tcount full = .ok a) := by
  refine ⟨fun infs recs r h => EBCM_both A tau gamma infs recs r tmin tmax tcount full h,
    fun infs recs e he => by rw [EBCM_sets, he]; rfl,
    fun infs recs st hst hN => by rw [EBCM_sets, hst, GenHelpProofs.ok_bind, if_pos hN],
    fun recs hN => ?_, fun r => ?_⟩
  · rw [GenWrapProofs3.EBCM_none A tau gamma recs none (by simp)]; simp [rhoOr, hN]
  · rw [GenWrapProofs3.EBCM_none A tau gamma none (some r) (by simp)]; exact ⟨_, rfl⟩

/-- (C) in EVERY non-error case the `N` handed to `EBCM` is `G.order()` -/
theorem EBCM_args_total (A : WArgs) (tau gamma : Rat) (infs recs : Option (List Node)) (rho : Option Rat)
    (tmin tmax : Rat) (tcount : Int) (full : Bool) (a : EBCM_Args)
    (h : EBCM_from_graph_args A tau gamma infs recs rho tmin tmax tcount full = .ok a) :
    a.N = (A.nodes.length : Rat) := by
  rcases request_cases infs recs rho with ⟨r, rfl, hb⟩ | ⟨l, rfl, rfl⟩ | ⟨rfl, hrr⟩
  · rw [EBCM_both A tau gamma infs recs r tmin tmax tcount full hb] at h; cases h
  · rw [EBCM_sets] at h
    obtain ⟨st, -, h⟩ := bind_ok_inv _ _ _ h
    split at h
    · cases h
    · injection h with h; subst h; rfl
  · rw [GenWrapProofs3.EBCM_none A tau gamma recs rho hrr] at h
    obtain ⟨r, -, h⟩ := bind_ok_inv _ _ _ h
    injection h with h; subst h; rfl

theorem EBCM_from_graph_inv (odeint : Solver) (A : WArgs) (tau gamma : Rat)
    (infs recs : Option (List Node)) (rho : Option Rat) (tmin tmax : Rat) (tcount : Int) (full : Bool) (l : List Ser)
    (h : EBCM_from_graph odeint A tau gamma infs recs rho tmin tmax tcount full = .ok l) :
    ∃ a, EBCM_from_graph_args A tau gamma infs recs rho tmin tmax tcount full = .ok a ∧
      GenGlue.EBCM odeint a.N (PyWrap.total a.psihat) (PyWrap.total a.psihatPrime) a.tau a.gamma a.phiS0 a.phiR0 a.R0
        a.tmin a.tmax a.tcount.toNat a.return_full_data = .ok l :=
  bind_ok_inv _ _ l h

/-- (D) end to end, EVERY solver, EVERY time index, ANY request: `S + I + R = G.order()` -/
theorem EBCM_from_graph_conserve (odeint : Solver) (A : WArgs) (tau gamma : Rat)
    (infs recs : Option (List Node)) (rho : Option Rat) (tmin tmax : Rat) (tcount : Int) (full : Bool) (l : List Ser)
    (h : EBCM_from_graph odeint A tau gamma infs recs rho tmin tmax tcount full = .ok l) (i : Nat) :
    get l 1 i + get l 2 i + get l 3 i = (A.nodes.length : Rat) := by
  obtain ⟨a, ha, hl⟩ := bind_ok_inv _ _ l h
  rw [C06d.EBCM_conserve odeint _ _ _ _ _ _ _ _ _ _ _ _ l hl i]
  exact EBCM_args_total A tau gamma infs recs rho tmin tmax tcount full a ha

/-- (D) end to end with `odeint rhs X0 0 = X0`, explicit disjoint sets of graph nodes: the returned `S`, `I`, `R` start
from the NUMBERS OF SUSCEPTIBLE / INFECTED / RECOVERED NODES of the graph (`S(0) = N·ψ̂(1)`) -/
theorem EBCM_from_graph_init (odeint : Solver) (h0 : RowZero odeint) (A : WArgs) (adj : List (List Nat))
    (hW : GraphOKW A adj) (tau gamma : Rat) (infs : List Node) (recs : Option (List Node))
    (hS : SetsOK adj infs (recs.getD [])) (hN : adj.length ≠ 0) (tmin tmax : Rat) (tcount : Int) (full : Bool)
    (l : List Ser)
    (h : EBCM_from_graph odeint A tau gamma (some infs) recs none tmin tmax tcount full = .ok l) :
    get l 1 0 = (count adj (statusOf infs (recs.getD [])) St.S : Rat) ∧
    get l 2 0 = (count adj (statusOf infs (recs.getD [])) St.I : Rat) ∧
    get l 3 0 = (count adj (statusOf infs (recs.getD [])) St.R : Rat) ∧
    (infs.Nodup → (recs.getD []).Nodup →
      get l 2 0 = (infs.length : Rat) ∧ get l 3 0 = ((recs.getD []).length : Rat)) := by
  have hl := (bind_ok (EBCM_args_spec A adj hW tau gamma infs recs hS hN tmin tmax tcount full) _).symm.trans h
  obtain ⟨i1, i2, i3⟩ := C06d.EBCM_init odeint h0 _ _ _ _ _ _ _ _ _ _ _ _ l hl
  have hS0 := i1.trans (psiHat_one adj _ hN)
  have hI : get l 2 0 = (count adj (statusOf infs (recs.getD [])) St.I : Rat) := by
    have ht := congrArg (fun n : Nat => (n : Rat)) (count_total adj (statusOf infs (recs.getD [])))
    simp only [Nat.cast_add] at ht
    rw [i2, ← i1, hS0]
    exact sub_eq_of_eq_add' (sub_eq_of_eq_add' (by rw [← ht]; ring))
  refine ⟨hS0, hI, i3, fun hi hr => ?_⟩
  obtain ⟨cI, cR, -⟩ := request_counts adj infs (recs.getD []) hS hi hr
  exact ⟨hI.trans cI, i3.trans cR⟩

/-- (D) end to end, `rho` / default request: `S(0) = (1-rho)N`, `I(0) = rho·N`, `R(0) = 0` -/
theorem EBCM_from_graph_init_rho (odeint : Solver) (h0 : RowZero odeint) (A : WArgs) (adj : List (List Nat))
    (hG : GraphOK A.toIArgs adj) (tau gamma : Rat) (recs : Option (List Node)) (rho : Option Rat)
    (hrr : ¬ (rho.isSome ∧ recs.isSome)) (hN : adj.length ≠ 0) (tmin tmax : Rat) (tcount : Int) (full : Bool)
    (l : List Ser)
    (h : EBCM_from_graph odeint A tau gamma none recs rho tmin tmax tcount full = .ok l) :
    get l 1 0 = rhoS adj (rho.getD (1 / (adj.length : Rat))) ∧
    get l 2 0 = rhoI adj (rho.getD (1 / (adj.length : Rat))) ∧ get l 3 0 = 0 := by
  have hl := (bind_ok (EBCM_args_rho A adj hG tau gamma recs rho hrr hN tmin tmax tcount full) _).symm.trans h
  obtain ⟨i1, i2, i3⟩ := C06d.EBCM_init odeint h0 _ _ _ _ _ _ _ _ _ _ _ _ l hl
  have hS0 := i1.trans (rhoS_psiK adj hN _)
  refine ⟨hS0, ?_, i3⟩
  rw [i2, ← i1, hS0, rhoS, rhoI]
  show (adj.length : Rat) - _ - 0 = _
  ring

/-! ## 5. non-vacuity: the triangle 0–1–2 with the pendant node 3 (`exW` of C06e) -/

/-- the extra hypothesis is satisfiable -/
theorem exW_okW : GraphOKW exW C06c.exAdj := ⟨exW_ok, fun _ _ => rfl⟩

/-- `Σ_k k·N_k = 2|E|` on the example: degree histogram `[0,1,2,1]`, `0·0+1·1+2·2+3·1 = 8` -/
example : degSum exW.toIArgs = 8 ∧ twoM C06c.exAdj = 8 := by constructor <;> decide +kernel
/-- default request of the SIS compact pairwise wrapper (`rho = 1/4`): `Sk0 Ik0 SI0 SS0 II0` -/
example : ((SIS_compact_pairwise_from_graph_args exW 1 1 none none 0 10 11 false).toOption.map
    fun a => (a.Sk0, a.Ik0, a.SI0, a.SS0, a.II0)) =
    some ([0, 3 / 4, 3 / 2, 3 / 4], [0, 1 / 4, 1 / 2, 1 / 4], 3 / 2, 9 / 2, 1 / 2) := by decide +kernel
example : ((SIS_compact_effective_degree_from_graph_args exW 1 1 none (some (1 / 2)) 0 10 11 false).toOption.map
    fun a => (a.SI0, a.SS0, a.II0)) = some (2, 2, 2) := by decide +kernel
example : ((SIR_compact_pairwise_from_graph_args exW 1 1 none none (some (1 / 2)) 0 10 11 false).toOption.map
    fun a => (a.Sk0, a.I0, a.R0, a.SS0, a.SI0)) = some ([0, 1 / 2, 1, 1 / 2], 2, 0, 2, 2) := by decide +kernel
/-- SURPRISE: `initial_recovereds` alone (no `rho`, no `initial_infecteds`) makes `SIR_compact_pairwise_from_graph`
raise `EoNError` ("both rho and initial_recovereds"), although the homogeneous pairwise wrapper ignores it (C06e) and
`EBCM_from_graph` ignores it as well -/
example : (match SIR_compact_pairwise_from_graph_args exW 1 1 none (some [3]) none 0 10 11 false with
    | .error e => e == "EoNError" | .ok _ => false) = true := by decide +kernel
example : ((EBCM_from_graph_args exW 1 1 none (some [3]) none 0 10 11 false).toOption.map
    fun a => (a.N, a.R0, a.phiS0, a.phiR0)) = some (4, 0, 3 / 4, 0) := by decide +kernel
/-- `EBCM_from_graph`, node 0 infected, node 3 recovered: susceptible nodes 1 (degree 2) and 2 (degree 3); `SS = 2`
(1→2, 2→1), `SR = 1` (2→3), `SX = 5`; `ψ̂(1) = 1/4·0 + 1/2·1/2 + 1/4·1 = 1/2`, `N·ψ̂(1) = 2` susceptible nodes;
`ψ̂'(1) = 2·(1/2)(1/2) + 3·(1/4) = 5/4` -/
example : ((EBCM_from_graph_args exW 1 1 (some [0]) (some [3]) none 0 10 11 false).toOption.map
    fun a => (a.N, a.R0, a.phiS0, a.phiR0)) = some (4, 1, 2 / 5, 1 / 5) := by decide +kernel
example : ((EBCM_from_graph_args exW 1 1 (some [0]) (some [3]) none 0 10 11 false).toOption.bind
    fun a => (a.psihat 1).toOption) = some (1 / 2) := by decide +kernel
example : ((EBCM_from_graph_args exW 1 1 (some [0]) (some [3]) none 0 10 11 false).toOption.bind
    fun a => (a.psihatPrime 1).toOption) = some (5 / 4) := by decide +kernel
example : ((EBCM_from_graph_args exW 1 1 (some [0]) (some [3]) none 0 10 11 false).toOption.bind
    fun a => (a.psihat (1 / 2)).toOption) = some (3 / 32) := by decide +kernel
example : Sk0G C06c.exAdj (statusOf [0] [3]) = [0, 0, 1 / 2, 1] ∧ degS C06c.exAdj (statusOf [0] [3]) = 5 ∧
    count C06c.exAdj (statusOf [0] [3]) St.S = 2 := by
  refine ⟨by decide +kernel, by decide +kernel, by decide +kernel⟩
/-- the `SX == 0 → 1` guard: every node infected, `phiS0 = 0/1` -/
example : ((EBCM_from_graph_args exW 1 1 (some [0, 1, 2, 3]) none none 0 10 11 false).toOption.map
    fun a => (a.phiS0, a.phiR0)) = some (0, 0) := by decide +kernel
/-- error cases: `rho` with a set; node 1 in both sets; a foreign node; the empty graph -/
example : (match EBCM_from_graph_args exW 1 1 (some [0]) none (some (1 / 4)) 0 10 11 false with
    | .error e => e == "EoNError" | .ok _ => false) = true := by decide +kernel
example : (match EBCM_from_graph_args exW 1 1 (some [0, 1]) (some [1]) none 0 10 11 false with
    | .error e => e == "EoNError" | .ok _ => false) = true := by decide +kernel
example : (match EBCM_from_graph_args exW 1 1 (some [7]) none none 0 10 11 false with
    | .error e => e == "EoNError" | .ok _ => false) = true := by decide +kernel
example : (match EBCM_from_graph_args emptyW 1 1 (some []) none none 0 10 11 false with
    | .error e => e == "ValueError" | .ok _ => false) = true := by decide +kernel
example : (match EBCM_from_graph_args emptyW 1 1 none none none 0 10 11 false with
    | .error e => e == "ZeroDivisionError" | .ok _ => false) = true := by decide +kernel
example : (match SIS_compact_pairwise_from_graph_args emptyW 1 1 none (some (1 / 2)) 0 10 11 false with
    | .error e => e == "ValueError" | .ok _ => false) = true := by decide +kernel
/-- the edge 0–1 and the isolated node 2 -/
def isoW : WArgs := { nodes := [0, 1, 2], edges := [(0, 1)], degree := fun u => [1, 1, 0].getD u 0,
                      hasNode := fun u => decide (u < 3), neighbors := fun u => [[1], [0], []].getD u [] }
/-- the branch `x = 0 ∧ 0 ∈ degrees` of the `psihatPrime` of `EBCM_args_spec` is reached: `psihatPrime(0)` raises,
`psihatPrime(1/2)` does not -/
example : ((EBCM_from_graph_args isoW 1 1 (some [0]) none none 0 10 11 false).toOption.map
    fun a => (match a.psihatPrime 0 with | .error e => e == "ZeroDivisionError" | .ok _ => false)) = some true := by
  decide +kernel
example : ((EBCM_from_graph_args isoW 1 1 (some [0]) none none 0 10 11 false).toOption.bind
    fun a => (a.psihatPrime (1 / 2)).toOption) = some (1 / 3) := by decide +kernel
/-- the hypothesis on `G.neighbors` is needed: with a wrong neighbour function the record is not that of the graph -/
example : ((EBCM_from_graph_args { exW with neighbors := fun _ => [] } 1 1 (some [0]) (some [3]) none 0 10 11
    false).toOption.map fun a => (a.phiS0, a.phiR0)) = some (0, 0) := by decide +kernel
/-- the theorems instantiated; end to end with the toy solver `toyOdeint` (Proofs/GenGlue.lean) -/
example : ∃ a, EBCM_from_graph_args exW 1 1 (some [0]) (some [3]) none 0 10 11 false = .ok a ∧
    a.phiS0 = (pairCount C06c.exAdj (statusOf [0] [3]) St.S St.S : Rat) / (gI (degS C06c.exAdj (statusOf [0] [3])) : Rat) := by
  exact ⟨_, EBCM_args_spec exW C06c.exAdj exW_okW 1 1 [0] (some [3]) ⟨by decide, by decide, by decide⟩ (by decide)
    0 10 11 false, rfl⟩
example : ∃ l, EBCM_from_graph toyOdeint exW 1 1 (some [0]) (some [3]) none 0 10 11 false = .ok l ∧
    (∀ i, get l 1 i + get l 2 i + get l 3 i = 4) ∧ get l 1 0 = 2 ∧ get l 2 0 = 1 ∧ get l 3 0 = 1 := by
  have hex : ∃ l, EBCM_from_graph toyOdeint exW 1 1 (some [0]) (some [3]) none 0 10 11 false = .ok l := by
    rw [show EBCM_from_graph toyOdeint exW 1 1 (some [0]) (some [3]) none 0 10 11 false = _ from
      bind_ok (EBCM_args_spec exW C06c.exAdj exW_okW 1 1 [0] (some [3]) ⟨by decide, by decide, by decide⟩
        (by decide) 0 10 11 false) _]
    obtain ⟨l, hl, -⟩ := C06d.EBCM_shape ..
    exact ⟨l, hl⟩
  obtain ⟨l, h⟩ := hex
  have hc := EBCM_from_graph_conserve toyOdeint exW 1 1 _ _ _ 0 10 11 false l h
  obtain ⟨i1, i2, i3, -⟩ := EBCM_from_graph_init toyOdeint toyOdeint_zero exW C06c.exAdj exW_okW 1 1 [0] (some [3])
    ⟨by decide, by decide, by decide⟩ (by decide) 0 10 11 false l h
  have h4 : ((exW.nodes.length : Nat) : Rat) = 4 := by decide +kernel
  have c1 : count C06c.exAdj (statusOf [0] [3]) St.S = 2 := by decide +kernel
  have c2 : count C06c.exAdj (statusOf [0] [3]) St.I = 1 := by decide +kernel
  have c3 : count C06c.exAdj (statusOf [0] [3]) St.R = 1 := by decide +kernel
  rw [h4] at hc
  simp only [Option.getD_some] at i1 i2 i3
  refine ⟨l, h, hc, ?_, ?_, ?_⟩
  · rw [i1, c1]; norm_num
  · rw [i2, c2]; norm_num
  · rw [i3, c3]; norm_num
example : ∃ l, SIS_compact_pairwise_from_graph toyOdeint exW 1 1 none none 0 10 11 false = .ok l ∧
    (∀ i, get l 1 i + get l 2 i = 4) ∧ get l 1 0 = 3 ∧ get l 2 0 = 1 := by
  have hex : ∃ l, SIS_compact_pairwise_from_graph toyOdeint exW 1 1 none none 0 10 11 false = .ok l := by
    obtain ⟨a, ha⟩ : ∃ a, SIS_compact_pairwise_from_graph_args exW 1 1 none none 0 10 11 false = .ok a :=
      ⟨_, SIS_compact_pairwise_args_rho exW C06c.exAdj exW_ok 1 1 none (by decide) 0 10 11 false⟩
    unfold SIS_compact_pairwise_from_graph
    rw [ha]
    obtain ⟨l, hl, -⟩ := C06d.SIS_compact_pairwise_shape toyOdeint (V.ofList a.Sk0) (V.ofList a.Ik0) a.SI0 a.SS0 a.II0
      a.tau a.gamma a.tmin a.tmax a.tcount.toNat a.return_full_data
    exact ⟨l, hl⟩
  obtain ⟨l, h⟩ := hex
  have hc := SIS_compact_pairwise_from_graph_conserve toyOdeint exW C06c.exAdj exW_ok 1 1 _ _ 0 10 11 false l h
  obtain ⟨i1, i2⟩ := (SIS_compact_pairwise_from_graph_init toyOdeint toyOdeint_zero exW C06c.exAdj exW_ok 1 1 0 10 11
    false l).2 none h
  have h4 : ((C06c.exAdj.length : Nat) : Rat) = 4 := by decide +kernel
  rw [h4] at hc
  refine ⟨l, h, hc, ?_, ?_⟩
  · rw [i1]; simp [rhoS, h4]; norm_num
  · rw [i2]; simp [rhoI, h4]

end GenWrapProps2
